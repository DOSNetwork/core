/-
C20 — executable model of sign/schnorr/schnorr.go (Sign, Verify, hash) specialised to the
bundled Ed25519 suite (point and scalar encodings of 32 bytes), core Lean only.

* `Schnorr.sign / verify / verifyPre / verifyStd` are written over an abstract group record
  `Grp G` and an abstract hash `H`, so the theorems (Props/C20.lean) hold for every lawful
  group and every hash, and the driver can plug in the concrete pieces below.
* `Sha512.sha512` (FIPS 180-4) and `Ed` (twisted Edwards curve −x²+y² = 1+dx²y² over
  2^255−19, RFC 8032 decoding with ref10's leniencies) are an INDEPENDENT re-implementation
  used only by the driver: they are not claimed to be verified (except that `Ed.add` / `Ed.smul`
  compute the Edwards group law: Proofs/GeNatArith.lean); they are checked against the real code and
  crypto/ed25519 on every run.
-/
import DosModel.Model.Ed25519Scalar

namespace Dos.Sha512
open Dos

def K : Array UInt64 := #[
  0x428a2f98d728ae22, 0x7137449123ef65cd, 0xb5c0fbcfec4d3b2f, 0xe9b5dba58189dbbc, 0x3956c25bf348b538,
  0x59f111f1b605d019, 0x923f82a4af194f9b, 0xab1c5ed5da6d8118, 0xd807aa98a3030242, 0x12835b0145706fbe,
  0x243185be4ee4b28c, 0x550c7dc3d5ffb4e2, 0x72be5d74f27b896f, 0x80deb1fe3b1696b1, 0x9bdc06a725c71235,
  0xc19bf174cf692694, 0xe49b69c19ef14ad2, 0xefbe4786384f25e3, 0x0fc19dc68b8cd5b5, 0x240ca1cc77ac9c65,
  0x2de92c6f592b0275, 0x4a7484aa6ea6e483, 0x5cb0a9dcbd41fbd4, 0x76f988da831153b5, 0x983e5152ee66dfab,
  0xa831c66d2db43210, 0xb00327c898fb213f, 0xbf597fc7beef0ee4, 0xc6e00bf33da88fc2, 0xd5a79147930aa725,
  0x06ca6351e003826f, 0x142929670a0e6e70, 0x27b70a8546d22ffc, 0x2e1b21385c26c926, 0x4d2c6dfc5ac42aed,
  0x53380d139d95b3df, 0x650a73548baf63de, 0x766a0abb3c77b2a8, 0x81c2c92e47edaee6, 0x92722c851482353b,
  0xa2bfe8a14cf10364, 0xa81a664bbc423001, 0xc24b8b70d0f89791, 0xc76c51a30654be30, 0xd192e819d6ef5218,
  0xd69906245565a910, 0xf40e35855771202a, 0x106aa07032bbd1b8, 0x19a4c116b8d2d0c8, 0x1e376c085141ab53,
  0x2748774cdf8eeb99, 0x34b0bcb5e19b48a8, 0x391c0cb3c5c95a63, 0x4ed8aa4ae3418acb, 0x5b9cca4f7763e373,
  0x682e6ff3d6b2b8a3, 0x748f82ee5defb2fc, 0x78a5636f43172f60, 0x84c87814a1f0ab72, 0x8cc702081a6439ec,
  0x90befffa23631e28, 0xa4506cebde82bde9, 0xbef9a3f7b2c67915, 0xc67178f2e372532b, 0xca273eceea26619c,
  0xd186b8c721c0c207, 0xeada7dd6cde0eb1e, 0xf57d4f7fee6ed178, 0x06f067aa72176fba, 0x0a637dc5a2c898a6,
  0x113f9804bef90dae, 0x1b710b35131c471b, 0x28db77f523047d84, 0x32caab7b40c72493, 0x3c9ebe0a15c9bebc,
  0x431d67c49c100d4c, 0x4cc5d4becb3e42b6, 0x597f299cfc657e2a, 0x5fcb6fab3ad6faec, 0x6c44198c4a475817]

def iv : Array UInt64 := #[
  0x6a09e667f3bcc908, 0xbb67ae8584caa73b, 0x3c6ef372fe94f82b, 0xa54ff53a5f1d36f1,
  0x510e527fade682d1, 0x9b05688c2b3e6c1f, 0x1f83d9abfb41bd6b, 0x5be0cd19137e2179]

@[inline] def rotr (x : UInt64) (n : UInt64) : UInt64 := (x >>> n) ||| (x <<< (64 - n))

/-- message ++ 0x80 ++ 0… ++ 128-bit big-endian bit length, a multiple of 128 bytes -/
def pad (msg : Bytes) : Array UInt8 :=
  let n := msg.length
  let z := (128 - (n + 17) % 128) % 128
  (msg ++ [0x80] ++ List.replicate z 0 ++ natBE 16 (8 * n)).toArray

def be64At (a : Array UInt8) (j : Nat) : UInt64 := Id.run do
  let mut v : UInt64 := 0
  for k in [0:8] do
    v := (v <<< 8) ||| (a[j + k]!).toUInt64
  return v

def block (h : Array UInt64) (a : Array UInt8) (off : Nat) : Array UInt64 := Id.run do
  let mut w : Array UInt64 := Array.replicate 80 0
  for i in [0:16] do
    w := w.set! i (be64At a (off + 8 * i))
  for i in [16:80] do
    let v1 := w[i - 2]!
    let t1 := rotr v1 19 ^^^ rotr v1 61 ^^^ (v1 >>> 6)
    let v2 := w[i - 15]!
    let t2 := rotr v2 1 ^^^ rotr v2 8 ^^^ (v2 >>> 7)
    w := w.set! i (t1 + w[i - 7]! + t2 + w[i - 16]!)
  let mut a' := h[0]!
  let mut b := h[1]!
  let mut c := h[2]!
  let mut d := h[3]!
  let mut e := h[4]!
  let mut f := h[5]!
  let mut g := h[6]!
  let mut hh := h[7]!
  for i in [0:80] do
    let t1 := hh + (rotr e 14 ^^^ rotr e 18 ^^^ rotr e 41) + ((e &&& f) ^^^ (~~~e &&& g)) + K[i]! + w[i]!
    let t2 := (rotr a' 28 ^^^ rotr a' 34 ^^^ rotr a' 39) + ((a' &&& b) ^^^ (a' &&& c) ^^^ (b &&& c))
    hh := g
    g := f
    f := e
    e := d + t1
    d := c
    c := b
    b := a'
    a' := t1 + t2
  return #[h[0]! + a', h[1]! + b, h[2]! + c, h[3]! + d, h[4]! + e, h[5]! + f, h[6]! + g, h[7]! + hh]

def sha512 (msg : Bytes) : Bytes := Id.run do
  let a := pad msg
  let mut h := iv
  for k in [0:a.size / 128] do
    h := block h a (128 * k)
  return (h.toList.map (fun w => natBE 8 w.toNat)).flatten

end Dos.Sha512

namespace Dos.Ed
open Dos Dos.Ed25519

def p : Nat := 2 ^ 255 - 19
/-- −121665/121666 mod p -/
def d : Nat := 37095705934669439343138083508754565189542113879843219016388785533085940283555
/-- 2^((p−1)/4) mod p -/
def sqrtM1 : Nat := 19681161376707505956807079304988542015446066515923890162744021073123829784752

def powAux : Nat → Nat → Nat → Nat → Nat
  | 0, _, _, acc => acc
  | fuel + 1, b, e, acc => powAux fuel (b * b % p) (e / 2) (if e % 2 = 1 then acc * b % p else acc)

def pow (b e : Nat) : Nat := powAux (e.log2 + 1) (b % p) e 1
def inv (x : Nat) : Nat := pow x (p - 2)

/-- extended coordinates (X:Y:Z:T), x = X/Z, y = Y/Z, xy = T/Z -/
structure Pt where
  X : Nat
  Y : Nat
  Z : Nat
  T : Nat
  deriving Repr

def zero : Pt := ⟨0, 1, 1, 0⟩

/-- unified addition (add-2008-hwcd-3, a = −1), also used for doubling -/
def add (P Q : Pt) : Pt :=
  let A := (P.Y + p - P.X) * (Q.Y + p - Q.X) % p
  let B := (P.Y + P.X) * (Q.Y + Q.X) % p
  let C := P.T * (2 * d % p) % p * Q.T % p
  let D := P.Z * 2 % p * Q.Z % p
  let E := (B + p - A) % p
  let F := (D + p - C) % p
  let G := (D + C) % p
  let H := (B + A) % p
  ⟨E * F % p, G * H % p, F * G % p, E * H % p⟩

/-- −(x, y) = (−x, y) -/
def neg (P : Pt) : Pt := ⟨(p - P.X % p) % p, P.Y, P.Z, (p - P.T % p) % p⟩

def smulAux : Nat → Nat → Pt → Pt → Pt
  | 0, _, _, acc => acc
  | fuel + 1, n, Q, acc => smulAux fuel (n / 2) (add Q Q) (if n % 2 = 1 then add acc Q else acc)

/-- n•P for any natural n (double-and-add) -/
def smul (n : Nat) (P : Pt) : Pt := smulAux (n.log2 + 1) n P zero

def base : Pt :=
  let x := 15112221349535400772501151409588531511454012693041857206046113283949847762202
  let y := 46316835694926478169428394003475163141307993866256225615783033603165251855960
  ⟨x, y, 1, x * y % p⟩

/-- `point.MarshalBinary` (ge.ToBytes): y little-endian, top bit = parity of x -/
def enc (P : Pt) : Bytes :=
  let zi := inv P.Z
  let x := P.X * zi % p
  let y := P.Y * zi % p
  natLE 32 (y + 2 ^ 255 * (x % 2))

/-- `point.UnmarshalBinary` (ge.FromBytes): length 32; y = low 255 bits, NOT required to be < p;
x recovered from x² = (y²−1)/(dy²+1); x = 0 with the sign bit set is accepted (ref10). -/
def dec (b : Bytes) : Option Pt :=
  if b.length ≠ 32 then none else
  let n := leNat b
  let sign := n / 2 ^ 255
  let y := n % 2 ^ 255 % p
  let u := (y * y + p - 1) % p
  let v := (d * (y * y % p) + 1) % p
  let v3 := v * v % p * v % p
  let uv7 := v3 * v3 % p * v % p * u % p
  let x := pow uv7 ((p - 5) / 8) * v3 % p * u % p
  let vxx := x * x % p * v % p
  let r : Option Nat :=
    if vxx = u then some x
    else if (vxx + u) % p = 0 then some (x * sqrtM1 % p)
    else none
  match r with
  | none => none
  | some x =>
    let x := if x % 2 ≠ sign then (p - x) % p else x
    some ⟨x, y, 1, x * y % p⟩

end Dos.Ed

namespace Dos.Schnorr
open Dos Dos.Ed25519

/-- what the model needs of a `kyber.Group`: scalars enter as the NATURAL NUMBER their 32 bytes
spell (little-endian, unreduced), as `point.Mul` reads the raw bytes -/
structure Grp (G : Type) where
  add : G → G → G
  smul : Nat → G → G
  base : G
  enc : G → Bytes
  dec : Bytes → Option G

/-- `Point.Equal`: comparison of the two encodings -/
def Grp.eq {G : Type} (g : Grp G) (P Q : G) : Bool := g.enc P == g.enc Q

/-- `hash(g, public, r, msg)`: digest of enc(R) ‖ enc(A) ‖ msg (the order `r`, `public`, `msg` is read
off schnorr.go and pinned by `Gen.SchnorrFacts.hashWrites`), then `Scalar.SetBytes`: reduced mod ℓ. -/
def challenge {G : Type} (g : Grp G) (H : Bytes → Bytes) (A R : G) (msg : Bytes) : Nat :=
  leNat (H (g.enc R ++ g.enc A ++ msg)) % ell

/-- `Sign(suite, private, msg)` with the nonce `k` the suite's random stream yields.
`x` is the value of the private scalar's bytes. Returns enc(R) ‖ S, S = k + x·h reduced
(`MarshalBinary` reduces modulo ℓ whatever `scAdd` left). -/
def sign {G : Type} (g : Grp G) (H : Bytes → Bytes) (x k : Nat) (msg : Bytes) : Bytes :=
  let R := g.smul k g.base
  let A := g.smul x g.base
  let h := challenge g H A R msg
  g.enc R ++ natLE 32 ((k + x * h % ell) % ell)

inductive VErr | length | point | noncanonical | invalid
  deriving Repr, DecidableEq

def VErr.name : VErr → String
  | .length => "length" | .point => "point" | .noncanonical => "noncanonical" | .invalid => "invalid"

/-- `Verify(g, public, msg, sig)` as REPAIRED (fix: commit in /repo): a signature whose S part is not
the canonical encoding of a scalar (S ≥ ℓ) is rejected, as RFC 8032 §5.1.7 requires. -/
def verify {G : Type} (g : Grp G) (H : Bytes → Bytes) (A : G) (msg sig : Bytes) : Except VErr Unit :=
  if sig.length ≠ 64 then .error .length else
  match g.dec (sig.take 32) with
  | none => .error .point
  | some R =>
    let sb := sig.drop 32
    if !scCanonical sb then .error .noncanonical else
    let s := leNat sb
    let h := challenge g H A R msg
    if g.eq (g.smul s g.base) (g.add R (g.smul h A)) then .ok () else .error .invalid

/-- `Verify` as it was at the pinned commit (finding F5): `scalar.UnmarshalBinary` copies the 32
bytes without a range check and `point.Mul` uses them as they are. -/
def verifyPre {G : Type} (g : Grp G) (H : Bytes → Bytes) (A : G) (msg sig : Bytes) : Except VErr Unit :=
  if sig.length ≠ 64 then .error .length else
  match g.dec (sig.take 32) with
  | none => .error .point
  | some R =>
    let s := leNat (sig.drop 32)
    let h := challenge g H A R msg
    if g.eq (g.smul s g.base) (g.add R (g.smul h A)) then .ok () else .error .invalid

/-- RFC 8032 §5.1.7 verification as crypto/ed25519 implements it (cofactorless): decode A, S must be
< ℓ, k = H(R-bytes ‖ A-bytes ‖ M) over the bytes AS RECEIVED, and enc(S·B − k·A) must equal the R bytes.
Stated with addition: R decodes, its encoding is the received one, and S·B = R + k·A. -/
def verifyStd {G : Type} (g : Grp G) (H : Bytes → Bytes) (pub msg sig : Bytes) : Bool :=
  if sig.length ≠ 64 then false else
  match g.dec pub, g.dec (sig.take 32) with
  | some A, some R =>
    let sb := sig.drop 32
    scCanonical sb && g.enc R == sig.take 32 &&
      g.eq (g.smul (leNat sb) g.base) (g.add R (g.smul (leNat (H (sig.take 32 ++ pub ++ msg)) % ell) A))
  | _, _ => false

/-- the concrete Ed25519 group used by the driver -/
def edGrp : Grp Ed.Pt := { add := Ed.add, smul := Ed.smul, base := Ed.base, enc := Ed.enc, dec := Ed.dec }

end Dos.Schnorr
