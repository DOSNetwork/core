/-
C20 (round 4) — the ref10 GROUP code of group/edwards25519/ge.go as data, core Lean only.

`go/extract/ed25519ge` translates every straight-line method of ge.go (a sequence of `fe*` calls on struct fields)
into a `GeFn`: one Go statement = one `GStmt`.  Operands are (object, field) pairs — object 0 is the receiver,
then the pointer parameters, then the local `fieldElement`s, then the package constants `d`, `d2`, `sqrtM1` — and a
run takes the base register of every object, so that ALIASED arguments (`p.Neg(p)`) are run on shared registers
exactly as the Go code runs on shared memory.

The interpreter `runBody` is generic in the carrier: instantiated with
  * the executable limb operations of Model/Ed25519FeOps.lean (what the driver runs against the real code),
  * a field (Proofs: the formulas are the twisted Edwards addition/doubling laws),
  * limb-bound multipliers (`absBody`: every feMul/feSquare input within 3 ×, every sum within 3 ×).
-/
import DosModel.Model.Ed25519FeOps

namespace Dos.GeProg
open Dos Dos.FeProg

inductive FeOp where
  | mul | sq | sq2 | add | sub | neg | copy | zero | one | invert | pow22523 | cmove
  deriving Repr, DecidableEq

/-- (object, field) -/
abbrev Loc := Nat × Nat

/-- `fe<Op>(&dst, &a, &b)` (unused operands are (0, 0)) -/
structure GStmt where
  op : FeOp
  dst : Loc
  a : Loc
  b : Loc
  deriving Repr

structure GeFn where
  /-- number of fields of every object: receiver, parameters, locals (1 each), constants d, d2, sqrtM1 (1 each) -/
  objs : List Nat
  body : List GStmt
  deriving Repr

/-- the operations a carrier must provide -/
structure FeAlg (α : Type) where
  mul : α → α → α
  sq : α → α
  sq2 : α → α
  add : α → α → α
  sub : α → α → α
  neg : α → α
  zero : α
  one : α
  invert : α → α
  pow22523 : α → α
  /-- `feCMove(f, g, b)`: new f -/
  cmove : α → α → Int → α

def addr (bases : List Nat) (l : Loc) : Nat := bases.getD l.1 0 + l.2

def step {α : Type} (A : FeAlg α) (dflt : α) (bases : List Nat) (bsel : Int) (regs : List α) (s : GStmt) : List α :=
  let x := regs.getD (addr bases s.a) dflt
  let y := regs.getD (addr bases s.b) dflt
  let d := addr bases s.dst
  match s.op with
  | .mul => regs.set d (A.mul x y)
  | .sq => regs.set d (A.sq x)
  | .sq2 => regs.set d (A.sq2 x)
  | .add => regs.set d (A.add x y)
  | .sub => regs.set d (A.sub x y)
  | .neg => regs.set d (A.neg x)
  | .copy => regs.set d x
  | .zero => regs.set d A.zero
  | .one => regs.set d A.one
  | .invert => regs.set d (A.invert x)
  | .pow22523 => regs.set d (A.pow22523 x)
  | .cmove => regs.set d (A.cmove (regs.getD d dflt) x bsel)

/-- run a body on a register file; `bsel` is the int32 argument of the CMove methods -/
def runBody {α : Type} (A : FeAlg α) (dflt : α) (bases : List Nat) (bsel : Int) (body : List GStmt) (regs : List α) : List α :=
  body.foldl (step A dflt bases bsel) regs

/-- bases of a call without aliasing: objects laid out one after the other -/
def seqBases : List Nat → Nat → List Nat
  | [], _ => []
  | n :: ns, off => off :: seqBases ns (off + n)

/-- the executable limb operations (Go semantics) -/
def limbAlg : FeAlg L10 :=
  { mul := FeOps.feMul, sq := FeOps.feSquare, sq2 := FeOps.feSquare2, add := FeOps.feAdd, sub := FeOps.feSub,
    neg := FeOps.feNeg, zero := FeOps.feZero, one := FeOps.feOne, invert := FeOps.feInvert,
    pow22523 := FeOps.fePow22523, cmove := FeOps.feCMove }

/-! ### limb-bound multipliers -/

/-- `none` = contents unknown (an output or local not yet written) -/
abbrev Mult := Option Nat

def absStep (bases : List Nat) (M : List Mult) (s : GStmt) : Option (List Mult) :=
  let x := M.getD (addr bases s.a) none
  let y := M.getD (addr bases s.b) none
  let d := addr bases s.dst
  if d < M.length then
    match s.op with
    | .mul => match x, y with
      | some a, some b => if a ≤ 3 ∧ b ≤ 3 then some (M.set d (some 1)) else none
      | _, _ => none
    | .sq | .sq2 | .invert | .pow22523 => match x with
      | some a => if a ≤ 3 then some (M.set d (some 1)) else none
      | _ => none
    | .add | .sub => match x, y with
      | some a, some b => if a + b ≤ 3 then some (M.set d (some (a + b))) else none
      | _, _ => none
    | .neg => match x with
      | some a => if a ≤ 3 then some (M.set d (some a)) else none
      | _ => none
    | .copy => match x with
      | some a => some (M.set d (some a))
      | _ => none
    | .zero | .one => some (M.set d (some 1))
    | .cmove => match M.getD d none, x with
      | some a, some b => if a ≤ 3 ∧ b ≤ 3 then some (M.set d (some (max a b))) else none
      | _, _ => none
  else none

def absBody (bases : List Nat) : List GStmt → List Mult → Option (List Mult)
  | [], M => some M
  | s :: ss, M =>
    match absStep bases M s with
    | some M' => absBody bases ss M'
    | none => none

end Dos.GeProg
