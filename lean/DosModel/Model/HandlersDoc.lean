/-
C12 — handler models, part 6: the nesting-depth guard of `dataParse` (`dosnode/dos_stages.go`, /repo 14409e8).

Every evaluator / encoder behind `dataParse` (ajson `Unpack`, `json.Marshal`, the XPath evaluator, xmlquery's
`OutputXML`) recurses once per nesting level of the fetched document, and a goroutine stack overflow is a FATAL
error that the deferred `recover()` of `dataParse` cannot catch.  The guard refuses a document nested deeper than
`maxDocumentDepth` before anything recursive runs.

* `jsonScan` / `jsonDepthExceeds`: transcription of the byte scanner (string-aware bracket count);
* `XTree`, `xmlDepthExceeds`: the XML side at specification level (height of the parsed tree; the pointer walk of
  the Go function is exercised by the `deep` cases at the limit and one above, not transcribed);
* `docGuard`: what `dataParse` does with the answer (flag `parseDepth`: both conditions are present).

The evaluators themselves stay outside the model (third party: fuzzed).
-/
import DosModel.Model.Handlers

namespace Dos.Handlers
open Dos

/-- `maxDocumentDepth` of dos_stages.go (tied by the `deep` cases at 1000 / 1001) -/
def maxDocumentDepth : Nat := 1000

structure ScanSt where
  depth : Nat := 0
  inString : Bool := false
  escaped : Bool := false
  deriving DecidableEq, Repr

/-- the loop body of `jsonDepthExceeds` over the remaining bytes; `depth - 1` is Go's `if depth > 0 { depth-- }` -/
def jsonScan (max : Nat) : ScanSt → Bytes → Bool
  | _, [] => false
  | s, c :: r =>
    if s.inString then
      if s.escaped then jsonScan max { s with escaped := false } r
      else if c = 0x5c then jsonScan max { s with escaped := true } r
      else if c = 0x22 then jsonScan max { s with inString := false } r
      else jsonScan max s r
    else if c = 0x22 then jsonScan max { s with inString := true } r
    else if c = 0x5b || c = 0x7b then
      (if s.depth + 1 > max then true else jsonScan max { s with depth := s.depth + 1 } r)
    else if c = 0x5d || c = 0x7d then jsonScan max { s with depth := s.depth - 1 } r
    else jsonScan max s r

def jsonDepthExceeds (max : Nat) (b : Bytes) : Bool := jsonScan max {} b

/-- a parsed XML document: only its shape matters here -/
inductive XTree where
  | node (kids : List XTree)

mutual
def XTree.height : XTree → Nat
  | .node ks => XTree.heightList ks
def XTree.heightList : List XTree → Nat
  | [] => 0
  | k :: ks => Nat.max (k.height + 1) (XTree.heightList ks)
end

/-- `xmlDepthExceeds root max`: some node lies more than `max` levels below the root -/
def xmlDepthExceeds (max : Nat) (t : XTree) : Bool := decide (t.height > max)

/-- a chain of `d` nested elements -/
def XTree.chain : Nat → XTree
  | 0 => .node []
  | d + 1 => .node [XTree.chain d]

/-- what `dataParse` does once the depth question is answered: refuse, or evaluate (third party). Without the
guard a deep document reaches the recursive evaluators: stack overflow, fatal (seen from 8·10⁵ levels on). -/
def docGuard (cfg : Cfg) (deep : Bool) : Out :=
  if deep then (if cfg.parseDepth then .err "deep" else .panic "dosnode.dataParse|stack|evaluators recurse once per nesting level")
  else .ok "eval"

def dataParseJson (cfg : Cfg) (doc : Bytes) : Out := docGuard cfg (jsonDepthExceeds maxDocumentDepth doc)
def dataParseXml (cfg : Cfg) (t : XTree) : Out := docGuard cfg (xmlDepthExceeds maxDocumentDepth t)

/-! documents of the `deep <kind> <d>` case lines (mirrors `deepDoc` of go/props/c12/ops_fuzz.go) -/

def rep (n : Nat) (s : Bytes) : Bytes := (List.replicate n s).flatten

def asc (s : String) : Bytes := s.toUTF8.toList

def deepJson (kind : String) (d : Nat) : Option Bytes :=
  if kind == "json" then some (rep d (asc "[") ++ rep d (asc "]"))
  else if kind == "jsonobj" || kind == "jsondesc" then some (rep d (asc "{\"a\":") ++ asc "1" ++ rep d (asc "}"))
  else if kind == "jsonstr" then some (asc "[\"" ++ rep d (asc "[{") ++ asc "\",\"" ++ rep d (asc "\\\\\\\"[") ++ asc "\"]")
  else if kind == "jsonmix" then some (rep d (asc "[\"]\",{\"a\":") ++ asc "1" ++ rep d (asc "}]"))
  else none

/-- nesting depth of the XML kinds (elements below the document node, text nodes included) -/
def deepXml (kind : String) (d : Nat) : Option Nat :=
  if kind == "xml" then some d
  else if kind == "xmldesc" then some (d + 1)
  else if kind == "xmlwide" then some 2
  else none

/-- the model's line for a `deep` case. The nested JSON kinds are built with at most 4·max levels: what lies behind
the first max+1 opening brackets cannot change the scanner's answer (`jsonScan_open`), and the lines that matter
have millions of levels. -/
def deepLine (cfg : Cfg) (kind : String) (d : Nat) : Option String :=
  match deepJson kind (if kind == "jsonstr" then d else Nat.min d (4 * maxDocumentDepth)) with
  | some doc => some (dataParseJson cfg doc).show
  | none => (deepXml kind d).map (fun h => (docGuard cfg (decide (h > maxDocumentDepth))).show)

end Dos.Handlers
