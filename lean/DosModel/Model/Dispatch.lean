/-
Model of the p2p request/reply path (p2p/request.go, p2p/client.go `send`,
`dispatch`, `packPipe`; p2p/server.go `callHandler`, `handleCallReq`).

(a) `dispatch` body: per connection a counter `next` and a table
    `pending : nonce ↦ request`; one model event = one alternative of its
    `select` being taken.
(b) the request object.  `p2pRequest` is passed BY VALUE through channels, so
    every holder (callHandler/handleCallReq, the `client.send` goroutine, the
    `dispatch` table, `packPipe`) has its own copy and its own `sync.Once`;
    the reply channel and the context are shared.  `closes` counts executions
    of `close(r.reply)`: 2 would be Go's "close of closed channel" panic.
(c) `callHandler` loop with the blocking dial + handshake sub-procedure
    (outcomes ok | refused | hsFail | silent | blackhole): section (c) below, before (b') and the driver.

Every `select` whose outcome Go leaves open is resolved by a Boolean carried
by the event (`win`, `race`), so "for every event sequence" covers every
schedule.  Events whose guard does not hold are no-ops (the goroutine in
question cannot take that step in that state).
-/
import DosModel.Model.Util

namespace Dos.Dispatch
open Dos

inductive RType | send | reply
  deriving DecidableEq, Repr

/-- what a request's reply channel can carry -/
inductive Res
  | msg (m : Nat)   -- a reply P2PMessage whose payload id is `m`
  | nilOk           -- (nil, nil): packPipe's acknowledgement of a Reply
  | errClosed       -- "client dispatch: context canceled"
  | errHandler      -- dial / handshake failure, or "can't find client"
  | errSend         -- "client send: …" (request context done before peerSend took it)
  deriving DecidableEq, Repr

/-- the caller blocked in `waitForResult` -/
inductive Waiter
  | waiting
  | got (r : Res)   -- returned what came on the reply channel
  | ctxErr          -- returned its context's error
  deriving DecidableEq, Repr

/-- where the copy that can still act is -/
inductive Stage
  | absent    -- no such request
  | created   -- NewP2pRequest done, nothing sent yet
  | calling   -- a copy is with callHandler / receiveHandler
  | failed    -- the handler replied an error; dropped
  | sendG     -- a copy is held by the `client.send` goroutine
  | dropped   -- `client.send` saw c.ctx done: silently dropped
  | sendErr   -- `client.send`: sendReq failed, error replied; dropped
  | queued    -- a copy sits in c.peerSend
  | table     -- dispatch took it (registered if send-type) but did not forward it
  | out       -- dispatch took it and forwarded a copy to packPipe
  | packed    -- packPipe processed its copy
  deriving DecidableEq, Repr

/-- the four holders that contain a `replyResult` call -/
inductive Holder | handler | sendG | table | pack
  deriving DecidableEq, Repr

structure Req where
  rtype   : RType := .send
  arg     : Nat := 0              -- nonce field given by the caller (Reply)
  nonce   : Option Nat := none    -- nonce assigned by dispatch (send-type only)
  stage   : Stage := .absent
  ctxDone : Bool := false         -- request context (shared by all copies)
  waiter  : Waiter := .waiting
  vals    : List Res := []        -- values received from the reply channel (shared)
  closes  : Nat := 0              -- executions of close(reply)
  onceH   : Bool := false         -- sync.Once of handleCallReq's copy
  onceS   : Bool := false         -- … of client.send's copy
  onceT   : Bool := false         -- … of the copy in dispatch's table
  onceP   : Bool := false         -- … of packPipe's copy
  deriving Repr

def Req.once (r : Req) : Holder → Bool
  | .handler => r.onceH | .sendG => r.onceS | .table => r.onceT | .pack => r.onceP

def Req.setOnce (r : Req) : Holder → Req
  | .handler => { r with onceH := true }
  | .sendG => { r with onceS := true }
  | .table => { r with onceT := true }
  | .pack => { r with onceP := true }

/-- `replyResult(v)` executed on holder `h`'s copy.
`once.Do`: nothing if this copy's Once already fired.  Inside: `select { <-ctx.Done() ; reply <- v }`
then `close(reply)`.  The value is taken iff the caller is still in `waitForResult` and
(the context is live — then the send is the only way out — or the select's coin `win` says so).
Receiving makes `waitForResult` return and cancel the context. -/
def Req.complete (r : Req) (h : Holder) (v : Res) (win : Bool) : Req :=
  if r.once h then r else
  let r1 := r.setOnce h
  if r.waiter = .waiting ∧ (r.ctxDone = false ∨ win = true) then
    { r1 with waiter := .got v, vals := r.vals ++ [v], closes := r.closes + 1, ctxDone := true }
  else
    { r1 with closes := r.closes + 1 }

structure Conn where
  next    : Nat := 0
  pending : List (Nat × Nat) := []    -- nonce ↦ request id
  ctxDone : Bool := false             -- c.ctx cancelled
  stopped : Bool := false             -- dispatch goroutine returned
  deriving Repr

structure Sys where
  n    : Nat := 0                     -- requests created so far
  reqs : Nat → Req := fun _ => {}
  conn : Conn := {}
  feed : List Nat := []               -- payload ids handed to the server's peersFeed
  wire : List (Nat × Nat × RType) := []  -- (request, nonce, type) of packages that left packPipe

inductive Ev
  | create (t : RType) (arg : Nat)       -- caller: NewP2pRequest
  | toHandler (i : Nat)                  -- sendReq on n.calling / n.replying succeeded
  | handlerFail (i : Nat) (win : Bool)   -- dial/handshake failed or no client: replyResult(err) on the handler's copy
  | toSendG (i : Nat)                    -- handler: `go c.send(req)`
  | sendGDrop (i : Nat)                  -- client.send: c.ctx done, nothing happens
  | sendGErr (i : Nat) (win : Bool)      -- client.send: request ctx done ⇒ replyResult(err) on its copy
  | enqueue (i : Nat)                    -- client.send: peerSend accepted a copy
  | dsend (i : Nat) (fwd : Bool)         -- dispatch: `case req := <-c.peerSend`
  | pack (i : Nat) (win : Bool)          -- packPipe: `case req := <-reqC`
  | reply (k m : Nat) (race win : Bool)  -- dispatch: `case msg := <-replyMsg`
  | recv (m : Nat)                       -- dispatch: `case msg := <-receivedMsg`
  | cancel (i : Nat)                     -- request context cancelled / deadline
  | waiterCtx (i : Nat)                  -- waitForResult takes its ctx.Done alternative
  | close                                -- c.close(): c.ctx cancelled
  | idle                                 -- dispatch: idle timer fired ⇒ c.close()
  | ctxDone (win : List Nat)             -- dispatch: `case <-c.ctx.Done()`
  deriving Repr

def Sys.upd (s : Sys) (i : Nat) (f : Req → Req) : Sys :=
  { s with reqs := fun j => if j = i then f (s.reqs j) else s.reqs j }

def lookup (p : List (Nat × Nat)) (k : Nat) : Option Nat :=
  match p.find? (fun e => e.1 == k) with
  | some e => some e.2
  | none => none

def erase (p : List (Nat × Nat)) (k : Nat) : List (Nat × Nat) :=
  p.filter (fun e => !(e.1 == k))

/-- the `for _, req := range requests { req.replyResult(nil, err) }` of the ctx.Done alternative -/
def failAll (win : List Nat) : List (Nat × Nat) → Sys → Sys
  | [], s => s
  | (_, i) :: rest, s => failAll win rest (s.upd i (fun r => r.complete .table .errClosed (win.contains i)))

def step (s : Sys) : Ev → Sys
  | .create t a =>
    { s with n := s.n + 1,
             reqs := fun j => if j = s.n then { rtype := t, arg := a, stage := .created } else s.reqs j }
  | .toHandler i =>
    if (s.reqs i).stage = .created then s.upd i (fun r => { r with stage := .calling }) else s
  | .handlerFail i win =>
    if (s.reqs i).stage = .calling then
      s.upd i (fun r => ({ r with stage := .failed }).complete .handler .errHandler win)
    else s
  | .toSendG i =>
    if (s.reqs i).stage = .calling then s.upd i (fun r => { r with stage := .sendG }) else s
  | .sendGDrop i =>
    if (s.reqs i).stage = .sendG ∧ s.conn.ctxDone = true then
      s.upd i (fun r => { r with stage := .dropped })
    else s
  | .sendGErr i win =>
    if (s.reqs i).stage = .sendG ∧ (s.reqs i).ctxDone = true then
      s.upd i (fun r => ({ r with stage := .sendErr }).complete .sendG .errSend win)
    else s
  | .enqueue i =>
    if (s.reqs i).stage = .sendG then s.upd i (fun r => { r with stage := .queued }) else s
  | .dsend i fwd =>
    if (s.reqs i).stage = .queued ∧ s.conn.stopped = false ∧ (fwd = true ∨ s.conn.ctxDone = true) then
      let st : Stage := if fwd then .out else .table
      match (s.reqs i).rtype with
      | .send =>
        { s.upd i (fun r => { r with stage := st, nonce := some s.conn.next }) with
          conn := { s.conn with next := s.conn.next + 1, pending := (s.conn.next, i) :: s.conn.pending } }
      | .reply => s.upd i (fun r => { r with stage := st })
    else s
  | .pack i win =>
    if (s.reqs i).stage = .out then
      let r := s.reqs i
      let s1 := match r.rtype with
        | .reply => s.upd i (fun r => ({ r with stage := .packed }).complete .pack .nilOk win)
        | .send => s.upd i (fun r => { r with stage := .packed })
      let nn := match r.rtype with
        | .reply => r.arg
        | .send => r.nonce.getD 0
      { s1 with wire := s1.wire ++ [(i, nn, r.rtype)] }
    else s
  | .reply k m race win =>
    if s.conn.stopped then s else
    match lookup s.conn.pending k with
    | none => s
    | some i =>
      let s1 := { s with conn := { s.conn with pending := erase s.conn.pending k } }
      if (s.reqs i).ctxDone then s1
      else s1.upd i (fun r =>
        (if race then { r with ctxDone := true } else r).complete .table (.msg m) win)
  | .recv m => if s.conn.stopped then s else { s with feed := s.feed ++ [m] }
  | .cancel i =>
    if (s.reqs i).stage = .absent then s else s.upd i (fun r => { r with ctxDone := true })
  | .waiterCtx i =>
    if (s.reqs i).waiter = .waiting ∧ (s.reqs i).ctxDone = true then
      s.upd i (fun r => { r with waiter := .ctxErr })
    else s
  | .close => { s with conn := { s.conn with ctxDone := true } }
  | .idle => if s.conn.stopped then s else { s with conn := { s.conn with ctxDone := true } }
  | .ctxDone win =>
    if s.conn.ctxDone = true ∧ s.conn.stopped = false then
      let s1 := failAll win s.conn.pending s
      { s1 with conn := { s1.conn with pending := [], stopped := true } }
    else s

def run (s : Sys) (evs : List Ev) : Sys := evs.foldl step s

def init : Sys := {}

/-! ### (c) callHandler -/

/-- what dial + handshake does: `silent` = the peer accepts the TCP connection and never sends its ID
(the handshake read does not return by itself); `blackhole` = the host never answers the SYN (down,
firewall DROP: the dial itself does not return by itself — the kernel gives up after minutes). -/
inductive Dial | ok | refused | hsFail | silent | blackhole
  deriving DecidableEq, Repr

structure Handler where
  clients : List Nat := []     -- peers with a registered outgoing client
  wedged  : Bool := false      -- goroutine is inside handleCallReq and will never return
  deriving Repr

inductive HEv
  | call (i peer : Nat) (d : Dial)   -- `case req := <-n.calling`; `d` = what dial+handshake would do
  | remove (peer : Nat)              -- `case id := <-n.removeCallingC`
  | tick                             -- watchdog
  deriving Repr

inductive HOut
  | handed (i peer : Nat)      -- `go c.send(req)`
  | failed (i : Nat)           -- replyResult(err) on the handler's copy
  deriving DecidableEq, Repr

/-- `deadline = false`: the code as it was (no bound on the handshake read);
`deadline = true`: the handshake read is bounded, a silent peer is a failed handshake.
`dialB = false`: the code as it was (bare `net.Dial`: a black-holed peer keeps the loop inside the dial);
`dialB = true`: the dial is bounded, a black-holed peer is a failed dial. -/
def hstep (deadline dialB : Bool) (h : Handler) : HEv → Handler × List HOut
  | .call i peer d =>
    if h.wedged then (h, []) else
    if h.clients.contains peer then (h, [.handed i peer]) else
    match d with
    | .ok => ({ h with clients := peer :: h.clients }, [.handed i peer])
    | .refused => (h, [.failed i])
    | .hsFail => (h, [.failed i])
    | .silent => if deadline then (h, [.failed i]) else ({ h with wedged := true }, [])
    | .blackhole => if dialB then (h, [.failed i]) else ({ h with wedged := true }, [])
  | .remove peer =>
    if h.wedged then (h, []) else ({ h with clients := h.clients.filter (fun p => !(p == peer)) }, [])
  | .tick => (h, [])

def hrun (deadline dialB : Bool) : Handler → List HEv → Handler × List HOut
  | h, [] => (h, [])
  | h, e :: es =>
    let (h1, o1) := hstep deadline dialB h e
    let (h2, o2) := hrun deadline dialB h1 es
    (h2, o1 ++ o2)


/-! ### (b') the request object with arbitrarily many by-value copies

Used to check, against real Go, the semantics the model above assumes: a copy of the struct
carries its own `sync.Once` (in the state it had when copied); the channel and context are shared. -/

structure Obj where
  onces   : List Bool := [false]    -- copy 0 is the original
  ctxDone : Bool := false
  waiter  : Waiter := .waiting
  closes  : Nat := 0
  deriving Repr

inductive OEv
  | copy (a : Nat)
  | fire (a : Nat) (v : Res) (win : Bool)   -- replyResult(v) on copy a
  | cancel                                  -- cancel the context and let waitForResult return
  deriving Repr

def ostep (o : Obj) : OEv → Obj
  | .copy a =>
    match o.onces[a]? with
    | some b => { o with onces := o.onces ++ [b] }
    | none => o
  | .fire a v win =>
    if o.closes ≥ 2 then o else        -- the process has panicked already
    match o.onces[a]? with
    | some false =>
      let o1 := { o with onces := o.onces.set a true, closes := o.closes + 1 }
      if o.waiter = .waiting ∧ (o.ctxDone = false ∨ win = true) then
        { o1 with waiter := .got v, ctxDone := true }
      else o1
    | _ => o
  | .cancel =>
    { o with ctxDone := true, waiter := if o.waiter = .waiting then .ctxErr else o.waiter }

/-! ### driver (line protocol of the correspondence run) -/

def showWaiter : Waiter → String
  | .waiting => "hang"
  | .ctxErr => "ctx"
  | .got (.msg m) => s!"msg:{m}"
  | .got .nilOk => "nil"
  | .got .errClosed => "closed"
  | .got .errHandler => "handler"
  | .got .errSend => "send"

def joinOr (l : List String) : String := if l.isEmpty then "-" else String.intercalate "," l

/-- the events one serialised harness operation stands for -/
def dispEvents (n : Nat) (op : String) : Option (List Ev × Nat × Bool) :=
  let rest := (op.drop 1).toString
  match op.take 1 |>.toString with
  | "s" => some ([.create .send 0, .toHandler n, .toSendG n, .enqueue n, .dsend n true, .pack n false], n + 1, false)
  | "r" => rest.toNat?.map fun a =>
      ([.create .reply a, .toHandler n, .toSendG n, .enqueue n, .dsend n true, .pack n false], n + 1, false)
  | "p" =>
    match rest.splitOn ":" with
    | [k, m] => match k.toNat?, m.toNat? with
      | some k, some m => some ([.reply k m false false], n, false)
      | _, _ => none
    | _ => none
  | "v" => rest.toNat?.map fun m => ([.recv m], n, false)
  | "c" => rest.toNat?.map fun i => ([.cancel i, .waiterCtx i], n, false)
  | "x" => some ([.close, .ctxDone []], n, true)
  | _ => none

def dispRun : List String → Sys → Option Sys
  | [], s => some s
  | op :: ops, s =>
    match dispEvents s.n op with
    | none => none
    | some (evs, _, stop) =>
      let s1 := run s evs
      if stop then some s1 else dispRun ops s1

def showType : RType → String
  | .send => "s" | .reply => "r"

def stepDisp (evs : String) : String :=
  match dispRun (if evs == "-" then [] else evs.splitOn ",") init with
  | none => "bad-op"
  | some s =>
    let s := if s.conn.stopped then s else run s [.close, .ctxDone []]
    let ids := List.range s.n
    let nonces := ids.filterMap fun i => (s.reqs i).nonce.map fun k => s!"{i}:{k}"
    let wire := s.wire.map fun (_, k, t) => s!"{k}:{showType t}"
    let res := ids.map fun i => showWaiter (s.reqs i).waiter
    s!"nonces={joinOr nonces} wire={joinOr wire} feed={joinOr (s.feed.map toString)} res={joinOr res}"

def objRun : List String → Obj → Option Obj
  | [], o => some o
  | op :: ops, o =>
    let rest := (op.drop 1).toString
    match op.take 1 |>.toString with
    | "y" => match rest.toNat? with
      | some a => objRun ops (ostep o (.copy a))
      | none => none
    | "f" => match rest.splitOn ":" with
      | [a, v] => match a.toNat?, v.toNat? with
        | some a, some v => objRun ops (ostep o (.fire a (.msg v) false))
        | _, _ => none
      | _ => none
    | "c" => objRun ops (ostep o .cancel)
    | _ => none

def stepObj (ops : String) : String :=
  match objRun (if ops == "-" then [] else ops.splitOn ",") {} with
  | none => "bad-op"
  | some o =>
    let o := ostep o .cancel      -- the harness ends every case by cancelling the context
    let cl := if o.closes ≥ 2 then "panic" else toString o.closes
    s!"res={showWaiter o.waiter} closed={cl}"

/-! network scenarios: `net <peers> <reqs>` -/

inductive Act
  | reply | drop | unknownFirst | dup | late | race
  | badGood   -- the peer answers with a reply whose signature does not verify, then with the good one
  | badOnly   -- … with a reply whose signature does not verify and nothing else; the caller then cancels
  deriving DecidableEq, Repr

def parseAct (a : String) : Option Act :=
  match a.take 1 |>.toString with
  | "R" => some .reply
  | "D" => some .drop
  | "T" => some .drop
  | "L" => some .drop
  | "U" => some .unknownFirst
  | "P" => some .dup
  | "X" => some .late
  | "C" => some .race
  | "K" => some .race
  | "S" => some .badGood
  | "B" => some .badOnly
  | _ => none

/-- peer kind → (what dial + handshake does, whether the peer is probed afterwards) -/
def parseDial (p : String) : Option (Dial × Bool) :=
  match p with
  | "ok" => some (.ok, true)
  | "close" => some (.ok, false)
  | "refuse" => some (.refused, false)
  | "silent" => some (.silent, false)
  | "blackhole" => some (.blackhole, false)
  | _ => none

def parseReq (r : String) : Option (Nat × Act) :=
  match r.splitOn "." with
  | p :: a :: _ => match p.toNat?, parseAct a with
    | some p, some a => some (p, a)
    | _, _ => none
  | _ => none

def ownPayload (i : Nat) : Nat := 7 * i + 3

/-- events on the connection for one handed request `j` (its index on that connection) with global id `g` -/
def actEvents (verify : Bool) (j g : Nat) (nonce : Nat) : Act → List Ev
  | .reply => [.reply nonce (ownPayload g) false false]
  | .drop => [.cancel j, .waiterCtx j]
  | .unknownFirst => [.reply (nonce + 100000) (ownPayload g + 1) false false, .reply nonce (ownPayload g) false false]
  | .dup => [.reply nonce (ownPayload g) false false, .reply nonce (ownPayload g + 1) false false]
  | .late => [.cancel j, .waiterCtx j, .reply nonce (ownPayload g) false false]
  | .race => []
  -- a frame whose signature does not verify is dropped by decodePipe (`verify`): it is no reply event
  | .badGood => (if verify then [] else [.reply nonce (ownPayload g + 2) false false]) ++
      [.reply nonce (ownPayload g) false false]
  | .badOnly => (if verify then [] else [.reply nonce (ownPayload g + 2) false false]) ++
      [.cancel j, .waiterCtx j]

/-- outcome of the requests (global ids `gs`, in order) that were handed to ONE connection -/
def connOutcomes (verify : Bool) (gs : List (Nat × Act)) : List (Nat × String) :=
  let sends : List Ev := (List.range gs.length).flatMap fun j =>
    [.create .send 0, .toHandler j, .toSendG j, .enqueue j, .dsend j true, .pack j false]
  let s0 := run init sends
  let acts : List Ev := (List.zip (List.range gs.length) gs).flatMap fun (j, g, a) =>
    actEvents verify j g ((s0.reqs j).nonce.getD 0) a
  let s1 := run s0 acts
  (List.zip (List.range gs.length) gs).map fun (j, g, a) =>
    if a = .race then (g, "any") else
    match (s1.reqs j).waiter with
    | .got (.msg m) => (g, if m = ownPayload g then "ok" else s!"ok-wrong:{m}")
    | .waiting => (g, "hang")
    | _ => (g, "err")

/-- a peer kind whose dial or handshake does not return by itself -/
def Dial.stalls : Dial → Bool
  | .silent => true
  | .blackhole => true
  | _ => false

def stepNet (deadline dialB verify : Bool) (peers reqs : String) : String :=
  match (peers.splitOn ",").mapM parseDial, (reqs.splitOn ",").mapM parseReq with
  | some ps, some rs =>
    let np := ps.length
    if rs.any (fun r => r.1 ≥ np) then "bad-op" else
    let idx := List.zip (List.range rs.length) rs
    let dialOf := fun (p : Nat) => (ps.getD p (.refused, false)).1
    let hasBh := ps.any fun (d, _) => d = .blackhole
    -- a scenario with a black-holed peer starts with one warm-up request per answering peer (the node is
    -- CONNECTED to them when the black hole is asked); then: requests to silent / black-holed peers are
    -- issued first, then the others, then one probe per answering peer
    let warm : List (Nat × Nat × Act) := if hasBh then
      (List.zip (List.range np) ps).filterMap fun (p, _, probe) => if probe then some (rs.length + np + p, p, Act.reply) else none
      else []
    let first := idx.filter fun (_, p, _) => (dialOf p).stalls
    let rest := idx.filter fun (_, p, _) => !(dialOf p).stalls
    let probes : List (Nat × Nat × Act) :=
      (List.zip (List.range np) ps).filterMap fun (p, _, probe) => if probe then some (rs.length + p, p, Act.reply) else none
    let order := warm ++ first ++ rest ++ probes
    let hevs := order.map fun (g, p, _) => HEv.call g p (dialOf p)
    let outs := (hrun deadline dialB {} hevs).2
    let handed := order.filter fun (g, p, _) => outs.contains (.handed g p)
    let perPeer := (List.range np).flatMap fun p =>
      connOutcomes verify ((handed.filter fun (_, q, _) => q = p).map fun (g, _, a) => (g, a))
    let outcome := fun (g : Nat) => match perPeer.find? (fun e => e.1 = g) with
      | some e => e.2
      | none => "err"
    let res := (List.range rs.length).map outcome
    let pr := probes.map fun (g, _, _) => outcome g
    let wm := warm.map fun (g, _, _) => outcome g
    s!"res={joinOr res} probes={joinOr pr}" ++ (if hasBh then s!" warm={joinOr wm}" else "")
  | _, _ => "bad-op"

/-- `deadline`, `dialB`: the handshake / the dial in handleCallReq is bounded; `verify`: decodePipe drops a
frame whose signature does not verify (the three are regenerated facts in the driver) -/
def driverStep (deadline dialB verify : Bool) (line : String) : String :=
  match words line with
  | ["disp", evs] => stepDisp evs
  | ["obj", ops] => stepObj ops
  | ["net", peers, reqs] => stepNet deadline dialB verify peers reqs
  | _ => "bad-op"

end Dos.Dispatch
