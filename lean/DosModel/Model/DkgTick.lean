/-
The watchdog of `pdkg.Loop` (round 5, review C finding 4): once a minute `Loop` runs the closure
`expire` over each of its three (buffer map, request map) pairs.  `expire` ranges over the REGISTERED
REQUESTS (`for _, req := range sessionReq`); for a request whose context is done it closes the reply
channel and deletes the session's buffer and request.  A session without a registered request is
not visited: messages that arrived before the local `Grouping` call stay buffered.  The text of
`Loop` (closure included) is pinned by `c04_code_shape` (`Gen.VssFacts.loopWhole`).

`done` says whether `<-req.ctx.Done()` is ready at the tick.  Deadlines are otherwise outside the
model (`Model/DkgSession.lean`): in the runs the liveness theorem speaks about no context is done,
and a tick is then the identity (`tick_false`, Proofs/DkgTick.lean).
-/
import DosModel.Model.DkgNet

namespace Dos.Dkg
open Dos Dos.Vss

/-- `expire` on the pair of one session: new pair, and whether the reply channel was closed -/
def expire {M : Type} (p : Pair M) (done : Bool) : Pair M × Bool :=
  match p.req with
  | none => (p, false)                                   -- not in `sessionReq`: not visited
  | some _ => if done then (⟨[], none⟩, true) else (p, false)

/-- the reviewer's escape E7 / seeded change C04f-watchdog: buffers nobody asked for are deleted too -/
def expireDropUnasked {M : Type} (p : Pair M) (done : Bool) : Pair M × Bool :=
  match p.req with
  | none => (⟨[], none⟩, false)
  | some _ => if done then (⟨[], none⟩, true) else (p, false)

section
variable {S P : Type}

/-- one tick of the watchdog at a member; a closed reply channel ends the stage waiting on it (its
`ok` is false, it returns, the pipeline drains without a result) -/
def Member.tickWith (ex : {M : Type} → Pair M → Bool → Pair M × Bool) (m : Member S P) (done : Bool) : Member S P :=
  let a := ex m.pkP done
  let b := ex m.dlP done
  let c := ex m.rsP done
  let closed := a.2 || b.2 || c.2
  { m with pkP := a.1, dlP := b.1, rsP := c.1,
           stage := if closed then (match m.stage with
                                    | .done d ks => .done d ks
                                    | .failed w => .failed w
                                    | _ => .failed "deadline") else m.stage }

def Member.tick (m : Member S P) (done : Bool) : Member S P := m.tickWith (fun p d => expire p d) done

/-- events of a group with watchdog ticks -/
inductive EvT where
  | ev (e : Ev)
  | tick (i : Nat) (done : Bool)
  deriving DecidableEq, Repr

end

section
variable {S P : Type} [DecidableEq S] [DecidableEq P]
variable [Zero P] [Add P] [SMul S P] [IntCast S] [Mul S] [Add S] [Zero S]

def stepEvT (g : P) (s : Sys S P) : EvT → Sys S P
  | .ev e => stepEv g s e
  | .tick i done => { s with ms := s.ms.modify i (fun m => m.tick done) }

def runEventsT (c : Cfg S P) (ephs : List (List S)) (evs : List EvT) : Sys S P :=
  evs.foldl (stepEvT c.g) (initSys c ephs)

/-- the schedule without its ticks -/
def dropTicks : List EvT → List Ev
  | [] => []
  | .ev e :: r => e :: dropTicks r
  | .tick _ _ :: r => dropTicks r

end

end Dos.Dkg
