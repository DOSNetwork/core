/-
Symbolic (Dolev–Yao) model of the p2p secure channel, receiving side
(p2p/client.go readPipe → decryptPipe → decodePipe/decodeBytes → dispatch →
server.messageDispatch).

Bytes on the wire are terms.  A frame is either the output of AES-GCM.Seal under
some key (`sealed k pt`), or any other byte string (`raw`), or the point where the
byte stream stops being a sequence of frames (`broken`: header damaged, stream cut).
A signature is either BLS(sk, msg) (`good sk msg`) or any other byte string (`bad`).
The usual equations and no others: Open under key k succeeds exactly on `sealed k _`;
Verify under the public key of sk succeeds exactly on `good sk msg` for that msg.
(The GCM nonce is fixed per connection in the code, and under this reuse AES-GCM does NOT keep
its integrity: `Derivable` below is the ideal-AEAD adversary, `DerivableGCM` the one the code faces.)
-/
import DosModel.Model.Util

namespace Dos.P2PSym
open Dos

inductive Sig
  | good (sk : Nat) (msg : Bytes)
  | bad (n : Nat)
  deriving DecidableEq, Repr

/-- google.protobuf.Any: type URL (as an index) and value bytes; `wf` = the value parses as that type -/
structure Any where
  typ   : Nat
  value : Bytes
  wf    : Bool := true
  deriving DecidableEq, Repr

structure Pkg where
  any    : Option Any
  sig    : Sig
  sender : Bytes := []
  nonce  : Nat := 0
  reply  : Bool := false
  deriving DecidableEq, Repr

/-- what is under the AEAD -/
inductive Plain
  | pkg (p : Pkg)     -- the protobuf encoding of a Package
  | junk (n : Nat)    -- bytes that do not parse as a Package
  | empty             -- zero bytes
  deriving DecidableEq, Repr

inductive Frame
  | sealed (k : Nat) (pt : Plain)
  | raw (n : Nat)
  | broken
  deriving DecidableEq, Repr

structure Delivery where
  typ    : Nat
  value  : Bytes
  sender : Bytes
  nonce  : Nat
  reply  : Bool
  deriving DecidableEq, Repr

inductive Err | openFail | proto | noAny | sig | unmarshal | framing
  deriving DecidableEq, Repr

inductive Outcome
  | deliver (d : Delivery)
  | skip                      -- zero-length plaintext: decodePipe just continues
  | err (e : Err)
  | panic (site : String)     -- a Go panic in a pipeline goroutine (kills the process)
  deriving DecidableEq, Repr

/-- receiver's view of a connection: session key `k`, the public key `pk` presented in the
handshake (identified with its secret's name), the registered message types, and whether
decodeBytes checks for a missing Anything (regenerated from the code) -/
structure Conn where
  k        : Nat
  pk       : Nat                -- the REMOTE endpoint's signing key, as presented in the handshake
  known    : Nat → Bool
  checkAny : Bool := true
  self     : Nat := 0           -- this endpoint's own signing key on this connection
  drains   : Bool := true       -- errc keeps being read after client.run has returned (regenerated)

/-- one frame through decryptPipe, decodeBytes (with verifyFn), the second bls.Verify -/
def recvFrame (c : Conn) : Frame → Outcome
  | .broken => .err .framing
  | .raw _ => .err .openFail
  | .sealed k' pt =>
    if k' ≠ c.k then .err .openFail else
    match pt with
    | .empty => .skip
    | .junk _ => .err .proto
    | .pkg p =>
      match p.any with
      | none => if c.checkAny then .err .noAny else .panic "decodeBytes: pa.GetAnything().Value"
      | some a =>
        if p.sig ≠ .good c.pk a.value then .err .sig          -- verifyFn inside decodeBytes
        else if c.known a.typ = false ∨ a.wf = false then .err .unmarshal   -- ptypes.UnmarshalAny
        else if p.sig ≠ .good c.pk a.value then .err .sig     -- bls.Verify again in decodePipe
        else .deliver { typ := a.typ, value := a.value, sender := p.sender, nonce := p.nonce, reply := p.reply }

/-- the connection as a whole.  `client.run` takes ONE error from `errc` and returns.  As the code
was, nobody read `errc` afterwards, so the stage reporting a second error blocked for good (until
the idle timer) and nothing behind it was processed (`drains = false`); the repaired `run` leaves
a reader behind (`drains = true`).  A framing error ends readPipe in both. -/
structure RState where
  errs    : Nat := 0
  stalled : Bool := false
  crashed : Bool := false
  out     : List Delivery := []
  deriving Repr

def rstep (c : Conn) (st : RState) (f : Frame) : RState :=
  if st.stalled ∨ st.crashed then st else
  match recvFrame c f with
  | .deliver d => { st with out := st.out ++ [d] }
  | .skip => st
  | .panic _ => { st with crashed := true }
  | .err e =>
    if e = .framing then { st with errs := st.errs + 1, stalled := true }
    else if st.errs = 0 ∨ c.drains = true then { st with errs := st.errs + 1 }
    else { st with errs := st.errs + 1, stalled := true }

def recvAll (c : Conn) (fs : List Frame) : RState := fs.foldl (rstep c) {}

/-- server.messageDispatch: a non-reply message goes to the subscriber of its type -/
def toSubscriber (t : Nat) (ds : List Delivery) : List Delivery :=
  ds.filter fun d => d.typ = t ∧ d.reply = false

/-! the sending side (packPipe/encodeProto + encryptPipe) -/

structure Msg where
  typ   : Nat
  value : Bytes
  deriving DecidableEq, Repr

def pack (sk k : Nat) (sender : Bytes) (m : Msg) (nonce : Nat) (reply : Bool) : Frame :=
  .sealed k (.pkg { any := some { typ := m.typ, value := m.value, wf := true }, sig := .good sk m.value,
                    sender := sender, nonce := nonce, reply := reply })

def delivered (sender : Bytes) (m : Msg) (nonce : Nat) (reply : Bool) : Delivery :=
  { typ := m.typ, value := m.value, sender := sender, nonce := nonce, reply := reply }

/-- what a man in the middle who knows neither the session key `k` nor any signing key can put
on the wire towards the receiver, after seeing `sent` (what the REMOTE endpoint sent on this
connection) and `own` (what the receiver ITSELF sent on it — both directions use the same key and
the same fixed nonce, so these open too): verbatim copies of either (any order, any number of
times), byte strings that are not a Seal output (altered / truncated / random frames), damage to
the framing, and frames sealed under keys other than `k` (this includes every frame of any other
connection, also between the same two endpoints: each connection has its own key pair). -/
inductive Derivable (k : Nat) (sent own : List Frame) : Frame → Prop
  | copy {f : Frame} : f ∈ sent → Derivable k sent own f
  | reflect {f : Frame} : f ∈ own → Derivable k sent own f
  | raw (n : Nat) : Derivable k sent own (.raw n)
  | broken : Derivable k sent own .broken
  | otherKey {k' : Nat} {pt : Plain} : k' ≠ k → Derivable k sent own (.sealed k' pt)

/-! ### AES-GCM as the code uses it: ONE nonce for every frame of a connection, both directions

(client.go: `c.dhNonce = dhBytes[32:44]`, `aesgcm.Seal(nil, c.dhNonce, text, nil)`.)  The ideal-AEAD
adversary `Derivable` above is NOT what the code gives (review finding 1, replayed on the real nodes
by the `gcm` cases): with a repeated nonce the keystream and the mask of the tag are the same for every
frame, two frames give the GHASH key (a polynomial equation in H), and from then on the man in the
middle — still without the AES key and without any signing key — can seal ANY plaintext he can write
down.  What he cannot write down is a BLS signature he has not seen: `KnownPlain`. -/

def sealedUnder (k : Nat) : Frame → Bool
  | .sealed k' _ => k' == k
  | _ => false

/-- two DIFFERENT frames sealed under the session key have been on the wire -/
def TwoSeen (k : Nat) (seen : List Frame) : Prop :=
  ∃ f g, f ∈ seen ∧ g ∈ seen ∧ f ≠ g ∧ sealedUnder k f = true ∧ sealedUnder k g = true

/-- plaintexts the man in the middle can put together: anything, as long as a BLS signature in it is
one that was in a frame he has seen (he cannot sign) -/
def KnownPlain (seen : List Frame) : Plain → Prop
  | .pkg p =>
    match p.sig with
    | .bad _ => True
    | .good sk m => ∃ k' q, Frame.sealed k' (.pkg q) ∈ seen ∧ q.sig = .good sk m
  | _ => True

/-- the man in the middle the CODE faces: everything the ideal-AEAD one can do, plus, once two frames
of the connection were seen, a valid seal on any plaintext he knows -/
inductive DerivableGCM (k : Nat) (sent own : List Frame) : Frame → Prop
  | ideal {f : Frame} : Derivable k sent own f → DerivableGCM k sent own f
  | forged {pt : Plain} : TwoSeen k (sent ++ own) → KnownPlain (sent ++ own) pt →
      DerivableGCM k sent own (.sealed k pt)

/-! ### driver -/

def nTypes : Nat := 4
def knownType (t : Nat) : Bool := t < nTypes

/-- message `i` of a case: type, size, seed are enough to identify it; the model carries the index
as the value -/
def msgOf (i t : Nat) : Msg := { typ := t, value := natBE 4 i }

/-- B's view of the connection (remote = A, key 7; own key 8) and A's view of the same connection -/
def theConn (checkAny : Bool) (drains : Bool := true) : Conn :=
  { k := 1, pk := 7, known := knownType, checkAny := checkAny, self := 8, drains := drains }
def connA (checkAny drains : Bool) : Conn :=
  { k := 1, pk := 8, known := knownType, checkAny := checkAny, self := 7, drains := drains }

def goodFrame (i t : Nat) : Frame := pack 7 1 [] (msgOf i t) i false

def showOut (n : Nat) (st : RState) : String :=
  let per := (List.range nTypes).map fun t =>
    let ds := toSubscriber t st.out
    let ids := ds.map fun d => toString (beNat d.value)
    s!"t{t}=" ++ (if ids.isEmpty then "-" else String.intercalate "," ids)
  -- the connection is seen to be live when the last message (the sentinel, a Ping) comes out
  let conn := if (toSubscriber 0 st.out).any (fun d => beNat d.value = n - 1) then "live" else "dead"
  let alive := if st.crashed then "no" else "yes"
  s!"{String.intercalate " " per} conn={conn} alive={alive} n={n}"

/-- `mitm <msgs> <ops>`: msgs `t:size:seed,…`; ops on the frame sequence (see go/props/c16) -/
structure Tamper where
  before : List Frame := []   -- injected before the frame
  self   : Option Frame := none  -- replacement of the frame itself (none = untouched)
  after  : List (Option Frame) := []   -- inserted after it (none = a verbatim copy of the frame)
  answer : Bool := false      -- B answers this message with a Reply …
  bounce : Bool := false      -- … which the man in the middle also sends back to B
  alterReply : Bool := false  -- … or alters on its way to A (a B→A frame with a flipped bit)

/-- B's reply to message `i`, as B packs it (signed with B's key 8) -/
def replyFrame (i : Nat) : Frame := pack 8 1 [] { typ := 1, value := natBE 4 i } i true

structure MitmOps where
  tab    : Nat → Tamper := fun _ => {}
  mirror : List Nat := []     -- A→B frames sent back to A once the last frame has gone through
  damage : Bool := false      -- some op breaks the framing: the harness stops there

def applyOp (n : Nat) (o : MitmOps) (op : String) : Option MitmOps :=
  let kind := (op.take 1).toString
  match ((op.drop 1).toString.splitOn ":").mapM String.toNat? with
  | some (i :: _) =>
    if i > n then none else
    let t := o.tab i
    let upd := fun (t' : Tamper) => { o with tab := fun j => if j = i then t' else o.tab j }
    match kind with
    | "F" => some (upd { t with self := if t.self = some .broken then t.self else some (.raw 1) })
    | "T" => some (upd { t with self := if t.self = some .broken then t.self else some (.raw 2) })
    | "H" => some { upd { t with self := some .broken } with damage := true }
    | "X" => some { upd { t with self := some .broken } with damage := true }
    | "D" => some (upd { t with after := t.after ++ [some (.raw 3)] })
    | "I" => some (upd { t with before := t.before ++ [.raw 4] })
    | "R" => some (upd { t with after := t.after ++ [none] })
    | "V" => some (upd { t with answer := true, bounce := true })
    | "A" => some (upd { t with answer := true, alterReply := true })
    | "M" => some { o with mirror := o.mirror ++ [i] }
    | _ => none
  | _ => none

def parseMsgs (s : String) : Option (List Nat) :=
  if s == "-" then some [] else
  (s.splitOn ",").mapM fun e => match e.splitOn ":" with
    | t :: _ => t.toNat?
    | _ => none

/-- B's side, frame by frame; for an answered message also: could B still reply when it got it?
(after its first reported error `run` has returned and the inbound client is no longer in
receiveHandler's table: "can't find client") -/
def mitmB (cB : Conn) (ts : List Nat) (o : MitmOps) (n : Nat) : Nat → RState → List (Nat × Bool) → RState × List (Nat × Bool)
  | 0, st, acc => (st, acc)
  | fuel + 1, st, acc =>
    let i := ts.length - (fuel + 1)
    let t := ts.getD i 0
    let tm := o.tab i
    let tm := if i == n && !o.mirror.isEmpty && !o.damage then { tm with answer := true } else tm
    let orig := goodFrame i t
    let st1 := (tm.before ++ [tm.self.getD orig]).foldl (rstep cB) st
    let got : Bool := (toSubscriber t st1.out).any (fun d => beNat d.value = i) && tm.self.isNone
    let canReply : Bool := tm.answer && got && st1.errs == 0 && !st1.stalled
    let after := tm.after.map (fun f => f.getD orig) ++ (if tm.bounce && canReply then [replyFrame i] else [])
    let st2 := after.foldl (rstep cB) st1
    mitmB cB ts o n fuel st2 (if tm.answer then acc ++ [(i, canReply)] else acc)

def stepMitm (checkAny drains : Bool) (msgs ops : String) : String :=
  match parseMsgs msgs with
  | none => "bad-op"
  | some ts =>
    let ts := ts ++ [0]                      -- the sentinel, a Ping
    let n := ts.length - 1
    let opl := if ops == "-" then [] else ops.splitOn ","
    match opl.foldl (fun (acc : Option MitmOps) op => acc.bind fun o => applyOp n o op) (some {}) with
    | none => "bad-op"
    | some o =>
      let (stB, answered) := mitmB (theConn checkAny drains) ts o n ts.length {} []
      -- A's inbound stream on the same connection: the replies B could send, with the reflected
      -- A→B frames just before the last one (they are sent when the last frame has gone through)
      let mirrors := if o.damage then [] else o.mirror.map fun j => goodFrame j (ts.getD j 0)
      let replies := answered.filter (fun a => a.2) |>.map (fun a => a.1)
      let early := replies.filter (· ≠ n)
      let late := replies.filter (· = n)
      let cA := connA checkAny drains
      let frameToA := fun (i : Nat) => if (o.tab i).alterReply then Frame.raw 7 else replyFrame i
      let stA := (early.map frameToA ++ mirrors ++ late.map frameToA).foldl (rstep cA) {}
      let toA := ((List.range nTypes).map fun t => (toSubscriber t stA.out).length).foldl (· + ·) 0
      let rep := answered.map fun (i, _) =>
        if stA.out.any (fun d => d.reply ∧ d.nonce = i ∧ beNat d.value = i) then "ok" else "err"
      let aalive := if stA.crashed then "no" else "yes"
      let reps := if rep.isEmpty then "-" else String.intercalate "," rep
      showOut ts.length stB ++ s!" a={toA} aalive={aalive} rep={reps}"

/-- `own <items>`: what the harness's own endpoint sends, well framed -/
def ownFrame (its : List String) (i : Nat) (item : String) : Option Frame :=
  let kind := (item.take 1).toString
  let args := ((item.drop 1).toString.splitOn ":").filterMap String.toNat?
  let t := args.getD 0 0
  let a : Any := { typ := t, value := natBE 4 i }
  match kind with
  | "G" => some (goodFrame i t)
  | "S" => some (.sealed 1 (.pkg { any := some { typ := args.getD 1 0, value := natBE 4 i }, sig := .bad t, nonce := i }))
  | "N" => some (.sealed 1 (.pkg { any := none, sig := .bad 0, nonce := i }))
  | "U" => some (.sealed 1 (.pkg { any := some { typ := 99, value := natBE 4 i }, sig := .good 7 (natBE 4 i), nonce := i }))
  | "J" => some (.sealed 1 (.junk t))
  | "E" => some (.sealed 1 .empty)
  | "W" => some (.raw t)
  | "K" => some (.sealed 2 (.pkg { any := some a, sig := .good 7 a.value, nonce := i }))
  | "M" => some (.sealed 1 (.pkg { any := some { a with wf := false }, sig := .good 7 a.value, nonce := i }))
  | "P" => some (pack 7 1 [] (msgOf i t) i true)
  | "Q" =>
    -- derived from the accepted packet `t` (= item index j): modes 0–4 carry a (payload, signature) pair
    -- that is not BLS(key, payload) — another split of the same bytes, a truncated / extended / swapped
    -- signature; mode 5 is the same package re-encoded (a copy of packet j)
    -- … mode 3 is the signature followed by extra bytes: bn256 G1 decoding reads 64 bytes and ignores the
    -- rest (as the code is), so it verifies — a second packet of payload j under this packet's nonce
    let mode := args.getD 1 0
    if mode = 5 ∨ mode = 3 then
      let itj := its.getD t ""
      if (itj.take 1).toString == "G" then
        let tj := (((itj.drop 1).toString.splitOn ":").filterMap String.toNat?).getD 0 0
        some (pack 7 1 [] (msgOf t tj) (if mode = 5 then t else i) false)
      else none
    else some (.sealed 1 (.pkg { any := some { typ := 0, value := natBE 4 i }, sig := .bad mode, nonce := i }))
  | _ => none

def stepOwn (checkAny drains : Bool) (items : String) : String :=
  let its := (if items == "-" then [] else items.splitOn ",") ++ ["G0"]
  match (List.zip (List.range its.length) its).mapM fun (i, it) => ownFrame its i it with
  | none => "bad-op"
  | some frames => showOut its.length (recvAll (theConn checkAny drains) frames)

/-- `gcm <ops>` (go/props/c16/gcm.go): A sends Ping{7}, Ping{7}, Ping{8} (the proxy recovers the GHASH
key), the victim Ping{7}, Ping{9}; per op the proxy replaces the victim by / injects after it a frame
it sealed itself: P type 0→1, B type 0→1 and another nonce, N another nonce, C the P alteration with
the old tag (not a Seal output).  The forgeries carry the victim's value and signature. -/
def stepGcm (checkAny drains : Bool) (ops : String) : String :=
  let ping (v n : Nat) : Frame := pack 7 1 [65] { typ := 0, value := [UInt8.ofNat v] } n false
  let forge (t n : Nat) : Frame :=
    .sealed 1 (.pkg { any := some { typ := t, value := [7] }, sig := .good 7 [7], sender := [65], nonce := n })
  let opl := if ops == "-" then [] else ops.splitOn ","
  let victim := if opl.contains "P" then [] else [ping 7 3]
  let extra := opl.filterMap fun op =>
    match op with
    | "P" => some (forge 1 3)
    | "B" => some (forge 1 88)
    | "N" => some (forge 0 45)
    | "C" => some (.raw 9)
    | _ => none
  if extra.length ≠ opl.length then "bad-op" else
  let st := recvAll (theConn checkAny drains) ([ping 7 0, ping 7 1, ping 8 2] ++ victim ++ extra ++ [ping 9 4])
  let cnt (t v : Nat) : Nat := ((toSubscriber t st.out).filter fun d => d.value = [UInt8.ofNat v]).length
  let d7 : Int := (cnt 0 7 : Int) - 3
  let conn := if cnt 0 9 = 1 then "live" else "dead"
  let alive := if st.crashed then "no" else "yes"
  s!"gcm h=ok dping7={d7} ping8={cnt 0 8} ping9={cnt 0 9} pong={(toSubscriber 1 st.out).length} conn={conn} alive={alive}"

def driverStep (checkAny drains : Bool) (line : String) : String :=
  match words line with
  | ["mitm", msgs, ops] => stepMitm checkAny drains msgs ops
  | ["gcm", ops] => stepGcm checkAny drains ops
  | ["own", items] => stepOwn checkAny drains items
  | ["race", n] =>
    -- n independent honest connections with one message each (a failed handshake on ANOTHER
    -- connection is not an event of these connections)
    match n.toNat? with
    | some n =>
      let ok := (List.range n).filter fun i =>
        (recvAll (theConn checkAny) [goodFrame i 0]).out.length = 1
      s!"race delivered={ok.length}/{n} alive=yes"
    | none => "bad-op"
  | _ => "bad-op"

end Dos.P2PSym
