/-
C20 (round 5, follow-up) — group/edwards25519/point.go (and `extended.Double` of ge.go) as DATA: the bodies of the
`point` methods are sequences of calls of ge.go methods on struct values, pointer rebinding, three kinds of `if` and
one byte-comparison loop.  `go/extract/ed25519ge` (ptprog.go) translates them statement by statement into `PtFn`s
(`Gen/Ed25519Pt.lean`); this file is the interpreter.  Core Lean only.

* A Go identifier is a SLOT; a slot designates a REGISTER (an object).  Formals are bound to registers by the caller, so
  aliased arguments (`P.Add(P, Q)`, `P.Neg(P)`) share a register as they share memory.  `E1 := P1.(*point)`,
  `a := &s.(*scalar).v`, `a = &red` rebind a slot; `var t2 cachedGroupElement` makes a fresh object.
* `x.ge` of a `*point` designates the point's register (a `point` is its `ge` plus the flag `varTime`).
* A callee (`Fn`) is a method of ge.go chosen by the STATIC type of the receiver expression, or one of the functions
  geScalarMult / geScalarMultBase / geScalarMultVartime / scReduce / copy.  Its meaning is the model function of
  Model/Ed25519Ge.lean — the translated straight-line methods (complAdd, extToCached, …) and, for ToBytes / FromBytes /
  geScalarMult / geScalarMultBase, the hand models over the translated segments.  The only callee of point.go that can
  be reached with receiver = argument is `extended.Neg` (`P.Neg(P)`): the interpreter runs it on shared registers then.
Theorems (Props/C20Point.lean): for every aliasing pattern of the formals each translated method IS the hand model
`ptAdd … ptEqual` the group theorems are about.
-/
import DosModel.Model.Ed25519Ge

namespace Dos.PtProg
open Dos Dos.Ed25519 Dos.Ge

/-- an object -/
inductive Val where
  /-- an `extendedGroupElement`, or a `point` (its `ge` and `varTime`) -/
  | ext (e : Ext) (varTime : Bool)
  | cached (c : Cached)
  | compl (c : Compl)
  | proj (p : Proj)
  /-- `[32]byte`, `[64]byte`, `[]byte`, `scalar.v` -/
  | bytes (b : Bytes)
  /-- a nil `kyber.Point` argument -/
  | nil
  | unset
  deriving Inhabited

inductive Ty where
  | cached | compl | proj | ext | bytes (n : Nat)
  deriving Repr, DecidableEq

/-- the zero value of a declared local -/
def Ty.zero : Ty → Val
  | .cached => .cached ⟨z10, z10, z10, z10⟩
  | .compl => .compl ⟨z10, z10, z10, z10⟩
  | .proj => .proj ⟨z10, z10, z10⟩
  | .ext => .ext ⟨z10, z10, z10, z10⟩ false
  | .bytes n => .bytes (List.replicate n 0)

/-- callees: `<receiver type>_<Method>` of ge.go, package functions, and the two struct assignments of point.go -/
inductive Fn where
  | extended_ToCached | extended_ToProjective | extended_Neg | extended_Zero | extended_ToBytes
  | extended_FromBytes | extended_Double
  | completed_Add | completed_Sub | completed_ToExtended | completed_ToProjective
  | projective_Double
  | geScalarMult | geScalarMultBase | geScalarMultVartime | scReduce
  /-- `copy(dst[:], src[:])` -/
  | copy
  /-- `P.ge = baseext` -/
  | setBaseext
  /-- `P.ge = P2.(*point).ge` -/
  | copyGe
  deriving Repr, DecidableEq

inductive Ret where
  /-- `return P` (the receiver) -/
  | recv
  | bool (b : Bool)
  | int (n : Nat)
  /-- `return b[:], nil` -/
  | bytesOf (slot : Nat)
  /-- `return errors.New(…)` -/
  | err
  /-- `return nil` (no error) -/
  | ok
  /-- `return &point{ge: P.ge}` -/
  | clone (slot : Nat)
  deriving Repr, DecidableEq

inductive Stmt where
  /-- slot `name` now designates the object slot `src` designates -/
  | bind (name src : Nat)
  /-- `var name T` -/
  | decl (name : Nat) (ty : Ty)
  /-- a call; the arguments are slots, receiver first, in source order -/
  | call (f : Fn) (args : List Nat)
  /-- `if x[idx] > k { … }` -/
  | ifByteGt (name idx k : Nat) (thn : List Stmt)
  /-- `if X == nil { … } else { … }` -/
  | ifNil (name : Nat) (thn els : List Stmt)
  /-- `if P.varTime { … } else { … }` -/
  | ifVarTime (name : Nat) (thn els : List Stmt)
  /-- `if !<the call just made> { … }` -/
  | ifNotFlag (thn : List Stmt)
  /-- `for i := range a { if a[i] != b[i] { … } }` -/
  | rangeNe (a b : Nat) (thn : List Stmt)
  | ret (r : Ret)

structure PtFn where
  /-- number of slots (formals first: receiver, then the parameters) -/
  slots : Nat
  body : List Stmt

/-- what a method returned -/
inductive Res where
  | recv | bool (b : Bool) | int (n : Nat) | bytes (b : Bytes) | err | ok | point (e : Ext) | none
  deriving Inhabited

structure St where
  names : List Nat
  regs : List Val
  flag : Bool := true
  res : Res := .none
  done : Bool := false
  panicked : Bool := false

def St.reg (st : St) (slot : Nat) : Nat := st.names.getD slot 0
def St.val (st : St) (slot : Nat) : Val := st.regs.getD (st.reg slot) .unset
def St.setVal (st : St) (slot : Nat) (v : Val) : St := { st with regs := st.regs.set (st.reg slot) v }

def geOf : Val → Ext
  | .ext e _ => e
  | _ => default
def vtOf : Val → Bool
  | .ext _ vt => vt
  | _ => false
def cachedOf : Val → Cached
  | .cached c => c
  | _ => default
def complOf : Val → Compl
  | .compl c => c
  | _ => default
def projOf : Val → Proj
  | .proj p => p
  | _ => default
def bytesOf : Val → Bytes
  | .bytes b => b
  | _ => []

/-- write the `ge` of an object, keeping its `varTime` -/
def St.setGe (st : St) (slot : Nat) (e : Ext) : St := st.setVal slot (.ext e (vtOf (st.val slot)))

/-- `copy(dst, src)` -/
def copyInto (dst src : Bytes) : Bytes := src.take dst.length ++ dst.drop src.length

def arg (args : List Nat) (i : Nat) : Nat := args.getD i 0

/-- one call -/
def applyFn (st : St) (f : Fn) (a : List Nat) : St :=
  match f with
  | .extended_ToCached => st.setVal (arg a 1) (.cached (extToCached (geOf (st.val (arg a 0)))))
  | .extended_ToProjective => st.setVal (arg a 1) (.proj (extToProj (geOf (st.val (arg a 0)))))
  | .extended_Neg =>
    if st.reg (arg a 0) = st.reg (arg a 1) then st.setGe (arg a 0) (extNegInPlace (geOf (st.val (arg a 1))))
    else st.setGe (arg a 0) (extNeg (geOf (st.val (arg a 1))))
  | .extended_Zero => st.setGe (arg a 0) extZero
  | .extended_ToBytes => st.setVal (arg a 1) (.bytes (extToBytes (geOf (st.val (arg a 0)))))
  | .extended_FromBytes =>
    match extFromBytes (bytesOf (st.val (arg a 1))) with
    | some e => { st.setGe (arg a 0) e with flag := true }
    | none => { st.setVal (arg a 0) .unset with flag := false }
  | .extended_Double => st.setVal (arg a 1) (.compl (extDouble (geOf (st.val (arg a 0)))))
  | .completed_Add => st.setVal (arg a 0) (.compl (complAdd (geOf (st.val (arg a 1))) (cachedOf (st.val (arg a 2)))))
  | .completed_Sub => st.setVal (arg a 0) (.compl (complSub (geOf (st.val (arg a 1))) (cachedOf (st.val (arg a 2)))))
  | .completed_ToExtended => st.setGe (arg a 1) (complToExt (complOf (st.val (arg a 0))))
  | .completed_ToProjective => st.setVal (arg a 1) (.proj (complToProj (complOf (st.val (arg a 0)))))
  | .projective_Double => st.setVal (arg a 1) (.compl (projDouble (projOf (st.val (arg a 0)))))
  | .geScalarMult =>
    st.setGe (arg a 0) (Ge.geScalarMult (bytesOf (st.val (arg a 1))) (geOf (st.val (arg a 2))))
  | .geScalarMultBase => st.setGe (arg a 0) (Ge.geScalarMultBase (bytesOf (st.val (arg a 1))))
  | .geScalarMultVartime => { st with panicked := true, done := true }
  | .scReduce => st.setVal (arg a 0) (.bytes (Gen.Ed25519Sc.scReduce shrI (bytesOf (st.val (arg a 1)))))
  | .copy => st.setVal (arg a 0) (.bytes (copyInto (bytesOf (st.val (arg a 0))) (bytesOf (st.val (arg a 1)))))
  | .setBaseext => st.setGe (arg a 0) baseExt
  | .copyGe => st.setGe (arg a 0) (geOf (st.val (arg a 1)))

def evalRet (st : St) : Ret → Res
  | .recv => .recv
  | .bool b => .bool b
  | .int n => .int n
  | .bytesOf s => .bytes (bytesOf (st.val s))
  | .err => .err
  | .ok => .ok
  | .clone s => .point (geOf (st.val s))

/-- whether two byte arrays differ at some index of the first -/
def firstNe (a b : Bytes) : Bool := (List.range a.length).any (fun i => a.getD i 0 != b.getD i 0)

mutual
  def runStmt (st : St) : Stmt → St
    | .bind name src => if st.done then st else { st with names := st.names.set name (st.reg src) }
    | .decl name ty =>
      if st.done then st else { st with names := st.names.set name st.regs.length, regs := st.regs ++ [ty.zero] }
    | .call f args => if st.done then st else applyFn st f args
    | .ifByteGt name idx k thn =>
      if st.done then st else
      if ((bytesOf (st.val name)).getD idx 0).toNat > k then runBlock st thn else st
    | .ifNil name thn els =>
      if st.done then st else
      match st.val name with
      | .nil => runBlock st thn
      | _ => runBlock st els
    | .ifVarTime name thn els =>
      if st.done then st else
      if vtOf (st.val name) then runBlock st thn else runBlock st els
    | .ifNotFlag thn => if st.done then st else if st.flag then st else runBlock st thn
    | .rangeNe a b thn =>
      -- the body only ever returns: the loop ends at the first differing index, or runs through
      if st.done then st else
      if firstNe (bytesOf (st.val a)) (bytesOf (st.val b)) then runBlock st thn else st
    | .ret r => if st.done then st else { st with res := evalRet st r, done := true }
  def runBlock (st : St) : List Stmt → St
    | [] => st
    | s :: rest => runBlock (runStmt st s) rest
end

/-- run a method: `actuals` are the registers of the receiver and the parameters -/
def PtFn.run (f : PtFn) (actuals : List Nat) (regs : List Val) : St :=
  runBlock { names := actuals ++ List.replicate (f.slots - actuals.length) 0, regs := regs } f.body

end Dos.PtProg
