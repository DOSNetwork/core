/-
Model of `sign/bls/bls.go` (`Sign`, `Verify`, `hashToPoint`) and of `pointGT.PairingCheck`
(group/bn256/point.go), generic in the group / pairing operations it calls.  Core Lean only.

`PairingOps` = the operations `PairingCheck` uses (`IsInfinity` on both sides, `miller`,
`gfP12.Mul`, `finalExponentiation(..).IsOne()`); `BlsOps` adds what `bls.go` calls.
`Props/C06.lean` proves, for EVERY instance whose operations form a bilinear pairing, that
`verify` accepts exactly when e(−S, g₂)·e(h•g₁, X) = 1.

Two instances are used by the drivers:
* `evalOps` (below): P1 = the concrete affine curve of `Model/Bn256.lean`, a public key is given by
  its discrete log x (X = x•g₂, the harness knows x for every key it makes), "PT" = P1 with
  e(P, x) = x•P.  This is a genuine bilinear map P1 × Z_r → P1 (non-degenerate because P1 has prime
  order r), so the driver decides acceptance by the point equation −S + x•(h•g₁) = O.
-/
import DosModel.Model.Codec
import DosModel.Model.Keccak

namespace Dos.Bls
open Dos Dos.Codec

structure PairingOps (P1 P2 PT : Type) where
  isInf1 : P1 → Bool            -- `ap.IsInfinity()`
  isInf2 : P2 → Bool            -- `bp.IsInfinity()`
  miller : P2 → P1 → PT         -- `miller(bp, ap)`
  one : PT                      -- `acc.SetOne()`
  mul : PT → PT → PT            -- `acc.Mul(acc, …)`
  finalIsOne : PT → Bool        -- `finalExponentiation(acc).IsOne()`

variable {P1 P2 PT : Type}

/-- the loop of `PairingCheck`: `for i := 0; i < len(a); i++ { a[i], b[i] … }`.
`none` = index out of range (`b` shorter than `a`) -/
def pairingAcc (o : PairingOps P1 P2 PT) : List P1 → List P2 → PT → Option PT
  | [], _, acc => some acc
  | _ :: _, [], _ => none
  | a :: as, b :: bs, acc =>
    if o.isInf1 a || o.isInf2 b then pairingAcc o as bs acc      -- `continue`
    else pairingAcc o as bs (o.mul acc (o.miller b a))

def pairingCheck (o : PairingOps P1 P2 PT) (as : List P1) (bs : List P2) : Out Bool :=
  match pairingAcc o as bs o.one with
  | none => .panic "index out of range"
  | some acc => .ok (o.finalIsOne acc)

structure BlsOps (P1 P2 PT : Type) extends PairingOps P1 P2 PT where
  hashScalar : Bytes → Nat      -- `Scalar().SetBytes(keccak256(msg))`: big-endian, reduced mod r
  baseMul1 : Nat → P1           -- `suite.P1().Point().Mul(x, nil)`
  mul1 : Nat → P1 → P1          -- `HM.Mul(x, HM)`
  neg1 : P1 → P1                -- `s.Neg(s)`
  base2 : P2                    -- `suite.P2().Point().Base()`
  unmarshal1 : Bytes → Out P1   -- `s.UnmarshalBinary(sig)`
  marshal1 : P1 → Bytes         -- `xHM.MarshalBinary()`

inductive Verdict where
  | accept
  | rejectParse (e : DecErr)     -- `UnmarshalBinary` error is returned
  | rejectPairing                -- "bls: invalid signature"
  | panic (site : String)
  deriving DecidableEq, Repr

def hashToPoint (o : BlsOps P1 P2 PT) (msg : Bytes) : P1 := o.baseMul1 (o.hashScalar msg)

/-- `bls.Verify(suite, X, msg, sig)` -/
def verify (o : BlsOps P1 P2 PT) (X : P2) (msg sig : Bytes) : Verdict :=
  match o.unmarshal1 sig with
  | .err e => .rejectParse e
  | .panic s => .panic s
  | .ok s =>
    -- (the code computes `HM := hashToPoint(suite, msg)` before parsing; it is a pure value)
    match pairingCheck o.toPairingOps [o.neg1 s, hashToPoint o msg] [o.base2, X] with
    | .ok true => .accept
    | .ok false => .rejectPairing
    | .err _ => .panic "unreachable"
    | .panic st => .panic st

/-- `bls.Sign(suite, x, msg)` -/
def sign (o : BlsOps P1 P2 PT) (x : Nat) (msg : Bytes) : Bytes :=
  o.marshal1 (o.mul1 x (hashToPoint o msg))

/-! ### the instance the drivers evaluate -/

open Dos.Bn256 in
/-- keccak256(msg) read big-endian and reduced mod r -/
def keccakScalar (msg : Bytes) : Nat := beNat (Keccak.keccak256 msg) % r

open Dos.Bn256 in
/-- G1 concrete; a G2 element is represented by its discrete log x < r w.r.t. g₂; e(P, x) = x•P ∈ G1.
`evalOps_isPairing` (`Proofs/BlsEval.lean`) proves that this instance satisfies the hypotheses of the generic
theorems (with the group structure of `E(F_p)` transported along `Compose.pt1`). -/
def evalOps : BlsOps G1 Nat G1 where
  isInf1 := fun P => P == .inf
  isInf2 := fun x => x == 0            -- the drivers pass discrete logs already reduced mod r
  miller := fun x P => G1.smul x P
  one := .inf
  mul := G1.add
  finalIsOne := fun P => P == .inf
  hashScalar := keccakScalar
  baseMul1 := fun k => G1.smul k g1gen
  mul1 := G1.smul
  neg1 := G1.neg
  base2 := 1
  unmarshal1 := unmarshalG1
  marshal1 := marshalG1

def verdictName : Verdict → String
  | .accept => "accept"
  | .rejectParse e => "reject parse:" ++ errName e
  | .rejectPairing => "reject pairing"
  | .panic s => "panic " ++ s

end Dos.Bls
