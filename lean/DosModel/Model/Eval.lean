/-
C07, round 4 — evaluation of a URL query as a machine, so that "repeated and concurrent
evaluation" has a meaning in the model.

`dataParse` (dosnode/dos_stages.go) dispatches on the first byte of the selector and hands the
document to one of two EXTERNAL engines (ajson / xmlquery: parameters, `Engines`); the XPath branch
then appends the selected nodes one by one.  `genQueryResult` appends the submitter address.
`queryResult` is the one-shot function; `step` cuts one evaluation at its statements (dispatch +
engine call, one loop iteration per selected node, append submitter).  Several evaluations in
flight on one node are a list of such machines and a schedule that says whose turn it is
(`runSched`): each machine owns its state and there is NO state outside the machines – that is
what the regenerated facts `Gen.PkgVars.dosnode = []` and the statement skeleton of `dataParse`
(the only package-level identifiers it refers to are the two nesting guards and their bound) say about the code, and what the `cq` cases of the
correspondence run test (G goroutines released on a barrier, every result compared with the
sequential reference).

Also: the group table of share/dkg/pedersen/pdkg.go as far as the member list is concerned
(`Book`): how the list announced in LogGrouping is stored, looked up and dropped.
Core Lean only.
-/
import DosModel.Model.Content

namespace Dos.Eval
open Dos Dos.Content

/-- what `dataParse` returns: bytes, or an error (`err` includes a recovered engine panic since
/repo eecdd6b; `panic` is kept for a panic that escapes, which the harness would record) -/
inductive Parsed where
  | ok (b : Bytes)
  | err
  | panic
  deriving DecidableEq, Repr

/-- the external selector engines.
`json doc sel` = `ajson.JSONPath` + `Unpack` of every node + `json.Marshal`;
`xml doc sel`  = `xmlquery.Parse` + `xmlquery.Find`: `OutputXML(false)` of the selected nodes in
document order, or an error (document does not parse, selector does not compile, recovered panic). -/
inductive XmlOut where
  | nodes (ns : List Bytes)
  | err
  | panic
  deriving DecidableEq, Repr

structure Engines where
  json : Bytes → Bytes → Parsed
  xml : Bytes → Bytes → XmlOut

/-- `for _, xmlNode := range xmlNodes { msg = append(msg, OutputXML...); msg = append(msg, "\n"...) }` -/
def xmlJoin : List Bytes → Bytes
  | [] => []
  | n :: ns => n ++ [10] ++ xmlJoin ns

/-! ### the nesting guard (/repo 14409e8)

`jsonDepthExceeds(rawMsg, maxDocumentDepth)` is repository code over the raw bytes and is transcribed
here statement by statement (`Gen.DosnodeFlow.jsonDepthExceeds`, pinned by `c07_depth_guard_shape`).
`xmlDepthExceeds` walks the tree `xmlquery.Parse` built – a third-party structure: its verdict is part
of the XML engine parameter (`Engines.xml … = .err` for a tree deeper than the bound); the `depth`
cases of the correspondence run check both at 1000 / 1001 levels. -/

def maxDocumentDepth : Nat := 1000

/-- the loop state of `jsonDepthExceeds`: `depth, inString, escaped`, and `over` = `return true` taken -/
structure JScan where
  depth : Nat
  inString : Bool
  escaped : Bool
  over : Bool
  deriving DecidableEq, Repr

/-- one iteration of `for _, c := range b` -/
def jsonScanStep (max : Nat) (s : JScan) (c : UInt8) : JScan :=
  if s.over then s
  else if s.inString then
    if s.escaped then { s with escaped := false }
    else if c = 0x5c then { s with escaped := true }
    else if c = 0x22 then { s with inString := false }
    else s
  else if c = 0x22 then { s with inString := true }
  else if c = 0x5b ∨ c = 0x7b then
    if max < s.depth + 1 then { s with depth := s.depth + 1, over := true } else { s with depth := s.depth + 1 }
  else if c = 0x5d ∨ c = 0x7d then { s with depth := s.depth - 1 }   -- `if depth > 0 { depth-- }`
  else s

def jsonDepthExceeds (b : Bytes) (max : Nat) : Bool :=
  (b.foldl (jsonScanStep max) { depth := 0, inString := false, escaped := false, over := false }).over

/-- the `$` branch of `dataParse`: the guard, then the JSON engine -/
def jsonBranch (E : Engines) (doc sel : Bytes) : Parsed :=
  if jsonDepthExceeds doc maxDocumentDepth then .err else E.json doc sel

/-- `dataParse`: empty selector → the document itself; `$…` → nesting guard, JSON engine; `/…` → XML
engine (its nesting guard included); anything else → `(nil, nil)`: an empty result. -/
def dataParse (E : Engines) (doc sel : Bytes) : Parsed :=
  match sel with
  | [] => .ok doc
  | c :: _ =>
    if c = 0x24 then jsonBranch E doc sel
    else if c = 0x2f then
      match E.xml doc sel with
      | .nodes ns => .ok (xmlJoin ns)
      | .err => .err
      | .panic => .panic
    else .ok []

/-! ### what `dataParse` does with the engines' results (round 5, task 3b)

Finer engine parameters, so that only `ajson.JSONPath` (+ the serialisation of ONE selected value) and
`xmlquery.Parse` + `xmlquery.Find` (+ `OutputXML` of ONE selected node) stay outside the model:

* JSON: `nodes, err = ajson.JSONPath(rawMsg, pathStr)`; then for every node IN THE ORDER OF THE RESULT
  `value, err = node.Unpack()` (the first failure ends the evaluation with an error), `results =
  append(results, value)`, and `json.Marshal(results)` of the list (never nil: `make([]interface{}, 0)`):
  `[` + the elements' encodings separated by `,` + `]` – `[]` when nothing was selected;
* XML: for every node in the order of `Find`'s result `OutputXML(false)` followed by a line feed
  (`xmlJoin`, above). -/

/-- `ajson.JSONPath` and, per selected node in result order, the `encoding/json` text of its
`Unpack()`ed value (`none` = `Unpack` fails) -/
inductive JsonOut where
  | nodes (vs : List (Option Bytes))
  | err
  | panic
  deriving DecidableEq, Repr

/-- `json.Marshal` of a list: the elements' encodings separated by commas -/
def jsonJoin : List Bytes → Bytes
  | [] => []
  | [v] => v
  | v :: w :: vs => v ++ [0x2c] ++ jsonJoin (w :: vs)

/-- the `for _, node := range nodes { value, err = node.Unpack(); if err != nil { return } … }` loop -/
def unpackAll : List (Option Bytes) → Option (List Bytes)
  | [] => some []
  | none :: _ => none
  | some v :: rest => (unpackAll rest).map (fun l => v :: l)

def jsonAssemble : JsonOut → Parsed
  | .nodes vs =>
    match unpackAll vs with
    | some l => .ok ([0x5b] ++ jsonJoin l ++ [0x5d])
    | none => .err
  | .err => .err
  | .panic => .panic

structure Engines2 where
  jsonNodes : Bytes → Bytes → JsonOut
  xml : Bytes → Bytes → XmlOut

/-- the engines of the sections above, with the JSON post-processing of `dataParse` spelled out -/
def Engines2.toEngines (E : Engines2) : Engines :=
  { json := fun d s => jsonAssemble (E.jsonNodes d s), xml := E.xml }

/-- one URL query at one node: the fetched document, the selector, the submitter address -/
structure Req where
  doc : Bytes
  sel : Bytes
  addr : Bytes
  deriving DecidableEq, Repr

/-- `genQueryResult` in one go: `none` = an error is reported and nothing is signed -/
def queryResult (E : Engines) (r : Req) : Option Bytes :=
  match dataParse E r.doc r.sel with
  | .ok p => some (queryContent p r.addr)
  | _ => none

/-! ### the same, cut at its statements -/

inductive Pc where
  | start
  | xmlLoop (rest : List Bytes) (acc : Bytes)
  | parsed (p : Bytes)
  | done (out : Option Bytes)
  deriving DecidableEq, Repr

structure Ev where
  req : Req
  pc : Pc
  deriving DecidableEq, Repr

def init (r : Req) : Ev := { req := r, pc := .start }

def step (E : Engines) (e : Ev) : Ev :=
  match e.pc with
  | .start =>
    match e.req.sel with
    | [] => { e with pc := .parsed e.req.doc }
    | c :: _ =>
      if c = 0x24 then
        match jsonBranch E e.req.doc e.req.sel with
        | .ok p => { e with pc := .parsed p }
        | _ => { e with pc := .done none }
      else if c = 0x2f then
        match E.xml e.req.doc e.req.sel with
        | .nodes ns => { e with pc := .xmlLoop ns [] }
        | _ => { e with pc := .done none }
      else { e with pc := .parsed [] }
  | .xmlLoop [] acc => { e with pc := .parsed acc }
  | .xmlLoop (n :: ns) acc => { e with pc := .xmlLoop ns (acc ++ n ++ [10]) }
  | .parsed p => { e with pc := .done (some (queryContent p e.req.addr)) }
  | .done o => { e with pc := .done o }

def iter (E : Engines) : Nat → Ev → Ev
  | 0, e => e
  | k + 1, e => iter E k (step E e)

/-- the result of a finished evaluation -/
def result (e : Ev) : Option (Option Bytes) :=
  match e.pc with
  | .done o => some o
  | _ => none

/-- enough turns for one evaluation of `r` to finish: dispatch, one per selected node, end of loop,
append, (and any more change nothing) -/
def turns (E : Engines) (r : Req) : Nat :=
  match r.sel with
  | [] => 2
  | c :: _ =>
    if c = 0x2f then
      match E.xml r.doc r.sel with
      | .nodes ns => ns.length + 3
      | _ => 2
    else 2

/-! ### several evaluations in flight -/

/-- machine `i` takes one step; an index outside the list is an idle turn -/
def stepAt (E : Engines) (i : Nat) : List Ev → List Ev
  | [] => []
  | e :: es =>
    match i with
    | 0 => step E e :: es
    | j + 1 => e :: stepAt E j es

/-- a schedule: whose turn it is, turn after turn (ANY list: unfair, bursty, idle turns) -/
def runSched (E : Engines) (sch : List Nat) (es : List Ev) : List Ev :=
  sch.foldl (fun g i => stepAt E i g) es

/-- evaluations one after the other (a history of requests handled by one node) -/
def runHistory (E : Engines) (rs : List Req) : List (Option Bytes) := rs.map (queryResult E)

/-! ### the group table (share/dkg/pedersen/pdkg.go: `groups sync.Map`, key = group id text) -/

/-- `group.participants` per group id, in insertion order -/
abbrev Book := List (Nat × List Bytes)

def Book.ids (b : Book) (gid : Nat) : Option (List Bytes) :=
  match b with
  | [] => none
  | (g, l) :: rest => if g = gid then some l else Book.ids rest gid

inductive Op where
  /-- `LogGrouping{GroupId, NodeId}` → `go d.handleGrouping(content.NodeId, groupID)` -/
  | grouping (gid : Nat) (nodeIds : List Bytes)
  /-- `d.dkg.GroupDissolve(groupID)` → `d.groups.Delete(groupId)` -/
  | dissolve (gid : Nat)
  deriving DecidableEq, Repr

/-- `handleGrouping`: not a member of the announced list → nothing; else `dkg.Grouping`:
`group := &group{participants: groupIds}`, `LoadOrStore(sessionID, group)`: an id that is already
in the table keeps its entry ("duplicate" error).  The list is stored AS ANNOUNCED. -/
def Book.apply (me : Bytes) (b : Book) : Op → Book
  | .grouping gid ids =>
    if me ∈ ids then
      match Book.ids b gid with
      | some _ => b
      | none => b ++ [(gid, ids)]
    else b
  | .dissolve gid => b.filter (fun p => p.1 ≠ gid)

def Book.run (me : Bytes) (ops : List Op) : Book := ops.foldl (Book.apply me) []

/-- `groupInfo` + `choseSubmitter`: the submitter a node computes for a request of group `gid`
with last randomness `r`; `none` = no such group / empty list ("No Group info": event ignored) -/
def Book.submitterOf (b : Book) (gid r : Nat) : Option Bytes :=
  match Book.ids b gid with
  | none => none
  | some ids => submitter ids r

/-! ### the node around the group table (dosnode/dos_chain_handler.go, round 5 / review H #6)

`Book.apply (.dissolve g)` is `pdkg.GroupDissolve` itself.  The NODE calls it only when it holds a
share for the group: `case *onchain.LogGroupDissolve: if d.isMember(groupID) { d.dkg.GroupDissolve(groupID) }`
with `isMember = d.dkg.GetShareSecurity(groupID) != nil`; and a request event is handled only under
the same test.  A share exists once the key generation of the entry is certified (`genGroup`,
pdkg_pipes.go: `group.secShare = secShare`). -/

structure NodeSt where
  book : Book
  shares : List Nat          -- group ids whose entry holds a share (`GetShareSecurity != nil`)
  deriving Repr

def NodeSt.init : NodeSt := { book := [], shares := [] }

inductive NodeOp where
  /-- `LogGrouping` → `handleGrouping` → `pdkg.Grouping` (the bookkeeping part) -/
  | grouping (gid : Nat) (nodeIds : List Bytes)
  /-- the key generation of the CURRENT entry of `gid` is certified: the entry now holds a share -/
  | certified (gid : Nat)
  /-- `LogGroupDissolve`: `if d.isMember(groupID) { d.dkg.GroupDissolve(groupID) }` -/
  | dissolve (gid : Nat)
  deriving DecidableEq, Repr

def NodeSt.apply (me : Bytes) (st : NodeSt) : NodeOp → NodeSt
  | .grouping gid ids => { st with book := Book.apply me st.book (.grouping gid ids) }
  | .certified gid =>
    match Book.ids st.book gid with
    | some _ => if gid ∈ st.shares then st else { st with shares := gid :: st.shares }
    | none => st
  | .dissolve gid =>
    if gid ∈ st.shares then
      { book := Book.apply me st.book (.dissolve gid), shares := st.shares.filter (fun g => g ≠ gid) }
    else st      -- no share: the entry – if any – STAYS (and a re-announcement of the id is refused)

def NodeSt.run (me : Bytes) (ops : List NodeOp) : NodeSt := ops.foldl (NodeSt.apply me) NodeSt.init

/-- a request event of group `gid`: `isMember(gid)`, `groupInfo(gid)`, then `choseSubmitter`;
`none` = the event is ignored (no share, or "No Group info") -/
def NodeSt.submitterOf (st : NodeSt) (gid r : Nat) : Option Bytes :=
  if gid ∈ st.shares then Book.submitterOf st.book gid r else none

/-! ### line protocol (driver) -/

def parsedOfTok (s : String) : Option Parsed :=
  if s == "err" then some .err else if s == "panic" then some .panic else (ofHex s).map .ok

/-- the node outputs of a recorded XPath result: the pieces terminated by a line feed (what the
loop of `dataParse` appended; a last piece without terminator is not something the loop produces and
is dropped, which then shows as a disagreement) -/
def splitNodes (p : Bytes) : List Bytes :=
  let rec go : Bytes → Bytes → List Bytes
    | [], _ => []
    | b :: rest, cur => if b = 10 then cur.reverse :: go rest [] else go rest (b :: cur)
  go p []

/-- the elements of a recorded JSON result `[e1,e2,…]`: split at the commas of the outer array
(strings and nested arrays / objects are skipped over); `none` = not of that form (the JSON branch of
`dataParse` cannot have produced it: shows as a disagreement) -/
def splitJsonArray (b : Bytes) : Option (List Bytes) :=
  match b with
  | 0x5b :: rest =>
    let rec go : Bytes → Nat → Bool → Bool → Bytes → List Bytes → Option (List Bytes)
      | [], _, _, _, _, _ => none
      | c :: cs, depth, inStr, esc, cur, acc =>
        if inStr then
          if esc then go cs depth true false (c :: cur) acc
          else if c = 0x5c then go cs depth true true (c :: cur) acc
          else if c = 0x22 then go cs depth false false (c :: cur) acc
          else go cs depth true false (c :: cur) acc
        else if c = 0x22 then go cs depth true false (c :: cur) acc
        else if c = 0x5b ∨ c = 0x7b then go cs (depth + 1) false false (c :: cur) acc
        else if c = 0x7d then go cs (depth - 1) false false (c :: cur) acc
        else if c = 0x5d then
          if depth = 0 then
            (if cs.isEmpty then some (if cur.isEmpty ∧ acc.isEmpty then [] else (cur.reverse :: acc).reverse) else none)
          else go cs (depth - 1) false false (c :: cur) acc
        else if c = 0x2c ∧ depth = 0 then go cs 0 false false [] (cur.reverse :: acc)
        else go cs depth false false (c :: cur) acc
    go rest 0 false false [] []
  | _ => none

/-- the engines of a case line: what the harness observed for this (doc, sel) when the case was
generated, cut into the engine's per-node results.  The dispatch of `dataParse` (empty selector, `$`,
`/`, other), the nesting guard, the assembly of the JSON array, the node loop of the XPath branch and
the final append are the model's. -/
def recordedEngines2 (p : Parsed) : Engines2 :=
  { jsonNodes := fun _ _ => match p with
      | .ok b =>
        match splitJsonArray b with
        | some es => .nodes (es.map some)
        | none => .nodes [some (0x3f :: b)]     -- not an array: the assembly will not reproduce it
      | .err => .err
      | .panic => .panic,
    xml := fun _ _ => match p with
      | .ok b => .nodes (splitNodes b)
      | .err => .err
      | .panic => .panic }

/-- the engines of a case line, coarse form: the JSON array is re-assembled element by element by
`jsonAssemble`, the XPath result node by node by `xmlJoin` -/
def recordedEngines (p : Parsed) : Engines := (recordedEngines2 p).toEngines

def showContent (E : Engines) (r : Req) : String :=
  match dataParse E r.doc r.sel with
  | .ok p => toHex (queryContent p r.addr)
  | .err => "err parse"
  | .panic => "panic parse"

def parseOps (s : String) : Option (List Op) :=
  if s == "-" then some [] else
  (s.splitOn ",").mapM (fun t =>
    match t.splitOn ":" with
    | ["D", g] => g.toNat?.map Op.dissolve
    | ["G", g, ids] => do
      let g ← g.toNat?
      let l ← if ids == "-" then some [] else (ids.splitOn ";").mapM ofHex
      pure (Op.grouping g l)
    | _ => none)

/-- `path` line: the content of one request kind through `genSign`, `recoverSign` (strip) and
`reportQueryResult` (which adaptor call): `rand <result>` / `data <result>` / `skipped` -/
def showPath (addrLen : Nat) (sys : Bool) (content : Bytes) : String :=
  match stripResult addrLen content with
  | .ok res => (if sys then "rand " else "data ") ++ toHex res
  | .tooShort => "skipped"

def stepLine (padSize addrLen : Nat) (line : String) : Option String :=
  match words line with
  | ["path", "sys", r, a] =>
    match r.toNat?, ofHex a with
    | some r, some a => some (showPath addrLen true (sysContent padSize r a))
    | _, _ => some "bad-op"
  | ["path", "user", q, r, sd, a] =>
    match q.toNat?, r.toNat?, sd.toNat?, ofHex a with
    | some q, some r, some sd, some a => some (showPath addrLen false (userContent q r sd a))
    | _, _, _, _ => some "bad-op"
  | ["path", "url", d, a] =>
    match ofHex d, ofHex a with
    | some d, some a =>
      match dataParse (recordedEngines .err) d [] with
      | .ok p => some (showPath addrLen false (queryContent p a))
      | _ => some "bad-op"
    | _, _ => some "bad-op"
  -- query <kind> <parsed|err|panic> <addr> <doc> <selector>
  | ["query", _, p, a, d, s] =>
    match parsedOfTok p, ofHex a, ofHex d, ofHex s with
    | some p, some a, some d, some s => some (showContent (recordedEngines p) { doc := d, sel := s, addr := a })
    | _, _, _, _ => some "bad-op"
  -- cq <mode> <G> <N> <addr> <doc1> <sel1> <ref1> <doc2> <sel2> <ref2>
  | ["cq", _, _, _, a, d1, s1, r1, d2, s2, r2] =>
    match ofHex a, ofHex d1, ofHex s1, parsedOfTok r1 with
    | some a, some d1, some s1, some p1 =>
      let c1 := showContent (recordedEngines p1) { doc := d1, sel := s1, addr := a }
      if d2 == "." then some c1 else
      match ofHex d2, ofHex s2, parsedOfTok r2 with
      | some d2, some s2, some p2 =>
        some (c1 ++ " | " ++ showContent (recordedEngines p2) { doc := d2, sel := s2, addr := a })
      | _, _, _ => some "bad-op"
    | _, _, _, _ => some "bad-op"
  -- subm <lastRand> <id;id;…>
  | ["subm", r, ids] =>
    match r.toNat?, (if ids == "-" then some [] else (ids.splitOn ";").mapM ofHex) with
    | some r, some ids =>
      match submitter ids r with
      | some id => some ("id " ++ toHex id)
      | none => some "panic div0"
    | _, _ => some "bad-op"
  -- grp <me> <ops> <gid> <lastRand>
  | ["grp", me, ops, gid, r] =>
    match ofHex me, parseOps ops, gid.toNat?, r.toNat? with
    | some me, some ops, some gid, some r =>
      -- the node's view: no key generation completes in a `grp` case (block time 0), so no share is
      -- ever held and a dissolve event deletes nothing
      let nops : List NodeOp := ops.map (fun o => match o with
        | .grouping g l => NodeOp.grouping g l
        | .dissolve g => NodeOp.dissolve g)
      let b := (NodeSt.run me nops).book
      match Book.ids b gid with
      | none => some "nogroup"
      | some [] => some "nogroup"
      | some ids =>
        match submitter ids r with
        | some id => some (s!"n={ids.length} id " ++ toHex id)
        | none => some "panic div0"
    | _, _, _, _ => some "bad-op"
  | _ => none

end Dos.Eval
