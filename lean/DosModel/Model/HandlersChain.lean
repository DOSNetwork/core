/-
C12 — handler models, part 4: the CHAIN-EVENT half.

  contract binding (abigen, go-ethereum ABI decoder: every integer field a non-nil *big.Int)
    → `onchain/eth_subscribe.go` proxyTable / crTable entries (translation into `Log…` payloads wrapped in `LogCommon`)
    → `merge` → `firstEvent` (drops what is not a `*LogCommon`, Removed logs, logs seen before)
    → `dosnode.onchainLoop` (type switch) → `handleGrouping` → `pdkg.Grouping`, `isMember` → `pdkg.GetShareSecurity`,
      `groupInfo`, `handleQuery` → `choseSubmitter`, `handleCR`; error values → `DisconnectWs`
  and, beside the loop: `getBootIps` (the bootstrap document named by the bridge contract).

A `*big.Int` field is `Option Nat` (`none` = nil): the handlers have NO nil checks on event fields, so a nil
field reaches a method call and the model says `panic site` there — as the code does. What keeps these
branches unreachable is the translation: every payload field is a verbatim copy of a field the ABI decoder
filled (regenerated fact `Gen.PanicSites.eventFlow`, flag `evFlow`); with that flag off the model's
translation loses the fields and predicts the crash.
-/
import DosModel.Model.Handlers
import DosModel.Model.HandlersNode

namespace Dos.Handlers
open Dos

/-- a `*big.Int` as the handlers see it; `none` = nil -/
abbrev BigF := Option Nat

/-- what `LogCommon.log` holds (group ids, request ids, seeds: any magnitude; member ids: 20-byte addresses, as numbers) -/
inductive Payload where
  | grouping (gid : BigF) (ids : List Nat)
  | dissolve (gid : BigF)
  | keyAccepted (gid : BigF)
  | updateRandom (last gid : BigF)
  | userRandom (rid last seed gid : BigF)
  | url (qid rand gid : BigF)            -- DataSource / Selector go to dataFetch / dataParse (fuzzed: `fzparse`, `fzfetch`)
  | startCR (cid start cdur rdur : BigF)
  | other                                -- a payload without a case in onchainLoop, a nil interface, a non-pointer
  deriving DecidableEq, Repr

def Payload.wf : Payload → Bool
  | .grouping g _ => g.isSome
  | .dissolve g => g.isSome
  | .keyAccepted g => g.isSome
  | .updateRandom l g => l.isSome && g.isSome
  | .userRandom r l s g => r.isSome && l.isSome && s.isSome && g.isSome
  | .url q r g => q.isSome && r.isSome && g.isSome
  | .startCR c s cd rd => c.isSome && s.isSome && cd.isSome && rd.isSome
  | .other => true

/-- a value on the node's error channel -/
inductive ErrVal where
  | plain                 -- any error that is not an *OnchainError
  | onchain (idx : Nat)   -- *OnchainError: `d.chain.DisconnectWs(oError.Idx)`
  deriving DecidableEq, Repr

/-- `pdkg.groups`: what `Grouping` stored; `hasSec`: key generation finished (`genGroup` set secShare and pubPoly) -/
structure GroupRec where
  key : BigF           -- `fmt.Sprintf("%x", GroupId)`: a nil id prints "<nil>", a key of its own
  nids : Nat
  hasSec : Bool
  deriving DecidableEq, Repr

structure EvSt where
  groups : List GroupRec := []
  seed : BigF := some 21888242871839275222246405745257275088548364400416034343698204186575808495617   -- `randSeed` of onchainLoop
  nWs : Nat := 1        -- websocket endpoints of the adaptor (`len(e.wsCancels)`)
  visited : List Nat := []   -- `visited` of firstEvent (identities)
  alive : Bool := true
  deriving Repr

def findGroup (k : BigF) (gs : List GroupRec) : Option GroupRec := gs.find? (fun g => g.key == k)

/-- `isMember(groupID)` = `GetShareSecurity(groupID) != nil` -/
def isMember (cfg : Cfg) (st : EvSt) (gid : BigF) : Except Out Bool :=
  match findGroup gid st.groups with
  | none => .ok false
  | some g =>
    if g.hasSec then .ok true
    else if cfg.secNil then .ok false
    else .error (.panic "dkg.pdkg.GetShareSecurity|deref|dks.Share")

/-- `handleQuery` up to the submitter choice, for a member group: the nonce switch calls `Bytes()` on the
request id, the last randomness and (user random) the seed; `choseSubmitter` takes the last randomness modulo the group size -/
def handleQueryPre (cfg : Cfg) (rid last : BigF) (seed : Option BigF) (nids : Nat) (kind : String) : Out :=
  match rid with
  | none => .panic "dosnode.DosNode.handleQuery|deref|requestID.Bytes"
  | some _ =>
  match last with
  | none => .panic "dosnode.DosNode.handleQuery|deref|lastRand.Bytes"
  | some l =>
  match seed with
  | some none => .panic "dosnode.DosNode.handleQuery|deref|useSeed.Bytes"
  | _ =>
    match choseSubmitter cfg l nids with
    | .ok _ => .ok ("query " ++ kind)
    | o => o

/-- a request event (`LogUpdateRandom`, `LogRequestUserRandom`, `LogUrl`): `randSeed` is updated first, whoever the group is -/
def queryEvent (cfg : Cfg) (st : EvSt) (rid last : BigF) (seed : Option BigF) (gid : BigF) (kind : String) : EvSt × Out :=
  let st := { st with seed := last }
  match isMember cfg st gid with
  | .error o => ({ st with alive := false }, o)
  | .ok false => (st, .dropped)
  | .ok true =>
    -- groupInfo: ids, public polynomial, share
    let nids := ((findGroup gid st.groups).map (·.nids)).getD 0
    if cfg.groupInfoIds && nids = 0 then (st, .err "nogroup")
    else
      match handleQueryPre cfg rid last seed nids kind with
      | .panic s => ({ st with alive := false }, .panic s)
      | o => (st, o)

/-- `handleCR(content, randSeed)`: the seed, then the three block numbers -/
def handleCR (cfg : Cfg) (seed start cdur rdur : BigF) : Out :=
  match seed with
  | none => .panic "dosnode.DosNode.handleCR|deref|randSeed.Cmp(big.NewInt(1))"
  | some s =>
    match handleCRSeed cfg (Int.ofNat s) with
    | .panic p => .panic p
    | _ =>
      match start, cdur, rdur with
      | none, _, _ => .panic "dosnode.DosNode.handleCR|deref|cr.StartBlock.Uint64"
      | some _, none, _ => .panic "dosnode.DosNode.handleCR|deref|cr.CommitDuration.Uint64"
      | some _, some _, none => .panic "dosnode.DosNode.handleCR|deref|cr.RevealDuration.Uint64"
      | some _, some _, some _ => .ok "cr"

/-- one delivered event through onchainLoop's switch; `me`: this node's id -/
def payloadStep (cfg : Cfg) (me : Nat) (st : EvSt) : Payload → EvSt × Out
  | .grouping gid ids =>
    if !ids.contains me then (st, .dropped)                      -- handleGrouping: not a participant
    else match findGroup gid st.groups with
      | some _ => (st, .err "dupgroup")                          -- pdkg.Grouping: LoadOrStore found the id
      | none => ({ st with groups := ⟨gid, ids.length, false⟩ :: st.groups }, .ok s!"grouping {ids.length}")
  | .dissolve gid =>
    match isMember cfg st gid with
    | .error o => ({ st with alive := false }, o)
    | .ok false => (st, .dropped)
    | .ok true => ({ st with groups := st.groups.filter (fun g => g.key != gid) }, .ok "dissolved")
  | .keyAccepted gid =>
    match isMember cfg st gid with
    | .error o => ({ st with alive := false }, o)
    | .ok false => (st, .dropped)
    | .ok true => (st, .ok "accepted")
  | .updateRandom last gid => queryEvent cfg st last last none gid "sys"
  | .userRandom rid last seed gid => queryEvent cfg st rid last (some seed) gid "user"
  | .url qid rand gid => queryEvent cfg st qid rand none gid "url"
  | .startCR _ start cdur rdur =>
    match handleCR cfg st.seed start cdur rdur with
    | .panic s => ({ st with alive := false }, .panic s)
    | o => (st, o)
  | .other => (st, .dropped)

/-! ### the binding's events and their translation -/

/-- a decoded contract event as the abigen binding hands it to the table entry: the ABI decoder fills every
integer field (`Nat`: never nil), `NodeId` is `[]common.Address` -/
inductive RawEv where
  | grouping (gid : Nat) (ids : List Nat)
  | dissolve (gid : Nat)
  | keyAccepted (gid : Nat)
  | updateRandom (last gid : Nat)
  | userRandom (rid last seed gid : Nat)
  | url (qid rand gid : Nat)
  | startCR (cid start cdur rdur : Nat)
  | unsubscribed        -- any other event of the two contracts: no subscription of onchainLoop delivers it
  deriving DecidableEq, Repr

/-- the proxyTable / crTable entry: field-by-field copy (fact `eventFlow`); with the fact broken the model
loses the fields -/
def translate (cfg : Cfg) : RawEv → Option Payload
  | .unsubscribed => none
  | e =>
    let f (n : Nat) : BigF := if cfg.evFlow then some n else none
    match e with
    | .grouping g ids => some (.grouping (f g) ids)
    | .dissolve g => some (.dissolve (f g))
    | .keyAccepted g => some (.keyAccepted (f g))
    | .updateRandom l g => some (.updateRandom (f l) (f g))
    | .userRandom r l s g => some (.userRandom (f r) (f l) (f s) (f g))
    | .url q r g => some (.url (f q) (f r) (f g))
    | .startCR c s cd rd => some (.startCR (f c) (f s) (f cd) (f rd))
    | .unsubscribed => none

/-- an input of the node's chain side -/
inductive ChainIn where
  /-- a log of the contracts: `removed` (chain reorganisation), `ident` (data, block, transaction, index: equal for a re-delivery) -/
  | log (ev : RawEv) (removed : Bool) (ident : Nat)
  /-- a value on the merged event channel that is not a `*LogCommon` -/
  | junk
  /-- an already translated payload handed to onchainLoop directly (the chain double of the harness): any nil-ness -/
  | direct (p : Payload)
  | errv (e : ErrVal)
  /-- the key generation a `LogGrouping` started finishes (internal: `genGroup`) -/
  | keygenDone (gid : BigF)
  deriving DecidableEq, Repr

def chainStep (cfg : Cfg) (me : Nat) (st : EvSt) (i : ChainIn) : EvSt × Out :=
  if !st.alive then (st, .dropped) else
  match i with
  | .junk =>
    if cfg.feCast then (st, .dropped) else ({ st with alive := false }, .panic "onchain.firstEvent|typeassert|event.(*LogCommon)")
  | .log ev removed ident =>
    match translate cfg ev with
    | none => (st, .dropped)                           -- not subscribed: never delivered
    | some p =>
      if removed then (st, .dropped)                   -- firstEvent: `content.Removed`
      else if st.visited.contains ident then (st, .dropped)
      else payloadStep cfg me { st with visited := ident :: st.visited } p
  | .direct p => payloadStep cfg me st p
  | .errv .plain => (st, .ok "logged")
  | .errv (.onchain idx) =>
    if idx < st.nWs then (st, .ok "disconnect")
    else ({ st with alive := false }, .panic "onchain.ethAdaptor.DisconnectWs|index|e.wsCancels[idx]")
  | .keygenDone gid =>
    ({ st with groups := st.groups.map (fun g => if g.key == gid then { g with hasSec := true } else g) }, .ok "")

def chainRun (cfg : Cfg) (me : Nat) : EvSt → List ChainIn → EvSt × List Out
  | s, [] => (s, [])
  | s, i :: is =>
    let (s1, o) := chainStep cfg me s i
    let (s2, os) := chainRun cfg me s1 is
    (s2, o :: os)

/-- inputs the real chain side can produce: logs of the contracts (any values), junk, error values whose index
names an endpoint of the adaptor, completions; of the `direct` payloads (the harness's doubles) only those
without a nil field -/
def ChainIn.fromChain (nWs : Nat) : ChainIn → Bool
  | .log _ _ _ => true
  | .junk => true
  | .direct p => p.wf
  | .errv .plain => true
  | .errv (.onchain idx) => idx < nWs
  | .keygenDone _ => true

/-! ### `getBootIps` -/

/-- the bootstrap document: `urlOK` — `http.NewRequest` accepts the URL; `fetched` — the GET succeeded;
`commas` — number of separators in the body -/
def getBootIps (cfg : Cfg) (urlOK fetched : Bool) (commas : Nat) : Out :=
  if !urlOK then (if cfg.bootReq then .ok "0" else .panic "dosnode.getBootIps|deref|client.Do(req)")
  else if !fetched then .ok "0"
  else .ok s!"{commas}"       -- `len(strings.Split(body, ",")) - 1` addresses

end Dos.Handlers
