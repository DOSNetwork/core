/-
C10 — naturality of the transcribed curve code: `Jac.double`, `Jac.add`, `Jac.neg`, the Mul loops
are built from the coordinate operations (+ − neg · 0 1 sq and equality tests) only, so they commute
with every injective map f : K → L that preserves those operations (`OpsHom`). Used to carry the
group-law theorems (proved over fields) to the Montgomery representation the code and the driver
compute with: f = "forget that the value is reduced" and f = Montgomery decoding into ZMod p.
-/
import DosModel.Model.Bn256Curve

namespace Dos.Bn256

section
set_option linter.unusedSectionVars false
variable {K L : Type}
variable [Add K] [Sub K] [Neg K] [Mul K] [Zero K] [One K] [Inv K] [Sq K] [DecidableEq K]
variable [Add L] [Sub L] [Neg L] [Mul L] [Zero L] [One L] [Inv L] [Sq L] [DecidableEq L]

/-- f preserves every operation the curve code uses and is injective (so equality tests agree) -/
structure OpsHom (f : K → L) : Prop where
  map_add : ∀ a b, f (a + b) = f a + f b
  map_sub : ∀ a b, f (a - b) = f a - f b
  map_neg : ∀ a, f (-a) = -f a
  map_mul : ∀ a b, f (a * b) = f a * f b
  map_zero : f 0 = 0
  map_one : f 1 = 1
  map_inv : ∀ a, f a⁻¹ = (f a)⁻¹
  map_sq : ∀ a, f (Sq.sq a) = Sq.sq (f a)
  inj : Function.Injective f

def Jac.map (f : K → L) (a : Jac K) : Jac L := ⟨f a.x, f a.y, f a.z, f a.t⟩

variable {f : K → L}

theorem OpsHom.eq_zero_iff (h : OpsHom f) (a : K) : f a = 0 ↔ a = 0 := by
  constructor
  · intro e; rw [← h.map_zero] at e; exact h.inj e
  · intro e; rw [e, h.map_zero]

theorem OpsHom.eq_one_iff (h : OpsHom f) (a : K) : f a = 1 ↔ a = 1 := by
  constructor
  · intro e; rw [← h.map_one] at e; exact h.inj e
  · intro e; rw [e, h.map_one]

/-- operation-preserving injective maps compose -/
theorem OpsHom.comp {M : Type} [Add M] [Sub M] [Neg M] [Mul M] [Zero M] [One M] [Inv M] [Sq M]
    {g : L → M} (hg : OpsHom g) (hf : OpsHom f) : OpsHom (fun x => g (f x)) where
  map_add a b := by simp only [hf.map_add, hg.map_add]
  map_sub a b := by simp only [hf.map_sub, hg.map_sub]
  map_neg a := by simp only [hf.map_neg, hg.map_neg]
  map_mul a b := by simp only [hf.map_mul, hg.map_mul]
  map_zero := by simp only [hf.map_zero, hg.map_zero]
  map_one := by simp only [hf.map_one, hg.map_one]
  map_inv a := by simp only [hf.map_inv, hg.map_inv]
  map_sq a := by simp only [hf.map_sq, hg.map_sq]
  inj := hg.inj.comp hf.inj

theorem Jac.map_double (h : OpsHom f) (c a : Jac K) :
    Jac.map f (Jac.double c a) = Jac.double (Jac.map f c) (Jac.map f a) := by
  simp only [Jac.double, Jac.map, h.map_add, h.map_sub, h.map_mul, h.map_sq]

theorem Jac.map_isInfinity (h : OpsHom f) (a : Jac K) : (Jac.map f a).isInfinity = a.isInfinity := by
  simp only [Jac.isInfinity, Jac.map, h.eq_zero_iff]

theorem Jac.map_add (h : OpsHom f) (c a b : Jac K) :
    Jac.map f (Jac.add c a b) = Jac.add (Jac.map f c) (Jac.map f a) (Jac.map f b) := by
  unfold Jac.add
  rw [Jac.map_isInfinity h a, Jac.map_isInfinity h b]
  by_cases ha : a.isInfinity = true
  · simp only [ha, if_true]
  · simp only [ha, Bool.false_eq_true, if_false]
    by_cases hb : b.isInfinity = true
    · simp only [hb, if_true]
    · simp only [hb, Bool.false_eq_true, if_false]
      -- the two comparisons
      have e1 : (f b.x * Sq.sq (f a.z) - f a.x * Sq.sq (f b.z) = 0) ↔
          (b.x * Sq.sq a.z - a.x * Sq.sq b.z = 0) := by
        rw [← h.map_sq, ← h.map_sq, ← h.map_mul, ← h.map_mul, ← h.map_sub, h.eq_zero_iff]
      have e2 : (f b.y * (f a.z * Sq.sq (f a.z)) - f a.y * (f b.z * Sq.sq (f b.z)) = 0) ↔
          (b.y * (a.z * Sq.sq a.z) - a.y * (b.z * Sq.sq b.z) = 0) := by
        rw [← h.map_sq, ← h.map_sq, ← h.map_mul, ← h.map_mul, ← h.map_mul, ← h.map_mul, ← h.map_sub,
          h.eq_zero_iff]
      simp only [Jac.map, e1, e2]
      split
      · exact Jac.map_double h c a
      · simp only [h.map_add, h.map_sub, h.map_mul, h.map_sq]

theorem Jac.map_neg (h : OpsHom f) (a : Jac K) (t : K) : Jac.map f (Jac.neg a t) = Jac.neg (Jac.map f a) (f t) := by
  simp only [Jac.neg, Jac.map, h.map_neg]

theorem Jac.map_infinity (h : OpsHom f) : Jac.map f (Jac.infinity : Jac K) = Jac.infinity := by
  simp only [Jac.infinity, Jac.map, h.map_zero, h.map_one]

theorem Jac.map_zeroValue (h : OpsHom f) : Jac.map f (Jac.zeroValue : Jac K) = Jac.zeroValue := by
  simp only [Jac.zeroValue, Jac.map, h.map_zero]

theorem Jac.map_mulLoop (h : OpsHom f) (a : Jac K) (k : Nat) (sum0 t0 : Jac K) :
    Jac.map f (Jac.mulLoop a k sum0 t0) = Jac.mulLoop (Jac.map f a) k (Jac.map f sum0) (Jac.map f t0) := by
  unfold Jac.mulLoop
  generalize (List.range (Fp12.bitLen k + 1)).reverse = l
  induction l generalizing sum0 t0 with
  | nil => rfl
  | cons i l ih =>
    simp only [List.foldl_cons]
    by_cases hb : k.testBit i
    · simp only [hb, if_true]
      rw [ih, Jac.map_add h, Jac.map_double h]
    · simp only [hb, Bool.false_eq_true, if_false]
      rw [ih, Jac.map_double h]

theorem Jac.map_curveMul (h : OpsHom f) (a : Jac K) (k : Nat) :
    Jac.map f (Jac.curveMul a k) = Jac.curveMul (Jac.map f a) k := by
  unfold Jac.curveMul; rw [Jac.map_mulLoop h, Jac.map_infinity h, Jac.map_zeroValue h]

theorem Jac.map_twistMul (h : OpsHom f) (a : Jac K) (k : Nat) :
    Jac.map f (Jac.twistMul a k) = Jac.twistMul (Jac.map f a) k := by
  unfold Jac.twistMul; rw [Jac.map_mulLoop h, Jac.map_zeroValue h]

end
end Dos.Bn256
