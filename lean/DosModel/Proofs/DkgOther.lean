/-
C05, "other sessions": agreement of two finishers WITHOUT any assumption on which response
signatures exist (the adversary may own every signature honest members produce in other runs with the
same long-term keys – `Model/DkgAdv.lean`).

The lemma that carries the argument: a response batch that `getAndProcessResponses` worked off without
an error contains only responses that `verifyResponse` compared with the session id of the deal THIS
member holds from the dealer the message names (last clause of `runResps_inv`); nothing is recorded, skipped or
de-duplicated before that comparison.  Hence, when the genuine response of another finisher is in the
batch, both hold deals with the same session id, i.e. the same member list and commitments
(`sameSid_of_processed`, `SameSid.agree`), and a second response for an occupied (dealer, responder) slot is an
error that stops the stage (`verifyResponse_occupied`).
-/
import DosModel.Proofs.DkgMember
import DosModel.Model.DkgAdv

set_option linter.unusedSectionVars false

namespace Dos.Dkg
open Dos Dos.Vss

variable {F G : Type} [Field F] [AddCommGroup G] [Module F G] [DecidableEq F] [DecidableEq G]

/-- **a second response for an occupied (dealer, responder) slot is an error**, whatever it carries
(`verifyResponse` hands everything that passed the session-id and signature checks to `addResponse`) -/
theorem verifyResponse_occupied (g : G) (a : Agg F G) (r : Response F G)
    (h : (getResponse a r.index).isSome = true) : ∃ e, verifyResponse g a r = .error e := by
  rcases hv : verifyResponse g a r with e | a'
  · exact ⟨e, rfl⟩
  · obtain ⟨_, _, hadd⟩ := verifyResponse_ok hv
    obtain ⟨_, hnone, _⟩ := addResponse_ok hadd
    rw [hnone] at h; cases h

theorem ownRespAt_some {d : Gen F G} {j : Nat} {r : Response F G} (h : ownRespAt d j = some r) :
    ∃ v a, getVerifier d j = some v ∧ v.agg = some a ∧ getResponse a d.index = some r := by
  unfold ownRespAt at h
  rcases hv : getVerifier d j with _ | v
  · simp [hv] at h
  · rcases hagg : v.agg with _ | a
    · simp [hv, hagg] at h
    · exact ⟨v, a, rfl, hagg, by simpa [hv, hagg] using h⟩

/-- **delivery**: the own response of `d'` about dealer `j` is in a batch that the response stage of `d` (started at
`d0`) worked off without error; then it was compared with the session id of slot `j`, which no later response
changes.  `d'` is any generator of the pipeline (another member's).  No assumption on signatures. -/
theorem sameSid_of_processed {g : G} {d0 d d' : Gen F G} {batch : List (DkgResp F G)} (h0 : Piped g d0)
    (hrun : runResps g d0 batch = (d, true)) (h' : Piped g d') {j : Nat} {r' : Response F G}
    (hown : ownRespAt d' j = some r') (hin : (⟨j, some r'⟩ : DkgResp F G) ∈ batch) : SameSid d d' j j := by
  obtain ⟨_, _, _, _, _, hkeep, hver⟩ := runResps_inv g batch d0 d true h0.good h0.appr hrun
  obtain ⟨r, v, a, h1, hv, hagg, hsid⟩ := hver rfl _ hin
  cases h1
  obtain ⟨a2, hv2, _, _, hsid2⟩ := hkeep j v a hv hagg
  obtain ⟨v', a', hv', hagg', hr'⟩ := ownRespAt_some hown
  obtain ⟨_, _, _, r2, _, _, _, _, hr2, _, hs2⟩ := h'.slot hv' hagg'
  cases hr'.symm.trans hr2
  exact ⟨_, a2, v', a', hv2, rfl, hv', hagg', by rw [hsid2, ← hsid, hs2]⟩

theorem finished_has_own {g : G} {d : Gen F G} {ks : KeyShare F G} (h : Finished g d ks) {j : Nat}
    (hj : j < d.participants.length) : ∃ r, ownRespAt d j = some r := by
  obtain ⟨v, a, hv, hagg, _⟩ := h.slot hj
  obtain ⟨r, hr, _⟩ := ((h.good.good j v hv).hagg a hagg).ownResp
  exact ⟨r, by simp [ownRespAt, hv, hagg, hr]⟩

/-- **unforgeability with the other-session oracle** (`AuthResp` with a second alternative): a stored
response that verifies under `pubk` carries the session id of a response `dk` holds as its own in THIS
run, or its signature is that of an oracle answer – a response signed in another run by the holder of a
key in `otherKeys`. -/
def AuthRespO (g : G) (pubk : G) (d dk : Gen F G) (otherKeys : F → Prop) : Prop :=
  ∀ j v a (r : Response F G) (st : Bool), getVerifier d j = some v → v.agg = some a →
    getResponse a dk.index = some r → verifyRespSig g pubk { r with status := st } = true →
    (∃ j2 v2 a2 r2, getVerifier dk j2 = some v2 ∧ v2.agg = some a2 ∧ getResponse a2 dk.index = some r2 ∧ r2.sid = r.sid) ∨
    (∃ long participants f dd m ro, otherKeys long ∧ oracleAnswer g long participants f dd = some m ∧
      m.resp = some ro ∧ r.sig = ro.sig)

theorem processDeal_sig (g : G) (d : Gen F G) (dd : DkgDeal F G) (m : DkgResp F G) (r : Response F G)
    (hidx : findIndex (d.long • g) d.participants 0 = some d.index)
    (h : (processDeal g d dd).2 = .ok m) (hr : m.resp = some r) :
    ∃ sid i st rnd, r.sig = .sign d.long sid i st rnd := by
  rcases processDeal_spec g d dd hidx with ⟨e, h'⟩ | ⟨_, _, _, _, _, _, ⟨_, e, h'⟩ | ⟨_, r', _, _, _, _, _, _, hsig, _, _, _, _, h'⟩⟩
  · rw [h'] at h; cases h
  · rw [h'] at h; cases h
  · rw [h'] at h; cases h; cases hr; exact ⟨_, _, _, _, hsig⟩

theorem oracleAnswer_sig (g : G) (long : F) (participants : List G) (f : List F) (dd : DkgDeal F G)
    (m : DkgResp F G) (r : Response F G) (h : oracleAnswer g long participants f dd = some m) (hr : m.resp = some r) :
    ∃ sid i st rnd, r.sig = .sign long sid i st rnd := by
  unfold oracleAnswer at h
  rcases hng : newGen g long participants f with e | d
  · simp [hng] at h
  · simp only [hng] at h
    obtain ⟨h0, _, _, hl, _⟩ := newGen_good0 hng
    rcases hpd : (processDeal g d dd).2 with e | m'
    · simp [hpd] at h
    · simp only [hpd, Option.some.injEq] at h; subst h
      obtain ⟨sid, i, st, rnd, hs⟩ := processDeal_sig g d dd m' r h0.idx hpd hr
      exact ⟨sid, i, st, rnd, by rw [hs, hl]⟩

end Dos.Dkg
