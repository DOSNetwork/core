import DosModel.Proofs.ConnTableInv

/-! Where a reply outcome comes from, and that it is the caller's own. -/
namespace Dos.ConnTable
open Dos

theorem lookupN_mem {p : List (Nonce × Nat)} {ν : Nonce} {i : Nat} (h : lookupN p ν = some i) : (ν, i) ∈ p := by
  unfold lookupN at h
  split at h
  · rename_i e he
    have hm := List.mem_of_find?_eq_some he
    have hp := List.find?_some he
    simp only [Option.some.injEq] at h
    have h1 : e.1 = ν := by simpa using hp
    have : e = (ν, i) := by rw [← h1, ← h]
    rw [← this]; exact hm
  · simp at h

theorem got_of_ite_err {r : Req} {p : Prop} [Decidable p] {m : Nat}
    (h : (if p then { r with out := .err } else r).out = .got m) : r.out = .got m := by
  split at h
  · cases h
  · exact h

theorem got_of_newReq {s : Net} {a b j m : Nat} (h : ((newReq s a b).reqs j).out = .got m) : (s.reqs j).out = .got m := by
  rw [newReq_reqs] at h; split at h
  · cases h
  · exact h

/-- the ONLY way a call gets a reply: the oldest reply frame in flight on some connection reaches that
connection's dispatch, which finds the call registered under the frame's nonce -/
theorem Effect.got_from {cfg : Cfg} {s t : Net} {e : Ev} (h : Effect cfg s e t) (j m : Nat) :
    (t.reqs j).out = .got m → (s.reqs j).out = .got m ∨
    ∃ c ν rest, e = .deliverReply c ∧ c < s.nconn ∧ (s.conns c).repQ = (ν, m) :: rest ∧ (s.conns c).clD = false ∧
      lookupN (s.conns c).pend ν = some j ∧ (s.reqs j).out = .waiting := by
  induction h with
  | init | procRm | disconnect => exact .inl
  | newReq a b _ ih => exact fun hg => ih (got_of_newReq hg)
  | errs rq hrq _ ih =>
    intro (hg : (rq j).out = .got m)
    rcases hrq j with h | h
    · exact ih (h ▸ hg)
    · rw [h.2] at hg; cases hg
  | got he hc hq hcl hl hw _ _ ih =>
    intro hg
    rw [setReq_reqs] at hg; split at hg
    · rename_i hji; subst hji; cases hg
      exact .inr ⟨_, _, _, he, hc, hq, hcl, hl, hw⟩
    · exact ih hg
  | hand i c _ _ _ _ ih => exact fun hg => ih (by rwa [hand_out] at hg)
  | reset => exact fun hg => .inl (got_of_ite_err hg)
  | _ => rename_i ih; exact fun hg => ih (by simpa using hg)

theorem step_got (cfg : Cfg) (s : Net) (e : Ev) (j m : Nat) (h : ((step cfg s e).reqs j).out = .got m) :
    (s.reqs j).out = .got m ∨
    ∃ c ν rest, e = .deliverReply c ∧ c < s.nconn ∧ (s.conns c).repQ = (ν, m) :: rest ∧ (s.conns c).clD = false ∧
      lookupN (s.conns c).pend ν = some j ∧ (s.reqs j).out = .waiting :=
  (step_effect cfg s e).got_from j m h

/-- every reply a call holds names the call itself -/
def Own (s : Net) : Prop := ∀ j m, (s.reqs j).out = .got m → m = j

theorem Effect.own {cfg : Cfg} {s t : Net} {e : Ev} (h : Effect cfg s e t) (hI : Inv s) (ho : Own s) : Own t := by
  intro j m hg
  rcases h.got_from j m hg with hg | ⟨c, ν, rest, _, _, hq, _, hl, _⟩
  · exact ho j m hg
  · exact hI.uniq m j ν ((hI.conn c).repQ (ν, m) (hq ▸ List.mem_cons_self)) ((hI.conn c).pend (ν, j) (lookupN_mem hl)).1

theorem run_own (cfg : Cfg) (hnb : cfg.nonceBase = true) {s : Net} (hI : Inv s) (ho : Own s) (evs : List Ev) :
    Own (run cfg s evs) :=
  (run_induction cfg (P := fun t => Inv t ∧ Own t)
    (fun t e ht => ⟨(step_effect cfg t e).inv hnb ht.1, (step_effect cfg t e).own ht.1 ht.2⟩) ⟨hI, ho⟩ evs).2

/-- in every history from the empty network a reply a call returns names that call — for every table
configuration with the per-connection nonce base -/
theorem reply_is_own (cfg : Cfg) (hnb : cfg.nonceBase = true) (ideal : Nat → Bool) (evs : List Ev) (i m : Nat)
    (h : ((run cfg (init ideal) evs).reqs i).out = .got m) : m = i :=
  run_own cfg hnb (Inv.init ideal) (by intro j m h; simp [ConnTable.init] at h) evs i m h

/-- … and the event that gives a waiting call its reply is the arrival of the oldest reply frame on the
connection that registered the call, under the call's nonce -/
theorem reply_on_own_connection (cfg : Cfg) (hnb : cfg.nonceBase = true) (ideal : Nat → Bool) (evs : List Ev)
    (e : Ev) (i m : Nat) (hw : ((run cfg (init ideal) evs).reqs i).out = .waiting)
    (h : ((step cfg (run cfg (init ideal) evs) e).reqs i).out = .got m) :
    ∃ c ν rest, e = .deliverReply c ∧ ((run cfg (init ideal) evs).reqs i).conn = some c ∧
      ((run cfg (init ideal) evs).reqs i).nonce = some ν ∧
      ((run cfg (init ideal) evs).conns c).repQ = (ν, m) :: rest := by
  have hI := run_inv cfg hnb (Inv.init ideal) evs
  rcases (step_effect cfg _ e).got_from i m h with h' | ⟨c, ν, rest, he, _, hq, _, hl, _⟩
  · rw [hw] at h'; cases h'
  · obtain ⟨hn, hcn⟩ := (hI.conn c).pend (ν, i) (lookupN_mem hl)
    exact ⟨c, ν, rest, he, hcn, hn, hq⟩

end Dos.ConnTable
