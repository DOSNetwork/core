/-
Known-answer vectors at the block boundary (C06; see `KeccakKat.lean`): 136 bytes = exactly the rate (a
second block consisting of padding only), 137 bytes (one byte in the second block).  Kernel evaluation.
-/
import DosModel.Proofs.KeccakKat

namespace Dos.Keccak
open Dos

theorem kat_136 :
    toHex (keccak256 (katMsg 136)) = "7ce759f1ab7f9ce437719970c26b0a66ff11fe3e38e17df89cf5d29c7d7f807e" := by
  rw [keccak256_eq_packed]
  decide +kernel

theorem kat_137 :
    toHex (keccak256 (katMsg 137)) = "ac73d4fae68b8453f764007c1a20ce95994187861f0c3227a3a8e99a73a3b1db" := by
  rw [keccak256_eq_packed]
  decide +kernel

end Dos.Keccak
