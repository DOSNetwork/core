/-
C14 helper: the executable successor function `succs` enumerates exactly the steps of the
relation `Step` (sound and complete).  Used by the verified explorer and by the driver.
-/
import DosModel.Model.PipeSem

namespace Dos.Pipe
variable {p : Pipeline}

theorem gs_lt_of_at {s : State} {g : Gi} {x : GSt} (h : s.gs[g]? = some x) : g < s.gs.length := by
  have := List.getElem?_eq_some_iff.mp h
  exact this.1

theorem mem_syncSuccs {s : State} {g : Gi} {n : Pc} {c : Ch} {x : Ev × Cfg} :
    x ∈ syncSuccs p s g n c ↔
      p.cap c = 0 ∧ s.closed c = false ∧ ∃ g' pc' nd' n', g' ≠ g ∧ s.gs[g']? = some (.at pc') ∧
        p.node g' pc' = some nd' ∧ (Lab.recvOk c, n') ∈ nd'.edges ∧
        x = (.sync g g' c, .run ((s.setG g (.at n)).setG g' (.at n'))) := by
  unfold syncSuccs
  constructor
  · intro h
    split at h
    · rename_i hc
      refine ⟨hc.1, hc.2, ?_⟩
      simp only [List.mem_flatMap, List.mem_range] at h
      obtain ⟨g', _, hg'⟩ := h
      split at hg'
      · simp at hg'
      · rename_i hne
        split at hg'
        · rename_i pc' hat
          split at hg'
          · rename_i nd' hnd
            simp only [List.mem_filterMap] at hg'
            obtain ⟨e, he, hx⟩ := hg'
            split at hx
            · rename_i hl
              simp only [Option.some.injEq] at hx
              refine ⟨g', pc', nd', e.2, hne, hat, hnd, ?_, hx.symm⟩
              rw [← hl]; exact he
            · simp at hx
          · simp at hg'
        · simp at hg'
    · simp at h
  · rintro ⟨h0, hcl, g', pc', nd', n', hne, hat, hnd, hmem, rfl⟩
    rw [if_pos ⟨h0, hcl⟩]
    simp only [List.mem_flatMap, List.mem_range]
    refine ⟨g', gs_lt_of_at hat, ?_⟩
    rw [if_neg hne, hat]
    simp only [hnd, List.mem_filterMap]
    exact ⟨(Lab.recvOk c, n'), hmem, by simp⟩

/-- what the edge `e` of the node at which `g` stands contributes is among the successors -/
theorem mem_succs_of_edgeSuccs {s : State} {g : Gi} {pc : Pc} {nd : Node} {e : Lab × Pc} {x : Ev × Cfg}
    (hat : s.gs[g]? = some (.at pc)) (hnd : p.node g pc = some nd) (hed : e ∈ nd.edges)
    (hx : x ∈ edgeSuccs p s g pc nd e) : x ∈ succs p s := by
  simp only [succs, List.mem_append, List.mem_flatMap, List.mem_range]
  refine Or.inr ⟨g, gs_lt_of_at hat, ?_⟩
  simp only [gSuccs, hat, hnd, List.mem_append, List.mem_flatMap]
  exact Or.inr ⟨e, hed, hx⟩

theorem mem_succs_iff (p : Pipeline) (s : State) (e : Ev) (c : Cfg) :
    (e, c) ∈ succs p s ↔ Step p s e c := by
  constructor
  · intro h
    simp only [succs, List.mem_append] at h
    rcases h with h | h
    · simp only [envSuccs, List.mem_filterMap, List.mem_range] at h
      obtain ⟨k, hk, hx⟩ := h
      split at hx
      · rename_i hd
        simp only [Option.some.injEq, Prod.mk.injEq] at hx
        obtain ⟨rfl, rfl⟩ := hx
        exact Step.env k hk hd
      · simp at hx
    · simp only [List.mem_flatMap, List.mem_range] at h
      obtain ⟨g, _, hg⟩ := h
      unfold gSuccs at hg
      split at hg
      · rename_i pc hat
        split at hg
        · rename_i nd hnd
          simp only [List.mem_append] at hg
          rcases hg with hg | hg
          · split at hg
            · rename_i hex
              simp only [List.mem_singleton, Prod.mk.injEq] at hg
              obtain ⟨rfl, rfl⟩ := hg
              subst hex
              exact Step.exit g pc hat hnd
            · simp at hg
          · simp only [List.mem_flatMap] at hg
            obtain ⟨ed, hed, hx⟩ := hg
            obtain ⟨l, n⟩ := ed
            simp only [edgeSuccs, List.mem_append] at hx
            rcases hx with (hx | hx) | hx
            · split at hx
              · rename_i k hk
                simp only [List.mem_singleton, Prod.mk.injEq] at hx
                obtain ⟨rfl, rfl⟩ := hx
                exact Step.crash g pc nd l n k hat hnd hed hk
              · simp at hx
            · split at hx
              · rename_i hgd
                simp only [List.mem_singleton, Prod.mk.injEq] at hx
                obtain ⟨rfl, rfl⟩ := hx
                exact Step.act g pc nd l n hat hnd hed hgd.1 hgd.2
              · simp at hx
            · split at hx
              · rename_i c'
                obtain ⟨h0, hcl, g', pc', nd', n', hne, hat', hnd', hmem, hx⟩ := mem_syncSuccs.mp hx
                simp only [Prod.mk.injEq] at hx
                obtain ⟨rfl, rfl⟩ := hx
                exact Step.sync g pc nd n g' pc' nd' n' c' (Ne.symm hne) hat hnd hed hat' hnd' hmem h0 hcl
              · simp at hx
        · simp at hg
      · simp at hg
  · intro h
    cases h with
    | env k hk hd =>
      simp only [succs, List.mem_append]
      left
      simp only [envSuccs, List.mem_filterMap, List.mem_range]
      exact ⟨k, hk, by simp [hd]⟩
    | act g pc nd l n hat hnd hed hgd hdf =>
      apply mem_succs_of_edgeSuccs hat hnd hed
      simp only [edgeSuccs, List.mem_append]
      left; right
      rw [if_pos ⟨hgd, hdf⟩]; simp
    | crash g pc nd l n k hat hnd hed hk =>
      apply mem_succs_of_edgeSuccs hat hnd hed
      simp only [edgeSuccs, List.mem_append]
      left; left
      simp [hk]
    | sync g pc nd n g' pc' nd' n' c' hne hat hnd hed hat' hnd' hmem h0 hcl =>
      apply mem_succs_of_edgeSuccs hat hnd hed
      simp only [edgeSuccs, List.mem_append]
      right
      exact mem_syncSuccs.mpr ⟨h0, hcl, g', pc', nd', n', Ne.symm hne, hat', hnd', hmem, rfl⟩
    | exit g pc hat hnd =>
      simp only [succs, List.mem_append]
      right
      simp only [List.mem_flatMap, List.mem_range]
      refine ⟨g, gs_lt_of_at hat, ?_⟩
      simp only [gSuccs, hat, hnd, List.mem_append]
      left
      simp

end Dos.Pipe
