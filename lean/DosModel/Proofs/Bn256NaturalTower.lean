/-
C10 — naturality of the transcribed tower code: every gfP2 / gfP6 / gfP12 method, the Frobenius maps,
`Exp` and `finalExponentiationG` are built from the base operations only, so they commute with `map f`
for every f preserving those operations (`OpsHom`, Proofs/Bn256Natural.lean). Used to transport the
theorems proved over fields (ring laws, multiplicativity of the final exponentiation) to the
Montgomery representation the code computes with.
-/
import DosModel.Proofs.Bn256Concrete2
import DosModel.Model.Bn256TFrob

namespace Dos.Bn256

section
set_option linter.unusedSectionVars false
variable {K L : Type}
variable [Add K] [Sub K] [Neg K] [Mul K] [Zero K] [One K] [Inv K] [Sq K] [DecidableEq K]
variable [Add L] [Sub L] [Neg L] [Mul L] [Zero L] [One L] [Inv L] [Sq L] [DecidableEq L]
variable {f : K → L}

/-! ### gfP2 -/
namespace Fp2
theorem map_add' (h : OpsHom f) (a b : Fp2 K) : map f (Fp2.add a b) = Fp2.add (map f a) (map f b) := by
  simp only [map, Fp2.add, h.map_add]
theorem map_sub' (h : OpsHom f) (a b : Fp2 K) : map f (Fp2.sub a b) = Fp2.sub (map f a) (map f b) := by
  simp only [map, Fp2.sub, h.map_sub]
theorem map_neg' (h : OpsHom f) (a : Fp2 K) : map f (Fp2.neg a) = Fp2.neg (map f a) := by
  simp only [map, Fp2.neg, h.map_neg]
theorem map_conjugate (h : OpsHom f) (a : Fp2 K) : map f (Fp2.conjugate a) = Fp2.conjugate (map f a) := by
  simp only [map, Fp2.conjugate, h.map_neg]
theorem map_mul' (h : OpsHom f) (a b : Fp2 K) : map f (Fp2.mul a b) = Fp2.mul (map f a) (map f b) := by
  simp only [map, Fp2.mul, h.map_add, h.map_sub, h.map_mul]
theorem map_mulScalar (h : OpsHom f) (a : Fp2 K) (c : K) :
    map f (Fp2.mulScalar a c) = Fp2.mulScalar (map f a) (f c) := by
  simp only [map, Fp2.mulScalar, h.map_mul]
theorem map_mulXi (h : OpsHom f) (a : Fp2 K) : map f (Fp2.mulXi a) = Fp2.mulXi (map f a) := by
  simp only [map, Fp2.mulXi, h.map_add, h.map_sub]
theorem map_square (h : OpsHom f) (a : Fp2 K) : map f (Fp2.square a) = Fp2.square (map f a) := by
  simp only [map, Fp2.square, h.map_add, h.map_sub, h.map_mul]
theorem map_invert (h : OpsHom f) (a : Fp2 K) : map f (Fp2.invert a) = Fp2.invert (map f a) := by
  simp only [map, Fp2.invert, h.map_add, h.map_mul, h.map_neg, h.map_inv]
theorem map_zero' (h : OpsHom f) : map f (Fp2.zero : Fp2 K) = Fp2.zero := by
  simp only [map, Fp2.zero, h.map_zero]
theorem map_one' (h : OpsHom f) : map f (Fp2.one : Fp2 K) = Fp2.one := by
  simp only [map, Fp2.one, h.map_zero, h.map_one]
theorem map_inj (h : OpsHom f) : Function.Injective (map f) := (Fp2.mapHom h).inj
end Fp2

/-! ### gfP6 -/
def Fp6.map (f : K → L) (a : Fp6 K) : Fp6 L := ⟨Fp2.map f a.x, Fp2.map f a.y, Fp2.map f a.z⟩

namespace Fp6
theorem map_add' (h : OpsHom f) (a b : Fp6 K) : map f (Fp6.add a b) = Fp6.add (map f a) (map f b) := by
  simp only [map, Fp6.add, Fp2.map_add' h]
theorem map_sub' (h : OpsHom f) (a b : Fp6 K) : map f (Fp6.sub a b) = Fp6.sub (map f a) (map f b) := by
  simp only [map, Fp6.sub, Fp2.map_sub' h]
theorem map_neg' (h : OpsHom f) (a : Fp6 K) : map f (Fp6.neg a) = Fp6.neg (map f a) := by
  simp only [map, Fp6.neg, Fp2.map_neg' h]
theorem map_mul' (h : OpsHom f) (a b : Fp6 K) : map f (Fp6.mul a b) = Fp6.mul (map f a) (map f b) := by
  simp only [map, Fp6.mul, Fp2.map_add' h, Fp2.map_sub' h, Fp2.map_mul' h, Fp2.map_mulXi h]
theorem map_square (h : OpsHom f) (a : Fp6 K) : map f (Fp6.square a) = Fp6.square (map f a) := by
  simp only [map, Fp6.square, Fp2.map_add' h, Fp2.map_sub' h, Fp2.map_square h, Fp2.map_mulXi h]
theorem map_mulTau (h : OpsHom f) (a : Fp6 K) : map f (Fp6.mulTau a) = Fp6.mulTau (map f a) := by
  simp only [map, Fp6.mulTau, Fp2.map_mulXi h]
theorem map_mulScalar (h : OpsHom f) (a : Fp6 K) (c : Fp2 K) :
    map f (Fp6.mulScalar a c) = Fp6.mulScalar (map f a) (Fp2.map f c) := by
  simp only [map, Fp6.mulScalar, Fp2.map_mul' h]
theorem map_mulGFP (h : OpsHom f) (a : Fp6 K) (c : K) : map f (Fp6.mulGFP a c) = Fp6.mulGFP (map f a) (f c) := by
  simp only [map, Fp6.mulGFP, Fp2.map_mulScalar h]
theorem map_invert (h : OpsHom f) (a : Fp6 K) : map f (Fp6.invert a) = Fp6.invert (map f a) := by
  simp only [map, Fp6.invert, Fp2.map_add' h, Fp2.map_sub' h, Fp2.map_mul' h, Fp2.map_square h, Fp2.map_mulXi h,
    Fp2.map_invert h]
theorem map_zero' (h : OpsHom f) : map f (Fp6.zero : Fp6 K) = Fp6.zero := by
  simp only [map, Fp6.zero, Fp2.map_zero' h]
theorem map_one' (h : OpsHom f) : map f (Fp6.one : Fp6 K) = Fp6.one := by
  simp only [map, Fp6.one, Fp2.map_zero' h, Fp2.map_one' h]
theorem map_inj (h : OpsHom f) : Function.Injective (map f) := by
  intro a b hab
  have hx := Fp2.map_inj h (congrArg Fp6.x hab)
  have hy := Fp2.map_inj h (congrArg Fp6.y hab)
  have hz := Fp2.map_inj h (congrArg Fp6.z hab)
  cases a; cases b; simp_all
end Fp6

/-- the constants, mapped -/
def FrobConsts.map (f : K → L) (cs : FrobConsts K) : FrobConsts L :=
  { xiToPMinus1Over6 := Fp2.map f cs.xiToPMinus1Over6, xiToPMinus1Over3 := Fp2.map f cs.xiToPMinus1Over3,
    xiToPMinus1Over2 := Fp2.map f cs.xiToPMinus1Over2, xiTo2PMinus2Over3 := Fp2.map f cs.xiTo2PMinus2Over3,
    xiToPSquaredMinus1Over3 := f cs.xiToPSquaredMinus1Over3,
    xiTo2PSquaredMinus2Over3 := f cs.xiTo2PSquaredMinus2Over3,
    xiToPSquaredMinus1Over6 := f cs.xiToPSquaredMinus1Over6 }

namespace Fp6
theorem map_frobeniusG (h : OpsHom f) (cs : FrobConsts K) (a : Fp6 K) :
    map f (Fp6.frobeniusG cs a) = Fp6.frobeniusG (cs.map f) (map f a) := by
  simp only [map, Fp6.frobeniusG, FrobConsts.map, Fp2.map_mul' h, Fp2.map_conjugate h]
theorem map_frobeniusP2G (h : OpsHom f) (cs : FrobConsts K) (a : Fp6 K) :
    map f (Fp6.frobeniusP2G cs a) = Fp6.frobeniusP2G (cs.map f) (map f a) := by
  simp only [map, Fp6.frobeniusP2G, FrobConsts.map, Fp2.map_mulScalar h]
end Fp6

/-! ### gfP12 -/
def Fp12.map (f : K → L) (a : Fp12 K) : Fp12 L := ⟨Fp6.map f a.x, Fp6.map f a.y⟩

namespace Fp12
theorem map_mul' (h : OpsHom f) (a b : Fp12 K) : map f (Fp12.mul a b) = Fp12.mul (map f a) (map f b) := by
  simp only [map, Fp12.mul, Fp6.map_add' h, Fp6.map_mul' h, Fp6.map_mulTau h]
theorem map_square (h : OpsHom f) (a : Fp12 K) : map f (Fp12.square a) = Fp12.square (map f a) := by
  simp only [map, Fp12.square, Fp6.map_add' h, Fp6.map_sub' h, Fp6.map_mul' h, Fp6.map_mulTau h]
theorem map_conjugate (h : OpsHom f) (a : Fp12 K) : map f (Fp12.conjugate a) = Fp12.conjugate (map f a) := by
  simp only [map, Fp12.conjugate, Fp6.map_neg' h]
theorem map_invert (h : OpsHom f) (a : Fp12 K) : map f (Fp12.invert a) = Fp12.invert (map f a) := by
  simp only [map, Fp12.invert, Fp12.mulScalarRecv, Fp6.map_sub' h, Fp6.map_mul' h, Fp6.map_square h,
    Fp6.map_mulTau h, Fp6.map_neg' h, Fp6.map_invert h]
theorem map_one' (h : OpsHom f) : map f (Fp12.one : Fp12 K) = Fp12.one := by
  simp only [map, Fp12.one, Fp6.map_zero' h, Fp6.map_one' h]
theorem map_inj (h : OpsHom f) : Function.Injective (map f) := by
  intro a b hab
  have hx := Fp6.map_inj h (congrArg Fp12.x hab)
  have hy := Fp6.map_inj h (congrArg Fp12.y hab)
  cases a; cases b; simp_all
theorem map_frobeniusG (h : OpsHom f) (cs : FrobConsts K) (a : Fp12 K) :
    map f (Fp12.frobeniusG cs a) = Fp12.frobeniusG (cs.map f) (map f a) := by
  simp only [map, Fp12.frobeniusG, Fp6.map_mulScalar h, Fp6.map_frobeniusG h]
  rfl
theorem map_frobeniusP2G (h : OpsHom f) (cs : FrobConsts K) (a : Fp12 K) :
    map f (Fp12.frobeniusP2G cs a) = Fp12.frobeniusP2G (cs.map f) (map f a) := by
  simp only [map, Fp12.frobeniusP2G, Fp6.map_mulGFP h, Fp6.map_frobeniusP2G h]
  rfl
theorem map_exp (h : OpsHom f) (a : Fp12 K) (k : Nat) : map f (Fp12.exp a k) = Fp12.exp (map f a) k := by
  unfold Fp12.exp
  rw [← map_one' h]
  refine (List.foldl_hom (map f) fun s i => ?_).symm
  dsimp only
  split <;> simp only [map_mul' h, map_square h]
end Fp12

theorem map_finalExponentiationG (h : OpsHom f) (cs : FrobConsts K) (u : Nat) (x : Fp12 K) :
    Fp12.map f (finalExponentiationG cs u x) = finalExponentiationG (cs.map f) u (Fp12.map f x) := by
  have hc : ∀ a : Fp12 K, Fp12.map f ⟨a.x.neg, a.y⟩ = ⟨(Fp12.map f a).x.neg, (Fp12.map f a).y⟩ := by
    intro a; simp only [Fp12.map, Fp6.map_neg' h]
  simp only [finalExponentiationG, Fp12.map_mul' h, Fp12.map_square h, Fp12.map_conjugate h, Fp12.map_invert h,
    Fp12.map_frobeniusG h, Fp12.map_frobeniusP2G h, Fp12.map_exp h, hc]

end
end Dos.Bn256
