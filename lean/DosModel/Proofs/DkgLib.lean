/-
LIBRARY-LEVEL invariant of a `DistKeyGenerator` (the model is the tree with /repo fix 5814a9f).

`LibInv` holds after `initDistKeyGenerator` and is preserved by `ProcessDeal`, `ProcessResponse` and
`ProcessJustification` for EVERY argument – no pipeline, no "the stage stopped at the complaint":
a slot whose verifier carries `approved = true` stores a deal that is consistent with its own
commitments at this member's index.  The flag is written once, by the `ProcessEncryptedDeal` that
filled the slot (`approved_stable`), so a member that answered a deal with a complaint never has
that dealer in QUAL again, whatever it is sent afterwards (justifications included).
-/
import DosModel.Proofs.DkgFinish
import DosModel.Proofs.DkgResp

set_option linter.unusedSectionVars false

namespace Dos.Dkg
open Dos Dos.Vss

variable {F G : Type} [Field F] [AddCommGroup G] [Module F G] [DecidableEq F] [DecidableEq G]

/-- the operations of the library on a generator, with ANY argument (`Deals()` is `ProcessDeal` on the
own deal) -/
inductive LibOp (F G : Type) where
  | deal (dd : DkgDeal F G)
  | resp (m : DkgResp F G)
  | just (j : DkgJust F G)

def libStep (g : G) (d : Gen F G) : LibOp F G → Gen F G
  | .deal dd => (processDeal g d dd).1
  | .resp m => (processResponse g d m).1
  | .just j => (processJustification g d j).1

def libRun (g : G) (d : Gen F G) (ops : List (LibOp F G)) : Gen F G := ops.foldl (libStep g) d

structure LibSlot (g : G) (d : Gen F G) (j : Nat) (v : Verifier F G) : Prop where
  hdealer : d.participants[j]? = some v.dealer
  hvs : v.vs = d.participants
  hindex : v.index = d.index
  happ : v.approved = true → ∃ a dl val, v.agg = some a ∧ a.deal = some dl ∧
    Consistent g v.dealer v.vs dl ∧ dl.share = some ⟨(d.index : Int), some val⟩

structure LibInv (g : G) (d : Gen F G) : Prop where
  len : d.verifiers.length = d.participants.length
  idx : findIndex (d.long • g) d.participants 0 = some d.index
  lt : d.index < d.participants.length
  slot : ∀ j v, getVerifier d j = some v → LibSlot g d j v

theorem newGen_lib (g : G) (long : F) (participants : List G) (f : List F) (d : Gen F G)
    (h : newGen g long participants f = .ok d) : LibInv g d := by
  obtain ⟨h0, hempty, _⟩ := newGen_good0 h
  exact ⟨h0.len, h0.idx, h0.lt, fun j v hv => by rw [hempty j] at hv; cases hv⟩

/-- the invariant only looks at the slots, the participant list and the own index and key -/
theorem libInv_congr (g : G) (d d' : Gen F G) (hd : LibInv g d) (hp : d'.participants = d.participants)
    (hi : d'.index = d.index) (hl : d'.long = d.long) (hlen : d'.verifiers.length = d.verifiers.length)
    (hslot : ∀ k w, getVerifier d' k = some w → LibSlot g d k w) : LibInv g d' :=
  ⟨by rw [hlen, hp]; exact hd.len, by rw [hl, hp, hi]; exact hd.idx, by rw [hi, hp]; exact hd.lt, fun k w hw =>
    have hs := hslot k w hw
    ⟨by rw [hp]; exact hs.hdealer, by rw [hp]; exact hs.hvs, by rw [hi]; exact hs.hindex, by rw [hi]; exact hs.happ⟩⟩

/-- **every library call keeps the invariant**, for every argument: the slot `ProcessDeal` fills carries the status
of its answer as `approved` flag, and no `AggMove` touches the flag or loses the stored deal -/
theorem libInv_move {g : G} {lib : Bool} {d d' : Gen F G} (h : Move g lib d d') (hd : LibInv g d) : LibInv g d' := by
  obtain ⟨hp, hi, hl, hn⟩ := h.frame
  refine libInv_congr g d d' hd hp hi hl hn ?_
  refine h.forall_slots hd.len (fun hp _ _ ho => ?_) (fun _ hagg hm hs => ?_) hd.slot
  · cases ho with
    | failed => exact ⟨hp, rfl, rfl, by rintro ⟨⟩⟩
    | answered hsh hst _ hdl _ => exact ⟨hp, rfl, rfl, fun hap => ⟨_, _, _, rfl, hdl, hst.1 hap, hsh⟩⟩
  · refine ⟨hs.hdealer, hs.hvs, hs.hindex, fun hap => ?_⟩
    obtain ⟨a0, dl, val, h1, h2, h3, h4⟩ := hs.happ hap
    cases hagg.symm.trans h1
    exact ⟨_, dl, val, rfl, hm.deal h2, h3, h4⟩

/-- the slot `ProcessDeal` fills carries the status of the response it returns as its `approved` flag -/
theorem processDeal_lib (g : G) (d : Gen F G) (dd : DkgDeal F G) (hd : LibInv g d) :
    ∀ resp, (processDeal g d dd).2 = .ok resp → resp.index = dd.index ∧
      ∃ r w, resp.resp = some r ∧ getVerifier d dd.index = none ∧
        getVerifier (processDeal g d dd).1 dd.index = some w ∧ w.approved = r.status := by
  intro resp hres
  rcases processDeal_spec g d dd hd.idx with ⟨e, h⟩ | ⟨pub, w, hp, hnone, _, hw, hcase⟩
  · rw [h] at hres; cases hres
  · obtain ⟨_, e, he⟩ | ⟨_, r, _, _, _, _, _, hst, _, _, _, _, _, hok⟩ := hcase
    · rw [he] at hres; cases hres
    · cases hok.symm.trans hres
      exact ⟨rfl, r, w, rfl, hnone, by
        rw [hw, getVerifier_set d _ _ _ (hd.len ▸ (List.getElem?_eq_some_iff.1 hp).1), if_pos rfl], hst.symm⟩

theorem processJustification_move (g : G) (d : Gen F G) (j : DkgJust F G) :
    Move g true d (processJustification g d j).1 := by
  unfold processJustification
  split
  · exact .stay
  · rename_i v hv
    split
    · exact .stay
    · rename_i a hagg
      exact .agg hv hagg (.just j.jidx j.deal) (slotSet_set d _ (getVerifier_lt hv))

theorem libStep_move (g : G) (d : Gen F G) (op : LibOp F G)
    (hidx : findIndex (d.long • g) d.participants 0 = some d.index) : Move g true d (libStep g d op) := by
  cases op with
  | deal dd => exact processDeal_move g true d dd hidx
  | resp m => exact processResponse_move g true d m
  | just j => exact processJustification_move g d j

theorem libRun_inv (g : G) : ∀ (ops : List (LibOp F G)) (d : Gen F G), LibInv g d → LibInv g (libRun g d ops)
  | [], _, h => h
  | op :: ops, d, h => libRun_inv g ops (libStep g d op) (libInv_move (libStep_move g d op h.idx) h)

/-- the `approved` flag of a slot is written once, by the `ProcessDeal` that fills it -/
theorem approved_stable (g : G) : ∀ (ops : List (LibOp F G)) (d : Gen F G), LibInv g d → ∀ (j : Nat) (v : Verifier F G),
    getVerifier d j = some v → ∃ v', getVerifier (libRun g d ops) j = some v' ∧ v'.approved = v.approved
  | [], _, _, _, v, hv => ⟨v, hv, rfl⟩
  | op :: ops, d, hd, j, v, hv => by
    have hm := libStep_move g d op hd.idx
    obtain ⟨v1, hv1, ha1⟩ : ∃ v1, getVerifier (libStep g d op) j = some v1 ∧ v1.approved = v.approved := by
      rcases hm.slot_kept hd.len hv with h | ⟨_, _, _, _, h⟩ <;> exact ⟨_, h, rfl⟩
    obtain ⟨v2, hv2, ha2⟩ := approved_stable g ops (libStep g d op) (libInv_move hm hd) j v1 hv1
    exact ⟨v2, hv2, by rw [ha2, ha1]⟩

theorem not_certified_of_unapproved (d : Gen F G) (hlen : d.verifiers.length = d.participants.length)
    (j : Nat) (v : Verifier F G) (hv : getVerifier d j = some v) (hap : v.approved = false) :
    certified d = false := by
  rcases hc : certified d with _ | _
  · rfl
  · exfalso
    have hj : j < d.participants.length := by rw [← hlen]; exact getVerifier_lt hv
    obtain ⟨_, hall⟩ := qual_all d hlen hc
    obtain ⟨v', hv', hcert⟩ := hall j hj
    rw [hv] at hv'; injection hv' with hv'; subst hv'
    have := dealCertified_approved hcert
    rw [hap] at this; cases this

end Dos.Dkg
