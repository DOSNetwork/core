/-
C20 — scReduce (64-byte input, used by SetBytes-style reductions of hashes): interval analysis, value
argument and the assembled byte-level result  leNat (scReduce s) = leNat s mod ℓ  for ALL 64-byte inputs.
-/
import DosModel.Proofs.Ed25519RangesFinal
import DosModel.Proofs.Ed25519RangesLoad64

set_option exponentiation.threshold 600

namespace Dos.Ed25519
open Dos Dos.IntervalProg Dos.IntervalProg.ScProg Dos.Gen.Ed25519Sc Dos.Gen.Ed25519ScProg List

theorem scReduce_rangeCheck : rangeCheck scReduce_prog [64] = true := by decide +kernel

/-- ranges of the result limbs and overflow freedom, for all 64-byte inputs -/
theorem scReduce_ranges (s : Bytes) (hs : s.length = 64) :
    scReduce_prog.SafeFrom (scReduce_prog.rawVals [s])
    ∧ 0 ≤ (app24 (scReduce_limbs shrI) (scReduce_load shrI s)).s11
    ∧ (app24 (scReduce_limbs shrI) (scReduce_load shrI s)).s11 ≤ 2097152
    ∧ 0 ≤ value (app24 (scReduce_limbs shrI) (scReduce_load shrI s))
    ∧ value (app24 (scReduce_limbs shrI) (scReduce_load shrI s)) < (ell : Int) := by
  -- the last two entries of `scReduce_blocks` are, by evaluating `drop`, the two terms `scMulAdd_tail_value` speaks of
  have h := routine_ranges scReduce_tie_blocks (show ∀ st, _ from scMulAdd_tail_value) [s]
    (by simp only [List.map, hs]; exact scReduce_rangeCheck)
  rw [scReduce_tie_load, scReduce_tie_limbs] at h
  exact h (scReduce_final ..) (scReduce_hiZero shrI ..)

/-- **scReduce, complete**: the output bytes spell exactly the input value modulo ℓ -/
theorem scReduce_full (s : Bytes) (hs : s.length = 64) :
    (leNat (scReduce shrI s) : Int) = (leNat s : Int) % (ell : Int) := by
  obtain ⟨_, r0, r1, r2, r3⟩ := scReduce_ranges s hs
  rw [scReduce_eq_app, scReduce_store_eq]
  refine packed_eq_emod (scReduce_final ..) (scReduce_hiZero shrI ..) r0 r1 r2 r3 ?_
  rw [← scReduce_load_value s hs]
  exact scReduce_limbs_value shrI ..

end Dos.Ed25519
