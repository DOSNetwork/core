/-
C20 — specifications of the EXECUTABLE field operations (Model/Ed25519FeOps.lean: the regenerated
translation of fe.go run with Go's wrapping semantics), for ALL inputs within the stated limb bounds:
no overflow, output bounds, value modulo p.  Assembled from the interval analysis (Ed25519FeRanges), the tie
(Ed25519FeTie) and the value congruences (Ed25519FeAlg).
-/
import DosModel.Model.Ed25519FeOps
import DosModel.Proofs.Ed25519FeAlg
import DosModel.Proofs.Ed25519FeRanges

set_option exponentiation.threshold 600

namespace Dos.FeProg
open Dos Dos.Ed25519 Dos.IntervalProg Dos.Gen.Ed25519Fe Dos.FeOps List

theorem toL10_toList (s : L10) : toL10 s.toList = s := rfl

theorem toList_toL10 (l : List Int) (h : l.length = 10) : (toL10 l).toList = l := by
  rcases l with _ | ⟨a0, _ | ⟨a1, _ | ⟨a2, _ | ⟨a3, _ | ⟨a4, _ | ⟨a5, _ | ⟨a6, _ | ⟨a7, _ | ⟨a8, _ | ⟨a9, _ | ⟨_, _⟩⟩⟩⟩⟩⟩⟩⟩⟩⟩⟩ <;>
    simp at h
  rfl

/-- the generic assembly: analysis + tie for a routine whose stores are `h[i] = int32(h_i)` -/
theorem prog_spec {p : FeProg} {finit : List Int → L10} {fblocks : List (L10 → L10)} {fout : L10 → List Int}
    (tie : ∀ x, toL10 (p.limbsW id x) = runBlocks fblocks (finit x) ∧ p.runW id x = fout (runBlocks fblocks (finit x)))
    (hout : ∀ s, fout s = s.toList) {I : List Itv} (hc : p.check I (boundItv 1) (boundItv 1) = true)
    (x : List Int) (hin : In x I) :
    p.SafeFrom x ∧ toL10 (p.runW wrap x) = runBlocks fblocks (finit x) ∧ Bounded 1 (runBlocks fblocks (finit x)) := by
  obtain ⟨hs, _, i2⟩ := FeProg.check_sound hc hin
  obtain ⟨_, e2⟩ := FeProg.runW_wrap_eq hs
  have t2 := (tie x).2
  rw [hout] at t2
  refine ⟨hs, ?_, ?_⟩
  · rw [e2, t2, toL10_toList]
  · rw [t2] at i2
    exact (bounded_iff 1 _).2 i2

theorem feMul_out_eq (s : L10) : feMul_out s = s.toList := by
  unfold feMul_out; simp only [n32v_eq, L10.toList]
theorem feSquare_out_eq (s : L10) : feSquare_out s = s.toList := by
  unfold feSquare_out; simp only [n32v_eq, L10.toList]
theorem feSquare2_out_eq (s : L10) : feSquare2_out s = s.toList := by
  unfold feSquare2_out; simp only [n32v_eq, L10.toList]
theorem feFromBytes_out_eq (s : L10) : feFromBytes_out s = s.toList := by
  unfold feFromBytes_out; simp only [n32v_eq, L10.toList]

/-- **feMul**: inputs within 3 × the ref10 bound ⇒ no int32/int64 overflow anywhere, output within 1 ×, value f·g mod p -/
theorem feMul_spec (f g : L10) (hf : Bounded 3 f) (hg : Bounded 3 g) :
    feMul_prog.SafeFrom (f.toList ++ g.toList) ∧ Bounded 1 (feMul f g) ∧ ModP (feVal (feMul f g)) (feVal f * feVal g) := by
  obtain ⟨h1, h2, h3⟩ := prog_spec feMul_tie feMul_out_eq feMul_check (f.toList ++ g.toList)
    (In.append ((bounded_iff 3 f).1 hf) ((bounded_iff 3 g).1 hg))
  unfold feMul
  rw [h2]
  exact ⟨h1, h3, feMul_limbs_value f g⟩

theorem feSquare_spec (f : L10) (hf : Bounded 3 f) :
    feSquare_prog.SafeFrom f.toList ∧ Bounded 1 (feSquare f) ∧ ModP (feVal (feSquare f)) (feVal f * feVal f) := by
  obtain ⟨h1, h2, h3⟩ := prog_spec feSquare_tie feSquare_out_eq feSquare_check f.toList ((bounded_iff 3 f).1 hf)
  unfold feSquare
  rw [h2]
  exact ⟨h1, h3, feSquare_limbs_value f⟩

theorem feSquare2_spec (f : L10) (hf : Bounded 3 f) :
    feSquare2_prog.SafeFrom f.toList ∧ Bounded 1 (feSquare2 f) ∧ ModP (feVal (feSquare2 f)) (2 * (feVal f * feVal f)) := by
  obtain ⟨h1, h2, h3⟩ := prog_spec feSquare2_tie feSquare2_out_eq feSquare2_check f.toList ((bounded_iff 3 f).1 hf)
  unfold feSquare2
  rw [h2]
  exact ⟨h1, h3, feSquare2_limbs_value f⟩

/-! ### element-wise loops -/

theorem I64_of_I32 {x : Int} (h : I32 x) : I64 x := by
  unfold I32 at h; unfold I64 minI64 maxI64; omega

theorem mapW_eq (m : FeMap) (a b : L10) : mapW m a b =
    ⟨m.body.evalW wrap [a.h0, b.h0], m.body.evalW wrap [a.h1, b.h1], m.body.evalW wrap [a.h2, b.h2],
     m.body.evalW wrap [a.h3, b.h3], m.body.evalW wrap [a.h4, b.h4], m.body.evalW wrap [a.h5, b.h5],
     m.body.evalW wrap [a.h6, b.h6], m.body.evalW wrap [a.h7, b.h7], m.body.evalW wrap [a.h8, b.h8],
     m.body.evalW wrap [a.h9, b.h9]⟩ := rfl

/-- value of a safe element expression under Go's semantics -/
theorem elem_eval (e : Expr) (x y : Int) (h : e.Safe [x, y]) : e.evalW wrap [x, y] = e.eval [x, y] :=
  Expr.eval64_eq _ e h

theorem feAdd_elem_eq (x y : Int) (hx : I32 x) (hy : I32 y) (hs : I32 (x + y)) :
    feAdd_map.body.evalW wrap [x, y] = x + y := by
  have hsafe : feAdd_map.body.Safe [x, y] := by
    unfold feAdd_map
    exact (n32_safe _ _).2 ⟨⟨I64_of_I32 hx, I64_of_I32 hy, I64_of_I32 hs⟩, hs⟩
  rw [elem_eval _ _ _ hsafe]
  unfold feAdd_map
  exact n32v_eq _

theorem feSub_elem_eq (x y : Int) (hx : I32 x) (hy : I32 y) (hs : I32 (x - y)) :
    feSub_map.body.evalW wrap [x, y] = x - y := by
  have hsafe : feSub_map.body.Safe [x, y] := by
    unfold feSub_map
    exact (n32_safe _ _).2 ⟨⟨I64_of_I32 hx, I64_of_I32 hy, I64_of_I32 hs⟩, hs⟩
  rw [elem_eval _ _ _ hsafe]
  unfold feSub_map
  exact n32v_eq _

theorem feNeg_elem_eq (x y : Int) (hx : I32 x) (hs : I32 (-x)) :
    feNeg_map.body.evalW wrap [x, y] = -x := by
  have hsafe : feNeg_map.body.Safe [x, y] := by
    unfold feNeg_map
    refine (n32_safe _ _).2 ⟨⟨(by show I64 0; unfold I64 minI64 maxI64; omega), I64_of_I32 hx, ?_⟩, ?_⟩
    · show I64 (0 - x); rw [Int.zero_sub]; exact I64_of_I32 hs
    · show I32 (id (0 - x)); rw [id, Int.zero_sub]; exact hs
  rw [elem_eval _ _ _ hsafe]
  unfold feNeg_map
  show n32v (id (0 - x)) = -x
  rw [n32v_eq, id, Int.zero_sub]

theorem feCopy_elem_eq (x y : Int) : feCopy_map.body.evalW wrap [x, y] = x := by
  unfold feCopy_map; rfl

theorem feZero_elem_eq (x y : Int) : feZero_map.body.evalW wrap [x, y] = 0 := by
  unfold feZero_map; rfl

/-- |limb| ≤ k · bound with k ≤ 58 is an int32 (58 · 36909875 < 2^31) -/
theorem Bounded.i32 {k : Int} {s : L10} (h : Bounded k s) (hk : k ≤ 58) :
    I32 s.h0 ∧ I32 s.h1 ∧ I32 s.h2 ∧ I32 s.h3 ∧ I32 s.h4 ∧ I32 s.h5 ∧ I32 s.h6 ∧ I32 s.h7 ∧ I32 s.h8 ∧ I32 s.h9 := by
  unfold Bounded evenB oddB at h
  unfold I32
  omega

theorem Bounded.mono13 {r : L10} (h : Bounded 1 r) : Bounded 3 r := by
  unfold Bounded evenB oddB at *
  omega

/-- **feAdd**: exact sum limb by limb, no int32 overflow, bounds add -/
theorem feAdd_spec (a b : Int) (f g : L10) (hf : Bounded a f) (hg : Bounded b g) (hab : a + b ≤ 58)
    (ha : 0 ≤ a) (hb : 0 ≤ b) :
    feAdd f g = ⟨f.h0 + g.h0, f.h1 + g.h1, f.h2 + g.h2, f.h3 + g.h3, f.h4 + g.h4, f.h5 + g.h5, f.h6 + g.h6,
      f.h7 + g.h7, f.h8 + g.h8, f.h9 + g.h9⟩
    ∧ Bounded (a + b) (feAdd f g) ∧ feVal (feAdd f g) = feVal f + feVal g := by
  have hs : Bounded (a + b) ⟨f.h0 + g.h0, f.h1 + g.h1, f.h2 + g.h2, f.h3 + g.h3, f.h4 + g.h4, f.h5 + g.h5,
      f.h6 + g.h6, f.h7 + g.h7, f.h8 + g.h8, f.h9 + g.h9⟩ := by
    unfold Bounded evenB oddB at *
    simp only
    omega
  obtain ⟨f0, f1, f2, f3, f4, f5, f6, f7, f8, f9⟩ := hf.i32 (by omega)
  obtain ⟨g0, g1, g2, g3, g4, g5, g6, g7, g8, g9⟩ := hg.i32 (by omega)
  obtain ⟨s0, s1, s2, s3, s4, s5, s6, s7, s8, s9⟩ := hs.i32 hab
  have e : feAdd f g = ⟨f.h0 + g.h0, f.h1 + g.h1, f.h2 + g.h2, f.h3 + g.h3, f.h4 + g.h4, f.h5 + g.h5,
      f.h6 + g.h6, f.h7 + g.h7, f.h8 + g.h8, f.h9 + g.h9⟩ := by
    unfold feAdd
    rw [mapW_eq, feAdd_elem_eq _ _ f0 g0 s0, feAdd_elem_eq _ _ f1 g1 s1, feAdd_elem_eq _ _ f2 g2 s2,
      feAdd_elem_eq _ _ f3 g3 s3, feAdd_elem_eq _ _ f4 g4 s4, feAdd_elem_eq _ _ f5 g5 s5,
      feAdd_elem_eq _ _ f6 g6 s6, feAdd_elem_eq _ _ f7 g7 s7, feAdd_elem_eq _ _ f8 g8 s8,
      feAdd_elem_eq _ _ f9 g9 s9]
  refine ⟨e, by rw [e]; exact hs, ?_⟩
  rw [e]
  unfold feVal
  ring

theorem feSub_spec (a b : Int) (f g : L10) (hf : Bounded a f) (hg : Bounded b g) (hab : a + b ≤ 58)
    (ha : 0 ≤ a) (hb : 0 ≤ b) :
    feSub f g = ⟨f.h0 - g.h0, f.h1 - g.h1, f.h2 - g.h2, f.h3 - g.h3, f.h4 - g.h4, f.h5 - g.h5, f.h6 - g.h6,
      f.h7 - g.h7, f.h8 - g.h8, f.h9 - g.h9⟩
    ∧ Bounded (a + b) (feSub f g) ∧ feVal (feSub f g) = feVal f - feVal g := by
  have hs : Bounded (a + b) ⟨f.h0 - g.h0, f.h1 - g.h1, f.h2 - g.h2, f.h3 - g.h3, f.h4 - g.h4, f.h5 - g.h5,
      f.h6 - g.h6, f.h7 - g.h7, f.h8 - g.h8, f.h9 - g.h9⟩ := by
    unfold Bounded evenB oddB at *
    simp only
    omega
  obtain ⟨f0, f1, f2, f3, f4, f5, f6, f7, f8, f9⟩ := hf.i32 (by omega)
  obtain ⟨g0, g1, g2, g3, g4, g5, g6, g7, g8, g9⟩ := hg.i32 (by omega)
  obtain ⟨s0, s1, s2, s3, s4, s5, s6, s7, s8, s9⟩ := hs.i32 hab
  have e : feSub f g = ⟨f.h0 - g.h0, f.h1 - g.h1, f.h2 - g.h2, f.h3 - g.h3, f.h4 - g.h4, f.h5 - g.h5,
      f.h6 - g.h6, f.h7 - g.h7, f.h8 - g.h8, f.h9 - g.h9⟩ := by
    unfold feSub
    rw [mapW_eq, feSub_elem_eq _ _ f0 g0 s0, feSub_elem_eq _ _ f1 g1 s1, feSub_elem_eq _ _ f2 g2 s2,
      feSub_elem_eq _ _ f3 g3 s3, feSub_elem_eq _ _ f4 g4 s4, feSub_elem_eq _ _ f5 g5 s5,
      feSub_elem_eq _ _ f6 g6 s6, feSub_elem_eq _ _ f7 g7 s7, feSub_elem_eq _ _ f8 g8 s8,
      feSub_elem_eq _ _ f9 g9 s9]
  refine ⟨e, by rw [e]; exact hs, ?_⟩
  rw [e]
  unfold feVal
  ring

theorem feNeg_spec (a : Int) (f : L10) (hf : Bounded a f) (ha : a ≤ 58) :
    feNeg f = ⟨-f.h0, -f.h1, -f.h2, -f.h3, -f.h4, -f.h5, -f.h6, -f.h7, -f.h8, -f.h9⟩
    ∧ Bounded a (feNeg f) ∧ feVal (feNeg f) = -feVal f := by
  have hs : Bounded a ⟨-f.h0, -f.h1, -f.h2, -f.h3, -f.h4, -f.h5, -f.h6, -f.h7, -f.h8, -f.h9⟩ := by
    unfold Bounded evenB oddB at *
    simp only
    omega
  obtain ⟨f0, f1, f2, f3, f4, f5, f6, f7, f8, f9⟩ := hf.i32 ha
  obtain ⟨s0, s1, s2, s3, s4, s5, s6, s7, s8, s9⟩ := hs.i32 ha
  have e : feNeg f = ⟨-f.h0, -f.h1, -f.h2, -f.h3, -f.h4, -f.h5, -f.h6, -f.h7, -f.h8, -f.h9⟩ := by
    unfold feNeg
    rw [mapW_eq, feNeg_elem_eq _ _ f0 s0, feNeg_elem_eq _ _ f1 s1, feNeg_elem_eq _ _ f2 s2,
      feNeg_elem_eq _ _ f3 s3, feNeg_elem_eq _ _ f4 s4, feNeg_elem_eq _ _ f5 s5,
      feNeg_elem_eq _ _ f6 s6, feNeg_elem_eq _ _ f7 s7, feNeg_elem_eq _ _ f8 s8, feNeg_elem_eq _ _ f9 s9]
  refine ⟨e, by rw [e]; exact hs, ?_⟩
  rw [e]
  unfold feVal
  ring

theorem feCopy_spec (f : L10) : feCopy f = f := by
  unfold feCopy
  rw [mapW_eq]
  simp only [feCopy_elem_eq]

theorem feZero_spec : feZero = zero10 := by
  unfold feZero
  rw [mapW_eq]
  simp only [feZero_elem_eq]
  rfl

theorem feOne_spec : feOne = ⟨1, 0, 0, 0, 0, 0, 0, 0, 0, 0⟩ := by
  unfold feOne
  rw [feZero_spec]
  unfold_fe
  rfl

theorem feVal_zero : feVal zero10 = 0 := by decide
theorem feVal_one : feVal ⟨1, 0, 0, 0, 0, 0, 0, 0, 0, 0⟩ = 1 := by decide

end Dos.FeProg
