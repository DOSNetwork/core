/-
C10 layer 4 — gfP6 (gfp6.go) over gfP2 over ANY commutative ring α is the ring
(α[i]/(i²+1))[τ]/(τ³ − ξ), ξ = i + 9: the Karatsuba `Mul`, the `Square`, `MulTau`,
`MulScalar`, `MulGFP` are multiplication in that ring (`ring` over the commutative ring
gfP2 of Proofs/Bn256Tower2.lean), the operations form a commutative ring, and `Invert` is
the inverse whenever the gfP2-inversion of the norm F succeeds.
-/
import DosModel.Proofs.Bn256Tower2

namespace Dos.Bn256
namespace Fp6

@[ext] theorem ext' {α : Type} {a b : Fp6 α} (hx : a.x = b.x) (hy : a.y = b.y) (hz : a.z = b.z) : a = b := by
  cases a; cases b; simp_all

section ring
variable {α : Type} [CommRing α]
open Fp2 (xi)

/-- the schoolbook product of xτ² + yτ + z and x'τ² + y'τ + z' reduced by τ³ = ξ -/
def mulSpec (a b : Fp6 α) : Fp6 α :=
  ⟨a.x * b.z + a.y * b.y + a.z * b.x,
   a.y * b.z + a.z * b.y + xi * (a.x * b.x),
   a.z * b.z + xi * (a.x * b.y + a.y * b.x)⟩

theorem mul_eq_spec (a b : Fp6 α) : Fp6.mul a b = mulSpec a b := by
  refine Fp6.ext' ?_ ?_ ?_ <;> simp only [Fp6.mul, mulSpec, Fp2.mul_eq, Fp2.add_eq, Fp2.sub_eq, Fp2.mulXi_eq] <;> ring

theorem square_eq_mul (a : Fp6 α) : Fp6.square a = Fp6.mul a a := by
  rw [mul_eq_spec]
  refine Fp6.ext' ?_ ?_ ?_ <;> simp only [Fp6.square, mulSpec, Fp2.square_eq, Fp2.add_eq, Fp2.sub_eq, Fp2.mulXi_eq] <;> ring

/-- the element τ -/
def tau : Fp6 α := ⟨0, 1, 0⟩
/-- embedding of gfP2 -/
def ofBase (c : Fp2 α) : Fp6 α := ⟨0, 0, c⟩

theorem mulTau_eq (a : Fp6 α) : Fp6.mulTau a = Fp6.mul tau a := by
  rw [mul_eq_spec]
  refine Fp6.ext' ?_ ?_ ?_ <;> simp only [Fp6.mulTau, mulSpec, tau, Fp2.mulXi_eq] <;> ring

theorem mulScalar_eq (a : Fp6 α) (c : Fp2 α) : Fp6.mulScalar a c = Fp6.mul a (ofBase c) := by
  rw [mul_eq_spec]
  refine Fp6.ext' ?_ ?_ ?_ <;> simp only [Fp6.mulScalar, mulSpec, ofBase, Fp2.mul_eq] <;> ring

theorem mulGFP_eq (a : Fp6 α) (c : α) : Fp6.mulGFP a c = Fp6.mul a (ofBase (Fp2.ofBase c)) := by
  rw [mul_eq_spec]
  refine Fp6.ext' ?_ ?_ ?_ <;> simp only [Fp6.mulGFP, mulSpec, ofBase, Fp2.mulScalar_eq] <;> ring

/-- τ³ = ξ -/
theorem tau_cubed : Fp6.mul tau (Fp6.mul tau tau) = (ofBase xi : Fp6 α) := by
  simp only [mul_eq_spec]
  refine Fp6.ext' ?_ ?_ ?_ <;> simp only [mulSpec, tau, ofBase] <;> ring

theorem add_assoc' (a b c : Fp6 α) : Fp6.add (Fp6.add a b) c = Fp6.add a (Fp6.add b c) := by
  refine Fp6.ext' ?_ ?_ ?_ <;> simp only [Fp6.add, Fp2.add_eq] <;> ring
theorem zero_add' (a : Fp6 α) : Fp6.add Fp6.zero a = a := by
  refine Fp6.ext' ?_ ?_ ?_ <;> simp only [Fp6.add, Fp6.zero, Fp2.add_eq, Fp2.zero_eq] <;> ring
theorem add_zero' (a : Fp6 α) : Fp6.add a Fp6.zero = a := by
  refine Fp6.ext' ?_ ?_ ?_ <;> simp only [Fp6.add, Fp6.zero, Fp2.add_eq, Fp2.zero_eq] <;> ring
theorem add_comm' (a b : Fp6 α) : Fp6.add a b = Fp6.add b a := by
  refine Fp6.ext' ?_ ?_ ?_ <;> simp only [Fp6.add, Fp2.add_eq] <;> ring
theorem neg_add_cancel' (a : Fp6 α) : Fp6.add (Fp6.neg a) a = Fp6.zero := by
  refine Fp6.ext' ?_ ?_ ?_ <;> simp only [Fp6.add, Fp6.neg, Fp6.zero, Fp2.add_eq, Fp2.neg_eq, Fp2.zero_eq] <;> ring
theorem sub_eq_add_neg' (a b : Fp6 α) : Fp6.sub a b = Fp6.add a (Fp6.neg b) := by
  refine Fp6.ext' ?_ ?_ ?_ <;> simp only [Fp6.add, Fp6.neg, Fp6.sub, Fp2.add_eq, Fp2.neg_eq, Fp2.sub_eq] <;> ring
theorem mul_assoc' (a b c : Fp6 α) : Fp6.mul (Fp6.mul a b) c = Fp6.mul a (Fp6.mul b c) := by
  simp only [mul_eq_spec]; refine Fp6.ext' ?_ ?_ ?_ <;> simp only [mulSpec] <;> ring
theorem one_mul' (a : Fp6 α) : Fp6.mul Fp6.one a = a := by
  simp only [mul_eq_spec]; refine Fp6.ext' ?_ ?_ ?_ <;> simp only [mulSpec, Fp6.one, Fp2.zero_eq, Fp2.one_eq] <;> ring
theorem mul_one' (a : Fp6 α) : Fp6.mul a Fp6.one = a := by
  simp only [mul_eq_spec]; refine Fp6.ext' ?_ ?_ ?_ <;> simp only [mulSpec, Fp6.one, Fp2.zero_eq, Fp2.one_eq] <;> ring
theorem left_distrib' (a b c : Fp6 α) : Fp6.mul a (Fp6.add b c) = Fp6.add (Fp6.mul a b) (Fp6.mul a c) := by
  simp only [mul_eq_spec]; refine Fp6.ext' ?_ ?_ ?_ <;> simp only [mulSpec, Fp6.add, Fp2.add_eq] <;> ring
theorem right_distrib' (a b c : Fp6 α) : Fp6.mul (Fp6.add a b) c = Fp6.add (Fp6.mul a c) (Fp6.mul b c) := by
  simp only [mul_eq_spec]; refine Fp6.ext' ?_ ?_ ?_ <;> simp only [mulSpec, Fp6.add, Fp2.add_eq] <;> ring
theorem zero_mul' (a : Fp6 α) : Fp6.mul Fp6.zero a = Fp6.zero := by
  simp only [mul_eq_spec]; refine Fp6.ext' ?_ ?_ ?_ <;> simp only [mulSpec, Fp6.zero, Fp2.zero_eq] <;> ring
theorem mul_zero' (a : Fp6 α) : Fp6.mul a Fp6.zero = Fp6.zero := by
  simp only [mul_eq_spec]; refine Fp6.ext' ?_ ?_ ?_ <;> simp only [mulSpec, Fp6.zero, Fp2.zero_eq] <;> ring
theorem mul_comm' (a b : Fp6 α) : Fp6.mul a b = Fp6.mul b a := by
  simp only [mul_eq_spec]; refine Fp6.ext' ?_ ?_ ?_ <;> simp only [mulSpec] <;> ring

/-- the commutative ring whose operations are the transcribed gfP6 functions -/
instance instCommRing : CommRing (Fp6 α) where
  add := Fp6.add
  zero := Fp6.zero
  neg := Fp6.neg
  sub := Fp6.sub
  mul := Fp6.mul
  one := Fp6.one
  nsmul := nsmulRec
  zsmul := zsmulRec
  add_assoc := add_assoc'
  zero_add := zero_add'
  add_zero := add_zero'
  add_comm := add_comm'
  neg_add_cancel := neg_add_cancel'
  sub_eq_add_neg := sub_eq_add_neg'
  mul_assoc := mul_assoc'
  one_mul := one_mul'
  mul_one := mul_one'
  left_distrib := left_distrib'
  right_distrib := right_distrib'
  zero_mul := zero_mul'
  mul_zero := mul_zero'
  mul_comm := mul_comm'

theorem add_eq (a b : Fp6 α) : Fp6.add a b = a + b := rfl
theorem sub_eq (a b : Fp6 α) : Fp6.sub a b = a - b := rfl
theorem neg_eq (a : Fp6 α) : Fp6.neg a = -a := rfl
theorem mul_eq (a b : Fp6 α) : Fp6.mul a b = a * b := rfl
theorem zero_eq : (Fp6.zero : Fp6 α) = 0 := rfl
theorem one_eq : (Fp6.one : Fp6 α) = 1 := rfl
theorem square_eq (a : Fp6 α) : Fp6.square a = a * a := square_eq_mul a
theorem mulTau_eq' (a : Fp6 α) : Fp6.mulTau a = tau * a := mulTau_eq a

/-- the value F whose gfP2-inverse gfP6.Invert takes: the norm x³ξ² + y³ξ + z³ − 3ξxyz -/
def normF (a : Fp6 α) : Fp2 α :=
  xi * ((a.y * a.y - a.x * a.z) * a.y) + (a.z * a.z - xi * (a.x * a.y)) * a.z +
    xi * ((xi * (a.x * a.x) - a.y * a.z) * a.x)

theorem normF_eq (a : Fp6 α) :
    normF a = xi * xi * (a.x * a.x * a.x) + xi * (a.y * a.y * a.y) + a.z * a.z * a.z
      - 3 * xi * (a.x * a.y * a.z) := by
  simp only [normF]; ring

theorem mul_coords (a b : Fp6 α) : (a * b).x = a.x * b.z + a.y * b.y + a.z * b.x ∧
    (a * b).y = a.y * b.z + a.z * b.y + xi * (a.x * b.x) ∧
    (a * b).z = a.z * b.z + xi * (a.x * b.y + a.y * b.x) := by
  rw [← mul_eq, mul_eq_spec]; exact ⟨rfl, rfl, rfl⟩

theorem ofBase_mul (c d : Fp2 α) : (ofBase (c * d) : Fp6 α) = ofBase c * ofBase d := by
  obtain ⟨hx, hy, hz⟩ := mul_coords (ofBase c) (ofBase d)
  refine Fp6.ext' ?_ ?_ ?_
  · rw [hx]; simp only [ofBase]; ring
  · rw [hy]; simp only [ofBase]; ring
  · rw [hz]; simp only [ofBase]; ring

theorem ofBase_one : (ofBase (1 : Fp2 α) : Fp6 α) = 1 := by rw [← one_eq]; rfl

/-- gfP2 inside gfP6 -/
def ofBaseHom : Fp2 α →+* Fp6 α where
  toFun := ofBase
  map_one' := ofBase_one
  map_mul' := ofBase_mul
  map_zero' := rfl
  map_add' a b := by
    rw [← add_eq]; refine Fp6.ext' ?_ ?_ ?_ <;> simp only [ofBase, Fp6.add, Fp2.add_eq] <;> ring

theorem ofBaseHom_inj : Function.Injective (ofBaseHom : Fp2 α →+* Fp6 α) := fun _ _ h => congrArg Fp6.z h

theorem decomp (a : Fp6 α) : a = ofBase a.x * (tau * tau) + ofBase a.y * tau + ofBase a.z := by
  have e : ∀ x y : Fp6 α, x + y = Fp6.add x y := fun _ _ => rfl
  rw [e, e, ← mul_eq, ← mul_eq, ← mul_eq, mul_eq_spec, mul_eq_spec, mul_eq_spec]
  refine Fp6.ext' ?_ ?_ ?_ <;> simp only [ofBase, tau, mulSpec, Fp6.add, Fp2.add_eq] <;> ring

/-- a ring homomorphism out of gfP6 is determined by its values on gfP2 and on τ -/
theorem ringHom_ext {S : Type} [Semiring S] {f g : Fp6 α →+* S} (hb : ∀ c, f (ofBase c) = g (ofBase c))
    (ht : f tau = g tau) : f = g :=
  RingHom.ext fun a => by rw [decomp a]; simp only [map_add, map_mul, hb, ht]

/-- the adjugate (C, B, A) that gfP6.Invert multiplies by the inverted norm -/
def adj (a : Fp6 α) : Fp6 α :=
  ⟨a.y * a.y - a.x * a.z, xi * (a.x * a.x) - a.y * a.z, a.z * a.z - xi * (a.x * a.y)⟩

theorem mul_adj (a : Fp6 α) : a * adj a = ofBase (normF a) := by
  obtain ⟨hx, hy, hz⟩ := mul_coords a (adj a)
  refine Fp6.ext' ?_ ?_ ?_
  · rw [hx]; simp only [adj, ofBase]; ring
  · rw [hy]; simp only [adj, ofBase]; ring
  · rw [hz]; simp only [adj, ofBase, normF]; ring

/-- the norm gfP6 → gfP2 is multiplicative -/
theorem normF_mul (a b : Fp6 α) : normF (a * b) = normF a * normF b := by
  obtain ⟨hx, hy, hz⟩ := mul_coords a b
  simp only [normF, hx, hy, hz]; ring

end ring

section inv
variable {α : Type} [Field α]
open Fp2 (xi)

theorem invert_eq (a : Fp6 α) : Fp6.invert a = adj a * ofBase (Fp2.invert (normF a)) := by
  obtain ⟨hx, hy, hz⟩ := mul_coords (adj a) (ofBase (Fp2.invert (normF a)))
  refine Fp6.ext' ?_ ?_ ?_
  · rw [hx]
    simp only [Fp6.invert, adj, ofBase, normF, Fp2.mul_eq, Fp2.add_eq, Fp2.sub_eq, Fp2.mulXi_eq, Fp2.square_eq]
    ring
  · rw [hy]
    simp only [Fp6.invert, adj, ofBase, normF, Fp2.mul_eq, Fp2.add_eq, Fp2.sub_eq, Fp2.mulXi_eq, Fp2.square_eq]
    ring
  · rw [hz]
    simp only [Fp6.invert, adj, ofBase, normF, Fp2.mul_eq, Fp2.add_eq, Fp2.sub_eq, Fp2.mulXi_eq, Fp2.square_eq]
    ring

/-- **gfP6.Invert**: if the gfP2 inversion of the norm succeeded (F · Invert(F) = 1), the result
is the inverse. (Over bn256's gfP2 the norm of a non-zero element is non-zero, as τ³ − ξ is irreducible.) -/
theorem mul_invert (a : Fp6 α) (hF : normF a * Fp2.invert (normF a) = 1) :
    Fp6.mul a (Fp6.invert a) = Fp6.one := by
  rw [mul_eq, invert_eq, ← mul_assoc, mul_adj, ← ofBase_mul, hF]; rfl

end inv
end Fp6
end Dos.Bn256
