/-
Composition helper: the executable `Fp2` of `Model/Bn256.lean` (pairs of naturals, every operation
reduced `% p`) computes in the FIELD `F_p² = F_p[i]/(i²+1)`, realised as Mathlib's
`QuadraticAlgebra (ZMod p) (-1) 0` — a field because `p` is prime (`Proofs/Primes.lean`) and
`p ≡ 3 (mod 4)`, so `−1` is not a square modulo `p`.
`c2 : Fp2 → K2` (cast both components) carries `add sub neg mul sq smulFp inv` to `+ − − · ·² · ⁻¹`.
-/
import Mathlib.Algebra.QuadraticAlgebra.Basic
import Mathlib.NumberTheory.LegendreSymbol.Basic
import DosModel.Proofs.Bn256ConcCurve

namespace Dos.Compose
open Dos Dos.Bn256

theorem p_mod_four : Bn256.p % 4 = 3 := by decide

instance fact_neg_one_nonsquare : Fact (∀ r : ZMod Bn256.p, r ^ 2 ≠ -1 + 0 * r) :=
  ⟨fun r h => ZMod.mod_four_ne_three_of_sq_eq_neg_one (p := Bn256.p) (y := r) (by simpa using h) p_mod_four⟩

/-- `F_p²`, `ω = i`, `i² = −1` -/
abbrev K2 := QuadraticAlgebra (ZMod Bn256.p) (-1) 0

/-- the value of a model `Fp2` (`im·i + re`) -/
def c2 (a : Bn256.Fp2) : K2 := ⟨(a.re : ZMod Bn256.p), (a.im : ZMod Bn256.p)⟩

theorem c2_add (a b : Bn256.Fp2) : c2 (Fp2.add a b) = c2 a + c2 b := by
  ext <;> simp [c2, Fp2.add, cast_fadd]

theorem c2_sub (a b : Bn256.Fp2) : c2 (Fp2.sub a b) = c2 a - c2 b := by
  ext <;> simp [c2, Fp2.sub, cast_fsub]

theorem c2_neg (a : Bn256.Fp2) : c2 (Fp2.neg a) = -c2 a := by
  ext <;> simp [c2, Fp2.neg, cast_fneg]

theorem c2_mul (a b : Bn256.Fp2) : c2 (Fp2.mul a b) = c2 a * c2 b := by
  ext
  · simp only [c2, Fp2.mul, cast_fsub, cast_fmul, QuadraticAlgebra.re_mul]; ring
  · simp only [c2, Fp2.mul, cast_fadd, cast_fmul, QuadraticAlgebra.im_mul]; ring

theorem c2_sq (a : Bn256.Fp2) : c2 (Fp2.sq a) = c2 a * c2 a := c2_mul a a

theorem c2_smulFp (k : Nat) (a : Bn256.Fp2) : c2 (Fp2.smulFp k a) = (k : K2) * c2 a := by
  ext <;> simp [c2, Fp2.smulFp, cast_fmul]

theorem c2_inv (a : Bn256.Fp2) : c2 (Fp2.inv a) = (c2 a)⁻¹ := by
  -- the norm of `c2 a` as `QuadraticAlgebra.norm_def` spells it = `im² + re²`, what `Fp2.inv` divides by
  have hn : ((a.re : ZMod Bn256.p) * a.re + 0 * a.re * a.im - -1 * a.im * a.im)
      = (a.im : ZMod Bn256.p) * a.im + a.re * a.re := by ring
  ext
  · simp only [c2, Fp2.inv, cast_fmul, cast_finv, cast_fadd, cast_fsq, QuadraticAlgebra.re_inv,
      QuadraticAlgebra.norm_def]
    rw [hn]; ring
  · simp only [c2, Fp2.inv, cast_fmul, cast_finv, cast_fadd, cast_fsq, cast_fneg, QuadraticAlgebra.im_inv,
      QuadraticAlgebra.norm_def]
    rw [hn]; ring

/-- equality after reduction = equality of values -/
theorem reduce_eq_iff (a b : Bn256.Fp2) : Fp2.reduce a = Fp2.reduce b ↔ c2 a = c2 b := by
  simp only [Fp2.reduce, Fp2.mk.injEq, mod_eq_iff_cast, c2, QuadraticAlgebra.ext_iff]
  exact and_comm

theorem reduce_isZero_iff (a : Bn256.Fp2) : (Fp2.reduce a).isZero = true ↔ c2 a = 0 := by
  simp only [Fp2.reduce, Fp2.isZero, Bool.and_eq_true, beq_iff_eq, mod_eq_zero_iff_cast, c2,
    QuadraticAlgebra.ext_iff, QuadraticAlgebra.re_zero, QuadraticAlgebra.im_zero]
  exact and_comm

/-- both components reduced: what every `Fp2` operation returns, and where `c2` is injective -/
def Fp2.Red (a : Bn256.Fp2) : Prop := a.im < Bn256.p ∧ a.re < Bn256.p

theorem c2_inj_reduced {a b : Bn256.Fp2} (ha : Fp2.Red a) (hb : Fp2.Red b) (h : c2 a = c2 b) : a = b := by
  have := (reduce_eq_iff a b).2 h
  simp only [Fp2.reduce, Nat.mod_eq_of_lt ha.1, Nat.mod_eq_of_lt ha.2, Nat.mod_eq_of_lt hb.1,
    Nat.mod_eq_of_lt hb.2] at this
  cases a; cases b; simpa using this

theorem red_add (a b : Bn256.Fp2) : Fp2.Red (Fp2.add a b) := ⟨fadd_lt _ _, fadd_lt _ _⟩
theorem red_sub (a b : Bn256.Fp2) : Fp2.Red (Fp2.sub a b) := ⟨fsub_lt _ _, fsub_lt _ _⟩
theorem red_neg (a : Bn256.Fp2) : Fp2.Red (Fp2.neg a) := ⟨fneg_lt _, fneg_lt _⟩
theorem red_mul (a b : Bn256.Fp2) : Fp2.Red (Fp2.mul a b) := ⟨fadd_lt _ _, fsub_lt _ _⟩

theorem two_ne_zero_K2 : (2 : K2) ≠ 0 := by
  intro h
  have := congrArg QuadraticAlgebra.re h
  rw [QuadraticAlgebra.re_ofNat, QuadraticAlgebra.re_zero] at this
  exact two_ne_zero_F this

theorem three_ne_zero_K2 : (3 : K2) ≠ 0 := by
  intro h
  have := congrArg QuadraticAlgebra.re h
  rw [QuadraticAlgebra.re_ofNat, QuadraticAlgebra.re_zero] at this
  exact three_ne_zero_F this

end Dos.Compose
