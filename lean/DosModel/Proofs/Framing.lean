import DosModel.Model.Framing
import DosModel.Proofs.CodecBytes

/-! `readN` hands out exactly the next `n` bytes of the flattened stream, however it is cut into chunks
(`readN_flatten`); so `readFrame`, and `readFrameE` with it, compute a function of the byte stream alone
(`parseFrame`, `frameOf_flat`), and so does `readFrames` (`parseFrames`, `readFrames_flat`). -/
namespace Dos.Framing
open Dos

/-- what `readN` returns is decided by the flattened stream alone: the next `n` bytes and chunks that flatten to
what follows them, or an error when fewer than `n` bytes are left -/
theorem readN_flatten : ∀ (cs : List Bytes) (n : Nat),
    match readN n cs with
    | some (b, r) => n ≤ cs.flatten.length ∧ b = cs.flatten.take n ∧ r.flatten = cs.flatten.drop n
    | none => cs.flatten.length < n := by
  intro cs
  induction cs with
  | nil => intro n; cases n <;> simp [readN]
  | cons ch cs ih =>
    intro n
    cases n with
    | zero => simp [readN]
    | succ n =>
      simp only [readN, List.flatten_cons, List.length_append]
      by_cases h0 : ch.length = 0
      · cases List.eq_nil_of_length_eq_zero h0
        simpa using ih (n + 1)
      · by_cases hle : ch.length ≤ n + 1
        · have := ih (n + 1 - ch.length)
          simp only [h0, hle, if_true, if_false]
          cases hr : readN (n + 1 - ch.length) cs with
          | none => rw [hr] at this; simp only at this ⊢; omega
          | some x =>
            rw [hr] at this
            obtain ⟨h1, h2, h3⟩ := this
            refine ⟨by omega, ?_, ?_⟩
            · rw [List.take_append, List.take_of_length_le hle, h2]
            · rw [List.drop_append, List.drop_of_length_le hle, h3]; rfl
        · simp only [h0, hle, if_false]
          exact ⟨by omega, (List.take_append_of_le_length (by omega)).symm, by
            simp only [List.flatten_cons]; rw [List.drop_append_of_le_length (by omega)]⟩

theorem readN_spec (cs : List Bytes) (n : Nat) (h : n ≤ cs.flatten.length) :
    ∃ cs', readN n cs = some (cs.flatten.take n, cs') ∧ cs'.flatten = cs.flatten.drop n := by
  have := readN_flatten cs n
  cases hr : readN n cs with
  | none => rw [hr] at this; exact absurd this (Nat.not_lt.mpr h)
  | some x => rw [hr] at this; exact ⟨x.2, by rw [← this.2.1], this.2.2⟩

theorem readN_none (cs : List Bytes) (n : Nat) (h : cs.flatten.length < n) : readN n cs = none := by
  have := readN_flatten cs n
  cases hr : readN n cs with
  | none => rfl
  | some x => rw [hr] at this; exact absurd this.1 (Nat.not_le.mpr h)

theorem readN_some {cs : List Bytes} {n : Nat} {b : Bytes} {r : List Bytes} (h : readN n cs = some (b, r)) :
    n ≤ cs.flatten.length ∧ b = cs.flatten.take n ∧ r.flatten = cs.flatten.drop n := by
  have := readN_flatten cs n
  rwa [h] at this

theorem readN_length {cs : List Bytes} {n : Nat} {b : Bytes} {r : List Bytes} (h : readN n cs = some (b, r)) :
    b.length = n := by
  obtain ⟨hle, rfl, _⟩ := readN_some h
  rw [List.length_take]; exact Nat.min_eq_left hle

theorem beNat_append_byte (bs : Bytes) (b : UInt8) : beNat (bs ++ [b]) = beNat bs * 256 + b.toNat := by
  simp [beNat, List.foldl_append]

theorem beNat_natBE4 (n : Nat) (h : n < 2 ^ 32) : beNat (natBE 4 n) = n :=
  CodecBytes.beNat_natBE 4 n h

/-! ### `readFrom` as a function of the byte stream

`parseFrame` is `readFrom` on the bytes themselves; `frameOf_flat` says that the chunk-by-chunk readers compute it,
so whatever holds of `readFrame` / `readFrameE` "for every chunking" is a fact about `parseFrame` on a list of bytes. -/

structure Parsed where
  out  : Except Err Bytes
  rest : Bytes
  req  : Nat

/-- what a reader returns, with the chunks left on the connection joined -/
def ReadResult.flat (r : ReadResult) : Parsed := ⟨r.out, r.rest.flatten, r.req⟩

theorem ReadResult.of_flat {r : ReadResult} {p : Parsed} (h : r.flat = p) :
    r.out = p.out ∧ r.rest.flatten = p.rest ∧ r.req = p.req :=
  ⟨congrArg Parsed.out h, congrArg Parsed.rest h, congrArg Parsed.req h⟩

/-- `slack = 0`: the transport reports the end of the stream in a `Read` of its own; `slack = 1`: it reports it
together with the last bytes, which the read loops drop, so a read only succeeds when one more byte follows -/
def parseFrame (slack L : Nat) (s : Bytes) : Parsed :=
  if s.length < 4 + slack then ⟨.error .header, [], 4⟩ else
  if beNat (s.take 4) > L ∨ beNat (s.take 4) = 0 then ⟨.error .size, s.drop 4, 4⟩ else
  if s.length < 4 + beNat (s.take 4) + slack then ⟨.error .body, [], max 4 (beNat (s.take 4))⟩ else
  ⟨.ok ((s.drop 4).take (beNat (s.take 4))), (s.drop 4).drop (beNat (s.take 4)), max 4 (beNat (s.take 4))⟩

/-- a read loop that hands out the next `n ≥ 1` bytes of the stream when `n + slack` are left, and fails otherwise -/
def Reads (slack : Nat) (rd : Nat → List Bytes → Option (Bytes × List Bytes)) : Prop :=
  ∀ n cs, n ≠ 0 → match rd n cs with
    | some (b, r) => n + slack ≤ cs.flatten.length ∧ b = cs.flatten.take n ∧ r.flatten = cs.flatten.drop n
    | none => cs.flatten.length < n + slack

/-- `readFrom` over the read loop `rd`: `readFrame` and `readFrameE` are its two instances -/
def frameOf (rd : Nat → List Bytes → Option (Bytes × List Bytes)) (limit : Nat) (cs : List Bytes) : ReadResult :=
  match rd headerSize cs with
  | none => { out := .error .header, rest := [], req := headerSize }
  | some (h, cs1) =>
    let size := beNat h
    if size > limit ∨ size = 0 then { out := .error .size, rest := cs1, req := headerSize }
    else
      match rd size cs1 with
      | none => { out := .error .body, rest := [], req := max headerSize size }
      | some (b, cs2) => { out := .ok b, rest := cs2, req := max headerSize size }

theorem readFrame_eq_frameOf : readFrame = frameOf readN := rfl

theorem readFrameE_eq_frameOf : readFrameE = frameOf readNE := rfl

theorem readN_reads : Reads 0 readN := fun n cs _ => readN_flatten cs n

theorem frameOf_flat {slack : Nat} {rd : Nat → List Bytes → Option (Bytes × List Bytes)} (h : Reads slack rd)
    (L : Nat) (cs : List Bytes) : (frameOf rd L cs).flat = parseFrame slack L cs.flatten := by
  have h4 := h 4 cs (by decide)
  unfold frameOf parseFrame
  simp only [headerSize]
  cases hr : rd 4 cs with
  | none => rw [hr] at h4; rw [if_pos h4]; rfl
  | some x =>
    obtain ⟨hd, cs1⟩ := x
    rw [hr] at h4
    obtain ⟨hle, rfl, hr1⟩ := h4
    rw [if_neg (Nat.not_lt.mpr hle)]
    dsimp only
    by_cases hc : beNat (cs.flatten.take 4) > L ∨ beNat (cs.flatten.take 4) = 0
    · rw [if_pos hc, if_pos hc, ReadResult.flat, hr1]
    · -- the announced size is not 0, so the content loop is a read of at least one byte
      have hb := h (beNat (cs.flatten.take 4)) cs1 (fun e => hc (.inr e))
      rw [hr1, List.length_drop] at hb
      rw [if_neg hc, if_neg hc]
      cases hr2 : rd (beNat (cs.flatten.take 4)) cs1 with
      | none => rw [hr2] at hb; rw [if_pos (by dsimp only at hb; omega)]; rfl
      | some y =>
        rw [hr2] at hb
        obtain ⟨hle2, hb2, hr2'⟩ := hb
        rw [if_neg (by omega)]
        simp only [ReadResult.flat, hb2, hr2']

theorem readFrame_flat (L : Nat) (cs : List Bytes) : (readFrame L cs).flat = parseFrame 0 L cs.flatten :=
  frameOf_flat readN_reads L cs

theorem parseFrame_frame {slack L : Nat} (hL : L < 2 ^ 32) {p rest : Bytes} (hp1 : 1 ≤ p.length)
    (hpL : p.length ≤ L) (hr : slack ≤ rest.length) :
    parseFrame slack L (natBE 4 p.length ++ p ++ rest) = ⟨.ok p, rest, max 4 p.length⟩ := by
  have hh := CodecBytes.natBE_length 4 p.length
  rw [List.append_assoc, parseFrame, List.take_left' hh, List.drop_left' hh, beNat_natBE4 _ (by omega),
    List.length_append, List.length_append, hh, if_neg (by omega), if_neg (by omega), if_neg (by omega),
    List.take_left, List.drop_left]

/-- a stream that ends inside the payload (with `slack = 1`: or with it) is an error -/
theorem parseFrame_short {slack : Nat} (L : Nat) {hdr tail : Bytes} (hh : hdr.length = 4)
    (h : tail.length < beNat hdr + slack) : ∃ e, (parseFrame slack L (hdr ++ tail)).out = .error e := by
  rw [parseFrame, List.take_left' hh, List.length_append, hh]
  by_cases h1 : 4 + tail.length < 4 + slack
  · exact ⟨.header, by rw [if_pos h1]⟩
  · by_cases h2 : beNat hdr > L ∨ beNat hdr = 0
    · exact ⟨.size, by rw [if_neg h1, if_pos h2]⟩
    · exact ⟨.body, by rw [if_neg h1, if_neg h2, if_pos (by omega)]⟩

/-- `readFrames` on the byte stream -/
def parseFrames (L : Nat) : Nat → Bytes → List (Except Err Bytes) × Bytes
  | 0, s => ([], s)
  | k + 1, s =>
    match (parseFrame 0 L s).out with
    | .error e => ([.error e], (parseFrame 0 L s).rest)
    | .ok b => (.ok b :: (parseFrames L k (parseFrame 0 L s).rest).1, (parseFrames L k (parseFrame 0 L s).rest).2)

theorem readFrames_flat (L : Nat) : ∀ (k : Nat) (cs : List Bytes),
    ((readFrames L k cs).1, (readFrames L k cs).2.flatten) = parseFrames L k cs.flatten := by
  intro k
  induction k with
  | zero => intro cs; rfl
  | succ k ih =>
    intro cs
    obtain ⟨ho, hr, _⟩ := ReadResult.of_flat (readFrame_flat L cs)
    rw [parseFrames, ← ho, ← hr, ← ih, readFrames]
    cases (readFrame L cs).out <;> rfl

/-- reading on after whole frames: `w qs rest` is any way of writing the bytes of the frames `qs` followed by `rest`
(`Props.C15.wire` is the one in use) -/
theorem parseFrames_frames (L : Nat) (hL : L < 2 ^ 32) (w : List Bytes → Bytes → Bytes) (h0 : ∀ r, w [] r = r)
    (h1 : ∀ p ps r, w (p :: ps) r = natBE 4 p.length ++ p ++ w ps r) (rest : Bytes) (j : Nat) :
    ∀ qs : List Bytes, (∀ p ∈ qs, 1 ≤ p.length ∧ p.length ≤ L) →
      parseFrames L (qs.length + j) (w qs rest) =
        (qs.map .ok ++ (parseFrames L j rest).1, (parseFrames L j rest).2) := by
  intro qs
  induction qs with
  | nil => intro _; rw [h0]; simp
  | cons p qs ih =>
    intro hv
    have hp := hv p List.mem_cons_self
    rw [List.length_cons, Nat.add_right_comm, parseFrames, h1, parseFrame_frame hL hp.1 hp.2 (Nat.zero_le _),
      ih fun q hq => hv q (List.mem_cons_of_mem _ hq)]
    rfl

theorem parseFrames_error {L j : Nat} {s : Bytes} {e : Err} (h : (parseFrame 0 L s).out = .error e) :
    (parseFrames L (j + 1) s).1 = [.error e] := by
  rw [parseFrames, h]

theorem writeLoop_flatten : ∀ (fuel : Nat) (bs : Bytes) (ks : List Nat), bs.length ≤ fuel →
    (writeLoop fuel bs ks).flatten = bs := by
  intro fuel
  induction fuel with
  | zero => intro bs ks h; simp at h; subst h; simp [writeLoop]
  | succ fuel ih =>
    intro bs ks h
    cases bs with
    | nil => simp [writeLoop]
    | cons b bs =>
      cases ks with
      | nil => simp [writeLoop]
      | cons k ks =>
        simp only [writeLoop, List.isEmpty_cons, Bool.false_eq_true, if_false, List.flatten_cons]
        rw [ih _ _ (by simp only [List.length_drop, List.length_cons] at *; split <;> omega)]
        exact List.take_append_drop _ _

end Dos.Framing
