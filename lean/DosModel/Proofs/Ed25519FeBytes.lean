/-
C20 — byte-level correctness of the translated ref10 field routines `feToBytes`, `feFromBytes`, `feIsNegative`,
`feIsNonZero` (Gen/Ed25519Fe.lean, regenerated from group/edwards25519/fe.go on every run).

Unbounded-`Int` semantics (the generated functions): the q chain of feToBytes computes ⌊feVal h / p⌋ for limbs within
3 × the ref10 bound, and the carry chain leaves THE canonical digit vector of feVal h mod p (T1); on digits the 32 byte
expressions are the packing of the limbs (T2); the loads of feFromBytes are bit fields of the 32 input bytes (T4).
Go's semantics (`evalW wrap`: the executable `FeOps.…` the driver runs): the interval analysis excludes overflow in
the limb phases and in 31 byte expressions of feToBytes; byte 12, `(h[3] >> 19) | (h[4] << 6)`, CAN leave int32
(`feToBytes_byte12_overflow_witness`) and is treated under wrapping (`byte_bor_wrap32`) (T3); feIsNegative and
feIsNonZero read the bytes feToBytes writes (T5).

The generated definitions are unfolded, not copied: an altered shift, limb index, constant, mask or byte expression
in fe.go makes these proofs fail.
-/
import DosModel.Proofs.Ed25519FeSpec
import DosModel.Proofs.Ed25519Bytes
import Mathlib.Tactic.LinearCombination

set_option exponentiation.threshold 600

namespace Dos.FeProg
open Dos Dos.Ed25519 Dos.IntervalProg Dos.Gen.Ed25519Fe Dos.FeOps List

/-- proper radix-2^25.5 digits: even limbs in [0, 2^26), odd limbs in [0, 2^25) -/
def FeDigits (r : L10) : Prop :=
  (0 ≤ r.h0 ∧ r.h0 < 2 ^ 26) ∧ (0 ≤ r.h1 ∧ r.h1 < 2 ^ 25) ∧ (0 ≤ r.h2 ∧ r.h2 < 2 ^ 26) ∧ (0 ≤ r.h3 ∧ r.h3 < 2 ^ 25) ∧
  (0 ≤ r.h4 ∧ r.h4 < 2 ^ 26) ∧ (0 ≤ r.h5 ∧ r.h5 < 2 ^ 25) ∧ (0 ≤ r.h6 ∧ r.h6 < 2 ^ 26) ∧ (0 ≤ r.h7 ∧ r.h7 < 2 ^ 25) ∧
  (0 ≤ r.h8 ∧ r.h8 < 2 ^ 26) ∧ (0 ≤ r.h9 ∧ r.h9 < 2 ^ 25)

instance (r : L10) : Decidable (FeDigits r) := by unfold FeDigits; exact inferInstance

/-- a digit vector is below 2^255 -/
theorem FeDigits.feVal_range {r : L10} (hd : FeDigits r) : 0 ≤ feVal r ∧ feVal r < 2 ^ 255 := by
  unfold FeDigits at hd
  unfold feVal
  omega

theorem FeDigits.bounded {r : L10} (hd : FeDigits r) : Bounded 2 r := by
  unfold FeDigits at hd
  unfold Bounded evenB oddB
  omega

theorem FeDigits.in_digitItv {r : L10} : FeDigits r ↔ In r.toList digitItv := by
  unfold FeDigits L10.toList digitItv
  simp only [List.forall₂_cons, Itv.mem]
  constructor
  · intro h; simp only [List.Forall₂.nil, and_true]; omega
  · intro h; simp only [List.Forall₂.nil, and_true] at h; omega

/-! ### T1: the q chain and the carry chain -/

/-- **the q chain computes ⌊h / p⌋** (ref10's "basic claim", for limbs within 3 × the bound), and
`h[0] += 19 * q` is all the phase before the carry chain does.
(`q = ⌊(feVal h + ⌊(19 h9 + 2^24) / 2^25⌋) / 2^255⌋` by the nested floor divisions; that is `⌊feVal h / p⌋`.) -/
theorem feToBytes_init_eq (h : L10) (hb : Bounded 3 h) :
    feToBytes_init h.toList = ⟨h.h0 + 19 * (feVal h / pI), h.h1, h.h2, h.h3, h.h4, h.h5, h.h6, h.h7, h.h8, h.h9⟩ := by
  obtain ⟨h0, h1, h2, h3, h4, h5, h6, h7, h8, h9⟩ := h
  unfold_fe
  simp only [L10.toList, List.getD_cons_zero, List.getD_cons_succ, n32v_eq, shrI, shl,
    Int.shiftRight_eq_div_pow, Nat.cast_pow, Nat.cast_ofNat, feVal, pI, Bounded, evenB, oddB, L10.mk.injEq,
    and_true] at *
  omega

/-- the floor-carry chain from `h + 19 q`, q = ⌊h / p⌋: digits, and the value `h mod p` (the dropped carry is q).
No bound on `h` is needed here. -/
theorem feToBytes_carry (h : L10) (q : Int) (hq : q = feVal h / pI) :
    FeDigits (runBlocks feToBytes_blocks ⟨h.h0 + 19 * q, h.h1, h.h2, h.h3, h.h4, h.h5, h.h6, h.h7, h.h8, h.h9⟩) ∧
    feVal (runBlocks feToBytes_blocks ⟨h.h0 + 19 * q, h.h1, h.h2, h.h3, h.h4, h.h5, h.h6, h.h7, h.h8, h.h9⟩)
      = feVal h % pI := by
  obtain ⟨h0, h1, h2, h3, h4, h5, h6, h7, h8, h9⟩ := h
  unfold_fe
  simp only [runBlocks, List.foldl]
  unfold_fe
  simp only [n32v_eq, shrI, shl, Int.shiftRight_eq_div_pow, Nat.cast_pow, Nat.cast_ofNat, feVal, FeDigits, pI] at *
  omega

/-- **T1**: the limbs feToBytes leaves in `h` (unbounded-`Int` semantics) are THE canonical digit vector of
`feVal h mod p`. -/
theorem feToBytes_limbs_canonical (h : L10) (hb : Bounded 3 h) :
    FeDigits (runBlocks feToBytes_blocks (feToBytes_init h.toList)) ∧
    feVal (runBlocks feToBytes_blocks (feToBytes_init h.toList)) = feVal h % pI := by
  rw [feToBytes_init_eq h hb]
  exact feToBytes_carry h _ rfl

/-- the same, digit by digit -/
theorem feToBytes_limbs_canonical' (h : L10) (hb : Bounded 3 h) :
    let r := runBlocks feToBytes_blocks (feToBytes_init h.toList)
    (0 ≤ r.h0 ∧ r.h0 < 2 ^ 26 ∧ 0 ≤ r.h1 ∧ r.h1 < 2 ^ 25 ∧ 0 ≤ r.h2 ∧ r.h2 < 2 ^ 26 ∧ 0 ≤ r.h3 ∧ r.h3 < 2 ^ 25 ∧
     0 ≤ r.h4 ∧ r.h4 < 2 ^ 26 ∧ 0 ≤ r.h5 ∧ r.h5 < 2 ^ 25 ∧ 0 ≤ r.h6 ∧ r.h6 < 2 ^ 26 ∧ 0 ≤ r.h7 ∧ r.h7 < 2 ^ 25 ∧
     0 ≤ r.h8 ∧ r.h8 < 2 ^ 26 ∧ 0 ≤ r.h9 ∧ r.h9 < 2 ^ 25) ∧ feVal r = feVal h % pI := by
  obtain ⟨hd, hv⟩ := feToBytes_limbs_canonical h hb
  unfold FeDigits at hd
  dsimp only
  exact ⟨by omega, hv⟩

/-- the canonical representative is below p -/
theorem feToBytes_limbs_lt (h : L10) (hb : Bounded 3 h) :
    0 ≤ feVal (runBlocks feToBytes_blocks (feToBytes_init h.toList)) ∧
    feVal (runBlocks feToBytes_blocks (feToBytes_init h.toList)) < pI := by
  rw [(feToBytes_limbs_canonical h hb).2]
  unfold pI
  omega

/-! ### T2: the byte packing -/

namespace FeBytes

theorem leNat_take_drop (l : Bytes) (n : Nat) :
    leNat l = leNat (l.take n) + 256 ^ (l.take n).length * leNat (l.drop n) := by
  rw [← leNat_append, List.take_append_drop]

end FeBytes
open FeBytes

theorem feToBytes_out_eq (r : L10) :
    (feToBytes_out r).map byte = packBytes shrI [(26, r.h0), (25, r.h1), (26, r.h2), (25, r.h3), (26, r.h4),
      (25, r.h5), (26, r.h6), (25, r.h7), (26, r.h8), (26, r.h9)] 0 32 := by
  unfold_fe
  simp only [n32v_eq]
  rfl

/-- **T2**: on a digit vector the 32 byte expressions of feToBytes spell its little-endian value -/
theorem feToBytes_pack_natLE (r : L10) (hd : FeDigits r) :
    (feToBytes_out r).map byte = natLE 32 (feVal r).toNat := by
  rw [feToBytes_out_eq, packBytes_natLE _ ?_ 32 (by simp [bitsL])]
  · congr 2
    simp only [valL, feVal]
    ring
  · simp only [FeDigits] at hd
    simp only [DigitsL, List.mem_cons, List.not_mem_nil, or_false, forall_eq_or_imp, forall_eq]
    omega

/-! ### T3: Go's wrapping semantics (the executable `FeOps.feToBytes`) -/

namespace FeBytes

theorem slice_toList (r : L10) : slice 0 10 r.toList = r.toList := rfl

theorem limbsW_length (w : Int → Int) (p : FeProg) (x : Env) : (p.limbsW w x).length = 10 := by
  unfold FeProg.limbsW slice
  simp

theorem runW_eq_map (w : Int → Int) (p : FeProg) (x : Env) :
    p.runW w x = p.out.map (fun e => e.evalW w (slice 0 10 (p.limbsW w x))) := rfl

end FeBytes

open FeBytes

/-- `byte((a) | int32(y << 6))` with a < 64 and a 26-bit y: the int32 shift may wrap (y ≥ 2^25), the sign extension to
int64 then sets bits 32…63, the low 8 bits are those of `a + 64 y` all the same -/
theorem byte_bor_wrap32 (a y : Int) (ha : 0 ≤ a ∧ a < 64) (hy : 0 ≤ y ∧ y < 2 ^ 26) :
    byte (wrap (bor a (shrI (wrap (shl (wrap (shl y 6)) 32)) 32))) = byte (bor a (shrI (shl (shl y 6) 32) 32)) := by
  have e1 : wrap (shl y 6) = shl y 6 := by unfold wrap shl; omega
  rw [e1, n32_wrap]
  have e2 : shrI (shl (shl y 6) 32) 32 = shl y 6 := n32v_eq _
  rw [e2]
  rcases (show wrap32 (shl y 6) = shl y 6 ∨ wrap32 (shl y 6) = shl y 6 - 4294967296 by unfold wrap32 shl; omega)
    with h | h
  · rw [h, bor_shl a y 6 ha.1 (by omega) (by omega) hy.1 (by omega)]
    have : wrap (a + y * 2 ^ 6) = a + y * 2 ^ 6 := by unfold wrap; omega
    rw [this]
  · rw [h]
    have e3 : bor a (shl y 6 - 4294967296) = bor a (shl (y + 288230376084602880) 6) := by
      unfold bor u64 shl
      congr 3
      omega
    rw [e3, bor_shl a _ 6 ha.1 (by omega) (by omega) (by omega) (by omega),
      bor_shl a y 6 ha.1 (by omega) (by omega) hy.1 (by omega)]
    unfold byte wrap
    congr 2
    omega

/-- byte 12 of feToBytes on a digit vector: Go's (wrapping) value and the unbounded value have the same low 8 bits -/
theorem feToBytes_byte12 (r : L10) (hd : FeDigits r) :
    byte ((feToBytes_prog.out.getD 12 (.c 0)).evalW wrap r.toList)
      = byte ((feToBytes_prog.out.getD 12 (.c 0)).evalW id r.toList) := by
  unfold FeDigits at hd
  simp only [feToBytes_prog, feToBytes_pout, List.getD_cons_succ, List.getD_cons_zero, n32, Expr.evalW, L10.toList, id]
  refine byte_bor_wrap32 _ _ ?_ ?_
  · unfold shrI; rw [Int.shiftRight_eq_div_pow]; omega
  · omega

/-- Go's semantics of feToBytes on limbs within 3 × the bound: the limbs left in `h` and the 32 bytes are those of the
unbounded-`Int` functions -/
theorem feToBytes_wrap (h : L10) (hb : Bounded 3 h) :
    feToBytes_prog.limbsW wrap h.toList = (runBlocks feToBytes_blocks (feToBytes_init h.toList)).toList ∧
    (feToBytes_prog.runW wrap h.toList).map byte
      = (feToBytes_out (runBlocks feToBytes_blocks (feToBytes_init h.toList))).map byte := by
  obtain ⟨hs, _, _⟩ := FeProg.check_sound feToBytes_check ((bounded_iff 3 h).1 hb)
  have e1 : feToBytes_prog.limbsW wrap h.toList = feToBytes_prog.limbsW id h.toList := (FeProg.runW_wrap_eq hs).1
  obtain ⟨t1, t2⟩ := feToBytes_tie h.toList
  have hρ : feToBytes_prog.limbsW id h.toList = (runBlocks feToBytes_blocks (feToBytes_init h.toList)).toList := by
    rw [← t1, toList_toL10 _ (limbsW_length _ _ _)]
  refine ⟨e1.trans hρ, ?_⟩
  rw [← t2, runW_eq_map, runW_eq_map, e1, List.map_map, List.map_map]
  apply List.map_congr_left
  intro e he
  obtain ⟨i, hi, rfl⟩ := List.mem_iff_getElem.1 he
  by_cases h12 : i = 12
  · -- the one byte expression that may leave int32
    subst h12
    rw [hρ, slice_toList]
    exact feToBytes_byte12 _ (feToBytes_limbs_canonical h hb).1
  · -- every other one passed the analysis
    exact congrArg byte (Expr.eval64_eq _ _ (hs.2.2 _ (List.mem_eraseIdx_iff_getElem.2 ⟨i, hi, h12, rfl⟩)))

/-- the limbs the executable `feToBytes` leaves in `h` are those of the unbounded-`Int` functions -/
theorem feToBytes_snd_eq (h : L10) (hb : Bounded 3 h) :
    (FeOps.feToBytes h).2 = runBlocks feToBytes_blocks (feToBytes_init h.toList) := by
  show toL10 (feToBytes_prog.limbsW wrap h.toList) = _
  rw [(feToBytes_wrap h hb).1, toL10_toList]

/-- **T3**: the executable Go-semantics `feToBytes` on limbs within 3 × the ref10 bound writes the 32 little-endian
bytes of THE canonical representative `feVal h mod p`, and leaves in `h` the digit vector of that representative. -/
theorem feToBytes_spec (h : L10) (hb : Bounded 3 h) :
    (FeOps.feToBytes h).1 = natLE 32 (feVal h % pI).toNat ∧ Bounded 2 (FeOps.feToBytes h).2 ∧
    feVal (FeOps.feToBytes h).2 = feVal h % pI := by
  obtain ⟨hd, hv⟩ := feToBytes_limbs_canonical h hb
  refine ⟨?_, ?_, ?_⟩
  · show (feToBytes_prog.runW wrap h.toList).map byte = _
    rw [(feToBytes_wrap h hb).2, feToBytes_pack_natLE _ hd, hv]
  · rw [feToBytes_snd_eq h hb]; exact hd.bounded
  · rw [feToBytes_snd_eq h hb]; exact hv

/-- the limbs left in `h` are proper digits -/
theorem feToBytes_spec_digits (h : L10) (hb : Bounded 3 h) : FeDigits (FeOps.feToBytes h).2 := by
  rw [feToBytes_snd_eq h hb]; exact (feToBytes_limbs_canonical h hb).1

/-- the overflow in byte 12 is real: on the digit vector with h4 = 2^25 the expression `int32(h[4] << 6)` is not
`Safe` (the unbounded value 2^31 is not an int32) -/
theorem feToBytes_byte12_overflow_witness :
    FeDigits ⟨0, 0, 0, 0, 2 ^ 25, 0, 0, 0, 0, 0⟩ ∧
    ¬ (feToBytes_prog.out.getD 12 (.c 0)).Safe (L10.toList ⟨0, 0, 0, 0, 2 ^ 25, 0, 0, 0, 0, 0⟩) := by
  refine ⟨by decide, ?_⟩
  simp only [feToBytes_prog, feToBytes_pout, List.getD_cons_succ, List.getD_cons_zero, n32, Expr.Safe, L10.toList,
    Expr.eval, Expr.evalW, id, I64, minI64, maxI64, shl, shrI]
  omega

/-! ### T4: feFromBytes -/

/-- **the loads of feFromBytes**: the ten limbs before the carry phase have the little-endian value of the 32 bytes
with bit 255 cleared: limb i, at its weight, is the field of that value which the i-th load reads -/
theorem feFromBytes_init_value (s : Bytes) (hs : s.length = 32) :
    feVal (feFromBytes_init (fromBytesRaw s)) = ((leNat s % 2 ^ 255 : Nat) : Int) := by
  unfold fromBytesRaw
  unfold_fe
  simp only [List.map, rawVal, List.getD_cons_zero, List.getD_cons_succ, ↓reduceIte, Nat.reduceEqDiff, band_comm _ 8388607]
  simp (disch := omega) only [load3_sl, load4_sl, band_bitfield 8388607 23 rfl, Nat.reduceMul, feVal, shl]
  have e := congrArg (Nat.cast (R := Int)) (fieldSum_zero (leNat s) [32, 24, 24, 24, 24, 32, 24, 24, 24, 23])
  simp only [fieldSum, List.sum_cons, List.sum_nil, Nat.reduceAdd] at e
  push_cast at e ⊢
  linear_combination e

/-- Go's semantics of feFromBytes on any 32 bytes is the unbounded-`Int` function, nothing overflows, the result is
within 1 × the ref10 bound -/
theorem feFromBytes_wrap (s : Bytes) (hs : s.length = 32) :
    feFromBytes_prog.SafeFrom (fromBytesRaw s) ∧
    FeOps.feFromBytes s = runBlocks feFromBytes_blocks (feFromBytes_init (fromBytesRaw s)) ∧
    Bounded 1 (FeOps.feFromBytes s) := by
  have h := prog_spec feFromBytes_tie feFromBytes_out_eq feFromBytes_check _ (feFromBytes_raw_in s hs)
  exact ⟨h.1, h.2.1, (show FeOps.feFromBytes s = _ from h.2.1) ▸ h.2.2⟩

/-- **T4**: the executable Go-semantics `feFromBytes` on 32 bytes: result within 1 × the ref10 bound, value congruent
modulo p to the little-endian value of the bytes with bit 255 ignored (the carry chain folds 2^255 → 19, so the value
is congruent, not equal). -/
theorem feFromBytes_spec (s : Bytes) (hs : s.length = 32) :
    Bounded 1 (FeOps.feFromBytes s) ∧ ModP (feVal (FeOps.feFromBytes s)) ((leNat s % 2 ^ 255 : Nat) : Int) := by
  obtain ⟨_, e, hb⟩ := feFromBytes_wrap s hs
  refine ⟨hb, ?_⟩
  rw [e, ← feFromBytes_init_value s hs]
  exact runBlocks_preserves _ feFromBytes_blocks_preserve _

/-- as an equation between residues -/
theorem feFromBytes_spec_emod (s : Bytes) (hs : s.length = 32) :
    feVal (FeOps.feFromBytes s) % pI = ((leNat s % 2 ^ 255 : Nat) : Int) % pI :=
  (feFromBytes_spec s hs).2.emod

/-- round trip: `feToBytes(feFromBytes(s))` writes the canonical encoding of (s with bit 255 cleared) mod p -/
theorem feToBytes_feFromBytes (s : Bytes) (hs : s.length = 32) :
    (FeOps.feToBytes (FeOps.feFromBytes s)).1 = natLE 32 (leNat s % 2 ^ 255 % fieldP) := by
  obtain ⟨hb, _⟩ := feFromBytes_spec s hs
  rw [(feToBytes_spec _ hb.mono13).1, feFromBytes_spec_emod s hs, ← fieldP_cast, ← Int.natCast_mod, Int.toNat_natCast]

/-! ### T5: feIsNegative, feIsNonZero -/

namespace FeBytes

theorem uint8_or_eq_zero (a b : UInt8) : a ||| b = 0 ↔ a = 0 ∧ b = 0 := by
  rw [← UInt8.toNat_inj, ← UInt8.toNat_inj (a := a), ← UInt8.toNat_inj (a := b), UInt8.toNat_or]
  exact Nat.or_eq_zero_iff

theorem foldl_or_eq_zero : ∀ (l : List UInt8) (acc : UInt8),
    l.foldl (fun x b => x ||| b) acc = 0 ↔ acc = 0 ∧ ∀ b ∈ l, b = 0 := by
  intro l
  induction l with
  | nil => intro acc; simp
  | cons a l ih =>
    intro acc
    rw [List.foldl_cons, ih, uint8_or_eq_zero]
    simp only [List.mem_cons, forall_eq_or_imp, and_assoc]

theorem leNat_zero_of_all_zero : ∀ (l : Bytes), (∀ b ∈ l, b = 0) → leNat l = 0 := by
  intro l
  induction l with
  | nil => intro _; rfl
  | cons a l ih =>
    intro h
    have h1 : a = 0 := h a (by simp)
    have h2 := ih (fun b hb => h b (by simp [hb]))
    subst h1
    simp only [leNat, h2]
    rfl

/-- the three shift-OR steps of feIsNonZero put "any bit set" into bit 0 -/
theorem bitfold_all : ∀ n : Nat, n < 256 →
    (let x := UInt8.ofNat n
     let x := x ||| (x >>> 4)
     let x := x ||| (x >>> 2)
     let x := x ||| (x >>> 1)
     (x &&& 1).toNat) = if n = 0 then 0 else 1 := by
  decide +kernel

theorem bitfold (x : UInt8) :
    (let x := x ||| (x >>> 4)
     let x := x ||| (x >>> 2)
     let x := x ||| (x >>> 1)
     (x &&& 1).toNat) = if x = 0 then 0 else 1 := by
  have h := bitfold_all x.toNat x.toNat_lt
  rw [UInt8.ofNat_toNat] at h
  rw [h]
  have : x.toNat = 0 ↔ x = 0 := by rw [← UInt8.toNat_inj]; rfl
  simp only [this]

end FeBytes
open FeBytes

/-- **feIsNegative**: the low bit of the canonical representative (and `h` is normalised as by feToBytes) -/
theorem feIsNegative_spec (h : L10) (hb : Bounded 3 h) :
    (FeOps.feIsNegative h).1.toNat = (feVal h % pI).toNat % 2 ∧ (FeOps.feIsNegative h).2 = (FeOps.feToBytes h).2 := by
  refine ⟨?_, rfl⟩
  show (((FeOps.feToBytes h).1.getD 0 0) &&& 1).toNat = _
  rw [(feToBytes_spec h hb).1]
  show ((UInt8.ofNat ((feVal h % pI).toNat % 256)) &&& 1).toNat = _
  rw [UInt8.toNat_and, UInt8.toNat_ofNat']
  show (feVal h % pI).toNat % 256 % 2 ^ 8 &&& 1 = _
  rw [Nat.and_one_is_mod]
  omega

/-- **feIsNonZero**: 1 iff the canonical representative is not 0 -/
theorem feIsNonZero_spec (h : L10) (hb : Bounded 3 h) :
    (FeOps.feIsNonZero h).1 = (if feVal h % pI = 0 then 0 else 1) ∧ (FeOps.feIsNonZero h).2 = (FeOps.feToBytes h).2 := by
  refine ⟨?_, rfl⟩
  have hN : 0 ≤ feVal h % pI ∧ feVal h % pI < pI := by unfold pI; omega
  have hx : (FeOps.feToBytes h).1.foldl (fun x b => x ||| b) 0 = 0 ↔ feVal h % pI = 0 := by
    rw [(feToBytes_spec h hb).1, foldl_or_eq_zero]
    constructor
    · rintro ⟨_, hz⟩
      have h1 := leNat_zero_of_all_zero _ hz
      rw [leNat_natLE_of_lt _ _ (by unfold pI at hN ⊢; omega)] at h1
      omega
    · intro hz
      rw [hz]
      exact ⟨rfl, by decide⟩
  show Int.ofNat _ = _
  rw [bitfold]
  simp only [hx]
  split <;> rfl

end Dos.FeProg
