/-
The instance `Bls.evalOps` the C06 driver evaluates (G1 = the concrete affine model, a public key
= its discrete log, e(P, x) = x•P) IS an instance of the generic statements of `Proofs/Bls.lean`:
`evalOps_isPairing`.  The group structure is that of Mathlib's `E(F_p) : y² = x³ + 3`, transported
along `Compose.pt1` (`Proofs/ComposeBn256Group.lean`); validity = `G1.valid`, closed under the model's
operations by `valid_add`, `valid_neg`, `valid_smul` of `Proofs/Bn256ConcCurve.lean`.
-/
import DosModel.Proofs.Bls
import DosModel.Proofs.CodecChar
import DosModel.Proofs.ComposeBn256Group

namespace Dos.Bls
open Dos Dos.Bn256 Dos.Codec Dos.Compose Dos.Compose.Curve

/-- the group E(F_p) the concrete G1 values denote points of -/
abbrev E1 := (sw (3 : ZMod Bn256.p)).Point

theorem pt1_eq_zero_iff (P : G1) (hP : G1.valid P = true) : pt1 P = 0 ↔ P = .inf :=
  ⟨fun h => pt1_inj hP rfl h, fun h => by rw [h]; rfl⟩

/-- e(A, n) = n•A, written multiplicatively -/
noncomputable def eEval (A : E1) (n : ℤ) : Multiplicative E1 := Multiplicative.ofAdd (n • A)

noncomputable def feEval (P : G1) : Multiplicative E1 := Multiplicative.ofAdd (pt1 P)

theorem evalOps_isPairing :
    IsPairing evalOps.toPairingOps (fun P : G1 => G1.valid P = true) (fun _ : Nat => True)
      (fun P : G1 => G1.valid P = true) pt1 (fun n : Nat => (n : ℤ)) eEval feEval where
  inf1 := by
    intro a ha
    simp only [evalOps, beq_iff_eq]
    exact (pt1_eq_zero_iff a ha).symm
  inf2 := by
    intro b _
    simp only [evalOps, beq_iff_eq]
    exact Int.natCast_eq_zero.symm
  one_valid := rfl
  fe_one := rfl
  mul_valid := fun x y hx hy => valid_add x y hx hy
  fe_mul := by
    intro x y hx hy
    show Multiplicative.ofAdd (pt1 (G1.add x y)) = _
    rw [pt1_add x y hx hy]; rfl
  miller_valid := fun a b ha _ => valid_smul b a ha
  fe_miller := by
    intro a b ha _ _ _
    show Multiplicative.ofAdd (pt1 (G1.smul b a)) = Multiplicative.ofAdd (((b : ℤ)) • pt1 a)
    rw [pt1_smul b a ha, natCast_zsmul]
  final := by
    intro x hx
    simp only [evalOps, beq_iff_eq]
    rw [feEval, ofAdd_eq_one]
    exact (pt1_eq_zero_iff x hx).symm
  add_left := by
    intro a a' b
    show Multiplicative.ofAdd (b • (a + a')) = Multiplicative.ofAdd (b • a + b • a')
    rw [zsmul_add]
  add_right := by
    intro a b b'
    show Multiplicative.ofAdd ((b + b') • a) = Multiplicative.ofAdd (b • a + b' • a)
    rw [add_zsmul]

/-! The hypotheses of the generic theorems of `Props/C06.lean` (`VerifyCtx`, `hmul`, `hrt`, `hnd`, `hXx`)
at `evalOps`. -/

theorem evalOps_neg (s : G1) (hs : G1.valid s = true) :
    G1.valid (evalOps.neg1 s) = true ∧ pt1 (evalOps.neg1 s) = -pt1 s :=
  valid1_neg s hs

theorem evalOps_parse_valid (sig : Bytes) (s : G1) (h : evalOps.unmarshal1 sig = .ok s) :
    G1.valid s = true := (unmarshalG1_ok sig s h).2.1

/-! What `evalOps` computes, by rewriting with equations about variables: asked to compare
`hashToPoint evalOps msg` with `G1.smul (keccakScalar msg) g1gen` directly, the kernel unfolds `G1.smul`
first and runs the hash on the open message before it gives up. -/

theorem evalOps_baseMul1 (k : Nat) : evalOps.baseMul1 k = G1.smul k g1gen := rfl

theorem evalOps_hashScalar : evalOps.hashScalar = keccakScalar := rfl

theorem hashToPoint_evalOps (msg : Bytes) :
    hashToPoint evalOps msg = G1.smul (keccakScalar msg) g1gen := by
  rw [hashToPoint_eq, evalOps_hashScalar, evalOps_baseMul1]

theorem sign_evalOps (x : Nat) (msg : Bytes) :
    sign evalOps x msg = marshalG1 (G1.smul x (G1.smul (keccakScalar msg) g1gen)) := by
  unfold sign
  rw [hashToPoint_evalOps]
  rfl

theorem evalOps_hash_valid (msg : Bytes) : G1.valid (hashToPoint evalOps msg) = true := by
  rw [hashToPoint_evalOps]
  exact valid_smul _ g1gen (by decide)

/-- what `Sign` marshals is reachable from the generator, whatever the key and the message -/
theorem sign_reachable (x : Nat) (msg : Bytes) :
    G1.Reachable (G1.smul x (G1.smul (keccakScalar msg) g1gen)) := .smul _ (.smul _ .base)

theorem evalOps_mul (k : Nat) (a : G1) (ha : G1.valid a = true) :
    G1.valid (evalOps.mul1 k a) = true ∧ pt1 (evalOps.mul1 k a) = k • pt1 a :=
  valid1_smul k a ha

theorem evalOps_roundtrip (a : G1) (ha : G1.valid a = true) :
    evalOps.unmarshal1 (evalOps.marshal1 a) = .ok a := by
  have := unmarshalG1_marshalG1 a ha []
  simpa [evalOps] using this

theorem evalOps_nondegenerate (A : E1) (h : eEval A ((evalOps.base2 : Nat) : ℤ) = 1) : A = 0 := by
  have : ((1 : Nat) : ℤ) • A = 0 := ofAdd_eq_one.mp h
  simpa using this

/-- the key `x` (a discrete log) denotes `x • g₂`, `g₂ = evalOps.base2 = 1` -/
theorem evalOps_key (x : Nat) : ((x : Nat) : ℤ) = x • ((evalOps.base2 : Nat) : ℤ) := by
  show ((x : Nat) : ℤ) = x • ((1 : Nat) : ℤ); simp

end Dos.Bls
