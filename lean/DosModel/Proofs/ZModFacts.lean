/-
Three facts about `ZMod q` that every model of a field of integers modulo a prime needs once it is mapped there:
numbers below `q` with one residue are equal, the Fermat power is the inverse, and a small numeral is not zero.
-/
import Mathlib.FieldTheory.Finite.Basic

namespace Dos.ZModFacts

/-- the cast is injective below the modulus -/
theorem natCast_inj {m a b : Nat} (ha : a < m) (hb : b < m) : ((a : ℕ) : ZMod m) = b ↔ a = b := by
  rw [ZMod.natCast_eq_natCast_iff', Nat.mod_eq_of_lt ha, Nat.mod_eq_of_lt hb]

variable {q : Nat} [Fact q.Prime]

/-- Fermat: the power by which the models invert (`gfP.Invert`, `Zq`'s `⁻¹`, `finv`, `Ed.inv`) is the field inverse -/
theorem pow_sub_two_of_ne_zero {x : ZMod q} (hx : x ≠ 0) : x ^ (q - 2) = x⁻¹ := by
  have hq := (Fact.out : q.Prime).two_le
  refine eq_inv_of_mul_eq_one_left ?_
  rw [← pow_succ, show q - 2 + 1 = q - 1 by omega]
  exact ZMod.pow_card_sub_one_eq_one hx

/-- `0 ↦ 0` included (false for `q = 2`, where the exponent is 0) -/
theorem pow_sub_two (hq : 2 < q) (x : ZMod q) : x ^ (q - 2) = x⁻¹ := by
  by_cases hx : x = 0
  · rw [hx, inv_zero, zero_pow (by omega)]
  · exact pow_sub_two_of_ne_zero hx

/-- a positive number below the characteristic is not zero in the field -/
theorem natCast_ne_zero {n : Nat} (h0 : 0 < n) (hn : n < q) : ((n : ℕ) : ZMod q) ≠ 0 := fun h =>
  absurd (Nat.le_of_dvd h0 ((ZMod.natCast_eq_zero_iff n q).1 h)) (by omega)

end Dos.ZModFacts
