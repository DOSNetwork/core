/-
Characterisation of the decoders of `Model/Codec.lean`: what exactly they accept.  The three point decoders are
one codec by words (`WordCodec`: a length check, `n` big-endian 32-byte words, a check of the words; the encoder
writes the words of the element) with five laws; G1, GT and the body of G2 behind its tag byte are its instances,
and per group there is only the check of the words (`g1OfCoords_*`, `g2OfCoords_*`).  Core Lean only.
-/
import DosModel.Proofs.Codec

namespace Dos.Codec
open Dos Dos.Bn256 Dos.CodecBytes

/-- `Equal` of point.go compares encodings (`m a == m b`): for an injective `m` that is equality -/
theorem eq_iff_bytes {α : Type} (m : α → Bytes) {a b : α} (inj : m a = m b → a = b) :
    (a = b ↔ m a = m b) ∧ ((m a == m b) = true ↔ a = b) :=
  ⟨⟨congrArg m, inj⟩, beq_iff_eq.trans ⟨inj, congrArg m⟩⟩

/-- the stream API never panics where the decoder does not -/
theorem unmarshalFrom_not_panic {α : Type} {dec : Bytes → Out α} (h : ∀ buf, (dec buf).isPanic = false)
    (k : Nat) (stream : Bytes) : (unmarshalFrom k dec stream).2.isPanic = false := by
  unfold unmarshalFrom; split
  · rfl
  · exact h _

/-! ### the codec by words -/

/-- what differs between the point codecs of point.go: the number of words, the words an element is written as,
what `UnmarshalBinary` does with the words it read, and the elements the codec is for -/
structure WordCodec (α : Type) where
  n : Nat
  coords : α → List Nat
  ofWords : List Nat → Out α
  Valid : α → Prop

section
variable {α : Type} (c : WordCodec α)

def WordCodec.enc (a : α) : Bytes := ((c.coords a).map be32).flatten

def WordCodec.dec (buf : Bytes) : Out α :=
  if buf.length < 32 * c.n then .err .short
  else
    match readCoords c.n buf with
    | .ok ws => c.ofWords ws
    | .err e => .err e
    | .panic s => .panic s

/-- an element of the codec is written as `n` words below `p`, which `ofWords` takes back; `ofWords` accepts
nothing else and does not panic on `n` words -/
structure WordCodec.Lawful : Prop where
  length : ∀ a, c.Valid a → (c.coords a).length = c.n
  canon : ∀ a, c.Valid a → ∀ w ∈ c.coords a, w < p
  back : ∀ a, c.Valid a → c.ofWords (c.coords a) = .ok a
  sound : ∀ ws a, ws.length = c.n → c.ofWords ws = .ok a → c.Valid a ∧ c.coords a = ws
  total : ∀ ws, ws.length = c.n → (c.ofWords ws).isPanic = false

theorem WordCodec.dec_short (buf : Bytes) (h : buf.length < 32 * c.n) : c.dec buf = .err .short :=
  if_pos h

theorem WordCodec.dec_long (buf : Bytes) (h : 32 * c.n ≤ buf.length) :
    c.dec buf = c.ofWords (wordsOf c.n buf) := by
  rw [WordCodec.dec, if_neg (Nat.not_lt.2 h), readCoords_ok c.n buf h]

variable {c} (L : c.Lawful)
include L

theorem WordCodec.Lawful.enc_length {a : α} (ha : c.Valid a) : (c.enc a).length = 32 * c.n := by
  rw [WordCodec.enc, flatten_be32_length, L.length a ha]

theorem WordCodec.Lawful.dec_enc {a : α} (ha : c.Valid a) (tail : Bytes) : c.dec (c.enc a ++ tail) = .ok a := by
  rw [c.dec_long _ (by rw [List.length_append, L.enc_length ha]; omega), ← L.length a ha, WordCodec.enc,
    wordsOf_encode _ tail (L.canon a ha), L.back a ha]

theorem WordCodec.Lawful.dec_ok_iff (buf : Bytes) (a : α) :
    c.dec buf = .ok a ↔ 32 * c.n ≤ buf.length ∧ c.Valid a ∧ c.enc a = buf.take (32 * c.n) := by
  refine ⟨fun h => ?_, fun ⟨_, hv, he⟩ => ?_⟩
  · rcases Nat.lt_or_ge buf.length (32 * c.n) with hl | hl
    · rw [c.dec_short buf hl] at h; cases h
    · rw [c.dec_long buf hl] at h
      obtain ⟨hv, hc⟩ := L.sound _ a (wordsOf_length _ _) h
      exact ⟨hl, hv, by rw [WordCodec.enc, hc, encode_wordsOf c.n buf hl]⟩
  · have := L.dec_enc hv (buf.drop (32 * c.n))
    rwa [he, List.take_append_drop] at this

theorem WordCodec.Lawful.dec_not_panic (buf : Bytes) : (c.dec buf).isPanic = false := by
  rcases Nat.lt_or_ge buf.length (32 * c.n) with hl | hl
  · rw [c.dec_short buf hl]; rfl
  · rw [c.dec_long buf hl]; exact L.total _ (wordsOf_length _ _)

theorem WordCodec.Lawful.enc_inj {a b : α} (ha : c.Valid a) (hb : c.Valid b) (h : c.enc a = c.enc b) : a = b := by
  have := L.dec_enc ha []
  rw [h, L.dec_enc hb []] at this
  exact (Out.ok.inj this).symm

/-- `MarshalTo` then `UnmarshalFrom`: the element comes back and exactly its encoding is consumed -/
theorem WordCodec.Lawful.stream {a : α} (ha : c.Valid a) (tail : Bytes) :
    unmarshalFrom (32 * c.n) c.dec (c.enc a ++ tail) = ((c.enc a).length, .ok a) := by
  have hl := L.enc_length ha
  rw [unmarshalFrom, if_neg (by rw [List.length_append, hl]; omega), List.take_left' hl, hl,
    ← (c.enc a).append_nil, L.dec_enc ha]

end

/-! ### G1 -/

def g1Coords : G1 → List Nat
  | .inf => [0, 0]
  | .aff x y => [x, y]

def g1C : WordCodec G1 where
  n := 2
  coords := g1Coords
  ofWords
    | [x, y] => g1OfCoords x y
    | _ => .panic "unreachable"
  Valid P := G1.valid P = true

theorem unmarshalG1_eq : unmarshalG1 = g1C.dec := by
  funext buf
  rcases Nat.lt_or_ge buf.length 64 with hl | hl
  · rw [g1C.dec_short buf hl, unmarshalG1, if_pos hl]
  · rw [g1C.dec_long buf hl, unmarshalG1, if_neg (Nat.not_lt.2 hl), readCoords_ok 2 buf hl]
    rfl

theorem marshalG1_eq : marshalG1 = g1C.enc := by
  funext P
  cases P with
  | inf => rfl
  | aff x y => simp [marshalG1, WordCodec.enc, g1C, g1Coords]

theorem marshalG1_length (P : G1) : (marshalG1 P).length = 64 := by
  cases P <;> simp [marshalG1, be32_length]

theorem g1OfCoords_not_panic (x y : Nat) : (g1OfCoords x y).isPanic = false := by
  unfold g1OfCoords
  -- the outcomes in the order of the definition: non-canonical, identity, on the curve / off the curve
  split
  · rfl
  · split
    · rfl
    · split <;> rfl

theorem g1OfCoords_ok (x y : Nat) (P : G1) (h : g1OfCoords x y = .ok P) :
    x < p ∧ y < p ∧ G1.valid P = true ∧ g1Coords P = [x, y] := by
  unfold g1OfCoords at h
  split at h
  · cases h
  · rename_i hc
    have hx : x < p := by omega
    have hy : y < p := by omega
    split at h
    · rename_i h0
      cases h
      exact ⟨hx, hy, rfl, by simp [g1Coords, h0.1, h0.2]⟩
    · split at h
      · rename_i hon
        cases h
        exact ⟨hx, hy, by simp [G1.valid, hx, hy, hon], rfl⟩
      · cases h

theorem g1OfCoords_valid (x y : Nat) (hv : G1.valid (.aff x y) = true) : g1OfCoords x y = .ok (.aff x y) := by
  simp only [G1.valid, Bool.and_eq_true, decide_eq_true_eq] at hv
  obtain ⟨⟨hx, hy⟩, hon⟩ := hv
  have h0 : ¬ (x = 0 ∧ y = 0) := by
    rintro ⟨rfl, rfl⟩
    rw [zero_not_on_curve] at hon; cases hon
  simp [g1OfCoords, Nat.not_le.mpr hx, Nat.not_le.mpr hy, h0, hon]

theorem g1C_lawful : g1C.Lawful where
  length P _ := by cases P <;> rfl
  canon P hv := by
    cases P with
    | inf => simp [g1C, g1Coords, p_pos]
    | aff x y =>
      simp only [g1C, G1.valid, Bool.and_eq_true, decide_eq_true_eq] at hv
      simp [g1C, g1Coords, hv]
  back P hv := by
    cases P with
    | inf => rfl
    | aff x y => exact g1OfCoords_valid x y hv
  sound
    | [x, y], P, _, h => (g1OfCoords_ok x y P h).2.2
  total
    | [x, y], _ => g1OfCoords_not_panic x y

theorem unmarshalG1_short (buf : Bytes) (h : buf.length < 64) : unmarshalG1 buf = .err .short :=
  unmarshalG1_eq ▸ g1C.dec_short buf h

theorem unmarshalG1_long (buf : Bytes) (h : 64 ≤ buf.length) :
    unmarshalG1 buf = g1OfCoords (beNat (buf.take 32)) (beNat ((buf.drop 32).take 32)) :=
  unmarshalG1_eq ▸ g1C.dec_long buf h

theorem unmarshalG1_marshalG1 (P : G1) (hv : G1.valid P = true) (tail : Bytes) :
    unmarshalG1 (marshalG1 P ++ tail) = .ok P :=
  unmarshalG1_eq ▸ marshalG1_eq ▸ g1C_lawful.dec_enc hv tail

theorem unmarshalG1_ok_iff (buf : Bytes) (P : G1) :
    unmarshalG1 buf = .ok P ↔ 64 ≤ buf.length ∧ G1.valid P = true ∧ marshalG1 P = buf.take 64 :=
  unmarshalG1_eq ▸ marshalG1_eq ▸ g1C_lawful.dec_ok_iff buf P

/-- a successful decode returns a valid element whose encoding is the first 64 bytes read -/
theorem unmarshalG1_ok (buf : Bytes) (P : G1) (h : unmarshalG1 buf = .ok P) :
    64 ≤ buf.length ∧ G1.valid P = true ∧ marshalG1 P = buf.take 64 :=
  (unmarshalG1_ok_iff buf P).1 h

theorem unmarshalG1_not_panic (buf : Bytes) : (unmarshalG1 buf).isPanic = false :=
  unmarshalG1_eq ▸ g1C_lawful.dec_not_panic buf

theorem marshalG1_inj (P Q : G1) (hP : G1.valid P = true) (hQ : G1.valid Q = true)
    (h : marshalG1 P = marshalG1 Q) : P = Q :=
  g1C_lawful.enc_inj hP hQ (marshalG1_eq ▸ h)

/-! ### G2 -/

def g2Coords : G2 → List Nat
  | .inf => [0, 0, 0, 0]
  | .aff x y => [x.im, x.re, y.im, y.re]

/-- what follows the tag byte 1: a codec on all of G2, the identity as four zero words (`0x01‖0^128` is accepted) -/
def g2B : WordCodec G2 where
  n := 4
  coords := g2Coords
  ofWords
    | [a, b, c, d] => g2OfCoords a b c d
    | _ => .panic "unreachable"
  Valid P := G2.valid P = true

theorem unmarshalG2_eq (body : Bytes) : unmarshalG2 (1 :: body) = g2B.dec body := by
  rcases Nat.lt_or_ge body.length 128 with hl | hl
  · simp [unmarshalG2, g2B.dec_short body hl, Nat.succ_lt_succ hl]
  · simp [unmarshalG2, sliceFrom, g2B.dec_long body hl, readCoords_ok 4 body hl,
      Nat.not_lt.2 (Nat.succ_le_succ hl)]
    rfl

theorem marshalG2_eq (x y : Fp2) : marshalG2 (.aff x y) = 1 :: g2B.enc (.aff x y) := by
  simp [marshalG2, WordCodec.enc, g2B, g2Coords]

theorem marshalG2_length_aff (x y : Fp2) : (marshalG2 (.aff x y)).length = 129 := by
  simp [marshalG2, be32_length]

theorem g2OfCoords_not_panic (a b c d : Nat) : (g2OfCoords a b c d).isPanic = false := by
  unfold g2OfCoords
  -- non-canonical, identity, off the twist, outside / inside the subgroup
  split
  · rfl
  · split
    · rfl
    · simp only
      split
      · rfl
      · split <;> rfl

theorem g2OfCoords_ok (a b c d : Nat) (P : G2) (h : g2OfCoords a b c d = .ok P) :
    G2.valid P = true ∧ g2Coords P = [a, b, c, d] := by
  unfold g2OfCoords at h
  split at h
  · cases h
  · rename_i hc
    have ha : a < p := by omega
    have hb : b < p := by omega
    have hc' : c < p := by omega
    have hd : d < p := by omega
    split at h
    · rename_i h0
      cases h
      exact ⟨rfl, by simp [g2Coords, h0.1, h0.2.1, h0.2.2.1, h0.2.2.2]⟩
    · simp only at h
      split at h
      · cases h
      · rename_i hon
        split at h
        · cases h
        · rename_i hsub
          cases h
          have hon' : G2.onCurve (.aff ⟨a, b⟩ ⟨c, d⟩) = true := by simpa using hon
          have hsub' : G2.inSubgroup (.aff ⟨a, b⟩ ⟨c, d⟩) = true := by simpa using hsub
          exact ⟨by simp [G2.valid, ha, hb, hc', hd, hon', hsub'], rfl⟩

theorem g2OfCoords_valid (x y : Fp2) (hv : G2.valid (.aff x y) = true) :
    g2OfCoords x.im x.re y.im y.re = .ok (.aff x y) := by
  simp only [G2.valid, Bool.and_eq_true, decide_eq_true_eq] at hv
  obtain ⟨⟨⟨⟨⟨h1, h2⟩, h3⟩, h4⟩, hon⟩, hsub⟩ := hv
  have h0 : ¬ (x.im = 0 ∧ x.re = 0 ∧ y.im = 0 ∧ y.re = 0) := by
    rintro ⟨e1, e2, e3, e4⟩
    have : G2.aff x y = G2.aff ⟨0, 0⟩ ⟨0, 0⟩ := by
      cases x; cases y; simp_all
    rw [this, zero_not_on_twist] at hon; cases hon
  have hnc : ¬ (x.im ≥ p ∨ x.re ≥ p ∨ y.im ≥ p ∨ y.re ≥ p) := by omega
  have ex : (⟨x.im, x.re⟩ : Fp2) = x := by cases x; rfl
  have ey : (⟨y.im, y.re⟩ : Fp2) = y := by cases y; rfl
  simp [g2OfCoords, hnc, h0, ex, ey, hon, hsub]

theorem g2B_lawful : g2B.Lawful where
  length P _ := by cases P <;> rfl
  canon P hv := by
    cases P with
    | inf => simp [g2B, g2Coords, p_pos]
    | aff x y =>
      simp only [g2B, G2.valid, Bool.and_eq_true, decide_eq_true_eq] at hv
      simp [g2B, g2Coords, hv]
  back P hv := by
    cases P with
    | inf => rfl
    | aff x y => exact g2OfCoords_valid x y hv
  sound
    | [a, b, c, d], P, _, h => g2OfCoords_ok a b c d P h
  total
    | [a, b, c, d], _ => g2OfCoords_not_panic a b c d

theorem unmarshalG2_tag0 (buf : Bytes) (h : buf.head? = some 0) : unmarshalG2 buf = .ok .inf := by
  simp [unmarshalG2, h]

theorem unmarshalG2_long (t : UInt8) (body : Bytes) (ht : t = 1) (h : 128 ≤ body.length) :
    unmarshalG2 (t :: body) = g2OfCoords (beNat (body.take 32)) (beNat ((body.drop 32).take 32))
      (beNat ((body.drop 64).take 32)) (beNat ((body.drop 96).take 32)) := by
  rw [ht, unmarshalG2_eq, g2B.dec_long body h]
  simp [g2B, wordsOf, List.drop_drop]

theorem unmarshalG2_not_panic (buf : Bytes) : (unmarshalG2 buf).isPanic = false := by
  cases buf with
  | nil => rfl
  | cons t body =>
    by_cases h1 : t = 1
    · rw [h1, unmarshalG2_eq]; exact g2B_lawful.dec_not_panic body
    · by_cases h0 : t = 0 <;> simp [unmarshalG2, h0, h1, Out.isPanic]

theorem unmarshalG2_marshalG2 (P : G2) (hv : G2.valid P = true) (tail : Bytes) :
    unmarshalG2 (marshalG2 P ++ tail) = .ok P := by
  cases P with
  | inf => rfl
  | aff x y => rw [marshalG2_eq, List.cons_append, unmarshalG2_eq]; exact g2B_lawful.dec_enc hv tail

/-- a successful decode returns a valid element; for a non-identity element its encoding is the
first 129 bytes read -/
theorem unmarshalG2_ok (buf : Bytes) (P : G2) (h : unmarshalG2 buf = .ok P) :
    G2.valid P = true ∧ (∀ x y, P = .aff x y → 129 ≤ buf.length ∧ marshalG2 P = buf.take 129) := by
  cases buf with
  | nil => cases h
  | cons t body =>
    by_cases h1 : t = 1
    · rw [h1, unmarshalG2_eq] at h
      obtain ⟨hl, hv, he⟩ := (g2B_lawful.dec_ok_iff body P).1 h
      refine ⟨hv, ?_⟩
      rintro x y rfl
      exact ⟨Nat.succ_le_succ hl, by rw [marshalG2_eq, he, h1]; rfl⟩
    · by_cases h0 : t = 0 <;> simp [unmarshalG2, h0, h1] at h
      exact h ▸ ⟨rfl, nofun⟩

theorem marshalG2_inj (P Q : G2) (hP : G2.valid P = true) (hQ : G2.valid Q = true)
    (h : marshalG2 P = marshalG2 Q) : P = Q := by
  have := unmarshalG2_marshalG2 P hP []
  rw [h, unmarshalG2_marshalG2 Q hQ []] at this
  exact (Out.ok.inj this).symm

/-! ### GT -/

def gtValid (g : GT) : Prop := g.length = 12 ∧ ∀ c ∈ g, c < p

def gtC : WordCodec GT where
  n := 12
  coords := id
  ofWords cs := if cs.any (fun c => c ≥ p) then .err .noncanon else .ok cs
  Valid := gtValid

theorem unmarshalGT_eq : unmarshalGT = gtC.dec := rfl

theorem marshalGT_eq : marshalGT = gtC.enc := rfl

theorem gtC_lawful : gtC.Lawful where
  length _ h := h.1
  canon _ h := h.2
  back g h := if_neg (by simpa [gtC] using h.2)
  sound ws g hl h := by
    simp only [gtC] at h
    split at h
    · cases h
    · rename_i hc
      cases h
      exact ⟨⟨hl, by simpa using hc⟩, rfl⟩
  total ws _ := by simp only [gtC]; split <;> rfl

theorem marshalGT_length (g : GT) (h : g.length = 12) : (marshalGT g).length = 384 := by
  unfold marshalGT; rw [flatten_be32_length, h]

theorem unmarshalGT_short (buf : Bytes) (h : buf.length < 384) : unmarshalGT buf = .err .short :=
  gtC.dec_short buf h

theorem unmarshalGT_long (buf : Bytes) (h : 384 ≤ buf.length) :
    unmarshalGT buf =
      if (wordsOf 12 buf).any (fun c => c ≥ p) then .err .noncanon else .ok (wordsOf 12 buf) :=
  gtC.dec_long buf h

theorem unmarshalGT_not_panic (buf : Bytes) : (unmarshalGT buf).isPanic = false :=
  gtC_lawful.dec_not_panic buf

theorem unmarshalGT_marshalGT (g : GT) (hv : gtValid g) (tail : Bytes) :
    unmarshalGT (marshalGT g ++ tail) = .ok g :=
  gtC_lawful.dec_enc hv tail

theorem unmarshalGT_ok_iff (buf : Bytes) (g : GT) :
    unmarshalGT buf = .ok g ↔ 384 ≤ buf.length ∧ gtValid g ∧ marshalGT g = buf.take 384 :=
  gtC_lawful.dec_ok_iff buf g

theorem marshalGT_inj (g g' : GT) (hg : gtValid g) (hg' : gtValid g') (h : marshalGT g = marshalGT g') :
    g = g' :=
  gtC_lawful.enc_inj hg hg' h

/-! ### scalars -/

theorem unmarshalScalar_ok (buf : Bytes) (s : Nat) (h : unmarshalScalar buf = .ok s) :
    buf.length = 32 ∧ s < r ∧ s = beNat buf ∧ marshalScalar s = .ok buf := by
  unfold unmarshalScalar at h
  split at h
  · cases h
  · rename_i hl
    split at h
    · cases h
    · rename_i hr
      cases h
      have hl' : buf.length = 32 := by simpa using hl
      refine ⟨hl', by omega, rfl, ?_⟩
      have hlt : beNat buf < 2 ^ 256 := by
        have := beNat_lt buf; rw [hl'] at this
        have e : (256 : Nat) ^ 32 = 2 ^ 256 := by decide
        omega
      have := natBE_beNat buf
      rw [hl'] at this
      simp [marshalScalar, hlt, this]

theorem unmarshalScalar_marshalScalar (s : Nat) (hs : s < r) :
    ∃ enc, marshalScalar s = .ok enc ∧ enc.length = 32 ∧ unmarshalScalar enc = .ok s := by
  have h256 : s < 2 ^ 256 := by
    have : r < 2 ^ 256 := by decide
    omega
  refine ⟨natBE 32 s, by simp [marshalScalar, h256], natBE_length 32 s, ?_⟩
  have hb : beNat (natBE 32 s) = s := beNat_natBE 32 s (by
    have e : (256 : Nat) ^ 32 = 2 ^ 256 := by decide
    omega)
  simp [unmarshalScalar, natBE_length, hb, Nat.not_le.mpr hs]

theorem unmarshalScalar_not_panic (buf : Bytes) : (unmarshalScalar buf).isPanic = false := by
  unfold unmarshalScalar
  split
  · rfl
  · split <;> rfl

end Dos.Codec
