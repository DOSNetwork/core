/-
C12 — the share collector (queryLoop) and recoverSign → tbls.Recover → RecoverCommit.
-/
import DosModel.Proofs.Handlers

namespace Dos.Handlers

theorem qStep_total (s : QSt) (e : QEv) (ha : s.alive = true) :
    (qStep Cfg.all s e).1.alive = true ∧ (qStep Cfg.all s e).2.isPanic = false := by
  cases e with
  | other => simp [qStep, ha]
  | sig rid => by_cases hm : rid ∈ s.reg <;> simp [qStep, ha, hm]
  | reg rid => simp [qStep, ha]

theorem qRun_total (evs : List QEv) : ∀ s, s.alive = true →
    (qRun Cfg.all s evs).1.alive = true ∧ ∀ o ∈ (qRun Cfg.all s evs).2, o.isPanic = false := by
  simp only [qRun_eq]
  exact runLoop_inv _ (·.alive = true) (·.isPanic = false) evs fun s e _ => qStep_total s e

/-- keeps serving: after any history, a registration followed by a share for that id delivers it -/
theorem qloop_serves (evs : List QEv) (rid : Bytes) :
    ((qRun Cfg.all {} (evs ++ [.reg rid, .sig rid])).2.getLast?) = some (.ok "deliver") := by
  have ha := (qRun_total evs {} rfl).1
  rw [qRun_eq] at ha ⊢
  rw [runLoop_append]
  -- `reg rid` puts `rid` at the head of the registered ids, where `sig rid` finds it
  simp [runLoop, qStep, ha]

/-- with the guards on a share is either skipped or collected -/
theorem collect_cons (valid : Bytes → Bool) (t n : Nat) (s : Bytes) (r : List Bytes) (acc : List Nat) :
    collect Cfg.all valid t n (s :: r) acc =
      if s.length < 2 ∨ shareIdx s ∈ acc ∨ n ≤ shareIdx s ∨ valid s = false then collect Cfg.all valid t n r acc
      else if t ≤ (acc ++ [shareIdx s]).length then .ok (acc ++ [shareIdx s])
      else collect Cfg.all valid t n r (acc ++ [shareIdx s]) := by
  rw [collect]
  by_cases h1 : s.length < 2
  · simp [h1]
  by_cases h2 : shareIdx s ∈ acc
  · simp [h1, h2]
  by_cases h3 : n ≤ shareIdx s
  · simp [h1, h2, h3]
  cases valid s <;> simp [h1, h2, h3]

theorem collect_total (valid : Bytes → Bool) (t n : Nat) (l : List Bytes) :
    ∀ acc o, collect Cfg.all valid t n l acc = .error o → o.isPanic = false := by
  induction l with
  | nil => intro acc o h; simp [collect] at h
  | cons s r ih =>
    intro acc o h
    rw [collect_cons] at h
    split at h
    · exact ih _ _ h
    · split at h
      · cases h
      · exact ih _ _ h

/-- the indices `collect` returns are pairwise distinct and below `n` (given that the accumulator is) -/
theorem collect_nodup (valid : Bytes → Bool) (t n : Nat) (l : List Bytes) :
    ∀ acc res, acc.Nodup → (∀ i ∈ acc, i < n) → collect Cfg.all valid t n l acc = .ok res →
      res.Nodup ∧ ∀ i ∈ res, i < n := by
  induction l with
  | nil => intro acc res hn hb h; simp [collect] at h; subst h; exact ⟨hn, hb⟩
  | cons s r ih =>
    intro acc res hn hb h
    rw [collect_cons] at h
    split at h
    · exact ih _ _ hn hb h
    · next hs =>
      simp only [not_or, Nat.not_le] at hs
      have hn' : (acc ++ [shareIdx s]).Nodup :=
        List.nodup_append.mpr ⟨hn, List.pairwise_singleton _ _, fun a ha b hb' e => hs.2.1 (List.mem_singleton.mp hb' ▸ e ▸ ha)⟩
      have hb'' : ∀ i ∈ acc ++ [shareIdx s], i < n := by
        intro i hi; rcases List.mem_append.mp hi with hi | hi
        · exact hb i hi
        · rw [List.mem_singleton.mp hi]; exact hs.2.2.1
      split at h
      · cases h; exact ⟨hn', hb''⟩
      · exact ih _ _ hn' hb'' h

theorem recoverCommit_total (t n : Nat) (idxs : List Nat) : (recoverCommit Cfg.all t n idxs).isPanic = false := by
  unfold recoverCommit
  have : Cfg.all.rcDedup = true := rfl
  simp only [this, if_true]
  split <;> rfl

theorem tblsRecover_total (valid : Bytes → Bool) (t n : Nat) (sigs : List Bytes) : (tblsRecover Cfg.all valid t n sigs).isPanic = false := by
  unfold tblsRecover
  cases h : collect Cfg.all valid t n (uniq sigs []) [] with
  | error o => exact collect_total valid t n _ _ o h
  | ok idxs => exact recoverCommit_total t n idxs

theorem rsStep_total (valid : Bytes → Bytes → Bool) (t n : Nat) (st : RsSt) (m : Option Sign) (ha : st.alive = true) :
    (rsStep Cfg.all valid t n st m).1.alive = true ∧ (rsStep Cfg.all valid t n st m).2.isPanic = false := by
  cases m with
  | none =>
    simp only [rsStep, ha, all_rsNil]
    by_cases hd : st.done = true <;> simp [hd, ha]
  | some s =>
    have hp := tblsRecover_total (valid (s.content.getD [])) t n (st.shares ++ [s.sig.getD []])
    simp only [rsStep, ha, all_rsNil, all_toBigLen, all_rsMake, Bool.true_and, Bool.not_true, Bool.false_or, Bool.false_and, Bool.false_eq_true, if_false]
    -- one `if` at a time by rewriting: `split` on a goal that holds the step twice is dear
    by_cases hd : st.done = true
    · rw [if_pos hd]; exact ⟨ha, rfl⟩
    rw [if_neg hd]
    by_cases hb : (s.sig.isNone || s.content.isNone) = true
    · rw [if_pos hb]; exact ⟨ha, rfl⟩
    rw [if_neg hb]
    by_cases ho : (st.own.isSome && st.own != some (s.content.getD [])) = true
    · rw [if_pos ho]; exact ⟨ha, rfl⟩
    rw [if_neg ho]
    by_cases hl : (st.shares ++ [s.sig.getD []]).length < t
    · rw [if_pos hl]; exact ⟨rfl, rfl⟩
    rw [if_neg hl]
    generalize tblsRecover Cfg.all (valid (s.content.getD [])) t n (st.shares ++ [s.sig.getD []]) = o at hp
    cases o with
    | panic site => cases hp
    | err k => exact ⟨rfl, rfl⟩
    | dropped => exact ⟨rfl, rfl⟩
    | ok i =>
      dsimp only
      by_cases hc : (s.content.getD []).length < 20
      · rw [if_pos hc]; exact ⟨rfl, rfl⟩
      · rw [if_neg hc]; exact ⟨rfl, rfl⟩

theorem rsRun_total (valid : Bytes → Bytes → Bool) (t n : Nat) (ms : List (Option Sign)) : ∀ st, st.alive = true →
    (rsRun Cfg.all valid t n st ms).1.alive = true ∧ ∀ o ∈ (rsRun Cfg.all valid t n st ms).2, o.isPanic = false := by
  simp only [rsRun_eq]
  exact runLoop_inv _ (·.alive = true) (·.isPanic = false) ms fun st m _ => rsStep_total valid t n st m

end Dos.Handlers
