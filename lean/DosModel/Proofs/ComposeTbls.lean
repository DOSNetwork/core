/-
Composition helpers: the abstract threshold-BLS interface of `Model/Query.lean` (`Crypto`, used by the
C01 theorems) INSTANTIATED with the byte-level model `Model/Tbls.lean` of `sign/tbls` / `sign/bls`
(the subject of C02 / C03), and the three contracts `hC03`, `hrec`, `htot` that `Props/C01.lean`
takes as hypotheses, PROVED for that instance from the C02 / C03 theorems (`recover_unique`, `counts_iff`,
`signed_share_valid`) and the lemmas of `Proofs/Tbls.lean` under them (`recover_total`, and
`decode_eq_iff_verifyEq`, the byte-level form of C03 `verify_iff`).

Nothing here is specific to a group: `F` any field, `G` any `F`-module, `cd` any codec, `H` any
hash-to-point function, `f` the coefficients of the group's polynomial (`pubPoly`).
-/
import DosModel.Proofs.Query
import DosModel.Props.C02
import DosModel.Props.C03
import DosModel.Proofs.ComposePairing


namespace Dos.Compose
open Dos Dos.Share Dos.Tbls Dos.Query

variable {F : Type} [Field F] [DecidableEq F]
variable {G : Type} [AddCommGroup G] [Module F G] [DecidableEq G]

/-- how `recoverSign` sees the outcome of `tbls.Recover`: a signature, an `err != nil`, or a panic
inside its goroutine -/
def recOut : Tbls.Res → Query.RecOut
  | .ok s => .ok s
  | .errFew => .err
  | .errThreshold => .err
  | .errDecode => .err
  | .panic _ => .panic

/-- **the instance**: `recover c sigs = tbls.Recover(suite, pubPoly, c, sigs, t, n)` and
`verify c sig = (bls.Verify(suite, pubPoly.Commit(), c, sig) == nil)` as modelled in `Model/Tbls.lean`;
`pubPoly.Commit()` is the key of the shared secret `f(0)` (`f.headD 0`), `H c` the hashed message. -/
def tblsCrypto (cd : Codec G) (f : List F) (H : Bytes → G) (t n : Nat) : Crypto :=
  { recover := fun c sigs => recOut (Tbls.recover cd f (H c) sigs t n)
    verify := fun c sig => blsVerify cd (f.headD 0) (H c) sig }

/-- `Valid i c e` of the C01 liveness theorems, for this instance: entry `e` counts as the share of
member `i < n` on content `c` in `tbls.Recover` (index prefix `i`, value decodes to `f(i+1) • H(c)`) -/
def ValidShare (cd : Codec G) (f : List F) (H : Bytes → G) (n : Nat) : Nat → Bytes → Bytes → Prop :=
  fun i c e => validIdx cd f (H c) n e = some i

section pairing
variable {G2 GT : Type} [AddCommGroup G2] [Module F G2] [CommGroup GT]

/-- **the contract's predicate** for the submitted bytes `s` on the string `c`: `s` parses as a G1
point `S` and `e(−S, g₂) · e(H(c), f(0)•g₂) = 1` — the pairing equation the proxy contract evaluates
under the group public key `f(0)•g₂` (`pubPoly.Commit()`). -/
def ContractEq (pr : Pairing F G G2 GT) (cd : Codec G) (f : List F) (H : Bytes → G) (c s : Bytes) : Prop :=
  ∃ S : G, cd.decode s = some S ∧ pr.verifyEq (f.headD 0 • pr.g2) (H c) S

/-- `hC03` of `Props/C01.lean`, both directions: the instance's `verify` accepts exactly the byte
strings for which the contract equation holds (`blsVerify_iff`, then `decode_eq_iff_verifyEq`, which
is C03 `verify_iff` read on bytes). -/
theorem verify_iff_contract (pr : Pairing F G G2 GT) (cd : Codec G) (f : List F) (H : Bytes → G)
    (t n : Nat) (c s : Bytes) :
    (tblsCrypto cd f H t n).verify c s = true ↔ ContractEq pr cd f H c s :=
  (blsVerify_iff cd (H c) (f.headD 0) s).trans (decode_eq_iff_verifyEq cd (H c) pr _ s)

end pairing

theorem validShare_index {cd : Codec G} {f : List F} {H : Bytes → G} {n i : Nat} {c e : Bytes}
    (h : ValidShare cd f H n i c e) : sigIndex e = some i :=
  ((Props.C03.counts_iff cd f (H c) n e i).1 h).1

/-- valid shares of distinct members are distinct byte strings (the hypothesis `hbytes` of
`enough_honest_reports` is automatic for this instance) -/
theorem validShares_bytes_nodup {cd : Codec G} {f : List F} {H : Bytes → G} {n : Nat} {c : Bytes}
    (gs : List (Nat × Bytes)) (hidx : (gs.map (·.1)).Nodup)
    (hv : ∀ q ∈ gs, ValidShare cd f H n q.1 c q.2) : (gs.map (·.2)).Nodup := by
  apply List.Nodup.of_map sigIndex
  have : (gs.map (·.2)).map sigIndex = (gs.map (·.1)).map some := by
    rw [List.map_map, List.map_map]
    apply List.map_congr_left
    intro q hq
    exact validShare_index (hv q hq)
  rw [this]
  exact hidx.map (Option.some_injective _)

/-- `Enough`: valid shares of ≥ t distinct members in the list ⇒ ≥ t members qualify in `tbls.Recover` -/
theorem enough_members {cd : Codec G} {f : List F} {H : Bytes → G} {n t : Nat} {c : Bytes} {l : List Bytes}
    (h : Enough (ValidShare cd f H n) c t l) : t ≤ (members cd f (H c) n l).card := by
  obtain ⟨gs, hnd, ht, hg⟩ := h
  refine ht.trans ((List.length_map (·.1)).symm.trans_le
    (le_card_members cd f (H c) n l _ hnd fun i hi => ?_))
  obtain ⟨q, hq, rfl⟩ := List.mem_map.1 hi
  exact ⟨q.2, (hg q hq).2, (hg q hq).1⟩

/-- `hrec` of `Props/C01.lean` for the instance: C02 `recover_unique` (the list qualifies ⇒ the
encoding of `f(0) • H(c)` is returned), which passes `bls.Verify` under the group key because the
codec reads back what it writes. -/
theorem tbls_hrec (cd : Codec G) (hcd : ∀ p, cd.decode (cd.encode p) = some p) (f : List F)
    (H : Bytes → G) (t n : Nat) (ht : 0 < t) (hf : f.length ≤ t) (hc : CharGt F n) (c : Bytes)
    (l : List Bytes) (h : Enough (ValidShare cd f H n) c t l) :
    ∃ sig, (tblsCrypto cd f H t n).recover c l = .ok sig ∧ (tblsCrypto cd f H t n).verify c sig = true := by
  refine ⟨blsSign cd (f.headD 0) (H c), ?_, (blsVerify_iff cd (H c) (f.headD 0) _).2 (hcd _)⟩
  show recOut (Tbls.recover cd f (H c) l t n) = _
  rw [Props.C02.recover_unique cd f (H c) t n ht hf hc l (enough_members h)]; rfl

/-- `htot` of `Props/C01.lean` for the instance: `recover_total` -/
theorem tbls_htot (cd : Codec G) (f : List F) (H : Bytes → G) (t n : Nat) (ht : 0 < t)
    (hc : CharGt F n) (c : Bytes) (l : List Bytes) :
    (tblsCrypto cd f H t n).recover c l ≠ .panic := by
  show recOut (Tbls.recover cd f (H c) l t n) ≠ .panic
  rcases Tbls.recover_total cd f (H c) t n ht hc l with h | h | ⟨s, h⟩ <;> rw [h] <;> simp [recOut]

/-- what `tbls.Sign` emits for member `i < n` (index fits the 2-byte prefix) is a valid share -/
theorem signed_validShare (cd : Codec G) (hcd : ∀ p, cd.decode (cd.encode p) = some p) (f : List F)
    (H : Bytes → G) (n i : Nat) (hi : i < n) (h16 : i < 65536) (c : Bytes) :
    ValidShare cd f H n i c (tblsSign cd f (H c) i) :=
  Props.C02.signed_share_valid cd hcd f (H c) n i hi h16

theorem threshold_pos (n : Nat) : 0 < Content.threshold n := by unfold Content.threshold; omega

end Dos.Compose
