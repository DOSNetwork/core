/-
Helper lemmas for the ABI layer: the length of an encoding is a multiple of 32, static arguments sit in
their head slots, different argument lists have different encodings.
-/
import DosModel.Proofs.Abi

namespace Dos.Abi
open Dos Dos.ReqLoop Dos.CodecBytes

theorem pad32_length_mod (bs : Bytes) : (pad32 bs).length % 32 = 0 := by
  simp only [pad32, zeros, List.length_append, List.length_replicate]
  have h : bs.length ≤ (bs.length + 31) / 32 * 32 := by omega
  have : bs.length + ((bs.length + 31) / 32 * 32 - bs.length) = (bs.length + 31) / 32 * 32 := by omega
  rw [this]; exact Nat.mul_mod_left _ _

theorem encTail_length_mod {t : AbiType} {v : AbiVal} (hw : t.wf = true) (hv : v.wt t = true)
    (hd : t.isDynamic = true) : (encTail v).length % 32 = 0 := by
  rcases wt_dynamic hv hd with ⟨e, l, rfl, rfl, hall⟩ | ⟨bs, _, rfl⟩
  · simp only [encTail, List.length_append, natBE_length, encWords_length hw hall]
    omega
  · have := pad32_length_mod bs
    simp only [encTail, List.length_append, natBE_length]
    omega

theorem headLen_mod : ∀ (tys : List AbiType), headLen tys % 32 = 0 := by
  intro tys
  induction tys with
  | nil => simp [headLen]
  | cons t ts ih =>
    rw [headLen_cons]
    cases t <;> simp only [AbiType.headSize] <;> omega

theorem encGo_snd_length_mod (tys : List AbiType) (vs : List AbiVal) (off : Nat)
    (hw : tysWf tys = true) (hv : wtArgs tys vs = true) : (encGo off tys vs).2.length % 32 = 0 := by
  fun_induction encGo off tys vs with
  | case1 off t ts v vs hd tl r ih =>
    simp only [wtArgs, Bool.and_eq_true] at hv
    simp only [tysWf, List.all_cons, Bool.and_eq_true] at hw
    have h1 : tl.length % 32 = 0 := encTail_length_mod hw.1 hv.1 hd
    have h2 : r.2.length % 32 = 0 := ih hw.2 hv.2
    rw [List.length_append]
    omega
  | case2 off t ts v vs hs r ih =>
    simp only [wtArgs, Bool.and_eq_true] at hv
    simp only [tysWf, List.all_cons, Bool.and_eq_true] at hw
    exact ih hw.2 hv.2
  | case3 => rfl

theorem encodeRaw_length_mod (tys : List AbiType) (vs : List AbiVal) (hw : tysWf tys = true)
    (hv : wtArgs tys vs = true) : (encodeRaw tys vs).length % 32 = 0 := by
  simp only [encodeRaw, List.length_append, encGo_fst_length tys vs _ hw hv]
  have h1 := headLen_mod tys
  have h2 := encGo_snd_length_mod tys vs (headLen tys) hw hv
  omega

theorem encGo_static_slot : ∀ (tys : List AbiType) (vs : List AbiVal) (off k : Nat) (t : AbiType) (v : AbiVal),
    tysWf tys = true → wtArgs tys vs = true → tys[k]? = some t → vs[k]? = some v → t.isDynamic = false →
    ((encGo off tys vs).1.drop (headLen (tys.take k))).take t.headSize = encStatic v := by
  intro tys
  induction tys with
  | nil => intro vs off k t v _ _ ht; simp at ht
  | cons t0 ts ih =>
    intro vs off k t v hw hv ht hvk hs
    cases vs with
    | nil => simp [wtArgs] at hv
    | cons v0 vs =>
      simp only [wtArgs, Bool.and_eq_true] at hv
      simp only [tysWf, List.all_cons, Bool.and_eq_true] at hw
      cases k with
      | zero =>
        simp only [List.getElem?_cons_zero, Option.some.injEq] at ht hvk
        subst ht; subst hvk
        simp only [List.take_zero, headLen, List.map_nil, List.sum_nil, List.drop_zero, encGo, hs, Bool.false_eq_true,
          if_false]
        rw [← encStatic_length hw.1 hv.1 hs, List.take_left]
      | succ k =>
        simp only [List.getElem?_cons_succ] at ht hvk
        simp only [List.take_succ_cons, headLen_cons]
        by_cases hd : t0.isDynamic = true
        · simp only [encGo, hd, if_true]
          have : t0.headSize = (natBE 32 off).length := by rw [headSize_dynamic hd, natBE_length]
          rw [this, ← List.drop_drop, List.drop_left]
          exact ih vs _ k t v hw.2 hv.2 ht hvk hs
        · have hs0 : t0.isDynamic = false := by simpa using hd
          simp only [encGo, hs0, Bool.false_eq_true, if_false]
          rw [← encStatic_length hw.1 hv.1 hs0, ← List.drop_drop, List.drop_left]
          exact ih vs _ k t v hw.2 hv.2 ht hvk hs

theorem headLen_take_le : ∀ (tys : List AbiType) (k : Nat) (t : AbiType), tys[k]? = some t →
    headLen (tys.take k) + t.headSize ≤ headLen tys := by
  intro tys
  induction tys with
  | nil => intro k t h; simp at h
  | cons t0 ts ih =>
    intro k t h
    cases k with
    | zero =>
      simp only [List.getElem?_cons_zero, Option.some.injEq] at h
      subst h
      simp [headLen]
    | succ k =>
      simp only [List.getElem?_cons_succ] at h
      have := ih k t h
      simp only [List.take_succ_cons, headLen_cons]
      omega

theorem encodeRaw_static_slot (tys : List AbiType) (vs : List AbiVal) (k : Nat) (t : AbiType) (v : AbiVal)
    (hw : tysWf tys = true) (hv : wtArgs tys vs = true) (ht : tys[k]? = some t) (hvk : vs[k]? = some v)
    (hs : t.isDynamic = false) :
    ((encodeRaw tys vs).drop (headOffset tys k)).take t.headSize = encStatic v := by
  have hl := encGo_fst_length tys vs (headLen tys) hw hv
  have hle := headLen_take_le tys k t ht
  have h := encGo_static_slot tys vs (headLen tys) k t v hw hv ht hvk hs
  simp only [encodeRaw, headOffset]
  rw [List.drop_append_of_le_length (by omega), List.take_append_of_le_length (by simp [List.length_drop]; omega)]
  exact h

end Dos.Abi
