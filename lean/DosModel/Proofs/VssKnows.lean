/-
Helper for `Props/C08.lean` (`share_not_derivable`): every term derivable from the wire and the other
members' secrets is `Good` – no name outside the attacker's own, no point that has BOTH the ephemeral
secret and the recipient's long-term secret in its exponent, no key derived from such a point, and a
ciphertext under such a key only if it is the one on the wire.
-/
import DosModel.Model.VssKnows
import Mathlib.Data.List.Perm.Basic

namespace Dos.Vss.Knows

def Good (s : Scene) : T → Prop
  | .name n => n ∈ s.others
  | .pt es => ¬ (s.eph ∈ es ∧ s.long ∈ es)
  | .kdf p _ => Good s p
  | .seal k m => (k = s.key ∧ m = .name s.v) ∨ (Good s k ∧ Good s m)
  | .hash _ => True
  | .pair a b => Good s a ∧ Good s b

theorem key_not_good (s : Scene) : ¬ Good s s.key := by
  simp [Scene.key, Good]

theorem knows_good (s : Scene) (he : s.eph ∉ s.others) (hl : s.long ∉ s.others) (hne : s.eph ≠ s.long)
    {t : T} (h : Knows s.wire t) : Good s t := by
  induction h with
  | init hk =>
    -- `Scene.wire` in its order: another secret, a public key, the dealer's key, the recipient's key,
    -- the DH key, the ciphertext
    rcases hk with ⟨n, hn, rfl⟩ | ⟨n, _, rfl⟩ | rfl | rfl | rfl | rfl
    · exact hn
    · simp only [Good, List.mem_singleton]; rintro ⟨h1, h2⟩; exact hne (h1.trans h2.symm)
    · simp only [Good, List.mem_singleton]; rintro ⟨h1, h2⟩; exact hne (h1.trans h2.symm)
    · simp only [Good, List.mem_singleton]; rintro ⟨h1, _⟩; exact hne h1
    · simp only [Good, List.mem_singleton]; rintro ⟨_, h2⟩; exact hne h2.symm
    · exact Or.inl ⟨rfl, rfl⟩
  | base => simp [Good]
  | exp _ _ iha ihp =>
    simp only [Good, List.mem_cons] at iha ihp ⊢
    rintro ⟨h1 | h1, h2 | h2⟩
    · exact he (h1 ▸ iha)
    · exact he (h1 ▸ iha)
    · exact hl (h2 ▸ iha)
    · exact ihp ⟨h1, h2⟩
  | perm _ hp ih =>
    simp only [Good] at ih ⊢
    rintro ⟨h1, h2⟩; exact ih ⟨hp.mem_iff.2 h1, hp.mem_iff.2 h2⟩
  | kdf c _ ih => exact ih
  | hash _ _ => trivial
  | enc _ _ ihk ihm => exact Or.inr ⟨ihk, ihm⟩
  | open_ _ _ ihs ihk =>
    rcases ihs with ⟨rfl, _⟩ | ⟨_, hm⟩
    · exact absurd ihk (key_not_good s)
    · exact hm
  | pair _ _ iha ihb => exact ⟨iha, ihb⟩
  | fst _ ih => exact ih.1
  | snd _ ih => exact ih.2

end Dos.Vss.Knows
