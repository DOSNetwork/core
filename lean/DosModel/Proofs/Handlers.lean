/-
C12 — lemmas shared by all handler proofs: outcomes and `Errs`/`NoPanic` (what `simp` needs to walk a handler's
`if`s), the loop combinator `runLoop` of which the seven loop models are instances, the `Cfg.all` projections;
then the single-shot handlers of dosnode, transport and gossip, `client.dispatch`, the connection table of
`callHandler`, and the reduction of the inventory checks to the agreement of table and inventory. Core Lean only.
-/
import DosModel.Model.HandlersDrv

namespace Dos.Handlers

@[simp] theorem isPanic_ok (i : String) : (Out.ok i).isPanic = false := rfl
@[simp] theorem isPanic_err (k : String) : (Out.err k).isPanic = false := rfl
@[simp] theorem isPanic_dropped : Out.dropped.isPanic = false := rfl
@[simp] theorem isPanic_panic (s : String) : (Out.panic s).isPanic = true := rfl
@[simp] theorem isPanic_ite (c : Prop) [Decidable c] (a b : Out) :
    (if c then a else b).isPanic = if c then a.isPanic else b.isPanic := apply_ite _ _ _ _

/-- every error outcome of `x` satisfies `P`; with the three lemmas below `simp` walks the `if`s of a handler
and is left with its leaves -/
def Errs {α : Type} (P : Out → Prop) (x : Except Out α) : Prop := ∀ o, x = .error o → P o

/-- no error outcome is a panic: every `Cfg.all` guard sends the branch of its panic site to an `err` -/
abbrev NoPanic {α : Type} (x : Except Out α) : Prop := Errs (·.isPanic = false) x

@[simp] theorem errs_ok {α : Type} (P : Out → Prop) (a : α) : Errs P (.ok a) := fun _ h => nomatch h
@[simp] theorem errs_error {α : Type} (P : Out → Prop) (o : Out) : Errs P (.error o : Except Out α) ↔ P o :=
  ⟨fun h => h o rfl, fun h _ e => by cases e; exact h⟩
@[simp] theorem errs_ite {α : Type} (P : Out → Prop) (c : Prop) [Decidable c] (a b : Except Out α) :
    Errs P (if c then a else b) ↔ (c → Errs P a) ∧ (¬c → Errs P b) := by
  split <;> simp [*]

/-- a guard that answers with an error lets only the other case through -/
@[simp] theorem guard_eq_ok {α : Type} (c : Prop) [Decidable c] (o : Out) (x : Except Out α) (a : α) :
    (if c then .error o else x) = .ok a ↔ ¬c ∧ x = .ok a := by
  split <;> simp [*]

@[simp] theorem guard_eq_ok' {α : Type} (c : Prop) [Decidable c] (o : Out) (x : Except Out α) (a : α) :
    (if c then x else .error o) = .ok a ↔ c ∧ x = .ok a := by
  split <;> simp [*]

/-! ### the serving loops

Every loop model (`sessRun`, `dkgRun`, `qRun`, `rsRun`, `dispRun`, `connRun`, `chainRun`) folds its step
function over the inputs and collects the outcomes; what holds of all of them is proved once, for `runLoop`. -/

def runLoop {σ ε : Type} (step : σ → ε → σ × Out) : σ → List ε → σ × List Out
  | s, [] => (s, [])
  | s, e :: es => ((runLoop step (step s e).1 es).1, (step s e).2 :: (runLoop step (step s e).1 es).2)

section
variable {σ ε : Type} (step : σ → ε → σ × Out)

theorem runLoop_length : ∀ (es : List ε) (s : σ), (runLoop step s es).2.length = es.length
  | [], _ => rfl
  | e :: es, s => congrArg (· + 1) (runLoop_length es (step s e).1)

theorem runLoop_append : ∀ (es : List ε) (s : σ) (tl : List ε),
    (runLoop step s (es ++ tl)).2 = (runLoop step s es).2 ++ (runLoop step (runLoop step s es).1 tl).2
  | [], _, _ => rfl
  | e :: es, s, tl => congrArg ((step s e).2 :: ·) (runLoop_append es (step s e).1 tl)

/-- an invariant `I` the steps keep holds at the end, and what holds of every step's outcome (`Q`) holds of all
outcomes; the steps need to behave on the inputs of this run only -/
theorem runLoop_inv (I : σ → Prop) (Q : Out → Prop) : ∀ (es : List ε),
    (∀ s, ∀ e ∈ es, I s → I (step s e).1 ∧ Q (step s e).2) →
    ∀ s, I s → I (runLoop step s es).1 ∧ ∀ o ∈ (runLoop step s es).2, Q o
  | [], _, _, hs => ⟨hs, fun _ h => nomatch h⟩
  | e :: es, h, s, hs =>
    have st := h s e List.mem_cons_self hs
    have r := runLoop_inv I Q es (fun s e he => h s e (List.mem_cons_of_mem _ he)) _ st.1
    ⟨r.1, fun o ho => (List.mem_cons.mp ho).elim (· ▸ st.2) (r.2 o)⟩
end

theorem sessRun_eq (cfg : Cfg) : ∀ (es : List SessEv) (s : Sess), sessRun cfg s es = runLoop (sessStep cfg) s es
  | [], _ => rfl
  | e :: es, s => by simp only [sessRun, runLoop, sessRun_eq cfg es]

theorem dkgRun_eq (cfg : Cfg) : ∀ (es : List DkgOp) (s : DkgSt), dkgRun cfg s es = runLoop (dkgStep cfg) s es
  | [], _ => rfl
  | e :: es, s => by simp only [dkgRun, runLoop, dkgRun_eq cfg es]

theorem qRun_eq (cfg : Cfg) : ∀ (es : List QEv) (s : QSt), qRun cfg s es = runLoop (qStep cfg) s es
  | [], _ => rfl
  | e :: es, s => by simp only [qRun, runLoop, qRun_eq cfg es]

theorem rsRun_eq (cfg : Cfg) (valid : Bytes → Bytes → Bool) (t n : Nat) :
    ∀ (es : List (Option Sign)) (s : RsSt), rsRun cfg valid t n s es = runLoop (rsStep cfg valid t n) s es
  | [], _ => rfl
  | e :: es, s => by simp only [rsRun, runLoop, rsRun_eq cfg valid t n es]

theorem dispRun_eq (cfg : Cfg) : ∀ (es : List DispEv) (s : DispSt), dispRun cfg s es = runLoop (dispStep cfg) s es
  | [], _ => rfl
  | e :: es, s => by simp only [dispRun, runLoop, dispRun_eq cfg es]

theorem connRun_eq (cfg : Cfg) : ∀ (es : List ConnEv) (s : ConnSt), connRun cfg s es = runLoop (connStep cfg) s es
  | [], _ => rfl
  | e :: es, s => by simp only [connRun, runLoop, connRun_eq cfg es]

theorem chainRun_eq (cfg : Cfg) (me : Nat) : ∀ (es : List ChainIn) (s : EvSt), chainRun cfg me s es = runLoop (chainStep cfg me) s es
  | [], _ => rfl
  | e :: es, s => by simp only [chainRun, runLoop, chainRun_eq cfg me es]

@[simp] theorem all_peerClean : Cfg.all.peerClean = Clean.all := rfl
@[simp] theorem all_reqClean : Cfg.all.reqClean = Clean.all := rfl
@[simp] theorem all_expClean : Cfg.all.expClean = Clean.all := rfl
@[simp] theorem fireC_all (s : Sess) (sid : String) (r : Req) (k : Nat) (site : String) :
    fireC Clean.all s sid r k site = fire s sid r k site := by
  simp [fireC, fire, Clean.all]
@[simp] theorem all_xpubCastSelf : Cfg.all.xpubCastSelf = true := rfl
@[simp] theorem all_xpubCastPeer : Cfg.all.xpubCastPeer = true := rfl
@[simp] theorem all_xpubIdx : Cfg.all.xpubIdx = true := rfl
@[simp] theorem all_gdkgGuard : Cfg.all.gdkgGuard = true := rfl
@[simp] theorem all_dealsDkgNil : Cfg.all.dealsDkgNil = true := rfl
@[simp] theorem all_dealsCast : Cfg.all.dealsCast = true := rfl
@[simp] theorem all_respsDkgNil : Cfg.all.respsDkgNil = true := rfl
@[simp] theorem all_respsCast : Cfg.all.respsCast = true := rfl
@[simp] theorem all_findPubDkg : Cfg.all.findPubDkg = true := rfl
@[simp] theorem all_respNil : Cfg.all.respNil = true := rfl
@[simp] theorem all_respVerOk : Cfg.all.respVerOk = true := rfl
@[simp] theorem all_pubKeyLen : Cfg.all.pubKeyLen = true := rfl
@[simp] theorem all_peerRespNil : Cfg.all.peerRespNil = true := rfl
@[simp] theorem all_encNil : Cfg.all.encNil = true := rfl
@[simp] theorem all_nonceLen : Cfg.all.nonceLen = true := rfl
@[simp] theorem all_secShareNil : Cfg.all.secShareNil = true := rfl
@[simp] theorem all_shareVNil : Cfg.all.shareVNil = true := rfl
@[simp] theorem all_findPubVss : Cfg.all.findPubVss = true := rfl
@[simp] theorem all_aggNil : Cfg.all.aggNil = true := rfl
@[simp] theorem all_toBigLen : Cfg.all.toBigLen = true := rfl
@[simp] theorem all_qloopOk : Cfg.all.qloopOk = true := rfl
@[simp] theorem all_qloopCast : Cfg.all.qloopCast = true := rfl
@[simp] theorem all_rsNil : Cfg.all.rsNil = true := rfl
@[simp] theorem all_rsMake : Cfg.all.rsMake = true := rfl
@[simp] theorem all_groupInfoIds : Cfg.all.groupInfoIds = true := rfl
@[simp] theorem all_byte32Len : Cfg.all.byte32Len = true := rfl
@[simp] theorem all_crRand : Cfg.all.crRand = true := rfl
@[simp] theorem all_sigIdxLen : Cfg.all.sigIdxLen = true := rfl
@[simp] theorem all_recoverDedup : Cfg.all.recoverDedup = true := rfl
@[simp] theorem all_anyNil : Cfg.all.anyNil = true := rfl
@[simp] theorem all_ridCast : Cfg.all.ridCast = true := rfl
@[simp] theorem all_ridLen : Cfg.all.ridLen = true := rfl
@[simp] theorem all_readSize : Cfg.all.readSize = true := rfl
@[simp] theorem all_mdNil : Cfg.all.mdNil = true := rfl
@[simp] theorem all_dispReplyNil : Cfg.all.dispReplyNil = true := rfl
@[simp] theorem all_callRemoveNil : Cfg.all.callRemoveNil = true := rfl
@[simp] theorem all_callIdMatch : Cfg.all.callIdMatch = true := rfl
@[simp] theorem all_listenName : Cfg.all.listenName = true := rfl
@[simp] theorem all_listenCast : Cfg.all.listenCast = true := rfl
@[simp] theorem all_lookupName : Cfg.all.lookupName = true := rfl

theorem decodePubKey_total (len : Nat) : (decodePubKey Cfg.all len).isPanic = false := by
  simp [decodePubKey]

theorem toBigInt_total (len : Nat) : (toBigInt Cfg.all len).isPanic = false := by
  simp [toBigInt]

theorem choseSubmitter_total (r k : Nat) : (choseSubmitter Cfg.all r k).isPanic = false := by
  simp [choseSubmitter]

theorem byte32_total (l : Nat) : (byte32 Cfg.all l).isPanic = false := by
  simp [byte32]

theorem handleCRSeed_total (s : Int) : (handleCRSeed Cfg.all s).isPanic = false := by
  simp [handleCRSeed]

theorem messageDispatch_total (f : Feed) : (messageDispatch Cfg.all f).isPanic = false := by
  cases f <;> simp [messageDispatch]

theorem decodeBytes_total (v : Bool) (f : Frame) : NoPanic (decodeBytes Cfg.all v f) := by
  unfold decodeBytes
  split
  · -- the frame does not unmarshal: `err "unmarshal"`
    simp
  · -- no `Any`: the guard `anyNil` answers `err "noany"`
    simp
  · -- an `Any`: a failed signature check and the two bad `Any`s are `err`s, any other is the value
    simp
    split
    · simp
    · simp
    · simp

theorem decodeOut_total (v : Bool) (f : Frame) : (decodeOut Cfg.all v f).isPanic = false := by
  unfold decodeOut
  split
  · next o h => exact decodeBytes_total v f o h
  · rfl

theorem decodePipe_total (f : Frame) : (decodePipe Cfg.all f).isPanic = false := by
  unfold decodePipe
  split
  · next s h => exact absurd (decodeBytes_total true f _ h) (by simp)
  · rfl
  · split <;> rfl

theorem receiveID_total (w : Wire) : (receiveID Cfg.all w).isPanic = false := by
  unfold receiveID
  split
  · next o h => exact (show NoPanic (readFrom Cfg.all w) by cases w <;> simp [readFrom]) o h
  · split
    · next o h => exact decodeBytes_total false _ o h
    · next pub rid _ =>
      cases pub with
      | bad => simp
      | infinity => simp
      | valid =>
        -- the first error reported is `dupid` or none: `err` or `ok`
        split
        · rfl
        · rfl
    · simp

theorem dispStep_total (s : DispSt) (e : DispEv) (ha : s.alive = true) :
    (dispStep Cfg.all s e).1.alive = true ∧ (dispStep Cfg.all s e).2.isPanic = false := by
  cases e with
  | send => simp [dispStep, ha]
  | cancel k => simp [dispStep, ha]
  | reply k =>
    simp only [dispStep, ha, all_dispReplyNil]
    cases h : dispLookup k s.pending with
    | none => simp [ha]
    | some c => cases c <;> simp

theorem dispRun_total (evs : List DispEv) : ∀ s, s.alive = true →
    (dispRun Cfg.all s evs).1.alive = true ∧ ∀ o ∈ (dispRun Cfg.all s evs).2, o.isPanic = false := by
  simp only [dispRun_eq]
  exact runLoop_inv _ (·.alive = true) (·.isPanic = false) evs fun s e _ => dispStep_total s e

theorem dispRun_append (es : List DispEv) (s : DispSt) (tl : List DispEv) :
    (dispRun Cfg.all s (es ++ tl)).2 = (dispRun Cfg.all s es).2 ++ (dispRun Cfg.all (dispRun Cfg.all s es).1 tl).2 := by
  simp only [dispRun_eq, runLoop_append]

/-- nonces in the table are below the counter, so the next request's nonce is fresh -/
theorem dispStep_lt (s : DispSt) (e : DispEv) (h : ∀ p ∈ s.pending, p.1 < s.next) :
    ∀ p ∈ (dispStep Cfg.all s e).1.pending, p.1 < (dispStep Cfg.all s e).1.next := by
  by_cases ha : s.alive = true
  · cases e with
    | send =>
      have e1 : (dispStep Cfg.all s .send).1 = { s with pending := (s.next, false) :: s.pending, next := s.next + 1 } := by
        simp [dispStep, ha]
      rw [e1]; intro p hp
      rcases List.mem_cons.mp hp with hp | hp
      · subst hp; exact Nat.lt_succ_self _
      · exact Nat.lt_succ_of_lt (h p hp)
    | cancel k =>
      have e1 : (dispStep Cfg.all s (.cancel k)).1 = { s with pending := s.pending.map (fun e => if e.1 = k then (e.1, true) else e) } := by
        simp [dispStep, ha]
      rw [e1]; intro p hp
      obtain ⟨q, hq, rfl⟩ := List.mem_map.mp hp
      have := h q hq
      show (if q.1 = k then (q.1, true) else q).1 < s.next
      split <;> exact this
    | reply k =>
      cases hl : dispLookup k s.pending with
      | none =>
        have e1 : (dispStep Cfg.all s (.reply k)).1 = s := by simp [dispStep, ha, hl]
        rw [e1]; exact h
      | some c =>
        have e1 : (dispStep Cfg.all s (.reply k)).1 = { s with pending := s.pending.filter (fun e => e.1 != k) } := by
          simp [dispStep, ha, hl]
        rw [e1]; intro p hp; exact h p (List.mem_filter.mp hp).1
  · have e1 : (dispStep Cfg.all s e).1 = s := by cases e <;> simp [dispStep, ha]
    rw [e1]; exact h

theorem dispRun_lt (evs : List DispEv) : ∀ s, (∀ p ∈ s.pending, p.1 < s.next) →
    ∀ p ∈ (dispRun Cfg.all s evs).1.pending, p.1 < (dispRun Cfg.all s evs).1.next := by
  simp only [dispRun_eq]
  exact fun s h => (runLoop_inv _ (fun s => ∀ p ∈ s.pending, p.1 < s.next) (fun _ => True) evs
    (fun s e _ h => ⟨dispStep_lt s e h, trivial⟩) s h).1

theorem dispLookup_fresh (l : List (Nat × Bool)) (k : Nat) (h : ∀ p ∈ l, p.1 < k) : dispLookup k l = none := by
  induction l with
  | nil => rfl
  | cons x r ih =>
    have : ¬ x.1 = k := Nat.ne_of_lt (h x List.mem_cons_self)
    simp only [dispLookup, this, if_false]
    exact ih fun p hp => h p (List.mem_cons_of_mem _ hp)

/-- keeps serving: after any history of replies (duplicate, never issued, late, …) the next request
is matched by the reply that carries its nonce -/
theorem disp_serves (evs : List DispEv) :
    ∃ k, (dispRun Cfg.all {} (evs ++ [.send, .reply k])).2.getLast? = some (.ok "matched") := by
  refine ⟨(dispRun Cfg.all {} evs).1.next, ?_⟩
  -- `send` puts its nonce at the head of `pending`, where `dispLookup` finds it first, whatever lies behind it
  rw [dispRun_append]
  simp [dispRun, dispStep, (dispRun_total evs {} rfl).1, dispLookup]

/-- with the id check every entry was announced under the id it is stored under, and is alive
(`loose` — the connections `DisConnectTo` left open — is unconstrained: whatever id they report when
they end, the removal finds an entry or skips) -/
def ConnInv (s : ConnSt) : Prop := s.alive = true ∧ ∀ e ∈ s.tab, e.ann = e.key ∧ e.dead = false

theorem connFind_some (k : Nat) (t : List ConnEntry) (e : ConnEntry) (h : connFind k t = some e) : e ∈ t ∧ e.key = k := by
  unfold connFind at h
  exact ⟨List.mem_of_find?_eq_some h, by simpa using List.find?_some h⟩

theorem connFind_live {s : ConnSt} (inv : ConnInv s) {x : Nat} {e : ConnEntry} (hf : connFind x s.tab = some e) :
    e ∈ s.tab ∧ e.dead = false :=
  have he : e ∈ s.tab := List.mem_of_find?_eq_some hf
  ⟨he, (inv.2 e he).2⟩

theorem connDial_inv (s : ConnSt) (x a : Nat) (hs hon rf : Bool) (inv : ConnInv s) :
    ConnInv (connDial Cfg.all s x a hs hon rf).1 ∧ (connDial Cfg.all s x a hs hon rf).2.isPanic = false ∧
    (connDial Cfg.all s x a hs hon rf).1.left = s.left ∧ (connDial Cfg.all s x a hs hon rf).1.loose = s.loose ∧
    (a = x → hs = true → rf = false → ∃ i, (connDial Cfg.all s x a hs hon rf).2 = .ok i) := by
  unfold connDial
  cases hf : connFind x s.tab with
  | some e => simp [(connFind_live inv hf).2]; exact inv
  | none =>
    cases hs with
    | false => simp; exact inv
    | true =>
      by_cases hax : a = x
      · subst hax
        cases rf with
        | true => simp; exact inv
        | false =>
          simp only [Bool.not_true, Bool.false_eq_true, if_false, all_callIdMatch, bne_self_eq_false, Bool.and_false]
          refine ⟨⟨inv.1, ?_⟩, rfl, ?_⟩
          · intro e he
            rcases List.mem_cons.mp he with he | he
            · subst he; exact ⟨rfl, rfl⟩
            · exact inv.2 e he
          · simp
      · have : (a != x) = true := by simpa using hax
        simp [this, hax]; exact inv

/-- the removal branch, for ANY id (known, unknown, removed already), on any table whose entries
satisfy the invariant: no panic, the remaining entries are entries of the table -/
theorem connRemove_inv (s : ConnSt) (id : Nat) (inv : ConnInv s) :
    ConnInv (connRemove Cfg.all s id).1 ∧ (connRemove Cfg.all s id).2.isPanic = false ∧
    (connRemove Cfg.all s id).1.left = s.left := by
  unfold connRemove
  cases hf : connFind id s.tab with
  | none => simp [all_callRemoveNil]; exact inv
  | some f =>
    refine ⟨⟨inv.1, ?_⟩, rfl, rfl⟩
    intro g hg
    exact inv.2 g (List.mem_filter.mp hg).1

theorem connFind_markDead (k : Nat) (t : List ConnEntry) (f : ConnEntry)
    (h : connFind k (connMarkDead k t) = some f) : f.dead = true := by
  unfold connFind at h
  have hm := List.mem_of_find?_eq_some h
  have hk : f.key = k := by simpa using List.find?_some h
  unfold connMarkDead at hm
  obtain ⟨g, _, hg⟩ := List.mem_map.mp hm
  by_cases hgk : g.key == k
  · simp only [hgk, if_true] at hg; rw [← hg]
  · simp only [hgk, Bool.false_eq_true, if_false] at hg
    subst hg; simp [hk] at hgk

theorem connMarkDead_filter (x : Nat) (t : List ConnEntry) :
    (connMarkDead x t).filter (fun g => g.key != x) = t.filter (fun g => g.key != x) := by
  induction t with
  | nil => rfl
  | cons g r ih => by_cases h : g.key = x <;> simp_all [connMarkDead]

/-- the end of the connection that holds an entry: its key is cleared, nothing goes loose -/
theorem connEndTab_eq (s : ConnSt) (e : ConnEntry) (inv : ConnInv s) (he : e ∈ s.tab) :
    connEndTab Cfg.all s e = ({ s with tab := s.tab.filter (fun g => g.key != e.key) }, .ok "removed") := by
  unfold connEndTab connRemove
  rw [(inv.2 e he).1]
  cases hf : connFind e.key (connMarkDead e.key s.tab) with
  | none => exact absurd (List.find?_eq_none.mp hf _ (List.mem_map_of_mem he)) (by simp)
  | some f => simp [connFind_markDead _ _ _ hf, connMarkDead_filter]

theorem connEndTab_inv (s : ConnSt) (e : ConnEntry) (inv : ConnInv s) (he : e ∈ s.tab) :
    ConnInv (connEndTab Cfg.all s e).1 ∧ (connEndTab Cfg.all s e).2.isPanic = false ∧
    (connEndTab Cfg.all s e).1.left = s.left ∧ (connEndTab Cfg.all s e).1.loose = s.loose := by
  rw [connEndTab_eq s e inv he]
  exact ⟨⟨inv.1, fun g hg => inv.2 g (List.mem_filter.mp hg).1⟩, rfl, rfl, rfl⟩

theorem connEndLoose_inv (s : ConnSt) (e : ConnEntry) (inv : ConnInv s) :
    ConnInv (connEndLoose Cfg.all s e).1 ∧ (connEndLoose Cfg.all s e).2.isPanic = false ∧
    (connEndLoose Cfg.all s e).1.left = s.left := by
  unfold connEndLoose
  exact connRemove_inv { s with loose := s.loose.erase e } e.ann inv

/-- events a PEER can cause: dials answered with any id, hang-ups, requests — no `DisConnectTo`, no `Leave` -/
def ConnEv.peerOnly : ConnEv → Bool
  | .disc _ => false
  | .leave => false
  | _ => true

/-- one step keeps the invariant and does not panic; only `leave` sets `left`; only `DisConnectTo` cuts a connection loose -/
theorem connStep_inv (s : ConnSt) (e : ConnEv) (inv : ConnInv s) :
    ConnInv (connStep Cfg.all s e).1 ∧ (connStep Cfg.all s e).2.isPanic = false ∧
    (e ≠ .leave → (connStep Cfg.all s e).1.left = s.left) ∧
    (e.peerOnly = true → s.loose = [] → (connStep Cfg.all s e).1.loose = []) := by
  by_cases hl : s.left = true
  · simp [connStep, hl]; exact inv
  have hl' : s.left = false := by simpa using hl
  simp only [connStep, inv.1, hl', Bool.not_true, Bool.or_false, Bool.false_eq_true, if_false]
  -- every branch but `leave` and `disc` keeps the invariant, does not panic and leaves `left` and an empty `loose` alone
  have keep : ∀ r : ConnSt × Out, (ConnInv r.1 ∧ r.2.isPanic = false ∧ r.1.left = s.left ∧ (s.loose = [] → r.1.loose = [])) →
      ConnInv r.1 ∧ r.2.isPanic = false ∧ (e ≠ .leave → r.1.left = false) ∧ (e.peerOnly = true → s.loose = [] → r.1.loose = []) :=
    fun r h => ⟨h.1, h.2.1, fun _ => h.2.2.1.trans hl', fun _ => h.2.2.2⟩
  have endTab : ∀ {x e}, connFind x s.tab = some e → e.dead = false ∧ (ConnInv (connEndTab Cfg.all s e).1 ∧
      (connEndTab Cfg.all s e).2.isPanic = false ∧ (connEndTab Cfg.all s e).1.left = s.left ∧
      (s.loose = [] → (connEndTab Cfg.all s e).1.loose = [])) := fun hf =>
    have h := connEndTab_inv s _ inv (connFind_live inv hf).1
    ⟨(connFind_live inv hf).2, h.1, h.2.1, h.2.2.1, fun hlo => h.2.2.2.trans hlo⟩
  have viaLoose : ∀ x, ConnInv (connViaLoose Cfg.all s x).1 ∧ (connViaLoose Cfg.all s x).2.isPanic = false ∧
      (connViaLoose Cfg.all s x).1.left = s.left ∧ (s.loose = [] → (connViaLoose Cfg.all s x).1.loose = []) := by
    intro x; unfold connViaLoose
    split
    · exact ⟨inv, rfl, rfl, id⟩
    · next e he =>
      have h := connEndLoose_inv s e inv
      exact ⟨h.1, h.2.1, h.2.2, fun hlo => by simp [hlo] at he⟩
  cases e with
  | dial x a hs =>
    obtain ⟨hinv, hnp, hleft, hloose, -⟩ := connDial_inv s x a hs false false inv
    exact keep _ ⟨hinv, hnp, hleft, hloose.trans⟩
  | req x =>
    obtain ⟨hinv, hnp, hleft, hloose, -⟩ := connDial_inv s x x true true (connCutLoose s x) inv
    exact keep _ ⟨hinv, hnp, hleft, hloose.trans⟩
  | disc x =>
    have h := connRemove_inv s x inv
    exact ⟨h.1, h.2.1, fun _ => h.2.2.trans hl', fun hp => nomatch hp⟩
  | leave => exact ⟨⟨rfl, inv.2⟩, rfl, fun h => absurd rfl h, fun hp => nomatch hp⟩
  | hangup x =>
    simp only [connHangup]
    cases hf : connFind x s.tab with
    | none => exact keep _ (viaLoose x)
    | some e =>
      simp only [(endTab hf).1, Bool.false_eq_true, if_false]
      exact keep _ (endTab hf).2
  | hangupOld x =>
    simp only [connHangupOld]
    split
    · next e he =>
      have h := connEndLoose_inv s e inv
      exact keep _ ⟨h.1, h.2.1, h.2.2, fun hlo => by simp [hlo] at he⟩
    · cases hf : connFind x s.tab with
      | none => exact keep _ ⟨inv, rfl, rfl, id⟩
      | some e =>
        simp only [(endTab hf).1, Bool.false_eq_true, if_false]
        exact keep _ (endTab hf).2

theorem connRun_inv (evs : List ConnEv) : ∀ s, ConnInv s →
    ConnInv (connRun Cfg.all s evs).1 ∧ ∀ o ∈ (connRun Cfg.all s evs).2, o.isPanic = false := by
  simp only [connRun_eq]
  exact runLoop_inv _ ConnInv (·.isPanic = false) evs fun s e _ inv =>
    ⟨(connStep_inv s e inv).1, (connStep_inv s e inv).2.1⟩

theorem connRun_left (evs : List ConnEv) (s : ConnSt) (inv : ConnInv s) (hl : ConnEv.leave ∉ evs) :
    (connRun Cfg.all s evs).1.left = s.left := by
  rw [connRun_eq]
  exact (runLoop_inv _ (fun s' => ConnInv s' ∧ s'.left = s.left) (fun _ => True) evs
    (fun s' e he inv' => ⟨⟨(connStep_inv s' e inv'.1).1,
      ((connStep_inv s' e inv'.1).2.2.1 fun h => hl (h ▸ he)).trans inv'.2⟩, trivial⟩) s ⟨inv, rfl⟩).1.2

/-- keeps serving: after any history of dials, announced ids, hang-ups (of connections with or without
an entry), `DisConnectTo` of any id — anything but the node's own `Leave` — a request to ANY member is
served (over its live entry or a fresh dial), never handed to a dead entry; the one exception is a
member the node ITSELF cut loose with `DisConnectTo` while that connection is still open (the member
keeps one inbound connection per peer and refuses the second) -/
theorem conn_serves (evs : List ConnEv) (x : Nat) (hl : ConnEv.leave ∉ evs)
    (hcut : connCutLoose (connRun Cfg.all {} evs).1 x = false) :
    ∃ i, (connStep Cfg.all (connRun Cfg.all {} evs).1 (.req x)).2 = .ok i := by
  have inv := (connRun_inv evs {} ⟨rfl, by simp⟩).1
  have hleft : (connRun Cfg.all {} evs).1.left = false := connRun_left evs {} ⟨rfl, by simp⟩ hl
  simp only [connStep, inv.1, hleft, hcut, Bool.not_true, Bool.or_false, Bool.false_eq_true, if_false]
  obtain ⟨-, -, -, -, served⟩ := connDial_inv _ x x true true false inv
  exact served rfl rfl rfl

/-! histories a PEER can produce (no `DisConnectTo`, no `Leave`): no connection is ever cut loose, so every member is served -/

theorem connStep_loose (s : ConnSt) (e : ConnEv) (inv : ConnInv s) (hp : e.peerOnly = true) (hlo : s.loose = []) :
    (connStep Cfg.all s e).1.loose = [] := (connStep_inv s e inv).2.2.2 hp hlo

theorem connRun_loose (evs : List ConnEv) : ∀ s, ConnInv s → (∀ e ∈ evs, e.peerOnly = true) → s.loose = [] →
    (connRun Cfg.all s evs).1.loose = [] := by
  intro s inv hp hlo
  rw [connRun_eq]
  exact (runLoop_inv _ (fun s => ConnInv s ∧ s.loose = []) (fun _ => True) evs
    (fun s e he h => ⟨⟨(connStep_inv s e h.1).1, connStep_loose s e h.1 (hp e he) h.2⟩, trivial⟩) s ⟨inv, hlo⟩).1.2

theorem conn_serves_peer (evs : List ConnEv) (x : Nat) (hp : ∀ e ∈ evs, e.peerOnly = true) :
    ∃ i, (connStep Cfg.all (connRun Cfg.all {} evs).1 (.req x)).2 = .ok i := by
  refine conn_serves evs x (fun h => by simpa [ConnEv.peerOnly] using hp _ h) ?_
  simp [connCutLoose, connRun_loose evs {} ⟨rfl, by simp⟩ hp rfl]

theorem listenMembers_total : ∀ (ls : List Nat) (k : Nat), NoPanic (listenMembers Cfg.all ls k)
  | [], _ => by simp [listenMembers]
  | l :: r, k => by simp [listenMembers, listenMembers_total r]

theorem listenStep_total (e : SerfEv) : (listenStep Cfg.all e).isPanic = false := by
  cases e with
  | other => simp [listenStep]
  | members ls =>
    simp only [listenStep]
    split
    · next o h => exact listenMembers_total ls 0 o h
    · rfl

theorem lookupNames_total : ∀ (ls : List Nat) (k : Nat), NoPanic (lookupNames Cfg.all ls k)
  | [], _ => by simp [lookupNames]
  | l :: r, k => by simp [lookupNames, lookupNames_total r]

theorem lookupOut_total (ls : List Nat) : (lookupOut Cfg.all ls).isPanic = false := by
  unfold lookupOut
  split
  · next o h => exact lookupNames_total ls 0 o h
  · rfl

/-! ### the site table against the regenerated inventory

Evaluating `==` on two `String`s makes the kernel re-encode both as byte lists, so the positional
search of `siteOf` over some hundred keys of fifty characters is dear; string literals in the two
tables are compared by identity once (`pairsGen = pairsTable`), and what is left to evaluate below
are short tests that do not look a site up again. -/

/-- Where table and inventory agree key by key and guard by guard, the site zipped to an entry is its own. -/
theorem zipHint_aligned : ∀ (tbl : List Entry) (ss : List Gen.PanicSites.Site),
    ss.map (fun s => (s.key, s.guard)) = tbl.map (fun e => (e.key, e.guard)) →
    ∀ eh ∈ zipHint tbl ss, eh.1 ∈ tbl ∧ ∃ s, eh.2 = some s ∧ s.key = eh.1.key ∧ s.guard = eh.1.guard
  | [], _, _, _, h => by simp [zipHint] at h
  | _ :: _, [], h, _, _ => by simp at h
  | e :: es, s :: ss, h, eh, hm => by
    rw [List.map_cons, List.map_cons, List.cons.injEq, Prod.mk.injEq] at h
    rcases List.mem_cons.mp hm with rfl | hm
    · exact ⟨List.mem_cons_self, s, rfl, h.1.1, h.1.2⟩
    · have := zipHint_aligned es ss h.2 eh hm
      exact ⟨List.mem_cons_of_mem _ this.1, this.2⟩

theorem siteOf_aligned (e : Entry) (s : Gen.PanicSites.Site) (h : s.key = e.key) : siteOf e (some s) = some s := by
  simp [siteOf, h]

/-- what `entryHolds` still asks of an entry whose site carries its key and guard -/
def guardStated (e : Entry) : Bool :=
  match e.clause with
  | .flag _ => e.guard != ""
  | .cross fn cond _ => hasCond fn cond
  | _ => true

theorem flagged_hold (hinv : pairsGen = pairsTable) (h : table.all guardStated = true) : ∀ p ∈ flagged, p.2 = true := by
  intro p hp
  obtain ⟨⟨e, hint⟩, hm, hp⟩ := List.mem_filterMap.mp hp
  obtain ⟨he, s, rfl, hk, hg⟩ := zipHint_aligned table _ hinv _ hm
  obtain ⟨f, -, rfl⟩ := Option.map_eq_some_iff.mp hp
  have := List.all_eq_true.mp h e he
  unfold guardStated at this
  unfold entryHolds
  -- `.flag`: the site found is `s`, its guard is the entry's (`hg`), non-empty by `this`; `.cross`: `this` is the condition
  cases hc : e.clause <;> simp_all [siteOf_aligned e s hk]

theorem not_isEmpty_filter {α} (p : α → Bool) (l : List α) : (!(l.filter p).isEmpty) = l.any p := by
  induction l with
  | nil => rfl
  | cons a l ih => cases h : p a <;> simp [h, ih]

/-- when every flagged entry and every extra condition holds, a flag is on as soon as one of them names it -/
theorem flagOn_eq (hA : ∀ p ∈ flagged, p.2 = true) (hB : ∀ x ∈ extraConds, hasCond x.2.1 x.2.2 = true) (name : String) :
    flagOn name = (flagged.any (·.1 == name) || extraConds.any (·.1 == name)) := by
  have h1 : (flagged.filter (·.1 == name)).all (·.2) = true :=
    List.all_eq_true.mpr fun p hp => hA p (List.mem_filter.mp hp).1
  have h2 : (extraConds.filter (·.1 == name)).all (fun x => hasCond x.2.1 x.2.2) = true :=
    List.all_eq_true.mpr fun x hx => hB x (List.mem_filter.mp hx).1
  simp only [flagOn, h1, h2, Bool.and_true, not_isEmpty_filter]

/-- what `guardedOK` still asks of an entry whose site carries its key and guard -/
def clsSuffices (eh : Entry × Option Gen.PanicSites.Site) : Bool :=
  match eh.1.clause with
  | .guarded => eh.2.any (fun s => checkableCls.contains s.cls)
  | _ => true

theorem guardedOK_of_aligned (hinv : pairsGen = pairsTable) (h : hinted.all clsSuffices = true) : guardedOK = true := by
  refine List.all_eq_true.mpr fun ⟨e, hint⟩ hm => ?_
  obtain ⟨-, s, rfl, hk, hg⟩ := zipHint_aligned table _ hinv _ hm
  have := List.all_eq_true.mp h _ hm
  unfold clsSuffices at this
  -- `.guarded`: the site found is `s`, its guard is the entry's (`hg`), its class suffices by `this`
  cases hc : e.clause <;> simp_all [siteOf_aligned e s hk]

/-- the guards of the flagged entries and the extra conditions, in ONE evaluation: within one the kernel encodes each
condition string once, however often the list of conditions is walked -/
theorem guards_stated : (table.all guardStated && extraConds.all (fun x => hasCond x.2.1 x.2.2)) = true := by
  decide +kernel

end Dos.Handlers
