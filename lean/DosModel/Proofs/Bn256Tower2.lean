/-
C10 layer 4 — gfP2 (gfp2.go, transcribed in Model/Bn256Tower.lean) over ANY commutative
ring α is the ring α[i]/(i²+1): the transcribed operations satisfy the commutative-ring
axioms (instance below, every field IS the transcribed function), i² = −1,
Square = Mul(a,a), MulXi = multiplication by ξ = i+9, Conjugate is the non-trivial
automorphism, and over a field Invert is the inverse whenever the norm x²+y² ≠ 0.
-/
import Mathlib.Tactic.Ring
import Mathlib.Algebra.Field.Basic
import DosModel.Model.Bn256Tower

namespace Dos.Bn256
namespace Fp2

@[ext] theorem ext' {α : Type} {a b : Fp2 α} (hx : a.x = b.x) (hy : a.y = b.y) : a = b := by
  cases a; cases b; simp_all

section ring
variable {α : Type} [CommRing α]

theorem add_assoc' (a b c : Fp2 α) : Fp2.add (Fp2.add a b) c = Fp2.add a (Fp2.add b c) := by
  ext <;> simp only [Fp2.add] <;> ring
theorem zero_add' (a : Fp2 α) : Fp2.add Fp2.zero a = a := by ext <;> simp only [Fp2.add, Fp2.zero] <;> ring
theorem add_zero' (a : Fp2 α) : Fp2.add a Fp2.zero = a := by ext <;> simp only [Fp2.add, Fp2.zero] <;> ring
theorem add_comm' (a b : Fp2 α) : Fp2.add a b = Fp2.add b a := by ext <;> simp only [Fp2.add] <;> ring
theorem neg_add_cancel' (a : Fp2 α) : Fp2.add (Fp2.neg a) a = Fp2.zero := by
  ext <;> simp only [Fp2.add, Fp2.neg, Fp2.zero] <;> ring
theorem sub_eq_add_neg' (a b : Fp2 α) : Fp2.sub a b = Fp2.add a (Fp2.neg b) := by
  ext <;> simp only [Fp2.add, Fp2.neg, Fp2.sub] <;> ring
theorem mul_assoc' (a b c : Fp2 α) : Fp2.mul (Fp2.mul a b) c = Fp2.mul a (Fp2.mul b c) := by
  ext <;> simp only [Fp2.mul] <;> ring
theorem one_mul' (a : Fp2 α) : Fp2.mul Fp2.one a = a := by ext <;> simp only [Fp2.mul, Fp2.one] <;> ring
theorem mul_one' (a : Fp2 α) : Fp2.mul a Fp2.one = a := by ext <;> simp only [Fp2.mul, Fp2.one] <;> ring
theorem left_distrib' (a b c : Fp2 α) : Fp2.mul a (Fp2.add b c) = Fp2.add (Fp2.mul a b) (Fp2.mul a c) := by
  ext <;> simp only [Fp2.mul, Fp2.add] <;> ring
theorem right_distrib' (a b c : Fp2 α) : Fp2.mul (Fp2.add a b) c = Fp2.add (Fp2.mul a c) (Fp2.mul b c) := by
  ext <;> simp only [Fp2.mul, Fp2.add] <;> ring
theorem zero_mul' (a : Fp2 α) : Fp2.mul Fp2.zero a = Fp2.zero := by ext <;> simp only [Fp2.mul, Fp2.zero] <;> ring
theorem mul_zero' (a : Fp2 α) : Fp2.mul a Fp2.zero = Fp2.zero := by ext <;> simp only [Fp2.mul, Fp2.zero] <;> ring
theorem mul_comm' (a b : Fp2 α) : Fp2.mul a b = Fp2.mul b a := by ext <;> simp only [Fp2.mul] <;> ring

/-- the commutative ring structure whose operations are the transcribed gfP2 functions -/
instance instCommRing : CommRing (Fp2 α) where
  add := Fp2.add
  zero := Fp2.zero
  neg := Fp2.neg
  sub := Fp2.sub
  mul := Fp2.mul
  one := Fp2.one
  nsmul := nsmulRec
  zsmul := zsmulRec
  add_assoc := add_assoc'
  zero_add := zero_add'
  add_zero := add_zero'
  add_comm := add_comm'
  neg_add_cancel := neg_add_cancel'
  sub_eq_add_neg := sub_eq_add_neg'
  mul_assoc := mul_assoc'
  one_mul := one_mul'
  mul_one := mul_one'
  left_distrib := left_distrib'
  right_distrib := right_distrib'
  zero_mul := zero_mul'
  mul_zero := mul_zero'
  mul_comm := mul_comm'

theorem add_eq (a b : Fp2 α) : Fp2.add a b = a + b := rfl
theorem sub_eq (a b : Fp2 α) : Fp2.sub a b = a - b := rfl
theorem neg_eq (a : Fp2 α) : Fp2.neg a = -a := rfl
theorem mul_eq (a b : Fp2 α) : Fp2.mul a b = a * b := rfl
theorem zero_eq : (Fp2.zero : Fp2 α) = 0 := rfl
theorem one_eq : (Fp2.one : Fp2 α) = 1 := rfl

/-- coordinates of a product: multiplication of x·i + y modulo i² = −1 -/
theorem mul_coords (a b : Fp2 α) :
    (a * b).x = a.x * b.y + a.y * b.x ∧ (a * b).y = a.y * b.y - a.x * b.x := by
  rw [← mul_eq]; constructor <;> simp only [Fp2.mul] <;> ring

/-- the norm x² + y² is multiplicative -/
theorem norm_mul (a b : Fp2 α) :
    (a * b).x * (a * b).x + (a * b).y * (a * b).y = (a.x * a.x + a.y * a.y) * (b.x * b.x + b.y * b.y) := by
  obtain ⟨hx, hy⟩ := mul_coords a b
  rw [hx, hy]; ring

/-- the element i -/
def i : Fp2 α := ⟨1, 0⟩
/-- ξ = i + 9 -/
def xi : Fp2 α := ⟨1, 9⟩
/-- embedding of the base ring -/
def ofBase (c : α) : Fp2 α := ⟨0, c⟩

theorem ofBase_mul (c d : α) : (ofBase (c * d) : Fp2 α) = ofBase c * ofBase d := by
  rw [← mul_eq]; ext <;> simp only [ofBase, Fp2.mul] <;> ring
theorem ofBase_one : (ofBase (1 : α) : Fp2 α) = 1 := by rw [← one_eq]; rfl

/-- the base ring inside gfP2 -/
def ofBaseHom : α →+* Fp2 α where
  toFun := ofBase
  map_one' := ofBase_one
  map_mul' := ofBase_mul
  map_zero' := rfl
  map_add' a b := by rw [← add_eq]; ext <;> simp only [ofBase, Fp2.add] <;> ring

theorem ofBaseHom_inj : Function.Injective (ofBaseHom : α →+* Fp2 α) := fun _ _ h => congrArg Fp2.y h

theorem i_sq : (i : Fp2 α) * i = -1 := by
  rw [← mul_eq, ← one_eq, ← neg_eq]; ext <;> simp only [i, Fp2.mul, Fp2.neg, Fp2.one] <;> ring

theorem decompose (a : Fp2 α) : a = ofBase a.x * i + ofBase a.y := by
  rw [← mul_eq, ← add_eq]; ext <;> simp only [ofBase, i, Fp2.mul, Fp2.add] <;> ring

theorem square_eq (a : Fp2 α) : Fp2.square a = a * a := by
  rw [← mul_eq]; ext <;> simp only [Fp2.square, Fp2.mul] <;> ring

theorem mulXi_eq (a : Fp2 α) : Fp2.mulXi a = xi * a := by
  rw [← mul_eq]; ext <;> simp only [Fp2.mulXi, xi, Fp2.mul] <;> ring

theorem mulScalar_eq (a : Fp2 α) (c : α) : Fp2.mulScalar a c = a * ofBase c := by
  rw [← mul_eq]; ext <;> simp only [Fp2.mulScalar, ofBase, Fp2.mul] <;> ring

/-- Conjugate is a ring automorphism fixing the base ring and sending i to −i -/
theorem conjugate_mul (a b : Fp2 α) : Fp2.conjugate (a * b) = Fp2.conjugate a * Fp2.conjugate b := by
  rw [← mul_eq, ← mul_eq]; ext <;> simp only [Fp2.conjugate, Fp2.mul] <;> ring
theorem conjugate_add (a b : Fp2 α) : Fp2.conjugate (a + b) = Fp2.conjugate a + Fp2.conjugate b := by
  rw [← add_eq, ← add_eq]; ext <;> simp only [Fp2.conjugate, Fp2.add] <;> ring
theorem conjugate_one : Fp2.conjugate (1 : Fp2 α) = 1 := by
  rw [← one_eq]; ext <;> simp [Fp2.conjugate, Fp2.one]
theorem conjugate_zero : Fp2.conjugate (0 : Fp2 α) = 0 := by
  rw [← zero_eq]; ext <;> simp [Fp2.conjugate, Fp2.zero]
theorem conjugate_conjugate (a : Fp2 α) : Fp2.conjugate (Fp2.conjugate a) = a := by
  ext <;> simp [Fp2.conjugate]
theorem conjugate_i : Fp2.conjugate (i : Fp2 α) = -i := by
  rw [← neg_eq]; ext <;> simp [Fp2.conjugate, i, Fp2.neg]
theorem mul_conjugate (a : Fp2 α) : a * Fp2.conjugate a = ofBase (a.x * a.x + a.y * a.y) := by
  rw [← mul_eq]; ext <;> simp only [Fp2.conjugate, ofBase, Fp2.mul] <;> ring
theorem conjugate_ofBase (c : α) : Fp2.conjugate (ofBase c) = ofBase c := by
  ext <;> simp only [Fp2.conjugate, ofBase, neg_zero]

/-- Conjugate as a ring endomorphism -/
def conjugateHom : Fp2 α →+* Fp2 α where
  toFun := Fp2.conjugate
  map_one' := conjugate_one
  map_mul' := conjugate_mul
  map_zero' := conjugate_zero
  map_add' := conjugate_add

/-- a ring homomorphism out of gfP2 is determined by its values on the base ring and on i -/
theorem ringHom_ext {S : Type} [Semiring S] {f g : Fp2 α →+* S} (hb : ∀ c, f (ofBase c) = g (ofBase c))
    (hi : f i = g i) : f = g :=
  RingHom.ext fun a => by rw [decompose a, map_add, map_add, map_mul, map_mul, hb, hb, hi]

end ring

section field
variable {α : Type} [Field α]

/-- Invert is the inverse as soon as the norm x² + y² is invertible (for bn256: always for a ≠ 0,
because −1 is not a square modulo p ≡ 3 (mod 4)) -/
theorem mul_invert (a : Fp2 α) (hn : a.x * a.x + a.y * a.y ≠ 0) : a * Fp2.invert a = 1 := by
  rw [← mul_eq, ← one_eq]
  ext
  · simp only [Fp2.invert, Fp2.mul, Fp2.one]; ring
  · simp only [Fp2.invert, Fp2.mul, Fp2.one]
    have e : a.y * (a.y * (a.x * a.x + a.y * a.y)⁻¹) - a.x * (-a.x * (a.x * a.x + a.y * a.y)⁻¹) =
        (a.x * a.x + a.y * a.y) * (a.x * a.x + a.y * a.y)⁻¹ := by ring
    rw [e, mul_inv_cancel₀ hn]

end field
end Fp2
end Dos.Bn256
