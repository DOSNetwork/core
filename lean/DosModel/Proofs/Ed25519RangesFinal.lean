/-
C20 — the routines of scalar.go with 32-byte operands, instantiated: kernel-evaluated interval analysis
(`*_rangeCheck`, `decide +kernel`), exact value change of the last two blocks (`scMulAdd_tail_value`, `ring`), and
the assembled byte-level results (`*_full`): for ALL 32-byte operands
  * no int64 overflow anywhere in the routine (`SafeFrom`), hence Go's wrapping run = the unbounded-`Int` run
    = the translated function of Gen/Ed25519Sc.lean;
  * the 32 output bytes spell exactly the canonical representative: `(a·b + c) mod ℓ` etc.
-/
import DosModel.Proofs.Ed25519Ranges

set_option exponentiation.threshold 600

namespace Dos.Ed25519
open Dos Dos.IntervalProg Dos.IntervalProg.ScProg Dos.Gen.Ed25519Sc Dos.Gen.Ed25519ScProg List

/-- the packing of a limb vector with the shape and the ranges that `routine_ranges` gives spells `x mod ℓ` as soon as
the value of the limbs is congruent to `x`: the bytes spell the value (`packed_value`), and a value in [0, ℓ) is its own
residue -/
theorem packed_eq_emod {r : L24} {x : Int} (hd : Digits11 r) (hz : HiZero r) (h0 : 0 ≤ r.s11) (h1 : r.s11 ≤ 2097152)
    (hv0 : 0 ≤ value r) (hv1 : value r < (ell : Int)) (hx : value r % (ell : Int) = x % (ell : Int)) :
    (leNat (packLo shrI r.s0 r.s1 r.s2 r.s3 r.s4 r.s5 r.s6 r.s7 ++ packHi shrI r.s8 r.s9 r.s10 r.s11) : Int)
      = x % (ell : Int) := by
  rw [packed_value r hd hz ⟨h0, by omega⟩, ← hx, Int.emod_eq_of_lt hv0 hv1]

/-- the last two blocks (fold of s12, last carry pass) subtract exactly s12·ℓ.  They are the same in all five
routines: scAdd, scSub, scMul get this lemma along `sc*_blocks_eq`, scReduce (Ed25519RangesReduce.lean) by `show`,
since `drop` on its literal block list evaluates to the same two terms. -/
theorem scMulAdd_tail_value (st : L24) :
    value (runBlocks shrI (scMulAdd_blocks.drop (scMulAdd_blocks.length - 2)) st) = value st - st.s12 * (ell : Int) := by
  unfold_gen
  simp only [List.length_cons, List.length_nil, Nat.reduceAdd, Nat.reduceSub, List.drop_succ_cons, List.drop_zero,
    runBlocks, List.foldl]
  unfold_gen
  simp only [value, shl, ell]
  ring

theorem scMulAdd_rangeCheck : rangeCheck scMulAdd_prog [32, 32, 32] = true := by decide +kernel

/-- ranges of the result limbs and overflow freedom, for all 32-byte operands -/
theorem scMulAdd_ranges (a b c : Bytes) (ha : a.length = 32) (hb : b.length = 32) (hc : c.length = 32) :
    scMulAdd_prog.SafeFrom (scMulAdd_prog.rawVals [a, b, c])
    ∧ 0 ≤ (app36 (scMulAdd_limbs shrI) (scMulAdd_load shrI a b c)).s11
    ∧ (app36 (scMulAdd_limbs shrI) (scMulAdd_load shrI a b c)).s11 ≤ 2097152
    ∧ 0 ≤ value (app36 (scMulAdd_limbs shrI) (scMulAdd_load shrI a b c))
    ∧ value (app36 (scMulAdd_limbs shrI) (scMulAdd_load shrI a b c)) < (ell : Int) := by
  have h := routine_ranges scMulAdd_tie_blocks scMulAdd_tail_value [a, b, c]
    (by simp only [List.map, ha, hb, hc]; exact scMulAdd_rangeCheck)
  rw [scMulAdd_tie_load, scMulAdd_tie_limbs] at h
  exact h (scMulAdd_final ..) (scMulAdd_hiZero shrI ..)

/-- **scMulAdd, complete**: the output bytes spell exactly the canonical value -/
theorem scMulAdd_full (a b c : Bytes) (ha : a.length = 32) (hb : b.length = 32) (hc : c.length = 32) :
    (leNat (scMulAdd shrI a b c) : Int) = ((leNat a : Int) * leNat b + leNat c) % (ell : Int) := by
  obtain ⟨_, r0, r1, r2, r3⟩ := scMulAdd_ranges a b c ha hb hc
  rw [scMulAdd_eq_app, scMulAdd_store_eq]
  refine packed_eq_emod (scMulAdd_final ..) (scMulAdd_hiZero shrI ..) r0 r1 r2 r3 ?_
  rw [← unpack12_value a ha, ← unpack12_value b hb, ← unpack12_value c hc]
  exact scMulAdd_limbs_value shrI ..

theorem scAdd_rangeCheck : rangeCheck scAdd_prog [32, 32] = true := by decide +kernel

theorem scAdd_ranges (a c : Bytes) (ha : a.length = 32) (hc : c.length = 32) :
    scAdd_prog.SafeFrom (scAdd_prog.rawVals [a, c])
    ∧ 0 ≤ (app24 (scAdd_limbs shrI) (scAdd_load shrI a c)).s11
    ∧ (app24 (scAdd_limbs shrI) (scAdd_load shrI a c)).s11 ≤ 2097152
    ∧ 0 ≤ value (app24 (scAdd_limbs shrI) (scAdd_load shrI a c))
    ∧ value (app24 (scAdd_limbs shrI) (scAdd_load shrI a c)) < (ell : Int) := by
  have h := routine_ranges scAdd_tie_blocks (fun st => scAdd_blocks_eq ▸ scMulAdd_tail_value st) [a, c]
    (by simp only [List.map, ha, hc]; exact scAdd_rangeCheck)
  rw [scAdd_tie_load, scAdd_tie_limbs] at h
  exact h (scAdd_final ..) (scAdd_hiZero shrI ..)

theorem scAdd_full (a c : Bytes) (ha : a.length = 32) (hc : c.length = 32) :
    (leNat (scAdd shrI a c) : Int) = ((leNat a : Int) + leNat c) % (ell : Int) := by
  obtain ⟨_, r0, r1, r2, r3⟩ := scAdd_ranges a c ha hc
  rw [scAdd_eq_app, scAdd_store_eq]
  refine packed_eq_emod (scAdd_final ..) (scAdd_hiZero shrI ..) r0 r1 r2 r3 ?_
  rw [← unpack12_value a ha, ← unpack12_value c hc]
  exact scAdd_limbs_value shrI ..

theorem scSub_rangeCheck : rangeCheck scSub_prog [32, 32] = true := by decide +kernel

theorem scSub_ranges (a c : Bytes) (ha : a.length = 32) (hc : c.length = 32) :
    scSub_prog.SafeFrom (scSub_prog.rawVals [a, c])
    ∧ 0 ≤ (app24 (scSub_limbs shrI) (scSub_load shrI a c)).s11
    ∧ (app24 (scSub_limbs shrI) (scSub_load shrI a c)).s11 ≤ 2097152
    ∧ 0 ≤ value (app24 (scSub_limbs shrI) (scSub_load shrI a c))
    ∧ value (app24 (scSub_limbs shrI) (scSub_load shrI a c)) < (ell : Int) := by
  have h := routine_ranges scSub_tie_blocks (fun st => scSub_blocks_eq ▸ scMulAdd_tail_value st) [a, c]
    (by simp only [List.map, ha, hc]; exact scSub_rangeCheck)
  rw [scSub_tie_load, scSub_tie_limbs] at h
  exact h (scSub_final ..) (scSub_hiZero shrI ..)

theorem scSub_full (a c : Bytes) (ha : a.length = 32) (hc : c.length = 32) :
    (leNat (scSub shrI a c) : Int) = ((leNat a : Int) - leNat c) % (ell : Int) := by
  obtain ⟨_, r0, r1, r2, r3⟩ := scSub_ranges a c ha hc
  rw [scSub_eq_app, scSub_store_eq]
  refine packed_eq_emod (scSub_final ..) (scSub_hiZero shrI ..) r0 r1 r2 r3 ?_
  rw [← unpack12_value a ha, ← unpack12_value c hc]
  exact scSub_limbs_value shrI ..

theorem scMul_rangeCheck : rangeCheck scMul_prog [32, 32] = true := by decide +kernel

theorem scMul_ranges (a b : Bytes) (ha : a.length = 32) (hb : b.length = 32) :
    scMul_prog.SafeFrom (scMul_prog.rawVals [a, b])
    ∧ 0 ≤ (app24 (scMul_limbs shrI) (scMul_load shrI a b)).s11
    ∧ (app24 (scMul_limbs shrI) (scMul_load shrI a b)).s11 ≤ 2097152
    ∧ 0 ≤ value (app24 (scMul_limbs shrI) (scMul_load shrI a b))
    ∧ value (app24 (scMul_limbs shrI) (scMul_load shrI a b)) < (ell : Int) := by
  have h := routine_ranges scMul_tie_blocks (fun st => scMul_blocks_eq ▸ scMulAdd_tail_value st) [a, b]
    (by simp only [List.map, ha, hb]; exact scMul_rangeCheck)
  rw [scMul_tie_load, scMul_tie_limbs] at h
  exact h (scMul_final ..) (scMul_hiZero shrI ..)

theorem scMul_full (a b : Bytes) (ha : a.length = 32) (hb : b.length = 32) :
    (leNat (scMul shrI a b) : Int) = ((leNat a : Int) * leNat b) % (ell : Int) := by
  obtain ⟨_, r0, r1, r2, r3⟩ := scMul_ranges a b ha hb
  rw [scMul_eq_app, scMul_store_eq]
  refine packed_eq_emod (scMul_final ..) (scMul_hiZero shrI ..) r0 r1 r2 r3 ?_
  rw [← unpack12_value a ha, ← unpack12_value b hb]
  exact scMul_limbs_value shrI ..

end Dos.Ed25519
