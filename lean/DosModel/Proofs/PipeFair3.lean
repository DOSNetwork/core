/-
C14 fairness: every fair run in which the pipeline context is eventually done terminates
(`fair_run_terminates`): by induction on the W3 rank every pipeline goroutine stops running.
-/
import DosModel.Proofs.PipeFair2

namespace Dos.Pipe
variable {p : Pipeline}

/-- from some position on `g` is not a running pipeline goroutine -/
def Stops (r : Run p) (g : Gi) : Prop := Eventually (fun i => ¬ Running p (r.st i) g)

/-- a goroutine standing at its `exit` node returns (weak fairness) -/
theorem exit_node_returns {r : Run p} {g : Gi} (hw : WeakFairG r g) {pc : Pc} {j : Nat}
    (hat : (r.st j).gs[g]? = some (.at pc)) (hnd : p.node g pc = some .exit) :
    ∃ j', j ≤ j' ∧ (r.st j').gs[g]? = some .done := by
  obtain ⟨i, hi, hati, e, he, hmv⟩ := r.moves_from hw hat
    (fun i _ h => ⟨_, _, Step.exit g pc h hnd, by simp [Ev.moves]⟩)
  rcases move_cases (r.step_of_ev he) hati hnd hmv with ⟨_, _, hmem, _⟩ | ⟨_, _, hd⟩
  · simp [Node.edges] at hmem
  · exact ⟨i + 1, by omega, hd⟩

theorem not_running_of_done {s : State} {g : Gi} (h : s.gs[g]? = some .done) : ¬ Running p s g := by
  rintro ⟨_, _, _, _, hat⟩
  rw [h] at hat; cases hat

/-- every pipeline goroutine stops running, by induction on its rank -/
theorem goroutine_stops (hlive : LiveOk p = true) (hsafe : NoCrash p) {r : Run p} (hf : Fair r)
    (hc : ∃ i, (r.st i).ctxDone 0 = true) : ∀ k g, rankOf p g = k → Stops r g := by
  obtain ⟨h0, hgs⟩ := liveOk_parts hlive
  obtain ⟨Tc, hTc⟩ := hc
  intro k
  induction k using Nat.strongRecOn with
  | _ k ih =>
    intro g hk
    apply Classical.byContradiction
    intro hns
    have hinf : InfOften (fun i => Running p (r.st i) g) :=
      (not_eventually hns).mono (fun i h => Classical.not_not.mp h)
    -- the goroutines of smaller rank have stopped
    have hlow : Eventually (fun i => ∀ g', g' < p.gs.length → rankOf p g' < rankOf p g →
        ¬ Running p (r.st i) g') := by
      apply eventually_all_lt
      intro g' _
      by_cases hrk : rankOf p g' < rankOf p g
      · exact (ih (rankOf p g') (by omega) g' rfl).mono (fun i h _ => h)
      · exact ⟨0, fun i _ h => absurd h hrk⟩
    obtain ⟨T1, hT1⟩ := hlow
    obtain ⟨i1, hi1, gr, pc1, hg, hd, hat1⟩ := hinf (max Tc T1)
    obtain ⟨hnodes, hw4⟩ := hgs g gr hg hd
    -- from `i1` on `g` is running for ever
    have hrun : ∀ j, i1 ≤ j → ∃ pc, (r.st j).gs[g]? = some (.at pc) := by
      intro j hj
      rcases r.at_stable hat1 j hj with h | h
      · exact h
      · exfalso
        apply hns
        exact ⟨j, fun j' hj' => not_running_of_done (r.done_stable h j' hj')⟩
    have hmin : ∀ j, i1 ≤ j → ∀ g', Running p (r.st j) g' → rankOf p g ≤ rankOf p g' := by
      intro j hj g' hr'
      apply Classical.byContradiction
      intro hlt
      obtain ⟨gr', _, hg', _, _⟩ := hr'
      exact hT1 j (by omega) g' (List.getElem?_eq_some_iff.mp hg').1 (by omega) ⟨gr', _, hg', ‹_›, ‹_›⟩
    have H : EscHyp p r g gr Node.isExit (fun _ => true) i1 := by
      refine ⟨hg, ?_, fun j hj => r.ctxDone_stable hTc j (by omega), fun j hj => lower_done (r.reach j) (hmin j hj)⟩
      intro j hj
      obtain ⟨pc, hat⟩ := hrun j hj
      have hpc := at_in_range h0 hg (r.st j) (r.reach j) pc hat
      have hn : gr.nodes[pc]? = some gr.nodes[pc] := by simp [hpc]
      refine ⟨pc, gr.nodes[pc], hat, hn, rfl, ?_, hnodes _ (List.mem_of_getElem? hn)⟩
      cases hex : gr.nodes[pc].isExit with
      | false => rfl
      | true =>
        exfalso
        rw [eq_exit_of_isExit hex] at hn
        obtain ⟨j', hj', hdone⟩ := exit_node_returns (hf.weak g) hat (node_of hg hn)
        obtain ⟨pc', hat'⟩ := hrun j' (by omega)
        rw [hdone] at hat'; cases hat'
    unfold W4g at hw4
    exact fair_escape h0 hsafe hf H hw4

/-- **every fair run terminates.**  W0 ∧ LiveOk, no crash reachable: in every fair run in which the
pipeline context is eventually done, from some position on no pipeline goroutine runs and every
channel with a pipeline closer is closed — for ever. -/
theorem fair_run_terminates (hlive : LiveOk p = true) (hsafe : NoCrash p) {r : Run p} (hf : Fair r)
    (hc : ∃ i, (r.st i).ctxDone 0 = true) : r.Terminates := by
  have hall : Eventually (fun i => ∀ g, g < p.gs.length → ¬ Running p (r.st i) g) :=
    eventually_all_lt p.gs.length
      (fun g _ => goroutine_stops hlive hsafe hf hc (rankOf p g) g rfl)
  obtain ⟨T, hT⟩ := hall
  refine ⟨T, fun i hi => ?_⟩
  have hq : Quiet p (r.st i) := by
    intro g hr
    obtain ⟨gr, pc, hg, hd, hat⟩ := hr
    exact hT i hi g (List.getElem?_eq_some_iff.mp hg).1 ⟨gr, pc, hg, hd, hat⟩
  exact ⟨hq, fun h gr c hg hst hdm hcl hin => quiet_closed (r.reach i) hq hg hst hdm hcl hin⟩

end Dos.Pipe
