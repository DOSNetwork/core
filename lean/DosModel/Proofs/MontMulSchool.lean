/-
C10 layer 2/3 — arithmetic of the macro blocks of mul.h and mul_bmi2.h, for ALL word operands:
`mulRow` is x·b, `accRow` adds without loss, `mul8` and `mulx8` are the full 512-bit product,
`hi5` is ⌊(M + T) / 2^256⌋. Each block is unfolded to the word operations (products x·bⱼ are
atoms) and the chains of Proofs/MontLimbs.lean; `omega` does the linear arithmetic.
-/
import Mathlib.Tactic.Ring
import DosModel.Proofs.MontMulStruct

namespace Dos.Mont

def L5.val (r : L5) : Nat := r.lo.val + R * r.top
def L5.ok (r : L5) : Prop := r.lo.ok ∧ r.top < W
def L8.val (t : L8) : Nat := t.lo.val + R * t.hi.val
def L8.ok (t : L8) : Prop := t.lo.ok ∧ t.hi.ok

theorem L5.split (r : L5) : r.val = r.lo.l0 + W * r.hi.val := by
  simp only [L5.val, L5.hi, L4.val, W, R]; omega

theorem L5.lo_val {r : L5} (h : r.val < R) : r.lo.val = r.val := by
  simp only [L5.val, R] at *; omega

theorem L5.hi_ok {r : L5} (h : r.ok) : r.hi.ok := ⟨h.1.2.1, h.1.2.2.1, h.1.2.2.2, h.2⟩

/-- MULQ / MULXQ: lo + W·hi = x·y, and the high word is at most W − 2 -/
theorem mul_spec (x y : Nat) (hx : x < W) (hy : y < W) :
    mulLo x y + W * mulHi x y = x * y ∧ mulLo x y < W ∧ mulHi x y ≤ W - 2 := by
  have hle : x * y ≤ (W - 1) * (W - 1) := Nat.mul_le_mul (by simp only [W] at *; omega) (by simp only [W] at *; omega)
  refine ⟨?_, Nat.mod_lt _ (by decide), ?_⟩
  · simp only [mulLo, mulHi]; exact Nat.mod_add_div _ _
  · simp only [mulHi]
    calc x * y / W ≤ (W - 1) * (W - 1) / W := Nat.div_le_div_right hle
      _ = W - 2 := by decide

theorem mul_val (x : Nat) (b : L4) :
    x * b.val = x * b.l0 + W * (x * b.l1) + W * W * (x * b.l2) + W * W * W * (x * b.l3) := by
  simp only [L4.val]; ring

theorem W_pos : 0 < W := by decide

theorem mulHi_lt {x y : Nat} (hx : x < W) (hy : y < W) : mulHi x y < W := by
  have := (mul_spec x y hx hy).2.2
  simp only [W] at *; omega

/-- the high word of a product leaves room for the carry: nothing is lost -/
theorem mulStep_spec {d lo hi : Nat} (hd : d < W) (hlo : lo < W) (hhi : hi ≤ W - 2) :
    (mulStep d lo hi).1 + W * (mulStep d lo hi).2 = d + lo + W * hi ∧
      (mulStep d lo hi).1 < W ∧ (mulStep d lo hi).2 < W := by
  simp only [mulStep, addLo, addC, adcLo, W] at *; omega

theorem mulRow_val (x : Nat) (b : L4) (hx : x < W) (hb : b.ok) :
    (mulRow x b).val = x * b.val ∧ (mulRow x b).ok := by
  have m0 := mul_spec x b.l0 hx hb.1
  have m1 := mul_spec x b.l1 hx hb.2.1
  have m2 := mul_spec x b.l2 hx hb.2.2.1
  have m3 := mul_spec x b.l3 hx hb.2.2.2
  have s1 := mulStep_spec (mulHi_lt hx hb.1) m1.2.1 m1.2.2
  have s2 := mulStep_spec s1.2.2 m2.2.1 m2.2.2
  have s3 := mulStep_spec s2.2.2 m3.2.1 m3.2.2
  rw [mul_val]
  simp only [mulRow, L5.val, L5.ok, L4.val, L4.ok, W, R] at *
  omega

theorem accRow_val (r : L5) (s : L4) (hr : r.ok) (hs : s.ok) (hfit : r.val + s.val < W * R) :
    (accRow r s).val = r.val + s.val ∧ (accRow r s).ok := by
  obtain ⟨e, ho, k⟩ := add4_spec r.lo s hr.1 hs
  have ht := hr.2
  have hlt := L4.val_lt _ ho
  simp only [accRow, L5.val, L5.ok, adcLo, W, R] at *
  exact ⟨by omega, ho, by omega⟩

theorem row_le {x B : Nat} (hx : x < W) (hB : B < R) : x * B ≤ (W - 1) * (R - 1) :=
  Nat.mul_le_mul (by simp only [W] at *; omega) (by simp only [R] at *; omega)

/-- what a row of either path leaves: the low word is final, the upper four words `V'` go into the next row -/
theorem row_step {t x B V V' : Nat} (hx : x < W) (hB : B < R) (hV : V < R) (h : t + W * V' = x * B + V) :
    V' < R := by
  have := row_le hx hB
  simp only [W, R] at *; omega

/-- four rows, each adding a_i · b to the upper words of the one before, give the full product -/
theorem rows_val (a b : L4) {t0 t1 t2 t3 V0 V1 V2 V3 : Nat}
    (e0 : t0 + W * V0 = a.l0 * b.val) (e1 : t1 + W * V1 = a.l1 * b.val + V0)
    (e2 : t2 + W * V2 = a.l2 * b.val + V1) (e3 : t3 + W * V3 = a.l3 * b.val + V2) :
    (L4.mk t0 t1 t2 t3).val + R * V3 = a.val * b.val := by
  have h : a.val * b.val = a.l0 * b.val + W * (a.l1 * b.val) + W * W * (a.l2 * b.val) + W * W * W * (a.l3 * b.val) := by
    simp only [L4.val]; ring
  rw [h]
  simp only [L4.val, W, R] at *; omega

theorem mulqRow_val (x : Nat) (b s : L4) (hx : x < W) (hb : b.ok) (hs : s.ok) :
    (accRow (mulRow x b) s).val = x * b.val + s.val ∧ (accRow (mulRow x b) s).ok := by
  obtain ⟨v, o⟩ := mulRow_val x b hx hb
  have h1 := row_le hx (L4.val_lt b hb)
  have h2 := L4.val_lt s hs
  rw [← v]
  exact accRow_val _ _ o hs (by rw [v]; simp only [W, R] at *; omega)

/-- **the `mul` macro is the full product**: eight words whose value is a · b -/
theorem mul8_val (a b : L4) (ha : a.ok) (hb : b.ok) : (mul8 a b).val = a.val * b.val ∧ (mul8 a b).ok := by
  obtain ⟨v0, o0⟩ := mulRow_val a.l0 b ha.1 hb
  obtain ⟨v1, o1⟩ := mulqRow_val a.l1 b _ ha.2.1 hb (L5.hi_ok o0)
  obtain ⟨v2, o2⟩ := mulqRow_val a.l2 b _ ha.2.2.1 hb (L5.hi_ok o1)
  obtain ⟨v3, o3⟩ := mulqRow_val a.l3 b _ ha.2.2.2 hb (L5.hi_ok o2)
  rw [L5.split] at v0 v1 v2 v3
  exact ⟨rows_val a b v0 v1 v2 v3, ⟨o0.1.1, o1.1.1, o2.1.1, o3.1.1⟩, L5.hi_ok o3⟩

theorem accRow_small (r : L5) (s : L4) (hr : r.ok) (hs : s.ok) (hV : r.val < R) :
    (accRow r s).val = r.val + s.val ∧ (accRow r s).ok := by
  have := L4.val_lt s hs
  exact accRow_val r s hr hs (by simp only [W, R] at *; omega)

theorem accRow_zero (a s : L4) (ha : a.ok) (hs : s.ok) :
    (accRow ⟨a, 0⟩ s).val = a.val + s.val ∧ (accRow ⟨a, 0⟩ s).ok :=
  have h : (L5.mk a 0).val = a.val := by simp only [L5.val, Nat.mul_zero, Nat.add_zero]
  h ▸ accRow_small ⟨a, 0⟩ s ⟨ha, W_pos⟩ hs (h ▸ L4.val_lt a ha)

/-- row 0: lo(a0·b0) + W·(R9..R13) = a0·b -/
theorem mulxRow0_val (x : Nat) (b : L4) (hx : x < W) (hb : b.ok) :
    mulLo x b.l0 + W * (mulxRow0 x b).val = x * b.val ∧ (mulxRow0 x b).ok ∧ (mulxRow0 x b).val < R := by
  have m0 := mul_spec x b.l0 hx hb.1
  have m1 := mul_spec x b.l1 hx hb.2.1
  have m2 := mul_spec x b.l2 hx hb.2.2.1
  have m3 := mul_spec x b.l3 hx hb.2.2.2
  have h : (mulxRow0 x b).val = _ ∧ (mulxRow0 x b).ok := accRow_zero _ _
    ⟨mulHi_lt hx hb.1, mulHi_lt hx hb.2.1, mulHi_lt hx hb.2.2.1, mulHi_lt hx hb.2.2.2⟩ ⟨m1.2.1, m2.2.1, m3.2.1, W_pos⟩
  have key : mulLo x b.l0 + W * (mulxRow0 x b).val = x * b.val := by
    rw [h.1, mul_val]
    simp only [L4.val, W] at *; omega
  exact ⟨key, h.2, row_step hx (L4.val_lt b hb) (Nat.zero_lt_succ _) (key.trans (Nat.add_zero _).symm)⟩

/-- a later row: the two chains add x·b to the accumulator; one more result word comes out at the bottom -/
theorem mulxRowAB_val (acc : L5) (x : Nat) (b : L4) (hacc : acc.ok) (hV : acc.val < R) (hx : x < W) (hb : b.ok) :
    (mulxRowA acc x b).lo.l0 + W * (mulxRowB (mulxRowA acc x b) x b).val = x * b.val + acc.val ∧
    (mulxRowA acc x b).lo.l0 < W ∧ (mulxRowB (mulxRowA acc x b) x b).ok ∧
    (mulxRowB (mulxRowA acc x b) x b).val < R := by
  have m0 := mul_spec x b.l0 hx hb.1
  have m1 := mul_spec x b.l1 hx hb.2.1
  have m2 := mul_spec x b.l2 hx hb.2.2.1
  have m3 := mul_spec x b.l3 hx hb.2.2.2
  have hA : (mulxRowA acc x b).val = _ ∧ (mulxRowA acc x b).ok := accRow_small acc _ hacc
    ⟨m0.2.1, mulHi_lt hx hb.1, m2.2.1, mulHi_lt hx hb.2.2.1⟩ hV
  have hB : (mulxRowB (mulxRowA acc x b) x b).val = _ ∧ (mulxRowB (mulxRowA acc x b) x b).ok :=
    accRow_zero _ _ (L5.hi_ok hA.2) ⟨m1.2.1, mulHi_lt hx hb.2.1, m3.2.1, mulHi_lt hx hb.2.2.2⟩
  have key : (mulxRowA acc x b).lo.l0 + W * (mulxRowB (mulxRowA acc x b) x b).val = x * b.val + acc.val := by
    have vA := hA.1
    rw [L5.split] at vA
    rw [hB.1, mul_val]
    simp only [L4.val, W] at *; omega
  exact ⟨key, hA.2.1.1, hB.2, row_step hx (L4.val_lt b hb) hV key⟩

/-- **the `mulBMI2` macro is the full product** -/
theorem mulx8_val (a b : L4) (ha : a.ok) (hb : b.ok) : (mulx8 a b).val = a.val * b.val ∧ (mulx8 a b).ok := by
  obtain ⟨e0, o0, V0⟩ := mulxRow0_val a.l0 b ha.1 hb
  obtain ⟨e1, t1, o1, V1⟩ := mulxRowAB_val _ a.l1 b o0 V0 ha.2.1 hb
  obtain ⟨e2, t2, o2, V2⟩ := mulxRowAB_val _ a.l2 b o1 V1 ha.2.2.1 hb
  obtain ⟨e3, t3, o3, V3⟩ := mulxRowAB_val _ a.l3 b o2 V2 ha.2.2.2 hb
  refine ⟨?_, ⟨(mul_spec _ _ ha.1 hb.1).2.1, t1, t2, t3⟩, o3.1⟩
  -- the last chain's top word is 0: its four low words are the whole value
  have hlo : (mulxRowB (mulxRowA _ a.l3 b) a.l3 b).lo.val = _ := L5.lo_val V3
  exact (congrArg (_ + R * ·) hlo).trans (rows_val a b e0 e1 e2 e3)

theorem hi5_val (m t : L8) (hm : m.ok) (ht : t.ok) :
    (hi5 m t).val = (m.val + t.val) / R ∧ (hi5 m t).ok := by
  obtain ⟨e, o, k⟩ := add4_spec m.lo t.lo hm.1 ht.1
  obtain ⟨e', o', k'⟩ := adc4_spec m.hi t.hi _ hm.2 ht.2 k
  have h := L4.val_lt _ o
  simp only [hi5, L5.val, L5.ok, L8.val, adcLo, W, R] at *
  exact ⟨by omega, o', by omega⟩

end Dos.Mont
