/-
The AFFINE chord-and-tangent formulas for the curve `y² = x³ + b` over an arbitrary field `K` (`aneg`, `adbl`, `aadd` on
`APt K`: an affine pair or infinity), and the one place where they are matched with the addition of Mathlib's group
`WeierstrassCurve.Affine.Point`: on nonsingular points, in characteristic ≠ 2, `toPoint (aadd P Q) = toPoint P + toPoint Q`
(`aadd_point`), `toPoint (adbl P) = 2 • toPoint P`, `toPoint (aneg P) = −toPoint P`, the result nonsingular again — so the
formulas stay on the curve.  Then the same chord and tangent in Jacobian coordinates (`adbl_jaff`, `aadd_jaff`), and
`laws_of_embedding`: the laws of a commutative group read off any map into one that is injective on the valid values.
No model is imported: the executable models (`Model/Bn256.lean`, `Model/TblsG1.lean` through `Proofs/ComposeCurve.lean`;
the Jacobian code of curve.go / twist.go through `Proofs/Bn256CurveGroup.lean`) are all mapped onto these formulas.
-/
import Mathlib.AlgebraicGeometry.EllipticCurve.Affine.Point
import Mathlib.Tactic.LinearCombination
import Mathlib.Tactic.FieldSimp

namespace Dos.Compose.Curve
open WeierstrassCurve WeierstrassCurve.Affine

-- `[DecidableEq K]` (what `adbl`, `aadd` test with) is a section variable also of the lemmas that do not need it
set_option linter.unusedSectionVars false

variable {K : Type} [Field K] [DecidableEq K]

/-- the curve `y² = x³ + b` -/
def sw (b : K) : WeierstrassCurve.Affine K := ⟨0, 0, 0, 0, b⟩

/-- an affine point or the point at infinity, coordinates in `K` -/
inductive APt (K : Type) where
  | inf
  | aff (x y : K)


def aneg : APt K → APt K
  | .inf => .inf
  | .aff x y => .aff x (-y)

/-- tangent formula; `y = 0` (a point of order two) gives infinity -/
def adbl : APt K → APt K
  | .inf => .inf
  | .aff x y =>
    if y = 0 then .inf
    else
      let l := 3 * x ^ 2 / (2 * y)
      let x3 := l ^ 2 - 2 * x
      .aff x3 (l * (x - x3) - y)

/-- chord formula, with the two special cases of equal abscissae -/
def aadd : APt K → APt K → APt K
  | .inf, q => q
  | p, .inf => p
  | .aff x1 y1, .aff x2 y2 =>
    if x1 = x2 then
      if y1 = y2 then adbl (.aff x1 y1) else .inf
    else
      let l := (y2 - y1) / (x2 - x1)
      let x3 := l ^ 2 - x1 - x2
      .aff x3 (l * (x1 - x3) - y1)

/-- the tangent formula as the executable models spell it (`x·x`, `y + y`, a multiplication by the inverse) -/
theorem adbl_eq {x y l x3 y3 : K} (hy : y ≠ 0) (hx : x3 = l * l - (x + x))
    (hl : l = 3 * (x * x) * (y + y)⁻¹) (hy3 : y3 = l * (x - x3) - y) : adbl (.aff x y) = .aff x3 y3 := by
  subst hy3 hx hl
  simp only [adbl, hy, if_false]
  congr 1 <;> ring

/-- the chord formula as the executable models spell it -/
theorem aadd_eq {x1 y1 x2 y2 l x3 y3 : K} (hne : x1 ≠ x2) (hx : x3 = l * l - x1 - x2)
    (hl : l = (y2 - y1) * (x2 - x1)⁻¹) (hy3 : y3 = l * (x1 - x3) - y1) :
    aadd (.aff x1 y1) (.aff x2 y2) = .aff x3 y3 := by
  subst hy3 hx hl
  simp only [aadd, hne, if_false]
  congr 1 <;> ring

theorem equation_sw (b x y : K) : (sw b).Equation x y ↔ y ^ 2 = x ^ 3 + b := by
  rw [equation_iff]; simp [sw]

theorem negY_sw (b x y : K) : (sw b).negY x y = -y := by simp [negY, sw]

open Classical in
/-- the point of Mathlib's group denoted by an affine pair (junk off the curve: 0) -/
noncomputable def toPoint (b : K) : APt K → (sw b).Point
  | .inf => 0
  | .aff x y => if h : (sw b).Nonsingular x y then Point.some x y h else 0

theorem toPoint_aff {b : K} (x y : K) (h : (sw b).Nonsingular x y) :
    toPoint b (.aff x y) = Point.some x y h := by simp [toPoint, h]

/-- infinity, or a nonsingular point of `y² = x³ + b` -/
def APt.Nonsing (b : K) : APt K → Prop
  | .inf => True
  | .aff x y => (sw b).Nonsingular x y

/-- a nonsingular pair with the coordinates of `P` is what `P` denotes (the third argument of `Point.some x y h`
depends on the coordinates, so they cannot be rewritten under it) -/
theorem toPoint_of_coords {b : K} {x y x' y' : K} (h : (sw b).Nonsingular x y) (hx : x = x') (hy : y = y') :
    (APt.aff x' y').Nonsing b ∧ toPoint b (.aff x' y') = Point.some x y h := by
  subst hx hy; exact ⟨h, toPoint_aff _ _ h⟩

theorem aneg_point (b : K) (P : APt K) (hP : P.Nonsing b) :
    (aneg P).Nonsing b ∧ toPoint b (aneg P) = -toPoint b P := by
  cases P with
  | inf => exact ⟨trivial, by simp [aneg, toPoint]⟩
  | aff x y =>
    have hP : (sw b).Nonsingular x y := hP
    rw [toPoint_aff x y hP, Point.neg_some]
    exact toPoint_of_coords ((nonsingular_neg x y).mpr hP) rfl (negY_sw b x y)

theorem adbl_point {b : K} (h2 : (2 : K) ≠ 0) (P : APt K) (hP : P.Nonsing b) :
    (adbl P).Nonsing b ∧ toPoint b (adbl P) = toPoint b P + toPoint b P := by
  cases P with
  | inf => exact ⟨trivial, by simp [adbl, toPoint]⟩
  | aff x y =>
    have hP : (sw b).Nonsingular x y := hP
    rw [toPoint_aff x y hP]
    by_cases hy : y = 0
    · subst hy
      simp only [adbl, if_true]
      refine ⟨trivial, ?_⟩
      have : (0 : K) = (sw b).negY x 0 := by rw [negY_sw, neg_zero]
      rw [Point.add_self_of_Y_eq this]; rfl
    · simp only [adbl, hy, if_false]
      have hne : y ≠ (sw b).negY x y := by
        rw [negY_sw]; intro h
        have : (2 : K) * y = 0 := by linear_combination h
        exact hy ((mul_eq_zero.1 this).resolve_left h2)
      rw [Point.add_self_of_Y_ne hne]
      have hsl : (sw b).slope x x y y = 3 * x ^ 2 / (2 * y) := by
        rw [slope_of_Y_ne rfl hne, negY_sw]
        simp only [sw]
        congr 1 <;> ring
      have hX : (sw b).addX x x ((sw b).slope x x y y) = (3 * x ^ 2 / (2 * y)) ^ 2 - 2 * x := by
        rw [hsl]; simp only [addX, sw]; ring
      have hY : (sw b).addY x x y ((sw b).slope x x y y)
          = 3 * x ^ 2 / (2 * y) * (x - ((3 * x ^ 2 / (2 * y)) ^ 2 - 2 * x)) - y := by
        rw [addY, negY_sw, negAddY, hX, hsl]; ring
      exact toPoint_of_coords (nonsingular_add hP hP fun hxy => hne hxy.right) hX hY

theorem aadd_point {b : K} (h2 : (2 : K) ≠ 0) (P Q : APt K) (hP : P.Nonsing b) (hQ : Q.Nonsing b) :
    (aadd P Q).Nonsing b ∧ toPoint b (aadd P Q) = toPoint b P + toPoint b Q := by
  cases P with
  | inf =>
    cases Q with
    | inf => exact ⟨trivial, by simp [aadd, toPoint]⟩
    | aff x y => exact ⟨hQ, by simp [aadd, toPoint]⟩
  | aff x1 y1 =>
    cases Q with
    | inf => exact ⟨hP, by simp [aadd, toPoint]⟩
    | aff x2 y2 =>
      have hP : (sw b).Nonsingular x1 y1 := hP
      have hQ : (sw b).Nonsingular x2 y2 := hQ
      by_cases hx : x1 = x2
      · subst hx
        by_cases hy : y1 = y2
        · subst hy
          simp only [aadd, if_true]
          exact adbl_point h2 (.aff x1 y1) hP
        · simp only [aadd, hy, if_true, if_false]
          refine ⟨trivial, ?_⟩
          rw [toPoint_aff x1 y1 hP, toPoint_aff x1 y2 hQ]
          have hyy : y1 = (sw b).negY x1 y2 := (Y_eq_of_X_eq hP.1 hQ.1 rfl).resolve_left hy
          rw [Point.add_of_Y_eq rfl hyy]; rfl
      · simp only [aadd, hx, if_false]
        rw [toPoint_aff x1 y1 hP, toPoint_aff x2 y2 hQ, Point.add_of_X_ne hx]
        have hsl : (sw b).slope x1 x2 y1 y2 = (y2 - y1) / (x2 - x1) := by
          rw [slope_of_X_ne hx, ← neg_sub y2 y1, ← neg_sub x2 x1, neg_div_neg_eq]
        have hX : (sw b).addX x1 x2 ((sw b).slope x1 x2 y1 y2) = ((y2 - y1) / (x2 - x1)) ^ 2 - x1 - x2 := by
          rw [hsl]; simp only [addX, sw]; ring
        have hY : (sw b).addY x1 x2 y1 ((sw b).slope x1 x2 y1 y2)
            = (y2 - y1) / (x2 - x1) * (x1 - (((y2 - y1) / (x2 - x1)) ^ 2 - x1 - x2)) - y1 := by
          rw [addY, negY_sw, negAddY, hX, hsl]; ring
        exact toPoint_of_coords (nonsingular_add hP hQ fun hxy => hx hxy.left) hX hY

/-! ### the same chord and tangent on Jacobian triples -/

/-- the affine point a Jacobian triple with `Z ≠ 0` stands for -/
def jaff (X Y Z : K) : APt K := .aff (X / Z ^ 2) (Y / Z ^ 3)

/-- the tangent in Jacobian coordinates ("dbl-2009-l", a = 0), over free `M = 3X²`, `S = 4XY²`, `W = 8Y⁴` -/
theorem adbl_jaff {X Y Z M S W : K} (h2 : (2 : K) ≠ 0) (hY : Y ≠ 0) (hZ : Z ≠ 0) (hM : M = 3 * X ^ 2)
    (hS : S = 4 * X * Y ^ 2) (hW : W = 8 * Y ^ 4) :
    adbl (jaff X Y Z) = jaff (M * M - S - S) (M * (S - (M * M - S - S)) - W) (2 * (Y * Z)) := by
  subst hM hS hW
  have hy : Y / Z ^ 3 ≠ 0 := div_ne_zero hY (pow_ne_zero _ hZ)
  simp only [jaff, adbl, hy, if_false]
  congr 1 <;> field_simp <;> ring

/-- the chord through `(X/Z², Y/Z³)` and `(x, y)` in Jacobian coordinates (mixed addition), over free
`H = xZ² − X ≠ 0`, `R = yZ³ − Y` -/
theorem aadd_jaff {X Y Z x y H R : K} (hZ : Z ≠ 0) (hH0 : H ≠ 0) (hH : H = x * Z ^ 2 - X)
    (hR : R = y * Z ^ 3 - Y) :
    aadd (jaff X Y Z) (.aff x y) = jaff (R * R - H * (H * H) - 2 * (X * (H * H)))
      (R * (X * (H * H) - (R * R - H * (H * H) - 2 * (X * (H * H)))) - Y * (H * (H * H))) (Z * H) := by
  subst hH hR
  -- in the affine coordinates `u`, `v` of the triple the left side has no denominator but the slope's
  obtain ⟨u, rfl⟩ : ∃ u, X = u * Z ^ 2 := ⟨X / Z ^ 2, by field_simp⟩
  obtain ⟨v, rfl⟩ : ∃ v, Y = v * Z ^ 3 := ⟨Y / Z ^ 3, by field_simp⟩
  have hx : x - u ≠ 0 := fun h => hH0 (by rw [← sub_mul, h, zero_mul])
  have hux : u ≠ x := fun h => hx (by rw [h, sub_self])
  simp only [jaff, mul_div_cancel_right₀ _ (pow_ne_zero _ hZ), aadd, hux, if_false]
  congr 1 <;> field_simp <;> ring

end Dos.Compose.Curve

namespace Dos.Compose

/-- the laws of a commutative group, pulled back along a map `ι` that is injective on the valid values and
carries the model's operations to the group's -/
theorem laws_of_embedding {M A : Type} [AddCommGroup A] {V : M → Prop} {ι : M → A} {zero : M}
    {add : M → M → M} {neg : M → M} {smul : Nat → M → M}
    (inj : ∀ {P Q}, V P → V Q → ι P = ι Q → P = Q) (h0 : V zero ∧ ι zero = 0)
    (hadd : ∀ P Q, V P → V Q → V (add P Q) ∧ ι (add P Q) = ι P + ι Q)
    (hneg : ∀ P, V P → V (neg P) ∧ ι (neg P) = -ι P)
    (hsmul : ∀ k P, V P → V (smul k P) ∧ ι (smul k P) = k • ι P)
    {P Q R : M} (hP : V P) (hQ : V Q) (hR : V R) (a b : Nat) :
    add P Q = add Q P ∧ add (add P Q) R = add P (add Q R) ∧ add P (neg P) = zero ∧
    smul (a + b) P = add (smul a P) (smul b P) ∧ smul (a * b) P = smul a (smul b P) := by
  have hPQ := hadd P Q hP hQ
  have hQR := hadd Q R hQ hR
  have hn := hneg P hP
  have ha := hsmul a P hP
  have hb := hsmul b P hP
  refine ⟨inj hPQ.1 (hadd Q P hQ hP).1 ?_, inj (hadd _ R hPQ.1 hR).1 (hadd P _ hP hQR.1).1 ?_,
    inj (hadd P _ hP hn.1).1 h0.1 ?_, inj (hsmul _ P hP).1 (hadd _ _ ha.1 hb.1).1 ?_,
    inj (hsmul _ P hP).1 (hsmul a _ hb.1).1 ?_⟩
  · rw [hPQ.2, (hadd Q P hQ hP).2, add_comm]
  · rw [(hadd _ R hPQ.1 hR).2, hPQ.2, (hadd P _ hP hQR.1).2, hQR.2, add_assoc]
  · rw [(hadd P _ hP hn.1).2, hn.2, add_neg_cancel, h0.2]
  · rw [(hsmul _ P hP).2, (hadd _ _ ha.1 hb.1).2, ha.2, hb.2, add_nsmul]
  · rw [(hsmul _ P hP).2, (hsmul a _ hb.1).2, hb.2, mul_nsmul']

end Dos.Compose
