/-
C10 layer 4 — gfP6 over gfP2 over the prime field of bn256 is a FIELD: the norm
F = x³ξ² + y³ξ + z³ − 3ξxyz that `gfP6.Invert` inverts is non-zero for every non-zero element.
Elementary route (no polynomial ring): for a = xτ² + yτ + z the product (xτ − y)·a is the LINEAR
element uτ + v with u = xz − y², v = ξx² − yz, and norms multiply:
    u³ξ + v³ = (x³ξ − y³) · F(a)                       (a polynomial identity, `ring`).
If F(a) = 0 then u³ξ = −v³; ξ is not a cube in F_p² (Proofs/Bn256TowerField2.lean), so u = 0 and v = 0,
i.e. y² = xz and ξx² = yz; then ξx³ = y³ forces x = 0, hence y = 0, hence F(a) = z³ = 0 and z = 0.
Also: the norm is multiplicative, F(τ) = ξ, and therefore τ is not a square in gfP6 (ξ is not a square).
-/
import DosModel.Proofs.Bn256TowerField2
import DosModel.Proofs.Bn256Tower6

namespace Dos.Bn256
namespace TowerField

section ring
variable {α : Type} [CommRing α]
open Fp2 (xi)
open Fp6 (normF tau)

/-- norm of (xτ − y)·a, which is the linear element (xz − y²)τ + (ξx² − yz) -/
theorem normF_linear (a : Fp6 α) :
    (a.x * a.z - a.y * a.y) * (a.x * a.z - a.y * a.y) * (a.x * a.z - a.y * a.y) * xi +
      (xi * (a.x * a.x) - a.y * a.z) * (xi * (a.x * a.x) - a.y * a.z) * (xi * (a.x * a.x) - a.y * a.z) =
    (a.x * a.x * a.x * xi - a.y * a.y * a.y) * normF a := by
  simp only [normF]; ring

theorem normF_tau : normF (tau : Fp6 α) = xi := by
  simp only [normF, tau]; ring

end ring

open Fp2 (xi)

/-- **the norm of a non-zero element of gfP6 over F_p² is non-zero** (τ³ − ξ is irreducible) -/
theorem normF_ne_zero (a : Fp6 (ZMod p)) (ha : a ≠ 0) : Fp6.normF a ≠ 0 := by
  intro hN
  have hlin := normF_linear a
  rw [hN, mul_zero] at hlin
  -- u = 0
  have hu : a.x * a.z - a.y * a.y = 0 := by
    by_contra hu
    apply xi_not_cube (-(xi * (a.x * a.x) - a.y * a.z) / (a.x * a.z - a.y * a.y))
    rw [← pow_three', div_pow, div_eq_iff (pow_ne_zero 3 hu)]
    linear_combination (-1 : Fp2 (ZMod p)) * hlin
  rw [hu, zero_mul, zero_mul, zero_mul, zero_add] at hlin
  -- v = 0
  have hv : xi * (a.x * a.x) - a.y * a.z = 0 := by
    have h3 : (xi * (a.x * a.x) - a.y * a.z) ^ 3 = 0 := by rw [← hlin]; ring
    exact pow_eq_zero_iff (by norm_num) |>.mp h3
  -- x = 0
  have hx : a.x = 0 := by
    by_contra hx
    apply xi_not_cube (a.y / a.x)
    rw [← pow_three', div_pow, div_eq_iff (pow_ne_zero 3 hx)]
    linear_combination (-a.y) * hu - a.x * hv
  -- y = 0
  have hy : a.y = 0 := by
    rw [hx, zero_mul, zero_sub, neg_eq_zero] at hu
    exact mul_self_eq_zero.mp hu
  -- z = 0
  have hz : a.z = 0 := by
    have h3 : a.z ^ 3 = 0 := by
      rw [Fp6.normF_eq, hx, hy] at hN
      rw [← hN]; ring
    exact pow_eq_zero_iff (by norm_num) |>.mp h3
  exact ha (Fp6.ext' hx hy hz)

/-- over the base field of bn256, gfP6.Invert inverts EVERY non-zero element -/
theorem fp6_invert_all (a : Fp6 (ZMod p)) (ha : a ≠ 0) : a * Fp6.invert a = 1 :=
  Fp6.mul_invert a (fp2_invert_all _ (normF_ne_zero a ha))

theorem fp6_invert_zero : Fp6.invert (0 : Fp6 (ZMod p)) = 0 := by
  show Fp6.invert (Fp6.zero : Fp6 (ZMod p)) = Fp6.zero
  simp only [Fp6.invert, Fp6.zero, Fp2.mul_eq, Fp2.add_eq, Fp2.sub_eq, Fp2.mulXi_eq, Fp2.square_eq, Fp2.zero_eq,
    mul_zero, zero_mul, sub_zero, add_zero]

end TowerField

/-- gfP6 over the base field of bn256 is a FIELD whose operations are the transcribed functions -/
noncomputable instance instFieldFp6 : Field (Fp6 (ZMod p)) where
  toCommRing := Fp6.instCommRing
  inv := Fp6.invert
  exists_pair_ne := ⟨0, 1, by
    intro h
    have : (0 : Fp6 (ZMod p)).z.y = (1 : Fp6 (ZMod p)).z.y := congrArg (fun a => a.z.y) h
    exact zero_ne_one this⟩
  mul_inv_cancel a ha := TowerField.fp6_invert_all a ha
  inv_zero := TowerField.fp6_invert_zero
  nnqsmul := _
  qsmul := _

namespace TowerField

/-- **τ is not a square in gfP6** (its norm ξ is not a square in F_p²) -/
theorem tau_not_square (c : Fp6 (ZMod p)) : c * c ≠ Fp6.tau := by
  intro h
  apply xi_not_square (Fp6.normF c)
  rw [← Fp6.normF_mul, h, normF_tau]

end TowerField
end Dos.Bn256
