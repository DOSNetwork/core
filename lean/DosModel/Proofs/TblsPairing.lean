/-
Abstract bilinear pairing (what `bls.Verify` and `PairingCheck` rely on): the equation `bls.Verify`
checks, and the product of pairings as `PairingCheck` forms it and as mathematics reads it
(`Props/C03.lean`).
-/
import Mathlib.Algebra.Module.Defs
import Mathlib.Algebra.Field.Defs
import Mathlib.Algebra.BigOperators.Group.List.Basic

namespace Dos.Tbls

/-- a bilinear pairing `e : G1 × G2 → GT` of `F`-modules into a (multiplicative) commutative
group, non-degenerate at the generator `g2` of G2 -/
structure Pairing (F G1 G2 GT : Type) [Field F] [AddCommGroup G1] [Module F G1]
    [AddCommGroup G2] [Module F G2] [CommGroup GT] where
  e : G1 → G2 → GT
  add_left : ∀ a b q, e (a + b) q = e a q * e b q
  add_right : ∀ a p q, e a (p + q) = e a p * e a q
  smul_swap : ∀ (c : F) a q, e (c • a) q = e a (c • q)
  g2 : G2
  nondeg : ∀ a, e a g2 = 1 → a = 0

variable {F G1 G2 GT : Type} [Field F] [AddCommGroup G1] [Module F G1]
  [AddCommGroup G2] [Module F G2] [CommGroup GT]

namespace Pairing
variable (pr : Pairing F G1 G2 GT)

theorem zero_left (q : G2) : pr.e 0 q = 1 := by
  have h := pr.add_left 0 0 q
  rw [add_zero] at h
  exact (mul_eq_left.1 h.symm)

theorem zero_right (a : G1) : pr.e a 0 = 1 := by
  have h := pr.add_right a 0 0
  rw [add_zero] at h
  exact (mul_eq_left.1 h.symm)

/-- the equation `bls.Verify` checks: `e(-s, B₂) · e(H(m), X) = 1` -/
def verifyEq (X : G2) (hm s : G1) : Prop := pr.e (-s) pr.g2 * pr.e hm X = 1

/-- under the key `x • B₂` the equation holds exactly for `s = x • H(m)` (bilinearity and
non-degeneracy) -/
theorem verifyEq_iff (x : F) (hm s : G1) : pr.verifyEq (x • pr.g2) hm s ↔ s = x • hm := by
  unfold verifyEq
  rw [← pr.smul_swap, ← pr.add_left]
  constructor
  · intro h
    have := pr.nondeg _ h
    rwa [neg_add_eq_zero] at this
  · rintro rfl
    rw [neg_add_cancel]; exact pr.zero_left _

/-- `PairingCheck` as implemented: pairs with an identity component are skipped -/
def checkSkipping [DecidableEq G1] [DecidableEq G2] (ps : List (G1 × G2)) : GT :=
  ((ps.filter fun ab => ¬ (ab.1 = 0 ∨ ab.2 = 0)).map fun ab => pr.e ab.1 ab.2).prod

/-- the mathematical product of pairings -/
def checkAll (ps : List (G1 × G2)) : GT := (ps.map fun ab => pr.e ab.1 ab.2).prod

end Pairing
end Dos.Tbls
