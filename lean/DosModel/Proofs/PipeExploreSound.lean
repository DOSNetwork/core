/-
C14: the kernel-evaluable breadth-first search of `Model/PipeExplore.lean` only returns reachable
states (used by the witness theorems: a concrete bad schedule exists in the model).
-/
import DosModel.Proofs.PipeSucc
import DosModel.Model.PipeExplore

namespace Dos.Pipe

theorem steps_sub (sc : Scenario) (s : State) : ∀ x ∈ sc.steps s, x ∈ succs sc.p s := by
  intro x hx
  unfold Scenario.steps at hx
  simp only at hx
  split at hx
  · exact (List.mem_filter.mp hx).1
  · split at hx
    · exact (List.mem_filter.mp hx).1
    · exact (List.mem_filter.mp (List.mem_filter.mp hx).1).1

theorem next_step (sc : Scenario) {s t : State} (h : t ∈ sc.next s) : ∃ e, Step sc.p s e (.run t) := by
  unfold Scenario.next at h
  simp only [List.mem_filterMap] at h
  obtain ⟨x, hx, hm⟩ := h
  obtain ⟨e, c⟩ := x
  cases c with
  | run t' =>
    simp only [Option.some.injEq] at hm
    subst hm
    exact ⟨e, (mem_succs_iff sc.p s e _).mp (steps_sub sc s _ hx)⟩
  | crash k g pc => simp at hm

theorem crashes_step (sc : Scenario) {s : State} {k : CrashKind} (h : k ∈ sc.crashes s) :
    ∃ e g pc, Step sc.p s e (.crash k g pc) := by
  unfold Scenario.crashes at h
  simp only [List.mem_filterMap] at h
  obtain ⟨x, hx, hm⟩ := h
  obtain ⟨e, c⟩ := x
  cases c with
  | run t' => simp at hm
  | crash k' g pc =>
    simp only [Option.some.injEq] at hm
    subst hm
    exact ⟨e, g, pc, (mem_succs_iff sc.p s e _).mp (steps_sub sc s _ hx)⟩

theorem keepFresh_sub : ∀ (ts : List State) (keys : List Nat) (acc : List State) (t : State),
    t ∈ (keepFresh ts keys acc).1 → t ∈ acc ∨ t ∈ ts := by
  intro ts
  induction ts with
  | nil => intro keys acc t h; left; exact h
  | cons x xs ih =>
    intro keys acc t h
    unfold keepFresh at h
    split at h
    · rcases ih _ _ t h with h1 | h1
      · left; exact h1
      · right; exact List.mem_cons_of_mem _ h1
    · rcases ih _ _ t h with h1 | h1
      · rcases List.mem_append.mp h1 with h2 | h2
        · left; exact h2
        · right; simp at h2; simp [h2]
      · right; exact List.mem_cons_of_mem _ h1

theorem bfs_reach {p : Pipeline} {next : State → List State}
    (hnext : ∀ s t, t ∈ next s → ∃ e, Step p s e (.run t)) :
    ∀ (fuel : Nat) (frontier : List State) (keys : List Nat) (found : List State),
      (∀ s ∈ frontier, Reach p s) → (∀ s ∈ found, Reach p s) →
      ∀ s ∈ bfs next fuel frontier keys found, Reach p s := by
  intro fuel
  induction fuel with
  | zero => intro frontier keys found _ hv s hs; exact hv s hs
  | succ fuel ih =>
    intro frontier keys found hf hv s hs
    cases frontier with
    | nil => exact hv s hs
    | cons s0 rest =>
      simp only [bfs] at hs
      have hfresh : ∀ t ∈ (keepFresh (next s0) keys []).1, Reach p t := by
        intro t ht
        rcases keepFresh_sub _ _ _ t ht with h | h
        · cases h
        · obtain ⟨e, hst⟩ := hnext s0 t h
          exact Reach.step (hf s0 (by simp)) hst
      apply ih _ _ _ _ _ s hs
      · intro t ht
        rcases List.mem_append.mp ht with h | h
        · exact hf t (List.mem_cons_of_mem _ h)
        · exact hfresh t h
      · intro t ht
        rcases List.mem_append.mp ht with h | h
        · exact hv t h
        · exact hfresh t h

theorem reachSet_sound (sc : Scenario) (fuel : Nat) : ∀ s ∈ sc.reachSet fuel, Reach sc.p s := by
  apply bfs_reach (fun s t h => next_step sc h)
  · intro s hs; simp at hs; subst hs; exact Reach.init
  · intro s hs; simp at hs; subst hs; exact Reach.init

/-- a state found by the search with property `f` is a reachable state with property `f` -/
theorem reachSet_any {sc : Scenario} {fuel : Nat} {f : State → Bool} (h : (sc.reachSet fuel).any f = true) :
    ∃ s, Reach sc.p s ∧ f s = true := by
  rw [List.any_eq_true] at h
  obtain ⟨s, hs, hf⟩ := h
  exact ⟨s, reachSet_sound sc fuel s hs, hf⟩

/-- the state reached from `s` by taking, at each position, the successor with the given index -/
def Scenario.follow (sc : Scenario) : List Nat → State → Option State
  | [], s => some s
  | k :: ks, s => match (sc.next s)[k]? with
    | some t => follow sc ks t
    | none => none

theorem follow_reach (sc : Scenario) : ∀ (ks : List Nat) (s t : State), Reach sc.p s →
    sc.follow ks s = some t → Reach sc.p t
  | [], s, t, hr, h => by cases h; exact hr
  | k :: ks, s, t, hr, h => by
    unfold Scenario.follow at h
    split at h
    · rename_i u hu
      obtain ⟨e, hst⟩ := next_step sc (List.mem_of_getElem? hu)
      exact follow_reach sc ks u t (Reach.step hr hst) h
    · cases h

/-- a schedule from the initial state to a state with property `f` shows that one is reachable -/
theorem follow_any {sc : Scenario} {ks : List Nat} {f : State → Bool}
    (h : (sc.follow ks (init sc.p)).any f = true) : ∃ s, Reach sc.p s ∧ f s = true := by
  cases hs : sc.follow ks (init sc.p) with
  | none => rw [hs] at h; cases h
  | some s => rw [hs] at h; exact ⟨s, follow_reach sc ks _ s Reach.init hs, h⟩

end Dos.Pipe
