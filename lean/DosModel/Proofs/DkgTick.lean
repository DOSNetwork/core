/-
Helper lemmas for the watchdog theorems of `Props/C04.lean`: `expire` leaves a session without a
registered request alone, a member that has not called `Grouping` has no request registered, and a
tick at which no context is done changes nothing.
-/
import DosModel.Model.DkgTick
import DosModel.Proofs.DkgLiveGlobal

set_option linter.unusedSectionVars false

namespace Dos.Dkg
open Dos Dos.Vss

variable {F G : Type} [Field F] [AddCommGroup G] [Module F G] [DecidableEq F] [DecidableEq G]

theorem expire_unregistered {M : Type} (p : Pair M) (done : Bool) (h : p.req = none) : expire p done = (p, false) := by
  unfold expire; rw [h]

theorem expire_false {M : Type} (p : Pair M) : expire p false = (p, false) := by
  unfold expire; cases p.req <;> rfl

/-- no request of this member is registered with its `Loop` -/
def Unregistered (m : Member F G) : Prop := m.pkP.req = none ∧ m.dlP.req = none ∧ m.rsP.req = none

theorem tick_unregistered (m : Member F G) (done : Bool) (h : Unregistered m) : m.tick done = m := by
  obtain ⟨h1, h2, h3⟩ := h
  unfold Member.tick Member.tickWith
  simp only [expire_unregistered _ done h1, expire_unregistered _ done h2, expire_unregistered _ done h3,
    Bool.or_self, Bool.false_eq_true, if_false]

theorem tick_false (m : Member F G) : m.tick false = m := by
  unfold Member.tick Member.tickWith
  simp only [expire_false, Bool.or_self, Bool.false_eq_true, if_false]

/-- a member that has not called `Grouping` yet: stage `idle`, nothing registered -/
def BeforeStart (m : Member F G) : Prop := m.stage = .idle ∧ Unregistered m

theorem advance_idle (g : G) (fuel : Nat) (m : Member F G) (h : m.stage = .idle) : Member.advance g fuel m = m := by
  cases fuel with
  | zero => rfl
  | succ k => unfold Member.advance; simp [h]

theorem beforeStart_init (n index : Nat) (long : F) (f ephs : List F) :
    BeforeStart (Member.init (S := F) (P := G) n index long f ephs) := ⟨rfl, rfl, rfl, rfl⟩

/-- an arrival before the start leaves the member before the start: nothing is registered, so no request gets
registered by the arrival, and no stage runs
(`by exact hs`: elaborated only once the rewrite has fixed which member `advance` runs on) -/
theorem beforeStart_recvPk (g : G) (m : Member F G) (x : PkMsg G) (h : BeforeStart m) : BeforeStart (m.recvPk g x) := by
  obtain ⟨hs, h1, h2, h3⟩ := h
  rw [recvPk_eq, advance_idle g 4 _ (by exact hs)]
  exact ⟨hs, (handlePeerMsg_noreq dupPk m.pkP x h1).2, h2, h3⟩

theorem beforeStart_recvDeal (g : G) (m : Member F G) (x : DkgDeal F G) (h : BeforeStart m) :
    BeforeStart (m.recvDeal g x) := by
  obtain ⟨hs, h1, h2, h3⟩ := h
  rw [recvDeal_eq, advance_idle g 4 _ (by exact hs)]
  exact ⟨hs, h1, (handlePeerMsg_noreq dupDeal m.dlP x h2).2, h3⟩

theorem beforeStart_recvResp (g : G) (m : Member F G) (x : DkgResp F G) (h : BeforeStart m) :
    BeforeStart (m.recvResp g x) := by
  obtain ⟨hs, h1, h2, h3⟩ := h
  rw [recvResp_eq, advance_idle g 4 _ (by exact hs)]
  exact ⟨hs, h1, h2, (handlePeerMsg_noreq dupResp m.rsP x h3).2⟩

theorem stepEvT_tick_false (g : G) (s : Sys F G) (i : Nat) : stepEvT g s (.tick i false) = s := by
  show ({ s with ms := s.ms.modify i (fun m => m.tick false) } : Sys F G) = s
  rw [show (fun m : Member F G => m.tick false) = id from funext tick_false, List.modify_id]

/-- ticks at which no context is done are invisible: the run is the run of the schedule without them -/
theorem runEventsT_dropTicks (g : G) : ∀ (evs : List EvT) (s : Sys F G),
    (∀ i d, EvT.tick i d ∈ evs → d = false) → evs.foldl (stepEvT g) s = (dropTicks evs).foldl (stepEv g) s
  | [], _, _ => rfl
  | .ev e :: r, s, h => by
    simp only [List.foldl_cons, dropTicks, stepEvT]
    exact runEventsT_dropTicks g r _ (fun i d hm => h i d (List.mem_cons_of_mem _ hm))
  | .tick i d :: r, s, h => by
    have hd : d = false := h i d (List.mem_cons_self ..)
    subst hd
    simp only [List.foldl_cons, dropTicks, stepEvT_tick_false]
    exact runEventsT_dropTicks g r _ (fun i d hm => h i d (List.mem_cons_of_mem _ hm))

/-- what can happen at a member before its own `Grouping` call: arrivals and watchdog ticks -/
inductive PreEv (F G : Type) where
  | pk (x : PkMsg G)
  | deal (x : DkgDeal F G)
  | resp (x : DkgResp F G)
  | tick (done : Bool)

def preStep (g : G) (m : Member F G) : PreEv F G → Member F G
  | .pk x => m.recvPk g x
  | .deal x => m.recvDeal g x
  | .resp x => m.recvResp g x
  | .tick done => m.tick done

/-- the same history with the ticks left out -/
def preStepNoTick (g : G) (m : Member F G) : PreEv F G → Member F G
  | .tick _ => m
  | e => preStep g m e

theorem preStep_beforeStart (g : G) (m : Member F G) (e : PreEv F G) (h : BeforeStart m) :
    BeforeStart (preStep g m e) ∧ preStep g m e = preStepNoTick g m e := by
  cases e with
  | pk x => exact ⟨beforeStart_recvPk g m x h, rfl⟩
  | deal x => exact ⟨beforeStart_recvDeal g m x h, rfl⟩
  | resp x => exact ⟨beforeStart_recvResp g m x h, rfl⟩
  | tick done =>
    have := tick_unregistered m done h.2
    exact ⟨by simp only [preStep, this]; exact h, by simp only [preStep, preStepNoTick, this]⟩

theorem pre_fold (g : G) : ∀ (evs : List (PreEv F G)) (m : Member F G), BeforeStart m →
    evs.foldl (preStep g) m = evs.foldl (preStepNoTick g) m ∧ BeforeStart (evs.foldl (preStep g) m)
  | [], _, h => ⟨rfl, h⟩
  | e :: r, m, h => by
    obtain ⟨h1, h2⟩ := preStep_beforeStart g m e h
    simp only [List.foldl_cons]
    rw [← h2]
    exact pre_fold g r _ h1

end Dos.Dkg
