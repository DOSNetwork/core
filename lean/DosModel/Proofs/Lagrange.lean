/-
Lagrange interpolation at zero, in the shapes the models of `share/poly.go` need:
over any field `F`, for scalars and for points of any `F`-module.
-/
import Mathlib.LinearAlgebra.Lagrange

namespace Dos.Lagrange
open Polynomial

/-- a product over the other nodes of a duplicate-free list, as the code's loop forms it -/
theorem prod_erase_toFinset {α M : Type*} [DecidableEq α] [CommMonoid M] {L : List α} (hL : L.Nodup)
    (a : α) (g : α → M) : ∏ b ∈ L.toFinset.erase a, g b = ((L.filter (· ≠ a)).map g).prod := by
  rw [← List.prod_toFinset _ (hL.filter _), List.toFinset_filter]
  congr 1
  ext b
  simp [Finset.mem_erase, and_comm]

variable {F : Type*} [Field F]

/-- the interpolation polynomial itself, list form (what `RecoverPriPoly` assembles):
`Σ_a C(p(a) · Π_{b≠a} (a-b)⁻¹) · Π_{b≠a} (X - b) = p` -/
theorem list_interpolate [DecidableEq F] (L : List F) (hL : L.Nodup) (p : F[X])
    (hdeg : p.degree < L.length) :
    (L.map fun a => C (p.eval a * ((L.filter (· ≠ a)).map (fun b => (a - b)⁻¹)).prod)
        * ((L.filter (· ≠ a)).map (fun b => X - C b)).prod).sum = p := by
  refine Eq.trans ?_ (Lagrange.eq_interpolate_of_eval_eq (s := L.toFinset) (v := id)
    (r := fun a => p.eval a) (Set.injOn_id _) (by rwa [List.toFinset_card_of_nodup hL])
    (fun _ _ => rfl)).symm
  rw [Lagrange.interpolate_apply, List.sum_toFinset _ hL]
  refine congrArg List.sum (List.map_congr_left fun a _ => ?_)
  rw [Lagrange.basis, prod_erase_toFinset hL, C_mul, mul_assoc]
  refine congrArg _ ?_
  rw [map_list_prod, List.map_map, ← List.prod_map_mul]
  rfl

/-- the value at 0 of the basis polynomial `Π (X - b) / Π (a - b)`, numerator and denominator kept
apart as the code keeps `num` and `den` -/
theorem eval_zero_basis (l : List F) (a : F) :
    (l.map fun b => (a - b)⁻¹).prod * ((l.map fun b => X - C b).prod).eval 0
      = (l.map id).prod * ((l.map fun b => b - a).prod)⁻¹ := by
  induction l with
  | nil => simp
  | cons b l ih =>
    simp only [List.map_cons, List.prod_cons, eval_mul, eval_sub, eval_X, eval_C, mul_inv, id]
    rw [mul_mul_mul_comm, ih, ← neg_sub b a, inv_neg, zero_sub, neg_mul_neg, mul_comm _ b,
      mul_mul_mul_comm]

variable {G : Type*} [AddCommGroup G] [Module F G]

/-- the shape `RecoverCommit` computes, for a duplicate-free list of nodes:
`Σ ((Π b) / Π (b - a)) • (p(a) • B) = p(0) • B`; `RecoverSecret` is the case `B = 1`.
It is `list_interpolate` evaluated at 0.
The coefficient is written `1 * (… .map id).prod * …` because that is `Share.numDen_eq` at `n0 = 1`
as it stands: `Share.commit_fold_good` rewrites with this lemma without reshaping. -/
theorem list_numden_smul_at_zero [DecidableEq F] (L : List F) (hL : L.Nodup) (p : F[X])
    (hdeg : p.degree < L.length) (B : G) :
    (L.map fun a => ((1 * ((L.filter (· ≠ a)).map id).prod)
        * (((L.filter (· ≠ a)).map (fun b => b - a)).prod)⁻¹) • (p.eval a • B)).sum
      = p.eval 0 • B := by
  conv_rhs => rw [← list_interpolate L hL p hdeg]
  rw [← coe_evalRingHom, map_list_sum, List.sum_smul, List.map_map, List.map_map]
  refine congrArg List.sum (List.map_congr_left fun a _ => ?_)
  rw [Function.comp, Function.comp, coe_evalRingHom, eval_mul, eval_C, smul_smul, one_mul,
    ← eval_zero_basis, mul_right_comm, mul_comm (eval a p)]

end Dos.Lagrange
