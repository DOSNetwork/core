/-
C12 — lemmas about the nesting-depth guard of `dataParse` (Model/HandlersDoc.lean). Core Lean only.
-/
import DosModel.Model.HandlersDoc

namespace Dos.Handlers
open Dos

theorem docGuard_total (deep : Bool) : (docGuard Cfg.all deep).isPanic = false := by
  cases deep <;> rfl

theorem docGuard_eval (deep : Bool) (h : docGuard Cfg.all deep = .ok "eval") : deep = false := by
  cases deep
  · rfl
  · exact absurd h (by decide)

/-- opening brackets (`[` or `{`, in any mix) in a row outside a string raise the depth by one each, whatever
follows: as soon as that passes `max` the scanner answers "too deep" — nothing behind them can take the answer back -/
theorem jsonScan_open (max : Nat) (rest : Bytes) :
    ∀ (opens : Bytes) (s : ScanSt), (∀ c ∈ opens, c = 0x5b ∨ c = 0x7b) → s.inString = false → s.depth ≤ max →
      s.depth + opens.length > max → jsonScan max s (opens ++ rest) = true := by
  intro opens
  induction opens with
  | nil => intro s _ _ h1 h2; simp at h2; omega
  | cons c r ih =>
    intro s hc hs h1 h2
    obtain ⟨d, i, e⟩ := s
    simp only at hs h1 h2
    subst hs
    have hr : ∀ c ∈ r, c = 0x5b ∨ c = 0x7b := fun c h => hc c (List.mem_cons_of_mem _ h)
    rw [List.cons_append, jsonScan]
    by_cases h : d + 1 > max
    · rcases hc c List.mem_cons_self with rfl | rfl <;> simp [h]
    · rcases hc c List.mem_cons_self with rfl | rfl <;> simp [h] <;>
        exact ih ⟨d + 1, false, e⟩ hr rfl (by simp; omega) (by simp at h2 ⊢; omega)

theorem jsonDepthExceeds_nested (max k : Nat) (rest : Bytes) (h : k > max) :
    jsonDepthExceeds max (List.replicate k 0x5b ++ rest) = true :=
  jsonScan_open max rest (List.replicate k 0x5b) {} (fun _ hc => .inl (List.eq_of_mem_replicate hc)) rfl
    (Nat.zero_le _) (by simpa using h)

theorem chain_height : ∀ d, (XTree.chain d).height = d
  | 0 => by simp [XTree.chain, XTree.height, XTree.heightList]
  | d + 1 => by
    simp [XTree.chain, XTree.height, XTree.heightList, chain_height d]

end Dos.Handlers
