/-
C10 — naturality of the TRANSLATED Miller loop (`Gen/Bn256Code.lean`, optate.go's `miller` unrolled over the
64 NAF digits, polymorphic in the base type): the generated function and every generated callee are built from
`+ − neg · 0 1 ⁻¹` and the two equality tests of MakeAffine only, so they commute with `map f` for every
injective `f` preserving those operations (`OpsHom`, Proofs/Bn256Natural.lean). Instantiated at
"forget that the value is reduced" (GFpR → GFp) and "decode" (GFpR → ZMod p) this gives: the implemented Miller
loop returns REDUCED gfP12 values on reduced inputs, and decoding commutes with it (Props/C10Miller.lean).

The proof goes THROUGH the generated code: the callees are rewritten to the hand models with the polymorphic ties
of Props/C10Code.lean (to reuse the tower lemmas of Proofs/Bn256NaturalTower.lean), the unrolled body of `miller`
is traversed by `simp only` with the callee lemmas. Nothing here re-transcribes optate.go.
-/
import DosModel.Props.C10Code

set_option linter.unusedSectionVars false
-- the `simp only` sets name every callee lemma and tie; `map_lineFunctionAdd` and `map_lineFunctionDouble` each
-- write out the same list (all gfP2 ties and `Fp2.map_*` lemmas), of which either uses only a part
set_option linter.unusedSimpArgs false

namespace Dos.Bn256.MillerNat
open Dos.Bn256 Dos.Gen Dos.Props.C10Code

section
variable {K L : Type}
variable [Add K] [Sub K] [Neg K] [Mul K] [Zero K] [One K] [Inv K] [Sq K] [DecidableEq K]
variable [Add L] [Sub L] [Neg L] [Mul L] [Zero L] [One L] [Inv L] [Sq L] [DecidableEq L]
variable {f : K → L}

/-! ### constructors and projections under `map` (all by `rfl`; stated so that `simp only` never has to unfold
`Fp2.map / Fp6.map / Fp12.map / Jac.map` on a variable) -/
theorem fp2_map_mk (a b : K) : Fp2.map f (⟨a, b⟩ : Fp2 K) = ⟨f a, f b⟩ := rfl
theorem fp6_map_mk (a b c : Fp2 K) : Fp6.map f (⟨a, b, c⟩ : Fp6 K) = ⟨Fp2.map f a, Fp2.map f b, Fp2.map f c⟩ := rfl
theorem fp12_map_mk (a b : Fp6 K) : Fp12.map f (⟨a, b⟩ : Fp12 K) = ⟨Fp6.map f a, Fp6.map f b⟩ := rfl
theorem fp12_map_x (a : Fp12 K) : (Fp12.map f a).x = Fp6.map f a.x := rfl
theorem fp12_map_y (a : Fp12 K) : (Fp12.map f a).y = Fp6.map f a.y := rfl
theorem jac_map_mk {A B : Type} (g : A → B) (a b c d : A) : Jac.map g (⟨a, b, c, d⟩ : Jac A) = ⟨g a, g b, g c, g d⟩ := rfl
theorem jac_map_x {A B : Type} (g : A → B) (a : Jac A) : (Jac.map g a).x = g a.x := rfl
theorem jac_map_y {A B : Type} (g : A → B) (a : Jac A) : (Jac.map g a).y = g a.y := rfl
theorem jac_map_z {A B : Type} (g : A → B) (a : Jac A) : (Jac.map g a).z = g a.z := rfl
theorem jac_map_t {A B : Type} (g : A → B) (a : Jac A) : (Jac.map g a).t = g a.t := rfl

/-! ### gfp2.go Set; curve.go / twist.go: Set, MakeAffine (two equality tests: `f` is injective), Neg -/
theorem map_gfP2_set (a : Fp2 K) : Fp2.map f (Bn256Code.gfP2_set a) = Bn256Code.gfP2_set (Fp2.map f a) := rfl
theorem map_curvePoint_set (a : Jac K) :
    Jac.map f (Bn256Code.curvePoint_set a) = Bn256Code.curvePoint_set (Jac.map f a) := rfl
theorem map_twistPoint_set (a : Jac (Fp2 K)) :
    Jac.map (Fp2.map f) (Bn256Code.twistPoint_set a) = Bn256Code.twistPoint_set (Jac.map (Fp2.map f) a) := rfl

/-- curvePoint.MakeAffine (squares with `zInv * zInv`: no `Sq` involved) -/
theorem map_curvePoint_makeAffine (h : OpsHom f) (c : Jac K) :
    Jac.map f (Bn256Code.curvePoint_makeAffine c) = Bn256Code.curvePoint_makeAffine (Jac.map f c) := by
  unfold Bn256Code.curvePoint_makeAffine
  have e1 : (Jac.map f c).z = 1 ↔ c.z = 1 := h.eq_one_iff c.z
  have e0 : (Jac.map f c).z = 0 ↔ c.z = 0 := h.eq_zero_iff c.z
  by_cases h1 : c.z = 1
  · rw [if_pos h1, if_pos (e1.mpr h1)]
  · rw [if_neg h1, if_neg (mt e1.mp h1)]
    by_cases h0 : c.z = 0
    · rw [if_pos h0, if_pos (e0.mpr h0)]
      simp only [Jac.map, h.map_zero, h.map_one]
    · rw [if_neg h0, if_neg (mt e0.mp h0)]
      simp only [Jac.map, h.map_mul, h.map_inv, h.map_one]

/-- the hand model's MakeAffine over any coordinate type -/
theorem map_makeAffine (h : OpsHom f) (c : Jac K) :
    Jac.map f (Jac.makeAffine c) = Jac.makeAffine (Jac.map f c) := by
  unfold Jac.makeAffine
  have e1 : (Jac.map f c).z = 1 ↔ c.z = 1 := h.eq_one_iff c.z
  have e0 : (Jac.map f c).z = 0 ↔ c.z = 0 := h.eq_zero_iff c.z
  by_cases h1 : c.z = 1
  · rw [if_pos h1, if_pos (e1.mpr h1)]
  · rw [if_neg h1, if_neg (mt e1.mp h1)]
    by_cases h0 : c.z = 0
    · rw [if_pos h0, if_pos (e0.mpr h0)]
      simp only [Jac.map, h.map_zero, h.map_one]
    · rw [if_neg h0, if_neg (mt e0.mp h0)]
      simp only [Jac.map, h.map_mul, h.map_inv, h.map_sq, h.map_one]

/-- twistPoint.MakeAffine: through the tie to `Jac.makeAffine` over gfP2 and `Fp2.mapHom` -/
theorem map_twistPoint_makeAffine (h : OpsHom f) (c : Jac (Fp2 K)) :
    Jac.map (Fp2.map f) (Bn256Code.twistPoint_makeAffine c) =
      Bn256Code.twistPoint_makeAffine (Jac.map (Fp2.map f) c) := by
  simp only [gen_twistPoint_makeAffine_eq_model]
  exact map_makeAffine (Fp2.mapHom h) c

theorem map_twistPoint_neg (h : OpsHom f) (a : Jac (Fp2 K)) :
    Jac.map (Fp2.map f) (Bn256Code.twistPoint_neg a) = Bn256Code.twistPoint_neg (Jac.map (Fp2.map f) a) := by
  simp only [gen_twistPoint_neg_eq_model]
  exact Jac.map_neg (Fp2.mapHom h) a a.t

/-! ### optate.go: the line functions (4-tuples) and mulLine -/

/-- `map` on the result tuple (a, b, c, rOut) of a line function -/
def lineMap (f : K → L) (t : Fp2 K × Fp2 K × Fp2 K × Jac (Fp2 K)) : Fp2 L × Fp2 L × Fp2 L × Jac (Fp2 L) :=
  (Fp2.map f t.1, Fp2.map f t.2.1, Fp2.map f t.2.2.1, Jac.map (Fp2.map f) t.2.2.2)

theorem map_lineFunctionAdd (h : OpsHom f) (r p : Jac (Fp2 K)) (q : Jac K) (r2 : Fp2 K) :
    lineMap f (Bn256Code.lineFunctionAdd r p q r2) =
      Bn256Code.lineFunctionAdd (Jac.map (Fp2.map f) r) (Jac.map (Fp2.map f) p) (Jac.map f q) (Fp2.map f r2) := by
  simp only [lineMap, Bn256Code.lineFunctionAdd, gen_gfP2_mul_eq_model, gen_gfP2_add_eq_model,
    gen_gfP2_sub_eq_model, gen_gfP2_square_eq_model, gen_gfP2_neg_eq_model, gen_gfP2_mulScalar_eq_model,
    jac_map_mk, jac_map_x, jac_map_y, jac_map_z, jac_map_t,
    Fp2.map_add' h, Fp2.map_sub' h, Fp2.map_neg' h, Fp2.map_mul' h, Fp2.map_square h, Fp2.map_mulScalar h]

theorem map_lineFunctionDouble (h : OpsHom f) (r : Jac (Fp2 K)) (q : Jac K) :
    lineMap f (Bn256Code.lineFunctionDouble r q) =
      Bn256Code.lineFunctionDouble (Jac.map (Fp2.map f) r) (Jac.map f q) := by
  simp only [lineMap, Bn256Code.lineFunctionDouble, gen_gfP2_mul_eq_model, gen_gfP2_add_eq_model,
    gen_gfP2_sub_eq_model, gen_gfP2_square_eq_model, gen_gfP2_neg_eq_model, gen_gfP2_mulScalar_eq_model,
    jac_map_mk, jac_map_x, jac_map_y, jac_map_z, jac_map_t,
    Fp2.map_add' h, Fp2.map_sub' h, Fp2.map_neg' h, Fp2.map_mul' h, Fp2.map_square h, Fp2.map_mulScalar h]

/-! the components of a mapped tuple, in the direction `simp` pushes `map` inward -/
theorem lineMap_a (t : Fp2 K × Fp2 K × Fp2 K × Jac (Fp2 K)) : Fp2.map f t.1 = (lineMap f t).1 := rfl
theorem lineMap_b (t : Fp2 K × Fp2 K × Fp2 K × Jac (Fp2 K)) : Fp2.map f t.2.1 = (lineMap f t).2.1 := rfl
theorem lineMap_c (t : Fp2 K × Fp2 K × Fp2 K × Jac (Fp2 K)) : Fp2.map f t.2.2.1 = (lineMap f t).2.2.1 := rfl
theorem lineMap_r (t : Fp2 K × Fp2 K × Fp2 K × Jac (Fp2 K)) :
    Jac.map (Fp2.map f) t.2.2.2 = (lineMap f t).2.2.2 := rfl

theorem map_mulLine (h : OpsHom f) (ret : Fp12 K) (a b c : Fp2 K) :
    Fp12.map f (Bn256Code.mulLine ret a b c) =
      Bn256Code.mulLine (Fp12.map f ret) (Fp2.map f a) (Fp2.map f b) (Fp2.map f c) := by
  simp only [Bn256Code.mulLine, gen_gfP6_mul_eq_model, gen_gfP6_add_eq_model, gen_gfP6_sub_eq_model,
    gen_gfP6_mulTau_eq_model, gen_gfP6_mulScalar_eq_model, gen_gfP6_set_eq_model, gen_gfP2_set_eq_model,
    gen_gfP2_add_eq_model, fp12_map_mk, fp12_map_x, fp12_map_y, fp6_map_mk, fp2_map_mk, h.map_zero,
    Fp6.map_add' h, Fp6.map_sub' h, Fp6.map_mul' h, Fp6.map_mulTau h, Fp6.map_mulScalar h, Fp2.map_add' h]

/-! ### projections in the direction that pushes `map` towards the arguments of `miller` -/
theorem fp2_map_jac_x (a : Jac (Fp2 K)) : Fp2.map f a.x = (Jac.map (Fp2.map f) a).x := rfl
theorem fp2_map_jac_y (a : Jac (Fp2 K)) : Fp2.map f a.y = (Jac.map (Fp2.map f) a).y := rfl
theorem frobConsts_map_1 (cs : FrobConsts K) : (cs.map f).xiToPMinus1Over3 = Fp2.map f cs.xiToPMinus1Over3 := rfl
theorem frobConsts_map_2 (cs : FrobConsts K) : (cs.map f).xiToPMinus1Over2 = Fp2.map f cs.xiToPMinus1Over2 := rfl
theorem frobConsts_map_3 (cs : FrobConsts K) :
    (cs.map f).xiToPSquaredMinus1Over3 = f cs.xiToPSquaredMinus1Over3 := rfl

/-- **the translated Miller loop is natural**: `Bn256Code.miller` (the 265 lets of the unrolled loop, as generated)
commutes with every operation-preserving injective map of the base type -/
theorem map_miller (h : OpsHom f) (cs : FrobConsts K) (q : Jac (Fp2 K)) (p : Jac K) :
    Fp12.map f (Bn256Code.miller cs q p) =
      Bn256Code.miller (cs.map f) (Jac.map (Fp2.map f) q) (Jac.map f p) := by
  simp only [Bn256Code.miller, gen_gfP2_square_eq_model, gen_gfP2_conjugate_eq_model, gen_gfP2_mul_eq_model,
    gen_gfP2_mulScalar_eq_model, gen_gfP2_set_eq_model, gen_gfP2_setOne_eq_model, gen_gfP12_setOne_eq_model,
    gen_gfP12_square_eq_model, map_mulLine h, Fp12.map_square h, Fp12.map_one' h,
    lineMap_a, lineMap_b, lineMap_c, lineMap_r, map_lineFunctionAdd h, map_lineFunctionDouble h,
    map_twistPoint_neg h, map_twistPoint_makeAffine h, map_curvePoint_makeAffine h, map_twistPoint_set,
    map_curvePoint_set, Fp2.map_square h, Fp2.map_conjugate h, Fp2.map_mul' h, Fp2.map_mulScalar h,
    Fp2.map_one' h, jac_map_mk, fp2_map_jac_x, fp2_map_jac_y,
    frobConsts_map_1, frobConsts_map_2, frobConsts_map_3]

/-- the translated `optimalAte` (Miller loop, final exponentiation, the two identity tests) is natural -/
theorem map_optimalAte (h : OpsHom f) (cs : FrobConsts K) (u : Nat) (q : Jac (Fp2 K)) (p : Jac K) :
    Fp12.map f (Bn256Code.optimalAte cs u q p) =
      Bn256Code.optimalAte (cs.map f) u (Jac.map (Fp2.map f) q) (Jac.map f p) := by
  simp only [Bn256Code.optimalAte, gen_finalExponentiation_eq_model, gen_twistPoint_isInfinity_eq_model,
    gen_curvePoint_isInfinity_eq_model, gen_gfP12_setOne_eq_model, Jac.map_isInfinity (Fp2.mapHom h),
    Jac.map_isInfinity h, ← map_miller h, ← map_finalExponentiationG h, ← Fp12.map_one' h]
  split <;> rfl

end

/-! ### the two instances: GFpR → GFp (forget reducedness) and GFpR → ZMod p (Montgomery decoding) -/

/-- the implemented Miller loop on the values of reduced operands is the value of the SAME generated function run
on the subtype of reduced values (whose operations carry the proof of reducedness) -/
theorem miller_val (q : Jac (Fp2 GFpR)) (p : Jac GFpR) :
    @Bn256Code.miller GFp _ _ _ _ _ _ _ _ frobConsts (Jac.map val2 q) (Jac.map valF p) =
      val12 (Bn256Code.miller frobConstsR q p) := by
  rw [← frobConstsR_val]
  exact (map_miller valHom frobConstsR q p).symm

/-- decoding the generated Miller loop over reduced values = the generated Miller loop over ZMod p -/
theorem miller_decR (q : Jac (Fp2 GFpR)) (p : Jac GFpR) :
    dec12R (Bn256Code.miller frobConstsR q p) =
      Bn256Code.miller frobConstsFp (Jac.map dec2 q) (Jac.map decR p) := by
  unfold frobConstsFp
  exact map_miller decHom frobConstsR q p

/-- **the translated Miller loop at the Montgomery gfP, on reduced points**: the result is a reduced gfP12 value
and its decoding is the translated Miller loop evaluated over the field ZMod p on the decoded points -/
theorem miller_code_concrete (q : G2J) (p : G1J) (hq : Jac.Reduced2 q) (hp : Jac.Reduced p) :
    Red12 (@Bn256Code.miller GFp _ _ _ _ _ _ _ _ frobConsts q p) ∧
    dec12 (@Bn256Code.miller GFp _ _ _ _ _ _ _ _ frobConsts q p) =
      Bn256Code.miller frobConstsFp (Jac.decJ2 q) (Jac.decJ p) := by
  have e := miller_val (Jac.lift2 q hq) (Jac.lift p hp)
  rw [Jac.val_lift2, Jac.val_lift] at e
  rw [e]
  refine ⟨red12_val _, ?_⟩
  rw [dec12_val, miller_decR, Jac.dec_lift2, Jac.dec_lift]

/-- the same for the hand model `Dos.Bn256.miller` (the function the driver runs), through the tie
`gen_miller_eq_model` -/
theorem miller_concrete (q : G2J) (p : G1J) (hq : Jac.Reduced2 q) (hp : Jac.Reduced p) :
    Red12 (Dos.Bn256.miller q p) ∧
    dec12 (Dos.Bn256.miller q p) = Bn256Code.miller frobConstsFp (Jac.decJ2 q) (Jac.decJ p) := by
  rw [← gen_miller_eq_model]
  exact miller_code_concrete q p hq hp

/-- the implemented pairing at the values of reduced points is the value of the translated one over `GFpR` -/
theorem optimalAte_val (q : Jac (Fp2 GFpR)) (p : Jac GFpR) :
    Dos.Bn256.optimalAte (Jac.map val2 q) (Jac.map valF p) =
      val12 (Bn256Code.optimalAte frobConstsR uParam q p) := by
  rw [← gen_optimalAte_eq_model, ← frobConstsR_val]
  exact (map_optimalAte valHom frobConstsR uParam q p).symm

/-- **the implemented pairing on reduced points** is reduced and decodes to the translated `optimalAte`
evaluated over ZMod p at the decoded constants -/
theorem optimalAte_concrete (q : G2J) (p : G1J) (hq : Jac.Reduced2 q) (hp : Jac.Reduced p) :
    Red12 (Dos.Bn256.optimalAte q p) ∧
    dec12 (Dos.Bn256.optimalAte q p) = Bn256Code.optimalAte frobConstsFp uParam (Jac.decJ2 q) (Jac.decJ p) := by
  have e := optimalAte_val (Jac.lift2 q hq) (Jac.lift p hp)
  rw [Jac.val_lift2, Jac.val_lift] at e
  rw [e]
  exact ⟨red12_val _, map_optimalAte decHom frobConstsR uParam _ _⟩

end Dos.Bn256.MillerNat
