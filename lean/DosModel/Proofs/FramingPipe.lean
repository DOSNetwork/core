/-
Helper lemmas for `Props/C15Pipe.lean`: the scripted write loop, the `sendPipe` / `readPipe` pair,
the width of `int`, two writers on one connection.
-/
import DosModel.Model.FramingPipe
import DosModel.Props.C15

namespace Dos.Framing
open Dos Dos.Props.C15

/-- whatever each `Write` does, what the transport has accepted is a prefix of the buffer: the whole buffer
when the loop ended without an error, and an error only when a `Write` of the script failed -/
theorem writeLoopX_prefix : ∀ (as : List WAct) (bs : Bytes),
    ∃ t, (writeLoopX bs as).pieces.flatten ++ t = bs ∧ ((writeLoopX bs as).err = false → t = []) ∧
      ((writeLoopX bs as).err = true → ∃ k, WAct.fail k ∈ as) := by
  intro as
  induction as with
  | nil => intro bs; cases bs <;> exact ⟨[], by simp [writeLoopX]⟩
  | cons a as ih =>
    intro bs
    cases bs with
    | nil => exact ⟨[], by simp [writeLoopX]⟩
    | cons b bs =>
      cases a with
      | acc k =>
        obtain ⟨t, h1, h2, h3⟩ := ih ((b :: bs).drop k)
        refine ⟨t, ?_, h2, fun h => (h3 h).imp fun _ => List.mem_cons_of_mem _⟩
        simp only [writeLoopX, List.isEmpty_cons, Bool.false_eq_true, if_false, List.flatten_cons,
          List.append_assoc, h1]
        exact List.take_append_drop k (b :: bs)
      | fail k =>
        refine ⟨(b :: bs).drop k, ?_, nofun, fun _ => ⟨k, List.mem_cons_self⟩⟩
        simp only [writeLoopX, List.isEmpty_cons, Bool.false_eq_true, if_false, List.flatten_cons,
          List.flatten_nil, List.append_nil]
        exact List.take_append_drop k (b :: bs)

theorem writeLoopX_noerr (as : List WAct) (bs : Bytes) (h : ∀ a ∈ as, ∃ k, a = WAct.acc k) :
    (writeLoopX bs as).err = false := by
  obtain ⟨_, _, _, h3⟩ := writeLoopX_prefix as bs
  cases he : (writeLoopX bs as).err with
  | false => rfl
  | true =>
    obtain ⟨k, hk⟩ := h3 he
    obtain ⟨k', hk'⟩ := h _ hk
    cases hk'

theorem sendPipe_broken (L : Nat) (sticky : Bool) : ∀ (ps : List Bytes) (as : List WAct),
    (sendPipe L sticky true ps as).1 = [] := by
  intro ps
  induction ps with
  | nil => intro as; rfl
  | cons p ps ih =>
    intro as
    cases hw : writeFrame L p with
    | none => simp [sendPipe, hw, ih]
    | some s => simp [sendPipe, hw, ih]

theorem sendPipe_cons_ok {L : Nat} {sticky : Bool} {p s : Bytes} {as : List WAct} (ps : List Bytes)
    (hw : writeFrame L p = some s) (he : (writeLoopX s as).err = false) :
    sendPipe L sticky false (p :: ps) as =
      ((writeLoopX s as).pieces ++ (sendPipe L sticky false ps (writeLoopX s as).rest).1,
        false :: (sendPipe L sticky false ps (writeLoopX s as).rest).2) := by
  simp only [sendPipe, hw, he, Bool.false_and, Bool.false_eq_true, if_false]

theorem sendPipe_cons_err {L : Nat} {p s : Bytes} {as : List WAct} (ps : List Bytes)
    (hw : writeFrame L p = some s) (he : (writeLoopX s as).err = true) :
    sendPipe L true false (p :: ps) as =
      ((writeLoopX s as).pieces, true :: (sendPipe L true true ps (writeLoopX s as).rest).2) := by
  simp only [sendPipe, hw, he, Bool.and_self, if_false, Bool.false_eq_true, sendPipe_broken L true ps,
    List.append_nil]

/-- frames written without an error before the first failing `writeTo` -/
def okCount : List Bool → Nat
  | [] => 0
  | true :: _ => 0
  | false :: es => okCount es + 1

/-- `pre` is nothing, or a frame cut short -/
def Trunc (L : Nat) (pre : Bytes) : Prop :=
  pre = [] ∨ ∃ p t, 1 ≤ p.length ∧ p.length ≤ L ∧ t ≠ [] ∧ pre ++ t = natBE 4 p.length ++ p

/-- what `sendPipe` puts on a sticky transport: whole frames of a prefix `qs` of the payloads, then
nothing or a frame cut short; `qs` holds every frame written without error before the first failure
and at most one more (the frame whose last `Write` took all its bytes and still reported an error);
when `qs` is all of the payloads nothing is cut short -/
theorem sendPipe_wire_shape (L : Nat) : ∀ (ps : List Bytes) (as : List WAct),
    (∀ p ∈ ps, 1 ≤ p.length ∧ p.length ≤ L) →
    ∃ qs pre, qs <+: ps ∧ (sendPipe L true false ps as).1.flatten = wire qs pre ∧ Trunc L pre ∧
      okCount (sendPipe L true false ps as).2 ≤ qs.length ∧
      qs.length ≤ okCount (sendPipe L true false ps as).2 + 1 ∧ (qs.length = ps.length → pre = []) := by
  intro ps
  induction ps with
  | nil => intro as _; exact ⟨[], [], List.prefix_refl _, rfl, Or.inl rfl, by simp [sendPipe, okCount]⟩
  | cons p ps ih =>
    intro as hv
    have hp := hv p List.mem_cons_self
    have hw : writeFrame L p = some (natBE 4 p.length ++ p) := (write_limit L p).2 hp.2
    obtain ⟨t, ht, hte, _⟩ := writeLoopX_prefix as (natBE 4 p.length ++ p)
    cases he : (writeLoopX (natBE 4 p.length ++ p) as).err with
    | false =>
      cases hte he
      rw [List.append_nil] at ht
      obtain ⟨qs, pre, hq, hwq, htr, h1, h2, h3⟩ := ih (writeLoopX (natBE 4 p.length ++ p) as).rest
        fun q hq => hv q (List.mem_cons_of_mem _ hq)
      rw [sendPipe_cons_ok ps hw he]
      refine ⟨p :: qs, pre, (List.prefix_cons_inj p).mpr hq, ?_, htr, ?_, ?_, fun h => h3 (Nat.succ.inj h)⟩
      · simp only [List.flatten_append, hwq, ht, wire]
      · simp only [okCount, List.length_cons]; omega
      · simp only [okCount, List.length_cons]; omega
    | true =>
      rw [sendPipe_cons_err ps hw he]
      by_cases htn : t = []
      · subst htn
        rw [List.append_nil] at ht
        exact ⟨[p], [], (List.prefix_cons_inj p).mpr List.nil_prefix, by simp only [ht, wire, List.append_nil],
          Or.inl rfl, by simp [okCount], by simp [okCount], fun _ => rfl⟩
      · exact ⟨[], _, List.nil_prefix, rfl, Or.inr ⟨p, t, hp.1, hp.2, htn, ht⟩, by simp [okCount],
          by simp [okCount], nofun⟩

theorem parseFrame_trunc (L : Nat) (hL : L < 2 ^ 32) (pre : Bytes) (h : Trunc L pre) :
    ∃ e, (parseFrame 0 L pre).out = .error e := by
  rcases h with rfl | ⟨p, t, hp1, hpL, htn, ht⟩
  · exact ⟨.header, rfl⟩
  · have htl := List.length_pos_iff.mpr htn
    have hlen := congrArg List.length ht
    rw [List.length_append, List.length_append, CodecBytes.natBE_length] at hlen
    by_cases h4 : pre.length < 4 + 0
    · exact ⟨.header, by rw [parseFrame, if_pos h4]⟩
    · -- the header is whole: `pre` is the header and a strict prefix of the payload
      have e4 : pre.take 4 = natBE 4 p.length := by
        have := congrArg (List.take 4) ht
        rwa [List.take_append_of_le_length (by omega), List.take_left' (CodecBytes.natBE_length 4 _)] at this
      exact ⟨.body, by
        rw [parseFrame, if_neg h4, e4, beNat_natBE4 _ (by omega), if_neg (by omega), if_pos (by omega)]⟩

theorem wire_length_ge : ∀ (qs : List Bytes) (pre : Bytes), qs.length ≤ (wire qs pre).length := by
  intro qs
  induction qs with
  | nil => intro pre; simp
  | cons p qs ih =>
    intro pre
    have := ih pre
    simp only [wire, List.length_append, CodecBytes.natBE_length, List.length_cons]; omega

/-- `readPipe` on the frames `qs` followed by `rest`: the payloads, then what reading on makes of `rest` -/
theorem readPipe_wire (L : Nat) (hL : L < 2 ^ 32) (qs : List Bytes) (rest : Bytes)
    (hv : ∀ p ∈ qs, 1 ≤ p.length ∧ p.length ≤ L) (cs : List Bytes) (hcs : cs.flatten = wire qs rest) :
    ∃ j, (readPipe L cs).1 = qs.map .ok ++ (parseFrames L (j + 1) rest).1 := by
  have := wire_length_ge qs rest
  obtain ⟨j, hj⟩ : ∃ j, cs.flatten.length + 1 = qs.length + (j + 1) :=
    ⟨cs.flatten.length - qs.length, by rw [hcs]; omega⟩
  exact ⟨j, by rw [readPipe, hj, congrArg Prod.fst (readFrames_flat L _ cs), hcs,
    parseFrames_frames L hL wire (fun _ => rfl) (fun _ _ _ => rfl) rest _ qs hv]⟩

/-- `int(size)` is exact on every platform whose `int` has at least 32 bits, as long as `size < 2^31` -/
theorem intOfU32_exact (w : Nat) (hw : 32 ≤ w) (x : BitVec 32) (hx : x.toNat < 2 ^ 31) :
    intOfU32 w x = x.toNat := by
  unfold intOfU32
  have h32 : (2 : Nat) ^ 32 ≤ 2 ^ w := Nat.pow_le_pow_right (by omega) hw
  have hn : (x.setWidth w).toNat = x.toNat := by
    rw [BitVec.toNat_setWidth]; exact Nat.mod_eq_of_lt (by omega)
  rw [BitVec.toInt_eq_toNat_cond, hn]
  have : 2 * x.toNat < 2 ^ w := by omega
  simp [this]

theorem readFrameW_eq (w : Nat) (hw : 32 ≤ w) (L : Nat) (hL : L < 2 ^ 31) (cs : List Bytes) :
    readFrameW w L cs = readFrame L cs := by
  unfold readFrameW readFrame
  cases h1 : readN headerSize cs with
  | none => rfl
  | some x =>
    obtain ⟨h, cs1⟩ := x
    have hlt : beNat h < 2 ^ 32 := by simpa [readN_length h1, headerSize] using CodecBytes.beNat_lt h
    have hsz : (BitVec.ofNat 32 (beNat h)).toNat = beNat h := Nat.mod_eq_of_lt hlt
    have hLn : (BitVec.ofNat 32 L).toNat = L := Nat.mod_eq_of_lt (by omega)
    -- the unsigned comparisons of the code are the comparisons of the numbers
    have hcond : (BitVec.ofNat 32 (beNat h) > BitVec.ofNat 32 L ∨ BitVec.ofNat 32 (beNat h) ≤ 0#32) ↔
        (beNat h > L ∨ beNat h = 0) := by
      rw [gt_iff_lt, BitVec.lt_def, BitVec.le_def, hsz, hLn]; simp
    simp only [hcond]
    split
    · rfl
    · have hint : (intOfU32 w (BitVec.ofNat 32 (beNat h))).toNat = beNat h := by
        rw [intOfU32_exact w hw _ (by rw [hsz]; omega), hsz]; rfl
      rw [hint, hsz]
      cases h2 : readN (beNat h) cs1 with
      | none => rfl
      | some y => simp [readN_length h2]

theorem mergeWrites_nil_right : ∀ (sch : List Bool) (a : List Bytes), mergeWrites sch a [] = a := by
  intro sch
  induction sch with
  | nil => intro a; exact List.append_nil a
  | cons x sch ih => intro a; cases x <;> cases a <;> simp [mergeWrites, ih]

theorem mergeWrites_nil_left : ∀ (sch : List Bool) (b : List Bytes), mergeWrites sch [] b = b := by
  intro sch
  induction sch with
  | nil => intro b; rfl
  | cons x sch ih => intro b; cases x <;> cases b <;> simp [mergeWrites, ih]

/-- when each writer hands its whole frame to the transport in ONE `Write` (what `writeTo` does on a
transport that takes everything: header and payload are one buffer), any order of the two `Write`s
leaves one whole frame after the other on the wire: whoever comes first, the other has one piece left -/
theorem mergeWrites_single (sch : List Bool) (fa fb : Bytes) :
    (mergeWrites sch [fa] [fb]).flatten = fa ++ fb ∨ (mergeWrites sch [fa] [fb]).flatten = fb ++ fa := by
  cases sch with
  | nil => left; simp [mergeWrites]
  | cons x sch =>
    cases x
    · right; simp [mergeWrites, mergeWrites_nil_right]
    · left; simp [mergeWrites, mergeWrites_nil_left]

end Dos.Framing
