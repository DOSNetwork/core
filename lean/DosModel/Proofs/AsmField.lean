/-
C10 / E2 — the interpreted assembly of gfpNeg / gfpAdd / gfpSub (regenerated listing
`Gen/Bn256Asm.lean`, semantics `Model/AsmInterp.lean`) equals the limb model of
`Model/Mont.lean`, for EVERY machine state: any register contents, any flags, any
frame junk, any memory, any aliasing of the three pointer arguments, any values of the
package variables. The proofs are definitional unfolding: the interpreter is evaluated on
the symbolic state and must produce exactly the limb expressions. A change of one
instruction in gfp.s breaks them. The elaborator's own unifier is slow at this (and far too
slow for the ≈ 300 instructions of gfpMul, Proofs/AsmMul.lean), so the proof term `Eq.refl _`
is handed to the Lean KERNEL directly (`kernel_rfl`): the kernel, which is the trusted
checker anyway, verifies the definitional equality.
-/
import Lean
import DosModel.Proofs.KernelRfl
import DosModel.Model.AsmInterp
import DosModel.Model.Mont
import DosModel.Gen.Bn256Asm
import DosModel.Model.AsmBn256
import DosModel.Model.Bn256Field

namespace Dos.Asm
open Dos.Mont Dos.Gen.Bn256Asm

/-- memory after the four `MOVQ Ri, 8i(DI)` stores of a result block -/
def store4 (blk : Blk) (v : L4) (m : Blk → Nat → Nat) : Blk → Nat → Nat :=
  fun k i => if k = blk ∧ i = 3 then v.l3 else if k = blk ∧ i = 2 then v.l2
    else if k = blk ∧ i = 1 then v.l1 else if k = blk ∧ i = 0 then v.l0 else m k i

def load4 (m : Blk → Nat → Nat) (blk : Blk) : L4 := ⟨m blk 0, m blk 1, m blk 2, m blk 3⟩

/-- the modulus the code reads from the package variable `p2` -/
def envP (e : Env) : L4 := ⟨e.p2 0, e.p2 1, e.p2 2, e.p2 3⟩

/-- what a caller can observe of a finished run: the aliasing and the memory -/
def Outcome.final : Outcome → Option ((Blk → Blk) × (Blk → Nat → Nat))
  | .ok s => some (s.alias, s.mem)
  | .err _ => none

theorem Outcome.final_eq_some {o : Outcome} {al : Blk → Blk} {m : Blk → Nat → Nat}
    (h : o.final = some (al, m)) : ∃ s, o = .ok s ∧ s.alias = al ∧ s.mem = m := by
  cases o with
  | ok s => exact ⟨s, rfl, congrArg Prod.fst (Option.some.inj h), congrArg Prod.snd (Option.some.inj h)⟩
  | err _ => cases h

theorem gfpAdd_interp (e : Env) (s : State) (junk : Nat) :
    (call e gfpAdd s junk).final = some (s.alias, store4 (s.alias .c)
      (addLimbs (envP e) (load4 s.mem (s.alias .a)) (load4 s.mem (s.alias .b))) s.mem) := by
  kernel_rfl

theorem gfpSub_interp (e : Env) (s : State) (junk : Nat) :
    (call e gfpSub s junk).final = some (s.alias, store4 (s.alias .c)
      (subLimbs (envP e) (load4 s.mem (s.alias .a)) (load4 s.mem (s.alias .b))) s.mem) := by
  kernel_rfl

theorem gfpNeg_interp (e : Env) (s : State) (junk : Nat) :
    (call e gfpNeg s junk).final = some (s.alias, store4 (s.alias .c)
      (negLimbs (envP e) (load4 s.mem (s.alias .a))) s.mem) := by
  kernel_rfl

theorem load4_store4_same (blk : Blk) (v : L4) (m : Blk → Nat → Nat) : load4 (store4 blk v m) blk = v := by
  simp [load4, store4]

theorem store4_other (blk k : Blk) (v : L4) (m : Blk → Nat → Nat) (h : k ≠ blk) (i : Nat) :
    store4 blk v m k i = m k i := by
  simp [store4, h]

/-- words of a block beyond index 3 do not exist for the code: nothing else is written -/
theorem store4_high (blk k : Blk) (v : L4) (m : Blk → Nat → Nat) (i : Nat) (h : 4 ≤ i) :
    store4 blk v m k i = m k i := by
  have h3 : i ≠ 3 := by omega
  have h2 : i ≠ 2 := by omega
  have h1 : i ≠ 1 := by omega
  have h0 : i ≠ 0 := by omega
  simp [store4, h3, h2, h1, h0]

theorem envP_codeEnv (bmi2 : Bool) : (envP (codeEnv bmi2)).ok ∧ (envP (codeEnv bmi2)).val = Bn256.p := by
  cases bmi2 <;> exact ⟨by unfold L4.ok; decide, rfl⟩

theorem envNp_codeEnv (bmi2 : Bool) :
    (L4.mk ((codeEnv bmi2).np 0) ((codeEnv bmi2).np 1) ((codeEnv bmi2).np 2) ((codeEnv bmi2).np 3)).ok ∧
    (L4.mk ((codeEnv bmi2).np 0) ((codeEnv bmi2).np 1) ((codeEnv bmi2).np 2) ((codeEnv bmi2).np 3)).val
      = Bn256.np := by
  cases bmi2 <;> exact ⟨by unfold L4.ok; decide, rfl⟩

theorem store4_result (blk : Blk) (v : L4) (m : Blk → Nat → Nat) {x : Nat} (hv : v.val = x) (hok : v.ok) :
    (load4 (store4 blk v m) blk).val = x ∧ (load4 (store4 blk v m) blk).ok ∧
      ∀ k i, k ≠ blk → store4 blk v m k i = m k i := by
  rw [load4_store4_same]
  exact ⟨hv, hok, fun k i hk => store4_other _ _ _ _ hk i⟩

end Dos.Asm
