/-
C20 — the ref10 coordinate formulas compute the Edwards addition law of `EdwardsCurve.lean`.

A curve point (x, y) is represented by extended coordinates (X : Y : Z : T) with Z ≠ 0,
x = X/Z, y = Y/Z, X·Y = Z·T (projective: drop T). ref10's Add / Sub / MixedAdd / MixedSub /
Double produce a "completed" point ((cX : cZ), (cY : cT)); the theorems below say that
cZ ≠ 0, cT ≠ 0, cX/cZ and cY/cT are the coordinates of the Edwards sum (resp. difference,
double). `completed_toExtended` / `completed_toProjective` are the conversions back.

Every intermediate value is a variable tied to its defining expression by a hypothesis, so a
caller can discharge them with `rfl` against a transcription that computes in the same order.
Pure field identities; the only non-trivial input is completeness (`denom_ne_zero`).
-/
import DosModel.Proofs.EdwardsCurve

namespace Dos.Edwards

variable {K : Type*} [Field K]

/-- If the completed coordinates are a common non-zero multiple k of the numerators and
denominators of the addition law, they represent the same quotients. -/
theorem completed_of_scaled {k N Dp M Dm cX cY cZ cT : K} (hk : k ≠ 0) (hDp : Dp ≠ 0)
    (hDm : Dm ≠ 0) (hX : cX = k * N) (hZ : cZ = k * Dp) (hY : cY = k * M) (hT : cT = k * Dm) :
    cZ ≠ 0 ∧ cT ≠ 0 ∧ cX / cZ = N / Dp ∧ cY / cT = M / Dm := by
  subst hX hZ hY hT
  exact ⟨mul_ne_zero hk hDp, mul_ne_zero hk hDm, mul_div_mul_left _ _ hk, mul_div_mul_left _ _ hk⟩

/-- completed ((cX:cZ),(cY:cT)) → extended (cX·cT : cY·cZ : cZ·cT : cX·cY) -/
theorem completed_toExtended {cX cY cZ cT x y : K} (hZ : cZ ≠ 0) (hT : cT ≠ 0)
    (hx : cX / cZ = x) (hy : cY / cT = y) :
    cZ * cT ≠ 0 ∧ (cX * cT) / (cZ * cT) = x ∧ (cY * cZ) / (cZ * cT) = y
      ∧ (cX * cT) * (cY * cZ) = (cZ * cT) * (cX * cY) := by
  refine ⟨mul_ne_zero hZ hT, ?_, ?_, by ring⟩
  · rw [mul_div_mul_right _ _ hT, hx]
  · rw [mul_comm cZ cT, mul_div_mul_right _ _ hZ, hy]

/-- completed ((cX:cZ),(cY:cT)) → projective (cX·cT : cY·cZ : cZ·cT) -/
theorem completed_toProjective {cX cY cZ cT x y : K} (hZ : cZ ≠ 0) (hT : cT ≠ 0)
    (hx : cX / cZ = x) (hy : cY / cT = y) :
    cZ * cT ≠ 0 ∧ (cX * cT) / (cZ * cT) = x ∧ (cY * cZ) / (cZ * cT) = y :=
  let ⟨a, b, c, _⟩ := completed_toExtended hZ hT hx hy
  ⟨a, b, c⟩

/-- extended → projective: forget T -/
theorem extended_toProjective {X Y Z x y : K} (hZ : Z ≠ 0) (hx : X / Z = x) (hy : Y / Z = y) :
    Z ≠ 0 ∧ X / Z = x ∧ Y / Z = y := ⟨hZ, hx, hy⟩

/-- the coordinates of an extended representation (X : Y : Z : T) of (x, y), denominators cleared -/
theorem extended_eq {X Y Z T x y : K} (hZ : Z ≠ 0) (hx : X / Z = x) (hy : Y / Z = y) (hT : X * Y = Z * T) :
    X = x * Z ∧ Y = y * Z ∧ T = x * y * Z := by
  have eX : X = x * Z := (div_eq_iff hZ).1 hx
  have eY : Y = y * Z := (div_eq_iff hZ).1 hy
  exact ⟨eX, eY, mul_left_cancel₀ hZ (by rw [← hT, eX, eY]; ring)⟩

/-- The operand the addition formulas consume, from an extended representation: (Y+X, Y−X, Z, T·2d) =
((y+x)·Z, (y−x)·Z, Z, 2d·x·y·Z). This is ref10's "cached" form; its "precomputed" form is the same with Z = 1. -/
theorem cached_of_extended {X Y Z T x y : K} (d : K) (hZ : Z ≠ 0) (hx : X / Z = x) (hy : Y / Z = y)
    (hT : X * Y = Z * T) :
    Y + X = (y + x) * Z ∧ Y - X = (y - x) * Z ∧ T * (2 * d) = 2 * d * x * y * Z := by
  obtain ⟨rfl, rfl, rfl⟩ := extended_eq hZ hx hy hT
  exact ⟨by ring, by ring, by ring⟩

/-- ref10 `ge_add` and `ge_madd`: extended (X1 : Y1 : Z1 : T1) of P1, plus P2 in cached form (precomputed: Z2 = 1)
→ completed P1 + P2. -/
theorem add_formula {E : Params K} (P1 P2 : Point E)
    {X1 Y1 Z1 T1 Z2 yPlusX yMinusX t2d A B C D cX cY cZ cT : K}
    (hZ1 : Z1 ≠ 0) (hx1 : X1 / Z1 = P1.x) (hy1 : Y1 / Z1 = P1.y) (hT1 : X1 * Y1 = Z1 * T1) (hZ2 : Z2 ≠ 0)
    (hyp : yPlusX = (P2.y + P2.x) * Z2) (hym : yMinusX = (P2.y - P2.x) * Z2)
    (ht : t2d = 2 * E.d * P2.x * P2.y * Z2)
    (hA : A = (Y1 - X1) * yMinusX) (hB : B = (Y1 + X1) * yPlusX) (hC : C = t2d * T1) (hD : D = 2 * (Z1 * Z2))
    (hcX : cX = B - A) (hcY : cY = B + A) (hcZ : cZ = D + C) (hcT : cT = D - C) :
    cZ ≠ 0 ∧ cT ≠ 0 ∧ cX / cZ = (P1 + P2).x ∧ cY / cT = (P1 + P2).y := by
  obtain ⟨hp, hm⟩ := Point.denom_ne_zero P1 P2
  obtain ⟨eX, eY, eT⟩ := extended_eq hZ1 hx1 hy1 hT1
  subst hyp hym ht hA hB hC hD hcX hcY hcZ hcT eX eY eT
  rw [add_x, add_y]
  exact completed_of_scaled (mul_ne_zero E.two_ne (mul_ne_zero hZ1 hZ2)) hp hm (by ring) (by ring) (by ring) (by ring)

/-- ref10 `ge_sub` and `ge_msub`: the same with the roles of Y2+X2 and Y2−X2 exchanged and C negated, which is
the addition of −P2. -/
theorem sub_formula {E : Params K} (P1 P2 : Point E)
    {X1 Y1 Z1 T1 Z2 yPlusX yMinusX t2d A B C D cX cY cZ cT : K}
    (hZ1 : Z1 ≠ 0) (hx1 : X1 / Z1 = P1.x) (hy1 : Y1 / Z1 = P1.y) (hT1 : X1 * Y1 = Z1 * T1) (hZ2 : Z2 ≠ 0)
    (hyp : yPlusX = (P2.y + P2.x) * Z2) (hym : yMinusX = (P2.y - P2.x) * Z2)
    (ht : t2d = 2 * E.d * P2.x * P2.y * Z2)
    (hA : A = (Y1 - X1) * yPlusX) (hB : B = (Y1 + X1) * yMinusX) (hC : C = t2d * T1) (hD : D = 2 * (Z1 * Z2))
    (hcX : cX = B - A) (hcY : cY = B + A) (hcZ : cZ = D - C) (hcT : cT = D + C) :
    cZ ≠ 0 ∧ cT ≠ 0 ∧ cX / cZ = (P1 + -P2).x ∧ cY / cT = (P1 + -P2).y :=
  add_formula P1 (-P2) hZ1 hx1 hy1 hT1 hZ2 (t2d := -t2d) (C := -C) (by rw [hym, neg_x, neg_y]; ring)
    (by rw [hyp, neg_x, neg_y]; ring) (by rw [ht, neg_x, neg_y]; ring) hA hB (by rw [hC]; ring) hD hcX hcY
    (by rw [hcZ]; ring) (by rw [hcT]; ring)

/-- ref10 `ge_p2_dbl` (projective → completed): computes P + P. -/
theorem dbl_formula {E : Params K} (P : Point E) {X Y Z XX YY ZZ2 S cX cY cZ cT : K}
    (hZ : Z ≠ 0) (hx : X / Z = P.x) (hy : Y / Z = P.y)
    (hXX : XX = X * X) (hYY : YY = Y * Y) (hZZ2 : ZZ2 = 2 * (Z * Z)) (hS : S = (X + Y) * (X + Y))
    (hcY : cY = YY + XX) (hcZ : cZ = YY - XX) (hcX : cX = S - cY) (hcT : cT = ZZ2 - cZ) :
    cZ ≠ 0 ∧ cT ≠ 0 ∧ cX / cZ = (P + P).x ∧ cY / cT = (P + P).y := by
  obtain ⟨hp, hm⟩ := Point.denom_ne_zero P P
  have eX : X = P.x * Z := (div_eq_iff hZ).1 hx
  have eY : Y = P.y * Z := (div_eq_iff hZ).1 hy
  have hc := P.on
  unfold OnCurve at hc
  subst hXX hYY hZZ2 hS hcX hcT hcY hcZ eX eY
  rw [add_x, add_y]
  exact completed_of_scaled (mul_ne_zero hZ hZ) hp hm (by ring) (by linear_combination Z * Z * hc) (by ring)
    (by linear_combination -(Z * Z) * hc)

end Dos.Edwards
