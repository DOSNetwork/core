/-
C20 — `geScalarMultBase` of ge.go computes k • B, GIVEN that the precomputed table `base` (const.go,
regenerated as Gen.Ed25519GeTable.c_base) holds the multiples it is documented to hold:

    BaseTableOK B :  base[i][j] represents (j + 1)·256^i • B     (i < 32, j < 8)

(the table itself is checked elsewhere).  The code: h = Σ_k e[2k+1]·256^k • B (32 selectPreComputed/MixedAdd rounds on
the odd digits, row k), h ← 16·h (extended.Double, three ToProjective/Double, ToExtended), then h += Σ_k e[2k]·256^k • B
(32 rounds on the even digits).  Σ e[2k+1]·256^k·16 + Σ e[2k]·256^k = Σ e[i]·16^i = leNat a.
-/
import Mathlib.Tactic.Abel
import DosModel.Proofs.GeScalarMult

set_option exponentiation.threshold 600

namespace Dos.Ge
open Dos Dos.Ed25519 Dos.FeProg Dos.FeOps Dos.GeProg Dos.Ed25519Prime Dos.Edwards Dos.Gen.Ed25519Ge

theorem tab_entry (B : Pt) (j k : ℕ) : ((j + 1) * 256 ^ k) • B = (j + 1) • (((256 : ℤ) ^ k) • B) := by
  have h : (256 ^ k : ℕ) • B = ((256 : ℤ) ^ k) • B := by
    rw [← natCast_zsmul]
    push_cast
    rfl
  rw [mul_smul, h]

/-- one round `selectPreComputed(&t, k, e); r.MixedAdd(h, &t); r.ToExtended(h)` on table row k -/
theorem baseRound {B : Pt} (htab : BaseTableOK B) {h : Ext} {s : Int} (hh : GoodExt h (s • B)) (k : Nat) (hk : k < 32)
    (b : Int) (hb : -8 ≤ b ∧ b ≤ 8) :
    GoodExt (complToExt (complMixedAdd h (selectPreComputed k b))) ((s + b * 256 ^ k) • B) := by
  have hsel := selectPreComputed_spec k (((256 : ℤ) ^ k) • B)
    (fun j hj => by rw [← tab_entry]; exact htab k j hk hj) b hb
  have := complToExt_spec (complMixedAdd_spec hh hsel)
  rw [add_smul, mul_smul]
  exact this

/-- `h.Double(&r)`, three `r.ToProjective(&s); s.Double(&r)`, `r.ToExtended(h)` -/
theorem baseMul16 {h : Ext} {Q : Pt} (hh : GoodExt h Q) :
    GoodExt (complToExt (projDouble (complToProj (projDouble (complToProj (projDouble (complToProj (extDouble h))))))))
      ((16 : Int) • Q) := by
  have h1 := complToExt_spec (projDouble_spec (complToProj_spec (projDouble_spec (complToProj_spec (projDouble_spec
    (complToProj_spec (extDouble_spec hh)))))))
  rw [sixteen_zsmul]; exact h1

theorem geScalarMultBase_eq (a : Bytes) :
    geScalarMultBase a = (List.range 32).foldl
      (fun h k => complToExt (complMixedAdd h (selectPreComputed (2 * k / 2) ((recode (nybbles a)).getD (2 * k) 0))))
      (complToExt (projDouble (complToProj (projDouble (complToProj (projDouble (complToProj (extDouble
        ((List.range 32).foldl
          (fun h k => complToExt (complMixedAdd h
            (selectPreComputed ((2 * k + 1) / 2) ((recode (nybbles a)).getD (2 * k + 1) 0)))) extZero))))))))) := rfl

theorem digitsVal_eq_sum (l : List Int) : digitsVal l = ∑ i ∈ Finset.range l.length, l.getD i 0 * 16 ^ i := by
  induction l with
  | nil => rfl
  | cons x xs ih =>
    rw [List.length_cons, Finset.sum_range_succ', digitsVal, ih, Finset.mul_sum]
    simp only [List.getD_cons_zero, List.getD_cons_succ, pow_zero, mul_one, pow_succ]
    rw [add_comm]
    congr 1
    exact Finset.sum_congr rfl fun i _ => by ring

theorem recode_sum (a : Bytes) (hlen : a.length = 32) (h31 : (a.getD 31 0).toNat ≤ 127) :
    ∑ i ∈ Finset.range 64, (recode (nybbles a)).getD i 0 * 16 ^ i = (leNat a : Int) := by
  obtain ⟨h1, _, h3⟩ := recode_spec a hlen h31
  rw [← h3, digitsVal_eq_sum, h1]

theorem sum_even_odd (f : Nat → Int) (n : Nat) :
    ∑ i ∈ Finset.range (2 * n), f i = ∑ k ∈ Finset.range n, f (2 * k) + ∑ k ∈ Finset.range n, f (2 * k + 1) := by
  induction n with
  | zero => rfl
  | succ n ih =>
    rw [show 2 * (n + 1) = 2 * n + 1 + 1 by ring, Finset.sum_range_succ, Finset.sum_range_succ, ih,
      Finset.sum_range_succ, Finset.sum_range_succ]
    ring

theorem digits_even_odd (e : List Int) (hl : e.length = 64) :
    digitsVal e = 16 * ∑ k ∈ Finset.range 32, e.getD (2 * k + 1) 0 * 256 ^ k
      + ∑ k ∈ Finset.range 32, e.getD (2 * k) 0 * 256 ^ k := by
  have ho : ∀ k ∈ Finset.range 32, e.getD (2 * k + 1) 0 * 16 ^ (2 * k + 1) = 16 * (e.getD (2 * k + 1) 0 * 256 ^ k) :=
    fun k _ => by rw [pow_succ, pow_mul]; norm_num; ring
  have he : ∀ k ∈ Finset.range 32, e.getD (2 * k) 0 * 16 ^ (2 * k) = e.getD (2 * k) 0 * 256 ^ k :=
    fun k _ => by rw [pow_mul]; norm_num
  rw [digitsVal_eq_sum, hl, show 64 = 2 * 32 from rfl, sum_even_odd, Finset.sum_congr rfl ho, Finset.sum_congr rfl he,
    ← Finset.mul_sum, add_comm]

/-- one pass over the digits of one parity (o = 1, then o = 0): 32 rounds on the table rows 0 … 31 -/
theorem basePass {B : Pt} (htab : BaseTableOK B) (e : List Int) (hr : ∀ i, i < 64 → -8 ≤ e.getD i 0 ∧ e.getD i 0 ≤ 8)
    (o : Nat) (ho : o ≤ 1) {h0 : Ext} {s : Int} (hh : GoodExt h0 (s • B)) :
    GoodExt ((List.range 32).foldl
        (fun h k => complToExt (complMixedAdd h (selectPreComputed ((2 * k + o) / 2) (e.getD (2 * k + o) 0)))) h0)
      ((s + ∑ k ∈ Finset.range 32, e.getD (2 * k + o) 0 * 256 ^ k) • B) :=
  foldl_range_inv _ (fun n h => GoodExt h ((s + ∑ k ∈ Finset.range n, e.getD (2 * k + o) 0 * 256 ^ k) • B)) h0 32
    (by rw [Finset.sum_range_zero, add_zero]; exact hh)
    (fun k t hk ht => by
      show GoodExt (complToExt (complMixedAdd t (selectPreComputed ((2 * k + o) / 2) (e.getD (2 * k + o) 0)))) _
      rw [show (2 * k + o) / 2 = k by omega, Finset.sum_range_succ, ← add_assoc]
      exact baseRound htab ht k hk _ (hr (2 * k + o) (by omega)))

/-- **geScalarMultBase computes k • B** (precondition of the Go code: a[31] ≤ 127), given the table -/
theorem geScalarMultBase_spec {B : Pt} (htab : BaseTableOK B) (a : Bytes) (hlen : a.length = 32)
    (h31 : (a.getD 31 0).toNat ≤ 127) : GoodExt (geScalarMultBase a) (leNat a • B) := by
  obtain ⟨hl, hr, hv⟩ := recode_spec a hlen h31
  rw [geScalarMultBase_eq]
  generalize recode (nybbles a) = e at hl hr hv
  have k1 := basePass htab e hr 1 (le_refl 1) (s := 0) (by rw [zero_smul]; exact extZero_spec)
  have k2 := baseMul16 k1
  rw [← mul_smul, zero_add] at k2
  have k3 : GoodExt _ ((16 * ∑ k ∈ Finset.range 32, e.getD (2 * k + 1) 0 * 256 ^ k
      + ∑ k ∈ Finset.range 32, e.getD (2 * k) 0 * 256 ^ k) • B) := basePass htab e hr 0 (Nat.zero_le 1) k2
  rw [← digits_even_odd e hl, hv, natCast_zsmul] at k3
  exact k3

/-- the same, taking also the representation of the base point by the constant `baseExt` (not used: the table
entry (0, 0) already determines `basePt`) -/
theorem geScalarMultBase_spec' {basePt : Pt} (_hB : GoodExt baseExt basePt) (htab : BaseTableOK basePt) (a : Bytes)
    (hlen : a.length = 32) (h31 : (a.getD 31 0).toNat ≤ 127) : GoodExt (geScalarMultBase a) (leNat a • basePt) :=
  geScalarMultBase_spec htab a hlen h31

theorem mulScalar_of_le (a : Bytes) (h31 : (a.getD 31 0).toNat ≤ 127) : mulScalar a = a := by
  unfold mulScalar; rw [if_neg (by omega)]

/-- `P.Mul(s, A)` of point.go (A = nil: the base point) -/
theorem ptMul_spec {basePt : Pt} (htab : BaseTableOK basePt) (a : Bytes) (hlen : a.length = 32)
    (h31 : (a.getD 31 0).toNat ≤ 127) :
    GoodExt (ptMul a none) (leNat a • basePt)
      ∧ ∀ (q : Ext) (Q : Pt), GoodExt q Q → GoodExt (ptMul a (some q)) (leNat a • Q) := by
  have hm : mulScalar a = a := mulScalar_of_le a h31
  exact ⟨by show GoodExt (geScalarMultBase (mulScalar a)) _; rw [hm]; exact geScalarMultBase_spec htab a hlen h31,
    fun q _ hq => by show GoodExt (geScalarMult (mulScalar a) q) _; rw [hm]; exact geScalarMult_spec a hlen h31 hq⟩

end Dos.Ge
