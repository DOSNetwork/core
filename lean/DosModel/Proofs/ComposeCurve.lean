/-
Composition helper: the affine formulas of `Proofs/CurveAffine.lean` for the curves the executable models
`Model/TblsG1.lean` (C02/C03 driver, G1) and `Model/Bn256.lean` (C11/C06, G1 and G2) compute on — `2 ≠ 0`, `3 ≠ 0`, `b ≠ 0`
in `K` (`Good b`), so that a pair satisfying the equation is a nonsingular point and the bridge to Mathlib's group reads
`(aadd P Q).OnCurve b ∧ toPoint (aadd P Q) = toPoint P + toPoint Q` (`aadd_spec`, `adbl_spec`, `aneg_spec`); the MSB-first
double-and-add loop computes `k • toPoint P`; last, an inversion-free (Jacobian) evaluator that decides
`n • P = O` for a given point (`jtorsion_sound`): the affine loop pays one field inversion per step, which
is what the kernel spends its time on when it runs the model's `smul`.
-/
import DosModel.Proofs.CurveAffine

namespace Dos.Compose.Curve
open WeierstrassCurve WeierstrassCurve.Affine

-- `[DecidableEq K]` (what `adbl`, `aadd` test with) is a section variable also of the lemmas that do not need it
set_option linter.unusedSectionVars false

variable {K : Type} [Field K] [DecidableEq K]

/-- curve parameters for which every point of the curve is nonsingular -/
structure Good (b : K) : Prop where
  two : (2 : K) ≠ 0
  three : (3 : K) ≠ 0
  b0 : b ≠ 0

def APt.OnCurve (b : K) : APt K → Prop
  | .inf => True
  | .aff x y => y ^ 2 = x ^ 3 + b

/-- MSB-first double-and-add (the loop of `curvePoint.Mul`), `fuel ≥` number of bits of `k` -/
def asmulAux (P : APt K) : Nat → Nat → APt K
  | 0, _ => .inf
  | fuel + 1, k =>
    if k = 0 then .inf
    else
      let d := adbl (asmulAux P fuel (k / 2))
      if k % 2 = 1 then aadd d P else d

theorem nonsingular_sw {b : K} (g : Good b) (x y : K) : (sw b).Nonsingular x y ↔ y ^ 2 = x ^ 3 + b := by
  rw [nonsingular_iff, equation_sw]
  constructor
  · exact fun h => h.1
  · intro h
    refine ⟨h, ?_⟩
    simp only [sw, zero_mul, mul_zero, add_zero, sub_zero]
    by_cases hy : y = 0
    · left
      intro h0
      have hx2 : x ^ 2 = 0 := by
        have : (3 : K) * x ^ 2 = 0 := by linear_combination -h0
        exact (mul_eq_zero.1 this).resolve_left g.three
      have hx : x = 0 := by simpa using hx2
      rw [hy, hx] at h
      exact g.b0 (by simpa using h.symm)
    · right
      intro h0
      have : (2 : K) * y = 0 := by linear_combination h0
      exact hy ((mul_eq_zero.1 this).resolve_left g.two)

theorem nonsing_iff {b : K} (g : Good b) (P : APt K) : P.Nonsing b ↔ P.OnCurve b := by
  cases P with
  | inf => exact Iff.rfl
  | aff x y => exact nonsingular_sw g x y

theorem aneg_spec {b : K} (g : Good b) (P : APt K) (hP : P.OnCurve b) :
    (aneg P).OnCurve b ∧ toPoint b (aneg P) = -toPoint b P := by
  simpa only [nonsing_iff g] using aneg_point b P ((nonsing_iff g P).2 hP)

theorem adbl_spec {b : K} (g : Good b) (P : APt K) (hP : P.OnCurve b) :
    (adbl P).OnCurve b ∧ toPoint b (adbl P) = toPoint b P + toPoint b P := by
  simpa only [nonsing_iff g] using adbl_point g.two P ((nonsing_iff g P).2 hP)

theorem aadd_spec {b : K} (g : Good b) (P Q : APt K) (hP : P.OnCurve b) (hQ : Q.OnCurve b) :
    (aadd P Q).OnCurve b ∧ toPoint b (aadd P Q) = toPoint b P + toPoint b Q := by
  simpa only [nonsing_iff g] using aadd_point g.two P Q ((nonsing_iff g P).2 hP) ((nonsing_iff g Q).2 hQ)

/-- the coordinates of a point of Mathlib's group: a left inverse of `toPoint` on the curve -/
def ofPoint {b : K} : (sw b).Point → APt K
  | .zero => .inf
  | .some x y _ => .aff x y

theorem ofPoint_toPoint {b : K} (g : Good b) {P : APt K} (hP : P.OnCurve b) : ofPoint (toPoint b P) = P := by
  cases P with
  | inf => rfl
  | aff x y => rw [toPoint_aff x y ((nonsingular_sw g x y).2 hP)]; rfl

theorem toPoint_injOn {b : K} (g : Good b) {P Q : APt K} (hP : P.OnCurve b) (hQ : Q.OnCurve b)
    (h : toPoint b P = toPoint b Q) : P = Q := by
  rw [← ofPoint_toPoint g hP, h, ofPoint_toPoint g hQ]

theorem toPoint_eq_zero_iff {b : K} (g : Good b) {P : APt K} (hP : P.OnCurve b) :
    toPoint b P = 0 ↔ P = .inf := by
  constructor
  · intro h; exact toPoint_injOn g hP trivial (by rw [h]; rfl)
  · rintro rfl; rfl

/-- **the double-and-add loop is scalar multiplication in the group** -/
theorem asmulAux_spec {b : K} (g : Good b) (P : APt K) (hP : P.OnCurve b) :
    ∀ fuel k, k < 2 ^ fuel →
      (asmulAux P fuel k).OnCurve b ∧ toPoint b (asmulAux P fuel k) = k • toPoint b P := by
  intro fuel
  induction fuel with
  | zero =>
    intro k hk
    have : k = 0 := by simpa using hk
    subst this
    exact ⟨trivial, by simp [asmulAux, toPoint]⟩
  | succ fuel ih =>
    intro k hk
    unfold asmulAux
    by_cases h0 : k = 0
    · subst h0; exact ⟨trivial, by simp [toPoint]⟩
    · simp only [h0, if_false]
      have hlt : k / 2 < 2 ^ fuel := by
        rw [Nat.div_lt_iff_lt_mul (by decide)]; rw [pow_succ] at hk; exact hk
      obtain ⟨hc, hp⟩ := ih (k / 2) hlt
      obtain ⟨hdc, hdp⟩ := adbl_spec g _ hc
      by_cases hodd : k % 2 = 1
      · simp only [hodd, if_true]
        obtain ⟨hac, hap⟩ := aadd_spec g _ P hdc hP
        refine ⟨hac, ?_⟩
        rw [hap, hdp, hp, ← add_nsmul, ← succ_nsmul]
        congr 1
        omega
      · simp only [hodd, if_false]
        refine ⟨hdc, ?_⟩
        rw [hdp, hp, ← add_nsmul]
        congr 1
        omega

/-! ### an inversion-free evaluator for `n • P = O`

Jacobian double-and-add over a carrier `α` (numbers mod p, pairs of them) whose operations are carried to
those of `K` by `φ`; every step checks that it is not one of the exceptional cases of the formulas. -/


/-- the ring operations of a carrier of field elements, with its test for zero -/
structure FOps (α : Type) where
  add : α → α → α
  sub : α → α → α
  mul : α → α → α
  isZero : α → Bool

structure FOps.Hom {α : Type} (o : FOps α) (φ : α → K) : Prop where
  add : ∀ a b, φ (o.add a b) = φ a + φ b
  sub : ∀ a b, φ (o.sub a b) = φ a - φ b
  mul : ∀ a b, φ (o.mul a b) = φ a * φ b
  isZero : ∀ a, o.isZero a = true ↔ φ a = 0

variable {α : Type} (o : FOps α)

def FOps.dbl (a : α) : α := o.add a a

def jdbl (J : α × α × α) : α × α × α :=
  let m := o.add (o.dbl (o.mul J.1 J.1)) (o.mul J.1 J.1)
  let yy := o.mul J.2.1 J.2.1
  let s := o.dbl (o.dbl (o.mul J.1 yy))
  let x3 := o.sub (o.sub (o.mul m m) s) s
  (x3, o.sub (o.mul m (o.sub s x3)) (o.dbl (o.dbl (o.dbl (o.mul yy yy)))), o.dbl (o.mul J.2.1 J.2.2))

/-- `x·Z² − X`: zero iff the affine point `(x, y)` has the abscissa of `J` -/
def jH (J : α × α × α) (x : α) : α := o.sub (o.mul x (o.mul J.2.2 J.2.2)) J.1

def jadd (J : α × α × α) (x y : α) : α × α × α :=
  let h := jH o J x
  let r := o.sub (o.mul y (o.mul (o.mul J.2.2 J.2.2) J.2.2)) J.2.1
  let hh := o.mul h h
  let v := o.mul J.1 hh
  let x3 := o.sub (o.sub (o.mul r r) (o.mul h hh)) (o.dbl v)
  (x3, o.sub (o.mul r (o.sub v x3)) (o.mul J.2.1 (o.mul h hh)), o.mul J.2.2 h)

/-- one turn of double-and-add; `none` at an exceptional case of the formulas -/
def jstep (x y : α) (odd : Bool) (J : α × α × α) : Option (α × α × α) :=
  if o.isZero J.2.1 then none
  else if odd then
    if o.isZero (jH o (jdbl o J) x) then none else some (jadd o (jdbl o J) x y)
  else some (jdbl o J)

/-- `asmulAux` on Jacobian triples, from `k = 1` on -/
def jmulAux (one x y : α) : Nat → Nat → Option (α × α × α)
  | 0, _ => none
  | fuel + 1, k =>
    if k = 0 then none
    else if k = 1 then some (x, y, one)
    else (jmulAux one x y fuel (k / 2)).bind (jstep o x y (k % 2 == 1))

/-- `(n−1)·P = −P`, computed without inversions -/
def jtorsion (one x y : α) (n : Nat) : Bool :=
  match jmulAux o one x y n (n - 1) with
  | none => false
  | some J => o.isZero (jH o J x) &&
      o.isZero (o.add J.2.1 (o.mul y (o.mul (o.mul J.2.2 J.2.2) J.2.2)))

variable {o} {φ : α → K} (hφ : o.Hom φ)
include hφ

theorem jaff_jdbl (h2 : (2 : K) ≠ 0) (J : α × α × α) (hY : φ J.2.1 ≠ 0) (hZ : φ J.2.2 ≠ 0) :
    φ (jdbl o J).2.2 ≠ 0 ∧
    jaff (φ (jdbl o J).1) (φ (jdbl o J).2.1) (φ (jdbl o J).2.2) = adbl (jaff (φ J.1) (φ J.2.1) (φ J.2.2)) := by
  simp only [jdbl, FOps.dbl, hφ.add, hφ.sub, hφ.mul, ← two_mul]
  exact ⟨mul_ne_zero h2 (mul_ne_zero hY hZ), (adbl_jaff h2 hY hZ (by ring) (by ring) (by ring)).symm⟩

theorem jH_eq (J : α × α × α) (x : α) : φ (jH o J x) = φ x * φ J.2.2 ^ 2 - φ J.1 := by
  simp only [jH, hφ.sub, hφ.mul]; ring

theorem jaff_jadd (J : α × α × α) (x y : α) (hZ : φ J.2.2 ≠ 0) (hH : φ (jH o J x) ≠ 0) :
    φ (jadd o J x y).2.2 ≠ 0 ∧
    jaff (φ (jadd o J x y).1) (φ (jadd o J x y).2.1) (φ (jadd o J x y).2.2) =
      aadd (jaff (φ J.1) (φ J.2.1) (φ J.2.2)) (.aff (φ x) (φ y)) := by
  simp only [jadd, FOps.dbl, hφ.add, hφ.sub, hφ.mul, ← two_mul]
  exact ⟨mul_ne_zero hZ hH, (aadd_jaff hZ hH (jH_eq hφ J x) (by ring)).symm⟩

theorem jstep_spec (h2 : (2 : K) ≠ 0) {x y : α} {odd : Bool} {J J' : α × α × α}
    (h : jstep o x y odd J = some J') (hZ : φ J.2.2 ≠ 0) :
    φ J'.2.2 ≠ 0 ∧ jaff (φ J'.1) (φ J'.2.1) (φ J'.2.2) =
      if odd then aadd (adbl (jaff (φ J.1) (φ J.2.1) (φ J.2.2))) (.aff (φ x) (φ y))
      else adbl (jaff (φ J.1) (φ J.2.1) (φ J.2.2)) := by
  unfold jstep at h
  split at h
  · cases h
  · rename_i hY
    obtain ⟨hdz, hd⟩ := jaff_jdbl hφ h2 J (fun e => hY ((hφ.isZero _).2 e)) hZ
    rw [← hd]
    cases odd
    · obtain rfl := Option.some.inj h
      exact ⟨hdz, rfl⟩
    · simp only [if_true] at h ⊢
      split at h
      · cases h
      · rename_i hH
        obtain rfl := Option.some.inj h
        exact jaff_jadd hφ _ x y hdz (fun e => hH ((hφ.isZero _).2 e))

theorem jmulAux_spec {one x y : α} (h1 : φ one = 1) (h2 : (2 : K) ≠ 0) :
    ∀ fuel k J, jmulAux o one x y fuel k = some J →
      φ J.2.2 ≠ 0 ∧ jaff (φ J.1) (φ J.2.1) (φ J.2.2) = asmulAux (.aff (φ x) (φ y)) fuel k
  | 0, _, _, h => by cases h
  | fuel + 1, k, J, h => by
    unfold jmulAux at h
    unfold asmulAux
    split at h
    · cases h
    rename_i hk0
    rw [if_neg hk0]
    split at h
    · rename_i hk
      obtain rfl := Option.some.inj h
      subst hk
      have e : asmulAux (APt.aff (φ x) (φ y)) fuel (1 / 2) = .inf := by
        cases fuel <;> simp [asmulAux]
      simp [e, adbl, aadd, jaff, h1]
    · obtain ⟨J', hJ', hs⟩ := Option.bind_eq_some_iff.1 h
      obtain ⟨hz, hj⟩ := jmulAux_spec h1 h2 _ _ _ hJ'
      rw [← hj]
      simpa using jstep_spec hφ h2 hs hz

theorem jtorsion_sound {b : K} (g : Good b) {one x y : α} (h1 : φ one = 1)
    (hP : (APt.aff (φ x) (φ y)).OnCurve b) {n : Nat} (hn : 0 < n) (h : jtorsion o one x y n = true) :
    n • toPoint b (.aff (φ x) (φ y)) = 0 := by
  unfold jtorsion at h
  split at h
  · exact absurd h (by simp)
  · rename_i J hJ
    obtain ⟨hz, hj⟩ := jmulAux_spec hφ h1 g.two _ _ _ hJ
    rw [Bool.and_eq_true, hφ.isZero, hφ.isZero, jH_eq hφ, hφ.add, hφ.mul, hφ.mul, hφ.mul] at h
    have e : jaff (φ J.1) (φ J.2.1) (φ J.2.2) = aneg (.aff (φ x) (φ y)) := by
      simp only [jaff, aneg]
      congr 1
      · rw [div_eq_iff (pow_ne_zero _ hz)]; linear_combination -h.1
      · rw [div_eq_iff (pow_ne_zero _ hz)]; linear_combination h.2
    have hs := (asmulAux_spec g _ hP n (n - 1) (Nat.lt_of_le_of_lt (Nat.sub_le _ _) Nat.lt_two_pow_self)).2
    rw [← hj, e, (aneg_spec g _ hP).2] at hs
    obtain ⟨m, rfl⟩ : ∃ m, n = m + 1 := ⟨n - 1, by omega⟩
    rw [succ_nsmul, Nat.add_sub_cancel] at *
    rw [← hs, neg_add_cancel]

end Dos.Compose.Curve
