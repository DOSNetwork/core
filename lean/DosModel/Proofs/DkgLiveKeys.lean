/-
Key sets of the three session buffers of member `i`: the other members (public keys, deals) and the
(dealer, responder) pairs of the responses it receives.
-/
import Mathlib.Data.List.Nodup
import Mathlib.Data.List.Range
import Mathlib.Algebra.BigOperators.Group.List.Basic
import Mathlib.Algebra.Group.Nat.Defs

namespace Dos.Dkg

/-- all members but `a` -/
def others (n a : Nat) : List Nat := (List.range n).filter (· ≠ a)

theorem mem_others (n a x : Nat) : x ∈ others n a ↔ x < n ∧ x ≠ a := by
  simp [others]

theorem nodup_others (n a : Nat) : (others n a).Nodup := (List.nodup_range).filter _

theorem length_others (n a : Nat) (ha : a < n) : (others n a).length = n - 1 := by
  have h : others n a = (List.range n).erase a := by
    unfold others
    rw [List.Nodup.erase_eq_filter List.nodup_range]
    apply List.filter_congr
    intro x _
    by_cases hx : x = a <;> simp [hx]
  rw [h, List.length_erase_of_mem (List.mem_range.2 ha), List.length_range]

/-- a loop over all members that skips `a` -/
theorem filterMap_others {α : Type} (n a : Nat) (f : Nat → α) :
    (List.range n).filterMap (fun t => if t = a then none else some (f t)) = (others n a).map f := by
  unfold others
  induction List.range n with
  | nil => rfl
  | cons t l ih => by_cases h : t = a <;> simp [h, ih]

/-- the responses member `i` receives: responder `k ≠ i` about dealer `j ≠ k` -/
def respKeys (n i : Nat) : List (Nat × Nat) :=
  (others n i).flatMap (fun k => (others n k).map (fun j => (j, k)))

theorem mem_respKeys (n i : Nat) (p : Nat × Nat) :
    p ∈ respKeys n i ↔ p.2 < n ∧ p.2 ≠ i ∧ p.1 < n ∧ p.1 ≠ p.2 := by
  unfold respKeys
  simp only [List.mem_flatMap, List.mem_map, mem_others]
  constructor
  · rintro ⟨k, ⟨hk1, hk2⟩, j, ⟨hj1, hj2⟩, rfl⟩
    exact ⟨hk1, hk2, hj1, hj2⟩
  · rintro ⟨h1, h2, h3, h4⟩
    exact ⟨p.2, ⟨h1, h2⟩, p.1, ⟨h3, h4⟩, rfl⟩

theorem nodup_respKeys (n i : Nat) : (respKeys n i).Nodup := by
  unfold respKeys
  rw [List.nodup_flatMap]
  refine ⟨fun k _ => (nodup_others n k).map (fun a b h => by injection h), ?_⟩
  apply List.Nodup.pairwise_of_forall_ne (nodup_others n i)
  intro k _ k' _ hne p hp hp'
  obtain ⟨j, _, rfl⟩ := List.mem_map.1 hp
  obtain ⟨j', _, he⟩ := List.mem_map.1 hp'
  injection he with _ h2
  exact hne h2.symm

theorem length_respKeys (n i : Nat) (hi : i < n) : (respKeys n i).length = (n - 1) * (n - 1) := by
  unfold respKeys
  rw [List.length_flatMap]
  have : (others n i).map (fun k => ((others n k).map (fun j => (j, k))).length) = (others n i).map (fun _ => n - 1) := by
    apply List.map_congr_left
    intro k hk
    rw [List.length_map, length_others n k ((mem_others n i k).1 hk).1]
  rw [this, List.map_const', List.sum_replicate, length_others n i hi]
  simp

end Dos.Dkg
