/-
C14 fairness: elementary facts about `InfOften` / `Eventually`, and about runs:
every state of a run is reachable, flags and control states evolve monotonically, a goroutine's
position changes only by its own moves, what a move of a goroutine looks like.
-/
import DosModel.Proofs.PipeLive4

namespace Dos.Pipe
variable {p : Pipeline}

theorem not_infOften {P : Nat → Prop} (h : ¬ InfOften P) : Eventually (fun i => ¬ P i) := by
  unfold InfOften at h
  obtain ⟨T, hT⟩ := Classical.not_forall.mp h
  exact ⟨T, fun i hi hp => hT ⟨i, hi, hp⟩⟩

theorem not_eventually {P : Nat → Prop} (h : ¬ Eventually P) : InfOften (fun i => ¬ P i) := by
  intro T
  apply Classical.byContradiction
  intro hn
  apply h
  refine ⟨T, fun i hi => ?_⟩
  apply Classical.byContradiction
  intro hp
  exact hn ⟨i, hi, hp⟩

theorem InfOften.mono {P Q : Nat → Prop} (h : InfOften P) (hpq : ∀ i, P i → Q i) : InfOften Q := by
  intro T
  obtain ⟨i, hi, hp⟩ := h T
  exact ⟨i, hi, hpq i hp⟩

/-- infinitely often `P`, and `Q` from some position on: infinitely often both -/
theorem InfOften.and_eventually {P Q : Nat → Prop} (h : InfOften P) (hq : Eventually Q) :
    InfOften (fun i => P i ∧ Q i) := by
  obtain ⟨T0, hT0⟩ := hq
  intro T
  obtain ⟨i, hi, hp⟩ := h (max T T0)
  exact ⟨i, by omega, hp, hT0 i (by omega)⟩

theorem Eventually.and {P Q : Nat → Prop} (hp : Eventually P) (hq : Eventually Q) :
    Eventually (fun i => P i ∧ Q i) := by
  obtain ⟨T1, h1⟩ := hp
  obtain ⟨T2, h2⟩ := hq
  exact ⟨max T1 T2, fun i hi => ⟨h1 i (by omega), h2 i (by omega)⟩⟩

theorem Eventually.mono {P Q : Nat → Prop} (h : Eventually P) (hpq : ∀ i, P i → Q i) : Eventually Q := by
  obtain ⟨T, hT⟩ := h
  exact ⟨T, fun i hi => hpq i (hT i hi)⟩

/-- finitely many "eventually always" facts hold together from some position on -/
theorem eventually_all_lt {P : Nat → Nat → Prop} (n : Nat) (h : ∀ g, g < n → Eventually (P g)) :
    Eventually (fun i => ∀ g, g < n → P g i) := by
  induction n with
  | zero => exact ⟨0, fun i _ g hg => absurd hg (Nat.not_lt_zero g)⟩
  | succ n ih =>
    obtain ⟨T1, h1⟩ := ih (fun g hg => h g (by omega))
    obtain ⟨T2, h2⟩ := h n (by omega)
    refine ⟨max T1 T2, fun i hi g hg => ?_⟩
    by_cases hgn : g = n
    · subst hgn; exact h2 i (by omega)
    · exact h1 i (by omega) g (by omega)

/-- pigeonhole: infinitely often one of finitely many things happens ⇒ one of them happens
    infinitely often -/
theorem infOften_pigeon {Q : Nat → Nat → Prop} (n : Nat)
    (h : InfOften (fun i => ∃ k, k < n ∧ Q k i)) : ∃ k, k < n ∧ InfOften (Q k) := by
  apply Classical.byContradiction
  intro hno
  have hev : ∀ k, k < n → Eventually (fun i => ¬ Q k i) := by
    intro k hk
    apply not_infOften
    intro hq
    exact hno ⟨k, hk, hq⟩
  obtain ⟨T, hT⟩ := eventually_all_lt n hev
  obtain ⟨i, hi, k, hk, hq⟩ := h T
  exact hT i hi k hk hq

/-- a sequence of naturals that does not increase from `T` on cannot decrease infinitely often -/
theorem no_infinite_descent (f : Nat → Nat) (T : Nat) (hmono : ∀ i, T ≤ i → f (i + 1) ≤ f i)
    (hdec : InfOften (fun i => f (i + 1) < f i)) : False := by
  have hle : ∀ T', T ≤ T' → ∀ d, f (T' + d) ≤ f T' := by
    intro T' hT' d
    induction d with
    | zero => exact Nat.le_refl _
    | succ d ih =>
      have := hmono (T' + d) (by omega)
      have e : T' + (d + 1) = T' + d + 1 := by omega
      rw [e]; omega
  have main : ∀ n T', T ≤ T' → f T' = n → False := by
    intro n
    induction n using Nat.strongRecOn with
    | _ n ih =>
      intro T' hT' hf
      obtain ⟨i, hi, hlt⟩ := hdec T'
      have h1 := hle T' hT' (i - T')
      have e : T' + (i - T') = i := by omega
      rw [e] at h1
      exact ih (f (i + 1)) (by omega) (i + 1) (by omega) rfl
  exact main (f T) T (Nat.le_refl _) rfl

namespace Run

theorem step_cases (r : Run p) (i : Nat) :
    (∃ e, r.ev i = some e ∧ Step p (r.st i) e (.run (r.st (i + 1)))) ∨
    (r.ev i = none ∧ r.st (i + 1) = r.st i) := by
  have h := r.step i
  cases he : r.ev i with
  | none => rw [he] at h; exact Or.inr ⟨rfl, h⟩
  | some e => rw [he] at h; exact Or.inl ⟨e, rfl, h⟩

theorem step_of_ev (r : Run p) {i : Nat} {e : Ev} (he : r.ev i = some e) :
    Step p (r.st i) e (.run (r.st (i + 1))) := by
  have h := r.step i
  rw [he] at h; exact h

theorem reach (r : Run p) : ∀ i, Reach p (r.st i) := by
  intro i
  induction i with
  | zero => rw [r.start]; exact Reach.init
  | succ i ih =>
    rcases r.step_cases i with ⟨e, _, hst⟩ | ⟨_, heq⟩
    · exact Reach.step ih hst
    · rw [heq]; exact ih

/-- a property of states preserved by every step holds for ever once it holds -/
theorem stable (r : Run p) (I : State → Prop)
    (hs : ∀ s e s', Reach p s → I s → Step p s e (.run s') → I s') {i : Nat} (hi : I (r.st i)) :
    ∀ j, i ≤ j → I (r.st j) := by
  intro j hij
  obtain ⟨d, rfl⟩ := Nat.exists_eq_add_of_le hij
  induction d with
  | zero => exact hi
  | succ d ih =>
    have ih := ih (by omega)
    rcases r.step_cases (i + d) with ⟨e, _, hst⟩ | ⟨_, heq⟩
    · exact hs _ _ _ (r.reach _) ih hst
    · have e : i + (d + 1) = i + d + 1 := by omega
      rw [e, heq]; exact ih

theorem ctxDone_stable (r : Run p) {k i : Nat} (h : (r.st i).ctxDone k = true) :
    ∀ j, i ≤ j → (r.st j).ctxDone k = true :=
  r.stable (fun s => s.ctxDone k = true) (fun _ _ _ _ hI hst => ctxDone_mono hst k hI) h

theorem closed_stable (r : Run p) {c : Ch} {i : Nat} (h : (r.st i).closed c = true) :
    ∀ j, i ≤ j → (r.st j).closed c = true :=
  r.stable (fun s => s.closed c = true) (fun _ _ _ _ hI hst => closed_mono hst hI) h

end Run

theorem done_step {s s' : State} {e : Ev} (hst : Step p s e (.run s')) {g : Gi}
    (h : s.gs[g]? = some .done) : s'.gs[g]? = some .done := by
  cases step_moves hst g with
  | stays _ hsame => rw [hsame]; exact h
  | edge _ _ _ _ hat => rw [h] at hat; cases hat
  | spawned _ hi => rw [h] at hi; cases hi
  | exits _ _ hat => rw [h] at hat; cases hat

theorem at_step {s s' : State} {e : Ev} (hst : Step p s e (.run s')) {g : Gi} {pc : Pc}
    (h : s.gs[g]? = some (.at pc)) : (∃ pc', s'.gs[g]? = some (.at pc')) ∨ s'.gs[g]? = some .done := by
  cases step_moves hst g with
  | stays _ hsame => rw [hsame]; exact Or.inl ⟨pc, h⟩
  | edge _ _ _ n _ _ _ hat2 => exact Or.inl ⟨n, hat2⟩
  | spawned _ hi => rw [h] at hi; cases hi
  | exits _ _ _ _ hd => exact Or.inr hd

/-- a step in which `g` does not take part leaves `g` where it stands -/
theorem nomove_at {s s' : State} {e : Ev} (hst : Step p s e (.run s')) {g : Gi} {pc : Pc}
    (h : s.gs[g]? = some (.at pc)) (hm : e.moves g = false) : s'.gs[g]? = some (.at pc) := by
  cases step_moves hst g with
  | stays _ hs => rw [hs]; exact h
  | spawned _ hi => rw [h] at hi; cases hi
  | edge pc nd l n hat hnd hed hat2 ht => cases ht <;> simp [Ev.moves] at hm
  | exits pc he => subst he; simp [Ev.moves] at hm

/-- a move of `g` from the node `nd` at `pc` is along one of its edges, or its return -/
theorem move_cases {s s' : State} {e : Ev} (hst : Step p s e (.run s')) {g : Gi} {pc : Pc}
    {nd : Node} (hat : s.gs[g]? = some (.at pc)) (hnd : p.node g pc = some nd) (hm : e.moves g = true) :
    (∃ l n, (l, n) ∈ nd.edges ∧ s'.gs[g]? = some (.at n) ∧ Takes p s g l e) ∨
    (nd = .exit ∧ e = .exit g ∧ s'.gs[g]? = some .done) := by
  cases step_moves hst g with
  | stays h | spawned h => rw [hm] at h; cases h
  | edge pc' nd' l n hat' hnd' hed hat2 ht =>
    obtain rfl : pc' = pc := by rw [hat] at hat'; cases hat'; rfl
    obtain rfl := Option.some.inj (hnd'.symm.trans hnd)
    exact Or.inl ⟨l, n, hed, hat2, ht⟩
  | exits pc' he hat' hnd' hd =>
    obtain rfl : pc' = pc := by rw [hat] at hat'; cases hat'; rfl
    exact Or.inr ⟨Option.some.inj (hnd.symm.trans hnd'), he, hd⟩

theorem len_closed_step {s s' : State} {e : Ev} (hst : Step p s e (.run s')) {c : Ch}
    (hcl : s.closed c = true) :
    s'.len c ≤ s.len c ∧ (∀ g, e = .act g (.recvOk c) → s'.len c < s.len c) := by
  rw [(step_rest hst).len, effect_len]
  constructor
  · split
    · omega
    · split
      · -- a send on the closed `c` is not enabled
        rename_i h
        obtain ⟨g, rfl⟩ := act_of_lab h.1 (by simp) (by simp)
        have := act_guard hst
        simp [guard, hcl] at this
      · exact Nat.le_refl _
  · rintro g rfl
    have hpos : 0 < s.len c := by simpa [guard] using act_guard hst
    simp only [Ev.lab, if_pos]; omega

namespace Run

theorem done_stable (r : Run p) {g : Gi} {i : Nat} (h : (r.st i).gs[g]? = some .done) :
    ∀ j, i ≤ j → (r.st j).gs[g]? = some .done :=
  r.stable (fun s => s.gs[g]? = some .done) (fun _ _ _ _ hI hst => done_step hst hI) h

/-- once started a goroutine is running or has returned, for ever -/
theorem at_stable (r : Run p) {g : Gi} {i : Nat} {pc : Pc} (h : (r.st i).gs[g]? = some (.at pc)) :
    ∀ j, i ≤ j → (∃ pc', (r.st j).gs[g]? = some (.at pc')) ∨ (r.st j).gs[g]? = some .done := by
  apply r.stable (fun s => (∃ pc', s.gs[g]? = some (.at pc')) ∨ s.gs[g]? = some .done)
  · intro s e s' _ hI hst
    rcases hI with ⟨pc', hI⟩ | hI
    · exact at_step hst hI
    · exact Or.inr (done_step hst hI)
  · exact Or.inl ⟨pc, h⟩

/-- a goroutine that does not move stays where it is -/
theorem stay (r : Run p) {g : Gi} {pc : Pc} {i : Nat} (h : (r.st i).gs[g]? = some (.at pc))
    (hm : ¬ r.movesAt g i) : (r.st (i + 1)).gs[g]? = some (.at pc) := by
  rcases r.step_cases i with ⟨e, he, hst⟩ | ⟨_, heq⟩
  · apply nomove_at hst h
    cases hmv : e.moves g with
    | false => rfl
    | true => exact absurd ⟨e, he, hmv⟩ hm
  · rw [heq]; exact h

/-- a goroutine that does not move while it stands at `pc` stands there for ever -/
theorem stays (r : Run p) {g : Gi} {pc : Pc} {j : Nat} (h : (r.st j).gs[g]? = some (.at pc))
    (hm : ∀ d, (r.st (j + d)).gs[g]? = some (.at pc) → ¬ r.movesAt g (j + d)) :
    ∀ d, (r.st (j + d)).gs[g]? = some (.at pc) := by
  intro d
  induction d with
  | zero => exact h
  | succ d ih => exact r.stay ih (hm d ih)

/-- the position of `g` at its next move after `i` is its position at `i` -/
theorem next_move (r : Run p) {g : Gi} {pc : Pc} {i : Nat} (h : (r.st i).gs[g]? = some (.at pc))
    {j : Nat} (hij : i ≤ j) (hmj : r.movesAt g j) :
    ∃ j', i ≤ j' ∧ j' ≤ j ∧ r.movesFrom g pc j' := by
  obtain ⟨d, rfl⟩ := Nat.exists_eq_add_of_le hij
  induction d generalizing i pc with
  | zero => exact ⟨i, Nat.le_refl _, Nat.le_refl _, h, hmj⟩
  | succ d ih =>
    by_cases hmi : r.movesAt g i
    · exact ⟨i, Nat.le_refl _, by omega, h, hmi⟩
    · have h' := r.stay h hmi
      have e : i + (d + 1) = (i + 1) + d := by omega
      rw [e] at hmj
      obtain ⟨j', h1, h2, h3⟩ := ih h' (by omega) hmj
      exact ⟨j', by omega, by omega, h3⟩

/-- a weakly fair goroutine that is enabled whenever it stands at `pc` moves away from `pc` -/
theorem moves_from (r : Run p) {g : Gi} (hw : WeakFairG r g) {pc : Pc} {j : Nat}
    (hat : (r.st j).gs[g]? = some (.at pc))
    (hen : ∀ i, j ≤ i → (r.st i).gs[g]? = some (.at pc) → Enabled p (r.st i) g) :
    ∃ i, j ≤ i ∧ r.movesFrom g pc i := by
  apply Classical.byContradiction
  intro hno
  have hstay := r.stays hat (fun d ih hm => hno ⟨j + d, by omega, ih, hm⟩)
  obtain ⟨i, hi, hm⟩ := hw j (fun i hi => by
    obtain ⟨d, rfl⟩ := Nat.exists_eq_add_of_le hi
    exact hen _ hi (hstay d))
  obtain ⟨d, rfl⟩ := Nat.exists_eq_add_of_le hi
  exact hno ⟨j + d, hi, hstay d, hm⟩

end Run

end Dos.Pipe
