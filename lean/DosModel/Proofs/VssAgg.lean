/-
Lemmas about the response bookkeeping of the `aggregator` model (`addResponse`,
`verifyResponse`, `verifyJustification`, `UnsafeSetResponseDKG`) in `Model/VssSym.lean`.
-/
import DosModel.Proofs.VssSym

set_option linter.unusedSectionVars false

namespace Dos.Vss

variable {F G : Type} [Field F] [AddCommGroup G] [Module F G] [DecidableEq F] [DecidableEq G]

theorem getResponse_set (a : Agg F G) (i k : Nat) (r : Response F G) (hi : i < a.responses.length) :
    getResponse { a with responses := a.responses.set i (some r) } k =
      if i = k then some r else getResponse a k := by
  unfold getResponse
  simp only [List.getElem?_set]
  by_cases h : i = k
  · subst h; simp [hi]
  · simp [h]

theorem addResponse_ok {a a' : Agg F G} {r : Response F G} (h : addResponse a r = .ok a') :
    r.index < a.vs.length ∧ getResponse a r.index = none ∧
      a' = { a with responses := a.responses.set r.index (some r) } := by
  unfold addResponse at h
  split_ifs at h with h1 h2
  cases h
  exact ⟨Nat.lt_of_not_le h1, by simpa [hasResponse] using h2, rfl⟩

theorem addResponse_err_unchanged {a : Agg F G} {r : Response F G} {e : Err} (_h : addResponse a r = .error e) :
    True := trivial

theorem verifyRespSig_iff (g pub : G) (r : Response F G) :
    verifyRespSig g pub r = true ↔ ∃ sk rnd, r.sig = .sign sk r.sid r.index r.status rnd ∧ sk • g = pub := by
  unfold verifyRespSig
  rcases hs : r.sig with ⟨sk, sid, i, st, rnd⟩ | id
  · simp only [Bool.and_eq_true, decide_eq_true_eq]
    constructor
    · rintro ⟨⟨⟨h1, h2⟩, h3⟩, h4⟩
      exact ⟨sk, rnd, by rw [h2, h3, h4], h1⟩
    · rintro ⟨sk', rnd', h, h1⟩
      injection h with a b c d e
      subst a; exact ⟨⟨⟨h1, b⟩, c⟩, d⟩
  · simp

theorem verifyResponse_ok {g : G} {a a' : Agg F G} {r : Response F G} (h : verifyResponse g a r = .ok a') :
    r.sid = a.sid ∧ (∃ pub, a.vs[r.index]? = some pub ∧ verifyRespSig g pub r = true) ∧
      addResponse a r = .ok a' := by
  unfold verifyResponse at h
  split_ifs at h with h1
  split at h
  · cases h
  · rename_i pub hp
    split_ifs at h with h2
    exact ⟨not_not.1 h1, ⟨pub, hp, by simpa using h2⟩, h⟩

theorem verifyDeal_stored_unchanged (g : G) (a : Agg F G) (d : Deal F G) (incl : Bool) (h : a.deal.isSome = true) :
    (verifyDeal g a d incl).1 = a := by
  rw [verifyDeal_eq]
  split
  · split
    · rfl
    · cases hd : a.deal <;> simp_all [storeDeal]
  · rfl

end Dos.Vss
