import DosModel.Model.Dispatch

/-! The invariant of one request of the request/reply model (`RInv`) and what `complete` does to it. -/
namespace Dos.Dispatch
open Dos

/-- which holder's `Once` may have fired, given where the request is and its type -/
def allowed : Stage → RType → Holder → Bool
  | .failed, _, .handler => true
  | .sendErr, _, .sendG => true
  | .table, .send, .table => true
  | .out, .send, .table => true
  | .packed, .send, .table => true
  | .packed, .reply, .pack => true
  | _, _, _ => false

/-- the request has not reached dispatch's `peerSend` branch yet (so it has no nonce and no table entry) -/
def preTable : Stage → Bool
  | .table | .out | .packed => false
  | _ => true

/-- `count`: the reply channel was closed once per `Once` that fired; `vals`: it carried exactly what the caller
returned; `wctx`: a caller that has returned has its context done (`waitForResult` cancels it); `flags`: a `Once`
has fired only where `allowed` lets it; `nonce`: no nonce before dispatch has taken the request -/
structure RInv (r : Req) : Prop where
  count : r.closes = r.onceH.toNat + r.onceS.toNat + r.onceT.toNat + r.onceP.toNat
  vals  : r.vals = (match r.waiter with | .got v => [v] | _ => [])
  wctx  : r.waiter ≠ .waiting → r.ctxDone = true
  flags : ∀ h, r.once h = true → allowed r.stage r.rtype h = true
  nonce : preTable r.stage = true → r.nonce = none

/-- at each stage at most one holder's `Once` may have fired: every row (stage, type) of the table `allowed` has
at most one `true` -/
theorem allowed_unique {st : Stage} {t : RType} {h h' : Holder}
    (a : allowed st t h = true) (b : allowed st t h' = true) : h = h' := by
  -- row by row: `h` is not allowed (`a` is absurd), or it is and every other `h'` is not (`b` is absurd)
  cases st <;> cases t <;> cases h <;> first | (cases a; done) | (cases h' <;> first | rfl | cases b)

theorem allowed_table {st : Stage} (h : preTable st = false) : allowed st .send .table = true := by
  cases st <;> first | rfl | cases h

theorem toNat_sum_le_one : ∀ a b c d : Bool, (a && b) = false → (a && c) = false → (a && d) = false →
    (b && c) = false → (b && d) = false → (c && d) = false → a.toNat + b.toNat + c.toNat + d.toNat ≤ 1 := by decide

theorem RInv.closes_le_one {r : Req} (h : RInv r) : r.closes ≤ 1 := by
  have ex : ∀ a b, a ≠ b → (r.once a && r.once b) = false := fun a b ne => by
    cases ha : r.once a <;> cases hb : r.once b <;>
      first | rfl | exact absurd (allowed_unique (h.flags a ha) (h.flags b hb)) ne
  rw [h.count]
  exact toNat_sum_le_one _ _ _ _ (ex .handler .sendG nofun) (ex .handler .table nofun) (ex .handler .pack nofun)
    (ex .sendG .table nofun) (ex .sendG .pack nofun) (ex .table .pack nofun)

theorem RInv.vals_le_one {r : Req} (h : RInv r) : r.vals.length ≤ 1 := by
  rw [h.vals]; cases r.waiter <;> simp

theorem RInv.default : RInv ({} : Req) := by
  constructor <;> simp [preTable]
  intro h; cases h <;> simp [Req.once]

def Req.deliverable (r : Req) (w : Bool) : Prop := r.waiter = .waiting ∧ (r.ctxDone = false ∨ w = true)

theorem complete_cases (r : Req) (h : Holder) (v : Res) (w : Bool) :
    (r.once h = true ∧ r.complete h v w = r) ∨
    (r.once h = false ∧ r.deliverable w ∧ r.complete h v w =
      { r.setOnce h with waiter := .got v, vals := r.vals ++ [v], closes := r.closes + 1, ctxDone := true }) ∨
    (r.once h = false ∧ ¬ r.deliverable w ∧ r.complete h v w =
      { r.setOnce h with closes := r.closes + 1 }) := by
  unfold Req.complete Req.deliverable
  cases hh : r.once h
  · right
    by_cases hc : r.waiter = .waiting ∧ (r.ctxDone = false ∨ w = true)
    · left; exact ⟨rfl, hc, by simp [hc]⟩
    · right; exact ⟨rfl, hc, by simp [hc]⟩
  · left; simp

@[simp] theorem setOnce_rtype (r : Req) (h) : (r.setOnce h).rtype = r.rtype := by cases h <;> rfl
@[simp] theorem setOnce_stage (r : Req) (h) : (r.setOnce h).stage = r.stage := by cases h <;> rfl
@[simp] theorem setOnce_nonce (r : Req) (h) : (r.setOnce h).nonce = r.nonce := by cases h <;> rfl
@[simp] theorem setOnce_arg (r : Req) (h) : (r.setOnce h).arg = r.arg := by cases h <;> rfl
@[simp] theorem setOnce_waiter (r : Req) (h) : (r.setOnce h).waiter = r.waiter := by cases h <;> rfl
@[simp] theorem setOnce_vals (r : Req) (h) : (r.setOnce h).vals = r.vals := by cases h <;> rfl
@[simp] theorem setOnce_ctx (r : Req) (h) : (r.setOnce h).ctxDone = r.ctxDone := by cases h <;> rfl
@[simp] theorem setOnce_closes (r : Req) (h) : (r.setOnce h).closes = r.closes := by cases h <;> rfl
theorem setOnce_once (r : Req) (h h') : (r.setOnce h).once h' = (r.once h' || decide (h = h')) := by
  cases h <;> cases h' <;> simp [Req.setOnce, Req.once]

@[simp] theorem complete_rtype (r : Req) (h v w) : (r.complete h v w).rtype = r.rtype := by
  rcases complete_cases r h v w with ⟨_, e⟩ | ⟨_, _, e⟩ | ⟨_, _, e⟩ <;> rw [e] <;> simp
@[simp] theorem complete_stage (r : Req) (h v w) : (r.complete h v w).stage = r.stage := by
  rcases complete_cases r h v w with ⟨_, e⟩ | ⟨_, _, e⟩ | ⟨_, _, e⟩ <;> rw [e] <;> simp
@[simp] theorem complete_nonce (r : Req) (h v w) : (r.complete h v w).nonce = r.nonce := by
  rcases complete_cases r h v w with ⟨_, e⟩ | ⟨_, _, e⟩ | ⟨_, _, e⟩ <;> rw [e] <;> simp
@[simp] theorem complete_arg (r : Req) (h v w) : (r.complete h v w).arg = r.arg := by
  rcases complete_cases r h v w with ⟨_, e⟩ | ⟨_, _, e⟩ | ⟨_, _, e⟩ <;> rw [e] <;> simp

theorem once_fields (r : Req) (x : Req) (h' : Holder)
    (e : x.onceH = r.onceH ∧ x.onceS = r.onceS ∧ x.onceT = r.onceT ∧ x.onceP = r.onceP) :
    x.once h' = r.once h' := by
  cases h' <;> simp [Req.once, e.1, e.2.1, e.2.2.1, e.2.2.2]

theorem complete_once (r : Req) (h v w h') :
    (r.complete h v w).once h' = (r.once h' || decide (h = h')) := by
  rcases complete_cases r h v w with ⟨ho, e⟩ | ⟨_, _, e⟩ | ⟨_, _, e⟩ <;> rw [e]
  · by_cases hh : h = h'
    · subst hh; simp [ho]
    · simp [hh]
  · rw [← setOnce_once]; exact once_fields _ _ _ ⟨rfl, rfl, rfl, rfl⟩
  · rw [← setOnce_once]; exact once_fields _ _ _ ⟨rfl, rfl, rfl, rfl⟩

/-- the value the caller ends up with is unchanged by `complete` unless it was still waiting -/
theorem complete_waiter (r : Req) (h v w) :
    (r.complete h v w).waiter = r.waiter ∨
    (r.waiter = .waiting ∧ r.once h = false ∧ (r.complete h v w).waiter = .got v) := by
  rcases complete_cases r h v w with ⟨_, e⟩ | ⟨ho, hd, e⟩ | ⟨_, _, e⟩ <;> rw [e]
  · left; rfl
  · right; exact ⟨hd.1, ho, rfl⟩
  · left; simp

theorem complete_ctx (r : Req) (h v w) : r.ctxDone = true → (r.complete h v w).ctxDone = true := by
  intro hc
  rcases complete_cases r h v w with ⟨_, e⟩ | ⟨_, _, e⟩ | ⟨_, _, e⟩ <;> rw [e] <;> simp [hc]

theorem toNat_setOnce (r : Req) (h : Holder) (ho : r.once h = false) :
    (r.setOnce h).onceH.toNat + (r.setOnce h).onceS.toNat + (r.setOnce h).onceT.toNat + (r.setOnce h).onceP.toNat
      = r.onceH.toNat + r.onceS.toNat + r.onceT.toNat + r.onceP.toNat + 1 := by
  cases h <;> simp only [Req.once] at ho <;> simp [Req.setOnce, ho] <;> omega

/-- `complete` on holder `h` keeps the invariant provided `h` is allowed to fire at this stage. -/
theorem complete_inv {r : Req} (hr : RInv r) (h : Holder) (v : Res) (w : Bool)
    (hal : allowed r.stage r.rtype h = true) : RInv (r.complete h v w) := by
  have hflags : ∀ h', (r.complete h v w).once h' = true →
      allowed (r.complete h v w).stage (r.complete h v w).rtype h' = true := by
    intro h' hh'
    rw [complete_once] at hh'
    simp only [complete_stage, complete_rtype]
    rcases (Bool.or_eq_true _ _).mp hh' with h1 | h1
    · exact hr.flags h' h1
    · have : h = h' := by simpa using h1
      subst this; exact hal
  have hnonce : preTable (r.complete h v w).stage = true → (r.complete h v w).nonce = none := by
    intro hp
    simp only [complete_stage] at hp
    simpa using hr.nonce hp
  rcases complete_cases r h v w with ⟨_, e⟩ | ⟨ho, hd, e⟩ | ⟨ho, hd, e⟩
  · rw [e]; exact hr
  · refine ⟨?_, ?_, ?_, hflags, hnonce⟩ <;> rw [e]
    · have := toNat_setOnce r h ho
      have hc := hr.count
      show r.closes + 1 = (r.setOnce h).onceH.toNat + (r.setOnce h).onceS.toNat + (r.setOnce h).onceT.toNat + (r.setOnce h).onceP.toNat
      omega
    · have hv := hr.vals
      rw [hd.1] at hv
      show r.vals ++ [v] = _
      simp [hv]
    · intro _; rfl
  · refine ⟨?_, ?_, ?_, hflags, hnonce⟩ <;> rw [e]
    · have := toNat_setOnce r h ho
      have hc := hr.count
      show r.closes + 1 = (r.setOnce h).onceH.toNat + (r.setOnce h).onceS.toNat + (r.setOnce h).onceT.toNat + (r.setOnce h).onceP.toNat
      omega
    · simpa using hr.vals
    · simpa using hr.wctx

end Dos.Dispatch
