/-
Helper lemmas for the ABI layer (C18 / C19): lengths of encodings, decoding of an encoding.
-/
import DosModel.Model.Abi
import DosModel.Proofs.ReqLoopMarshal
import Mathlib.Tactic.Ring

namespace Dos.Abi
open Dos Dos.ReqLoop Dos.CodecBytes

theorem drop_of_drop_append {α : Type} {B X Y : List α} {i : Nat} (h : B.drop i = X ++ Y) :
    B.drop (i + X.length) = Y := by
  rw [← List.drop_drop, h, List.drop_left]

theorem length_of_drop_eq {α : Type} {B X : List α} {i : Nat} (h : B.drop i = X) (hx : 0 < X.length) :
    i + X.length = B.length := by
  have := congrArg List.length h
  rw [List.length_drop] at this
  omega

theorem take_of_drop_append {α : Type} {B X Y : List α} {i : Nat} (h : B.drop i = X ++ Y) :
    (B.drop i).take X.length = X := by
  rw [h, List.take_left]

theorem encEVal_length {e : Elem} {v : EVal} (hw : e.wf = true) (hv : v.wt e = true) : (encEVal v).length = 32 := by
  cases v with
  | num n => simp [encEVal, natBE_length]
  | fixed bs =>
    cases e <;> simp [EVal.wt] at hv
    rename_i k
    simp [Elem.wf] at hw
    simp [encEVal]
    omega

theorem encWords_length {e : Elem} (hw : e.wf = true) :
    ∀ {l : List EVal}, (l.all (EVal.wt e) = true) → (encWords l).length = 32 * l.length := by
  intro l
  induction l with
  | nil => simp [encWords]
  | cons v vs ih =>
    intro h
    simp only [List.all_cons, Bool.and_eq_true] at h
    have := ih h.2
    simp only [encWords] at this ⊢
    simp only [List.map_cons, List.flatten_cons, List.length_append, List.length_cons, this, encEVal_length hw h.1]
    ring

theorem slice_ok {site : String} {bs : Bytes} {a b : Nat} (h1 : a ≤ b) (h2 : b ≤ bs.length) :
    slice site bs a b = .ok ((bs.drop a).take (b - a)) := by
  simp [slice, h1, h2]

theorem len_of_drop {B X Y : Bytes} {i : Nat} (h : B.drop i = X ++ Y) (hx : 0 < X.length) :
    i + X.length + Y.length = B.length := by
  have := congrArg List.length h
  rw [List.length_drop, List.length_append] at this
  omega

theorem slice_prefix {site : String} {B w rest : Bytes} {a b : Nat} (h : B.drop a = w ++ rest) (ha : a ≤ B.length)
    (hb : b = a + w.length) : slice site B a b = .ok w := by
  subst hb
  have hl := congrArg List.length h
  rw [List.length_drop, List.length_append] at hl
  rw [slice_ok (by omega) (by omega), h, Nat.add_sub_cancel_left, List.take_left]

theorem wordAt_eq {B w rest : Bytes} {i : Nat} (h : B.drop i = w ++ rest) (hw : w.length = 32) :
    wordAt B i = .ok w := by
  have hl := len_of_drop h (by omega)
  rw [wordAt, if_neg (by omega), slice_prefix h (by omega) (by rw [hw])]

theorem num_lt_word {e : Elem} {n : Nat} (hw : e.wf = true) (hv : (EVal.num n).wt e = true) : n < 2 ^ 256 := by
  cases e with
  | uint b =>
    simp only [Elem.wf, Bool.or_eq_true, beq_iff_eq] at hw
    exact Nat.lt_of_lt_of_le (of_decide_eq_true hv) (Nat.pow_le_pow_right (by omega) (by omega))
  | address => exact Nat.lt_of_lt_of_le (of_decide_eq_true hv) (Nat.pow_le_pow_right (by omega) (by omega))
  | bool => exact Nat.lt_of_lt_of_le (of_decide_eq_true hv) (by decide)
  | fixedBytes k => cases hv

theorem decElem_encEVal {e : Elem} {v : EVal} (hw : e.wf = true) (hv : v.wt e = true) :
    decElem e (encEVal v) = .ok v := by
  cases v with
  | num n =>
    have hn : beNat (natBE 32 n) = n := beNat_word (num_lt_word hw hv)
    cases e with
    | uint b =>
      simp only [decElem, encEVal, hn, Nat.mod_eq_of_lt (of_decide_eq_true hv)]
      split <;> rfl
    | address => simp only [decElem, encEVal, hn, Nat.mod_eq_of_lt (of_decide_eq_true hv)]
    | bool =>
      have : n = 0 ∨ n = 1 := by have := of_decide_eq_true hv; omega
      simp only [decElem, encEVal, hn]
      rcases this with rfl | rfl <;> rfl
    | fixedBytes k => cases hv
  | fixed bs =>
    cases e with
    | fixedBytes k =>
      simp only [EVal.wt, beq_iff_eq] at hv
      simp only [Elem.wf, Bool.and_eq_true, decide_eq_true_eq] at hw
      simp only [decElem, encEVal]
      rw [slice_ok (by omega) (by simp; omega)]
      simp only [List.drop_zero, Nat.sub_zero, bind, Except.bind, pure, Except.pure]
      rw [← hv, List.take_left]
    | uint | address | bool => cases hv

theorem encWords_cons (v : EVal) (l : List EVal) : encWords (v :: l) = encEVal v ++ encWords l := by
  simp [encWords]

theorem decWords_encWords {e : Elem} (hw : e.wf = true) :
    ∀ (l : List EVal) (sub rest : Bytes) (start : Nat), l.all (EVal.wt e) = true →
      sub.drop start = encWords l ++ rest → decWords e sub l.length start = .ok l := by
  intro l
  induction l with
  | nil => intro sub rest start _ _; simp [decWords]
  | cons v vs ih =>
    intro sub rest start hall hd
    simp only [List.all_cons, Bool.and_eq_true] at hall
    rw [encWords_cons, List.append_assoc] at hd
    have hlen := encEVal_length hw hall.1
    have h1 := wordAt_eq hd hlen
    have h2 := decElem_encEVal hw hall.1
    have hd' : sub.drop (start + 32) = encWords vs ++ rest := by
      have := drop_of_drop_append hd
      rwa [hlen] at this
    have h3 := ih sub rest (start + 32) hall.2 hd'
    simp [decWords, h1, h2, h3, bind, Except.bind, pure, Except.pure]

theorem forEach_encWords {e : Elem} (hw : e.wf = true) {l : List EVal} {sub rest : Bytes}
    (hall : l.all (EVal.wt e) = true) (hd : sub = encWords l ++ rest) :
    forEach e sub l.length = .ok l := by
  have hl : sub.length = 32 * l.length + rest.length := by
    rw [hd, List.length_append, encWords_length hw hall]
  have : ¬ (32 * l.length > sub.length) := by omega
  simp only [forEach, this, if_false]
  exact decWords_encWords hw l sub rest 0 hall (by simpa using hd)

/-- the length prefix of a tail that sits at `off` and is pointed to by the head word at `i` -/
theorem lengthPrefix_eq {B hrest trest : Bytes} {i off len : Nat}
    (hh : B.drop i = natBE 32 off ++ hrest) (ht : B.drop off = natBE 32 len ++ trest)
    (hlen : len ≤ trest.length) (hB : B.length < 2 ^ 63) :
    lengthPrefix B i = .ok (off + 32, len) := by
  have l1 := len_of_drop hh (by simp [natBE_length])
  have l2 := len_of_drop ht (by simp [natBE_length])
  simp only [natBE_length] at l1 l2
  have hlt : ∀ x, x < B.length → x < 2 ^ 256 := fun x hx =>
    Nat.lt_trans hx (Nat.lt_of_lt_of_le hB (Nat.pow_le_pow_right (by omega) (by omega)))
  have ht' : B.drop (off + 32 - 32) = natBE 32 len ++ trest := by rwa [Nat.add_sub_cancel]
  simp only [lengthPrefix, slice_prefix hh (by omega) (by rw [natBE_length]), beNat_word (hlt off (by omega)),
    bind, Except.bind]
  rw [if_neg (by omega), if_neg (by omega)]
  simp only [slice_prefix (b := off + 32) ht' (by omega) (by rw [natBE_length]; omega), beNat_word (hlt len (by omega))]
  rw [if_neg (by omega), if_neg (by omega)]; rfl

theorem slice_to_end {site : String} {B : Bytes} {i : Nat} (h : i ≤ B.length) :
    slice site B i B.length = .ok (B.drop i) := by
  rw [slice_ok h (Nat.le_refl _)]
  congr 1
  apply List.take_of_length_le
  simp

theorem headSize_pos (t : AbiType) (hw : t.wf = true) : 32 ≤ t.headSize := by
  cases t <;> simp [AbiType.headSize]
  rename_i e n
  simp [AbiType.wf] at hw
  omega

theorem wt_static {t : AbiType} {v : AbiVal} (hv : v.wt t = true) (hs : t.isDynamic = false) :
    (∃ e ev, t = .elem e ∧ v = .elem ev ∧ ev.wt e = true) ∨
    (∃ e l, t = .sarray e l.length ∧ v = .arr l ∧ l.all (EVal.wt e) = true) := by
  cases t <;> cases v <;> simp_all [AbiVal.wt, AbiType.isDynamic]

/-- `bytes` and `string` are encoded and decoded alike: one case -/
theorem wt_dynamic {t : AbiType} {v : AbiVal} (hv : v.wt t = true) (hd : t.isDynamic = true) :
    (∃ e l, t = .darray e ∧ v = .arr l ∧ l.all (EVal.wt e) = true) ∨
    (∃ bs, (t = .bytes ∨ t = .string) ∧ v = .blob bs) := by
  cases t <;> cases v <;> simp_all [AbiVal.wt, AbiType.isDynamic]

theorem encStatic_length {t : AbiType} {v : AbiVal} (hw : t.wf = true) (hv : v.wt t = true)
    (hs : t.isDynamic = false) : (encStatic v).length = t.headSize := by
  rcases wt_static hv hs with ⟨e, ev, rfl, rfl, hev⟩ | ⟨e, l, rfl, rfl, hall⟩
  · exact encEVal_length hw hev
  · simp only [AbiType.wf, Bool.and_eq_true] at hw
    exact encWords_length hw.1 hall

theorem decOne_static {t : AbiType} {v : AbiVal} {B rest : Bytes} {i : Nat} (hw : t.wf = true)
    (hv : v.wt t = true) (hs : t.isDynamic = false) (hd : B.drop i = encStatic v ++ rest) :
    decOne t B i = .ok v := by
  have hlen := encStatic_length hw hv hs
  have hpos := headSize_pos t hw
  have hl := len_of_drop hd (by omega)
  have c0 : ¬ (i + 32 > B.length) := by omega
  rcases wt_static hv hs with ⟨e, ev, rfl, rfl, hev⟩ | ⟨e, l, rfl, rfl, hall⟩
  · simp only [encStatic] at hd
    simp only [decOne, c0, if_false, wordAt_eq hd (encEVal_length hw hev), decElem_encEVal hw hev, bind, Except.bind,
      pure, Except.pure]
  · simp only [AbiType.wf, Bool.and_eq_true] at hw
    simp only [encStatic] at hd
    simp only [decOne, c0, if_false, slice_to_end (show i ≤ B.length by omega), forEach_encWords hw.1 hall hd, bind,
      Except.bind, pure, Except.pure]

theorem pad32_eq (bs : Bytes) : pad32 bs = bs ++ zeros ((bs.length + 31) / 32 * 32 - bs.length) := rfl

theorem decOne_dynamic {t : AbiType} {v : AbiVal} {B hrest trest : Bytes} {i off : Nat} (hw : t.wf = true)
    (hv : v.wt t = true) (hdyn : t.isDynamic = true)
    (hh : B.drop i = natBE 32 off ++ hrest) (ht : B.drop off = encTail v ++ trest) (hB : B.length < 2 ^ 63) :
    decOne t B i = .ok v := by
  have l1 := len_of_drop hh (by simp [natBE_length])
  simp only [natBE_length] at l1
  have c0 : ¬ (i + 32 > B.length) := by omega
  rcases wt_dynamic hv hdyn with ⟨e, l, rfl, rfl, hall⟩ | ⟨bs, ht', rfl⟩
  · simp only [encTail, List.append_assoc] at ht
    have hsub := drop_of_drop_append ht
    have l2 := len_of_drop ht (by simp [natBE_length])
    simp only [natBE_length, List.length_append, encWords_length hw hall] at hsub l2
    have hp := lengthPrefix_eq hh ht (by simp [encWords_length hw hall]; omega) hB
    simp only [decOne, c0, if_false, hp, slice_to_end (show off + 32 ≤ B.length by omega),
      forEach_encWords hw hall hsub, bind, Except.bind, pure, Except.pure]
  · simp only [encTail, pad32_eq, List.append_assoc] at ht
    have hsub := drop_of_drop_append ht
    have l2 := len_of_drop ht (by simp [natBE_length])
    simp only [natBE_length, List.length_append] at hsub l2
    have hp := lengthPrefix_eq hh ht (by simp) hB
    rcases ht' with rfl | rfl <;>
      simp only [decOne, c0, if_false, hp, slice_prefix hsub (show off + 32 ≤ B.length by omega) rfl, bind, Except.bind,
        pure, Except.pure]

theorem headSize_dynamic {t : AbiType} (h : t.isDynamic = true) : t.headSize = 32 := by
  cases t <;> simp [AbiType.isDynamic] at h <;> rfl

theorem headLen_cons (t : AbiType) (ts : List AbiType) : headLen (t :: ts) = t.headSize + headLen ts := by
  simp [headLen]

/-- `fun_induction encGo` leaves a third case, "not both lists a cons": for well-typed arguments both are empty -/
theorem wtArgs_nil {tys : List AbiType} {vs : List AbiVal} (hv : wtArgs tys vs = true)
    (h : ∀ t ts v vs', tys = t :: ts → vs = v :: vs' → False) : tys = [] ∧ vs = [] :=
  match tys, vs, hv, h with
  | [], [], _, _ => ⟨rfl, rfl⟩
  | t :: ts, v :: vs, _, h => (h t ts v vs rfl rfl).elim

theorem encGo_fst_length (tys : List AbiType) (vs : List AbiVal) (off : Nat)
    (hw : tysWf tys = true) (hv : wtArgs tys vs = true) : (encGo off tys vs).1.length = headLen tys := by
  fun_induction encGo off tys vs with
  | case1 off t ts v vs hd tl r ih =>
    simp only [wtArgs, Bool.and_eq_true] at hv
    simp only [tysWf, List.all_cons, Bool.and_eq_true] at hw
    rw [headLen_cons, List.length_append, natBE_length, headSize_dynamic hd, ih hw.2 hv.2]
  | case2 off t ts v vs hs r ih =>
    simp only [wtArgs, Bool.and_eq_true] at hv
    simp only [tysWf, List.all_cons, Bool.and_eq_true] at hw
    rw [headLen_cons, List.length_append, encStatic_length hw.1 hv.1 (by simpa using hs), ih hw.2 hv.2]
  | case3 tys off vs h =>
    obtain ⟨rfl, rfl⟩ := wtArgs_nil hv h
    rfl

/-- the invariant of the round trip: what is left at `i` is the remaining heads, then `mid` (the tails of the arguments
already read), then the remaining tails; `off` is where the next tail starts -/
theorem decGo_encGo : ∀ (tys : List AbiType) (vs : List AbiVal) (i off : Nat) (B mid post : Bytes),
    tysWf tys = true → wtArgs tys vs = true → B.length < 2 ^ 63 →
    B.drop i = (encGo off tys vs).1 ++ mid ++ (encGo off tys vs).2 ++ post →
    off = i + (encGo off tys vs).1.length + mid.length →
    decGo i tys B = .ok vs := by
  intro tys
  induction tys with
  | nil =>
    intro vs i off B mid post _ hv _ _ _
    cases vs <;> simp [wtArgs] at hv
    simp [decGo]
  | cons t ts ih =>
    intro vs i off B mid post hw hv hB hd hoff
    cases vs with
    | nil => simp [wtArgs] at hv
    | cons v vs =>
      simp only [wtArgs, Bool.and_eq_true] at hv
      simp only [tysWf, List.all_cons, Bool.and_eq_true] at hw
      by_cases hdy : t.isDynamic = true
      · simp only [encGo, hdy, if_true] at hd hoff
        simp only [List.append_assoc] at hd
        simp only [List.length_append, natBE_length] at hoff
        have h1 := drop_of_drop_append hd
        simp only [natBE_length] at h1
        have h2 := drop_of_drop_append h1
        have h3 := drop_of_drop_append h2
        have ht : B.drop off = encTail v ++ ((encGo (off + (encTail v).length) ts vs).2 ++ post) := by
          have e : i + 32 + (encGo (off + (encTail v).length) ts vs).1.length + mid.length = off := by omega
          rw [e] at h3; exact h3
        have hone := decOne_dynamic hw.1 hv.1 hdy hd ht hB
        have hrec := ih vs (i + 32) (off + (encTail v).length) B (mid ++ encTail v) post hw.2 hv.2 hB
          (by rw [h1]; simp [List.append_assoc]) (by simp only [List.length_append]; omega)
        simp only [decGo, hone, headSize_dynamic hdy, hrec, bind, Except.bind, pure, Except.pure]
      · have hs : t.isDynamic = false := by simpa using hdy
        simp only [encGo, hs] at hd hoff
        simp only [Bool.false_eq_true, if_false, List.append_assoc] at hd
        simp only [Bool.false_eq_true, if_false, List.length_append] at hoff
        have hlen := encStatic_length hw.1 hv.1 hs
        have hone := decOne_static hw.1 hv.1 hs hd
        have h1 := drop_of_drop_append hd
        rw [hlen] at h1
        have hrec := ih vs (i + t.headSize) off B mid post hw.2 hv.2 hB
          (by rw [h1]; simp [List.append_assoc]) (by omega)
        simp only [decGo, hone, hrec, bind, Except.bind, pure, Except.pure]

theorem decode_encode (tys : List AbiType) (vs : List AbiVal) (hw : tysWf tys = true) (hv : wtArgs tys vs = true)
    (hB : (encodeRaw tys vs).length < 2 ^ 63) : decodeArgs tys (encodeRaw tys vs) = .ok vs := by
  apply decGo_encGo tys vs 0 (headLen tys) (encodeRaw tys vs) [] [] hw hv hB
  · simp [encodeRaw]
  · simp [encGo_fst_length tys vs _ hw hv]

/-! ### the bytes of a string

`ByteArray.toList` is a loop by well-founded recursion, which the kernel unfolds slowly;
`Array.toList` of the underlying array is structural. `strBytes_eq` is rewritten into the statements about
event ids and selectors before the kernel evaluates the hashes. -/

theorem toList_loop_eq (bs : ByteArray) (i : Nat) (r : List UInt8) :
    ByteArray.toList.loop bs i r = r.reverse ++ bs.data.toList.drop i := by
  unfold ByteArray.toList.loop
  split
  · next h =>
    have h' : i < bs.data.toList.length := by simpa using h
    rw [toList_loop_eq bs (i + 1), List.reverse_cons, List.append_assoc, List.singleton_append,
      List.drop_eq_getElem_cons h']
    congr 2
    simp [ByteArray.get!, getElem!_pos, h]
  · next h =>
    rw [List.drop_of_length_le (by simpa using h), List.append_nil]
termination_by bs.size - i

theorem strBytes_eq (s : String) : strBytes s = s.toByteArray.data.toList := by
  rw [strBytes, String.toUTF8, ByteArray.toList, toList_loop_eq]; rfl

end Dos.Abi
