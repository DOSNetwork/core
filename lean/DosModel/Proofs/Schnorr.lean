/-
C20 — Schnorr/EdDSA algebra over ANY commutative group written additively, the bridge from
the executable group record `Schnorr.Grp` to such a group (`Lawful`), and what the verifiers accept, for any record
(`frame_ok_iff` for `verify`/`verifyPre`, `verifyStd_iff`).
-/
import Mathlib.Algebra.Group.Basic
import DosModel.Model.Schnorr
import DosModel.Proofs.Ed25519Enc

namespace Dos.Schnorr
open Dos Dos.Ed25519

section algebra
variable {G : Type} [AddCommGroup G]

theorem mod_nsmul (B : G) (hB : ell • B = 0) (n : ℕ) : (n % ell) • B = n • B :=
  (nsmul_eq_mod_nsmul n hB).symm

theorem nsmul_congr_mod (B : G) (hB : ell • B = 0) (m n : ℕ) (h : m % ell = n % ell) : m • B = n • B := by
  rw [← mod_nsmul B hB m, ← mod_nsmul B hB n, h]

/-- the response s = k + x·h (reduced as `scMul`, `scAdd`, `MarshalBinary` do) satisfies s•B = R + h•A -/
theorem response_eq (B : G) (hB : ell • B = 0) (k x h : ℕ) :
    ((k + x * h % ell) % ell) • B = k • B + h • (x • B) := by
  rw [mod_nsmul B hB, add_nsmul, mod_nsmul B hB, mul_nsmul]

theorem scalar_unique (B : G) (hord : ∀ n : ℕ, n • B = 0 → ell ∣ n) (s t : ℕ) (hs : s < ell) (ht : t < ell)
    (h : s • B = t • B) : s = t := by
  have key : ∀ s t : ℕ, t < ell → s ≤ t → s • B = t • B → s = t := by
    intro s t ht hle h
    have e : t • B = (t - s) • B + s • B := by rw [← add_nsmul, Nat.sub_add_cancel hle]
    have hd := hord _ (add_eq_right.1 (h.trans e).symm)
    have := Nat.eq_zero_of_dvd_of_lt hd (by omega : t - s < ell)
    omega
  rcases Nat.le_total s t with hle | hle
  · exact key s t ht hle h
  · exact (key t s hs hle h.symm).symm

theorem nsmul_eq_imp_mod_eq (B : G) (hB : ell • B = 0) (hord : ∀ n : ℕ, n • B = 0 → ell ∣ n) (m n : ℕ)
    (h : m • B = n • B) : m % ell = n % ell :=
  scalar_unique B hord _ _ (Nat.mod_lt _ (by decide)) (Nat.mod_lt _ (by decide))
    (by rw [mod_nsmul B hB, mod_nsmul B hB, h])

end algebra

/-- the executable record `g` computes in the commutative group structure on `G`:
`add`/`smul` are the group operations, the base point is killed by ℓ, encodings are 32 bytes
and decode back (so `enc` is injective and `Point.Equal` — comparison of encodings — is equality). -/
structure Lawful {G : Type} [AddCommGroup G] (g : Grp G) : Prop where
  add_eq : ∀ P Q, g.add P Q = P + Q
  smul_eq : ∀ (n : ℕ) P, g.smul n P = n • P
  order : ell • g.base = 0
  enc_len : ∀ P, (g.enc P).length = 32
  dec_enc : ∀ P, g.dec (g.enc P) = some P

section lawful
variable {G : Type} [AddCommGroup G] {g : Grp G}

theorem Lawful.enc_inj (L : Lawful g) {P Q : G} (h : g.enc P = g.enc Q) : P = Q := by
  have := L.dec_enc P
  rw [h, L.dec_enc Q] at this
  exact (Option.some.inj this).symm

theorem Lawful.eq_iff (L : Lawful g) (P Q : G) : g.eq P Q = true ↔ P = Q := by
  unfold Grp.eq
  rw [beq_iff_eq]
  exact ⟨L.enc_inj, fun h => by rw [h]⟩

/-- the last test of all three verifiers, `Equal(s•B, R + h•A)` on the record, is the group equation -/
theorem Lawful.check_iff (L : Lawful g) (s h : ℕ) (A R : G) :
    g.eq (g.smul s g.base) (g.add R (g.smul h A)) = true ↔ s • g.base = R + h • A := by
  rw [L.eq_iff, L.smul_eq, L.add_eq, L.smul_eq]

theorem sig_split {Rb : Bytes} (hRb : Rb.length = 32) (t : Bytes) :
    (Rb ++ t).take 32 = Rb ∧ (Rb ++ t).drop 32 = t := by
  constructor
  · -- the first 32 bytes are all of Rb
    rw [List.take_append_of_le_length (by omega)]
    exact List.take_of_length_le (by omega)
  · -- dropping 32 bytes drops all of Rb and nothing of t
    rw [List.drop_append_of_le_length (by omega), List.drop_of_length_le (by omega)]
    rfl

theorem sig_halves (L : Lawful g) (R : G) {s : ℕ} (hs : s < ell) :
    (g.enc R ++ natLE 32 s).take 32 = g.enc R ∧ (g.enc R ++ natLE 32 s).drop 32 = natLE 32 s
    ∧ leNat ((g.enc R ++ natLE 32 s).drop 32) = s := by
  obtain ⟨h1, h2⟩ := sig_split (L.enc_len R) (natLE 32 s)
  exact ⟨h1, h2, by rw [h2, leNat_natLE_of_lt 32 _ (Nat.lt_trans hs ell_lt)]⟩

/-- a signature made by `sign` is enc (k•B) ‖ the response k + x·h mod ℓ -/
theorem sign_halves (L : Lawful g) (H : Bytes → Bytes) (x k : ℕ) (msg : Bytes) :
    (k + x * challenge g H (g.smul x g.base) (g.smul k g.base) msg % ell) % ell < ell
    ∧ (sign g H x k msg).take 32 = g.enc (g.smul k g.base)
    ∧ (sign g H x k msg).drop 32
      = natLE 32 ((k + x * challenge g H (g.smul x g.base) (g.smul k g.base) msg % ell) % ell)
    ∧ leNat ((sign g H x k msg).drop 32)
      = (k + x * challenge g H (g.smul x g.base) (g.smul k g.base) msg % ell) % ell :=
  have hS := Nat.mod_lt _ (by decide : 0 < ell)
  ⟨hS, sig_halves L _ hS⟩

end lawful

section verifiers
variable {G : Type} (g : Grp G)

/-- the S part of a 64-byte signature is canonical iff it spells a number below ℓ -/
theorem scCanonical_drop {sig : Bytes} (hl : sig.length = 64) :
    scCanonical (sig.drop 32) = true ↔ leNat (sig.drop 32) < ell := by
  rw [scCanonical_iff, List.length_drop, hl]
  exact and_iff_right rfl

/-- the frame `Verify` has before and after the repair: 64 bytes whose first half decodes to a point R, then whatever
is done with R -/
theorem frame_ok_iff (sig : Bytes) (k : G → Except VErr Unit) :
    (if sig.length ≠ 64 then Except.error VErr.length else
      match g.dec (sig.take 32) with
      | none => Except.error VErr.point
      | some R => k R) = Except.ok ()
      ↔ sig.length = 64 ∧ ∃ R, g.dec (sig.take 32) = some R ∧ k R = Except.ok () := by
  by_cases hl : sig.length = 64
  · rw [if_neg (not_not.2 hl)]
    cases g.dec (sig.take 32) with
    | none => exact ⟨fun h => (nomatch h), fun ⟨_, _, h, _⟩ => nomatch h⟩
    | some R => exact ⟨fun h => ⟨hl, R, rfl, h⟩, fun ⟨_, _, h, hk⟩ => Option.some.inj h ▸ hk⟩
  · rw [if_pos hl]
    exact ⟨fun h => (nomatch h), fun h => absurd h.1 hl⟩

/-- what the RFC 8032 verifier accepts (any record): both byte strings decode, S < ℓ, R is in canonical encoding, and
`Equal(S•B, R + h•A)` for the digest of the bytes as received -/
theorem verifyStd_iff (H : Bytes → Bytes) (pub msg sig : Bytes) :
    verifyStd g H pub msg sig = true ↔
      sig.length = 64 ∧ ∃ A R, g.dec pub = some A ∧ g.dec (sig.take 32) = some R ∧ leNat (sig.drop 32) < ell ∧
        g.enc R = sig.take 32 ∧
        g.eq (g.smul (leNat (sig.drop 32)) g.base)
          (g.add R (g.smul (leNat (H (sig.take 32 ++ pub ++ msg)) % ell) A)) = true := by
  unfold verifyStd
  by_cases hl : sig.length = 64
  · rw [← scCanonical_drop hl]
    cases g.dec pub <;> cases g.dec (sig.take 32) <;> simp [hl, and_assoc]
  · simp [hl]

end verifiers

end Dos.Schnorr
