/-
State invariants of the `DistKeyGenerator` model (`Model/Dkg.lean`) that hold for EVERY input.  `GoodGen`
records, per dealer slot, that the stored own response is the one this member signed for the commitments it
saw (and, when it is an approval, that the stored deal is consistent with them), and that every
response of another member in the slot passed `verifyResponse` (session id of the slot, signature
of that member).  `Move` says what one library call does to a generator: nothing, an empty slot is filled
(`Opened`), or the aggregator of one taken slot makes an `AggMove`; a property of all slots follows a move by
`Move.forall_slots` / `Move.slot_kept`, and every invariant here, in `Proofs/DkgResp.lean` and in
`Proofs/DkgLib.lean` is proved by cases on the move.  `processDeal_spec` lists every outcome of `ProcessDeal`
together with its answer.
-/
import DosModel.Proofs.VssAgg
import DosModel.Model.Dkg

set_option linter.unusedSectionVars false

namespace Dos.Dkg
open Dos Dos.Vss

variable {F G : Type} [Field F] [AddCommGroup G] [Module F G] [DecidableEq F] [DecidableEq G]

/-- a response of another member in slot `k` went through `verifyResponse`: it carries the slot's
session id and a signature of member `k` on it (the status may since have been turned into an
approval by an accepted justification) -/
def SlotOk (g : G) (L : List G) (a : Agg F G) (k : Nat) : Prop :=
  ∀ r, getResponse a k = some r → r.index = k ∧ r.sid = a.sid ∧
    ∃ pub st, L[k]? = some pub ∧ verifyRespSig g pub { r with status := st } = true

/-- the aggregator of dealer slot `j` (dealer key `dealer`) as member `own` (key `long`, list `L`) keeps
it. Slot `j` of the responses is exempt from `others`: it holds the dealer's unsigned auto-approval. -/
structure GoodA (g : G) (own : Nat) (long : F) (L : List G) (dealer : G) (j : Nat) (a : Agg F G) : Prop where
  hvs : a.vs = L
  hdealer : a.dealer = dealer
  hlen : a.responses.length = L.length
  ownResp : ∃ r, getResponse a own = some r ∧ r.index = own ∧ (∃ rnd, r.sig = .sign long r.sid own r.status rnd) ∧
    (r.status = true → ∃ d val, a.deal = some d ∧ a.sid = d.sid ∧ r.sid = Sid.h dealer L d.commits d.t ∧
      Consistent g dealer L d ∧ d.share = some ⟨(own : Int), some val⟩)
  others : ∀ k, k ≠ own → k ≠ j → SlotOk g L a k

/-- the verifier in dealer slot `j`: built for the dealer `L[j]`, this list, this member; `GoodA` once it
has an aggregator -/
structure GoodV (g : G) (own : Nat) (long : F) (L : List G) (j : Nat) (v : Verifier F G) : Prop where
  hdealer : L[j]? = some v.dealer
  hvs : v.vs = L
  hlong : v.long = long
  hindex : v.index = own
  hagg : ∀ a, v.agg = some a → GoodA g own long L v.dealer j a

/-- what `verifyResponse` and `verifyJustification` keep of an aggregator: the own response, the stored
deal, the session id, the member list, and no response is lost -/
structure AggKeeps (own : Nat) (a a2 : Agg F G) : Prop where
  own : getResponse a2 own = getResponse a own
  deal : a2.deal = a.deal
  sid : a2.sid = a.sid
  vs : a2.vs = a.vs
  mono : ∀ k, (getResponse a k).isSome = true → (getResponse a2 k).isSome = true

theorem AggKeeps.trans {own : Nat} {a a1 a2 : Agg F G} (h1 : AggKeeps own a a1) (h2 : AggKeeps own a1 a2) :
    AggKeeps own a a2 :=
  ⟨h2.own.trans h1.own, h2.deal.trans h1.deal, h2.sid.trans h1.sid, h2.vs.trans h1.vs,
    fun k hk => h2.mono k (h1.mono k hk)⟩

/-- **the shape all operations on an aggregator share**: the responses change in one slot `idx` of
another member; frame, stored deal and session id stay.  Then `GoodA` survives if the new content of
that slot is accounted for (nothing is asked of the dealer's slot `j`). -/
theorem GoodA.of_slot_change {g : G} {own : Nat} {long : F} {L : List G} {dealer : G} {j : Nat} {a a2 : Agg F G}
    (ha : GoodA g own long L dealer j a) (idx : Nat) (hidx : idx ≠ own)
    (hvs : a2.vs = a.vs) (hdealer : a2.dealer = a.dealer) (hlen : a2.responses.length = a.responses.length)
    (hdeal : a2.deal = a.deal) (hsid : a2.sid = a.sid)
    (hget : ∀ k, k ≠ idx → getResponse a2 k = getResponse a k)
    (hmono : (getResponse a idx).isSome = true → (getResponse a2 idx).isSome = true)
    (hslot : idx ≠ j → SlotOk g L a2 idx) :
    GoodA g own long L dealer j a2 ∧ AggKeeps own a a2 := by
  obtain ⟨r, hr, hri, hsig, himp⟩ := ha.ownResp
  refine ⟨⟨hvs.trans ha.hvs, hdealer.trans ha.hdealer, hlen.trans ha.hlen,
    ⟨r, (hget own hidx.symm).trans hr, hri, hsig, by rw [hdeal, hsid]; exact himp⟩, fun k hk hkj => ?_⟩,
    hget own hidx.symm, hdeal, hsid, hvs, fun k hk => ?_⟩
  · by_cases hki : k = idx
    · subst hki; exact hslot hkj
    · intro r' hr'
      rw [hget k hki] at hr'; rw [hsid]
      exact ha.others k hk hkj r' hr'
  · by_cases hki : k = idx
    · subst hki; exact hmono hk
    · rw [hget k hki]; exact hk

/-- the part of the invariant that holds from `initDistKeyGenerator` on -/
structure GoodGen0 (g : G) (d : Gen F G) : Prop where
  len : d.verifiers.length = d.participants.length
  idx : findIndex (d.long • g) d.participants 0 = some d.index
  lt : d.index < d.participants.length
  good : ∀ j v, getVerifier d j = some v → GoodV g d.index d.long d.participants j v

/-- the invariant after `Deals()`: the own slot is taken and stores the own deal -/
structure GoodGen (g : G) (d : Gen F G) : Prop extends GoodGen0 g d where
  ownSlot : (getVerifier d d.index).isSome = true
  ownDeal : ∀ v a, getVerifier d d.index = some v → v.agg = some a → a.deal.isSome = true

theorem getVerifier_set (d : Gen F G) (j k : Nat) (v : Verifier F G) (hj : j < d.verifiers.length) :
    getVerifier (setVerifier d j v) k = if j = k then some v else getVerifier d k := by
  unfold getVerifier setVerifier
  simp only [List.getElem?_set]
  by_cases h : j = k
  · subst h; simp [hj]
  · simp [h]

theorem setVerifier_frame (d : Gen F G) (j : Nat) (v : Verifier F G) :
    (setVerifier d j v).participants = d.participants ∧ (setVerifier d j v).index = d.index ∧
    (setVerifier d j v).long = d.long ∧ (setVerifier d j v).verifiers.length = d.verifiers.length ∧
    (setVerifier d j v).dealer = d.dealer ∧ (setVerifier d j v).t = d.t := by
  simp [setVerifier]

theorem findIndex_lt (pub : G) : ∀ (l : List G) (k i : Nat), findIndex pub l k = some i → k ≤ i ∧ i < k + l.length
  | [], k, i, h => by simp [findIndex] at h
  | p :: ps, k, i, h => by
    unfold findIndex at h
    by_cases hp : p = pub
    · simp only [hp, if_true, Option.some.injEq] at h; subst h; simp
    · simp only [hp, if_false] at h
      have := findIndex_lt pub ps (k + 1) i h
      simp only [List.length_cons]; omega

theorem newVerifier_ok {g : G} {long : F} {dealer : G} {vs : List G} {v : Verifier F G}
    (h : newVerifier g long dealer vs = .ok v) :
    ∃ i, findIndex (long • g) vs 0 = some i ∧
      v = { long := long, pub := long • g, dealer := dealer, index := i, vs := vs, agg := none } := by
  unfold newVerifier at h
  rcases hf : findIndex (long • g) vs 0 with _ | i
  · simp [hf] at h
  · simp only [hf] at h; injection h with h; exact ⟨i, rfl, h.symm⟩

theorem unsafeSet_frame (v : Verifier F G) (idx : Nat) :
    (v.unsafeSetResponse idx true).dealer = v.dealer ∧ (v.unsafeSetResponse idx true).vs = v.vs ∧
    (v.unsafeSetResponse idx true).long = v.long ∧ (v.unsafeSetResponse idx true).index = v.index := by
  unfold Verifier.unsafeSetResponse
  rcases v.agg with _ | a
  · simp
  · dsimp only
    rcases addResponse a _ with _ | _ <;> simp

theorem unsafeSet_approved (v : Verifier F G) (idx : Nat) :
    (v.unsafeSetResponse idx true).approved = v.approved := by
  unfold Verifier.unsafeSetResponse
  rcases v.agg with _ | a
  · simp
  · dsimp only
    rcases addResponse a _ with _ | _ <;> simp

/-- what `UnsafeSetResponseDKG` does to a verifier with aggregator `a`: nothing (index out of range or
slot taken), or the dealer's unsigned approval goes into the empty slot `idx` -/
theorem unsafeSet_eq (v : Verifier F G) (idx : Nat) (a : Agg F G) (hv : v.agg = some a) :
    v.unsafeSetResponse idx true = v ∨
    (idx < a.vs.length ∧ getResponse a idx = none ∧ v.unsafeSetResponse idx true =
      { v with agg := some { a with responses := a.responses.set idx (some ⟨a.sid, idx, true, .junk 0⟩) } }) := by
  unfold Verifier.unsafeSetResponse
  rcases hadd : addResponse a { sid := a.sid, index := idx, status := true, sig := .junk 0 } with err | a'
  · left; simp only [hv, hadd]
  · obtain ⟨h1, h2, h3⟩ := addResponse_ok hadd
    right; exact ⟨h1, h2, by simp only [hv, hadd, h3]⟩

theorem getVerifier_replicate (d : Gen F G) (n : Nat) (h : d.verifiers = List.replicate n none) (j : Nat) :
    getVerifier d j = none := by
  unfold getVerifier
  rw [h]
  by_cases hj : j < n
  · simp [hj]
  · simp [hj]

/-- the generator `initDistKeyGenerator` returns, in full -/
theorem newGen_ok {g : G} {long : F} {L : List G} {f : List F} {d : Gen F G} (h : newGen g long L f = .ok d) :
    ∃ idx, findIndex (long • g) L 0 = some idx ∧
      d = { index := idx, long := long, pub := long • g, participants := L, t := f.length,
            dealer := { long := long, pub := long • g, f := f, commits := commit g f, vs := L, t := f.length,
                        sid := .h (long • g) L (commit g f) f.length,
                        deals := (List.range L.length).map (fun i => honestDeal g long L f i),
                        agg := newAgg (long • g) L (commit g f) f.length (.h (long • g) L (commit g f) f.length) },
            verifiers := List.replicate L.length none } := by
  unfold newGen at h
  rcases hf : findIndex (long • g) L 0 with _ | idx
  · rw [hf] at h; cases h
  · simp only [hf, newDealer] at h
    by_cases hv : validT f.length L.length = false
    · simp only [hv, if_true] at h; cases h
    · simp only [hv] at h; cases h; exact ⟨idx, rfl, rfl⟩

theorem newGen_good0 {g : G} {long : F} {L : List G} {f : List F} {d : Gen F G} (h : newGen g long L f = .ok d) :
    GoodGen0 g d ∧ (∀ j, getVerifier d j = none) ∧ d.participants = L ∧ d.long = long ∧ d.dealer.f = f := by
  obtain ⟨idx, hf, hd⟩ := newGen_ok h
  have hempty := getVerifier_replicate d L.length (by rw [hd])
  subst hd
  exact ⟨⟨by simp, hf, by simpa using (findIndex_lt (long • g) L 0 idx hf).2, fun j v hv => by rw [hempty j] at hv; cases hv⟩,
    hempty, rfl, rfl, rfl⟩

/-- the verifier `ProcessDeal` creates for the dealer with key `pub`, `i` being the own index -/
def slotVerifier (g : G) (d : Gen F G) (pub : G) (i : Nat) : Verifier F G :=
  { long := d.long, pub := d.long • g, dealer := pub, index := i, vs := d.participants, agg := none }

theorem getResponse_answered (v : Verifier F G) (dl : Deal F G) (st : Bool) (rnd : Nat) (hidx : v.index < v.vs.length)
    (k : Nat) : getResponse (answeredAgg v dl st rnd) k = if v.index = k then some (signedResp v dl st rnd) else none := by
  simp only [getResponse, answeredAgg, List.getElem?_set, List.length_replicate, hidx, if_true]
  split
  · rfl
  · rw [List.getElem?_replicate]; split <;> rfl

theorem goodA_answered (g : G) (v : Verifier F G) (j : Nat) (dl : Deal F G) (val : F) (st : Bool) (rnd : Nat)
    (hidx : v.index < v.vs.length) (hsh : dl.share = some ⟨(v.index : Int), some val⟩)
    (hst : st = true ↔ Consistent g v.dealer v.vs dl) :
    GoodA g v.index v.long v.vs v.dealer j (answeredAgg v dl st rnd) := by
  have hget := getResponse_answered v dl st rnd hidx
  refine ⟨rfl, rfl, by simp [answeredAgg], ⟨_, by rw [hget, if_pos rfl], rfl, ⟨rnd, rfl⟩, fun hs => ?_⟩, ?_⟩
  · exact ⟨dl, val, rfl, rfl, rfl, hst.1 hs, hsh⟩
  · intro k hk _ r' hr'
    rw [hget, if_neg (Ne.symm hk)] at hr'; cases hr'

/-- adding the dealer's unsigned auto-approval keeps `GoodA` (slot `j` is not constrained; for
`j = own` the slot is taken and nothing is added) -/
theorem goodA_unsafeSet (g : G) (own : Nat) (long : F) (L : List G) (dealer : G) (j : Nat) (a : Agg F G)
    (ha : GoodA g own long L dealer j a) (hj : j < a.vs.length) (hnone : getResponse a j = none) :
    GoodA g own long L dealer j
      { a with responses := a.responses.set j (some { sid := a.sid, index := j, status := true, sig := .junk 0 }) } := by
  have hget := fun k => getResponse_set a j k { sid := a.sid, index := j, status := true, sig := .junk 0 }
    (by rw [ha.hlen, ← ha.hvs]; exact hj)
  have hjo : j ≠ own := by
    intro he; obtain ⟨r, hr, _⟩ := ha.ownResp; subst he; rw [hnone] at hr; cases hr
  exact (ha.of_slot_change (a2 := { a with responses := a.responses.set j (some ⟨a.sid, j, true, .junk 0⟩) })
    j hjo rfl rfl (by simp) rfl rfl (fun k hk => by rw [hget, if_neg (Ne.symm hk)])
    (fun _ => by rw [hget, if_pos rfl]; rfl) (fun h => absurd rfl h)).1

/-- `d'` is `d` with slot `j` now holding `w`; member list, own index and key stay -/
structure SlotSet (d d' : Gen F G) (j : Nat) (w : Verifier F G) : Prop where
  participants : d'.participants = d.participants
  index : d'.index = d.index
  long : d'.long = d.long
  len : d'.verifiers.length = d.verifiers.length
  get : ∀ k, getVerifier d' k = if j = k then some w else getVerifier d k

theorem SlotSet.of_set {d d' : Gen F G} {j : Nat} {w : Verifier F G} (hp : d'.participants = d.participants)
    (hi : d'.index = d.index) (hl : d'.long = d.long) (hj : j < d.verifiers.length)
    (h : d'.verifiers = d.verifiers.set j (some w)) : SlotSet d d' j w :=
  ⟨hp, hi, hl, by rw [h, List.length_set], fun k => by
    have := getVerifier_set d j k w hj
    unfold getVerifier setVerifier at this
    unfold getVerifier; rw [h]; exact this⟩

theorem slotSet_set (d : Gen F G) {j : Nat} (w : Verifier F G) (hj : j < d.verifiers.length) :
    SlotSet d (setVerifier d j w) j w :=
  .of_set rfl rfl rfl hj rfl

/-- what one call does to the aggregator `a` of dealer slot `j` (`own` the member's index): a response went
through `verifyResponse`; for the own dealing a complaint was then answered by `verifyJustification`; only the
library call `ProcessJustification` (index `true`) runs `verifyJustification` on its own -/
inductive AggMove (g : G) (own j : Nat) : Bool → Agg F G → Agg F G → Prop
  | resp {lib : Bool} {a a' : Agg F G} {r : Response F G} : verifyResponse g a r = .ok a' → AggMove g own j lib a a'
  | complaint {lib : Bool} {a a' : Agg F G} {r : Response F G} (deal : Deal F G) : j = own →
      verifyResponse g a r = .ok a' → AggMove g own j lib a (verifyJustification g a' r.index deal).1
  | just {a : Agg F G} (idx : Nat) (deal : Deal F G) : AggMove g own j true a (verifyJustification g a idx deal).1

/-- the verifier `ProcessDeal` leaves in the slot of the dealer with key `pub`: new and without aggregator
(`ProcessEncryptedDeal` failed), or with the answer to the opened deal `dl` recorded, its status as `approved` flag -/
inductive Opened (g : G) (d : Gen F G) (j : Nat) (pub : G) : Verifier F G → Prop
  | failed : Opened g d j pub (slotVerifier g d pub d.index)
  | answered {a : Agg F G} {dl : Deal F G} {val : F} {st : Bool} :
      dl.share = some ⟨(d.index : Int), some val⟩ → (st = true ↔ Consistent g pub d.participants dl) →
      GoodA g d.index d.long d.participants pub j a → a.deal = some dl →
      getResponse a d.index = some (signedResp (slotVerifier g d pub d.index) dl st 0) →
      Opened g d j pub { slotVerifier g d pub d.index with agg := some a, approved := st }

/-- **what one call of `ProcessDeal`, `ProcessResponse`, `ProcessJustification` does to a generator**: nothing,
an empty slot is filled, or the aggregator of a taken slot makes an `AggMove` (`lib = false`: the pipeline's calls) -/
inductive Move (g : G) (lib : Bool) (d : Gen F G) : Gen F G → Prop
  | stay : Move g lib d d
  | fill {j : Nat} {pub : G} {w : Verifier F G} : d.participants[j]? = some pub → getVerifier d j = none →
      Opened g d j pub w → Move g lib d (setVerifier d j w)
  | agg {d' : Gen F G} {j : Nat} {v : Verifier F G} {a a2 : Agg F G} : getVerifier d j = some v → v.agg = some a →
      AggMove g d.index j lib a a2 → SlotSet d d' j { v with agg := some a2 } → Move g lib d d'

theorem Move.frame {g : G} {lib : Bool} {d d' : Gen F G} (h : Move g lib d d') :
    d'.participants = d.participants ∧ d'.index = d.index ∧ d'.long = d.long ∧
      d'.verifiers.length = d.verifiers.length := by
  cases h with
  | stay => exact ⟨rfl, rfl, rfl, rfl⟩
  | fill _ _ _ => exact ⟨rfl, rfl, rfl, by simp [setVerifier]⟩
  | agg _ _ _ hs => exact ⟨hs.participants, hs.index, hs.long, hs.len⟩

/-- a property of all slots follows a move if the verifier `ProcessDeal` stores has it and an `AggMove` keeps it -/
theorem Move.forall_slots {g : G} {lib : Bool} {d d' : Gen F G} (h : Move g lib d d') {P : Nat → Verifier F G → Prop}
    (hlen : d.verifiers.length = d.participants.length)
    (hfill : ∀ {j pub w}, d.participants[j]? = some pub → getVerifier d j = none → getVerifier d' j = some w →
      Opened g d j pub w → P j w)
    (hmove : ∀ {j v a a2}, getVerifier d j = some v → v.agg = some a → AggMove g d.index j lib a a2 → P j v →
      P j { v with agg := some a2 })
    (hd : ∀ k v, getVerifier d k = some v → P k v) : ∀ k v, getVerifier d' k = some v → P k v := by
  intro k v hk
  cases h with
  | stay => exact hd k v hk
  | @fill j pub w hp hnone ho =>
    have hget := fun k => getVerifier_set d j k w (hlen ▸ (List.getElem?_eq_some_iff.1 hp).1)
    rw [hget] at hk
    split at hk
    · cases hk; subst_vars; exact hfill hp hnone ((hget _).trans (if_pos rfl)) ho
    · exact hd k v hk
  | agg hv hagg hm hs =>
    rw [hs.get] at hk
    split at hk
    · cases hk; subst_vars; exact hmove hv hagg hm (hd _ _ hv)
    · exact hd k v hk

/-- a slot that is taken stays taken by the same verifier; at most its aggregator made an `AggMove` -/
theorem Move.slot_kept {g : G} {lib : Bool} {d d' : Gen F G} (h : Move g lib d d')
    (hlen : d.verifiers.length = d.participants.length) {k : Nat} {v : Verifier F G}
    (hv : getVerifier d k = some v) :
    getVerifier d' k = some v ∨
      ∃ a a2, v.agg = some a ∧ AggMove g d.index k lib a a2 ∧ getVerifier d' k = some { v with agg := some a2 } := by
  cases h with
  | stay => exact Or.inl hv
  | @fill j pub w hp hnone _ =>
    rw [getVerifier_set d j k w (hlen ▸ (List.getElem?_eq_some_iff.1 hp).1),
      if_neg (by rintro rfl; rw [hnone] at hv; cases hv)]
    exact Or.inl hv
  | @agg _ j v0 a a2 hv0 hagg hm hs =>
    rw [hs.get]
    by_cases hjk : j = k
    · subst hjk; cases hv0.symm.trans hv
      exact Or.inr ⟨a, a2, hagg, hm, if_pos rfl⟩
    · rw [if_neg hjk]; exact Or.inl hv

/-- **`ProcessDeal` with its answer**: an error that leaves the state alone; or slot `dd.index` was empty and now
holds the new verifier – without aggregator after an error of `ProcessEncryptedDeal`, else the deal `dl` it opened
is stored and the answer `r` is the own response of the slot, its status the `approved` flag. -/
theorem processDeal_spec (g : G) (d : Gen F G) (dd : DkgDeal F G)
    (hidx : findIndex (d.long • g) d.participants 0 = some d.index) :
    (∃ e, processDeal g d dd = (d, .error e)) ∨
    ∃ pub w, d.participants[dd.index]? = some pub ∧ getVerifier d dd.index = none ∧ Opened g d dd.index pub w ∧
      (processDeal g d dd).1 = setVerifier d dd.index w ∧
      ((w.agg = none ∧ ∃ e, (processDeal g d dd).2 = .error e) ∨
       ∃ a r dl val e, w.agg = some a ∧ getResponse a d.index = some r ∧ r.status = w.approved ∧
        r.sig = .sign d.long r.sid d.index r.status 0 ∧ a.deal = some dl ∧
        dl.share = some ⟨(d.index : Int), some val⟩ ∧ dd.deal = some e ∧
        decryptDeal g (slotVerifier g d pub d.index) e = .ok dl ∧
        (processDeal g d dd).2 = .ok ⟨dd.index, some r⟩) := by
  unfold processDeal
  rcases hp : d.participants[dd.index]? with _ | pub
  · exact Or.inl ⟨_, rfl⟩
  · by_cases hex : (getVerifier d dd.index).isSome = true
    · exact Or.inl ⟨_, if_pos hex⟩
    · simp only [if_neg hex, newVerifier, hidx]
      have hnone : getVerifier d dd.index = none := by simpa using hex
      have hlt : d.index < d.participants.length := by simpa using (findIndex_lt _ _ 0 _ hidx).2
      refine Or.inr ⟨pub, ?_⟩
      rcases hdd : dd.deal with _ | e
      · exact ⟨_, rfl, hnone, .failed, rfl, Or.inl ⟨rfl, _, rfl⟩⟩
      · rcases processEncryptedDeal_cases g (slotVerifier g d pub d.index) e 0 rfl hlt with
          ⟨err, h⟩ | ⟨dl, val, st, hdec, hsh, hst, h⟩ <;> simp only [slotVerifier] at h <;> simp only [h]
        · exact ⟨_, trivial, hnone, .failed, rfl, Or.inl ⟨rfl, _, rfl⟩⟩
        · -- the dealer's own approval on top of the answer: `UnsafeSetResponseDKG` changes nothing or fills slot `dd.index`
          have hga := goodA_answered g (slotVerifier g d pub d.index) dd.index dl val st 0 hlt hsh hst
          have hown := (getResponse_answered (slotVerifier g d pub d.index) dl st 0 hlt d.index).trans (if_pos rfl)
          obtain ⟨a, hw, hga', hr⟩ : ∃ a, (answered (slotVerifier g d pub d.index) dl st 0).unsafeSetResponse dd.index true =
              { slotVerifier g d pub d.index with agg := some a, approved := st } ∧
              GoodA g d.index d.long d.participants pub dd.index a ∧ a.deal = some dl ∧
              getResponse a d.index = some (signedResp (slotVerifier g d pub d.index) dl st 0) := by
            rcases unsafeSet_eq (answered (slotVerifier g d pub d.index) dl st 0) dd.index _ rfl with hu | ⟨hlt', hnn, hu⟩
            · exact ⟨_, hu, hga, rfl, hown⟩
            · refine ⟨_, hu, goodA_unsafeSet g _ _ _ _ _ _ hga hlt' hnn, rfl, ?_⟩
              rw [getResponse_set _ dd.index d.index _ (by simpa [answeredAgg] using hlt'), if_neg, hown]
              rintro he; rw [he, hown] at hnn; cases hnn
          simp only [slotVerifier] at hw
          rw [hw]
          exact ⟨_, trivial, hnone, .answered hsh hst hga' hr.1 hr.2, rfl,
            Or.inr ⟨a, _, dl, val, e, rfl, hr.2, rfl, rfl, hr.1, hsh, rfl, hdec, rfl⟩⟩

theorem processDeal_move (g : G) (lib : Bool) (d : Gen F G) (dd : DkgDeal F G)
    (hidx : findIndex (d.long • g) d.participants 0 = some d.index) : Move g lib d (processDeal g d dd).1 := by
  rcases processDeal_spec g d dd hidx with ⟨e, h⟩ | ⟨pub, w, hp, hnone, ho, h, _⟩
  · rw [h]; exact .stay
  · rw [h]; exact .fill hp hnone ho

end Dos.Dkg
