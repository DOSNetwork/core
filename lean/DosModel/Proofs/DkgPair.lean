/-
The session layer of `pdkg.Loop` for one message kind (`handlePeerMsg` / `handleRequest` of
`Model/DkgSession.lean`), with de-duplication by a key: if the request for `k` messages is
registered exactly once and messages with `k` distinct keys arrive – before or after the
registration, in any order, each any number of times – the request fires, exactly once, with one
message per key.  (This is what fails without de-duplication: F11.)
-/
import DosModel.Model.DkgSession
import Mathlib.Data.List.Nodup
import Mathlib.Data.List.Perm.Subperm

set_option linter.unusedSectionVars false

namespace Dos.Dkg

variable {M κ : Type} [DecidableEq κ]

/-- an event at one (buffer, request) pair -/
inductive PEv (M : Type) where
  | reg (k : Nat)
  | msg (m : M)

/-- pair and reply channel (capacity 1: the first batch handed over stays there) -/
def pairStep (dup : M → M → Bool) (st : Pair M × Option (List M)) : PEv M → Pair M × Option (List M)
  | .reg k => let r := handleRequest st.1 k; (r.1, orElse st.2 r.2)
  | .msg m => let r := handlePeerMsg dup st.1 m; (r.1, orElse st.2 r.2)

def pairRun (dup : M → M → Bool) (evs : List (PEv M)) : Pair M × Option (List M) :=
  evs.foldl (pairStep dup) (⟨[], none⟩, none)

def msgKeys (key : M → κ) : List (PEv M) → List κ
  | [] => []
  | .reg _ :: es => msgKeys key es
  | .msg m :: es => key m :: msgKeys key es

theorem orElse_none {α : Type} (b : Option α) : orElse none b = b := by cases b <;> rfl
theorem orElse_some {α : Type} (a : α) (b : Option α) : orElse (some a) b = some a := rfl

theorem handlePeerMsg_noreq (dup : M → M → Bool) (p : Pair M) (x : M) (h : p.req = none) :
    (handlePeerMsg dup p x).2 = none ∧ (handlePeerMsg dup p x).1.req = none := by
  unfold handlePeerMsg
  split <;> simp [h]

theorem nodup_subset_length_le {l K : List κ} (hl : l.Nodup) (hsub : ∀ x ∈ l, x ∈ K) : l.length ≤ K.length :=
  (List.subperm_of_subset hl hsub).length_le

theorem nodup_full {l K : List κ} (hl : l.Nodup) (hsub : ∀ x ∈ l, x ∈ K) (hlen : l.length = K.length) :
    ∀ x ∈ K, x ∈ l :=
  fun _ hx => (((List.subperm_of_subset hl hsub).perm_of_length_le (Nat.le_of_eq hlen.symm)).mem_iff).2 hx

/-- a buffer holding exactly one message, satisfying `P`, for each of the keys `seen` -/
def BufOk (P : M → Prop) (key : M → κ) (seen : List κ) (buf : List M) : Prop :=
  (buf.map key).Nodup ∧ (∀ x, x ∈ buf.map key ↔ x ∈ seen) ∧ ∀ x ∈ buf, P x

namespace BufOk
variable {P : M → Prop} {dup : M → M → Bool} {key : M → κ} {K seen : List κ} {buf : List M} {m : M}

theorem sub (h : BufOk P key seen buf) (hs : ∀ x ∈ seen, x ∈ K) : ∀ x ∈ buf.map key, x ∈ K :=
  fun x hx => hs x ((h.2.1 x).1 hx)

theorem length_le (h : BufOk P key seen buf) (hs : ∀ x ∈ seen, x ∈ K) : buf.length ≤ K.length := by
  have := nodup_subset_length_le h.1 (h.sub hs)
  rwa [List.length_map] at this

/-- the de-duplication test of `handlePeerMsg` asks whether the key has been seen -/
theorem any_dup (hdup : ∀ a b, P a → P b → dup a b = decide (key a = key b)) (h : BufOk P key seen buf) (hm : P m) :
    (buf.any fun x => dup x m) = true ↔ key m ∈ seen := by
  rw [← h.2.1, List.any_eq_true, List.mem_map]
  refine exists_congr fun x => and_congr_right fun hx => ?_
  rw [hdup x m (h.2.2 x hx) hm, decide_eq_true_eq]

theorem again (h : BufOk P key seen buf) (hin : key m ∈ seen) : BufOk P key (key m :: seen) buf :=
  ⟨h.1, fun x => by rw [h.2.1, List.mem_cons]; exact ⟨Or.inr, fun hx => hx.elim (fun hx => hx ▸ hin) id⟩, h.2.2⟩

theorem snoc (h : BufOk P key seen buf) (hnin : key m ∉ seen) (hm : P m) : BufOk P key (key m :: seen) (buf ++ [m]) := by
  refine ⟨?_, fun x => ?_, fun x hx => ?_⟩
  · rw [List.map_append, List.map_singleton, List.nodup_append_comm]
    exact List.nodup_cons.2 ⟨fun hin => hnin ((h.2.1 _).1 hin), h.1⟩
  · rw [List.map_append, List.map_singleton, List.mem_append, List.mem_singleton, List.mem_cons, h.2.1 x, or_comm]
  · rcases List.mem_append.1 hx with hx | hx
    · exact h.2.2 x hx
    · rw [List.mem_singleton.1 hx]; exact hm

end BufOk

/-- Invariant of a pair `p` and its reply channel `box` as the member machine holds them, for a request for
`K.length` messages: `seen ⊆ K` are the keys of the messages that have arrived, all of them `P`.  The stage
behind the channel either still waits for the batch (`waiting`) or has taken it out.  Until the hand-over
the buffer holds one message per key seen and the request is there iff `registered`; the batch handed over
has one message for every key of `K` (`PairInv.take`); after it no request is registered any more. -/
structure PairInv (P : M → Prop) (key : M → κ) (K seen : List κ) (registered waiting : Bool)
    (p : Pair M) (box : Option (List M)) : Prop where
  seen_sub : ∀ x ∈ seen, x ∈ K
  open_ : waiting = true → box = none → BufOk P key seen p.buf ∧
      p.req = (if registered then some K.length else none) ∧ (registered = true → p.buf.length < K.length)
  fired : ∀ b, box = some b → (b.map key).Nodup ∧ b.length = K.length ∧ (∀ x ∈ b.map key, x ∈ K) ∧ ∀ x ∈ b, P x
  over : waiting = false ∨ box.isSome = true → registered = true ∧ p.req = none
  taken : waiting = false → box = none

namespace PairInv
variable {P : M → Prop} {dup : M → M → Bool} {key : M → κ} {K seen : List κ} {registered waiting : Bool}
  {p : Pair M} {box : Option (List M)}

theorem ofOpen (hs : ∀ x ∈ seen, x ∈ K) (hb : BufOk P key seen p.buf)
    (hreq : p.req = if registered then some K.length else none) (hlt : registered = true → p.buf.length < K.length) :
    PairInv P key K seen registered true p none :=
  ⟨hs, fun _ _ => ⟨hb, hreq, hlt⟩, fun b h => (by cases h), fun h => (by rcases h with h | h <;> cases h),
    fun h => (by cases h)⟩

theorem ofFired (hs : ∀ x ∈ seen, x ∈ K) {b : List M} (hb : BufOk P key seen b) (hl : b.length = K.length)
    (hreq : p.req = none) : PairInv P key K seen true true p (some b) :=
  ⟨hs, fun _ h => (by cases h), fun b' h => (by cases h; exact ⟨hb.1, hl, hb.sub hs, hb.2.2⟩), fun _ => ⟨rfl, hreq⟩,
    fun h => (by cases h)⟩

theorem init : PairInv P key K [] false true (⟨[], none⟩ : Pair M) none :=
  ofOpen (by simp) ⟨by simp, by simp, by simp⟩ rfl (fun h => by cases h)

/-- before the registration nothing is handed over, let alone taken -/
theorem unregistered (h : PairInv P key K seen false waiting p box) : box = none ∧ waiting = true := by
  refine ⟨?_, ?_⟩
  · rcases hb : box with _ | b
    · rfl
    · exact absurd (h.over (Or.inr (by rw [hb]; rfl))).1 (by simp)
  · cases waiting
    · exact absurd (h.over (Or.inl rfl)).1 (by simp)
    · rfl

/-- once registered and with every key seen, the hand-over has happened: otherwise the buffer holds one
message per key, which is the count the request waits for -/
theorem fired_of_all (h : PairInv P key K seen true true p box) (hK : K.Nodup) (hall : ∀ x ∈ K, x ∈ seen) :
    box.isSome = true := by
  rcases hbox : box with _ | b
  · obtain ⟨hbuf, _, hlt⟩ := h.open_ rfl hbox
    have := nodup_subset_length_le hK (fun x hx => (hbuf.2.1 x).2 (hall x hx))
    rw [List.length_map] at this
    exact absurd (hlt rfl) (by omega)
  · rfl

/-- the waiting stage takes the batch: it has exactly one message for every key -/
theorem take {b : List M} (h : PairInv P key K seen registered true p (some b)) :
    PairInv P key K seen registered false p none ∧ (b.map key).Nodup ∧ (∀ x ∈ b.map key, x ∈ K) ∧
      (∀ x ∈ K, x ∈ b.map key) ∧ ∀ x ∈ b, P x :=
  have ⟨h1, h2, h3, h4⟩ := h.fired b rfl
  ⟨⟨h.seen_sub, fun hw => (by cases hw), fun b hb => (by cases hb), fun _ => h.over (Or.inr rfl), fun _ => rfl⟩,
    h1, h3, nodup_full h1 h3 (by rw [List.length_map, h2]), h4⟩

/-- the registration of the request: it fires at once if the buffer is full -/
theorem reg (h : PairInv P key K seen false waiting p box) :
    PairInv P key K seen true true (handleRequest p K.length).1 (handleRequest p K.length).2 := by
  obtain ⟨hbox, rfl⟩ := h.unregistered
  obtain ⟨hbuf, _, _⟩ := h.open_ rfl hbox
  have hle := hbuf.length_le h.seen_sub
  unfold handleRequest
  split
  · rename_i hl; exact ofFired h.seen_sub hbuf hl rfl
  · exact ofOpen h.seen_sub hbuf rfl (fun _ => by show p.buf.length < _; omega)

/-- the arrival of a message with a key of `K` -/
theorem msg (hdup : ∀ a b, P a → P b → dup a b = decide (key a = key b)) (h : PairInv P key K seen registered waiting p box)
    {m : M} (hmK : key m ∈ K) (hmP : P m) :
    PairInv P key K (key m :: seen) registered waiting (handlePeerMsg dup p m).1 (orElse box (handlePeerMsg dup p m).2) := by
  have hseen : ∀ x ∈ key m :: seen, x ∈ K := by
    intro x hx; rcases List.mem_cons.1 hx with rfl | hx
    · exact hmK
    · exact h.seen_sub x hx
  by_cases hover : waiting = false ∨ box.isSome = true
  · -- handed over: the reply channel keeps the first batch, no request is registered any more
    obtain ⟨hr, hreq⟩ := h.over hover
    obtain ⟨h2, hreq'⟩ := handlePeerMsg_noreq dup p m hreq
    have hbox : orElse box (handlePeerMsg dup p m).2 = box := by rw [h2]; cases box <;> rfl
    rw [hbox]
    exact ⟨hseen, fun hw hb => hover.elim (fun h' => by rw [hw] at h'; cases h') (fun h' => by rw [hb] at h'; cases h'), h.fired, fun _ => ⟨hr, hreq'⟩, h.taken⟩
  · obtain rfl : waiting = true := by
      cases waiting
      · exact absurd (Or.inl rfl) hover
      · rfl
    obtain rfl : box = none := by
      cases box
      · rfl
      · exact absurd (Or.inr rfl) hover
    obtain ⟨hbuf, hreq, hlt⟩ := h.open_ rfl rfl
    simp only [handlePeerMsg, orElse_none]
    split
    · -- a duplicate: dropped
      rename_i hd
      exact ofOpen hseen (hbuf.again ((hbuf.any_dup hdup hmP).1 hd)) hreq hlt
    · rename_i hd
      have hbuf' := hbuf.snoc (fun hin => hd ((hbuf.any_dup hdup hmP).2 hin)) hmP
      have hle := hbuf'.length_le hseen
      rw [hreq]
      cases registered
      · exact ofOpen hseen hbuf' rfl (fun hr => by cases hr)
      · simp only [if_true]
        split
        · -- the count is reached: the batch is handed over
          rename_i hl; exact ofFired hseen hbuf' hl rfl
        · exact ofOpen hseen hbuf' rfl (fun _ => by show (p.buf ++ [m]).length < _; omega)

end PairInv

/-- the event list is admissible from a state that is (not) registered: every message key is in `K`,
a registration asks for `k` messages and happens only while unregistered -/
def OkEvs (P : M → Prop) (key : M → κ) (K : List κ) (k : Nat) : Bool → List (PEv M) → Prop
  | _, [] => True
  | r, .reg k' :: es => k' = k ∧ r = false ∧ OkEvs P key K k true es
  | r, .msg m :: es => (key m ∈ K ∧ P m) ∧ OkEvs P key K k r es

def endsRegistered : Bool → List (PEv M) → Bool
  | r, [] => r
  | _, .reg _ :: es => endsRegistered true es
  | r, .msg _ :: es => endsRegistered r es

theorem pair_run_inv (P : M → Prop) (dup : M → M → Bool) (key : M → κ)
    (hdup : ∀ a b, P a → P b → dup a b = decide (key a = key b)) (K : List κ) :
    ∀ (evs : List (PEv M)) (seen : List κ) (registered : Bool) (st : Pair M × Option (List M)),
      PairInv P key K seen registered true st.1 st.2 → OkEvs P key K K.length registered evs →
      PairInv P key K ((msgKeys key evs).reverse ++ seen) (endsRegistered registered evs) true
        (evs.foldl (pairStep dup) st).1 (evs.foldl (pairStep dup) st).2
  | [], _, _, _, h, _ => h
  | .reg _ :: es, seen, _, st, h, ⟨hk', hr, hrest⟩ => by
    subst hk' hr
    have hstep : pairStep dup st (.reg K.length) = handleRequest st.1 K.length := by
      simp only [pairStep, h.unregistered.1, orElse_none]
    have := pair_run_inv P dup key hdup K es seen true (handleRequest st.1 K.length) h.reg hrest
    rw [← hstep] at this
    exact this
  | .msg m :: es, seen, registered, st, h, ⟨hm, hrest⟩ => by
    have := pair_run_inv P dup key hdup K es (key m :: seen) registered (pairStep dup st (.msg m))
      (h.msg hdup hm.1 hm.2) hrest
    simpa only [msgKeys, endsRegistered, List.foldl_cons, List.reverse_cons, List.append_assoc,
      List.singleton_append] using this

/-- **the request fires with one message per key** once it is registered and every key has arrived -/
theorem pair_complete (P : M → Prop) (dup : M → M → Bool) (key : M → κ)
    (hdup : ∀ a b, P a → P b → dup a b = decide (key a = key b))
    (K : List κ) (hKnd : K.Nodup) (evs : List (PEv M))
    (hok : OkEvs P key K K.length false evs) (hreg : endsRegistered false evs = true)
    (hall : ∀ x ∈ K, x ∈ msgKeys key evs) :
    ∃ b, (pairRun dup evs).2 = some b ∧ (b.map key).Nodup ∧
      b.length = K.length ∧ (∀ x ∈ b.map key, x ∈ K) ∧ (∀ x ∈ K, x ∈ b.map key) ∧ (∀ x ∈ b, P x) := by
  have hinv := pair_run_inv P dup key hdup K evs [] false (⟨[], none⟩, none) PairInv.init hok
  rw [hreg, List.append_nil] at hinv
  obtain ⟨b, hbox⟩ := Option.isSome_iff_exists.1
    (hinv.fired_of_all hKnd (fun x hx => List.mem_reverse.2 (hall x hx)))
  have hb : (pairRun dup evs).2 = some b := hbox
  rw [show (List.foldl (pairStep dup) (⟨[], none⟩, none) evs).2 = some b from hbox] at hinv
  obtain ⟨_, h1, h3, h4, h5⟩ := hinv.take
  exact ⟨b, hb, h1, (hinv.fired b rfl).2.1, h3, h4, h5⟩

end Dos.Dkg
