import DosModel.Proofs.ConnTableTab

/-! A request to a peer with which no connection is registered on either side is served over a
new connection; which table entries an event can touch. -/
namespace Dos.ConnTable
open Dos

theorem lookupN_head (ν : Nonce) (i : Nat) (rest : List (Nonce × Nat)) : lookupN ((ν, i) :: rest) ν = some i := by
  simp [lookupN, List.find?]

/-- the four steps of one served request on a fresh connection (`s.nconn` is the connection the request opens,
`(s.nodes b).held.length` the place the message takes among those `b`'s application holds) -/
def serveEvs (s : Net) (a b : Nat) : List Ev :=
  [.request a b (some b), .deliverReq s.nconn, .appReply b (s.nodes b).held.length, .deliverReply s.nconn]

theorem refused_good_false (s : Net) (a b : Nat) (hi : s.ideal b = true ∨ (s.nodes b).inb a = none) :
    refused Cfg.good s a b = false := by
  simp only [refused, Cfg.good, keyVal]
  rcases hi with h | h
  · simp [h]
  · simp [h]

theorem served_on_fresh_connection (s : Net) (a b : Nat)
    (ho : (s.nodes a).out b = none) (hi : s.ideal b = true ∨ (s.nodes b).inb a = none) :
    ((run Cfg.good s (serveEvs s a b)).reqs s.nreq).out = .got s.nreq := by
  have href := refused_good_false s a b hi
  have href0 : refused Cfg.good (newReq s a b) a b = false := href
  -- step 1: the request opens connection `s.nconn`
  have h1 : step Cfg.good s (.request a b (some b)) =
      hand Cfg.good (openConn Cfg.good (newReq s a b) a b b) s.nreq s.nconn := by
    simp only [step, ho]
    have : (Cfg.good.idMatch && b != b) = false := by simp [Cfg.good]
    simp only [this, Bool.false_eq_true, if_false, href0]
  generalize hs0 : openConn Cfg.good (newReq s a b) a b b = s0 at h1
  have hc0 : s0.conns s.nconn = mkConn Cfg.good (newReq s a b) a b b := by
    rw [← hs0, openConn_conns]; simp
  have hcl : (s0.conns s.nconn).clD = false := by rw [hc0]; rfl
  -- the nonce the request gets, kept as a variable: nothing below depends on its value
  obtain ⟨ν, hν⟩ : ∃ ν, ν = nonceFor Cfg.good s0 s.nconn := ⟨_, rfl⟩
  have hF : handF Cfg.good s0 s.nreq s.nconn = fun x =>
      { x with next := x.next + 1, pend := (ν, s.nreq) :: x.pend,
               reqQ := if x.up then x.reqQ ++ [(ν, s.nreq)] else x.reqQ } := by rw [hν]; rfl
  have h1' : step Cfg.good s (.request a b (some b)) =
      (s0.setConn s.nconn (handF Cfg.good s0 s.nreq s.nconn)).setReq s.nreq
        (fun r => { r with conn := some s.nconn, nonce := some ν }) := by
    rw [h1, hand_open _ _ _ _ hcl, ← hν]
  generalize hs1 : step Cfg.good s (.request a b (some b)) = s1 at h1'
  have hn1 : s1.nconn = s.nconn + 1 := by rw [h1']; simp [← hs0]
  have hk1 : s1.conns s.nconn = handF Cfg.good s0 s.nreq s.nconn (mkConn Cfg.good (newReq s a b) a b b) := by
    rw [h1']; simp [hc0]
  have hup : (mkConn Cfg.good (newReq s a b) a b b).up = true := by simp [mkConn, href0]
  have hq1 : (s1.conns s.nconn).reqQ = [(ν, s.nreq)] := by
    rw [hk1, hF]; simp only [hup, if_true]; simp [mkConn]
  have hp1 : (s1.conns s.nconn).pend = [(ν, s.nreq)] := by rw [hk1, hF]; simp [mkConn]
  have hr1 : (s1.conns s.nconn).repQ = [] := by rw [hk1, hF]; simp [mkConn]
  obtain ⟨hregA1, hclA1, hclD1, hup1, ha1, hd1⟩ : (s1.conns s.nconn).regA = true ∧ (s1.conns s.nconn).clA = false ∧ (s1.conns s.nconn).clD = false ∧
      (s1.conns s.nconn).up = true ∧ (s1.conns s.nconn).a = b ∧ (s1.conns s.nconn).d = a := by
    rw [hk1, hF]; simp [mkConn, href0]
  have hreq1 : (s1.reqs s.nreq).out = .waiting := by
    rw [h1']; simp [← hs0, newReq_reqs]
  have hheld1 : (s1.nodes b).held = (s.nodes b).held := by
    rw [h1']; simp only [setReq_nodes, setConn_nodes, ← hs0]; rw [openConn_held]; rfl
  have hinb1 : s.ideal b = false → (s1.nodes b).inb a = some s.nconn := by
    intro hib
    have hno : ((newReq s a b).ideal b || refused Cfg.good (newReq s a b) a b) = false := by simp [hib, href0]
    rw [h1']; simp only [setReq_nodes, setConn_nodes, ← hs0]
    rw [openConn_eq, if_neg (Bool.eq_false_iff.mp hno), setNode_nodes]; split
    · simp [setTab, keyVal, Cfg.good]
    · simp [setTab, keyVal, Cfg.good]
  have hideal1 : s1.ideal = s.ideal := by rw [h1']; simp [← hs0]
  -- step 2: the frame reaches b's application
  have h2 : step Cfg.good s1 (.deliverReq s.nconn) =
      (s1.setConn s.nconn (fun x => { x with reqQ := [] })).setNode b
        (fun n => { n with held := n.held ++ [{ conn := s.nconn, sender := a, nonce := ν, g := s.nreq }] }) := by
    simp only [step, hn1, Nat.lt_succ_self, if_true, hq1]
    simp [hregA1, hclA1, ha1, hd1]
  generalize hs2 : step Cfg.good s1 (.deliverReq s.nconn) = s2 at h2
  have hheld2 : (s2.nodes b).held = (s.nodes b).held ++ [{ conn := s.nconn, sender := a, nonce := ν, g := s.nreq }] := by
    rw [h2]; simp [hheld1]
  have hk2 : s2.conns s.nconn = { s1.conns s.nconn with reqQ := [] } := by rw [h2]; simp
  have hinb2 : (s2.nodes b).inb = (s1.nodes b).inb := by rw [h2]; simp
  have hideal2 : s2.ideal = s.ideal := by rw [h2]; simp [hideal1]
  -- step 3: b's application answers; the reply is written on that connection
  have hget : (s2.nodes b).held[(s.nodes b).held.length]? = some { conn := s.nconn, sender := a, nonce := ν, g := s.nreq } := by
    rw [hheld2]; simp
  have htarget : (if s2.ideal b = true then some s.nconn else (s2.nodes b).inb a) = some s.nconn := by
    cases hib : s.ideal b
    · rw [hideal2, hib]; simp only [Bool.false_eq_true, if_false]; rw [hinb2]; exact hinb1 hib
    · rw [hideal2, hib]; simp
  have h3 : step Cfg.good s2 (.appReply b (s.nodes b).held.length) =
      (s2.setNode b (fun n => { n with held := n.held.eraseIdx (s.nodes b).held.length })).setConn s.nconn
        (fun y => { y with repQ := y.repQ ++ [(ν, s.nreq)] }) := by
    simp only [step, hget, htarget]
    simp [hk2, hclA1, hup1]
  generalize hs3 : step Cfg.good s2 (.appReply b (s.nodes b).held.length) = s3 at h3
  have hk3 : s3.conns s.nconn = { s1.conns s.nconn with reqQ := [], repQ := [(ν, s.nreq)] } := by
    rw [h3]; simp [hk2, hr1]
  have hn3 : s3.nconn = s.nconn + 1 := by rw [h3, h2]; simp [hn1]
  have hreq3 : s3.reqs = s1.reqs := by rw [h3, h2]; simp
  -- step 4: the reply reaches a's dispatch
  have h4 : ((step Cfg.good s3 (.deliverReply s.nconn)).reqs s.nreq).out = .got s.nreq := by
    simp only [step, hn3, Nat.lt_succ_self, if_true, hk3]
    simp [hclD1, hp1, lookupN_head, hreq3, hreq1]
  simp only [run, serveEvs, List.foldl_cons, List.foldl_nil]
  rw [hs1, hs2, hs3]; exact h4

/-- taking a reported removal deletes the entry it names, whatever the table configuration -/
theorem procRm_clears_entry (cfg : Cfg) (s : Net) (n k p : Nat) (isCall : Bool)
    (h : (s.nodes n).rm[k]? = some (isCall, p)) :
    if isCall then ((step cfg s (.procRm n k)).nodes n).out p = none
    else ((step cfg s (.procRm n k)).nodes n).inb p = none := by
  simp only [step, h]
  cases isCall <;> simp [setTab]

/-- does event `e` concern node `n`'s table entries for peer `p`? -/
def touches (s : Net) (e : Ev) (n p : Nat) : Bool :=
  match e with
  | .request a b _ => (n == a && p == b) || (n == b && p == a)
  | .procRm m k => n == m && (match (s.nodes m).rm[k]? with
      | some (_, id) => id == p
      | none => false)
  | .disconnect a b => n == a && p == b
  | .reset m => n == m
  | _ => false

theorem retAtD_tabs (cfg : Cfg) (s : Net) (c n : Nat) :
    ((retAtD cfg s c).nodes n).out = (s.nodes n).out ∧ ((retAtD cfg s c).nodes n).inb = (s.nodes n).inb := by
  rw [retAtD_nodes]; split <;> exact ⟨rfl, rfl⟩

theorem retAtA_tabs (cfg : Cfg) (s : Net) (c n : Nat) :
    ((retAtA cfg s c).nodes n).out = (s.nodes n).out ∧ ((retAtA cfg s c).nodes n).inb = (s.nodes n).inb := by
  rw [retAtA_nodes]; split <;> exact ⟨rfl, rfl⟩

/-- a change of node `m` concerns node `n`'s entries for `p` only if `n = m` and the change touches them -/
theorem setNode_tabs {s : Net} {m : Nat} {f : Node → Node} {n p : Nat} {o i : Option Nat}
    (h : (s.nodes n).out p = o ∧ (s.nodes n).inb p = i)
    (ho : n = m → (f (s.nodes m)).out p = (s.nodes m).out p) (hi : n = m → (f (s.nodes m)).inb p = (s.nodes m).inb p) :
    ((s.setNode m f).nodes n).out p = o ∧ ((s.setNode m f).nodes n).inb p = i := by
  rw [setNode_nodes]; split
  · rename_i hn; subst hn; exact ⟨(ho rfl).trans h.1, (hi rfl).trans h.2⟩
  · exact h

theorem setTab_ne (t : Nat → Option Nat) (k : Nat) (v : Option Nat) {p : Nat} (h : p ≠ k) : setTab t k v p = t p :=
  if_neg h

theorem Effect.tables_untouched {s t : Net} {e : Ev} (h : Effect Cfg.good s e t) (n p : Nat)
    (ht : touches s e n p = false) :
    (t.nodes n).out p = (s.nodes n).out p ∧ (t.nodes n).inb p = (s.nodes n).inb p := by
  induction h with
  | init => exact ⟨rfl, rfl⟩
  | newReq _ _ _ ih | errs _ _ _ ih | got _ _ _ _ _ _ _ _ ih | conn _ _ _ _ ih | reply _ _ _ _ _ ih => exact ih
  | hand i c _ _ _ _ ih => rw [hand_nodes]; exact ih
  | @openConn t a b x dial he _ _ ih =>
    subst he
    simp only [touches, Bool.or_eq_false_iff, Bool.and_eq_false_iff, beq_eq_false_iff_ne] at ht
    rw [openConn_eq]
    -- the dialler's entry for `b`, and (if it registers the connection) the acceptor's entry for `a`
    refine setNode_tabs ?_ (fun hn => setTab_ne _ _ _ (ht.1.resolve_left (absurd hn))) fun _ => rfl
    split
    · exact ih
    · exact setNode_tabs ih (fun _ => rfl) fun hn => setTab_ne _ _ _ (ht.2.resolve_left (absurd hn))
  | retAtD c _ _ ih => rw [(retAtD_tabs _ _ _ n).1, (retAtD_tabs _ _ _ n).2]; exact ih
  | retAtA c _ _ ih => rw [(retAtA_tabs _ _ _ n).1, (retAtA_tabs _ _ _ n).2]; exact ih
  | deliver m _ _ _ _ ih | answer m _ _ ih => exact setNode_tabs ih (fun _ => rfl) fun _ => rfl
  | @procRm m k isCall id he hk =>
    subst he
    simp only [touches, hk, Bool.and_eq_false_iff, beq_eq_false_iff_ne] at ht
    have hp : n = m → p ≠ id := fun hn e => ht.resolve_left (absurd hn) e.symm
    cases isCall
    · exact setNode_tabs ⟨rfl, rfl⟩ (fun _ => rfl) fun hn => setTab_ne _ _ _ (hp hn)
    · exact setNode_tabs ⟨rfl, rfl⟩ (fun hn => setTab_ne _ _ _ (hp hn)) fun _ => rfl
  | disconnect a b he =>
    subst he
    simp only [touches, Bool.and_eq_false_iff, beq_eq_false_iff_ne] at ht
    exact setNode_tabs ⟨rfl, rfl⟩ (fun hn => setTab_ne _ _ _ (ht.resolve_left (absurd hn))) fun _ => rfl
  | reset m he =>
    subst he
    simp only [touches, beq_eq_false_iff_ne] at ht
    rw [reset_nodes, if_neg ht]; exact ⟨rfl, rfl⟩

theorem tables_untouched (s : Net) (e : Ev) (n p : Nat) (h : touches s e n p = false) :
    ((step Cfg.good s e).nodes n).out p = (s.nodes n).out p ∧ ((step Cfg.good s e).nodes n).inb p = (s.nodes n).inb p :=
  (step_effect _ s e).tables_untouched n p h

end Dos.ConnTable
