/-
C10 — the group law for the CONCRETE Montgomery model of G1: `Jac.add` / `Jac.double` / `curveMul`
over `GFp` (the functions the driver runs, compared limb for limb with curve.go on every check run)
compute, on reduced inputs, the group operations of E(F_p) : y² = x³ + b in Mathlib's
`WeierstrassCurve.Affine.Point` after Montgomery decoding. Route: reduced values form a type `GFpR`
on which the assembly's operations are closed; "forget reducedness" (GFpR → GFp) and "decode"
(GFpR → ZMod p) both preserve every operation and are injective (`gfP_is_prime_field`), the
transcribed code is natural in such maps (Proofs/Bn256Natural.lean), and over the field ZMod p it is the
group law (Proofs/Bn256CurveGroup.lean). The route is walked once, for any such pair of maps
(`Jac.GroupLaw.of_homs`); G1 (`g1_law`) and G2 (`g2_law`, Proofs/Bn256Concrete2.lean) are its instances, and
the statements of Props/C10Concrete, C10G2, C10Kyber are read off their fields.
-/
import DosModel.Proofs.MontInvert
import DosModel.Proofs.Bn256Natural
import DosModel.Proofs.Bn256CurveGroup

namespace Dos.Bn256
open Dos.Mont

/-- every coordinate of the triple satisfies `C` -/
def Jac.All {K : Type} (C : K → Prop) (a : Jac K) : Prop := C a.x ∧ C a.y ∧ C a.z ∧ C a.t

section law
set_option linter.unusedSectionVars false
variable {A F : Type} [Add A] [Sub A] [Neg A] [Mul A] [Zero A] [One A] [Inv A] [Sq A] [DecidableEq A]
variable [Field F] [Sq F] [DecidableEq F]

/-- the triple `a` over the carrier `A` represents the point `P` of y² = x³ + bb over the field `F`: its coordinates
satisfy `C` (are reduced) and, read through `d` (decoded), it is a valid triple that denotes `P` -/
def Jac.Rep (C : A → Prop) (d : A → F) (bb : F) (a : Jac A) (P : (shortW bb).Point) : Prop :=
  Jac.All C a ∧ Valid bb (Jac.map d a) ∧ toPoint bb (Jac.map d a) = P

/-- Add, Double, Neg, SetInfinity and the two Mul loops of curve.go / twist.go, on any receiver with coordinates in `C`,
take representatives to representatives of the sum, the double, the negative, 0 and the k-fold multiple -/
structure Jac.GroupLaw (C : A → Prop) (d : A → F) (bb : F) : Prop where
  add : ∀ {c a b P Q}, Jac.All C c → Jac.Rep C d bb a P → Jac.Rep C d bb b Q → Jac.Rep C d bb (Jac.add c a b) (P + Q)
  double : ∀ {c a P}, Jac.All C c → Jac.Rep C d bb a P → Jac.Rep C d bb (Jac.double c a) (P + P)
  neg : ∀ {a P t}, Jac.Rep C d bb a P → C t → Jac.Rep C d bb (Jac.neg a t) (-P)
  infinity : Jac.Rep C d bb Jac.infinity 0
  curveMul : ∀ {a P} k, Jac.Rep C d bb a P → Jac.Rep C d bb (Jac.curveMul a k) (k • P)
  twistMul : ∀ {a P} k, Jac.Rep C d bb a P → Jac.Rep C d bb (Jac.twistMul a k) (k • P)

variable {C : A → Prop} {d : A → F} {bb : F}

/-- Sub of point.go: Add of the negated second operand -/
theorem Jac.GroupLaw.sub (L : Jac.GroupLaw C d bb) {c a b : Jac A} {P Q : (shortW bb).Point} {t : A}
    (hc : Jac.All C c) (ha : Jac.Rep C d bb a P) (hb : Jac.Rep C d bb b Q) (ht : C t) :
    Jac.Rep C d bb (Jac.add c a (Jac.neg b t)) (P - Q) :=
  sub_eq_add_neg P Q ▸ L.add hc ha (L.neg hb ht)

/-- on a point annihilated by n the Mul loops agree with the scalar reduced modulo n -/
theorem Jac.GroupLaw.mul_mod (L : Jac.GroupLaw C d bb) {a : Jac A} {P : (shortW bb).Point}
    (ha : Jac.Rep C d bb a P) {n : Nat} (hn : n • P = 0) (m : Nat) :
    toPoint bb (Jac.map d (Jac.curveMul a m)) = toPoint bb (Jac.map d (Jac.curveMul a (m % n))) ∧
    toPoint bb (Jac.map d (Jac.twistMul a m)) = toPoint bb (Jac.map d (Jac.twistMul a (m % n))) :=
  ⟨(L.curveMul m ha).2.2.trans ((nsmul_eq_mod_nsmul m hn).trans (L.curveMul (m % n) ha).2.2.symm),
   (L.twistMul m ha).2.2.trans ((nsmul_eq_mod_nsmul m hn).trans (L.twistMul (m % n) ha).2.2.symm)⟩

variable {S : Type} [Add S] [Sub S] [Neg S] [Mul S] [Zero S] [One S] [Inv S] [Sq S] [DecidableEq S]
variable {val : S → A} {dec : S → F}

/-- a triple with coordinates in the range of `val` is the image of a triple -/
theorem Jac.exists_of_all (hC : ∀ k, C k ↔ ∃ s, val s = k) : ∀ a, Jac.All C a → ∃ r, Jac.map val r = a
  | ⟨_, _, _, _⟩, ⟨hx, hy, hz, ht⟩ => by
    obtain ⟨x, rfl⟩ := (hC _).1 hx
    obtain ⟨y, rfl⟩ := (hC _).1 hy
    obtain ⟨z, rfl⟩ := (hC _).1 hz
    obtain ⟨t, rfl⟩ := (hC _).1 ht
    exact ⟨⟨x, y, z, t⟩, rfl⟩

theorem Jac.rep_map (hC : ∀ k, C k ↔ ∃ s, val s = k) (hd : ∀ s, d (val s) = dec s) (r : Jac S)
    (P : (shortW bb).Point) :
    Jac.Rep C d bb (Jac.map val r) P ↔ Valid bb (Jac.map dec r) ∧ toPoint bb (Jac.map dec r) = P := by
  have e : Jac.map d (Jac.map val r) = Jac.map dec r := by simp only [Jac.map, hd]
  rw [Jac.Rep, e]
  exact and_iff_right ⟨(hC _).2 ⟨_, rfl⟩, (hC _).2 ⟨_, rfl⟩, (hC _).2 ⟨_, rfl⟩, (hC _).2 ⟨_, rfl⟩⟩

/-- `val : S → A` forgets an invariant (`C` is its range), `dec = d ∘ val` decodes into the field, and both preserve
the operations: the code over `A` on `C` is the image of the code over `S`, whose decoding is the code over `F`, and
there it is the group law (Proofs/Bn256CurveGroup.lean). G1 is `S = GFpR`, G2 is `S = Fp2 GFpR`; `S = A = F` with
both maps the identity gives back the theorems over the field. -/
theorem Jac.GroupLaw.of_homs (hv : OpsHom val) (he : OpsHom dec) (hC : ∀ k, C k ↔ ∃ s, val s = k)
    (hd : ∀ s, d (val s) = dec s) (hsq : ∀ a : F, Sq.sq a = a * a) (h2 : (2 : F) ≠ 0) (bb : F) :
    Jac.GroupLaw C d bb := by
  have hdbl := fun c a h => double_point hsq h2 bb c a h
  have hadd := fun c a b ha hb => add_point hsq h2 bb c a b ha hb
  have hinf : ∀ z : Jac F, z.z = 0 → Valid bb z ∧ toPoint bb z = 0 := fun z hz => ⟨Or.inl hz, toPoint_inf bb z hz⟩
  refine ⟨?_, ?_, ?_, ?_, ?_, ?_⟩
  · intro c a b P Q hc ha hb
    obtain ⟨c, rfl⟩ := Jac.exists_of_all hC c hc
    obtain ⟨a, rfl⟩ := Jac.exists_of_all hC a ha.1
    obtain ⟨b, rfl⟩ := Jac.exists_of_all hC b hb.1
    rw [Jac.rep_map hC hd] at ha hb
    rw [← Jac.map_add hv, Jac.rep_map hC hd, Jac.map_add he, ← ha.2, ← hb.2]
    exact hadd _ _ _ ha.1 hb.1
  · intro c a P hc ha
    obtain ⟨c, rfl⟩ := Jac.exists_of_all hC c hc
    obtain ⟨a, rfl⟩ := Jac.exists_of_all hC a ha.1
    rw [Jac.rep_map hC hd] at ha
    rw [← Jac.map_double hv, Jac.rep_map hC hd, Jac.map_double he, ← ha.2]
    exact hdbl _ _ ha.1
  · intro a P t ha ht
    obtain ⟨a, rfl⟩ := Jac.exists_of_all hC a ha.1
    obtain ⟨t, rfl⟩ := (hC t).1 ht
    rw [Jac.rep_map hC hd] at ha
    rw [← Jac.map_neg hv, Jac.rep_map hC hd, Jac.map_neg he, ← ha.2]
    exact neg_point bb _ ha.1 _
  · rw [← Jac.map_infinity hv, Jac.rep_map hC hd, Jac.map_infinity he]
    exact hinf _ rfl
  · intro a P k ha
    obtain ⟨a, rfl⟩ := Jac.exists_of_all hC a ha.1
    rw [Jac.rep_map hC hd] at ha
    rw [← Jac.map_curveMul hv, Jac.rep_map hC hd, Jac.map_curveMul he, ← ha.2]
    exact mulLoop_smul _ _ hdbl hadd _ ha.1 k _ _ (hinf _ rfl).1 (hinf _ rfl).2
  · intro a P k ha
    obtain ⟨a, rfl⟩ := Jac.exists_of_all hC a ha.1
    rw [Jac.rep_map hC hd] at ha
    rw [← Jac.map_twistMul hv, Jac.rep_map hC hd, Jac.map_twistMul he, ← ha.2]
    exact mulLoop_smul _ _ hdbl hadd _ ha.1 k _ _ (hinf _ rfl).1 (hinf _ rfl).2

end law

/-- reduced base-field values (what every gfP holds after any of the four primitives) -/
def GFpR : Type := { x : GFp // x.v < p }

instance : DecidableEq GFpR := inferInstanceAs (DecidableEq { x : GFp // x.v < p })

namespace GFpR
instance : Add GFpR := ⟨fun a b => ⟨a.1 + b.1, (dec_add a.1 b.1 a.2 b.2).1⟩⟩
instance : Sub GFpR := ⟨fun a b => ⟨a.1 - b.1, (dec_sub a.1 b.1 a.2 b.2).1⟩⟩
instance : Neg GFpR := ⟨fun a => ⟨-a.1, (dec_neg a.1 a.2).1⟩⟩
instance : Mul GFpR := ⟨fun a b => ⟨a.1 * b.1, (dec_mul a.1 b.1 a.2 b.2).1⟩⟩
instance : Zero GFpR := ⟨⟨0, by decide⟩⟩
instance : One GFpR := ⟨⟨1, dec_one.1⟩⟩
instance : Inv GFpR := ⟨fun a => ⟨a.1⁻¹, (dec_inv a.1 a.2).1⟩⟩
instance : Sq GFpR := ⟨fun a => a * a⟩
end GFpR

/-- ZMod p with x ↦ x·x as the squaring operation -/
instance instSqZMod : Sq (ZMod p) := ⟨fun a => a * a⟩

/-- forgetting reducedness preserves every operation (definitionally) -/
theorem valHom : OpsHom (fun (x : GFpR) => x.1) where
  map_add _ _ := rfl
  map_sub _ _ := rfl
  map_neg _ := rfl
  map_mul _ _ := rfl
  map_zero := rfl
  map_one := rfl
  map_inv _ := rfl
  map_sq _ := rfl
  inj := Subtype.val_injective

/-- Montgomery decoding of reduced values into the prime field -/
def decR (x : GFpR) : ZMod p := dec x.1

theorem decHom : OpsHom decR where
  map_add a b := (dec_add a.1 b.1 a.2 b.2).2
  map_sub a b := (dec_sub a.1 b.1 a.2 b.2).2
  map_neg a := (dec_neg a.1 a.2).2
  map_mul a b := (dec_mul a.1 b.1 a.2 b.2).2
  map_zero := dec_zero
  map_one := dec_one.2
  map_inv a := (dec_inv a.1 a.2).2
  map_sq a := (dec_mul a.1 a.1 a.2 a.2).2
  inj a b h := Subtype.ext (dec_injective a.1 b.1 a.2 b.2 h)

/-- all four coordinates are reduced -/
def Jac.Reduced (a : Jac GFp) : Prop := a.x.v < p ∧ a.y.v < p ∧ a.z.v < p ∧ a.t.v < p

def Jac.lift (a : Jac GFp) (h : Jac.Reduced a) : Jac GFpR :=
  ⟨⟨a.x, h.1⟩, ⟨a.y, h.2.1⟩, ⟨a.z, h.2.2.1⟩, ⟨a.t, h.2.2.2⟩⟩

/-- Montgomery decoding of a Jacobian triple -/
def Jac.decJ (a : Jac GFp) : Jac (ZMod p) := Jac.map dec a

theorem Jac.map_z {K L : Type} (f : K → L) (a : Jac K) : (Jac.map f a).z = f a.z := rfl

theorem Jac.val_lift (a : Jac GFp) (h : Jac.Reduced a) : Jac.map (fun (x : GFpR) => x.1) (Jac.lift a h) = a := rfl
theorem Jac.dec_lift (a : Jac GFp) (h : Jac.Reduced a) : Jac.map decR (Jac.lift a h) = Jac.decJ a := rfl

theorem two_ne_zero_Fp : (2 : ZMod p) ≠ 0 := by
  simpa using ZModFacts.natCast_ne_zero (q := p) (n := 2) (by decide) (by decide)

theorem hsqFp : ∀ a : ZMod p, Sq.sq a = a * a := fun _ => rfl

/-- **G1**: on reduced Montgomery triples whose decodings are valid points of y² = x³ + bb over F_p, and ANY reduced
receiver, the code of curve.go computes in Mathlib's elliptic-curve group E(F_p) -/
theorem g1_law (bb : ZMod p) : Jac.GroupLaw (fun x : GFp => x.v < p) dec bb :=
  .of_homs valHom decHom (fun x => ⟨fun h => ⟨⟨x, h⟩, rfl⟩, fun ⟨s, e⟩ => e ▸ s.2⟩) (fun _ => rfl) hsqFp
    two_ne_zero_Fp bb

theorem Jac.Reduced.rep {bb : ZMod p} {a : Jac GFp} (ha : Jac.Reduced a) (va : Valid bb (Jac.decJ a)) :
    Jac.Rep (fun x : GFp => x.v < p) dec bb a (toPoint bb (Jac.decJ a)) := ⟨ha, va, rfl⟩

-- the field itself, with nothing forgotten and nothing decoded, is an instance: the theorems of Proofs/Bn256CurveGroup.lean
example {K : Type} [Field K] [DecidableEq K] [Sq K] (hsq : ∀ a : K, Sq.sq a = a * a) (h2 : (2 : K) ≠ 0) (bb : K) :
    Jac.GroupLaw (fun _ : K => True) (fun x => x) bb :=
  have h : OpsHom (fun x : K => x) :=
    ⟨fun _ _ => rfl, fun _ _ => rfl, fun _ => rfl, fun _ _ => rfl, rfl, rfl, fun _ => rfl, fun _ => rfl, fun _ _ e => e⟩
  .of_homs h h (fun k => ⟨fun _ => ⟨k, rfl⟩, fun _ => trivial⟩) (fun _ => rfl) hsq h2 bb

end Dos.Bn256
