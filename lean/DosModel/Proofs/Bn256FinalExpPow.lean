/-
C10 — what the final exponentiation of optate.go COMPUTES over F_p: with Frobenius = p-power
(Proofs/Bn256FrobPowConcrete.lean),
* FrobeniusP2 = Frobenius ∘ Frobenius (three more relations between the regenerated constants, kernel-evaluated in
  Montgomery arithmetic and decoded: c̄₁c₁ = d₁, c̄₂c₂ = d₂, c̄₆c₆ = e₆), hence x ↦ x^(p²);
* Conjugate = FrobeniusP2³ (e₆·d₁ = −1, d₁³ = 1), hence x ↦ x^(p⁶); so x^(p¹²) = x and x^(p¹²−1) = 1 for x ≠ 0;
* with every map of the straight-line code replaced by the power it is (conjugations as p⁶-powers, so that all
  exponents are natural numbers), the code after the first step t = x^(p⁶)·x⁻¹ — second step of the easy part, three
  exponentiations by u, the addition chain of the hard part — raises t to `finalExpNat p u`, the exponent read off the
  expression `FE.hard` (`FE.run_eq_pow`), and (p⁶ − 1)·finalExpNat p u ≡ (p¹² − 1)/r modulo p¹² − 1, r·((p¹² − 1)/r) = p¹² − 1
  (`finalExp_exponent`, evaluated on the regenerated u, p, Order);
hence finalExponentiation(x) = x^((p¹²−1)/r) and finalExponentiation(x)^r = x^(p¹²−1) = 1 for x ≠ 0: every pairing
value has order dividing r.
-/
import DosModel.Proofs.Bn256FrobPowConcrete
import DosModel.Proofs.Bn256GT

namespace Dos.Bn256
open Dos.Mont

/-! ### FrobeniusP2 = Frobenius², Conjugate = FrobeniusP2³ (over any field, given the relations) -/
section
variable {K : Type} [Field K]

/-- the norm relations of the constants -/
structure FrobConsts.Norms (cs : FrobConsts K) : Prop where
  n1 : Fp2.conjugate cs.xiToPMinus1Over3 * cs.xiToPMinus1Over3 = Fp2.ofBase cs.xiToPSquaredMinus1Over3
  n2 : Fp2.conjugate cs.xiTo2PMinus2Over3 * cs.xiTo2PMinus2Over3 = Fp2.ofBase cs.xiTo2PSquaredMinus2Over3
  n6 : Fp2.conjugate cs.xiToPMinus1Over6 * cs.xiToPMinus1Over6 = Fp2.ofBase cs.xiToPSquaredMinus1Over6
  m : cs.xiToPSquaredMinus1Over6 * cs.xiToPSquaredMinus1Over3 = -1

variable (cs : FrobConsts K) (hg : cs.Good)
include hg

/-! each identity between composites is checked on the coefficients and on the generator (`ringHom_ext`) -/

theorem Fp6.frobeniusG_frobeniusG (hn : cs.Norms) (a : Fp6 K) :
    Fp6.frobeniusG cs (Fp6.frobeniusG cs a) = Fp6.frobeniusP2G cs a := by
  have hc : ⇑(Fp6.frobeniusHom cs hg.h1 hg.h3) = Fp6.frobeniusG cs := rfl
  refine DFunLike.congr_fun (?_ : (Fp6.frobeniusHom cs hg.h1 hg.h3).comp (Fp6.frobeniusHom cs hg.h1 hg.h3) =
    Fp6.frobeniusP2Hom cs hg) a
  refine Fp6.ringHom_ext (fun c => ?_) ?_ <;>
    simp only [RingHom.comp_apply, hc, Fp6.frobeniusG_ofBase, Fp6.frobeniusG_tau, map_mul]
  · exact (congrArg _ (Fp2.conjugate_conjugate c)).trans (Fp6.frobeniusP2G_ofBase cs c).symm
  · rw [← mul_assoc, ← Fp6.ofBase_mul, hn.n1]
    exact (Fp6.frobeniusP2G_tau cs).symm

theorem Fp12.frobeniusG_frobeniusG (hn : cs.Norms) (a : Fp12 K) :
    Fp12.frobeniusG cs (Fp12.frobeniusG cs a) = Fp12.frobeniusP2G cs a := by
  have hc : ⇑(Fp12.frobeniusHom cs hg.h1 hg.h3 hg.h4) = Fp12.frobeniusG cs := rfl
  refine DFunLike.congr_fun (?_ : (Fp12.frobeniusHom cs hg.h1 hg.h3 hg.h4).comp
    (Fp12.frobeniusHom cs hg.h1 hg.h3 hg.h4) = Fp12.frobeniusP2Hom cs hg) a
  refine Fp12.ringHom_ext (fun c => ?_) ?_ <;>
    simp only [RingHom.comp_apply, hc, Fp12.frobeniusG_ofBase cs hg.h1 hg.h3, Fp12.frobeniusG_omega cs hg.h1 hg.h3,
      map_mul]
  · exact (congrArg _ (Fp6.frobeniusG_frobeniusG cs hg hn c)).trans (Fp12.frobeniusP2G_ofBase cs hg c).symm
  · rw [Fp6.frobeniusG_ofBase, ← mul_assoc, ← Fp12.ofBase_mul, ← Fp6.ofBase_mul, hn.n6]
    exact (Fp12.frobeniusP2G_omega cs hg).symm

theorem Fp6.frobeniusP2G_cube (a : Fp6 K) :
    Fp6.frobeniusP2G cs (Fp6.frobeniusP2G cs (Fp6.frobeniusP2G cs a)) = a := by
  have d3 : Fp2.ofBase cs.xiToPSquaredMinus1Over3 * (Fp2.ofBase cs.xiToPSquaredMinus1Over3 *
      Fp2.ofBase cs.xiToPSquaredMinus1Over3) = (1 : Fp2 K) := by
    rw [← Fp2.ofBase_mul, ← Fp2.ofBase_mul, hg.d1, hg.d12, Fp2.ofBase_one]
  have hc : ⇑(Fp6.frobeniusP2Hom cs hg) = Fp6.frobeniusP2G cs := rfl
  refine DFunLike.congr_fun (?_ : (Fp6.frobeniusP2Hom cs hg).comp ((Fp6.frobeniusP2Hom cs hg).comp
    (Fp6.frobeniusP2Hom cs hg)) = RingHom.id _) a
  refine Fp6.ringHom_ext (fun c => ?_) ?_ <;>
    simp only [RingHom.comp_apply, RingHom.id_apply, hc, Fp6.frobeniusP2G_ofBase, Fp6.frobeniusP2G_tau, map_mul]
  rw [← mul_assoc, ← mul_assoc, ← Fp6.ofBase_mul, ← Fp6.ofBase_mul, mul_assoc (Fp2.ofBase _), d3, Fp6.ofBase_one,
    one_mul]

/-- **Conjugate is the third iterate of FrobeniusP2** -/
theorem Fp12.frobeniusP2G_cube (hn : cs.Norms) (a : Fp12 K) :
    Fp12.frobeniusP2G cs (Fp12.frobeniusP2G cs (Fp12.frobeniusP2G cs a)) = Fp12.conjugate a := by
  have hE : Fp2.ofBase cs.xiToPSquaredMinus1Over6 * (Fp2.ofBase cs.xiToPSquaredMinus1Over6 *
      Fp2.ofBase cs.xiToPSquaredMinus1Over6) = (Fp2.ofBase (-1) : Fp2 K) := by
    rw [← Fp2.ofBase_mul, ← Fp2.ofBase_mul, hg.e6, hn.m]
  have hc : ⇑(Fp12.frobeniusP2Hom cs hg) = Fp12.frobeniusP2G cs := rfl
  refine DFunLike.congr_fun (?_ : (Fp12.frobeniusP2Hom cs hg).comp ((Fp12.frobeniusP2Hom cs hg).comp
    (Fp12.frobeniusP2Hom cs hg)) = Fp12.conjugateHom) a
  refine Fp12.ringHom_ext (fun c => ?_) ?_ <;>
    simp only [RingHom.comp_apply, hc, Fp12.frobeniusP2G_ofBase cs hg, Fp12.frobeniusP2G_omega cs hg, map_mul,
      Fp6.frobeniusP2G_ofBase, Fp6.frobeniusP2G_cube cs hg]
  · exact (Fp12.conjugate_ofBase c).symm
  · rw [← mul_assoc, ← mul_assoc, ← Fp12.ofBase_mul, ← Fp12.ofBase_mul, ← Fp6.ofBase_mul, ← Fp6.ofBase_mul,
      mul_assoc (Fp2.ofBase _), hE]
    show Fp12.ofBaseHom (Fp6.ofBaseHom (Fp2.ofBaseHom (-1))) * _ = Fp12.conjugate _
    rw [map_neg, map_neg, map_neg, map_one, map_one, map_one, neg_one_mul, Fp12.conjugate_omega]

end

/-! ### over F_p: FrobeniusP2 = p²-power, Conjugate = p⁶-power, the final exponentiation as a power -/

/-- the norm relations hold for the code's constants: evaluated on the reduced Montgomery values, carried along the
decoding -/
theorem frobConstsFp_norms : frobConstsFp.Norms := by
  have lift : ∀ (c : Fp2 GFpR) (d : GFpR), Fp2.mul (Fp2.conjugate c) c = ⟨0, d⟩ →
      Fp2.conjugate (Fp2.map decR c) * Fp2.map decR c = Fp2.ofBase (decR d) := by
    intro c d h
    have := congrArg (Fp2.map decR) h
    rw [Fp2.map_mul' decHom, Fp2.map_conjugate decHom] at this
    rw [← Fp2.mul_eq, this]
    show (⟨decR 0, decR d⟩ : Fp2 (ZMod p)) = ⟨0, decR d⟩
    rw [decHom.map_zero]
  refine ⟨lift _ frobConstsR.xiToPSquaredMinus1Over3 (by decide +kernel),
    lift _ frobConstsR.xiTo2PSquaredMinus2Over3 (by decide +kernel),
    lift _ frobConstsR.xiToPSquaredMinus1Over6 (by decide +kernel), ?_⟩
  have S : frobConstsR.xiToPSquaredMinus1Over6 * frobConstsR.xiToPSquaredMinus1Over3 = -(1 : GFpR) := by
    decide +kernel
  have := congrArg decR S
  rwa [decHom.map_mul, decHom.map_neg, decHom.map_one] at this

theorem frobeniusP2_is_p2_power (a : Fp12 (ZMod p)) : Fp12.frobeniusP2G frobConstsFp a = a ^ (p * p) := by
  rw [← Fp12.frobeniusG_frobeniusG frobConstsFp frobConstsFp_good frobConstsFp_norms, frobenius_is_p_power,
    frobenius_is_p_power, ← pow_mul]

theorem conjugate_is_p6_power (a : Fp12 (ZMod p)) : Fp12.conjugate a = a ^ (p ^ 6) := by
  rw [← Fp12.frobeniusP2G_cube frobConstsFp frobConstsFp_good frobConstsFp_norms, frobeniusP2_is_p2_power,
    frobeniusP2_is_p2_power, frobeniusP2_is_p2_power, ← pow_mul, ← pow_mul]
  congr 1

/-- x^(p¹²) = x on gfP12 over F_p (without counting elements: conj ∘ conj = id) -/
theorem pow_p12 (a : Fp12 (ZMod p)) : a ^ (p ^ 12) = a := by
  have h := Fp12.conjugate_conjugate a
  rw [conjugate_is_p6_power, conjugate_is_p6_power, ← pow_mul] at h
  rw [show p ^ 12 = p ^ 6 * p ^ 6 by ring]
  exact h

theorem pow_p12_sub_one (a : Fp12 (ZMod p)) (ha : a ≠ 0) : a ^ (p ^ 12 - 1) = 1 := by
  have h := pow_p12 a
  have hp : p ^ 12 = (p ^ 12 - 1) + 1 := by
    have : 0 < p ^ 12 := by decide
    omega
  rw [hp, pow_succ] at h
  exact mul_right_cancel₀ ha (h.trans (one_mul a).symm)

/-- the exponent an expression raises to when every map is the power it is over F_p (P = p, U = u; conj = P⁶-power) -/
def FE.expo (P U : Nat) : FE → Nat
  | .inp => 1
  | .conj a => expo P U a * P ^ 6
  | .frob a => expo P U a * P
  | .frobP2 a => expo P U a * (P * P)
  | .expU a => expo P U a * U
  | .mul a b => expo P U a + expo P U b
  | .sq a => expo P U a + expo P U a

theorem FE.run_eq_pow (t : Fp12 (ZMod p)) (e : FE) : FE.run frobConstsFp uParam t e = t ^ FE.expo p uParam e := by
  induction e with
  | inp => exact (pow_one t).symm
  | conj a ih => rw [FE.run, ih, conjugate_is_p6_power, ← pow_mul]; rfl
  | frob a ih => rw [FE.run, ih, frobenius_is_p_power, ← pow_mul]; rfl
  | frobP2 a ih => rw [FE.run, ih, frobeniusP2_is_p2_power, ← pow_mul]; rfl
  | expU a ih => rw [FE.run, ih, Fp12.exp_eq_pow, ← pow_mul]; rfl
  | mul a b iha ihb => rw [FE.run, iha, ihb, Fp12.mul_eq, ← pow_add]; rfl
  | sq a ih => rw [FE.run, ih, Fp12.square_eq, ← pow_add]; rfl

/-- the exponent the code raises t = x^(p⁶)·x⁻¹ to -/
def finalExpNat (P U : Nat) : Nat := FE.expo P U FE.hard

/-- the straight-line code of finalExponentiation with every map replaced by the power it is -/
theorem finalExp_as_power (x : Fp12 (ZMod p)) :
    finalExponentiationG frobConstsFp uParam x = (x ^ (p ^ 6) * Fp12.invert x) ^ finalExpNat p uParam := by
  rw [FE.finalExp_eq_run, FE.run_eq_pow, Fp12.mul_eq, conjugate_is_p6_power]; rfl

/-- (p⁶ − 1)·finalExpNat ≡ (p¹² − 1)/r modulo p¹² − 1, and r divides p¹² − 1 (numbers regenerated from /repo) -/
theorem finalExp_exponent :
    (p ^ 6 * finalExpNat p uParam - finalExpNat p uParam) % (p ^ 12 - 1) = (p ^ 12 - 1) / Gen.Bn256.Order ∧
    (p ^ 12 - 1) / Gen.Bn256.Order * Gen.Bn256.Order = p ^ 12 - 1 ∧
    finalExpNat p uParam ≤ p ^ 6 * finalExpNat p uParam := by
  decide +kernel

/-- **the final exponentiation over F_p is x ↦ x^((p¹²−1)/r)** on non-zero x -/
theorem finalExp_eq_pow (x : Fp12 (ZMod p)) (hx : x ≠ 0) :
    finalExponentiationG frobConstsFp uParam x = x ^ ((p ^ 12 - 1) / Gen.Bn256.Order) := by
  obtain ⟨hmod, _, hle⟩ := finalExp_exponent
  -- `⁻¹` of the field instance `instFieldFp12` (Proofs/Bn256TowerField12.lean) is `Fp12.invert` by definition
  have hinv : Fp12.invert x = x⁻¹ := rfl
  rw [finalExp_as_power, hinv, mul_pow, ← pow_mul, inv_pow]
  rw [← pow_sub₀ x hx hle, ← hmod]
  exact pow_eq_pow_mod _ (pow_p12_sub_one x hx)

/-- **every value of the final exponentiation has order dividing r** -/
theorem finalExp_pow_order (x : Fp12 (ZMod p)) (hx : x ≠ 0) :
    finalExponentiationG frobConstsFp uParam x ^ Gen.Bn256.Order = 1 := by
  rw [finalExp_eq_pow x hx, ← pow_mul, finalExp_exponent.2.1, pow_p12_sub_one x hx]

end Dos.Bn256
