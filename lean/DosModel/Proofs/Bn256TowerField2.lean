/-
C10 layer 4 — ξ = i + 9 is neither a square nor a cube in gfP2 over the prime field of bn256.
Route (no exponentiation in F_p² needed): the norm N(x·i + y) = x² + y² : F_p² → F_p is
multiplicative and N(ξ) = 1 + 81 = 82; were ξ = c² (resp. c³), 82 = N(c)² (resp. N(c)³) would be a
square (cube) in F_p, hence 82^((p−1)/2) = 1 (resp. 82^((p−1)/3) = 1) by Fermat. Both powers are
evaluated by the kernel with the verified `Dos.Primes.powMod` and are ≠ 1.
-/
import DosModel.Proofs.Bn256Concrete2

namespace Dos.Bn256
namespace TowerField

/-- the norm of gfP2 over gfP: N(x·i + y) = x² + y² -/
def norm2 (a : Fp2 (ZMod p)) : ZMod p := a.x * a.x + a.y * a.y

theorem norm2_mul (a b : Fp2 (ZMod p)) : norm2 (a * b) = norm2 a * norm2 b := Fp2.norm_mul a b

theorem norm2_xi : norm2 (Fp2.xi : Fp2 (ZMod p)) = 82 := by
  simp only [norm2, Fp2.xi]; norm_num

theorem one_lt_p : 1 < p := by decide

theorem eightyTwo_ne_zero : (82 : ZMod p) ≠ 0 := by
  simpa using ZModFacts.natCast_ne_zero (q := p) (n := 82) (by decide) (by decide)

/-- a power in F_p differs from 1 as soon as the kernel-evaluated `Dos.Primes.powMod` does -/
theorem pow_ne_one_of_powMod (a n : Nat) (hn : n < 2 ^ 256) (h : Dos.Primes.powMod 256 a n p ≠ 1) :
    (a : ZMod p) ^ n ≠ 1 := by
  intro e
  apply h
  have c := congrArg ZMod.val (Dos.Primes.powMod_cast (a := a) (n := p) hn)
  rwa [e, ZMod.val_natCast, Nat.mod_eq_of_lt (Dos.Primes.powMod_lt one_lt_p), ZMod.val_one] at c

/-- 82 is not a square modulo p (Euler's criterion, kernel-evaluated) -/
theorem pow82_half_ne_one : (82 : ZMod p) ^ ((p - 1) / 2) ≠ 1 :=
  pow_ne_one_of_powMod 82 _ (by decide) (by decide +kernel)

/-- 82 is not a cube modulo p (3 ∣ p − 1, kernel-evaluated) -/
theorem pow82_third_ne_one : (82 : ZMod p) ^ ((p - 1) / 3) ≠ 1 :=
  pow_ne_one_of_powMod 82 _ (by decide) (by decide +kernel)

theorem two_mul_half : ((p - 1) / 2) * 2 = p - 1 := by decide
theorem three_mul_third : ((p - 1) / 3) * 3 = p - 1 := by decide

/-- **ξ is not a square in F_p²** -/
theorem xi_not_square (c : Fp2 (ZMod p)) : c * c ≠ Fp2.xi := by
  intro h
  have hn : norm2 c * norm2 c = 82 := by rw [← norm2_mul, h, norm2_xi]
  have hc : norm2 c ≠ 0 := by
    intro h0; rw [h0, mul_zero] at hn; exact eightyTwo_ne_zero hn.symm
  apply pow82_half_ne_one
  rw [← hn, ← pow_two, ← pow_mul, Nat.mul_comm, two_mul_half]
  exact ZMod.pow_card_sub_one_eq_one hc

/-- **ξ is not a cube in F_p²** -/
theorem xi_not_cube (c : Fp2 (ZMod p)) : c * c * c ≠ Fp2.xi := by
  intro h
  have hn : norm2 c ^ 3 = 82 := by
    rw [← norm2_xi, ← h, norm2_mul, norm2_mul]; ring
  have hc : norm2 c ≠ 0 := by
    intro h0; rw [h0] at hn; exact eightyTwo_ne_zero (by rw [← hn]; norm_num)
  apply pow82_third_ne_one
  rw [← hn, ← pow_mul, Nat.mul_comm, three_mul_third]
  exact ZMod.pow_card_sub_one_eq_one hc

end TowerField
end Dos.Bn256
