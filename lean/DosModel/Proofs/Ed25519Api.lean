/-
C20 — lemmas for the kyber.Scalar wrappers (Model/Ed25519ScalarApi.lean): lengths, the square-and-multiply
loop of `Inv` computes a^(ℓ−2) mod ℓ, and the range of `random.Int`.
-/
import DosModel.Proofs.Ed25519RangesFinal
import DosModel.Proofs.Ed25519RangesReduce
import DosModel.Model.Ed25519ScalarApi

namespace Dos.Ed25519.Api
open Dos Dos.Ed25519 Dos.Gen.Ed25519Sc

theorem scMul_length (a b : Bytes) : (scMul shrI a b).length = 32 := by
  rw [scMul_eq_app, scMul_store_eq]; rfl
theorem scAdd_length (a b : Bytes) : (scAdd shrI a b).length = 32 := by
  rw [scAdd_eq_app, scAdd_store_eq]; rfl
theorem scSub_length (a b : Bytes) : (scSub shrI a b).length = 32 := by
  rw [scSub_eq_app, scSub_store_eq]; rfl

theorem scMul_val (a b : Bytes) (ha : a.length = 32) (hb : b.length = 32) :
    leNat (scMul shrI a b) = (leNat a * leNat b) % ell := by
  have h := scMul_full a b ha hb
  exact_mod_cast h

/-- the exponent the first bits of a bit list spell, continuing from `n` -/
def expOf (bits : List Bool) (n : Nat) : Nat := bits.foldl (fun n b => 2 * n + (if b then 1 else 0)) n

theorem invRound_spec (a res : Bytes) (ha : a.length = 32) (hr : res.length = 32) (n : Nat)
    (hv : leNat res = leNat a ^ n % ell) (bit : Bool) :
    (invRound a res bit).length = 32 ∧ leNat (invRound a res bit) = leNat a ^ (2 * n + (if bit then 1 else 0)) % ell := by
  have hsq : leNat (scMul shrI res res) = leNat a ^ (2 * n) % ell := by
    rw [scMul_val res res hr hr, hv, ← Nat.mul_mod, ← pow_add, two_mul]
  cases bit
  · exact ⟨scMul_length _ _, by simpa [invRound] using hsq⟩
  · refine ⟨by simp [invRound, scMul_length], ?_⟩
    simp only [invRound, if_true]
    rw [scMul_val _ a (scMul_length _ _) ha, hsq, Nat.mod_mul_mod, ← pow_succ]

theorem invFold_spec (a : Bytes) (ha : a.length = 32) :
    ∀ (bits : List Bool) (res : Bytes) (n : Nat), res.length = 32 → leNat res = leNat a ^ n % ell →
      (bits.foldl (invRound a) res).length = 32
      ∧ leNat (bits.foldl (invRound a) res) = leNat a ^ expOf bits n % ell := by
  intro bits
  induction bits with
  | nil => intro res n hr hv; exact ⟨hr, hv⟩
  | cons b rest ih =>
    intro res n hr hv
    obtain ⟨h1, h2⟩ := invRound_spec a res ha hr n hv b
    exact ih _ _ h1 h2

theorem expOf_invBits : expOf invBits 0 = ell - 2 := by decide +kernel

theorem one_val : leNat one = 1 := by decide
theorem zero_val : leNat zero = 0 := by decide

/-- **Inv**: a^(ℓ−2) mod ℓ for every 32-byte operand (raw, reduced or not) -/
theorem inv_spec (a : Bytes) (ha : a.length = 32) :
    (inv a).length = 32 ∧ leNat (inv a) = leNat a ^ (ell - 2) % ell := by
  have h := invFold_spec a ha invBits one 0 (by decide) (by rw [one_val, pow_zero]; decide)
  rw [expOf_invBits] at h
  exact h

/-- `random.Int(ℓ, rand)` returns only numbers in (0, ℓ) -/
theorem randomInt_range : ∀ (ds : List Bytes) (k : Nat), randomInt ds = some k → 0 < k ∧ k < ell
  | [], _, h => nomatch h
  | b :: t, k, h => by
    unfold randomInt at h
    dsimp only at h
    split at h
    · cases h; assumption
    · exact randomInt_range t k h

end Dos.Ed25519.Api
