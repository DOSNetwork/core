/-
C10 — GT as a GROUP: the unitary elements of gfP12 (a · conj a = 1, "norm one" relative to gfP6).
point.go's pointGT implements Add = gfP12.Mul, Neg = gfP12.Conjugate, Sub = Mul by the conjugate, Mul = gfP12.Exp.
Conjugation is the inverse ONLY on unitary elements; a pointGT can hold any gfP12 value (a Miller value before
Finalize, a decoded byte string: pointGT.UnmarshalBinary has no membership test). This file proves
* unitarity is preserved by Mul, Conjugate, Exp, the Frobenius maps (given `FrobConsts.Good`), contains 1;
* the EASY PART of the final exponentiation (conj f · f⁻¹) outputs a unitary element whenever f · Invert f = 1
  (over F_p: f ≠ 0), hence the whole final exponentiation does;
* the unitary elements form a commutative group whose operations are the kyber-level operations;
* the transport to the implemented Montgomery representation (reduced values, decoding).
Helper lemmas for Props/C10GT.lean.
-/
import Mathlib.Algebra.Group.Subgroup.Basic
import Mathlib.Algebra.Group.Basic
import DosModel.Proofs.Bn256FinalExp
import DosModel.Proofs.Bn256TowerFieldConcrete
import DosModel.Proofs.Bn256Kyber

namespace Dos.Bn256
namespace Fp12

section ring
variable {R : Type} [CommRing R]

/-- a · conj a = 1: the elements on which pointGT.Neg (conjugation) is the group inverse -/
def Unitary (a : Fp12 R) : Prop := a * Fp12.conjugate a = 1

theorem conjugate_pow (a : Fp12 R) (n : Nat) : Fp12.conjugate (a ^ n) = Fp12.conjugate a ^ n :=
  map_pow Fp12.conjugateHom a n

theorem unitary_one : Unitary (1 : Fp12 R) := by
  unfold Unitary; rw [conjugate_one, mul_one]

theorem unitary_mul {a b : Fp12 R} (ha : Unitary a) (hb : Unitary b) : Unitary (a * b) := by
  unfold Unitary at *
  rw [conjugate_mul']
  calc a * b * (Fp12.conjugate a * Fp12.conjugate b) = (a * Fp12.conjugate a) * (b * Fp12.conjugate b) := by ring
    _ = 1 := by rw [ha, hb, one_mul]

theorem unitary_conj {a : Fp12 R} (ha : Unitary a) : Unitary (Fp12.conjugate a) := by
  unfold Unitary at *
  rw [conjugate_conjugate, mul_comm]; exact ha

theorem unitary_pow {a : Fp12 R} (ha : Unitary a) (n : Nat) : Unitary (a ^ n) := by
  unfold Unitary at *
  rw [conjugate_pow, ← mul_pow, ha, one_pow]

theorem unitary_exp {a : Fp12 R} (ha : Unitary a) (n : Nat) : Unitary (Fp12.exp a n) := by
  rw [exp_eq_pow]; exact unitary_pow ha n

theorem unitary_conj_mul {a : Fp12 R} (ha : Unitary a) : Fp12.conjugate a * a = 1 := by
  rw [mul_comm]; exact ha

/-! ### the group of unitary elements -/

/-- GT as the library can soundly use it: the unitary elements of gfP12 -/
def UnitaryGT (R : Type) [CommRing R] : Type := { a : Fp12 R // Unitary a }

instance : CommGroup (UnitaryGT R) where
  mul a b := ⟨a.1 * b.1, unitary_mul a.2 b.2⟩
  one := ⟨1, unitary_one⟩
  inv a := ⟨Fp12.conjugate a.1, unitary_conj a.2⟩
  mul_assoc a b c := Subtype.ext (mul_assoc a.1 b.1 c.1)
  one_mul a := Subtype.ext (one_mul a.1)
  mul_one a := Subtype.ext (mul_one a.1)
  mul_comm a b := Subtype.ext (mul_comm a.1 b.1)
  inv_mul_cancel a := Subtype.ext (unitary_conj_mul a.2)

theorem UnitaryGT.val_mul (a b : UnitaryGT R) : (a * b).1 = a.1 * b.1 := rfl
theorem UnitaryGT.val_one : (1 : UnitaryGT R).1 = 1 := rfl
theorem UnitaryGT.val_inv (a : UnitaryGT R) : (a⁻¹).1 = Fp12.conjugate a.1 := rfl
theorem UnitaryGT.val_div (a b : UnitaryGT R) : (a / b).1 = a.1 * Fp12.conjugate b.1 := by
  rw [div_eq_mul_inv]; rfl

/-- the inclusion into the multiplicative monoid of gfP12 -/
def UnitaryGT.valHom : UnitaryGT R →* Fp12 R where
  toFun a := a.1
  map_one' := rfl
  map_mul' _ _ := rfl

theorem UnitaryGT.val_pow (a : UnitaryGT R) (n : Nat) : (a ^ n).1 = a.1 ^ n :=
  map_pow UnitaryGT.valHom a n

theorem UnitaryGT.pow_eq_one_iff (a : UnitaryGT R) (n : Nat) : a ^ n = 1 ↔ a.1 ^ n = 1 := by
  constructor
  · intro h; rw [← UnitaryGT.val_pow, h]; rfl
  · intro h; apply Subtype.ext; rw [UnitaryGT.val_pow, h]; rfl

/-- the integer power through the scalar reduced as mod.Int does: for an element of order dividing n,
a^(k mod n) = a^k for every INTEGER k -/
theorem UnitaryGT.modIntV_pow (a : UnitaryGT R) (n : Nat) (hn : 0 < n) (h : a ^ n = 1) (k : Int) :
    a ^ (modIntV k n) = a ^ k := by
  have e : k = (n : Int) * (k / n) + k % n := (Int.mul_ediv_add_emod k n).symm
  rw [← zpow_natCast, modIntV_cast k n hn]
  conv_rhs => rw [e, zpow_add, zpow_mul, zpow_natCast, h, one_zpow, one_mul]

end ring

/-! ### the Frobenius maps and the final exponentiation keep / produce unitary elements -/
section field
variable {K : Type} [Field K]

theorem unitary_frobeniusG (cs : FrobConsts K) (hg : cs.Good) {a : Fp12 K} (ha : Unitary a) :
    Unitary (Fp12.frobeniusG cs a) := by
  unfold Unitary at *
  rw [← frobeniusG_conjugate cs hg.h1 hg.h3, ← frobeniusG_mul cs hg, ha, frobeniusG_one cs hg]

theorem unitary_frobeniusP2G (cs : FrobConsts K) (hg : cs.Good) {a : Fp12 K} (ha : Unitary a) :
    Unitary (Fp12.frobeniusP2G cs a) := by
  unfold Unitary at *
  rw [← frobeniusP2G_conjugate cs hg, ← frobeniusP2G_mul cs hg, ha, frobeniusP2G_one cs hg]

/-- **the easy part of the final exponentiation outputs a unitary element**: t = conj f · f⁻¹ (= f^(p⁶−1)) has
t · conj t = conj f · f⁻¹ · f · conj(f⁻¹) = conj(f · f⁻¹) = 1, as soon as Invert really inverted f -/
theorem unitary_easy_part (x : Fp12 K) (hx : x * Fp12.invert x = 1) :
    Unitary (Fp12.conjugate x * Fp12.invert x) := by
  unfold Unitary
  rw [conjugate_mul', conjugate_conjugate]
  calc Fp12.conjugate x * Fp12.invert x * (x * Fp12.conjugate (Fp12.invert x))
      = Fp12.conjugate x * Fp12.conjugate (Fp12.invert x) * (x * Fp12.invert x) := by ring
    _ = 1 := by rw [hx, mul_one, ← conjugate_mul', hx, conjugate_one]

end field
end Fp12

theorem FE.run_unitary {K : Type} [Field K] (cs : FrobConsts K) (hg : cs.Good) (u : Nat) {t : Fp12 K}
    (ht : Fp12.Unitary t) (e : FE) : Fp12.Unitary (FE.run cs u t e) := by
  induction e with
  | inp => exact ht
  | conj a ih => exact Fp12.unitary_conj ih
  | frob a ih => exact Fp12.unitary_frobeniusG cs hg ih
  | frobP2 a ih => exact Fp12.unitary_frobeniusP2G cs hg ih
  | expU a ih => exact Fp12.unitary_exp ih u
  | mul a b iha ihb => exact Fp12.unitary_mul iha ihb
  | sq a ih => rw [FE.run, Fp12.square_eq]; exact Fp12.unitary_mul ih ih

/-- **the final exponentiation outputs a unitary element** for every input that Invert inverts (over F_p: every
non-zero input), given the six relations of the Frobenius constants -/
theorem finalExp_unitary {K : Type} [Field K] (cs : FrobConsts K) (hg : cs.Good) (u : Nat) (x : Fp12 K)
    (hx : x * Fp12.invert x = 1) : Fp12.Unitary (finalExponentiationG cs u x) :=
  FE.run_unitary cs hg u (Fp12.unitary_easy_part x hx) FE.hard

theorem finalExp_zero_not_unitary : ¬ Fp12.Unitary (0 : Fp12 (ZMod p)) := by
  unfold Fp12.Unitary
  rw [zero_mul]
  exact zero_ne_one

/-! ### the implemented representation (reduced Montgomery values) -/

theorem conj_dec (x : F12) (hx : Red12 x) :
    Red12 (Fp12.conjugate x) ∧ dec12 (Fp12.conjugate x) = Fp12.conjugate (dec12 x) :=
  dec_of_natural (fun y => (Fp12.map_conjugate valHom y).symm) (Fp12.map_conjugate decHom) x hx

theorem exp_dec (x : F12) (hx : Red12 x) (k : Nat) :
    Red12 (Fp12.exp x k) ∧ dec12 (Fp12.exp x k) = dec12 x ^ k :=
  dec_of_natural (Φ := (Fp12.exp · k)) (ΦR := (Fp12.exp · k)) (ΦZ := (· ^ k))
    (fun y => (Fp12.map_exp valHom y k).symm) (fun y => (Fp12.map_exp decHom y k).trans (Fp12.exp_eq_pow _ k)) x hx

/-- unitarity can be tested on the Montgomery representation: x · conj x = 1 there iff the decoded value is unitary -/
theorem unitary_dec_iff (x : F12) (hx : Red12 x) :
    Fp12.mul x (Fp12.conjugate x) = Fp12.one ↔ Fp12.Unitary (dec12 x) := by
  obtain ⟨rc, dc⟩ := conj_dec x hx
  obtain ⟨rm, dm⟩ := mul_dec x _ hx rc
  unfold Fp12.Unitary
  rw [← dc, ← dm]
  constructor
  · intro h; rw [h]; exact one_dec.2
  · intro h; exact dec12_inj _ _ rm one_dec.1 (h.trans one_dec.2.symm)

theorem exp_one_dec_iff (x : F12) (hx : Red12 x) (k : Nat) :
    Fp12.exp x k = Fp12.one ↔ dec12 x ^ k = 1 := by
  obtain ⟨re, de⟩ := exp_dec x hx k
  rw [← de]
  constructor
  · intro h; rw [h]; exact one_dec.2
  · intro h; exact dec12_inj _ _ re one_dec.1 (h.trans one_dec.2.symm)

/-- zipping with the second list cut to the length of the first loses nothing -/
theorem zip_take_left {α β : Type} : ∀ (a : List α) (b : List β), List.zip a (b.take a.length) = List.zip a b
  | [], _ => by simp
  | _ :: _, [] => by simp
  | _ :: xs, _ :: ys => by simp [zip_take_left xs ys]

end Dos.Bn256
