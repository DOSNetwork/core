/-
Lemmas about the model of `share/poly.go` (`Model/Share.lean`) instantiated at an arbitrary
field `F` and `F`-module `G`.
-/
import DosModel.Model.Share
import DosModel.Proofs.Lagrange

set_option linter.unusedSectionVars false

namespace Dos.Share
open Polynomial

variable {F : Type} [Field F] [DecidableEq F]

/-- the polynomial with coefficient list `l` (constant term first) -/
noncomputable def toPoly (l : List F) : F[X] := l.foldr (fun c p => C c + X * p) 0

@[simp] theorem toPoly_nil : toPoly ([] : List F) = 0 := rfl
@[simp] theorem toPoly_cons (c : F) (l : List F) : toPoly (c :: l) = C c + X * toPoly l := rfl

theorem eval_toPoly (l : List F) (x : F) :
    (toPoly l).eval x = l.foldr (fun c v => v * x + c) 0 := by
  induction l with
  | nil => exact eval_zero
  | cons c l ih => rw [toPoly_cons, eval_add, eval_C, eval_mul, eval_X, ih, List.foldr_cons]; ring

theorem priEval_eq (f : List F) (i : Int) : priEval f i = (toPoly f).eval (xOf i) := by
  rw [eval_toPoly]; rfl

theorem coeff_toPoly (l : List F) (k : Nat) : (toPoly l).coeff k = l.getD k 0 := by
  induction l generalizing k with
  | nil => exact coeff_zero k
  | cons c l ih =>
    cases k with
    | zero =>
      rw [toPoly_cons, coeff_add, coeff_C_zero, mul_coeff_zero, coeff_X_zero, zero_mul, add_zero]
      rfl
    | succ k => rw [toPoly_cons, coeff_add, coeff_C_succ, coeff_X_mul, ih, zero_add]; rfl

theorem degree_toPoly_lt (l : List F) : (toPoly l).degree < l.length := by
  rw [degree_lt_iff_coeff_zero]
  intro m hm
  rw [coeff_toPoly]
  rw [List.getD_eq_getElem?_getD, List.getElem?_eq_none_iff.2 hm]; rfl

theorem eval_zero_toPoly (l : List F) : (toPoly l).eval 0 = l.headD 0 := by
  cases l <;> simp

theorem toPoly_injective_of_length {l₁ l₂ : List F} (hlen : l₁.length = l₂.length)
    (h : toPoly l₁ = toPoly l₂) : l₁ = l₂ := by
  apply List.ext_getElem hlen
  intro k h1 h2
  have := congrArg (fun p => p.coeff k) h
  simp only [coeff_toPoly] at this
  simpa [List.getD_eq_getElem?_getD, h1, h2] using this

section Module
variable {G : Type} [AddCommGroup G] [Module F G] [DecidableEq G]

theorem pubEval_map_smul (f : List F) (b : G) (i : Int) :
    pubEval F (f.map (fun c => c • b)) i = priEval f i • b := by
  unfold pubEval priEval
  induction f with
  | nil => simp
  | cons c f ih =>
    simp only [List.map_cons, List.foldr_cons, ih]
    rw [smul_smul, add_smul, mul_comm]

theorem zipWith_add_map_smul (f g : List F) (b : G) :
    List.zipWith (· + ·) (f.map (fun c => c • b)) (g.map (fun c => c • b))
      = (List.zipWith (· + ·) f g).map (fun c => c • b) := by
  induction f generalizing g with
  | nil => simp
  | cons c f ih =>
    cases g with
    | nil => simp
    | cons d g => simp [ih, add_smul]

theorem smul_left_cancel_of {b : G} (hb : ∀ c : F, c • b = 0 → c = 0) {x y : F}
    (h : x • b = y • b) : x = y :=
  sub_eq_zero.1 (hb _ (by rw [sub_smul, h, sub_self]))

/-- the two guards `PriPoly.Add` and `PubPoly.Add` share: an error unless group and length agree -/
theorem addGuards_eq_ok_iff {α : Type} {c₁ c₂ : Prop} [Decidable c₁] [Decidable c₂] (v r : α) :
    (if ¬ c₁ then Out.err .groups else if ¬ c₂ then .err .coeffs else .ok v) = .ok r
      ↔ c₁ ∧ c₂ ∧ r = v := by
  by_cases h₁ : c₁
  · by_cases h₂ : c₂
    · rw [if_neg (not_not.2 h₁), if_neg (not_not.2 h₂), Out.ok.injEq, eq_comm]
      exact ⟨fun h => ⟨h₁, h₂, h⟩, fun h => h.2.2⟩
    · rw [if_neg (not_not.2 h₁), if_pos h₂]
      exact ⟨(fun h => nomatch h), fun h => absurd h.2.1 h₂⟩
  · rw [if_pos h₁]
    exact ⟨(fun h => nomatch h), fun h => absurd h.1 h₁⟩

/-- `PubPoly.Add` succeeds exactly for equal group and length; the receiver's base is kept -/
theorem pubAdd_eq_ok_iff (p q r : PubPoly G) :
    pubAdd p q = .ok r ↔ p.g = q.g ∧ p.commits.length = q.commits.length
      ∧ r = ⟨p.g, p.base, List.zipWith (· + ·) p.commits q.commits⟩ :=
  addGuards_eq_ok_iff _ r

end Module

/-- `PriPoly.Add` succeeds exactly for equal group and length, with the coefficientwise sum -/
theorem priAdd_eq_ok_iff (p q r : PriPoly F) :
    priAdd p q = .ok r ↔ p.g = q.g ∧ p.coeffs.length = q.coeffs.length
      ∧ r = ⟨p.g, List.zipWith (· + ·) p.coeffs q.coeffs⟩ :=
  addGuards_eq_ok_iff _ r

theorem toPoly_zipWith_add (a b : List F) (h : a.length = b.length) :
    toPoly (List.zipWith (· + ·) a b) = toPoly a + toPoly b := by
  induction a generalizing b with
  | nil => cases b <;> simp_all
  | cons x a ih =>
    cases b with
    | nil => simp at h
    | cons y b =>
      simp only [List.zipWith_cons_cons, toPoly_cons, ih b (by simpa using h), C_add]
      ring

theorem priEval_zipWith_add (f g : List F) (hlen : f.length = g.length) (i : Int) :
    priEval (List.zipWith (· + ·) f g) i = priEval f i + priEval g i := by
  simp only [priEval_eq, toPoly_zipWith_add f g hlen, eval_add]

theorem allEq_iff {α : Type} [DecidableEq α] (a b : List α) (hlen : a.length = b.length) :
    allEq a b = true ↔ a = b := by
  induction a generalizing b with
  | nil => cases b <;> simp_all [allEq]
  | cons x a ih =>
    cases b with
    | nil => simp at hlen
    | cons y b =>
      simp only [allEq, Bool.and_eq_true, decide_eq_true_eq, List.cons.injEq]
      rw [ih b (by simpa using hlen)]

/-- the two comparisons of `Equal` (lengths, then entry by entry) together say "same list" -/
theorem length_eq_and_allEq_iff {α : Type} [DecidableEq α] (a b : List α) :
    (a.length = b.length ∧ allEq a b = true) ↔ a = b :=
  ⟨fun h => (allEq_iff a b h.1).1 h.2, fun h => h ▸ ⟨rfl, (allEq_iff a a rfl).2 rfl⟩⟩

/-- the guard of `xScalar`: usable are exactly the entries with a value and an index in `[0, n)` -/
theorem usablePri_eq_some_iff {S : Type} {n : Nat} {s : Option (PriShare S)} {i : Int} {v : S} :
    usablePri n s = some (i, v) ↔ s = some ⟨i, some v⟩ ∧ 0 ≤ i ∧ i < (n : Int) := by
  constructor
  · intro h
    unfold usablePri at h
    split at h
    · split_ifs at h with hr
      cases h; exact ⟨rfl, hr⟩
    · cases h
  · rintro ⟨rfl, hr⟩
    exact if_pos hr

theorem usablePub_eq_some_iff {P : Type} {n : Nat} {s : Option (PubShare P)} {i : Int} {v : P} :
    usablePub n s = some (i, v) ↔ s = some ⟨i, some v⟩ ∧ 0 ≤ i ∧ i < (n : Int) := by
  constructor
  · intro h
    unfold usablePub at h
    split at h
    · split_ifs at h with hr
      cases h; exact ⟨rfl, hr⟩
    · cases h
  · rintro ⟨rfl, hr⟩
    exact if_pos hr

/-- first occurrence of every index that is not in `seen` (a list read as a set), in the order of
the input: the `seen` map of `xScalar` / `RecoverCommit` keeps one share per index (/repo 2d8b40a) -/
def firstIdx {V : Type} : List Int → List (Int × V) → List (Int × V)
  | _, [] => []
  | seen, iv :: rest =>
    if iv.1 ∈ seen then firstIdx seen rest else iv :: firstIdx (iv.1 :: seen) rest

theorem firstIdx_mem {V : Type} {l : List (Int × V)} {seen : List Int} {iv : Int × V}
    (h : iv ∈ firstIdx seen l) : iv ∈ l ∧ iv.1 ∉ seen := by
  induction l generalizing seen with
  | nil => cases h
  | cons a rest ih =>
    unfold firstIdx at h
    split_ifs at h with ha
    · exact ⟨List.mem_cons_of_mem _ (ih h).1, (ih h).2⟩
    · rcases List.mem_cons.1 h with rfl | h
      · exact ⟨List.mem_cons_self, ha⟩
      · exact ⟨List.mem_cons_of_mem _ (ih h).1, fun hm => (ih h).2 (List.mem_cons_of_mem _ hm)⟩

theorem firstIdx_nodup {V : Type} (l : List (Int × V)) (seen : List Int) :
    ((firstIdx seen l).map (·.1)).Nodup := by
  induction l generalizing seen with
  | nil => exact List.nodup_nil
  | cons a rest ih =>
    unfold firstIdx
    split_ifs
    · exact ih seen
    · rw [List.map_cons, List.nodup_cons]
      refine ⟨fun hm => ?_, ih _⟩
      obtain ⟨iv, hiv, he⟩ := List.mem_map.1 hm
      exact (firstIdx_mem hiv).2 (he ▸ List.mem_cons_self)

/-- the counting step of `firstIdx_length` and of `Tbls.collect_spec`: a new element that moves from
the collected side to the seen side is one element less still to come -/
theorem insert_sdiff_card {α : Type} [DecidableEq α] (M S : Finset α) (i : α) (hi : i ∉ S) :
    ((insert i M) \ S).card = (M \ (insert i S)).card + 1 := by
  rw [Finset.insert_sdiff_of_notMem _ hi, Finset.sdiff_insert,
    ← Finset.card_erase_add_one (Finset.mem_insert_self i _), Finset.erase_insert_eq_erase]

theorem firstIdx_length {V : Type} (l : List (Int × V)) (seen : List Int) :
    (firstIdx seen l).length = ((l.map (·.1)).toFinset \ seen.toFinset).card := by
  induction l generalizing seen with
  | nil => simp [firstIdx]
  | cons a rest ih =>
    unfold firstIdx
    rw [List.map_cons, List.toFinset_cons]
    split_ifs with ha
    · rw [ih, Finset.insert_sdiff_of_mem _ (List.mem_toFinset.2 ha)]
    · rw [List.length_cons, ih, insert_sdiff_card _ _ _ (mt List.mem_toFinset.1 ha),
        List.toFinset_cons]

/-- the distinct in-range indices that carry a value in a slice of private shares -/
def idxPri (n : Nat) (shares : List (Option (PriShare F))) : Finset Int :=
  ((shares.filterMap (usablePri n)).map (·.1)).toFinset

section Pick
variable (F) {α V : Type} (u : α → Option (Int × V))

/-- the map `x` that `xScalar` and `RecoverCommit` both build, with the guard a parameter and without the
`break`: one node for the first usable entry of every index -/
def pickAll : Nat → List Int → List α → List (Node F V)
  | _, _, [] => []
  | pos, seen, s :: rest =>
    match u s with
    | none => pickAll (pos + 1) seen rest
    | some iv =>
      if iv.1 ∈ seen then pickAll (pos + 1) seen rest
      else ⟨pos, xOf iv.1, iv.2⟩ :: pickAll (pos + 1) (iv.1 :: seen) rest

/-- the recorded positions are among `pos, pos + 1, …` in this order, so they are distinct keys of the
Go map -/
theorem pickAll_pos (l : List α) (pos : Nat) (seen : List Int) :
    ((pickAll F u pos seen l).map (·.pos)).Sublist (List.range' pos l.length) := by
  induction l generalizing pos seen with
  | nil => exact List.Sublist.slnil
  | cons s rest ih =>
    unfold pickAll
    rw [List.length_cons, List.range'_succ]
    split
    · exact (ih ..).cons _
    · split_ifs
      · exact (ih ..).cons _
      · exact (ih ..).cons_cons _

/-- as `(x, value)` pairs the nodes are the usable entries that carry an index not seen before -/
theorem pickAll_pairs (l : List α) (pos : Nat) (seen : List Int) :
    (pickAll F u pos seen l).map (fun nd => (nd.x, nd.v))
      = (firstIdx seen (l.filterMap u)).map (fun iv => ((xOf iv.1 : F), iv.2)) := by
  induction l generalizing pos seen with
  | nil => rfl
  | cons s rest ih =>
    unfold pickAll
    rw [List.filterMap_cons]
    cases u s with
    | none => exact ih ..
    | some iv =>
      dsimp only
      unfold firstIdx
      split_ifs
      · exact ih ..
      · rw [List.map_cons, List.map_cons, ih]

theorem pickAll_length (l : List α) :
    (pickAll F u 0 [] l).length = ((l.filterMap u).map (·.1)).toFinset.card := by
  have := congrArg List.length (pickAll_pairs F u l 0 [])
  rwa [List.length_map, List.length_map, firstIdx_length, List.toFinset_nil, Finset.sdiff_empty]
    at this

/-- `RecoverCommit` builds this map -/
theorem xCommitAux_eq (n : Nat) (shares : List (Option (PubShare V))) (pos : Nat) (seen : List Int) :
    xCommitAux F n pos seen shares = pickAll F (usablePub n) pos seen shares := by
  induction shares generalizing pos seen with
  | nil => rfl
  | cons s rest ih =>
    unfold xCommitAux pickAll
    cases usablePub n s with
    | none => exact ih ..
    | some iv => simp only [ih]

end Pick

/-- `xScalar` builds the first `t` nodes of it (`k = t - cnt` as long as the `break` can still fire; for
`t = 0` it never does) -/
theorem xScalarAux_eq (t n : Nat) (shares : List (Option (PriShare F))) (pos cnt : Nat)
    (seen : List Int) :
    ∃ k, (cnt < t → k = t - cnt) ∧
      xScalarAux t n pos cnt seen shares = (pickAll F (usablePri n) pos seen shares).take k := by
  induction shares generalizing pos cnt seen with
  | nil => exact ⟨t - cnt, fun _ => rfl, List.take_nil.symm⟩
  | cons s rest ih =>
    unfold xScalarAux pickAll
    cases usablePri n s with
    | none => exact ih ..
    | some iv =>
      by_cases hs : iv.1 ∈ seen
      · simp only [hs, if_true]; exact ih ..
      · simp only [hs, if_false]
        by_cases hl : cnt + 1 = t
        · exact ⟨1, fun _ => by omega, by simp [hl]⟩
        · obtain ⟨k, hk, e⟩ := ih (pos + 1) (cnt + 1) (iv.1 :: seen)
          exact ⟨k + 1, fun h => by have := hk (by omega); omega,
            by simp only [hl, if_false, e, List.take_succ_cons]⟩

theorem xScalar_eq (t n : Nat) (shares : List (Option (PriShare F))) :
    ∃ k, (0 < t → k = t) ∧ xScalar shares t n = (pickAll F (usablePri n) 0 [] shares).take k :=
  xScalarAux_eq t n shares 0 0 []

section Loops
variable {V : Type}

/-- a loop that `continue`s on the entries satisfying `p` is the loop over the others -/
theorem foldl_skip {α β : Type} (p : α → Prop) [DecidablePred p] (f : β → α → β) (l : List α) (b : β) :
    l.foldl (fun x y => if p y then x else f x y) b = (l.filter (fun y => ¬ p y)).foldl f b := by
  rw [List.foldl_filter]
  refine congrFun (congrArg (List.foldl · b) (funext₂ fun x y => ?_)) l
  by_cases h : p y <;> simp [h]

theorem numDen_eq (xs : List (Node F V)) (i : Node F V) (n0 : F) :
    numDen xs i n0
      = (n0 * ((xs.filter (fun j => j.pos ≠ i.pos)).map (·.x)).prod,
         ((xs.filter (fun j => j.pos ≠ i.pos)).map (fun j => j.x - i.x)).prod) := by
  unfold numDen
  rw [foldl_skip (fun j : Node F V => j.pos = i.pos)]
  generalize xs.filter (fun j => ¬ j.pos = i.pos) = l
  suffices h : ∀ a d : F, l.foldl (fun (nd : F × F) j => (nd.1 * j.x, nd.2 * (j.x - i.x))) (a, d)
      = (a * (l.map (·.x)).prod, d * (l.map (fun j => j.x - i.x)).prod) by rw [h, one_mul]
  induction l with
  | nil => intro a d; simp
  | cons j l ih => intro a d; simp [ih, mul_assoc]

/-- with distinct positions and distinct `x`, "every other key" is "every other `x`" -/
theorem filter_pos_eq_filter_x {β : Type*} (xs : List (Node F V)) (hpos : (xs.map (·.pos)).Nodup)
    (hx : (xs.map (·.x)).Nodup) (i : Node F V) (hi : i ∈ xs) (g : F → β) :
    (xs.filter (fun j => j.pos ≠ i.pos)).map (fun j => g j.x)
      = ((xs.map (·.x)).filter (· ≠ i.x)).map g := by
  rw [List.filter_map, List.map_map]
  congr 1
  refine List.filter_congr fun j hj => ?_
  simp only [Function.comp, ne_eq, decide_eq_decide, not_iff_not]
  exact ⟨fun h => by rw [List.inj_on_of_nodup_map hpos hj hi h],
    fun h => by rw [List.inj_on_of_nodup_map hx hj hi h]⟩

end Loops

/-- nodes with distinct keys, distinct evaluation points and values on the polynomial `p` -/
structure GoodS (xs : List (Node F F)) (p : F[X]) : Prop where
  pos : (xs.map (·.pos)).Nodup
  x : (xs.map (·.x)).Nodup
  val : ∀ i ∈ xs, i.v = p.eval i.x

theorem den_ne_zero {V : Type} (xs : List (Node F V)) (hpos : (xs.map (·.pos)).Nodup)
    (hx : (xs.map (·.x)).Nodup) (i : Node F V) (hi : i ∈ xs) (n0 : F) :
    (numDen xs i n0).2 ≠ 0 := by
  rw [numDen_eq, filter_pos_eq_filter_x xs hpos hx i hi (fun b => b - i.x)]
  refine List.prod_ne_zero fun h0 => ?_
  obtain ⟨b, hb, hb0⟩ := List.mem_map.1 h0
  exact (of_decide_eq_true (List.mem_filter.1 hb).2) (sub_eq_zero.1 hb0)

section Commit
variable {G : Type} [AddCommGroup G] [Module F G] [DecidableEq G]

theorem commit_fold (dp : Bool) (xs ys : List (Node F G))
    (hden : ∀ i ∈ ys, (numDen xs i (1 : F)).2 ≠ 0) (a : G) :
    ys.foldl (commitStep dp xs) (.ok a)
      = .ok (a + (ys.map fun i =>
          ((numDen xs i (1 : F)).1 * ((numDen xs i (1 : F)).2)⁻¹) • i.v).sum) := by
  induction ys generalizing a with
  | nil => simp
  | cons i ys ih =>
    have h0 : (numDen xs i (1 : F)).2 ≠ 0 := hden i (by simp)
    simp only [List.foldl_cons, commitStep, divOut, h0, false_and, if_false, List.map_cons,
      List.sum_cons]
    rw [ih (fun j hj => hden j (by simp [hj])), add_assoc]

/-- nodes with distinct keys, distinct evaluation points and values `p(x) • B` -/
structure GoodP (xs : List (Node F G)) (p : F[X]) (B : G) : Prop where
  pos : (xs.map (·.pos)).Nodup
  x : (xs.map (·.x)).Nodup
  val : ∀ i ∈ xs, i.v = p.eval i.x • B

theorem commit_fold_good (dp : Bool) (xs : List (Node F G)) (p : F[X]) (B : G)
    (hg : GoodP xs p B) (hdeg : p.degree < xs.length) :
    xs.foldl (commitStep dp xs) (.ok 0) = .ok (p.eval 0 • B) := by
  rw [commit_fold dp xs xs (fun i hi => den_ne_zero xs hg.pos hg.x i hi _), zero_add,
    ← Lagrange.list_numden_smul_at_zero (xs.map (·.x)) hg.x p (by simpa using hdeg) B,
    List.map_map]
  congr 2
  refine List.map_congr_left fun i hi => ?_
  rw [Function.comp, numDen_eq, hg.val i hi, filter_pos_eq_filter_x xs hg.pos hg.x i hi (fun b => b),
    filter_pos_eq_filter_x xs hg.pos hg.x i hi (fun b => b - i.x)]
  rfl

end Commit

/-- over the scalars themselves the loop body of `RecoverSecret` is that of `RecoverCommit`:
`(v · num) / den = (num / den) • v` -/
theorem secretStep_eq_commitStep (dp : Bool) (xs : List (Node F F)) :
    secretStep dp xs = commitStep dp xs := by
  funext acc i
  cases acc with
  | ok a =>
    simp only [secretStep, commitStep, divOut, numDen_eq]
    split_ifs
    · rfl
    · simp only [smul_eq_mul]; congr 2; ring
  | err e => rfl
  | panic s => rfl

theorem secret_fold_good (dp : Bool) (xs : List (Node F F)) (p : F[X]) (hg : GoodS xs p)
    (hdeg : p.degree < xs.length) :
    xs.foldl (secretStep dp xs) (.ok 0) = .ok (p.eval 0) := by
  rw [secretStep_eq_commitStep, commit_fold_good dp xs p 1
    ⟨hg.pos, hg.x, fun i hi => by rw [hg.val i hi, smul_eq_mul, mul_one]⟩ hdeg, smul_eq_mul,
    mul_one]

/-- no positive number up to `n` vanishes in `F` (characteristic 0 or larger than `n`) -/
def CharGt (F : Type) [Field F] (n : Nat) : Prop := ∀ k : Nat, 0 < k → k ≤ n → (k : F) ≠ 0

theorem xOf_eq_natCast (i : Int) (h0 : 0 ≤ i) : (xOf i : F) = (((1 + i).toNat : Nat) : F) := by
  rw [xOf, ← Int.cast_natCast, Int.toNat_of_nonneg (by omega)]

theorem xOf_ne_zero {n : Nat} (h : CharGt F n) (i : Int) (h0 : 0 ≤ i) (hn : i < n) :
    (xOf i : F) ≠ 0 := by
  rw [xOf_eq_natCast i h0]
  exact h _ (by omega) (by omega)

theorem xOf_injOn {n : Nat} (h : CharGt F n) (a b : Int) (ha0 : 0 ≤ a) (han : a < n)
    (hb0 : 0 ≤ b) (hbn : b < n) (hab : (xOf a : F) = xOf b) : a = b := by
  by_contra hne
  have key : ∀ a b : Int, 0 ≤ a → b < n → a < b → (xOf a : F) ≠ xOf b := by
    intro a b ha0 hbn hlt heq
    have e : ((b - a).toNat : Int) = (1 + b) - (1 + a) := by
      rw [Int.toNat_of_nonneg (by omega)]; ring
    refine h (b - a).toNat (by omega) (by omega) ?_
    rw [← Int.cast_natCast, e, Int.cast_sub]
    exact sub_eq_zero.2 heq.symm
  rcases lt_or_gt_of_ne hne with hlt | hgt
  · exact key a b ha0 hbn hlt hab
  · exact key b a hb0 han hgt hab.symm

/-- distinct in-range indices give distinct evaluation points, so no Lagrange denominator vanishes -/
theorem nodes_of_pairs {n : Nat} (hc : CharGt F n) {V : Type} {xs : List (Node F V)}
    {l : List (Int × V)}
    (hp : xs.map (fun nd => (nd.x, nd.v)) = l.map (fun iv => ((xOf iv.1 : F), iv.2)))
    (hr : ∀ iv ∈ l, 0 ≤ iv.1 ∧ iv.1 < (n : Int)) (hd : (l.map (·.1)).Nodup) :
    (xs.map (·.x)).Nodup ∧ ∀ nd ∈ xs, ∃ iv ∈ l, nd.x = xOf iv.1 ∧ nd.v = iv.2 := by
  constructor
  · have hx : xs.map (·.x) = (l.map (·.1)).map (fun i => (xOf i : F)) := by
      simpa only [List.map_map, Function.comp_def] using congrArg (List.map Prod.fst) hp
    rw [hx]
    refine List.Nodup.map_on (fun a ha b hb hab => ?_) hd
    obtain ⟨iva, hiva, rfl⟩ := List.mem_map.1 ha
    obtain ⟨ivb, hivb, rfl⟩ := List.mem_map.1 hb
    exact xOf_injOn hc _ _ (hr iva hiva).1 (hr iva hiva).2 (hr ivb hivb).1 (hr ivb hivb).2 hab
  · intro nd hnd
    have hmem : (nd.x, nd.v) ∈ xs.map (fun nd => (nd.x, nd.v)) := List.mem_map.2 ⟨nd, hnd, rfl⟩
    rw [hp] at hmem
    obtain ⟨iv, hiv, he⟩ := List.mem_map.1 hmem
    exact ⟨iv, hiv, (Prod.mk.inj he).1.symm, (Prod.mk.inj he).2.symm⟩

/-- **what the map holds, for both recoveries**: whatever the slice holds (any values, any repetitions),
in the map and in every part of it the keys are distinct, so are the evaluation points – indices in
`[0, n)` are distinct in `F`, no Lagrange denominator can vanish –, and every node carries the value of a
usable entry -/
theorem pickAll_keys {α V : Type} {n : Nat} (hc : CharGt F n) (u : α → Option (Int × V)) (l : List α)
    (hr : ∀ iv ∈ l.filterMap u, 0 ≤ iv.1 ∧ iv.1 < (n : Int)) {xs : List (Node F V)}
    (h : xs.Sublist (pickAll F u 0 [] l)) :
    (xs.map (·.pos)).Nodup ∧ (xs.map (·.x)).Nodup
      ∧ ∀ nd ∈ xs, ∃ iv ∈ l.filterMap u, nd.x = xOf iv.1 ∧ nd.v = iv.2 := by
  obtain ⟨hx, hv⟩ := nodes_of_pairs hc (pickAll_pairs F u l 0 [])
    (fun iv h => hr iv (firstIdx_mem h).1) (firstIdx_nodup _ _)
  refine ⟨(h.map _).nodup ((pickAll_pos F u l 0 []).nodup List.nodup_range'), (h.map _).nodup hx,
    fun nd hnd => ?_⟩
  obtain ⟨iv, hiv, e⟩ := hv nd (h.subset hnd)
  exact ⟨iv, (firstIdx_mem hiv).1, e⟩

section Fold
variable {G : Type} [AddCommGroup G] [Module F G] [DecidableEq G]

/-- **both recoveries past the selection**: a part of the map whose nodes carry shares `f(i+1) • B`, with
at least `len f` nodes, is interpolated to `f(0) • B`; `RecoverSecret` is the case `G = F`, `B = 1` -/
theorem fold_pickAll {α : Type} {n : Nat} (hc : CharGt F n) (dp : Bool) (u : α → Option (Int × G))
    (l : List α) (hr : ∀ iv ∈ l.filterMap u, 0 ≤ iv.1 ∧ iv.1 < (n : Int)) (f : List F) (B : G)
    (hval : ∀ iv ∈ l.filterMap u, iv.2 = priEval f iv.1 • B) {xs : List (Node F G)}
    (h : xs.Sublist (pickAll F u 0 [] l)) (hlen : f.length ≤ xs.length) :
    xs.foldl (commitStep dp xs) (.ok 0) = .ok (f.headD 0 • B) := by
  obtain ⟨hpos, hx, hv⟩ := pickAll_keys hc u l hr h
  rw [commit_fold_good dp _ (toPoly f) B ⟨hpos, hx, fun nd hnd => ?_⟩
    (lt_of_lt_of_le (degree_toPoly_lt f) (by exact_mod_cast hlen)), eval_zero_toPoly]
  obtain ⟨iv, hiv, e1, e2⟩ := hv nd hnd
  rw [e1, e2, hval iv hiv, priEval_eq]

/-- … and whatever the nodes carry, the loop ends without a panic: the denominators are products of
differences of distinct evaluation points -/
theorem fold_pickAll_ok {α : Type} {n : Nat} (hc : CharGt F n) (dp : Bool) (u : α → Option (Int × G))
    (l : List α) (hr : ∀ iv ∈ l.filterMap u, 0 ≤ iv.1 ∧ iv.1 < (n : Int)) {xs : List (Node F G)}
    (h : xs.Sublist (pickAll F u 0 [] l)) : ∃ c, xs.foldl (commitStep dp xs) (.ok 0) = .ok c :=
  have ⟨hpos, hx, _⟩ := pickAll_keys hc u l hr h
  ⟨_, commit_fold dp _ _ (fun i hi => den_ne_zero _ hpos hx i hi _) 0⟩

end Fold

theorem xScalar_length (t n : Nat) (shares : List (Option (PriShare F))) (ht : 0 < t) :
    (xScalar shares t n).length = min t (idxPri n shares).card := by
  obtain ⟨k, hk, e⟩ := xScalar_eq t n shares
  rw [e, hk ht, List.length_take, pickAll_length, idxPri]

theorem usablePri_range {n : Nat} {shares : List (Option (PriShare F))} :
    ∀ iv ∈ shares.filterMap (usablePri n), 0 ≤ iv.1 ∧ iv.1 < (n : Int) := by
  intro iv hiv
  obtain ⟨s, _, hs⟩ := List.mem_filterMap.1 hiv
  exact (usablePri_eq_some_iff.1 hs).2

/-- **the map of `xScalar` under the property's hypotheses**: every usable entry is a true share
of `f`, and at least `t` DISTINCT indices are usable – anywhere in the slice, repeated or not. -/
theorem xScalar_spec (f : List F) (t n : Nat) (ht : 0 < t) (hc : CharGt F n)
    (shares : List (Option (PriShare F)))
    (hval : ∀ iv ∈ shares.filterMap (usablePri n), iv.2 = priEval f iv.1)
    (hcnt : t ≤ (idxPri n shares).card) :
    GoodS (xScalar shares t n) (toPoly f) ∧ (xScalar shares t n).length = t := by
  refine ⟨?_, by rw [xScalar_length t n shares ht]; omega⟩
  obtain ⟨k, -, e⟩ := xScalar_eq t n shares
  obtain ⟨hpos, hx, hv⟩ := pickAll_keys hc (usablePri n) shares usablePri_range
    (e ▸ List.take_sublist k _)
  refine ⟨hpos, hx, fun nd hnd => ?_⟩
  obtain ⟨iv, hiv, e1, e2⟩ := hv nd hnd
  rw [e1, e2, hval iv hiv, priEval_eq]

theorem card_of_take_nodup {V : Type} (l : List (Int × V)) (t : Nat) (hcnt : t ≤ l.length)
    (hdist : ((l.take t).map (·.1)).Nodup) : t ≤ (l.map (·.1)).toFinset.card := by
  have h1 : ((l.take t).map (·.1)).toFinset.card = t := by
    rw [List.toFinset_card_of_nodup hdist]; simp [hcnt]
  rw [← h1]
  refine Finset.card_le_card fun x hx => ?_
  rw [List.map_take, List.mem_toFinset] at hx
  exact List.mem_toFinset.2 (List.mem_of_mem_take hx)

/-- the hypothesis that the first `t` usable entries carry distinct indices is a special case of
`xScalar_spec` (`card_of_take_nodup`, the step `Proofs/DkgHonest.lean` takes to `recoverSecret_ok`) -/
theorem xScalar_good (f : List F) (t n : Nat) (ht : 0 < t) (hc : CharGt F n)
    (shares : List (Option (PriShare F)))
    (hval : ∀ iv ∈ shares.filterMap (usablePri n), iv.2 = priEval f iv.1)
    (hcnt : t ≤ (shares.filterMap (usablePri n)).length)
    (hdist : (((shares.filterMap (usablePri n)).take t).map (·.1)).Nodup) :
    GoodS (xScalar shares t n) (toPoly f) ∧ (xScalar shares t n).length = t :=
  xScalar_spec f t n ht hc shares hval (card_of_take_nodup _ t hcnt hdist)

/-- `RecoverSecret` returns `f(0)` whenever the usable entries are shares of `f` and `≥ t ≥ len f`
DISTINCT indices are among them (repetitions allowed) -/
theorem recoverSecret_ok (dp : Bool) (f : List F) (t n : Nat) (ht : 0 < t) (hf : f.length ≤ t)
    (hc : CharGt F n) (shares : List (Option (PriShare F)))
    (hval : ∀ iv ∈ shares.filterMap (usablePri n), iv.2 = priEval f iv.1)
    (hcnt : t ≤ (idxPri n shares).card) :
    recoverSecret dp shares t n = .ok (f.headD 0) := by
  obtain ⟨k, -, e⟩ := xScalar_eq t n shares
  have hlen := xScalar_length t n shares ht
  rw [recoverSecret, if_neg (by omega), secretStep_eq_commitStep,
    fold_pickAll hc dp _ shares usablePri_range f 1
      (fun iv h => by rw [hval iv h, smul_eq_mul, mul_one]) (e ▸ List.take_sublist k _) (by omega),
    smul_eq_mul, mul_one]

/-- **`RecoverSecret` never panics** – any slice, any values, any `t`, both division behaviours -/
theorem recoverSecret_no_panic (dp : Bool) (t n : Nat) (hc : CharGt F n)
    (shares : List (Option (PriShare F))) :
    recoverSecret dp shares t n = .err .few ∨ ∃ v, recoverSecret dp shares t n = .ok v := by
  obtain ⟨k, -, e⟩ := xScalar_eq t n shares
  rw [recoverSecret, secretStep_eq_commitStep]
  split_ifs
  · exact Or.inl rfl
  · exact Or.inr (fold_pickAll_ok hc dp _ shares usablePri_range (e ▸ List.take_sublist k _))

/-- `RecoverPriPoly` has no division that can fail (`Inv` of 0 stays 0) and `PriPoly.Add` returns
an error, not a panic: a step of its loop never turns a non-panic into a panic -/
theorem polyStep_ne_panic (g : Nat) (xs : List (Node F F)) (acc : Out (Option (PriPoly F)))
    (hacc : ∀ s, acc ≠ .panic s) (j : Node F F) : ∀ s, polyStep g xs acc j ≠ .panic s := by
  intro s
  unfold polyStep
  cases acc with
  | ok cur =>
    cases cur with
    | none => simp
    | some a =>
      simp only
      unfold priAdd
      split_ifs <;> simp
  | err e => simp
  | panic s' => exact absurd rfl (hacc s')

theorem recoverPriPoly_no_panic (g t n : Nat) (shares : List (Option (PriShare F))) :
    ∀ s, recoverPriPoly g shares t n ≠ .panic s := by
  intro s
  have h : ∀ s, (xScalar shares t n).foldl (polyStep g (xScalar shares t n)) (.ok none) ≠ .panic s :=
    List.foldlRecOn _ _ (fun s => nofun) fun acc hacc j _ => polyStep_ne_panic g _ acc hacc j
  unfold recoverPriPoly
  simp only
  split_ifs
  · simp
  · split <;> simp_all

section CommitTotal
variable {G : Type} [AddCommGroup G] [Module F G] [DecidableEq G]

/-- the distinct in-range indices that carry a value in a slice of public shares -/
def idxPub (n : Nat) (shares : List (Option (PubShare G))) : Finset Int :=
  ((shares.filterMap (usablePub n)).map (·.1)).toFinset

theorem xCommit_length (n : Nat) (shares : List (Option (PubShare G))) :
    (xCommitAux F n 0 [] shares).length = (idxPub n shares).card := by
  rw [xCommitAux_eq, pickAll_length, idxPub]

theorem usablePub_range {n : Nat} {shares : List (Option (PubShare G))} :
    ∀ iv ∈ shares.filterMap (usablePub n), 0 ≤ iv.1 ∧ iv.1 < (n : Int) := by
  intro iv hiv
  obtain ⟨s, _, hs⟩ := List.mem_filterMap.1 hiv
  exact (usablePub_eq_some_iff.1 hs).2

/-- **`RecoverCommit` never panics** – any slice, any values, any `t`: no division by zero -/
theorem recoverCommit_no_panic (dp : Bool) (t n : Nat) (hc : CharGt F n)
    (shares : List (Option (PubShare G))) :
    recoverCommit (S := F) dp shares t n = .err .few ∨ ∃ c, recoverCommit (S := F) dp shares t n = .ok c := by
  rw [recoverCommit]
  split_ifs
  · exact Or.inl rfl
  · exact Or.inr (fold_pickAll_ok hc dp _ shares usablePub_range
      (xCommitAux_eq F n shares 0 [] ▸ .refl _))

/-- `RecoverCommit` returns `f(0) • B` whenever the usable entries are public shares of `f` and
`≥ t ≥ len f` DISTINCT indices are among them (repetitions allowed) -/
theorem recoverCommit_ok (dp : Bool) (f : List F) (B : G) (t n : Nat) (hf : f.length ≤ t)
    (hc : CharGt F n) (shares : List (Option (PubShare G)))
    (hval : ∀ iv ∈ shares.filterMap (usablePub n), iv.2 = priEval f iv.1 • B)
    (hcnt : t ≤ (idxPub n shares).card) :
    recoverCommit (S := F) dp shares t n = .ok (f.headD 0 • B) := by
  have hlen := xCommit_length (F := F) n shares
  rw [recoverCommit, if_neg (by omega), fold_pickAll hc dp _ shares usablePub_range f B hval
    (xCommitAux_eq F n shares 0 [] ▸ .refl _) (by omega)]

theorem recoverCommit_few (dp : Bool) (t n : Nat) (shares : List (Option (PubShare G)))
    (hfew : (idxPub n shares).card < t) :
    recoverCommit (S := F) dp shares t n = .err .few := by
  rw [recoverCommit, if_pos (by rwa [xCommit_length (F := F) n shares])]

theorem idxPub_card_of_nodup (n : Nat) (shares : List (Option (PubShare G)))
    (hdist : ((shares.filterMap (usablePub n)).map (·.1)).Nodup) :
    (idxPub n shares).card = (shares.filterMap (usablePub n)).length := by
  rw [idxPub, List.toFinset_card_of_nodup hdist, List.length_map]

end CommitTotal

end Dos.Share
