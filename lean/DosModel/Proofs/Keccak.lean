/-
Structure of `Model/Keccak.lean` (C06): `keccak256` IS the sponge construction —
  keccak256 msg = squeeze (foldl absorbBlock 0^1600 (blocks of  msg ‖ pad10*1))
where the padded message `msg ++ padSuffix (136 − |msg| mod 136)` is a whole number of 136-byte blocks,
the suffix is the LEGACY Keccak one (first byte carries only the pad bit 0x01 — no SHA-3 domain bits —,
last byte 0x80, a single 0x81 when one byte is missing), and the output is 32 bytes.
What is not proved: anything about the permutation beyond its definition (θ ρ π χ ι as written in the model;
its tables are pinned against golang.org/x/crypto/sha3 by `Props/C06Keccak.lean`, its values by
known-answer vectors) — except that it is the permutation of `Model/KeccakNat.lean` on the packed state
(`keccakF_eq`): the kernel evaluates that one an order of magnitude faster than 25 `UInt64` lanes in an
`Array`, and its row-wise form `KeccakNat.keccakFRows` (`Proofs/KeccakRows.lean`) four times faster again, so the
known-answer vectors are evaluated through `keccak256_eq_packed`.  Core Lean only.
-/
import DosModel.Model.Keccak
import DosModel.Model.KeccakNat
import DosModel.Proofs.KeccakRows

namespace Dos.Keccak
open Dos

/-- the rate-sized blocks `absorb` consumes (`f` = fuel, at least their number) -/
def chunks : Nat → Bytes → List Bytes
  | 0, _ => []
  | f + 1, m => if m.length < rate then [] else m.take rate :: chunks f (m.drop rate)

/-- what `absorb` returns besides the state: the bytes after the last full block -/
def rest : Nat → Bytes → Bytes
  | 0, m => m
  | f + 1, m => if m.length < rate then m else rest f (m.drop rate)

theorem absorb_eq : ∀ (f : Nat) (st : Array UInt64) (m : Bytes),
    absorb f st m = ((chunks f m).foldl absorbBlock st, rest f m) := by
  intro f
  induction f with
  | zero => intro st m; rfl
  | succ f ih =>
    intro st m
    simp only [absorb, chunks, rest]
    split
    · rfl
    · rw [ih]; rfl

theorem chunks_flatten : ∀ (f : Nat) (m : Bytes), (chunks f m).flatten ++ rest f m = m := by
  intro f
  induction f with
  | zero => intro m; rfl
  | succ f ih =>
    intro m
    simp only [chunks, rest]
    split
    · rfl
    · rw [List.flatten_cons, List.append_assoc, ih, List.take_append_drop]

theorem chunks_block_length : ∀ (f : Nat) (m : Bytes), ∀ b ∈ chunks f m, b.length = rate := by
  intro f
  induction f with
  | zero => intro m b hb; simp [chunks] at hb
  | succ f ih =>
    intro m b hb
    simp only [chunks] at hb
    split at hb
    · simp at hb
    · rename_i hlt
      rcases List.mem_cons.mp hb with rfl | hb
      · rw [List.length_take]; omega
      · exact ih _ b hb

theorem rest_spec : ∀ (f : Nat) (m : Bytes), m.length / rate < f →
    (rest f m).length = m.length % rate ∧ (chunks f m).length = m.length / rate := by
  have hr : rate = 136 := rfl
  intro f
  induction f with
  | zero => intro m h; exact absurd h (Nat.not_lt_zero _)
  | succ f ih =>
    intro m h
    simp only [chunks, rest]
    split
    · rename_i hlt
      exact ⟨(Nat.mod_eq_of_lt hlt).symm, by rw [Nat.div_eq_of_lt hlt]; rfl⟩
    · rename_i hge
      have hl : (m.drop rate).length = m.length - rate := List.length_drop
      have hlt : (m.drop rate).length / rate < f := by
        rw [hl]; rw [hr] at h hge ⊢; omega
      obtain ⟨h1, h2⟩ := ih (m.drop rate) hlt
      rw [hl] at h1 h2
      rw [hr] at h1 h2 hge ⊢
      refine ⟨by rw [h1]; omega, by rw [List.length_cons, h2]; omega⟩

/-- pad10*1 with the legacy first byte: `q` bytes, `1 ≤ q ≤ rate` -/
def padSuffix (q : Nat) : Bytes :=
  if q = 1 then [0x81] else [0x01] ++ List.replicate (q - 2) 0 ++ [0x80]

theorem padSuffix_length (q : Nat) (h : 1 ≤ q) : (padSuffix q).length = q := by
  unfold padSuffix
  split
  · simp_all
  · simp only [List.length_append, List.length_cons, List.length_nil, List.length_replicate]; omega

theorem pad_eq (m : Bytes) (h : m.length < rate) : pad m = m ++ padSuffix (rate - m.length) := by
  unfold pad padSuffix
  by_cases hz : rate - m.length - 1 = 0
  · have : rate - m.length = 1 := by omega
    simp [this]
  · have : ¬ rate - m.length = 1 := by omega
    have h2 : rate - m.length - 1 - 1 = rate - m.length - 2 := by omega
    simp only [hz, this, if_false, h2, List.append_assoc]

/-- the blocks the sponge absorbs: the full blocks of the message, then the padded remainder -/
def paddedBlocks (msg : Bytes) : List Bytes :=
  chunks (msg.length / rate + 1) msg ++ [pad (rest (msg.length / rate + 1) msg)]

/-- the first 32 bytes of the state, lanes little-endian -/
def squeeze (st : Array UInt64) : Bytes :=
  ((List.range 4).map fun i => bytesOfLane (st.getD i 0)).flatten

theorem keccak256_eq_sponge (msg : Bytes) :
    keccak256 msg = squeeze ((paddedBlocks msg).foldl absorbBlock (Array.replicate 25 0)) := by
  simp only [keccak256, paddedBlocks, absorb_eq, List.foldl_append, List.foldl_cons, List.foldl_nil, squeeze]

theorem squeeze_length (st : Array UInt64) : (squeeze st).length = 32 := by
  simp [squeeze, bytesOfLane, List.range, List.range.loop]

theorem paddedBlocks_spec (msg : Bytes) :
    (∀ b ∈ paddedBlocks msg, b.length = rate) ∧
    (paddedBlocks msg).flatten = msg ++ padSuffix (rate - msg.length % rate) ∧
    (paddedBlocks msg).length = msg.length / rate + 1 ∧
    (msg ++ padSuffix (rate - msg.length % rate)).length = (msg.length / rate + 1) * rate := by
  have hr : rate = 136 := rfl
  obtain ⟨h1, h2⟩ := rest_spec (msg.length / rate + 1) msg (Nat.lt_succ_self _)
  have hlt : (rest (msg.length / rate + 1) msg).length < rate := by rw [h1]; exact Nat.mod_lt _ (by decide)
  have hpad := pad_eq _ hlt
  have hq : 1 ≤ rate - msg.length % rate := by
    have := Nat.mod_lt msg.length (show 0 < rate by decide); omega
  refine ⟨?_, ?_, ?_, ?_⟩
  · intro b hb
    rcases List.mem_append.mp hb with hb | hb
    · exact chunks_block_length _ _ b hb
    · rw [List.mem_singleton.mp hb, hpad, List.length_append, padSuffix_length _ (by omega)]; omega
  · unfold paddedBlocks
    rw [List.flatten_append, hpad, h1]
    simp only [List.flatten_cons, List.flatten_nil, List.append_nil]
    rw [← List.append_assoc, chunks_flatten]
  · unfold paddedBlocks
    rw [List.length_append, h2]; rfl
  · rw [List.length_append, padSuffix_length _ hq]
    have := Nat.div_add_mod msg.length rate
    have hm := Nat.mod_lt msg.length (show 0 < rate by decide)
    rw [Nat.add_mul, Nat.one_mul, Nat.mul_comm]
    omega

/-! ### the permutation on the packed state -/

/-- the lanes of a state as one number, lane 0 lowest: the state of `Model/KeccakNat.lean` -/
def enc (a : Array UInt64) : Nat := KeccakNat.pack (a.toList.map UInt64.toNat)

def dec (s : Nat) : Array UInt64 := (Array.range 25).map fun i => UInt64.ofNat (KeccakNat.lane s i)

theorem lane_pack : ∀ (l : List Nat), (∀ v ∈ l, v < KeccakNat.m64) → ∀ i,
    KeccakNat.lane (KeccakNat.pack l) i = l.getD i 0
  | [], _, i => by simp [KeccakNat.lane, KeccakNat.pack]
  | v :: l, h, 0 => by
    have hv : v < 2 ^ 64 := h v (List.mem_cons_self ..)
    simp [KeccakNat.lane, KeccakNat.pack, KeccakNat.m64, Nat.mod_eq_of_lt hv]
  | v :: l, h, i + 1 => by
    have hv : v < 2 ^ 64 := h v (List.mem_cons_self ..)
    have ih := lane_pack l (fun w hw => h w (List.mem_cons_of_mem _ hw)) i
    rw [List.getD_cons_succ, ← ih]
    show (v + 2 ^ 64 * KeccakNat.pack l) >>> (64 * (i + 1)) % 2 ^ 64 = KeccakNat.pack l >>> (64 * i) % 2 ^ 64
    rw [Nat.mul_succ, Nat.add_comm (64 * i), Nat.shiftRight_add, Nat.shiftRight_eq_div_pow _ 64,
      Nat.add_mul_div_left _ _ (by decide), Nat.div_eq_of_lt hv, Nat.zero_add]

theorem lane_enc (a : Array UInt64) (i : Nat) : KeccakNat.lane (enc a) i = (a.getD i 0).toNat := by
  rw [enc, lane_pack _ (by
    intro v hv
    obtain ⟨w, _, rfl⟩ := List.mem_map.1 hv
    exact w.toNat_lt)]
  simp [List.getD_eq_getElem?_getD, List.getElem?_map]
  cases a[i]? <;> rfl

theorem enc_map_range (n : Nat) (f : Nat → UInt64) (g : Nat → Nat)
    (h : ∀ i, i < n → (f i).toNat = g i) :
    enc ((Array.range n).map f) = KeccakNat.pack ((List.range n).map g) := by
  rw [enc, Array.toList_map, Array.toList_range, List.map_map]
  congr 1
  exact List.map_congr_left fun i hi => h i (List.mem_range.1 hi)

theorem toNat_rotl (v : UInt64) (n : Nat) : (rotl v n).toNat = KeccakNat.rotl64 v.toNat n := by
  unfold rotl KeccakNat.rotl64
  split
  · rfl
  · have h1 : n % 64 < 64 := Nat.mod_lt _ (by decide)
    have e1 : (UInt64.ofNat (n % 64)).toNat % 64 = n % 64 := by
      rw [UInt64.toNat_ofNat_of_lt' (Nat.lt_trans h1 (by decide)), Nat.mod_mod]
    have e2 : (UInt64.ofNat (64 - n % 64)).toNat % 64 = 64 - n % 64 := by
      rw [UInt64.toNat_ofNat_of_lt' (Nat.lt_of_le_of_lt (Nat.sub_le _ _) (by decide))]; omega
    rw [UInt64.toNat_or, UInt64.toNat_shiftLeft, UInt64.toNat_shiftRight, e1, e2]
    rfl

theorem toNat_not (v : UInt64) : (~~~v).toNat = v.toNat ^^^ (KeccakNat.m64 - 1) := by
  rw [← UInt64.toNat_toBitVec, UInt64.toBitVec_not, BitVec.not_def, BitVec.toNat_xor, BitVec.toNat_allOnes,
    Nat.xor_comm]
  rfl

/-- ι: the round constant goes into lane 0 -/
theorem enc_modify_zero (a : Array UInt64) (h : 0 < a.size) (c : UInt64) :
    enc (a.modify 0 (· ^^^ c)) = enc a ^^^ c.toNat := by
  obtain ⟨l⟩ := a
  cases l with
  | nil => exact absurd h (Nat.lt_irrefl _)
  | cons v l =>
    simp only [enc, List.modify_toArray, List.modify_zero_cons, List.map_cons, UInt64.toNat_xor,
      KeccakNat.pack, KeccakNat.m64]
    apply Nat.eq_of_testBit_eq
    intro j
    have hx : v.toNat ^^^ c.toNat < 2 ^ 64 := Nat.xor_lt_two_pow v.toNat_lt c.toNat_lt
    rw [Nat.testBit_xor, Nat.add_comm, Nat.testBit_two_pow_mul_add _ hx, Nat.add_comm,
      Nat.testBit_two_pow_mul_add _ v.toNat_lt]
    split
    · rw [Nat.testBit_xor]
    · rw [Nat.testBit_lt_two_pow (Nat.lt_of_lt_of_le c.toNat_lt (Nat.pow_le_pow_right (by decide) (by omega))),
        Bool.xor_false]

theorem enc_round (a : Array UInt64) (rc : UInt64) :
    enc (round a rc) = KeccakNat.round (enc a) rc.toNat := by
  unfold round KeccakNat.round
  extract_lets c d a1 b a2 c' d' a1' b' a2'
  -- step by step, the packed intermediate state is the packing of the lane array
  have hc : c' = enc c := (enc_map_range 5 _ _ fun x hx => by
    simp only [lane, UInt64.toNat_xor, lane_enc, Nat.mod_eq_of_lt hx]; rfl).symm
  have hd : d' = enc d := (enc_map_range 5 _ _ fun x _ => by
    simp only [hc, UInt64.toNat_xor, toNat_rotl, lane_enc]).symm
  have ha1 : a1' = enc a1 := (enc_map_range 25 _ _ fun x _ => by
    simp only [hd, UInt64.toNat_xor, lane_enc]).symm
  have hb : b' = enc b := (enc_map_range 25 _ _ fun x _ => by
    simp only [ha1, toNat_rotl, lane_enc, rotc, KeccakNat.rotc, Array.getD_eq_getD_getElem?,
      List.getD_eq_getElem?_getD, List.getElem?_toArray]).symm
  have ha2 : a2' = enc a2 := (enc_map_range 25 _ _ fun i hi => by
    have h5 : i / 5 % 5 = i / 5 := Nat.mod_eq_of_lt (by omega)
    simp only [hb, lane, UInt64.toNat_xor, UInt64.toNat_and, toNat_not, lane_enc, h5, Nat.mod_mod,
      Nat.mod_add_div]).symm
  rw [ha2, enc_modify_zero _ (by simp [a2])]

theorem enc_foldl_round (rcs : List UInt64) : ∀ a : Array UInt64,
    enc (rcs.foldl round a) = (rcs.map UInt64.toNat).foldl KeccakNat.round (enc a) := by
  induction rcs with
  | nil => intro a; rfl
  | cons rc rcs ih => intro a; rw [List.foldl_cons, ih, enc_round]; rfl

theorem size_round (a : Array UInt64) (rc : UInt64) : (round a rc).size = 25 := by
  simp only [round, Array.size_modify, Array.size_map, Array.size_range]

theorem size_foldl_round (rcs : List UInt64) : ∀ (rc : UInt64) (a : Array UInt64),
    ((rc :: rcs).foldl round a).size = 25 := by
  induction rcs with
  | nil => exact fun rc a => size_round a rc
  | cons r rcs ih => intro rc a; rw [List.foldl_cons]; exact ih r _

theorem dec_enc (a : Array UInt64) (h : a.size = 25) : dec (enc a) = a := by
  apply Array.ext
  · simp [dec, h]
  · intro i h1 h2
    simp only [dec, lane_enc, Array.getElem_map, Array.getElem_range, UInt64.ofNat_toNat,
      Array.getD_eq_getD_getElem?, Array.getElem?_eq_getElem h2, Option.getD_some]

theorem keccakF_eq (a : Array UInt64) : keccakF a = dec (KeccakNat.keccakF (enc a)) := by
  have e : KeccakNat.keccakF (enc a) = enc (keccakF a) := by
    unfold keccakF KeccakNat.keccakF
    rw [← Array.foldl_toList, enc_foldl_round]
    rfl
  rw [e, dec_enc]
  unfold keccakF
  rw [← Array.foldl_toList]
  exact size_foldl_round _ _ a

/-- `absorbBlock` with the permutation computed on the packed state, row-wise (`Proofs/KeccakRows.lean`): what the kernel
is asked to evaluate -/
def absorbPacked (st : Array UInt64) (blk : Bytes) : Array UInt64 :=
  dec (KeccakNat.keccakFRows (enc ((List.range 17).foldl
    (fun s i => s.modify i (· ^^^ laneOfBytes ((blk.drop (8 * i)).take 8))) st)))

theorem absorbBlock_eq_packed : absorbBlock = absorbPacked :=
  funext fun _ => funext fun _ => (keccakF_eq _).trans (by rw [KeccakNat.keccakF_eq_rows]; rfl)

theorem keccak256_eq_packed (msg : Bytes) :
    keccak256 msg = squeeze ((paddedBlocks msg).foldl absorbPacked (Array.replicate 25 0)) := by
  rw [keccak256_eq_sponge, absorbBlock_eq_packed]

end Dos.Keccak
