/-
C10 layer 2 — the limb model of gfpAdd / gfpSub / gfpNeg (= the interpreted assembly,
Proofs/AsmField.lean) computes the number-level functions `addM` / `subM` / `negM`
for ALL 4-limb operands (reduced or not) and ANY 4-limb modulus.
Method: a carry or borrow chain over four words is a definition of its own (`add4`, `adc4`,
`sub4`) with one equation between 256-bit values; every function of gfp.s is a composition of
such chains, and the final case analysis is done on the aggregated values (`*_agg`), so that
each `omega` call sees only a handful of variables.
-/
import DosModel.Model.Mont

namespace Dos.Mont

theorem L4.val_lt (x : L4) (h : x.ok) : x.val < R := by
  simp only [L4.val, L4.ok, W, R] at *; omega

/-- ADCQ ×4 with carry in `c` -/
def adc4 (a b : L4) (c : Nat) : L4 × Nat :=
  let c0 := adcC a.l0 b.l0 c
  let c1 := adcC a.l1 b.l1 c0
  let c2 := adcC a.l2 b.l2 c1
  (⟨adcLo a.l0 b.l0 c, adcLo a.l1 b.l1 c0, adcLo a.l2 b.l2 c1, adcLo a.l3 b.l3 c2⟩, adcC a.l3 b.l3 c2)

/-- ADDQ, ADCQ ×3 -/
def add4 (a b : L4) : L4 × Nat :=
  let c0 := addC a.l0 b.l0
  let c1 := adcC a.l1 b.l1 c0
  let c2 := adcC a.l2 b.l2 c1
  (⟨addLo a.l0 b.l0, adcLo a.l1 b.l1 c0, adcLo a.l2 b.l2 c1, adcLo a.l3 b.l3 c2⟩, adcC a.l3 b.l3 c2)

/-- SUBQ, SBBQ ×3 -/
def sub4 (a b : L4) : L4 × Nat :=
  let f0 := subB a.l0 b.l0
  let f1 := sbbB a.l1 b.l1 f0
  let f2 := sbbB a.l2 b.l2 f1
  (⟨subLo a.l0 b.l0, sbbLo a.l1 b.l1 f0, sbbLo a.l2 b.l2 f1, sbbLo a.l3 b.l3 f2⟩, sbbB a.l3 b.l3 f2)

theorem add_spec (y x : Nat) (hy : y < W) (hx : x < W) :
    addLo y x + W * addC y x = y + x ∧ addLo y x < W ∧ addC y x ≤ 1 := by
  simp only [addLo, addC, W] at *; omega

theorem adc_spec (y x c : Nat) (hy : y < W) (hx : x < W) (hc : c ≤ 1) :
    adcLo y x c + W * adcC y x c = y + x + c ∧ adcLo y x c < W ∧ adcC y x c ≤ 1 := by
  simp only [adcLo, adcC, W] at *; omega

theorem adc4_spec (a b : L4) (c : Nat) (ha : a.ok) (hb : b.ok) (hc : c ≤ 1) :
    (adc4 a b c).1.val + R * (adc4 a b c).2 = a.val + b.val + c ∧ (adc4 a b c).1.ok ∧ (adc4 a b c).2 ≤ 1 := by
  have e0 := adc_spec a.l0 b.l0 c ha.1 hb.1 hc
  have e1 := adc_spec a.l1 b.l1 _ ha.2.1 hb.2.1 e0.2.2
  have e2 := adc_spec a.l2 b.l2 _ ha.2.2.1 hb.2.2.1 e1.2.2
  have e3 := adc_spec a.l3 b.l3 _ ha.2.2.2 hb.2.2.2 e2.2.2
  simp only [adc4, L4.val, L4.ok, W, R] at *; omega

theorem add4_eq (a b : L4) : add4 a b = adc4 a b 0 := by
  simp only [add4, adc4, addLo, addC, adcLo, adcC, Nat.add_zero]

theorem add4_spec (a b : L4) (ha : a.ok) (hb : b.ok) :
    (add4 a b).1.val + R * (add4 a b).2 = a.val + b.val ∧ (add4 a b).1.ok ∧ (add4 a b).2 ≤ 1 := by
  rw [add4_eq]; exact adc4_spec a b 0 ha hb (Nat.zero_le 1)

theorem sub_spec (y x : Nat) (hy : y < W) (hx : x < W) :
    y + W * subB y x = subLo y x + x ∧ subLo y x < W ∧ subB y x ≤ 1 := by
  simp only [subLo, subB, W] at *; omega

theorem sbb_spec (y x f : Nat) (hy : y < W) (hx : x < W) (hf : f ≤ 1) :
    y + W * sbbB y x f = sbbLo y x f + x + f ∧ sbbLo y x f < W ∧ sbbB y x f ≤ 1 := by
  simp only [sbbLo, sbbB, W] at *; omega

/- through one fact per word: with the truncated subtractions of the whole chain unfolded at once
`omega` is slow -/
theorem sub4_spec (a b : L4) (ha : a.ok) (hb : b.ok) :
    a.val + R * (sub4 a b).2 = (sub4 a b).1.val + b.val ∧ (sub4 a b).1.ok ∧ (sub4 a b).2 ≤ 1 := by
  have e0 := sub_spec a.l0 b.l0 ha.1 hb.1
  have e1 := sbb_spec a.l1 b.l1 _ ha.2.1 hb.2.1 e0.2.2
  have e2 := sbb_spec a.l2 b.l2 _ ha.2.2.1 hb.2.2.1 e1.2.2
  have e3 := sbb_spec a.l3 b.l3 _ ha.2.2.2 hb.2.2.2 e2.2.2
  simp only [sub4, L4.val, L4.ok, W, R] at *; omega

/-- CMOVQCC over four words -/
def cmov4 (f : Nat) (t r : L4) : L4 :=
  ⟨cmovcc f t.l0 r.l0, cmovcc f t.l1 r.l1, cmovcc f t.l2 r.l2, cmovcc f t.l3 r.l3⟩

theorem cmov4_eq (f : Nat) (t r : L4) : cmov4 f t r = if f = 0 then t else r := by
  unfold cmov4 cmovcc; split <;> rfl

theorem carry_agg {Lr Lt Lp r4 t4 f3 f4 : Nat} (hr : Lr < R) (ht : Lt < R) (hp : Lp < R)
    (h4 : r4 < W) (l4 : t4 < W) (k4 : f4 ≤ 1) (e : Lr + R * f3 = Lt + Lp) (e4 : r4 + W * f4 = t4 + 0 + f3) :
    (if f4 = 0 then Lt else Lr) =
      (if Lp ≤ Lr + R * r4 then Lr + R * r4 - Lp else Lr + R * r4) % R := by
  simp only [W, R] at *
  split <;> split <;> omega

/-- `gfpCarry` on the 5-word value s = r + 2^256·r4: the stored 4 words are
`s − p` if `p ≤ s`, else `s`, modulo 2^256 -/
theorem carryLimbs_val (p r : L4) (r4 : Nat) (hp : p.ok) (hr : r.ok) (h4 : r4 < W) :
    (carryLimbs p r.l0 r.l1 r.l2 r.l3 r4).val =
      (if p.val ≤ r.val + R * r4 then r.val + R * r4 - p.val else r.val + R * r4) % R
      ∧ (carryLimbs p r.l0 r.l1 r.l2 r.l3 r4).ok := by
  obtain ⟨e, ht, k⟩ := sub4_spec r p hr hp
  obtain ⟨e4, l4, k4⟩ := sbb_spec r4 0 (sub4 r p).2 h4 (by decide) k
  have hc : carryLimbs p r.l0 r.l1 r.l2 r.l3 r4 = cmov4 (sbbB r4 0 (sub4 r p).2) (sub4 r p).1 r := rfl
  rw [hc, cmov4_eq, ← carry_agg (L4.val_lt r hr) (L4.val_lt _ ht) (L4.val_lt p hp) h4 l4 k4 e e4]
  split <;> exact ⟨rfl, by assumption⟩

/-- **gfpAdd, limb-exact, all operands** -/
theorem addLimbs_val (p a b : L4) (hp : p.ok) (ha : a.ok) (hb : b.ok) :
    (addLimbs p a b).val = addM p.val a.val b.val ∧ (addLimbs p a b).ok := by
  obtain ⟨e, hr, k⟩ := add4_spec a b ha hb
  have e4 : adcLo 0 0 (add4 a b).2 = (add4 a b).2 := by simp only [adcLo, W]; omega
  have hc : addLimbs p a b = carryLimbs p (add4 a b).1.l0 (add4 a b).1.l1 (add4 a b).1.l2 (add4 a b).1.l3
      (adcLo 0 0 (add4 a b).2) := rfl
  rw [hc, e4, addM, ← e]
  exact carryLimbs_val p _ _ hp hr (by simp only [W]; omega)

theorem sub_agg {A B D P Lr f3 c : Nat} (hD : D < R) (hLr : Lr < R) (hf : f3 ≤ 1) (h1 : A + R * f3 = D + B)
    (h2 : Lr + R * c = D + (if f3 = 0 then 0 else P)) :
    Lr = if B ≤ A then A - B else (A + R - B + P) % R := by
  simp only [R] at *
  split at h2 <;> split <;> omega

/-- **gfpSub, limb-exact, all operands** -/
theorem subLimbs_val (p a b : L4) (hp : p.ok) (ha : a.ok) (hb : b.ok) :
    (subLimbs p a b).val = subM p.val a.val b.val ∧ (subLimbs p a b).ok := by
  obtain ⟨e, hd, k⟩ := sub4_spec a b ha hb
  have h0 : (L4.mk 0 0 0 0).ok := by unfold L4.ok; decide
  have hm : (cmov4 (sub4 a b).2 ⟨0, 0, 0, 0⟩ p).ok := by rw [cmov4_eq]; split <;> assumption
  obtain ⟨g, hr, j⟩ := add4_spec _ _ hd hm
  have hc : subLimbs p a b = (add4 (sub4 a b).1 (cmov4 (sub4 a b).2 ⟨0, 0, 0, 0⟩ p)).1 := rfl
  rw [hc]
  refine ⟨?_, hr⟩
  have hv : (cmov4 (sub4 a b).2 ⟨0, 0, 0, 0⟩ p).val = if (sub4 a b).2 = 0 then 0 else p.val := by
    rw [cmov4_eq]; split <;> rfl
  rw [hv] at g
  exact sub_agg (L4.val_lt _ hd) (L4.val_lt _ hr) k e g

theorem neg_agg {P A D f3 : Nat} (hP : P < R) (hD : D < R) (h1 : P + R * f3 = D + A) (hA : A < R) :
    D = (P + R - A) % R := by
  simp only [R] at *; omega

/-- **gfpNeg, limb-exact, all operands** -/
theorem negLimbs_val (p a : L4) (hp : p.ok) (ha : a.ok) :
    (negLimbs p a).val = negM p.val a.val ∧ (negLimbs p a).ok := by
  obtain ⟨e, hd, k⟩ := sub4_spec p a hp ha
  have hc : negLimbs p a = carryLimbs p (sub4 p a).1.l0 (sub4 p a).1.l1 (sub4 p a).1.l2 (sub4 p a).1.l3 0 := rfl
  obtain ⟨hv, hok⟩ := carryLimbs_val p _ 0 hp hd (by decide)
  rw [hc, hv, negM, ← neg_agg (L4.val_lt p hp) (L4.val_lt _ hd) e (L4.val_lt a ha), Nat.mul_zero, Nat.add_zero]
  exact ⟨Nat.mod_eq_of_lt (by have := L4.val_lt _ hd; split <;> omega), hok⟩
