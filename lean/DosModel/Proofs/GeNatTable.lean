/-
C20 — the precomputed table `base` of group/edwards25519/const.go (regenerated as
`Gen.Ed25519GeTable.c_base`, 32 rows × 8 entries × (yPlusX, yMinusX, xy2d)) holds the multiples of the base point
the comment claims:  base[i][j] = (j+1)·256^i·B.

A Boolean checker `chkTab` walks the table with the verified Nat-mod-p arithmetic of Proofs/GeNatArith.lean:
the first point of row i+1 is 8 doublings of the first point of row i, the entries of a row are repeated additions
of the row's first point; for every entry (i, j) it tests the limb bounds `Bounded 1` of the three limb vectors and
the cross-multiplied congruences

      yPlusX·Z ≡ Y + X,    yMinusX·Z + X ≡ Y,    xy2d·Z·Z ≡ 2·d·X·Y     (mod p)

against the computed point (X : Y : Z : T), a limb vector entering as the difference of two naturals. `chkTab_sound`
turns `chkTab … = true` into `GoodPre` of all entries. This file: the checker and its soundness; the kernel evaluates
the checker in Proofs/GeNatTableFull.lean (`baseTable_ok`).
-/
import Mathlib.Tactic.LinearCombination
import DosModel.Proofs.GeNatArith

set_option exponentiation.threshold 600

namespace Dos.Ge
open Dos Dos.Ed25519 Dos.FeProg Dos.FeOps Dos.GeProg Dos.Ed25519Prime Dos.Edwards

/-! ### the value of a limb vector as a difference of naturals -/

/-- Σ f(hᵢ)·2^⌈25.5 i⌉ (the weights of `FeProg.feVal`). With `Int.toNat` this collects the non-negative limbs, with `fun h => (-h).toNat` the
negative ones, and `feVal` is the difference. (The kernel multiplies naturals of this size by GMP; on negative
integers it is an order of magnitude slower, so the checker below never forms `feVal`.) -/
def limbSum (f : Int → Nat) (s : L10) : Nat :=
  f s.h0 + f s.h1 * 2 ^ 26 + f s.h2 * 2 ^ 51 + f s.h3 * 2 ^ 77 + f s.h4 * 2 ^ 102 + f s.h5 * 2 ^ 128
    + f s.h6 * 2 ^ 153 + f s.h7 * 2 ^ 179 + f s.h8 * 2 ^ 204 + f s.h9 * 2 ^ 230

abbrev posNat : L10 → Nat := limbSum Int.toNat
abbrev negNat : L10 → Nat := limbSum fun h => (-h).toNat

theorem limbSum_cast (l : L10) : ((posNat l : ℕ) : F) - ((negNat l : ℕ) : F) = val l := by
  have e : ∀ h : Int, ((h.toNat : ℕ) : Int) - (((-h).toNat : ℕ) : Int) = h := Int.toNat_sub_toNat_neg
  have h : ((posNat l : ℕ) : Int) - ((negNat l : ℕ) : Int) = feVal l := by
    unfold posNat negNat limbSum feVal
    push_cast
    linear_combination e l.h0 + 2 ^ 26 * e l.h1 + 2 ^ 51 * e l.h2 + 2 ^ 77 * e l.h3 + 2 ^ 102 * e l.h4
      + 2 ^ 128 * e l.h5 + 2 ^ 153 * e l.h6 + 2 ^ 179 * e l.h7 + 2 ^ 204 * e l.h8 + 2 ^ 230 * e l.h9
  unfold val
  rw [← h]
  push_cast
  rfl

/-- `Bounded 1` as comparisons of naturals -/
def limbsSmall (s : L10) : Bool :=
  decide (s.h0.natAbs ≤ evenB.natAbs ∧ s.h1.natAbs ≤ oddB.natAbs ∧ s.h2.natAbs ≤ evenB.natAbs ∧ s.h3.natAbs ≤ oddB.natAbs
    ∧ s.h4.natAbs ≤ evenB.natAbs ∧ s.h5.natAbs ≤ oddB.natAbs ∧ s.h6.natAbs ≤ evenB.natAbs ∧ s.h7.natAbs ≤ oddB.natAbs
    ∧ s.h8.natAbs ≤ evenB.natAbs ∧ s.h9.natAbs ≤ oddB.natAbs)

theorem bounded_of_limbsSmall {s : L10} (h : limbsSmall s = true) : Bounded 1 s := by
  have e : ∀ {a b : Int}, a.natAbs ≤ b.natAbs → 0 ≤ b → -(1 * b) ≤ a ∧ a ≤ 1 * b := by intro a b h hb; omega
  have he : 0 ≤ evenB := by decide
  have ho : 0 ≤ oddB := by decide
  obtain ⟨h0, h1, h2, h3, h4, h5, h6, h7, h8, h9⟩ := of_decide_eq_true h
  exact ⟨e h0 he, e h1 ho, e h2 he, e h3 ho, e h4 he, e h5 ho, e h6 he, e h7 ho, e h8 he, e h9 ho⟩

/-- the three limb vectors `l` are within the bounds and are (y+x, y−x, 2dxy) of the point (X:Y:Z:T); the
negative limbs are carried to the other side of each congruence -/
def chkEntry (N : Dos.Ed.Pt) (l : List L10) : Bool :=
  limbsSmall (l.getD 0 z10) && limbsSmall (l.getD 1 z10) && limbsSmall (l.getD 2 z10)
    && decide (posNat (l.getD 0 z10) * N.Z % Dos.Ed.p = (N.Y + N.X + negNat (l.getD 0 z10) * N.Z) % Dos.Ed.p)
    && decide ((posNat (l.getD 1 z10) * N.Z + N.X) % Dos.Ed.p = (N.Y + negNat (l.getD 1 z10) * N.Z) % Dos.Ed.p)
    && decide (posNat (l.getD 2 z10) * N.Z * N.Z % Dos.Ed.p
        = (2 * Dos.Ed.d * N.X * N.Y + negNat (l.getD 2 z10) * N.Z * N.Z) % Dos.Ed.p)

theorem chkEntry_sound {N : Dos.Ed.Pt} {P : Pt} {l : List L10} (hN : NRep N P) (h : chkEntry N l = true) :
    GoodPre (preOf l) P := by
  simp only [chkEntry, Bool.and_eq_true, decide_eq_true_eq] at h
  obtain ⟨⟨⟨⟨⟨b0, b1⟩, b2⟩, c0⟩, c1⟩, c2⟩ := h
  have e0 := natCast_eq_of_mod c0
  have e1 := natCast_eq_of_mod c1
  have e2 := natCast_eq_of_mod c2
  push_cast at e0 e1 e2
  have hz := hN.z_ne
  have hX : ((N.X : ℕ) : F) = P.x * ((N.Z : ℕ) : F) := (div_eq_iff hz).1 hN.hx
  have hY : ((N.Y : ℕ) : F) = P.y * ((N.Z : ℕ) : F) := (div_eq_iff hz).1 hN.hy
  rw [hX, hY] at e0 e1 e2
  rw [cast_d] at e2
  exact
    { bP := bounded_of_limbsSmall b0, bM := bounded_of_limbsSmall b1, bD := bounded_of_limbsSmall b2
      hp := by
        show val (l.getD 0 z10) = _
        exact mul_right_cancel₀ hz (by linear_combination e0 - ((N.Z : ℕ) : F) * limbSum_cast (l.getD 0 z10))
      hm := by
        show val (l.getD 1 z10) = _
        exact mul_right_cancel₀ hz (by linear_combination e1 - ((N.Z : ℕ) : F) * limbSum_cast (l.getD 1 z10))
      hd := by
        show val (l.getD 2 z10) = _
        exact mul_right_cancel₀ hz (mul_right_cancel₀ hz
          (by linear_combination e2 - ((N.Z : ℕ) : F) * ((N.Z : ℕ) : F) * limbSum_cast (l.getD 2 z10))) }

/-! ### one row: entries j, j+1, … are N, N + F, … -/

def chkRow (F : Dos.Ed.Pt) : Dos.Ed.Pt → List (List L10) → Bool
  | _, [] => true
  | N, l :: ls => chkEntry N l && chkRow F (Dos.Ed.add N F) ls

theorem chkRow_sound {F : Dos.Ed.Pt} {Q : Pt} (hF : NRep F Q) :
    ∀ (ls : List (List L10)) (j : Nat) (N : Dos.Ed.Pt), NRep N ((j + 1) • Q) → chkRow F N ls = true →
      ∀ k, k < ls.length → GoodPre (preOf (ls.getD k [])) ((j + k + 1) • Q) := by
  intro ls
  induction ls with
  | nil => intro j N _ _ k hk; simp at hk
  | cons l ls ih =>
    intro j N hN h k hk
    simp only [chkRow, Bool.and_eq_true] at h
    obtain ⟨h1, h2⟩ := h
    cases k with
    | zero => simpa using chkEntry_sound hN h1
    | succ k =>
      have hN' : NRep (Dos.Ed.add N F) ((j + 1 + 1) • Q) := by
        have := nrep_add hN hF
        rwa [← succ_nsmul] at this
      have := ih (j + 1) _ hN' h2 k (by simpa using hk)
      simpa [Nat.add_assoc, Nat.add_comm 1 k] using this

/-! ### the table: the first point of row i+1 is 2^8 times the first point of row i -/

def dbl (N : Dos.Ed.Pt) : Dos.Ed.Pt := Dos.Ed.add N N
def dbl8 (N : Dos.Ed.Pt) : Dos.Ed.Pt := dbl (dbl (dbl (dbl (dbl (dbl (dbl (dbl N)))))))

theorem nrep_dbl {N : Dos.Ed.Pt} {P : Pt} (h : NRep N P) : NRep (dbl N) (2 • P) := by
  rw [two_nsmul]; exact nrep_add h h

theorem nrep_dbl8 {N : Dos.Ed.Pt} {P : Pt} (h : NRep N P) : NRep (dbl8 N) (256 • P) := by
  have := nrep_dbl (nrep_dbl (nrep_dbl (nrep_dbl (nrep_dbl (nrep_dbl (nrep_dbl (nrep_dbl h)))))))
  simp only [← mul_nsmul] at this
  exact this

def chkTab : Dos.Ed.Pt → List (List (List L10)) → Bool
  | _, [] => true
  | F, r :: rs => (r.length == 8) && chkRow F F r && chkTab (dbl8 F) rs

theorem chkTab_sound {B : Pt} :
    ∀ (rs : List (List (List L10))) (i : Nat) (F : Dos.Ed.Pt), NRep F ((256 ^ i) • B) → chkTab F rs = true →
      ∀ k j, k < rs.length → j < 8 →
        GoodPre (preOf ((rs.getD k []).getD j [])) (((j + 1) * 256 ^ (i + k)) • B) := by
  intro rs
  induction rs with
  | nil => intro i F _ _ k j hk; simp at hk
  | cons r rs ih =>
    intro i F hF h k j hk hj
    simp only [chkTab, Bool.and_eq_true, beq_iff_eq] at h
    obtain ⟨⟨hlen, hrow⟩, hrest⟩ := h
    cases k with
    | zero =>
      have := chkRow_sound hF r 0 F (by simpa using hF) hrow j (by omega)
      rw [mul_nsmul']
      simpa using this
    | succ k =>
      have hF' : NRep (dbl8 F) ((256 ^ (i + 1)) • B) := by
        have := nrep_dbl8 hF
        rwa [← mul_nsmul, ← pow_succ] at this
      have := ih (i + 1) _ hF' hrest k j (by simpa using hk) hj
      simpa [Nat.add_assoc, Nat.add_comm 1 k] using this

/-- from the evaluated checker to the statement about the table -/
theorem baseTable_of_chk (h : chkTab Dos.Ed.base Gen.Ed25519GeTable.c_base = true) : BaseTableOK basePt := by
  intro i j hi hj
  have := chkTab_sound (B := basePt) Gen.Ed25519GeTable.c_base 0 Dos.Ed.base (by simpa using nrep_base) h i j
    (by rw [show Gen.Ed25519GeTable.c_base.length = 32 by decide]; exact hi) hj
  simpa using this

end Dos.Ge
