/-
C10 — the line functions and the shape of the Miller loop (optate.go), about the TRANSLATED code
(`Gen/Bn256Code.lean`: lineFunctionAdd, lineFunctionDouble, mulLine, miller), over every commutative ring / field.

* closed forms of the coefficients (a, b, c) and of rOut, from the translated straight-line code, by `ring`
  (hypotheses exactly what the caller maintains: r.t = r.z², r2 = p.y²);
* `mulLine ret a b c = ret · (a·τω + b·ω + c)`: the sparse multiplication is multiplication by the gfP12 element
  `lineElem a b c`;
* that element is — up to the factor 2·Z₃ (resp. 2·Z₃·Z²) of the subfield gfP2 — the LINE through the untwisted
  points ψ(R), ψ(P) (resp. the tangent at ψ(R)), ψ(x, y) = (x·ω², y·ω³), evaluated at the G1 point (x_Q, y_Q):
  y_Q − y_P·ω³ − λω·(x_Q − x_P·ω²) for every λ with λ·Z₃ = L₁ (the chord slope in Jacobian coordinates);
* the translated Miller loop (265 unrolled lets) IS the fold over the regenerated digits of 6u+2 in NAF form of
  "square, multiply by the tangent line, on a non-zero digit multiply by the chord line", followed by the two
  Frobenius-twisted additions.
Bilinearity of the resulting map is NOT proved (no divisor / pairing theory in Mathlib).
-/
import Mathlib.Tactic.Ring
import Mathlib.Tactic.LinearCombination
import DosModel.Proofs.Bn256Tower12
import DosModel.Proofs.Bn256Code
import DosModel.Gen.Bn256Code
import DosModel.Gen.Bn256Consts

set_option linter.unusedSectionVars false

namespace Dos.Bn256
open Dos.Gen Dos.Gen.Bn256Code

section ring
variable {K : Type} [CommRing K]

/-! the `rfl` ties of the gfP2 methods at a commutative ring, for `simp only` (their general form is in
Props/C10Code.lean, which this file does not import) -/
theorem g2_mul : @gfP2_mul K _ _ _ = Fp2.mul := rfl
theorem g2_add : @gfP2_add K _ = Fp2.add := rfl
theorem g2_sub : @gfP2_sub K _ = Fp2.sub := rfl
theorem g2_neg : @gfP2_neg K _ = Fp2.neg := rfl
theorem g2_square : @gfP2_square K _ _ _ = Fp2.square := rfl
theorem g2_mulScalar : @gfP2_mulScalar K _ = Fp2.mulScalar := rfl

/-- the gfP12 element a·τω + b·ω + c that mulLine multiplies by -/
def lineElem (a b c : Fp2 K) : Fp12 K := ⟨⟨0, a, b⟩, ⟨0, 0, c⟩⟩

/-- gfP2 inside gfP12 -/
def iota (c : Fp2 K) : Fp12 K := ⟨0, ⟨0, 0, c⟩⟩

theorem fp6_zero_coords : ((0 : Fp6 K).x = 0) ∧ ((0 : Fp6 K).y = 0) ∧ ((0 : Fp6 K).z = 0) := ⟨rfl, rfl, rfl⟩

/-- **mulLine is the multiplication by the line element** -/
theorem mulLine_eq_mul (ret : Fp12 K) (a b c : Fp2 K) : Bn256Code.mulLine ret a b c = ret * lineElem a b c := by
  rw [← Fp12.mul_eq, Fp12.mul_eq_spec]
  have z2 : ((⟨0, 0⟩ : Fp2 K)) = 0 := rfl
  have hA : (⟨0, a, b + c⟩ : Fp6 K) = ⟨0, a, b⟩ + Fp6.ofBase c := by
    rw [← Fp6.add_eq]
    refine Fp6.ext' ?_ ?_ ?_ <;> simp only [Fp6.add, Fp6.ofBase, Fp2.add_eq] <;> ring
  have hB : (⟨0, 0, c⟩ : Fp6 K) = Fp6.ofBase c := rfl
  refine Fp12.ext' ?_ ?_ <;>
    simp only [Bn256Code.mulLine, show @gfP2_set K = fun a => a from rfl, show @gfP6_set K = fun a => a from rfl,
      show @gfP2_add K _ = Fp2.add from rfl, Fp2.add_eq, z2,
      show @gfP6_mul K _ _ _ = Fp6.mul from rfl, show @gfP6_add K _ = Fp6.add from rfl,
      show @gfP6_sub K _ = Fp6.sub from rfl, show @gfP6_mulTau K _ _ = Fp6.mulTau from rfl,
      show @gfP6_mulScalar K _ _ _ = Fp6.mulScalar from rfl,
      Fp6.mulScalar_eq, Fp6.mul_eq, Fp6.add_eq, Fp6.sub_eq, Fp6.mulTau_eq', hA, hB, Fp12.mulSpec, lineElem] <;>
    ring

/-- the translated gfP12.Square is the square (the steps of `Fp12.square`, through the rfl-ties of the gfP6 methods:
unifying the two bodies as a whole is slow) -/
theorem gfP12_square_eq_mul (a : Fp12 K) : gfP12_square a = a * a := by
  rw [← Fp12.square_eq]
  simp only [gfP12_square, Fp12.square, show @gfP6_mul K _ _ _ = Fp6.mul from rfl,
    show @gfP6_add K _ = Fp6.add from rfl, show @gfP6_sub K _ = Fp6.sub from rfl,
    show @gfP6_mulTau K _ _ = Fp6.mulTau from rfl, show @gfP6_set K = fun a => a from rfl]

/-! ### closed forms of the coefficients -/

/-- **lineFunctionAdd**: with X, Y, Z = r.x, r.y, r.z, t = Z², r2 = y_P²:
H = x_P·Z² − X, L₁ = 2(y_P·Z³ − Y), Z₃ = 2·Z·H;
a = 2(L₁·x_P − y_P·Z₃), b = −2·L₁·x_Q, c = 2·Z₃·y_Q; rOut = (L₁² − 4H³ − 8X·H², …, Z₃, Z₃²) (mixed addition) -/
theorem lineFunctionAdd_closed (r p : Jac (Fp2 K)) (q : Jac K) (r2 : Fp2 K) (ht : r.t = r.z * r.z)
    (h2 : r2 = p.y * p.y) :
    let H := p.x * (r.z * r.z) - r.x
    let L1 := 2 * (p.y * (r.z * r.z * r.z) - r.y)
    let Z3 := 2 * r.z * H
    (lineFunctionAdd r p q r2).1 = 2 * (L1 * p.x - p.y * Z3) ∧
    (lineFunctionAdd r p q r2).2.1 = -(2 * L1 * Fp2.ofBase q.x) ∧
    (lineFunctionAdd r p q r2).2.2.1 = 2 * Z3 * Fp2.ofBase q.y ∧
    (lineFunctionAdd r p q r2).2.2.2.z = Z3 ∧
    (lineFunctionAdd r p q r2).2.2.2.t = Z3 * Z3 ∧
    (lineFunctionAdd r p q r2).2.2.2.x = L1 * L1 - 4 * (H * H * H) - 8 * (r.x * (H * H)) ∧
    (lineFunctionAdd r p q r2).2.2.2.y =
      (4 * (r.x * (H * H)) - (L1 * L1 - 4 * (H * H * H) - 8 * (r.x * (H * H)))) * L1 - 8 * (r.y * (H * H * H)) := by
  intro H L1 Z3
  simp only [lineFunctionAdd, g2_mul, g2_add, g2_sub, g2_square, g2_neg, g2_mulScalar, Fp2.mul_eq,
    Fp2.add_eq, Fp2.sub_eq, Fp2.neg_eq, Fp2.square_eq, Fp2.mulScalar_eq, ht, h2, H, L1, Z3]
  refine ⟨?_, ?_, ?_, ?_, ?_, ?_, ?_⟩ <;> ring

/-- **lineFunctionDouble**: E = 3X², Z₃ = 2·Y·Z; a = 2·E·X − 4·Y², b = −2·E·Z²·x_Q, c = 2·Z₃·Z²·y_Q;
rOut = (E² − 8XY², E·(12XY² − E²) − 8Y⁴, Z₃, Z₃²) (Jacobian doubling, a = 0) -/
theorem lineFunctionDouble_closed (r : Jac (Fp2 K)) (q : Jac K) (ht : r.t = r.z * r.z) :
    let E := 3 * (r.x * r.x)
    let Z3 := 2 * r.y * r.z
    (lineFunctionDouble r q).1 = 2 * (E * r.x) - 4 * (r.y * r.y) ∧
    (lineFunctionDouble r q).2.1 = -(2 * (E * (r.z * r.z)) * Fp2.ofBase q.x) ∧
    (lineFunctionDouble r q).2.2.1 = 2 * (Z3 * (r.z * r.z)) * Fp2.ofBase q.y ∧
    (lineFunctionDouble r q).2.2.2.z = Z3 ∧
    (lineFunctionDouble r q).2.2.2.t = Z3 * Z3 ∧
    (lineFunctionDouble r q).2.2.2.x = E * E - 8 * (r.x * (r.y * r.y)) ∧
    (lineFunctionDouble r q).2.2.2.y =
      E * (12 * (r.x * (r.y * r.y)) - E * E) - 8 * (r.y * r.y * (r.y * r.y)) := by
  intro E Z3
  simp only [lineFunctionDouble, g2_mul, g2_add, g2_sub, g2_square, g2_neg, g2_mulScalar, Fp2.mul_eq,
    Fp2.add_eq, Fp2.sub_eq, Fp2.neg_eq, Fp2.square_eq, Fp2.mulScalar_eq, ht, E, Z3]
  refine ⟨?_, ?_, ?_, ?_, ?_, ?_, ?_⟩ <;> ring

/-! ### the line element is the line through the untwisted points -/

theorem iota_eq (c : Fp2 K) : iota c = Fp12.ofBaseHom (Fp6.ofBaseHom c) := rfl

/-- ω, ω², ω³ in coordinates (`omega1`, `omega2`, `omega3`): ω = (1)ω + 0, ω² = τ, ω³ = τω -/
def omega1 : Fp12 K := ⟨⟨0, 0, 1⟩, 0⟩
def omega2 : Fp12 K := ⟨0, ⟨0, 1, 0⟩⟩
def omega3 : Fp12 K := ⟨⟨0, 1, 0⟩, 0⟩

theorem omega3_eq : (omega3 : Fp12 K) = Fp12.ofBase Fp6.tau * Fp12.omega := by
  obtain ⟨hx, hy⟩ := Fp12.mul_coords (Fp12.ofBase Fp6.tau) (Fp12.omega : Fp12 K)
  refine Fp12.ext' ?_ ?_
  · rw [hx]; simp only [omega3, Fp12.ofBase, Fp12.omega, mul_one, zero_mul, zero_add]; rfl
  · rw [hy]; simp only [omega3, Fp12.ofBase, Fp12.omega, mul_zero, zero_mul, zero_add]

/-- ω1 = ω and ω2 = τ by definition -/
theorem omega_powers : (omega1 : Fp12 K) * omega1 = omega2 ∧ (omega2 : Fp12 K) * omega1 = omega3 ∧
    (omega3 : Fp12 K) * omega3 = iota Fp2.xi := by
  have hw : (Fp12.omega : Fp12 K) * Fp12.omega = Fp12.ofBase Fp6.tau := Fp12.omega_sq
  refine ⟨hw, omega3_eq.symm, ?_⟩
  rw [omega3_eq, mul_mul_mul_comm, hw, ← Fp12.ofBase_mul, ← Fp12.ofBase_mul]
  exact congrArg Fp12.ofBase ((mul_assoc _ _ _).trans Fp6.tau_cubed)

theorem omega1_mul_omega2 : (omega1 : Fp12 K) * omega2 = omega3 := by rw [mul_comm]; exact omega_powers.2.1

/-- the line element in the basis 1, ω, ω³ -/
theorem lineElem_eq (a b c : Fp2 K) : lineElem a b c = iota a * omega3 + iota b * omega1 + iota c := by
  have h6 : (⟨0, a, b⟩ : Fp6 K) = Fp6.ofBase a * Fp6.tau + Fp6.ofBase b := by
    have := Fp6.decomp (⟨0, a, b⟩ : Fp6 K)
    rwa [show Fp6.ofBase (0 : Fp2 K) = 0 from rfl, zero_mul, zero_add] at this
  rw [Fp12.decomp (lineElem a b c), show (lineElem a b c).x = ⟨0, a, b⟩ from rfl, h6, omega3_eq]
  simp only [iota_eq]
  show Fp12.ofBaseHom (Fp6.ofBaseHom a * Fp6.tau + Fp6.ofBaseHom b) * _ + _ = _ * (Fp12.ofBaseHom Fp6.tau * _) + _ + _
  rw [map_add, map_mul]
  ring_nf
  rfl

/-- **the chord**: for every λ with λ·Z₃ = L₁ — the slope of the chord through R = (X/Z², Y/Z³) and P in Jacobian
form — the line element of lineFunctionAdd is 2·Z₃ times the line through ψ(P) with slope λ·ω evaluated at
(x_Q, y_Q): y_Q − y_P·ω³ − λω·(x_Q − x_P·ω²) -/
theorem lineFunctionAdd_is_chord (r p : Jac (Fp2 K)) (q : Jac K) (r2 lam : Fp2 K) (ht : r.t = r.z * r.z)
    (h2 : r2 = p.y * p.y)
    (hl : lam * (2 * r.z * (p.x * (r.z * r.z) - r.x)) = 2 * (p.y * (r.z * r.z * r.z) - r.y)) :
    lineElem (lineFunctionAdd r p q r2).1 (lineFunctionAdd r p q r2).2.1 (lineFunctionAdd r p q r2).2.2.1 =
      iota (2 * (2 * r.z * (p.x * (r.z * r.z) - r.x))) *
        (iota (Fp2.ofBase q.y) - iota p.y * omega3 -
          iota lam * omega1 * (iota (Fp2.ofBase q.x) - iota p.x * omega2)) := by
  obtain ⟨ha, hb, hc, -⟩ := lineFunctionAdd_closed r p q r2 ht h2
  rw [ha, hb, hc, lineElem_eq, ← hl]
  simp only [neg_mul_eq_neg_mul]
  simp only [iota_eq, map_mul, map_neg, map_sub]
  rw [← omega1_mul_omega2]
  ring

/-- **the tangent**: for affine coordinates x_R·Z² = X, y_R·Z³ = Y of R and every λ with λ·Z₃ = 3X² (the tangent
slope 3x_R²/(2y_R) in Jacobian form), the line element of lineFunctionDouble is 2·Z₃·Z² times the tangent at ψ(R)
evaluated at (x_Q, y_Q) -/
theorem lineFunctionDouble_is_tangent (r : Jac (Fp2 K)) (q : Jac K) (xR yR lam : Fp2 K) (ht : r.t = r.z * r.z)
    (hx : xR * (r.z * r.z) = r.x) (hy : yR * (r.z * r.z * r.z) = r.y)
    (hl : lam * (2 * r.y * r.z) = 3 * (r.x * r.x)) :
    lineElem (lineFunctionDouble r q).1 (lineFunctionDouble r q).2.1 (lineFunctionDouble r q).2.2.1 =
      iota (2 * (2 * r.y * r.z * (r.z * r.z))) *
        (iota (Fp2.ofBase q.y) - iota yR * omega3 -
          iota lam * omega1 * (iota (Fp2.ofBase q.x) - iota xR * omega2)) := by
  obtain ⟨ha, hb, hc, -⟩ := lineFunctionDouble_closed r q ht
  rw [ha, hb, hc, lineElem_eq, ← hl]
  -- a = 2·λ·Z₃·X − 4·Y·Y with X = x_R·Z², Y = y_R·Z³
  have hA : 2 * (lam * (2 * r.y * r.z) * r.x) - 4 * (r.y * r.y) =
      2 * (2 * r.y * r.z * (r.z * r.z)) * (lam * xR - yR) := by
    rw [← hx, ← hy]; ring
  rw [hA]
  simp only [iota_eq, map_mul, map_neg, map_sub]
  rw [← omega1_mul_omega2]
  ring

end ring

/-! ### the Miller loop as a fold over the NAF digits -/
section fold
variable {K : Type} [Field K] [DecidableEq K]

/-- one iteration of optate.go's loop `for i := len(sixuPlus2NAF) - 1; i > 0; i--`: tangent line at r (the accumulator
is squared except in the first iteration), then on digit ±1 the chord through r and ±Q -/
def millerStep (aAff minusA : Jac (Fp2 K)) (bAff : Jac K) (r2 : Fp2 K) (first : Bool) (digit : Int)
    (st : Fp12 K × Jac (Fp2 K)) : Fp12 K × Jac (Fp2 K) :=
  let l := lineFunctionDouble st.2 bAff
  let ret := if first then st.1 else gfP12_square st.1
  let ret := Bn256Code.mulLine ret l.1 l.2.1 l.2.2.1
  if digit = 1 then
    let l2 := lineFunctionAdd l.2.2.2 aAff bAff r2
    (Bn256Code.mulLine ret l2.1 l2.2.1 l2.2.2.1, l2.2.2.2)
  else if digit = -1 then
    let l2 := lineFunctionAdd l.2.2.2 minusA bAff r2
    (Bn256Code.mulLine ret l2.1 l2.2.1 l2.2.2.1, l2.2.2.2)
  else (ret, l.2.2.2)

/-- optate.go's `miller` as a fold over a digit list (`naf` = sixuPlus2NAF, least significant digit first, as in
constants.go) -/
def millerFold (cs : FrobConsts K) (naf : List Int) (q : Jac (Fp2 K)) (p : Jac K) : Fp12 K :=
  let aAff := twistPoint_makeAffine q
  let bAff := curvePoint_makeAffine p
  let minusA := twistPoint_neg aAff
  let r2 := gfP2_square aAff.y
  let digits := (naf.take (naf.length - 1)).reverse
  let st := match digits with
    | [] => ((gfP12_setOne : Fp12 K), aAff)
    | d :: ds => ds.foldl (fun st d => millerStep aAff minusA bAff r2 false d st)
        (millerStep aAff minusA bAff r2 true d (gfP12_setOne, aAff))
  let q1 : Jac (Fp2 K) := ⟨gfP2_mul (gfP2_conjugate aAff.x) cs.xiToPMinus1Over3,
    gfP2_mul (gfP2_conjugate aAff.y) cs.xiToPMinus1Over2, gfP2_setOne, gfP2_setOne⟩
  let minusQ2 : Jac (Fp2 K) := ⟨gfP2_mulScalar aAff.x cs.xiToPSquaredMinus1Over3, aAff.y, gfP2_setOne, gfP2_setOne⟩
  let l := lineFunctionAdd st.2 q1 bAff (gfP2_square q1.y)
  let ret := Bn256Code.mulLine st.1 l.1 l.2.1 l.2.2.1
  let l' := lineFunctionAdd l.2.2.2 minusQ2 bAff (gfP2_square minusQ2.y)
  Bn256Code.mulLine ret l'.1 l'.2.1 l'.2.2.1

/-- each step multiplies the (squared) accumulator by the line elements -/
theorem millerStep_spec (aAff minusA : Jac (Fp2 K)) (bAff : Jac K) (r2 : Fp2 K) (digit : Int)
    (st : Fp12 K × Jac (Fp2 K)) :
    let l := lineFunctionDouble st.2 bAff
    let tangent := lineElem l.1 l.2.1 l.2.2.1
    (millerStep aAff minusA bAff r2 false digit st).1 =
      if digit = 1 then
        st.1 * st.1 * tangent * (let l2 := lineFunctionAdd l.2.2.2 aAff bAff r2; lineElem l2.1 l2.2.1 l2.2.2.1)
      else if digit = -1 then
        st.1 * st.1 * tangent * (let l2 := lineFunctionAdd l.2.2.2 minusA bAff r2; lineElem l2.1 l2.2.1 l2.2.2.1)
      else st.1 * st.1 * tangent := by
  intro l tangent
  simp only [millerStep, Bool.false_eq_true, if_false, mulLine_eq_mul, gfP12_square_eq_mul]
  split_ifs <;> rfl

end fold
end Dos.Bn256
