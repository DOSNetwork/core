import DosModel.Model.ConnTable

/-! Basic facts about the connection-table model: how the state-update helpers act on each
component; the branches of `step` as a relation (`Effect`), on which every later fact about one step
is proved by cases; that an outcome, once there, is never changed. -/
namespace Dos.ConnTable
open Dos

variable (cfg : Cfg)

@[simp] theorem setConn_reqs (s : Net) (c : Nat) (f : Conn → Conn) : (s.setConn c f).reqs = s.reqs := rfl
@[simp] theorem setConn_nodes (s : Net) (c : Nat) (f : Conn → Conn) : (s.setConn c f).nodes = s.nodes := rfl
@[simp] theorem setConn_nreq (s : Net) (c : Nat) (f : Conn → Conn) : (s.setConn c f).nreq = s.nreq := rfl
@[simp] theorem setConn_nconn (s : Net) (c : Nat) (f : Conn → Conn) : (s.setConn c f).nconn = s.nconn := rfl
@[simp] theorem setConn_ideal (s : Net) (c : Nat) (f : Conn → Conn) : (s.setConn c f).ideal = s.ideal := rfl
@[simp] theorem setConn_nextKey (s : Net) (c : Nat) (f : Conn → Conn) : (s.setConn c f).nextKey = s.nextKey := rfl
theorem setConn_conns (s : Net) (c : Nat) (f : Conn → Conn) (e : Nat) :
    (s.setConn c f).conns e = if e = c then f (s.conns e) else s.conns e := rfl
@[simp] theorem setConn_conns_same (s : Net) (c : Nat) (f : Conn → Conn) : (s.setConn c f).conns c = f (s.conns c) := by
  simp [setConn_conns]
theorem setConn_conns_ne (s : Net) (c : Nat) (f : Conn → Conn) (e : Nat) (h : e ≠ c) : (s.setConn c f).conns e = s.conns e := by
  simp [setConn_conns, h]

/-- a pointwise property of the connection records survives the change of one record if the new record has it -/
theorem setConn_forall {P : Nat → Conn → Prop} {s : Net} (h : ∀ e, P e (s.conns e)) (c : Nat) (f : Conn → Conn)
    (hc : P c (f (s.conns c))) (e : Nat) : P e ((s.setConn c f).conns e) := by
  rw [setConn_conns]; split
  · rename_i he; subst he; exact hc
  · exact h e

@[simp] theorem setNode_reqs (s : Net) (n : Nat) (f : Node → Node) : (s.setNode n f).reqs = s.reqs := rfl
@[simp] theorem setNode_conns (s : Net) (n : Nat) (f : Node → Node) : (s.setNode n f).conns = s.conns := rfl
@[simp] theorem setNode_nreq (s : Net) (n : Nat) (f : Node → Node) : (s.setNode n f).nreq = s.nreq := rfl
@[simp] theorem setNode_nconn (s : Net) (n : Nat) (f : Node → Node) : (s.setNode n f).nconn = s.nconn := rfl
@[simp] theorem setNode_ideal (s : Net) (n : Nat) (f : Node → Node) : (s.setNode n f).ideal = s.ideal := rfl
@[simp] theorem setNode_nextKey (s : Net) (n : Nat) (f : Node → Node) : (s.setNode n f).nextKey = s.nextKey := rfl
theorem setNode_nodes (s : Net) (n : Nat) (f : Node → Node) (m : Nat) :
    (s.setNode n f).nodes m = if m = n then f (s.nodes m) else s.nodes m := rfl
@[simp] theorem setNode_nodes_same (s : Net) (n : Nat) (f : Node → Node) : (s.setNode n f).nodes n = f (s.nodes n) := by
  simp [setNode_nodes]
theorem setNode_nodes_ne (s : Net) (n : Nat) (f : Node → Node) (m : Nat) (h : m ≠ n) : (s.setNode n f).nodes m = s.nodes m := by
  simp [setNode_nodes, h]

theorem setNode_forall {P : Nat → Node → Prop} {s : Net} (h : ∀ m, P m (s.nodes m)) (n : Nat) (f : Node → Node)
    (hn : P n (f (s.nodes n))) (m : Nat) : P m ((s.setNode n f).nodes m) := by
  rw [setNode_nodes]; split
  · rename_i hm; subst hm; exact hn
  · exact h m

theorem mem_report {s : Net} {n : Nat} {x : Bool × Nat} :
    x ∈ ((s.setNode n fun nd => { nd with rm := nd.rm ++ [x] }).nodes n).rm := by
  rw [setNode_nodes_same]; exact List.mem_append_right _ (List.mem_singleton.mpr rfl)

@[simp] theorem setReq_conns (s : Net) (i : Nat) (f : Req → Req) : (s.setReq i f).conns = s.conns := rfl
@[simp] theorem setReq_nodes (s : Net) (i : Nat) (f : Req → Req) : (s.setReq i f).nodes = s.nodes := rfl
@[simp] theorem setReq_nreq (s : Net) (i : Nat) (f : Req → Req) : (s.setReq i f).nreq = s.nreq := rfl
@[simp] theorem setReq_nconn (s : Net) (i : Nat) (f : Req → Req) : (s.setReq i f).nconn = s.nconn := rfl
@[simp] theorem setReq_ideal (s : Net) (i : Nat) (f : Req → Req) : (s.setReq i f).ideal = s.ideal := rfl
@[simp] theorem setReq_nextKey (s : Net) (i : Nat) (f : Req → Req) : (s.setReq i f).nextKey = s.nextKey := rfl
theorem setReq_reqs (s : Net) (i : Nat) (f : Req → Req) (j : Nat) :
    (s.setReq i f).reqs j = if j = i then f (s.reqs j) else s.reqs j := rfl
@[simp] theorem setReq_reqs_same (s : Net) (i : Nat) (f : Req → Req) : (s.setReq i f).reqs i = f (s.reqs i) := by
  simp [setReq_reqs]
theorem setReq_reqs_ne (s : Net) (i : Nat) (f : Req → Req) (j : Nat) (h : j ≠ i) : (s.setReq i f).reqs j = s.reqs j := by
  simp [setReq_reqs, h]

@[simp] theorem retAtD_reqs (s : Net) (c : Nat) : (retAtD cfg s c).reqs = s.reqs := by
  simp only [retAtD]; split <;> rfl
@[simp] theorem retAtD_nreq (s : Net) (c : Nat) : (retAtD cfg s c).nreq = s.nreq := by
  simp only [retAtD]; split <;> rfl
@[simp] theorem retAtD_nconn (s : Net) (c : Nat) : (retAtD cfg s c).nconn = s.nconn := by
  simp only [retAtD]; split <;> rfl
@[simp] theorem retAtD_ideal (s : Net) (c : Nat) : (retAtD cfg s c).ideal = s.ideal := by
  simp only [retAtD]; split <;> rfl
@[simp] theorem retAtD_nextKey (s : Net) (c : Nat) : (retAtD cfg s c).nextKey = s.nextKey := by
  simp only [retAtD]; split <;> rfl
theorem retAtD_conns (s : Net) (c e : Nat) :
    (retAtD cfg s c).conns e = if e = c ∧ (s.conns c).retD = false then { s.conns e with retD := true } else s.conns e := by
  cases h : (s.conns c).retD <;>
    simp only [retAtD, h, Bool.false_eq_true, Bool.true_eq_false, if_false, if_true, and_true, and_false, setNode_conns,
      setConn_conns]
theorem retAtD_nodes (s : Net) (c m : Nat) :
    (retAtD cfg s c).nodes m =
      if m = (s.conns c).d ∧ (s.conns c).retD = false then { s.nodes m with rm := (s.nodes m).rm ++ [reportD cfg (s.conns c)] }
      else s.nodes m := by
  cases h : (s.conns c).retD <;>
    simp only [retAtD, h, Bool.false_eq_true, Bool.true_eq_false, if_false, if_true, and_true, and_false, setNode_nodes,
      setConn_nodes]

@[simp] theorem retAtA_reqs (s : Net) (c : Nat) : (retAtA cfg s c).reqs = s.reqs := by
  simp only [retAtA]; split <;> rfl
@[simp] theorem retAtA_nreq (s : Net) (c : Nat) : (retAtA cfg s c).nreq = s.nreq := by
  simp only [retAtA]; split <;> rfl
@[simp] theorem retAtA_nconn (s : Net) (c : Nat) : (retAtA cfg s c).nconn = s.nconn := by
  simp only [retAtA]; split <;> rfl
@[simp] theorem retAtA_ideal (s : Net) (c : Nat) : (retAtA cfg s c).ideal = s.ideal := by
  simp only [retAtA]; split <;> rfl
@[simp] theorem retAtA_nextKey (s : Net) (c : Nat) : (retAtA cfg s c).nextKey = s.nextKey := by
  simp only [retAtA]; split <;> rfl
theorem retAtA_conns (s : Net) (c e : Nat) :
    (retAtA cfg s c).conns e =
      if e = c ∧ (s.conns c).retA = false ∧ (s.conns c).regA = true then { s.conns e with retA := true } else s.conns e := by
  cases h : (s.conns c).retA <;> cases h' : (s.conns c).regA <;>
    simp only [retAtA, h, h', Bool.or_false, Bool.or_true, Bool.not_true, Bool.not_false, Bool.false_eq_true,
      Bool.true_eq_false, if_false, if_true, and_true, and_false, and_self, setNode_conns, setConn_conns]
theorem retAtA_nodes (s : Net) (c m : Nat) :
    (retAtA cfg s c).nodes m =
      if m = (s.conns c).a ∧ (s.conns c).retA = false ∧ (s.conns c).regA = true
      then { s.nodes m with rm := (s.nodes m).rm ++ [reportA cfg (s.conns c)] }
      else s.nodes m := by
  cases h : (s.conns c).retA <;> cases h' : (s.conns c).regA <;>
    simp only [retAtA, h, h', Bool.or_false, Bool.or_true, Bool.not_true, Bool.not_false, Bool.false_eq_true,
      Bool.true_eq_false, if_false, if_true, and_true, and_false, and_self, setNode_nodes, setConn_nodes]

theorem retAtD_idle (s : Net) (c : Nat) (h : (s.conns c).retD = true) : retAtD cfg s c = s := by
  simp [retAtD, h]
/-- a connection update and a node update; as they touch different components the same state is also the node update
followed by the connection update, by `rfl` -/
theorem retAtD_fire (s : Net) (c : Nat) (h : (s.conns c).retD = false) :
    retAtD cfg s c = (s.setConn c fun x => { x with retD := true }).setNode (s.conns c).d fun n =>
      { n with rm := n.rm ++ [reportD cfg (s.conns c)] } := by
  simp [retAtD, h]
theorem retAtA_idle (s : Net) (c : Nat) (h : ¬((s.conns c).retA = false ∧ (s.conns c).regA = true)) :
    retAtA cfg s c = s := by
  cases h1 : (s.conns c).retA <;> cases h2 : (s.conns c).regA <;> simp [retAtA, h1, h2] <;> exact absurd ⟨h1, h2⟩ h
theorem retAtA_fire (s : Net) (c : Nat) (h1 : (s.conns c).retA = false) (h2 : (s.conns c).regA = true) :
    retAtA cfg s c = (s.setConn c fun x => { x with retA := true }).setNode (s.conns c).a fun n =>
      { n with rm := n.rm ++ [reportA cfg (s.conns c)] } := by
  simp [retAtA, h1, h2]

theorem hand_closed (s : Net) (i c : Nat) (h : (s.conns c).clD = true) : hand cfg s i c = s := by
  simp [hand, h]

/-- the nonce the next request handed to connection `c` gets -/
def nonceFor (s : Net) (c : Nat) : Nonce := { space := spaceOf cfg c, idx := (s.conns c).next }

/-- what dispatch does to the connection record when it takes request `i` -/
def handF (s : Net) (i c : Nat) : Conn → Conn := fun x =>
  { x with next := x.next + 1, pend := (nonceFor cfg s c, i) :: x.pend,
           reqQ := if x.up then x.reqQ ++ [(nonceFor cfg s c, i)] else x.reqQ }

@[simp] theorem handF_next (s : Net) (i c : Nat) (x : Conn) : (handF cfg s i c x).next = x.next + 1 := rfl
@[simp] theorem handF_pend (s : Net) (i c : Nat) (x : Conn) : (handF cfg s i c x).pend = (nonceFor cfg s c, i) :: x.pend := rfl
@[simp] theorem handF_reqQ (s : Net) (i c : Nat) (x : Conn) :
    (handF cfg s i c x).reqQ = if x.up then x.reqQ ++ [(nonceFor cfg s c, i)] else x.reqQ := rfl
@[simp] theorem handF_repQ (s : Net) (i c : Nat) (x : Conn) : (handF cfg s i c x).repQ = x.repQ := rfl

theorem hand_open (s : Net) (i c : Nat) (h : (s.conns c).clD = false) :
    hand cfg s i c =
      (s.setConn c (handF cfg s i c)).setReq i
        (fun r => { r with conn := some c, nonce := some (nonceFor cfg s c) }) := by
  simp only [hand, h, Bool.false_eq_true, if_false, nonceFor]
  rfl

@[simp] theorem hand_nreq (s : Net) (i c : Nat) : (hand cfg s i c).nreq = s.nreq := by
  cases h : (s.conns c).clD <;> simp [hand_open, hand_closed, h]
@[simp] theorem hand_nconn (s : Net) (i c : Nat) : (hand cfg s i c).nconn = s.nconn := by
  cases h : (s.conns c).clD <;> simp [hand_open, hand_closed, h]
@[simp] theorem hand_nodes (s : Net) (i c : Nat) : (hand cfg s i c).nodes = s.nodes := by
  cases h : (s.conns c).clD <;> simp [hand_open, hand_closed, h]
@[simp] theorem hand_ideal (s : Net) (i c : Nat) : (hand cfg s i c).ideal = s.ideal := by
  cases h : (s.conns c).clD <;> simp [hand_open, hand_closed, h]
@[simp] theorem hand_nextKey (s : Net) (i c : Nat) : (hand cfg s i c).nextKey = s.nextKey := by
  cases h : (s.conns c).clD <;> simp [hand_open, hand_closed, h]
theorem hand_out (s : Net) (i c j : Nat) : ((hand cfg s i c).reqs j).out = (s.reqs j).out := by
  cases h : (s.conns c).clD
  · rw [hand_open cfg s i c h]; simp only [setReq_reqs]; split <;> simp
  · rw [hand_closed cfg s i c h]
theorem hand_reqs_ne (s : Net) (i c j : Nat) (hj : j ≠ i) : (hand cfg s i c).reqs j = s.reqs j := by
  cases h : (s.conns c).clD
  · rw [hand_open cfg s i c h]; simp [setReq_reqs, hj]
  · rw [hand_closed cfg s i c h]
theorem hand_reqs_self (s : Net) (i c : Nat) (h : (s.conns c).clD = false) :
    (hand cfg s i c).reqs i = { s.reqs i with conn := some c, nonce := some (nonceFor cfg s c) } := by
  rw [hand_open cfg s i c h, setReq_reqs_same]; rfl
theorem hand_conns_self (s : Net) (i c : Nat) (h : (s.conns c).clD = false) :
    (hand cfg s i c).conns c = handF cfg s i c (s.conns c) := by
  rw [hand_open cfg s i c h, setReq_conns, setConn_conns_same]
theorem hand_conns_ne (s : Net) (i c e : Nat) (he : e ≠ c) : (hand cfg s i c).conns e = s.conns e := by
  cases h : (s.conns c).clD
  · rw [hand_open cfg s i c h]; simp [setConn_conns, he]
  · rw [hand_closed cfg s i c h]

theorem failAll_out (p : List (Nonce × Nat)) (reqs : Nat → Req) (j : Nat) :
    (failAll p reqs j) = reqs j ∨ ((reqs j).out = .waiting ∧ failAll p reqs j = { reqs j with out := .err }) := by
  unfold failAll; split
  · rename_i h; exact Or.inr ⟨h.2, rfl⟩
  · exact Or.inl rfl

theorem failAll_nonce (p : List (Nonce × Nat)) (reqs : Nat → Req) (j : Nat) :
    (failAll p reqs j).nonce = (reqs j).nonce ∧ (failAll p reqs j).conn = (reqs j).conn ∧
    (failAll p reqs j).src = (reqs j).src ∧ (failAll p reqs j).dst = (reqs j).dst := by
  rcases failAll_out p reqs j with h | ⟨_, h⟩ <;> rw [h] <;> simp

@[simp] theorem newReq_nreq (s : Net) (a b : Nat) : (newReq s a b).nreq = s.nreq + 1 := rfl
@[simp] theorem newReq_nconn (s : Net) (a b : Nat) : (newReq s a b).nconn = s.nconn := rfl
@[simp] theorem newReq_nodes (s : Net) (a b : Nat) : (newReq s a b).nodes = s.nodes := rfl
@[simp] theorem newReq_conns (s : Net) (a b : Nat) : (newReq s a b).conns = s.conns := rfl
@[simp] theorem newReq_ideal (s : Net) (a b : Nat) : (newReq s a b).ideal = s.ideal := rfl
@[simp] theorem newReq_nextKey (s : Net) (a b : Nat) : (newReq s a b).nextKey = s.nextKey := rfl
theorem newReq_reqs (s : Net) (a b j : Nat) :
    (newReq s a b).reqs j = if j = s.nreq then { src := a, dst := b } else s.reqs j := rfl

@[simp] theorem failReq_nreq (s : Net) (i : Nat) : (failReq s i).nreq = s.nreq := rfl
@[simp] theorem failReq_nconn (s : Net) (i : Nat) : (failReq s i).nconn = s.nconn := rfl
@[simp] theorem failReq_nodes (s : Net) (i : Nat) : (failReq s i).nodes = s.nodes := rfl
@[simp] theorem failReq_conns (s : Net) (i : Nat) : (failReq s i).conns = s.conns := rfl
@[simp] theorem failReq_ideal (s : Net) (i : Nat) : (failReq s i).ideal = s.ideal := rfl
@[simp] theorem failReq_nextKey (s : Net) (i : Nat) : (failReq s i).nextKey = s.nextKey := rfl
theorem failReq_reqs (s : Net) (i j : Nat) :
    (failReq s i).reqs j = if j = i then { s.reqs j with out := .err } else s.reqs j := rfl

/-- connection number `s.nconn` comes into being (the first part of `openConn`) -/
def pushConn (s : Net) (x : Conn) : Net :=
  { s with nconn := s.nconn + 1, nextKey := s.nextKey + 3, conns := fun e => if e = s.nconn then x else s.conns e }

theorem pushConn_old (s : Net) (x : Conn) {e : Nat} (he : e < s.nconn) : (pushConn s x).conns e = s.conns e :=
  if_neg (Nat.ne_of_lt he)
theorem pushConn_new (s : Net) (x : Conn) : (pushConn s x).conns s.nconn = x := if_pos rfl

/-- `openConn` in steps: the connection, the acceptor's entry (unless it is a harness endpoint or its guard fired), the
dialler's entry -/
theorem openConn_eq (s : Net) (a b x : Nat) :
    openConn cfg s a b x =
      (if s.ideal b || refused cfg s a b then pushConn s (mkConn cfg s a b x) else
        (pushConn s (mkConn cfg s a b x)).setNode b fun n =>
          { n with inb := setTab n.inb (keyVal cfg.inStore b a a) (some s.nconn) }).setNode a fun n =>
        { n with out := setTab n.out (keyVal cfg.outStore a x b) (some s.nconn) } := rfl

@[simp] theorem openConn_nreq (s : Net) (a b x : Nat) : (openConn cfg s a b x).nreq = s.nreq := by
  simp only [openConn]; split <;> rfl
@[simp] theorem openConn_reqs (s : Net) (a b x : Nat) : (openConn cfg s a b x).reqs = s.reqs := by
  simp only [openConn]; split <;> rfl
@[simp] theorem openConn_nconn (s : Net) (a b x : Nat) : (openConn cfg s a b x).nconn = s.nconn + 1 := by
  simp only [openConn]; split <;> rfl
@[simp] theorem openConn_ideal (s : Net) (a b x : Nat) : (openConn cfg s a b x).ideal = s.ideal := by
  simp only [openConn]; split <;> rfl
@[simp] theorem openConn_nextKey (s : Net) (a b x : Nat) : (openConn cfg s a b x).nextKey = s.nextKey + 3 := by
  simp only [openConn]; split <;> rfl
theorem openConn_conns (s : Net) (a b x e : Nat) :
    (openConn cfg s a b x).conns e = if e = s.nconn then mkConn cfg s a b x else s.conns e := by
  simp only [openConn]; split <;> rfl
theorem openConn_conns_old (s : Net) (a b x : Nat) {e : Nat} (he : e < s.nconn) :
    (openConn cfg s a b x).conns e = s.conns e := by
  rw [openConn_conns, if_neg (Nat.ne_of_lt he)]
theorem openConn_conns_new (s : Net) (a b x : Nat) : (openConn cfg s a b x).conns s.nconn = mkConn cfg s a b x := by
  rw [openConn_conns, if_pos rfl]
/-- the tables after a connection was opened: the acceptor's inbound table (unless it is a harness endpoint
or its guard fired), then the dialler's outbound table -/
theorem openConn_nodes (s : Net) (a b x m : Nat) :
    (openConn cfg s a b x).nodes m =
      let n1 := if m = b ∧ (s.ideal b || refused cfg s a b) = false then
          { s.nodes m with inb := setTab (s.nodes m).inb (keyVal cfg.inStore b a a) (some s.nconn) } else s.nodes m
      if m = a then { n1 with out := setTab n1.out (keyVal cfg.outStore a x b) (some s.nconn) } else n1 := by
  simp only [openConn]
  cases hb : (s.ideal b || refused cfg s a b)
  · simp only [Bool.false_eq_true, if_false, and_true]
    by_cases hma : m = a <;> by_cases hmb : m = b <;> simp [setNode_nodes, hma, hmb]
  · simp only [if_true]
    by_cases hma : m = a <;> simp [setNode_nodes, hma]
theorem openConn_held (s : Net) (a b x m : Nat) : ((openConn cfg s a b x).nodes m).held = (s.nodes m).held := by
  rw [openConn_nodes]; simp only []; split <;> split <;> rfl
theorem openConn_rm (s : Net) (a b x m : Nat) : ((openConn cfg s a b x).nodes m).rm = (s.nodes m).rm := by
  rw [openConn_nodes]; simp only []; split <;> split <;> rfl

/-- an update of a connection record that leaves alone who its ends are, its keys, whether `client.run` has
returned at either end and its counter, and only drops entries from its table and its queues.  Every field
has the proof that fits a record update not touching it as its default, so an instance names only the fields
the update does touch (`{}` when it touches none of these). -/
structure Quiet (x y : Conn) : Prop where
  key : y.key = x.key ∧ y.skD = x.skD ∧ y.skA = x.skA := by exact ⟨rfl, rfl, rfl⟩
  d : y.d = x.d := by rfl
  a : y.a = x.a := by rfl
  ann : y.ann = x.ann := by rfl
  regA : y.regA = x.regA := by rfl
  retD : y.retD = x.retD := by rfl
  retA : y.retA = x.retA := by rfl
  next : y.next = x.next := by rfl
  pend : ∀ e, e ∈ y.pend → e ∈ x.pend := by exact fun _ h => h
  reqQ : ∀ e, e ∈ y.reqQ → e ∈ x.reqQ := by exact fun _ h => h
  repQ : ∀ e, e ∈ y.repQ → e ∈ x.repQ := by exact fun _ h => h

theorem Quiet.tail_reqQ {x : Conn} {ν : Nonce} {g : Nat} {rest : List (Nonce × Nat)} (hq : x.reqQ = (ν, g) :: rest) :
    Quiet x { x with reqQ := rest } := { reqQ := fun _ h => hq ▸ List.mem_cons_of_mem _ h }
theorem Quiet.tail_repQ {x : Conn} {ν : Nonce} {m : Nat} {rest : List (Nonce × Nat)} (hq : x.repQ = (ν, m) :: rest) :
    Quiet x { x with repQ := rest } := { repQ := fun _ h => hq ▸ List.mem_cons_of_mem _ h }
theorem Quiet.eraseN (x : Conn) (ν : Nonce) : Quiet x { x with pend := eraseN x.pend ν } :=
  { pend := fun _ h => (List.mem_filter.mp h).1 }

theorem setErr_cases (t : Net) (i : Nat) (hw : (t.reqs i).out = .waiting) (j : Nat) :
    (t.setReq i fun r => { r with out := .err }).reqs j = t.reqs j ∨
      ((t.reqs j).out = .waiting ∧ (t.setReq i fun r => { r with out := .err }).reqs j = { t.reqs j with out := .err }) := by
  rw [setReq_reqs]; split
  · rename_i h; subst h; exact .inr ⟨hw, rfl⟩
  · exact .inl rfl

/-- `Effect cfg s e t`: `t` comes from `s` by elementary updates that event `e` may make, each with what is known
where it is made (`init`: no update yet; `procRm`, `disconnect` and `reset` are whole events, made on `s` itself —
a restart changes every component at once and is taken as the one update it is, `reset_nodes/_conns/_reqs`).
`step cfg s e` is such a `t` (`step_effect`), so a property kept by each elementary update is kept by every
event, and the branches of `step` are gone through once. -/
inductive Effect (cfg : Cfg) (s : Net) (e : Ev) : Net → Prop
  | init : Effect cfg s e s
  | newReq {t : Net} (a b : Nat) (h : Effect cfg s e t) : Effect cfg s e (newReq t a b)
  /-- waiting requests are failed -/
  | errs {t : Net} (rq : Nat → Req)
      (hrq : ∀ j, rq j = t.reqs j ∨ ((t.reqs j).out = .waiting ∧ rq j = { t.reqs j with out := .err }))
      (h : Effect cfg s e t) : Effect cfg s e { t with reqs := rq }
  /-- the one way to a reply: the oldest reply frame on `c` reaches the dispatch that registered call `i` -/
  | got {t : Net} {c : Nat} {ν : Nonce} {m : Nat} {rest : List (Nonce × Nat)} {i : Nat}
      (he : e = .deliverReply c) (hc : c < s.nconn) (hq : (s.conns c).repQ = (ν, m) :: rest)
      (hcl : (s.conns c).clD = false) (hl : lookupN (s.conns c).pend ν = some i) (hw : (s.reqs i).out = .waiting)
      (hw' : (t.reqs i).out = .waiting) (h : Effect cfg s e t) :
      Effect cfg s e (t.setReq i fun r => { r with out := .got m })
  | hand {t : Net} (i c : Nat) (hi : s.nreq ≤ i ∧ i < t.nreq) (hn : (t.reqs i).nonce = none)
      (hc : c < t.nconn ∨ ∃ a b, (t.nodes a).out b = some c) (h : Effect cfg s e t) :
      Effect cfg s e (hand cfg t i c)
  | openConn {t : Net} (a b x : Nat) (dial : Option Nat) (he : e = .request a b dial)
      (hx : (cfg.idMatch && x != b) = false) (h : Effect cfg s e t) : Effect cfg s e (openConn cfg t a b x)
  | retAtD {t : Net} (c : Nat) (hc : c < t.nconn) (h : Effect cfg s e t) : Effect cfg s e (retAtD cfg t c)
  | retAtA {t : Net} (c : Nat) (hc : c < t.nconn) (h : Effect cfg s e t) : Effect cfg s e (retAtA cfg t c)
  | conn {t : Net} (c : Nat) (f : Conn → Conn) (hf : Quiet (t.conns c) (f (t.conns c))) (h : Effect cfg s e t) :
      Effect cfg s e (t.setConn c f)
  /-- a request frame in flight reaches the application of the accepting node -/
  | deliver {t : Net} (n : Nat) (hd : Held) (hq : ∃ c, (hd.nonce, hd.g) ∈ (t.conns c).reqQ)
      (hc : hd.conn < t.nconn ∧ (t.conns hd.conn).a = n ∧ (t.conns hd.conn).d = hd.sender ∧
        (t.conns hd.conn).regA = true)
      (h : Effect cfg s e t) : Effect cfg s e (t.setNode n fun nd => { nd with held := nd.held ++ [hd] })
  | answer {t : Net} (b k : Nat) (h : Effect cfg s e t) :
      Effect cfg s e (t.setNode b fun n => { n with held := n.held.eraseIdx k })
  /-- the reply to a held message is put in flight -/
  | reply {t : Net} (b c' : Nat) (hd : Held) (hm : hd ∈ (t.nodes b).held) (h : Effect cfg s e t) :
      Effect cfg s e (t.setConn c' fun y => { y with repQ := y.repQ ++ [(hd.nonce, hd.g)] })
  | procRm {n k : Nat} {isCall : Bool} {id : Nat} (he : e = .procRm n k)
      (hk : (s.nodes n).rm[k]? = some (isCall, id)) :
      Effect cfg s e (s.setNode n fun nd =>
        if isCall then { nd with rm := nd.rm.eraseIdx k, out := setTab nd.out id none }
        else { nd with rm := nd.rm.eraseIdx k, inb := setTab nd.inb id none })
  | disconnect (a b : Nat) (he : e = .disconnect a b) :
      Effect cfg s e (s.setNode a fun nd => { nd with out := setTab nd.out b none })
  | reset (n : Nat) (he : e = .reset n) : Effect cfg s e (step cfg s (.reset n))

theorem step_effect (s : Net) (e : Ev) : Effect cfg s e (step cfg s e) := by
  have hnew : ∀ a b, ((newReq s a b).reqs s.nreq).nonce = none ∧ ((newReq s a b).reqs s.nreq).out = .waiting :=
    fun a b => by rw [newReq_reqs, if_pos rfl]; exact ⟨rfl, rfl⟩
  have hfail : ∀ a b dial, Effect cfg s (.request a b dial) (failReq (newReq s a b) s.nreq) := fun a b _ =>
    .errs (failReq (newReq s a b) s.nreq).reqs (setErr_cases _ _ (hnew a b).2) (.newReq a b .init)
  have hopen : ∀ a b x, (cfg.idMatch && x != b) = false →
      Effect cfg s (.request a b (some x)) (hand cfg (openConn cfg (newReq s a b) a b x) s.nreq s.nconn) :=
    fun a b x hx => .hand _ _ ⟨Nat.le_refl _, by rw [openConn_nreq]; exact Nat.lt_succ_self _⟩
      (by rw [openConn_reqs]; exact (hnew a b).1) (.inl (by rw [openConn_nconn]; exact Nat.lt_succ_self _))
      (.openConn a b x _ rfl hx (.newReq a b .init))
  -- one goal per branch of `step`, numbered in the order `Model/ConnTable.step` lists them, the state it ends in
  -- already computed; the branches not named (6, 9, 10, 14, 19, 21, 22, 24, 26, 27, 29, 31, 32, 36: empty queue,
  -- no such connection / held message / removal, end already closed, call not waiting) leave `s` alone
  fun_cases step cfg s e
  -- request: 1 an entry for `b` exists; 2 dial fails; 3 other id announced; 4 dialled, the acceptor's guard closes
  -- the new client; 5 dialled and registered
  case case1 => exact .hand _ _ ⟨Nat.le_refl _, Nat.lt_succ_self _⟩ (hnew _ _).1 (.inr ⟨_, _, ‹_›⟩) (.newReq _ _ .init)
  case case2 | case3 => exact hfail _ _ _
  case case4 =>
    refine .retAtD _ ?_ (hopen _ _ _ (Bool.eq_false_iff.mpr ‹_›))
    rw [hand_nconn, openConn_nconn]; exact Nat.lt_succ_self _
  case case5 => exact hopen _ _ _ (Bool.eq_false_iff.mpr ‹_›)
  -- deliverReq: 7 the accepting end runs, the application gets the message; 8 it does not, the frame is dropped
  case case7 c hc x ν g rest hq s1 h =>
    refine .conn c (fun x => { x with reqQ := rest }) ?_
      (.deliver _ ⟨c, (s.conns c).d, ν, g⟩ ⟨c, hq ▸ List.mem_cons_self⟩ ⟨hc, rfl, rfl, (Bool.and_eq_true_iff.mp h).1⟩ .init)
    exact Quiet.tail_reqQ hq
  case case8 => exact .conn _ _ (Quiet.tail_reqQ ‹_›) .init
  -- appReply: 11 no client for the sender; 12 client cancelled or wire down; 13 the reply frame is put in flight
  case case11 | case12 => exact .answer _ _ .init
  case case13 => exact .answer _ _ (.reply _ _ _ (List.mem_of_getElem? ‹_›) .init)
  -- deliverReply: 15 the dialler's client is cancelled; 16 unknown nonce; 17 the call gets its reply; 18 the call has returned already
  case case15 | case16 => exact .conn _ _ (Quiet.tail_repQ ‹_›) .init
  case case17 c hc x ν m rest hq s1 hcl i hl s2 hw =>
    exact .got rfl hc hq (Bool.eq_false_iff.mpr hcl) hl hw hw (.conn c _ (Quiet.eraseN _ ν) (.conn c _ (Quiet.tail_repQ hq) .init))
  case case18 c hc x ν m rest hq s1 hcl i hl s2 hw =>
    exact .conn c _ (Quiet.eraseN _ ν) (.conn c _ (Quiet.tail_repQ hq) .init)
  -- 20 cut; reject: 23 at the dialler, 25 at the acceptor; close: 28 at the dialler (pending requests fail),
  -- 30 at the acceptor
  case case20 c hc s1 =>
    exact .retAtA c (by rw [retAtD_nconn]; exact hc) (.retAtD c hc
      (.conn c _ { reqQ := fun _ => nofun, repQ := fun _ => nofun } .init))
  case case23 => exact .retAtD _ ‹_› .init
  case case25 => exact .retAtA _ ‹_› .init
  case case28 c hc hcl x s1 s2 =>
    exact .retAtD c hc (.conn c _ { pend := fun _ => nofun } (.errs _ (failAll_out _ _) .init))
  case case30 c atD hc _ _ s1 => exact .retAtA c hc (.conn c _ {} .init)
  -- 33 procRm; 34 disconnect; 35 expire of a waiting call; 37 reset
  case case33 => exact .procRm rfl ‹_›
  case case34 => exact .disconnect _ _ rfl
  case case35 i h => exact .errs (s.setReq i fun r => { r with out := .err }).reqs (setErr_cases s i h.2) .init
  case case37 => exact .reset _ rfl
  all_goals exact .init

theorem run_induction {P : Net → Prop} (hstep : ∀ s e, P s → P (step cfg s e)) {s : Net} (h : P s) (evs : List Ev) :
    P (run cfg s evs) := by
  induction evs generalizing s with
  | nil => exact h
  | cons e es ih => exact ih (hstep s e h)

theorem run_append (s : Net) (evs more : List Ev) : run cfg s (evs ++ more) = run cfg (run cfg s evs) more :=
  List.foldl_append

theorem reset_nodes (s : Net) (n m : Nat) : (step cfg s (.reset n)).nodes m = if m = n then {} else s.nodes m := rfl
theorem reset_conns (s : Net) (n c : Nat) :
    (step cfg s (.reset n)).conns c =
      if (s.conns c).d = n ∨ (s.conns c).a = n then
        { s.conns c with up := false, reqQ := [], repQ := [], pend := if (s.conns c).d = n then [] else (s.conns c).pend,
                         retD := (s.conns c).retD || (s.conns c).d = n, clD := (s.conns c).clD || (s.conns c).d = n,
                         retA := (s.conns c).retA || (s.conns c).a = n, clA := (s.conns c).clA || (s.conns c).a = n }
      else s.conns c := rfl
theorem reset_reqs (s : Net) (n j : Nat) :
    (step cfg s (.reset n)).reqs j =
      if (s.reqs j).src = n ∧ (s.reqs j).out = .waiting then { s.reqs j with out := .err } else s.reqs j := rfl

/-- the fields that say what a connection IS -/
structure SameId (x y : Conn) : Prop where
  d : y.d = x.d
  a : y.a = x.a
  ann : y.ann = x.ann
  regA : y.regA = x.regA

theorem SameId.rfl (x : Conn) : SameId x x := ⟨_root_.rfl, _root_.rfl, _root_.rfl, _root_.rfl⟩

theorem reset_sameId (s : Net) (n c : Nat) : SameId (s.conns c) ((step cfg s (.reset n)).conns c) := by
  rw [reset_conns]; split <;> exact ⟨rfl, rfl, rfl, rfl⟩

/-- a `ret` flag that goes up at a restart belongs to a connection of the restarted node -/
theorem reset_ret (s : Net) (n c : Nat) :
    (((step cfg s (.reset n)).conns c).retD = true → (s.conns c).retD = true ∨ (s.conns c).d = n) ∧
    (((step cfg s (.reset n)).conns c).retA = true → (s.conns c).retA = true ∨ (s.conns c).a = n) := by
  rw [reset_conns]; split
  · exact ⟨fun h => by simpa using h, fun h => by simpa using h⟩
  · exact ⟨.inl, .inl⟩

theorem reset_retA (s : Net) (n c : Nat) :
    ((step cfg s (.reset n)).conns c).retA = ((s.conns c).retA || decide ((s.conns c).a = n)) := by
  rw [reset_conns]; split
  · rfl
  · rename_i hno; rw [decide_eq_false fun h => hno (Or.inr h), Bool.or_false]

/-- what an event can do to a request that exists already: nothing but give it an outcome while it waits -/
structure SameButOutcome (r r' : Req) : Prop where
  nonce : r'.nonce = r.nonce
  conn : r'.conn = r.conn
  src : r'.src = r.src
  dst : r'.dst = r.dst
  out : r.out ≠ .waiting → r'.out = r.out

theorem SameButOutcome.of_eq {r r' : Req} (h : r' = r) : SameButOutcome r r' := h ▸ ⟨rfl, rfl, rfl, rfl, fun _ => rfl⟩

theorem SameButOutcome.setOut (r : Req) (o : Outcome) (h : r.out = .waiting) : SameButOutcome r { r with out := o } :=
  ⟨rfl, rfl, rfl, rfl, fun hn => absurd h hn⟩

theorem SameButOutcome.ite {r : Req} {p : Prop} [Decidable p] (o : Outcome) (h : p → r.out = .waiting) :
    SameButOutcome r (if p then { r with out := o } else r) := by
  split
  · exact .setOut _ _ (h ‹_›)
  · exact .of_eq rfl

theorem SameButOutcome.trans {r r' r'' : Req} (h : SameButOutcome r r') (h' : SameButOutcome r' r'') :
    SameButOutcome r r'' :=
  ⟨h'.nonce.trans h.nonce, h'.conn.trans h.conn, h'.src.trans h.src, h'.dst.trans h.dst,
    fun hn => (h'.out (h.out hn ▸ hn)).trans (h.out hn)⟩

section
variable {cfg} {s t : Net} {e : Ev} (h : Effect cfg s e t)
include h

theorem Effect.nreq_le : s.nreq ≤ t.nreq := by
  induction h with
  | init | procRm | disconnect | reset => exact Nat.le_refl _
  | newReq _ _ _ ih => exact Nat.le_succ_of_le ih
  | _ => rename_i ih; simpa using ih

theorem Effect.ideal : t.ideal = s.ideal := by
  induction h with
  | init | procRm | disconnect | reset => rfl
  | _ => rename_i ih; simpa using ih

theorem Effect.reqs_old {j : Nat} (hj : j < s.nreq) : SameButOutcome (s.reqs j) (t.reqs j) := by
  induction h with
  | init | procRm | disconnect => exact .of_eq rfl
  | newReq a b h ih =>
    exact ih.trans (.of_eq (by rw [newReq_reqs, if_neg (Nat.ne_of_lt (Nat.lt_of_lt_of_le hj h.nreq_le))]))
  | errs rq hrq _ ih =>
    refine ih.trans ((hrq j).elim .of_eq fun h => ?_)
    show SameButOutcome _ (rq j)
    rw [h.2]; exact .setOut _ _ h.1
  | got _ _ _ _ _ _ hw' _ ih =>
    refine ih.trans ?_
    rw [setReq_reqs]; exact .ite _ (fun hji => hji ▸ hw')
  | hand i c hi _ _ _ ih =>
    exact ih.trans (.of_eq (hand_reqs_ne _ _ _ _ _ (Nat.ne_of_lt (Nat.lt_of_lt_of_le hj hi.1))))
  | reset => exact .ite _ (fun hp => hp.2)
  | _ => rename_i ih; exact ih.trans (.of_eq (by simp))

end

theorem step_nreq_mono (s : Net) (e : Ev) : s.nreq ≤ (step cfg s e).nreq := (step_effect cfg s e).nreq_le

theorem step_ideal (cfg : Cfg) (s : Net) (e : Ev) : (step cfg s e).ideal = s.ideal := (step_effect cfg s e).ideal

theorem step_reqs_old (s : Net) (e : Ev) (j : Nat) (hj : j < s.nreq) :
    SameButOutcome (s.reqs j) ((step cfg s e).reqs j) := (step_effect cfg s e).reqs_old hj

theorem run_nreq_mono (s : Net) (evs : List Ev) : s.nreq ≤ (run cfg s evs).nreq :=
  run_induction cfg (fun t e ht => Nat.le_trans ht (step_effect cfg t e).nreq_le) (Nat.le_refl _) evs

theorem run_ideal (s : Net) (evs : List Ev) : (run cfg s evs).ideal = s.ideal :=
  run_induction cfg (fun t e ht => (step_effect cfg t e).ideal.trans ht) rfl evs

/-- once a call has returned (a reply or an error) no later event changes what it returned -/
theorem run_out_stable (s : Net) (evs : List Ev) (j : Nat) (hj : j < s.nreq) (h : (s.reqs j).out ≠ .waiting) :
    ((run cfg s evs).reqs j).out = (s.reqs j).out :=
  (run_induction cfg (P := fun t => j < t.nreq ∧ (t.reqs j).out = (s.reqs j).out)
    (fun t e ht => ⟨Nat.lt_of_lt_of_le ht.1 (step_effect cfg t e).nreq_le,
      (((step_effect cfg t e).reqs_old ht.1).out (ht.2 ▸ h)).trans ht.2⟩) ⟨hj, rfl⟩ evs).2

end Dos.ConnTable
