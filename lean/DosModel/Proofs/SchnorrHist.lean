/-
C20 — lemmas about the history semantics Model/SchnorrHist.lean (theorems: Props/C20Hist.lean).
-/
import DosModel.Model.SchnorrHist

namespace Dos.SchnorrHist
open Dos Dos.Ed25519 Dos.Schnorr

variable {G σ : Type}

/-- an implementation whose calls return the one-shot outcome produces, whatever state it keeps, call by call the
one-shot function of the values at call time -/
theorem runWith_pointwise (g : Grp G) (H : Bytes → Bytes) (I : Impl σ G)
    (hI : ∀ s st c, (I.call s st c).1 = evalCall g H st c) :
    ∀ (steps : List (Step G)) (s : σ) (st : Store G),
      runWith g I s st steps = (argsAt g H st steps).map (outcomeOf g H) := by
  intro steps
  induction steps with
  | nil => intro s st; rfl
  | cons step rest ih =>
    intro s st
    cases step with
    | upd m => simp only [runWith, argsAt]; exact ih s _
    | call c dst =>
      simp only [runWith, argsAt, List.map_cons, hI]
      rw [ih]
      rfl

theorem runHist_pointwise (g : Grp G) (H : Bytes → Bytes) (st : Store G) (steps : List (Step G)) :
    runHist g H st steps = (argsAt g H st steps).map (outcomeOf g H) :=
  runWith_pointwise g H (pureImpl g H) (fun _ _ _ => rfl) steps () st

theorem runHist_append (g : Grp G) (H : Bytes → Bytes) :
    ∀ (pre post : List (Step G)) (st : Store G),
      runHist g H st (pre ++ post) = runHist g H st pre ++ runHist g H (storeAfter g H st pre) post := by
  intro pre
  induction pre with
  | nil => intro post st; rfl
  | cons step rest ih =>
    intro post st
    cases step with
    | upd m => exact ih post _
    | call c dst =>
      show evalCall g H st c :: runHist g H _ (rest ++ post) = _
      rw [ih]
      rfl

theorem storeAfter_append (g : Grp G) (H : Bytes → Bytes) :
    ∀ (pre post : List (Step G)) (st : Store G),
      storeAfter g H st (pre ++ post) = storeAfter g H (storeAfter g H st pre) post := by
  intro pre
  induction pre with
  | nil => intro post st; rfl
  | cons step rest ih =>
    intro post st
    cases step with
    | upd m => exact ih post _
    | call c dst => exact ih post _

theorem runHist_call_none (g : Grp G) (H : Bytes → Bytes) (st : Store G) (c : Call) (post : List (Step G)) :
    runHist g H st (.call c none :: post) = evalCall g H st c :: runHist g H st post := by
  show evalCall g H st c :: runHist g H (capture st (evalCall g H st c) none) post = _
  cases evalCall g H st c <;> rfl

theorem sign_eq_signWith (g : Grp G) (H : Bytes → Bytes) (x k : Nat) (msg : Bytes) :
    sign g H x k msg = signWith g H (g.smul x g.base) x k msg := rfl

end Dos.SchnorrHist
