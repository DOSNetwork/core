/-
Montgomery reduction on numbers is correct: `redc T · R ≡ T (mod p)` for every `T`, hence
`montEncode x = x·R mod p`, `montDecode a = a·R⁻¹ mod p` and `montDecode (montEncode x) = x mod p`:
the limb values `UnmarshalBinary` stores decode back to the coordinate that was read.
(Numbers, not limbs: limb-level `gfpMul` = `redc` is C10's subject.)
-/
import Mathlib.Data.Nat.ModEq
import DosModel.Proofs.Bn256ConcMont

namespace Dos.Bn256
open Dos

theorem rInv_spec : rInv * R ≡ 1 [MOD p] := by decide
theorem r2_spec : r2 ≡ R * R [MOD p] := by decide

theorem redc_spec (T : Nat) : redc T * R ≡ T [MOD p] := Mont.redc_modEq p np T np_spec

theorem mul_rInv_R (c : Nat) : c * rInv * R ≡ c [MOD p] := by
  have := rInv_spec.mul_left c
  rwa [Nat.mul_one, ← Nat.mul_assoc] at this

theorem cancel_R (a b : Nat) (h : a * R ≡ b * R [MOD p]) : a ≡ b [MOD p] := by
  have e (c : Nat) : c * R * rInv ≡ c [MOD p] := by rw [Nat.mul_right_comm]; exact mul_rInv_R c
  exact ((e a).symm.trans (h.mul_right rInv)).trans (e b)

theorem eq_mod_of_modEq {a b : Nat} (h : a ≡ b [MOD p]) (ha : a < p) : a = b % p :=
  (Nat.mod_eq_of_lt ha).symm.trans h

theorem montDecode_mul_R (a : Nat) : montDecode a * R ≡ a [MOD p] := by
  have h : montDecode a * R ≡ a * 1 [MOD p] := redc_spec (a * 1)
  rwa [Nat.mul_one] at h

theorem montEncode_spec (x : Nat) (hx : x < R) : montEncode x = x * R % p := by
  have h : x * r2 ≡ x * R * R [MOD p] := by rw [Nat.mul_assoc]; exact r2_spec.mul_left x
  exact eq_mod_of_modEq (cancel_R _ _ ((redc_spec (x * r2)).trans h)) (montEncode_lt x hx)

theorem montDecode_spec (a : Nat) (ha : a < R) : montDecode a = a * rInv % p :=
  eq_mod_of_modEq (cancel_R _ _ ((montDecode_mul_R a).trans (mul_rInv_R a).symm)) (montDecode_lt a ha)

/-- **decode ∘ encode = reduction mod p**: what `MarshalBinary` emits for the limbs that
`UnmarshalBinary` stored for the word x is x mod p (so x itself for a canonical word) -/
theorem montDecode_montEncode (x : Nat) (hx : x < R) : montDecode (montEncode x) = x % p := by
  have hlt := montEncode_lt x hx
  have h : montEncode x ≡ x * R [MOD p] := by rw [montEncode_spec x hx]; exact Nat.mod_modEq _ _
  exact eq_mod_of_modEq (cancel_R _ _ ((montDecode_mul_R _).trans h)) (montDecode_lt _ (Nat.lt_trans hlt p_lt_R))

end Dos.Bn256
