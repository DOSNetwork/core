/-
C10 layer 4 — gfP12 (gfp12.go) over gfP6 over gfP2 over ANY commutative ring α is the ring
gfP6[ω]/(ω² − τ): `Mul`, `Square` are multiplication there, the operations form a
commutative ring, `Conjugate` is the automorphism ω ↦ −ω, `Invert` is the inverse whenever
the gfP6 inversion of the norm succeeds, and `Exp` (square-and-multiply from the top bit)
is the monoid power for EVERY exponent.
-/
import DosModel.Proofs.Bn256Tower6
import DosModel.Proofs.Bn256Scalar

namespace Dos.Bn256
namespace Fp12

@[ext] theorem ext' {α : Type} {a b : Fp12 α} (hx : a.x = b.x) (hy : a.y = b.y) : a = b := by
  cases a; cases b; simp_all

section ring
variable {α : Type} [CommRing α]
open Fp6 (tau)

/-- the product of xω + y and x'ω + y' reduced by ω² = τ -/
def mulSpec (a b : Fp12 α) : Fp12 α := ⟨a.x * b.y + a.y * b.x, a.y * b.y + tau * (a.x * b.x)⟩

theorem mul_eq_spec (a b : Fp12 α) : Fp12.mul a b = mulSpec a b := by
  refine Fp12.ext' ?_ ?_ <;> simp only [Fp12.mul, mulSpec, Fp6.mul_eq, Fp6.add_eq, Fp6.mulTau_eq'] <;> ring

theorem square_eq_mul (a : Fp12 α) : Fp12.square a = Fp12.mul a a := by
  rw [mul_eq_spec]
  refine Fp12.ext' ?_ ?_ <;> simp only [Fp12.square, mulSpec, Fp6.mul_eq, Fp6.add_eq, Fp6.sub_eq, Fp6.mulTau_eq'] <;> ring

def omega : Fp12 α := ⟨1, 0⟩
def ofBase (c : Fp6 α) : Fp12 α := ⟨0, c⟩

theorem omega_sq : Fp12.mul omega omega = (ofBase tau : Fp12 α) := by
  rw [mul_eq_spec]; refine Fp12.ext' ?_ ?_ <;> simp only [mulSpec, omega, ofBase] <;> ring

theorem add_assoc' (a b c : Fp12 α) : Fp12.add (Fp12.add a b) c = Fp12.add a (Fp12.add b c) := by
  refine Fp12.ext' ?_ ?_ <;> simp only [Fp12.add, Fp6.add_eq] <;> ring
theorem zero_add' (a : Fp12 α) : Fp12.add Fp12.zero a = a := by
  refine Fp12.ext' ?_ ?_ <;> simp only [Fp12.add, Fp12.zero, Fp6.add_eq, Fp6.zero_eq] <;> ring
theorem add_zero' (a : Fp12 α) : Fp12.add a Fp12.zero = a := by
  refine Fp12.ext' ?_ ?_ <;> simp only [Fp12.add, Fp12.zero, Fp6.add_eq, Fp6.zero_eq] <;> ring
theorem add_comm' (a b : Fp12 α) : Fp12.add a b = Fp12.add b a := by
  refine Fp12.ext' ?_ ?_ <;> simp only [Fp12.add, Fp6.add_eq] <;> ring
theorem neg_add_cancel' (a : Fp12 α) : Fp12.add (Fp12.neg a) a = Fp12.zero := by
  refine Fp12.ext' ?_ ?_ <;> simp only [Fp12.add, Fp12.neg, Fp12.zero, Fp6.add_eq, Fp6.neg_eq, Fp6.zero_eq] <;> ring
theorem sub_eq_add_neg' (a b : Fp12 α) : Fp12.sub a b = Fp12.add a (Fp12.neg b) := by
  refine Fp12.ext' ?_ ?_ <;> simp only [Fp12.add, Fp12.neg, Fp12.sub, Fp6.add_eq, Fp6.neg_eq, Fp6.sub_eq] <;> ring
theorem mul_assoc' (a b c : Fp12 α) : Fp12.mul (Fp12.mul a b) c = Fp12.mul a (Fp12.mul b c) := by
  simp only [mul_eq_spec]; refine Fp12.ext' ?_ ?_ <;> simp only [mulSpec] <;> ring
theorem one_mul' (a : Fp12 α) : Fp12.mul Fp12.one a = a := by
  simp only [mul_eq_spec]; refine Fp12.ext' ?_ ?_ <;> simp only [mulSpec, Fp12.one, Fp6.zero_eq, Fp6.one_eq] <;> ring
theorem mul_one' (a : Fp12 α) : Fp12.mul a Fp12.one = a := by
  simp only [mul_eq_spec]; refine Fp12.ext' ?_ ?_ <;> simp only [mulSpec, Fp12.one, Fp6.zero_eq, Fp6.one_eq] <;> ring
theorem left_distrib' (a b c : Fp12 α) :
    Fp12.mul a (Fp12.add b c) = Fp12.add (Fp12.mul a b) (Fp12.mul a c) := by
  simp only [mul_eq_spec]; refine Fp12.ext' ?_ ?_ <;> simp only [mulSpec, Fp12.add, Fp6.add_eq] <;> ring
theorem right_distrib' (a b c : Fp12 α) :
    Fp12.mul (Fp12.add a b) c = Fp12.add (Fp12.mul a c) (Fp12.mul b c) := by
  simp only [mul_eq_spec]; refine Fp12.ext' ?_ ?_ <;> simp only [mulSpec, Fp12.add, Fp6.add_eq] <;> ring
theorem zero_mul' (a : Fp12 α) : Fp12.mul Fp12.zero a = Fp12.zero := by
  simp only [mul_eq_spec]; refine Fp12.ext' ?_ ?_ <;> simp only [mulSpec, Fp12.zero, Fp6.zero_eq] <;> ring
theorem mul_zero' (a : Fp12 α) : Fp12.mul a Fp12.zero = Fp12.zero := by
  simp only [mul_eq_spec]; refine Fp12.ext' ?_ ?_ <;> simp only [mulSpec, Fp12.zero, Fp6.zero_eq] <;> ring
theorem mul_comm' (a b : Fp12 α) : Fp12.mul a b = Fp12.mul b a := by
  simp only [mul_eq_spec]; refine Fp12.ext' ?_ ?_ <;> simp only [mulSpec] <;> ring

/-- the commutative ring whose operations are the transcribed gfP12 functions -/
instance instCommRing : CommRing (Fp12 α) where
  add := Fp12.add
  zero := Fp12.zero
  neg := Fp12.neg
  sub := Fp12.sub
  mul := Fp12.mul
  one := Fp12.one
  nsmul := nsmulRec
  zsmul := zsmulRec
  add_assoc := add_assoc'
  zero_add := zero_add'
  add_zero := add_zero'
  add_comm := add_comm'
  neg_add_cancel := neg_add_cancel'
  sub_eq_add_neg := sub_eq_add_neg'
  mul_assoc := mul_assoc'
  one_mul := one_mul'
  mul_one := mul_one'
  left_distrib := left_distrib'
  right_distrib := right_distrib'
  zero_mul := zero_mul'
  mul_zero := mul_zero'
  mul_comm := mul_comm'

theorem mul_eq (a b : Fp12 α) : Fp12.mul a b = a * b := rfl
theorem one_eq : (Fp12.one : Fp12 α) = 1 := rfl
theorem square_eq (a : Fp12 α) : Fp12.square a = a * a := square_eq_mul a

/-- Conjugate is the automorphism ω ↦ −ω (the p⁶-power Frobenius of the bn256 tower) -/
theorem conjugate_mul (a b : Fp12 α) :
    Fp12.conjugate (Fp12.mul a b) = Fp12.mul (Fp12.conjugate a) (Fp12.conjugate b) := by
  simp only [mul_eq_spec]
  refine Fp12.ext' ?_ ?_ <;> simp only [Fp12.conjugate, mulSpec, Fp6.neg_eq] <;> ring

theorem conjugate_mul' (a b : Fp12 α) : Fp12.conjugate (a * b) = Fp12.conjugate a * Fp12.conjugate b :=
  conjugate_mul a b

theorem conjugate_one : Fp12.conjugate (1 : Fp12 α) = 1 := by
  rw [← one_eq]; refine Fp12.ext' ?_ ?_ <;> simp [Fp12.conjugate, Fp12.one, Fp6.neg_eq, Fp6.zero_eq]

theorem conjugate_conjugate (a : Fp12 α) : Fp12.conjugate (Fp12.conjugate a) = a := by
  refine Fp12.ext' ?_ ?_ <;> simp only [Fp12.conjugate, Fp6.neg_eq, neg_neg]

theorem conjugate_ofBase (c : Fp6 α) : Fp12.conjugate (ofBase c) = ofBase c := by
  refine Fp12.ext' ?_ ?_ <;> simp only [Fp12.conjugate, ofBase, Fp6.neg_eq, neg_zero]

theorem conjugate_omega : Fp12.conjugate (omega : Fp12 α) = -omega :=
  Fp12.ext' rfl (neg_zero (G := Fp6 α)).symm

/-- Conjugate as a ring endomorphism -/
def conjugateHom : Fp12 α →+* Fp12 α where
  toFun := Fp12.conjugate
  map_one' := conjugate_one
  map_mul' := conjugate_mul'
  map_zero' := Fp12.ext' (neg_zero (G := Fp6 α)) rfl
  map_add' a b := Fp12.ext' (neg_add a.x b.x) rfl

/-- a · conj(a) lies in gfP6: it is y² − τx², the norm that Invert inverts -/
theorem mul_conjugate (a : Fp12 α) :
    Fp12.mul a (Fp12.conjugate a) = ofBase (a.y * a.y - tau * (a.x * a.x)) := by
  rw [mul_eq_spec]
  refine Fp12.ext' ?_ ?_ <;> simp only [Fp12.conjugate, mulSpec, ofBase, Fp6.neg_eq] <;> ring

/-- **gfP12.Exp** is the power, for every exponent -/
theorem exp_eq_pow (a : Fp12 α) (k : Nat) : Fp12.exp a k = a ^ k := by
  unfold Fp12.exp
  have h := Scalar.sqmul_fold (M := Fp12 α) a k (Fp12.bitLen k) 1
  simp only [one_pow, one_mul] at h
  rw [Nat.mod_eq_of_lt (Scalar.lt_two_pow_bitLen k)] at h
  rw [← h]
  congr 1
  funext acc i
  simp only [square_eq, mul_eq]

theorem mul_coords (a b : Fp12 α) :
    (a * b).x = a.x * b.y + a.y * b.x ∧ (a * b).y = a.y * b.y + tau * (a.x * b.x) := by
  rw [← mul_eq, mul_eq_spec]; exact ⟨rfl, rfl⟩

theorem ofBase_mul (c d : Fp6 α) : (ofBase (c * d) : Fp12 α) = ofBase c * ofBase d := by
  obtain ⟨hx, hy⟩ := mul_coords (ofBase c) (ofBase d)
  refine Fp12.ext' ?_ ?_
  · rw [hx]; simp only [ofBase]; ring
  · rw [hy]; simp only [ofBase]; ring

theorem ofBase_one : (ofBase (1 : Fp6 α) : Fp12 α) = 1 := by rw [← one_eq]; rfl

/-- gfP6 inside gfP12 -/
def ofBaseHom : Fp6 α →+* Fp12 α where
  toFun := ofBase
  map_one' := ofBase_one
  map_mul' := ofBase_mul
  map_zero' := rfl
  map_add' a b := by
    show ofBase (a + b) = Fp12.add (ofBase a) (ofBase b)
    refine Fp12.ext' ?_ ?_ <;> simp only [ofBase, Fp12.add, Fp6.add_eq] <;> ring

theorem ofBaseHom_inj : Function.Injective (ofBaseHom : Fp6 α →+* Fp12 α) := fun _ _ h => congrArg Fp12.y h

theorem decomp (a : Fp12 α) : a = ofBase a.x * omega + ofBase a.y := by
  show a = Fp12.add (Fp12.mul (ofBase a.x) omega) (ofBase a.y)
  rw [mul_eq_spec]
  refine Fp12.ext' ?_ ?_ <;> simp only [ofBase, omega, mulSpec, Fp12.add, Fp6.add_eq] <;> ring

/-- a ring homomorphism out of gfP12 is determined by its values on gfP6 and on ω -/
theorem ringHom_ext {S : Type} [Semiring S] {f g : Fp12 α →+* S} (hb : ∀ c, f (ofBase c) = g (ofBase c))
    (hw : f omega = g omega) : f = g :=
  RingHom.ext fun a => by rw [decomp a]; simp only [map_add, map_mul, hb, hw]

end ring

section inv
variable {α : Type} [Field α]

/-- the value gfP12.Invert hands to gfP6.Invert: y² − τ·x² -/
def normT (a : Fp12 α) : Fp6 α := a.y * a.y - Fp6.tau * (a.x * a.x)

theorem invert_eq (a : Fp12 α) : Fp12.invert a = Fp12.conjugate a * ofBase (Fp6.invert (normT a)) := by
  obtain ⟨hx, hy⟩ := mul_coords (Fp12.conjugate a) (ofBase (Fp6.invert (normT a)))
  refine Fp12.ext' ?_ ?_
  · rw [hx]
    simp only [Fp12.invert, Fp12.mulScalarRecv, Fp12.conjugate, ofBase, normT, Fp6.mul_eq, Fp6.sub_eq, Fp6.neg_eq,
      Fp6.square_eq, Fp6.mulTau_eq']
    ring
  · rw [hy]
    simp only [Fp12.invert, Fp12.mulScalarRecv, Fp12.conjugate, ofBase, normT, Fp6.mul_eq, Fp6.sub_eq, Fp6.neg_eq,
      Fp6.square_eq, Fp6.mulTau_eq']
    ring

/-- **gfP12.Invert**: if the gfP6 inversion of the norm succeeded, the result is the inverse -/
theorem mul_invert (a : Fp12 α) (hT : normT a * Fp6.invert (normT a) = 1) :
    Fp12.mul a (Fp12.invert a) = Fp12.one := by
  rw [invert_eq, ← mul_eq, ← mul_assoc', mul_conjugate, mul_eq, ← ofBase_mul]
  show ofBase (normT a * _) = _
  rw [hT]; rfl

end inv
end Fp12
end Dos.Bn256
