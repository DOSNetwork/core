/-
Known-answer vectors for `Model/Keccak.lean` (C06), evaluated by the Lean KERNEL (`decide +kernel`:
the `Decidable` instance is reduced by the kernel, no compiler, no axiom) with the permutation computed on
the packed state (`keccak256_eq_packed`).  One-block messages here
(empty, "abc", 135 bytes = one byte short of the rate: the single 0x81 padding byte), block-boundary
messages in `KeccakKat2.lean`.  The same messages are corpus lines (`corpus/C06/keccak-kat.txt`), so every
run compares these digests with golang.org/x/crypto/sha3 as well.  Core Lean only.
-/
import DosModel.Proofs.Keccak

namespace Dos.Keccak
open Dos

/-- the message 00 01 02 … of `n` bytes (`syn:n:1:0` in the case lines) -/
def katMsg (n : Nat) : Bytes := (List.range n).map UInt8.ofNat

theorem kat_empty :
    toHex (keccak256 []) = "c5d2460186f7233c927e7db2dcc703c0e500b653ca82273b7bfad8045d85a470" := by
  rw [keccak256_eq_packed]
  decide +kernel

theorem kat_abc :
    toHex (keccak256 [0x61, 0x62, 0x63]) = "4e03657aea45a94fc7d47ba826c8d667c0d1e6e33a64a036ec44f58fa12d6c45" := by
  rw [keccak256_eq_packed]
  decide +kernel

theorem kat_135 :
    toHex (keccak256 (katMsg 135)) = "cbdfd9dee5faad3818d6b06f95a219fd290b0e1706f6a82e5a595b9ce9faca62" := by
  rw [keccak256_eq_packed]
  decide +kernel

end Dos.Keccak
