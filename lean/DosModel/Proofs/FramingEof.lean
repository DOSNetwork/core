import DosModel.Proofs.Framing

/-!
`readNE` / `readFrameE` (a transport that returns its last bytes together with the error) versus
`readN` / `readFrame`: the E-transport only turns successes into failures (`readNE_cases`, chunk for chunk), and it
is the plain read loop with one byte of slack (`readNE_reads`), so `readFrameE` computes `parseFrame 1`.
-/
namespace Dos.Framing
open Dos

/-- the E-transport reads like the plain one as long as bytes remain after the `n` requested ones, and
fails otherwise: the `Read` that empties the transport carries the error, and its bytes are dropped -/
theorem readNE_eq : ∀ (cs : List Bytes) (n : Nat),
    readNE n cs = if n = 0 ∨ n < cs.flatten.length then readN n cs else none := by
  intro cs
  induction cs with
  | nil => intro n; cases n <;> simp [readNE, readN]
  | cons ch cs ih =>
    intro n
    cases n with
    | zero => simp [readNE, readN]
    | succ n =>
      simp only [readNE, readN, ih, List.flatten_cons, List.length_append, Nat.succ_ne_zero, false_or]
      by_cases h0 : ch.length = 0
      · simp only [h0, ↓reduceIte, Nat.zero_add]
      · by_cases hle : ch.length ≤ n + 1
        · by_cases hm : n + 1 < ch.length + cs.flatten.length
          · have h1 : ¬ cs.flatten.length = 0 := by omega
            have h2 : n + 1 - ch.length = 0 ∨ n + 1 - ch.length < cs.flatten.length := by omega
            simp only [h0, hle, hm, h1, h2, ↓reduceIte]
          · simp only [h0, hle, hm, ↓reduceIte]
            have h2 : cs.flatten.length = 0 ∨ ¬ (n + 1 - ch.length = 0 ∨ n + 1 - ch.length < cs.flatten.length) := by
              omega
            rcases h2 with h2 | h2 <;> simp only [h2, ↓reduceIte, ite_self]
        · simp only [h0, hle, ↓reduceIte, show n + 1 < ch.length + cs.flatten.length by omega]

theorem readNE_cases (cs : List Bytes) (n : Nat) : readNE n cs = readN n cs ∨ readNE n cs = none := by
  rw [readNE_eq]; split
  · exact .inl rfl
  · exact .inr rfl

theorem readFrameE_ok_imp (L : Nat) (cs : List Bytes) (b : Bytes)
    (h : (readFrameE L cs).out = .ok b) : readFrame L cs = readFrameE L cs := by
  unfold readFrameE at h ⊢
  unfold readFrame
  rcases readNE_cases cs headerSize with e | e <;> rw [e] at h ⊢
  · generalize readN headerSize cs = r at h ⊢
    rcases r with _ | ⟨hd, cs1⟩
    · rfl
    · simp only at h ⊢
      by_cases hc : beNat hd > L ∨ beNat hd = 0
      · rw [if_pos hc, if_pos hc]
      · rw [if_neg hc] at h ⊢
        rw [if_neg hc]
        rcases readNE_cases cs1 (beNat hd) with e | e
        · rw [e]
        · rw [e] at h; cases h
  · cases h

theorem readNE_reads : Reads 1 readNE := by
  intro n cs hn
  have := readN_flatten cs n
  rw [readNE_eq]
  by_cases hl : n < cs.flatten.length
  · rw [if_pos (.inr hl)]
    split at this
    · exact ⟨hl, this.2⟩
    · omega
  · rw [if_neg (by omega)]; exact Nat.lt_succ_of_le (Nat.not_lt.mp hl)

theorem readFrameE_flat (L : Nat) (cs : List Bytes) : (readFrameE L cs).flat = parseFrame 1 L cs.flatten :=
  frameOf_flat readNE_reads L cs

end Dos.Framing
