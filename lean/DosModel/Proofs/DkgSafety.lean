/-
Agreement of two finishing members (C05 `safety`): session ids name the member list and the commitments, so two
finished generators that compare responses with the same session id slot by slot agree (`Finished.agree`); what one
member's final state records about the other member's responses gives the equal ids (`Finished.sameSid_of_auth`).
-/
import DosModel.Proofs.DkgFinish
import Mathlib.Data.List.Nodup

set_option linter.unusedSectionVars false

namespace Dos.Dkg
open Dos Dos.Vss

variable {F G : Type} [Field F] [AddCommGroup G] [Module F G] [DecidableEq F] [DecidableEq G]

theorem certified_slots (a : Agg F G) (h : a.certified = true) (k : Nat) (hk : k < a.vs.length) :
    ∃ r, getResponse a k = some r := by
  unfold Agg.certified at h
  simp only [Bool.and_eq_true, List.all_eq_true, List.mem_range] at h
  have := h.1.1 k hk
  unfold hasResponse at this
  exact Option.isSome_iff_exists.1 this

/-- **unforgeability of responses, as an assumption on a run**: every response that member `d`
stored under member `dk`'s index and that verifies under `dk`'s key (up to the status an accepted
justification may have flipped) carries the session id of one of the own responses `dk` holds,
i.e. of a response `dk` signed itself (Schnorr signatures under an honest key are not forged;
honest members sign responses only in `ProcessEncryptedDeal`). -/
def AuthResp (g : G) (pubk : G) (d dk : Gen F G) : Prop :=
  ∀ j v a (r : Response F G) (st : Bool), getVerifier d j = some v → v.agg = some a →
    getResponse a dk.index = some r → verifyRespSig g pubk { r with status := st } = true →
    ∃ j2 v2 a2 r2, getVerifier dk j2 = some v2 ∧ v2.agg = some a2 ∧ getResponse a2 dk.index = some r2 ∧ r2.sid = r.sid

/-- slot `j` of `d` and slot `j'` of `d'` compare responses with the same session id -/
def SameSid (d d' : Gen F G) (j j' : Nat) : Prop :=
  ∃ v a v' a', getVerifier d j = some v ∧ v.agg = some a ∧ getVerifier d' j' = some v' ∧ v'.agg = some a' ∧
    a'.sid = a.sid

theorem SameSid.symm {d d' : Gen F G} {j j' : Nat} : SameSid d d' j j' → SameSid d' d j' j :=
  fun ⟨v, a, v', a', h1, h2, h3, h4, h5⟩ => ⟨v', a', v, a, h3, h4, h1, h2, h5.symm⟩

/-- a session id names the dealer key, the member list and the commitments; keys being pairwise distinct, also
the slot -/
theorem SameSid.agree {g : G} {d d' : Gen F G} (h : Piped g d) (h' : Piped g d') {j j' : Nat} (hs : SameSid d d' j j') :
    d'.participants = d.participants ∧ commitsAt d' j' = commitsAt d j ∧ (d.participants.Nodup → j' = j) := by
  obtain ⟨v, a, v', a', hv, hagg, hv', hagg', hsid⟩ := hs
  obtain ⟨hd, dl, _, _, hdl, _, _, hs, _⟩ := h.slot hv hagg
  obtain ⟨hd', dl', _, _, hdl', _, _, hs', _⟩ := h'.slot hv' hagg'
  rw [hs, hs'] at hsid
  injection hsid with h1 h2 h3 _
  refine ⟨h2, by simp only [commitsAt, dealAt_eq hv hagg hdl, dealAt_eq hv' hagg' hdl', h3], fun hnd => ?_⟩
  rw [h2, h1] at hd'
  exact (List.getElem?_inj (List.getElem?_eq_some_iff.1 hd').1 hnd).1 (hd'.trans hd.symm)

/-- **agreement**: two finished generators whose slots carry pairwise equal session ids hold the same member
list and the same commitments in every slot, and output the same public polynomial; each share lies on it -/
theorem Finished.agree {g : G} {d d' : Gen F G} {ks ks' : KeyShare F G} (h : Finished g d ks) (h' : Finished g d' ks')
    (hs : ∀ j, j < d.participants.length → SameSid d d' j j) :
    d'.participants = d.participants ∧ (∀ j, j < d.participants.length → commitsAt d' j = commitsAt d j) ∧
    ks'.commits = ks.commits ∧
    ks.shareV • g = pubEval (S := F) ks.commits (d.index : Int) ∧
    ks'.shareV • g = pubEval (S := F) ks'.commits (d'.index : Int) ∧
    ks.shareI = d.index ∧ ks'.shareI = d'.index := by
  have hp := ((hs _ h.good.lt).agree h.toPiped h'.toPiped).1
  have hall := fun j hj => ((hs j hj).agree h.toPiped h'.toPiped).2.1
  exact ⟨hp, hall, commits_eq_of_slots d d' ks ks' h.good.len h'.good.len h.out h'.out hp hall,
    h.share.1, h'.share.1, h.share.2, h'.share.2⟩

/-- `AuthResp`: the response of `d'` that `d` stored in the certified slot `j` went through `verifyResponse`, so it
carries the slot's session id, which by `AuthResp` is that of a slot of `d'` – slot `j`, keys being distinct -/
theorem Finished.sameSid_of_auth {g : G} {d d' : Gen F G} {ks : KeyShare F G} (h : Finished g d ks) (h' : Piped g d')
    (hnd : d.participants.Nodup) (hne : d'.index ≠ d.index) {pub' : G} (hpub' : d.participants[d'.index]? = some pub')
    (hauth : AuthResp g pub' d d') {j : Nat} (hj : j ≠ d'.index) (hjlt : j < d.participants.length) :
    SameSid d d' j j := by
  obtain ⟨v, a, hv, hagg, hcert⟩ := h.slot hjlt
  have hga := (h.good.good j v hv).hagg a hagg
  obtain ⟨r, hr⟩ := certified_slots a hcert d'.index (by rw [hga.hvs]; exact (List.getElem?_eq_some_iff.1 hpub').1)
  obtain ⟨_, hrs, pub, st, hpub, hsig⟩ := hga.others d'.index hne (Ne.symm hj) r hr
  cases hpub'.symm.trans hpub
  obtain ⟨j2, v2, a2, r2, hv2, hagg2, hr2, hsid2⟩ := hauth j v a r st hv hagg hr hsig
  obtain ⟨_, _, _, r2', _, _, _, _, hr2', _, hs'⟩ := h'.slot hv2 hagg2
  cases hr2.symm.trans hr2'
  have hs : SameSid d d' j j2 := ⟨v, a, v2, a2, hv, hagg, hv2, hagg2, by rw [← hs', hsid2, hrs]⟩
  cases (hs.agree h.toPiped h').2.2 hnd
  exact hs

end Dos.Dkg
