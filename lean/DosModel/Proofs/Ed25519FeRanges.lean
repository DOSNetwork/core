/-
C20 — ranges and overflow freedom of the translated field routines, by the verified interval
interpreter evaluated by the kernel on the regenerated program data (`decide +kernel`):

  feMul, feSquare, feSquare2 : inputs within 3 × (1.1·2^25, 1.1·2^24, …)  ⇒  no int32/int64 overflow in any
      (sub)expression, result within 1 × the bound (in fact even limbs ∈ [-2^25, 2^25), odd limbs |·| ≤ 2^24 + 1035)
      — at 4 × the analysis fails (19·g2 leaves int32): 3 is the exact multiplier ref10 relies on (1.65·2^26);
  feFromBytes : any 32 bytes ⇒ no overflow, result within 1 ×;
  feToBytes   : input within 3 × ⇒ no overflow in the q chain and the carry chain, final limbs are digits
      h_even ∈ [0, 2^26), h_odd ∈ [0, 2^25); 31 of the 32 byte expressions cannot overflow; the 13th,
      `(h[3] >> 19) | (h[4] << 6)`, CAN leave int32 (h[4] < 2^26) — see Proofs/Ed25519FeBytes.lean.
-/
import DosModel.Proofs.Ed25519Ranges
import DosModel.Proofs.Ed25519FeTie

namespace Dos.FeProg
open Dos Dos.Ed25519 Dos.IntervalProg Dos.Gen.Ed25519Fe List

theorem bounded_iff (k : Int) (s : L10) : Bounded k s ↔ In s.toList (boundItv k) := by
  unfold Bounded L10.toList boundItv
  simp only [List.forall₂_cons, Itv.mem, List.forall₂_nil_left_iff, and_true, and_assoc]

theorem In.append {a b : Env} {A B : List Itv} (h1 : In a A) (h2 : In b B) : In (a ++ b) (A ++ B) :=
  rel_append h1 h2

theorem in_of_pointwise : ∀ (l : List Int) (A : List Itv), l.length = A.length →
    (∀ i, i < A.length → Itv.mem (l.getD i 0) (A.getD i (0, 0))) → In l A := by
  intro l
  induction l with
  | nil => intro A hl _; cases A with | nil => exact Forall₂.nil | cons _ _ => simp at hl
  | cons x l ih =>
    intro A hl h
    cases A with
    | nil => simp at hl
    | cons a A =>
      refine Forall₂.cons (by simpa using h 0 (by simp)) (ih A (by simpa using hl) ?_)
      intro i hi
      simpa using h (i + 1) (by simpa using hi)

-- the structure `FeProg` (Model/FeProg.lean) lives in the namespace `Dos.FeProg`
set_option linter.dupNamespace false

namespace FeProg

/-- what a successful `check` establishes -/
theorem check_sound {p : FeProg} {I L O : List Itv} {inp : Env} (hc : p.check I L O = true) (hin : In inp I) :
    p.SafeFrom inp ∧ In (p.limbsW id inp) L ∧ In (p.runW id inp) O := by
  unfold check at hc
  split at hc
  · cases hc
  · rename_i r hr
    obtain ⟨r1, r2⟩ := r
    simp only [Bool.and_eq_true, decide_eq_true_eq] at hc
    obtain ⟨⟨⟨w1, w2⟩, l1⟩, l2⟩ := hc
    obtain ⟨hs, i1, i2⟩ := absRun_sound hin hr
    refine ⟨hs, ?_, ?_⟩
    · exact in_of_pointwise _ _ (by rw [i1.length_eq]; exact l1) (within_sound i1 w1)
    · exact in_of_pointwise _ _ (by rw [i2.length_eq]; exact l2) (within_sound i2 w2)

theorem check_isSome {p : FeProg} {I L O : List Itv} (hc : p.check I L O = true) : (p.absRun I).isSome = true := by
  unfold check at hc
  split at hc
  · cases hc
  · rename_i hr; rw [hr]; rfl

end FeProg

theorem feMul_check : feMul_prog.check (boundItv 3 ++ boundItv 3) (boundItv 1) (boundItv 1) = true := by decide +kernel
theorem feSquare_check : feSquare_prog.check (boundItv 3) (boundItv 1) (boundItv 1) = true := by decide +kernel
theorem feSquare2_check : feSquare2_prog.check (boundItv 3) (boundItv 1) (boundItv 1) = true := by decide +kernel

/-- 3 is the largest multiplier: at 4 × the interval analysis of feMul fails -/
theorem feMul_check_4_fails : (feMul_prog.absRun (boundItv 4 ++ boundItv 4)).isSome = false := by decide +kernel

/-- intervals of the raw loads of feFromBytes from a 32-byte array -/
def feFromBytes_rawItv : List Itv := (rawItvs [32] feFromBytes_prog.raw).getD []

theorem feFromBytes_check : feFromBytes_prog.check feFromBytes_rawItv (boundItv 1) (boundItv 1) = true := by
  decide +kernel

theorem feFromBytes_raw_in (s : Bytes) (hs : s.length = 32) :
    In (feFromBytes_prog.raw.map (rawVal [s])) feFromBytes_rawItv := by
  have h : rawItvs ([s].map List.length) feFromBytes_prog.raw = some feFromBytes_rawItv := by
    simp only [List.map_cons, List.map_nil, hs]
    decide +kernel
  exact rawItvs_sound [s] _ _ h

/-- the digits feToBytes ends with -/
def digitItv : List Itv :=
  [(0, 67108863), (0, 33554431), (0, 67108863), (0, 33554431), (0, 67108863),
   (0, 33554431), (0, 67108863), (0, 33554431), (0, 67108863), (0, 33554431)]

/-- feToBytes without its 13th byte expression (the one whose `<<` can leave int32; it is treated under wrapping
semantics, `feToBytes_byte12` in Proofs/Ed25519FeBytes.lean) -/
def feToBytes_prog' : FeProg := { feToBytes_prog with out := feToBytes_prog.out.eraseIdx 12 }

theorem feToBytes_check :
    feToBytes_prog'.check (boundItv 3) digitItv (List.replicate 31 (0, 2147483647)) = true := by decide +kernel

/-- the 13th byte expression does not pass the analysis on digits: `h[4] << 6` with h[4] < 2^26 can be ≥ 2^31 -/
theorem feToBytes_byte12_flagged : (absExpr digitItv (feToBytes_prog.out.getD 12 (.c 0))).isSome = false := by
  decide +kernel

end Dos.FeProg
