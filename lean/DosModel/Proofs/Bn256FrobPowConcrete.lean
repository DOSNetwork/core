/-
C10 — Frobenius = p-power for the code's constants: the three constants ξ^((p−1)/6), ξ^((p−1)/3),
ξ^((2p−2)/3) of constants.go, decoded from Montgomery form, ARE those powers of ξ = i + 9 in F_p² (the kernel
evaluates the square-and-multiply power on the residues of the regenerated literals — the same evaluation
as `C10Consts.consts_frobenius` —; here it is carried to F_p² along "forget reducedness" and "decode"), hence
`Fp12.frobeniusG frobConstsFp` is x ↦ x^p on gfP12 over F_p (Proofs/Bn256FrobPow.lean).
-/
import DosModel.Proofs.Bn256FrobPow
import DosModel.Proofs.Bn256FinalExpConcrete
import DosModel.Proofs.Bn256Consts
import DosModel.Proofs.Bn256FieldIso
import DosModel.Proofs.Bn256Residue

namespace Dos.Bn256
open Dos.Mont

/-- the square-and-multiply power of Proofs/Bn256Consts.lean (`Fp2.powNat`), over any base type -/
def Fp2.powNatG {α : Type} [Add α] [Sub α] [Mul α] [Zero α] [One α] (a : Fp2 α) (k : Nat) : Fp2 α :=
  (List.range (Fp12.bitLen k)).reverse.foldl
    (fun acc i => let t := acc.mul acc; if k.testBit i then t.mul a else t) Fp2.one

theorem Fp2.powNat_eq (a : F2) (k : Nat) : Fp2.powNat a k = Fp2.powNatG a k := rfl

section
variable {K L : Type} [Add K] [Sub K] [Neg K] [Mul K] [Zero K] [One K] [Inv K] [Sq K] [DecidableEq K]
  [Add L] [Sub L] [Neg L] [Mul L] [Zero L] [One L] [Inv L] [Sq L] [DecidableEq L] {f : K → L}

theorem Fp2.map_powNatG (h : OpsHom f) (a : Fp2 K) (k : Nat) :
    Fp2.map f (Fp2.powNatG a k) = Fp2.powNatG (Fp2.map f a) k := by
  unfold Fp2.powNatG
  rw [← Fp2.map_one' h]
  refine (List.foldl_hom (Fp2.map f) fun s i => ?_).symm
  dsimp only
  split <;> simp only [Fp2.map_mul' h]
end

theorem Fp2.powNatG_eq_pow {R : Type} [CommRing R] (a : Fp2 R) (k : Nat) : Fp2.powNatG a k = a ^ k := by
  unfold Fp2.powNatG
  have h := Scalar.sqmul_fold (M := Fp2 R) a k (Fp12.bitLen k) 1
  simp only [one_pow, one_mul] at h
  rw [Nat.mod_eq_of_lt (Scalar.lt_two_pow_bitLen k)] at h
  rw [← h]
  congr 1

/-- a power of ξ in Montgomery arithmetic equals a reduced constant as soon as the residues agree -/
theorem powNat_eq_of_res (c : F2) (hc : Red2 c) (n : Nat)
    (h : Fp2.powNatG (Fp2.map resR xiR) n = Fp2.map res c) : Fp2.powNat xiM n = c := by
  have e : Fp2.powNatG xiR n = lift2R c hc :=
    Fp2.map_inj resHom (by rw [Fp2.map_powNatG resHom]; exact h)
  have := congrArg (Fp2.map valF) e
  rwa [Fp2.map_powNatG valHom] at this

/-- the three constants used by the p-power Frobenius as powers of ξ (kernel evaluation on the residues) -/
theorem frobConsts_powers_mont :
    Fp2.powNat xiM ((Bn256.p - 1) / 6) = frobConsts.xiToPMinus1Over6 ∧
    Fp2.powNat xiM ((Bn256.p - 1) / 3) = frobConsts.xiToPMinus1Over3 ∧
    Fp2.powNat xiM ((2 * Bn256.p - 2) / 3) = frobConsts.xiTo2PMinus2Over3 :=
  ⟨powNat_eq_of_res _ frobConsts_reduced.1 _ (by decide +kernel),
   powNat_eq_of_res _ frobConsts_reduced.2.1 _ (by decide +kernel),
   powNat_eq_of_res _ frobConsts_reduced.2.2.2.1 _ (by decide +kernel)⟩

/-- transport of one such equation to F_p² -/
theorem const_power_dec (c : F2) (hc : Red2 c) (n : Nat) (h : Fp2.powNat xiM n = c) :
    Fp2.map decR (lift2R c hc) = (Fp2.xi : Fp2 (ZMod p)) ^ n := by
  have hv : Fp2.map valF (Fp2.powNatG xiR n) = Fp2.map valF (lift2R c hc) := by
    rw [Fp2.map_powNatG valHom]
    exact h
  have hR : Fp2.powNatG xiR n = lift2R c hc := Fp2.map_inj valHom hv
  rw [← hR, Fp2.map_powNatG decHom, dec_xiR, Fp2.powNatG_eq_pow]

/-- **the code's Frobenius constants are the powers of ξ they are named after** (in F_p²) -/
theorem frobConstsFp_powers :
    frobConstsFp.xiToPMinus1Over6 = (Fp2.xi : Fp2 (ZMod p)) ^ ((p - 1) / 6) ∧
    frobConstsFp.xiToPMinus1Over3 = (Fp2.xi : Fp2 (ZMod p)) ^ ((p - 1) / 3) ∧
    frobConstsFp.xiTo2PMinus2Over3 = (Fp2.xi : Fp2 (ZMod p)) ^ ((2 * p - 2) / 3) := by
  obtain ⟨h6, h3, h23⟩ := frobConsts_powers_mont
  exact ⟨const_power_dec _ frobConsts_reduced.1 _ h6, const_power_dec _ frobConsts_reduced.2.1 _ h3,
    const_power_dec _ frobConsts_reduced.2.2.2.1 _ h23⟩

/-- **gfP12.Frobenius with the code's constants is x ↦ x^p** on gfP12 over F_p -/
theorem frobenius_is_p_power (a : Fp12 (ZMod p)) : Fp12.frobeniusG frobConstsFp a = a ^ p := by
  obtain ⟨h6, h3, h23⟩ := frobConstsFp_powers
  exact Fp12.frobeniusG_eq_pow p (fun c => ZMod.pow_card c) (by decide) frobConstsFp h3 h23 (by decide) h6 a

theorem frobenius6_is_p_power (a : Fp6 (ZMod p)) : Fp6.frobeniusG frobConstsFp a = a ^ p := by
  obtain ⟨_, h3, h23⟩ := frobConstsFp_powers
  exact Fp6.frobeniusG_eq_pow p (fun c => ZMod.pow_card c) (by decide) frobConstsFp h3 h23 (by decide) a

end Dos.Bn256
