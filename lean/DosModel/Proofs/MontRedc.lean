/-
C10 layer 2 — Montgomery reduction (`redc`, the number-level model of what gfpMul stores)
is correct for EVERY T below R·p, for any modulus p and any np with np·p ≡ −1 (mod R):
one conditional subtraction suffices, the result is below p and redc(T)·R ≡ T (mod p).
Outside the precondition (both operands arbitrary 256-bit values) the result is still
congruent but only known to be below R. Consequences for add/sub/neg on reduced inputs.
-/
import Mathlib.Data.Nat.ModEq
import DosModel.Model.Mont

namespace Dos.Mont

theorem R_pos : 0 < R := by decide

/-- R divides T + m·p: the quotient in `redcU` is exact -/
theorem redcU_mul_R (p np T : Nat) (hnp : (np * p + 1) % R = 0) :
    redcU p np T * R = T + (T % R * np % R) * p := by
  unfold redcU
  apply Nat.div_mul_cancel
  apply (Nat.modEq_zero_iff_dvd).mp
  have h1 : (T % R * np % R) * p ≡ (T % R * np) * p [MOD R] := (Nat.mod_modEq _ _).mul_right p
  have h2 : T ≡ T % R [MOD R] := (Nat.mod_modEq T R).symm
  have h3 : T % R + T % R * np * p = T % R * (np * p + 1) := by
    rw [Nat.mul_add, Nat.mul_one, Nat.add_comm, Nat.mul_assoc]
  have h4 : T % R * (np * p + 1) ≡ 0 [MOD R] :=
    (Nat.modEq_zero_iff_dvd).mpr (Dvd.dvd.mul_left (Nat.dvd_of_mod_eq_zero hnp) _)
  calc T + (T % R * np % R) * p ≡ T % R + (T % R * np) * p [MOD R] := h2.add h1
    _ = T % R * (np * p + 1) := h3
    _ ≡ 0 [MOD R] := h4

/-- the quotient exceeds the bound on T/R by less than p -/
theorem redcU_lt (p np T B : Nat) (hnp : (np * p + 1) % R = 0) (hp : 0 < p) (hT : T < R * B) :
    redcU p np T < B + p := by
  have hm : (T % R * np % R) * p < R * p := Nat.mul_lt_mul_of_pos_right (Nat.mod_lt _ R_pos) hp
  have : redcU p np T * R < (B + p) * R := by
    rw [redcU_mul_R p np T hnp, Nat.add_mul, Nat.mul_comm B, Nat.mul_comm p]
    exact Nat.add_lt_add hT hm
  exact Nat.lt_of_mul_lt_mul_right this

/-- **one subtraction suffices**: below the precondition T < R·p the quotient is below 2p -/
theorem one_subtraction_suffices (p np T : Nat) (hnp : (np * p + 1) % R = 0) (hT : T < R * p) :
    redcU p np T < 2 * p := by
  have hp : 0 < p := Nat.pos_of_ne_zero (by rintro rfl; simp at hT)
  have := redcU_lt p np T p hnp hp hT
  omega

theorem redcU_modEq (p np T : Nat) (hnp : (np * p + 1) % R = 0) :
    redcU p np T * R ≡ T [MOD p] := by
  rw [redcU_mul_R p np T hnp]
  exact Nat.add_mul_modulus_modEq_iff.mpr rfl

/-- the conditional subtraction keeps the congruence, whatever T is -/
theorem redc_modEq (p np T : Nat) (hnp : (np * p + 1) % R = 0) : redc p np T * R ≡ T [MOD p] := by
  refine Nat.ModEq.trans ?_ (redcU_modEq p np T hnp)
  unfold redc
  simp only
  split
  · rename_i hge
    have e : redcU p np T * R = (redcU p np T - p) * R + R * p := by
      rw [Nat.mul_comm R p, ← Nat.add_mul, Nat.sub_add_cancel hge]
    rw [e]
    exact (Nat.add_mul_modulus_modEq_iff.mpr rfl).symm
  · rfl

/-- … and brings a quotient below B + p below B -/
theorem redc_lt (p np T B : Nat) (hB : p ≤ B) (h : redcU p np T < B + p) : redc p np T < B := by
  unfold redc
  simp only
  split <;> omega

theorem redc_correct (p np T : Nat) (hnp : (np * p + 1) % R = 0) (hT : T < R * p) :
    redc p np T < p ∧ redc p np T * R ≡ T [MOD p] :=
  have hp : 0 < p := Nat.pos_of_ne_zero (by rintro rfl; simp at hT)
  ⟨redc_lt p np T p (Nat.le_refl p) (redcU_lt p np T p hnp hp hT), redc_modEq p np T hnp⟩

/-- outside the precondition (any T < R²): still congruent, but only known to fit four words -/
theorem redc_unreduced (p np T : Nat) (hnp : (np * p + 1) % R = 0) (hp : 0 < p) (hpR : p < R)
    (hT : T < R * R) : redc p np T < R ∧ redc p np T * R ≡ T [MOD p] :=
  ⟨redc_lt p np T R (Nat.le_of_lt hpR) (redcU_lt p np T R hnp hp hT), redc_modEq p np T hnp⟩

/-- what gfpMul stores, inside the precondition a·b < R·p (both reduced, or one operand an
ARBITRARY 256-bit value and the other reduced — Montgomery encoding of unreduced input) -/
theorem mulM_correct (p np a b : Nat) (hnp : (np * p + 1) % R = 0) (hpR : p < R)
    (hab : a * b < R * p) : mulM p np a b < p ∧ mulM p np a b * R ≡ a * b [MOD p] := by
  obtain ⟨h1, h2⟩ := redc_correct p np (a * b) hnp hab
  have : mulM p np a b = redc p np (a * b) := by
    unfold mulM; exact Nat.mod_eq_of_lt (by omega)
  rw [this]; exact ⟨h1, h2⟩

/-- outside the precondition: any two 256-bit operands -/
theorem mulM_unreduced (p np a b : Nat) (hnp : (np * p + 1) % R = 0) (hp : 0 < p) (hpR : p < R)
    (ha : a < R) (hb : b < R) : mulM p np a b < R ∧ mulM p np a b * R ≡ a * b [MOD p] := by
  have hT : a * b < R * R := Nat.mul_lt_mul'' ha hb
  obtain ⟨h1, h2⟩ := redc_unreduced p np (a * b) hnp hp hpR hT
  have : mulM p np a b = redc p np (a * b) := by unfold mulM; exact Nat.mod_eq_of_lt h1
  rw [this]; exact ⟨h1, h2⟩

/-- Montgomery multiplication is multiplication on decoded values: with R·Rinv ≡ 1 (mod p) -/
theorem mulM_decode (p np rinv a b : Nat) (hnp : (np * p + 1) % R = 0) (hpR : p < R)
    (hr : R * rinv ≡ 1 [MOD p]) (hab : a * b < R * p) :
    mulM p np a b * rinv ≡ (a * rinv) * (b * rinv) [MOD p] := by
  obtain ⟨_, h2⟩ := mulM_correct p np a b hnp hpR hab
  have e1 : mulM p np a b * rinv ≡ mulM p np a b * rinv * (R * rinv) [MOD p] := by
    simpa using (Nat.ModEq.refl (mulM p np a b * rinv)).mul hr.symm
  have e2 : mulM p np a b * rinv * (R * rinv) = (mulM p np a b * R) * (rinv * rinv) := Nat.mul_mul_mul_comm ..
  have e3 : (mulM p np a b * R) * (rinv * rinv) ≡ (a * b) * (rinv * rinv) [MOD p] := h2.mul_right _
  have e4 : (a * b) * (rinv * rinv) = (a * rinv) * (b * rinv) := Nat.mul_mul_mul_comm ..
  exact e1.trans (e2 ▸ e3) |>.trans (by rw [e4])

theorem mulM_red (p np : Nat) (hnp : (np * p + 1) % R = 0) (hpR : p < R) (rinv : Nat)
    (hr : R * rinv ≡ 1 [MOD p]) (x y : Nat) (hx : x < p) (hy : y < p) :
    mulM p np x y < p ∧ mulM p np x y * rinv ≡ (x * rinv) * (y * rinv) [MOD p] := by
  have hab : x * y < R * p := by
    calc x * y < p * p := Nat.mul_lt_mul'' hx hy
      _ ≤ R * p := Nat.mul_le_mul_right p (Nat.le_of_lt hpR)
  exact ⟨(mulM_correct p np x y hnp hpR hab).1, mulM_decode p np rinv x y hnp hpR hr hab⟩

theorem addM_correct (p a b : Nat) (hpR : p < R) (ha : a < p) (hb : b < p) :
    addM p a b = (a + b) % p := by
  unfold addM
  split
  · rename_i h
    rw [Nat.mod_eq_of_lt (by omega), Nat.mod_eq_sub_mod h, Nat.mod_eq_of_lt (by omega)]
  · rw [Nat.mod_eq_of_lt (by omega), Nat.mod_eq_of_lt (by omega)]

theorem subM_correct (p a b : Nat) (hpR : p < R) (ha : a < p) (hb : b < p) :
    subM p a b = (a + (p - b)) % p := by
  unfold subM
  split
  · rename_i h
    have : a + (p - b) = (a - b) + p := by omega
    rw [this, Nat.add_mod_right, Nat.mod_eq_of_lt (by omega)]
  · rename_i h
    have e : a + R - b + p = (a + (p - b)) + R := by omega
    rw [e, Nat.add_mod_right, Nat.mod_eq_of_lt (by omega), Nat.mod_eq_of_lt (by omega)]

theorem negM_correct (p a : Nat) (hpR : p < R) (ha : a < p) :
    negM p a = (p - a) % p := by
  unfold negM
  have e : (p + R - a) % R = p - a := by
    have : p + R - a = (p - a) + R := by omega
    rw [this, Nat.add_mod_right, Nat.mod_eq_of_lt (by omega)]
  simp only [e]
  split
  · rename_i h
    have : a = 0 := by omega
    subst this; simp
  · rename_i h
    rw [Nat.mod_eq_of_lt (by omega)]

end Dos.Mont
