/-
The production point group of `share/poly.go` as a module over the scalars.

`G2v` = the values of the model's bn256 G2 (`Model/Bn256.lean`: affine points over `Fp2`, the arithmetic
of `twist.go`) that are `G2.valid`: reduced coordinates, on the twist, killed by the group order `r` –
exactly what `pointG2.UnmarshalBinary` accepts.  With the MODEL's own `G2.add / G2.neg / G2.smul` it is

* an `AddCommGroup` (pulled back along the injective `pt2 : G2 → E'(F_p²)` of
  `Proofs/ComposeBn256Group.lean`, which turns the model's operations into Mathlib's group law), and
* a `Module (Zq r)` over the scalars the driver computes with (`k • P = G2.smul k.val P`; the module laws
  need `r • P = O`, which is part of `G2.valid`).  No hypothesis is left: `r` is proved prime
  (`Proofs/Primes.lean`), the torsion is in the subtype.

So every theorem of `Props/C09.lean` stated "for every field `F` and `F`-module `G`" holds at
`F = Zq r`, `G = G2v` – the group the production suite shares in – see `Props/C09G2.lean`.
-/
import DosModel.Proofs.ComposeBn256Group
import DosModel.Proofs.ComposePrimes
import DosModel.Proofs.Share
import DosModel.Proofs.ShareZq


namespace Dos.ShareG2
open Dos Dos.Bn256 Dos.Compose Dos.Compose.Curve

/-- valid G2 points of the model: what `pointG2.UnmarshalBinary` accepts -/
def G2v : Type := {P : Bn256.G2 // G2.valid P = true}

instance : DecidableEq G2v := fun a b => decidable_of_iff (a.1 = b.1) Subtype.ext_iff.symm

/-- the point of `E'(F_p²)` a valid model value denotes -/
noncomputable def φ (P : G2v) : (sw (c2 twistB)).Point := pt2 P.1

theorem φ_inj : Function.Injective φ := fun P Q h => Subtype.ext (pt2_inj P.2 Q.2 h)

theorem valid_inf : G2.valid (.inf : Bn256.G2) = true := rfl

instance : Zero G2v := ⟨⟨.inf, valid_inf⟩⟩
instance : Add G2v := ⟨fun P Q => ⟨G2.add P.1 Q.1, (valid2_add _ _ P.2 Q.2).1⟩⟩
instance : Neg G2v := ⟨fun P => ⟨G2.neg P.1, (valid2_neg _ P.2).1⟩⟩
instance : Sub G2v := ⟨fun P Q => P + -Q⟩
instance : SMul Nat G2v := ⟨fun k P => ⟨G2.smul k P.1, (valid2_smul k _ P.2).1⟩⟩
instance : SMul Int G2v := ⟨fun z P => match z with
  | .ofNat k => k • P
  | .negSucc k => -((k + 1) • P)⟩

theorem φ_zero : φ 0 = 0 := rfl
theorem φ_add (P Q : G2v) : φ (P + Q) = φ P + φ Q := (valid2_add _ _ P.2 Q.2).2
theorem φ_neg (P : G2v) : φ (-P) = -φ P := (valid2_neg _ P.2).2
theorem φ_sub (P Q : G2v) : φ (P - Q) = φ P - φ Q := by
  show φ (P + -Q) = _
  rw [φ_add, φ_neg, sub_eq_add_neg]
theorem φ_nsmul (k : Nat) (P : G2v) : φ (k • P) = k • φ P := (valid2_smul k _ P.2).2
theorem φ_zsmul (z : Int) (P : G2v) : φ (z • P) = z • φ P := by
  cases z with
  | ofNat k => show φ (k • P) = _; rw [φ_nsmul]; simp
  | negSucc k =>
    show φ (-((k + 1) • P)) = _
    rw [φ_neg, φ_nsmul, negSucc_zsmul]

/-- **the model's G2 (valid values) is a commutative group under the model's own operations** -/
noncomputable instance : AddCommGroup G2v :=
  Function.Injective.addCommGroup φ φ_inj φ_zero φ_add φ_neg φ_sub (fun P k => φ_nsmul k P)
    (fun P z => φ_zsmul z P)

/-- every valid point is killed by the group order -/
theorem order_nsmul (P : G2v) : Bn256.r • P = 0 := by
  apply φ_inj
  rw [φ_nsmul, φ_zero]
  exact valid2_torsion P.1 P.2

theorem r_eq : Bn256.r = Share.bn256Order := by decide

theorem mod_nsmul (c : Nat) (P : G2v) : (c % Share.bn256Order) • P = c • P :=
  (nsmul_eq_mod_nsmul c (r_eq ▸ order_nsmul P)).symm

/-- **… and a module over the scalars `Zq r`**: `k • P` is the model's `G2.smul k.val P` -/
noncomputable instance : Module (Zq Share.bn256Order) G2v where
  smul k P := k.val • P
  one_smul P := by
    show (1 % Share.bn256Order) • P = P
    rw [mod_nsmul, one_nsmul]
  mul_smul a b P := by
    show ((a.val * b.val) % Share.bn256Order) • P = a.val • (b.val • P)
    rw [mod_nsmul, mul_nsmul']
  smul_zero k := nsmul_zero _
  smul_add k P Q := nsmul_add _ _ _
  add_smul a b P := by
    show ((a.val + b.val) % Share.bn256Order) • P = a.val • P + b.val • P
    rw [mod_nsmul, add_nsmul]
  zero_smul P := by
    show (0 % Share.bn256Order) • P = 0
    rw [mod_nsmul, zero_nsmul]

/-- scalar multiplication of the module IS the model's `G2.smul` -/
theorem smul_val (k : Zq Share.bn256Order) (P : G2v) : (k • P).1 = G2.smul k.val P.1 := rfl

theorem add_val (P Q : G2v) : (P + Q).1 = G2.add P.1 Q.1 := rfl

/-- no non-zero scalar annihilates a non-zero valid point (`Zq r` is a field, the order being prime):
hypothesis `hb` of `check_iff` -/
theorem smul_eq_zero_imp (b : G2v) (hb : b ≠ 0) (c : Zq Share.bn256Order) (h : c • b = 0) : c = 0 :=
  (smul_eq_zero.mp h).resolve_right hb

/-- the generator of G2 as a valid point -/
def gen : G2v := ⟨g2gen, g2gen_valid⟩

theorem gen_ne_zero : gen ≠ 0 := by
  intro h
  have : g2gen = Bn256.G2.inf := congrArg Subtype.val h
  revert this; decide

end Dos.ShareG2
