/-
C10 layer 2/3 — gfpMul at limb level as a composition of the macro blocks of mul.h (MULQ
path) and mul_bmi2.h (MULX path). Both paths have the same shape (`mulStruct`): a 4×4 → 8
word product, m = the low four words of T·np, a second product m·p, the 512-bit addition of
which only the high five words are kept (`hi5`), and `gfpCarry`. They differ in how the
product and m are computed: `mul8` / `redM` (MULQ, ADDQ, ADCQ $0: one row per operand word,
`mulRow`, added to the shifted partial result, `accRow`) against `mulx8` / `redMX` (MULX does
not touch the flags, so the code interleaves products with two carry chains per operand
word; every chain is again an `accRow`). Proofs/AsmMul.lean shows that the flat models
generated from the listing ARE these compositions; the arithmetic is in
Proofs/MontMulSchool.lean and Proofs/MontMulRedc.lean.
-/
import DosModel.Proofs.MontLimbs

namespace Dos.Mont

structure L5 where
  lo : L4
  top : Nat

def L5.hi (r : L5) : L4 := ⟨r.lo.l1, r.lo.l2, r.lo.l3, r.top⟩

structure L8 where
  lo : L4
  hi : L4

/-- one step of a row of the `mul` macro: the next product `hi:lo` meets the word `d` carried
so far (ADDQ lo, d; ADCQ $0, hi); the finished word and the word carried on -/
def mulStep (d lo hi : Nat) : Nat × Nat := (addLo d lo, adcLo hi 0 (addC d lo))

/-- one row of the `mul` macro: x · (b3:b2:b1:b0) as five words -/
def mulRow (x : Nat) (b : L4) : L5 :=
  let s1 := mulStep (mulHi x b.l0) (mulLo x b.l1) (mulHi x b.l1)
  let s2 := mulStep s1.2 (mulLo x b.l2) (mulHi x b.l2)
  let s3 := mulStep s2.2 (mulLo x b.l3) (mulHi x b.l3)
  ⟨⟨mulLo x b.l0, s1.1, s2.1, s3.1⟩, s3.2⟩

/-- add four words to five (ADDQ, ADCQ ×3, ADCQ $0) -/
def accRow (r : L5) (s : L4) : L5 := ⟨(add4 r.lo s).1, adcLo r.top 0 (add4 r.lo s).2⟩

/-- the `mul` macro: a · b as eight words; each row is added to the upper four words left by
the rows before it -/
def mul8 (a b : L4) : L8 :=
  let r0 := mulRow a.l0 b
  let a1 := accRow (mulRow a.l1 b) r0.hi
  let a2 := accRow (mulRow a.l2 b) a1.hi
  let a3 := accRow (mulRow a.l3 b) a2.hi
  ⟨⟨r0.lo.l0, a1.lo.l0, a2.lo.l0, a3.lo.l0⟩, a3.hi⟩

/-- first part of `gfpReduce`: the low four words of t · np. Row i of the product np_i · t is
computed like `mulRow` but only up to word 3 − i, and every carry out of the fourth word is
dropped. -/
def redM (np t : L4) : L4 :=
  let a := (mulRow np.l0 t).lo
  let b := (mulRow np.l1 t).lo
  let c := (mulRow np.l2 t).lo
  let m1 := addLo a.l1 b.l0
  let k := addC a.l1 b.l0
  let e2 := adcLo a.l2 b.l1 k
  let k := adcC a.l2 b.l1 k
  let e3 := adcLo a.l3 b.l2 k
  let m2 := addLo e2 c.l0
  let k := addC e2 c.l0
  let f3 := adcLo e3 c.l1 k
  ⟨a.l0, m1, m2, addLo f3 (mulLo np.l3 t.l0)⟩

/-- the 512-bit addition T + M of `gfpReduce`, of which only the high five words are kept -/
def hi5 (m t : L8) : L5 :=
  let u := adc4 m.hi t.hi (add4 m.lo t.lo).2
  ⟨u.1, adcLo 0 0 u.2⟩

/-- gfpMul over a product block `mul` and a block `red` for the low words of t · np -/
def mulStruct (mul : L4 → L4 → L8) (red : L4 → L4 → L4) (p np a b : L4) : L4 :=
  let t := mul a b
  let u := hi5 (mul p (red np t.lo)) t
  carryLimbs p u.lo.l0 u.lo.l1 u.lo.l2 u.lo.l3 u.top

/-- row 0 of `mulBMI2`: a0·b with the low word split off; the other five words in R9..R13 -/
def mulxRow0 (x : Nat) (b : L4) : L5 :=
  accRow ⟨⟨mulHi x b.l0, mulHi x b.l1, mulHi x b.l2, mulHi x b.l3⟩, 0⟩ ⟨mulLo x b.l1, mulLo x b.l2, mulLo x b.l3, 0⟩

/-- first chain of a later row: add x·b0 and x·b2 (shifted by two words) to the accumulator -/
def mulxRowA (acc : L5) (x : Nat) (b : L4) : L5 :=
  accRow acc ⟨mulLo x b.l0, mulHi x b.l0, mulLo x b.l2, mulHi x b.l2⟩

/-- second chain: add x·b1 and x·b3 one word higher; a fresh top word receives the carry -/
def mulxRowB (a : L5) (x : Nat) (b : L4) : L5 :=
  accRow ⟨a.hi, 0⟩ ⟨mulLo x b.l1, mulHi x b.l1, mulLo x b.l3, mulHi x b.l3⟩

/-- the `mulBMI2` macro: a · b as eight words held in R8..R15. The second chain of the last
row is four words long in the code: its top word, always 0, is not computed. -/
def mulx8 (a b : L4) : L8 :=
  let x0 := mulxRow0 a.l0 b
  let a1 := mulxRowA x0 a.l1 b
  let b1 := mulxRowB a1 a.l1 b
  let a2 := mulxRowA b1 a.l2 b
  let b2 := mulxRowB a2 a.l2 b
  let a3 := mulxRowA b2 a.l3 b
  ⟨⟨mulLo a.l0 b.l0, a1.lo.l0, a2.lo.l0, a3.lo.l0⟩, (mulxRowB a3 a.l3 b).lo⟩

/-- first part of `gfpReduceBMI2`: the low four words of t · np. The code runs the chains of `mulBMI2`
on (np, t) and leaves out every word operation that feeds only the upper four words. -/
def redMX (np t : L4) : L4 := (mulx8 np t).lo

end Dos.Mont
