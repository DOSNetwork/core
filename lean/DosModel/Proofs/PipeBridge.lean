/-
C14: from the list of violations (what the per-pipeline `decide` theorems compute on the
regenerated IR) to the hypotheses of the general theorems: if no violation of W0–W5 is listed,
the pipeline satisfies `SafeOk` and `LiveOk`.
-/
import DosModel.Proofs.PipeLive4

namespace Dos.Pipe
variable {p : Pipeline}

theorem mem_dedup_aux (v : Violation) : ∀ (l acc : List Violation), (v ∈ acc ∨ v ∈ l) →
    v ∈ l.foldl (fun acc v => if acc.contains v then acc else acc ++ [v]) acc := by
  intro l
  induction l with
  | nil => intro acc h; rcases h with h | h; exact h; cases h
  | cons x xs ih =>
    intro acc h
    simp only [List.foldl_cons]
    apply ih
    rcases h with h | h
    · left; split
      · exact h
      · exact List.mem_append_left _ h
    · rcases List.mem_cons.mp h with h | h
      · subst h
        left
        split
        · rename_i hc; simpa using hc
        · simp
      · right; exact h

theorem mem_dedup {v : Violation} {l : List Violation} (h : v ∈ l) : v ∈ dedup l :=
  mem_dedup_aux v l [] (Or.inr h)

/-- a finding about a dropped error channel (W6) or an unclosed channel (W7): not a crash, a blocked
    goroutine or a missing `wgDone` -/
def benign (v : Violation) : Bool := decide (6 ≤ v.rule)

theorem no_listed (h : (violations p).all benign = true) {v : Violation}
    (hv : v ∈ w0Violations p ++ w1Violations p ++ w23Violations p ++ w4Violations p ++ w5Violations p ++
      w6Violations p ++ w7Violations p) : 6 ≤ v.rule := by
  rw [List.all_eq_true] at h
  have := h v (by unfold violations; exact mem_dedup hv)
  simpa [benign] using this

theorem w5_all (h : (violations p).all benign = true) {w : Nat} (hw : w < p.wgs.length) :
    W5w p w = true := by
  cases h5 : W5w p w with
  | true => rfl
  | false =>
    exfalso
    -- some rule-5 entry is listed
    have hex : ∃ v ∈ w5Violations p, v.rule = 5 := by
      unfold W5w at h5
      simp only [Bool.and_eq_false_iff] at h5
      unfold w5Violations
      rcases h5 with h5 | h5
      · simp only [List.all_eq_false] at h5
        obtain ⟨gr, hm, hgr⟩ := h5
        refine ⟨{ rule := 5, g := gr.name, c := "" }, ?_, rfl⟩
        simp only [List.mem_flatMap, List.mem_range, List.mem_append]
        refine ⟨w, hw, Or.inl ⟨gr, hm, ?_⟩⟩
        simp [hgr]
      · have hx : p.wgs[w]? = some p.wgs[w] := by simp [hw]
        rw [hx] at h5
        simp only at h5
        refine ⟨{ rule := 5, g := "", c := p.wgs[w].name }, ?_, rfl⟩
        simp only [List.mem_flatMap, List.mem_range, List.mem_append]
        refine ⟨w, hw, Or.inr ?_⟩
        rw [hx]
        simp [h5]
    obtain ⟨v, hv, hr⟩ := hex
    have := no_listed h (v := v) (by simp [hv])
    omega

theorem w1_all (h : (violations p).all benign = true) {c : Ch} (hc : c < p.chans.length) :
    W1c p c = true := by
  cases h1 : W1c p c with
  | true => rfl
  | false =>
    exfalso
    have hops : p.gsWhere (fun gr => gr.hasOps c) ≠ [] := by
      intro hnil
      have : discA p c = true := by unfold discA; rw [hnil]
      unfold W1c at h1
      simp [this] at h1
    obtain ⟨g, hg⟩ := List.exists_mem_of_ne_nil _ hops
    have hw5 : ∀ w ∈ List.range p.wgs.length, W5w p w = true := fun w hw => w5_all h (List.mem_range.mp hw)
    have hmem : ({ rule := 1, g := p.gkey g, c := p.ckey c } : Violation) ∈ w1Violations p := by
      unfold w1Violations
      simp only [List.mem_flatMap, List.mem_range]
      refine ⟨c, hc, ?_⟩
      rw [if_neg (by simp [h1])]
      have : (List.range p.wgs.length).any (fun w => !W5w p w) = false := by
        rw [List.any_eq_false]
        intro w hw
        simp [hw5 w hw]
      rw [this]
      simp only [Bool.false_and, Bool.false_eq_true, ↓reduceIte, List.mem_map]
      exact ⟨g, hg, rfl⟩
    have := no_listed h (v := { rule := 1, g := p.gkey g, c := p.ckey c }) (by simp [hmem])
    simp at this

theorem safeOk_of_violations (h : (violations p).all benign = true) : SafeOk p = true := by
  unfold SafeOk
  simp only [Bool.and_eq_true, List.all_eq_true, List.mem_range]
  exact ⟨fun c hc => w1_all h hc, fun w hw => w5_all h hw⟩

theorem w0_all (h : (violations p).all benign = true) : W0 p = true := by
  cases h0 : W0 p with
  | true => rfl
  | false =>
    have : ({ rule := 0, g := "", c := "" } : Violation) ∈ w0Violations p := by simp [w0Violations, h0]
    have := no_listed h (v := { rule := 0, g := "", c := "" }) (by simp [this])
    simp at this

theorem exists_mem_flatMap {α β : Type} {l : List α} {f : α → List β} {P : β → Prop} {a : α} (ha : a ∈ l)
    (h : ∃ b ∈ f a, P b) : ∃ b ∈ l.flatMap f, P b := by
  obtain ⟨b, hb, hp⟩ := h
  exact ⟨b, List.mem_flatMap.mpr ⟨a, ha, hb⟩, hp⟩

theorem exists_mem_ite_isEmpty {β : Type} {vs : List β} {d : β} {P : β → Prop} (hd : P d)
    (hvs : ∀ v ∈ vs, P v) : ∃ v ∈ (if vs.isEmpty then [d] else vs), P v := by
  by_cases hemp : vs.isEmpty = true
  · rw [if_pos hemp]; exact ⟨d, List.mem_singleton_self d, hd⟩
  · rw [if_neg hemp]
    obtain ⟨v, hv⟩ := List.exists_mem_of_ne_nil vs (by simpa using hemp)
    exact ⟨v, hv, hvs v hv⟩

theorem nodeLive_all (h : (violations p).all benign = true) {g : Gi} {gr : Goroutine}
    (hg : p.gs[g]? = some gr) (hd : gr.daemon = false) {nd : Node} (hnd : nd ∈ gr.nodes) :
    nodeLive p g nd = true := by
  cases hl : nodeLive p g nd with
  | true => rfl
  | false =>
    exfalso
    have hzip : (gr, g) ∈ p.gs.zipIdx := by
      rw [List.mem_zipIdx_iff_getElem?]; simpa using hg
    -- an entry of rule 2 or 3 is listed, among those produced for this node
    suffices hex : ∃ v ∈ w23Violations p, v.rule = 2 ∨ v.rule = 3 by
      obtain ⟨v, hv, hr⟩ := hex
      have := no_listed h (v := v) (by simp [hv])
      omega
    unfold w23Violations
    refine exists_mem_flatMap hzip ?_
    simp only [hd, Bool.false_eq_true, ↓reduceIte]
    refine exists_mem_flatMap hnd ?_
    simp only [hl, Bool.false_eq_true, ↓reduceIte]
    cases nd with
    | sel alts =>
      refine exists_mem_ite_isEmpty (Or.inl rfl) fun v hv => ?_
      simp only [List.mem_flatMap] at hv
      obtain ⟨a, _, hv⟩ := hv
      cases a <;> simp at hv
      case send c n => subst hv; left; rfl
      case recv c a b => subst hv; simp only; split <;> simp
    | wgWait w n =>
      simp only
      by_cases hin : w < p.wgs.length
      · rw [if_pos (w5_all h hin)]
        exact ⟨_, List.mem_singleton_self _, Or.inr rfl⟩
      · -- out of range: W0 is violated
        have := (W0_edge (w0_all h) hg (List.getElem?_of_mem hnd).choose_spec
          (l := .wgWait w) (n := n) (by simp [Node.edges])).1
        simp [Lab.inRange] at this
        exact absurd this hin
    | close c n => simp [nodeLive] at hl
    | branch ns => simp [nodeLive] at hl
    | wgDone w n => simp [nodeLive] at hl
    | spawn g' n => simp [nodeLive] at hl
    | cancel k n => simp [nodeLive] at hl
    | exit => simp [nodeLive] at hl

theorem liveOk_of_violations (h : (violations p).all benign = true) : LiveOk p = true := by
  unfold LiveOk
  simp only [Bool.and_eq_true, w0_all h, true_and, List.all_eq_true, Bool.or_eq_true]
  rintro ⟨gr, g⟩ hm
  have hg : p.gs[g]? = some gr := by
    have := List.mem_zipIdx_iff_getElem?.mp hm
    simpa using this
  cases hd : gr.daemon with
  | true => left; rfl
  | false =>
    right
    simp only [liveG, Bool.and_eq_true, List.all_eq_true]
    refine ⟨fun nd hnd => nodeLive_all h hg hd hnd, ?_⟩
    cases h4 : W4g p g gr with
    | true => rfl
    | false =>
      exfalso
      have : ({ rule := 4, g := gr.name, c := "" } : Violation) ∈ w4Violations p := by
        unfold w4Violations
        simp only [List.mem_flatMap]
        exact ⟨(gr, g), hm, by simp [hd, h4]⟩
      have := no_listed h (v := { rule := 4, g := gr.name, c := "" }) (by simp [this])
      simp at this

/-- a list of violations contained in a list of benign recorded findings is benign -/
theorem benign_of_subset {vs known : List Violation} (hs : subsetOf vs known = true)
    (hk : known.all benign = true) : vs.all benign = true := by
  rw [List.all_eq_true] at hk ⊢
  unfold subsetOf at hs
  rw [List.all_eq_true] at hs
  intro v hv
  have := hs v hv
  exact hk v (by simpa using this)

/-- with nothing recorded, nothing is violated -/
theorem subsetOf_nil {vs : List Violation} (h : subsetOf vs [] = true) : vs = [] := by
  cases vs with
  | nil => rfl
  | cons v vs => simp [subsetOf] at h

end Dos.Pipe
