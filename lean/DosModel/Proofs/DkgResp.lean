/-
What `verifyResponse` and `verifyJustification` keep of an aggregator (`AggMove.goodA`, `AggMove.deal`), the move
`ProcessResponse` makes (`processResponse_spec`), and the invariant `GoodGen` of `Proofs/DkgStep.lean` along the moves
of the pipeline, for every message.
-/
import DosModel.Proofs.DkgStep

set_option linter.unusedSectionVars false

namespace Dos.Dkg
open Dos Dos.Vss

variable {F G : Type} [Field F] [AddCommGroup G] [Module F G] [DecidableEq F] [DecidableEq G]

/-- a response accepted by `verifyResponse` lands in an empty slot of another member and is
recorded with the slot's session id and that member's signature -/
theorem goodA_verifyResponse (g : G) (own : Nat) (long : F) (L : List G) (dealer : G) (j : Nat)
    (a a' : Agg F G) (r : Response F G) (ha : GoodA g own long L dealer j a)
    (h : verifyResponse g a r = .ok a') :
    r.index ≠ own ∧ GoodA g own long L dealer j a' ∧ AggKeeps own a a' := by
  obtain ⟨hsid, ⟨pub, hpub, hsig⟩, hadd⟩ := verifyResponse_ok h
  obtain ⟨hlt, hempty, rfl⟩ := addResponse_ok hadd
  have hget := fun k => getResponse_set a r.index k r (by rw [ha.hlen, ← ha.hvs]; exact hlt)
  have hne : r.index ≠ own := by
    intro he; obtain ⟨ro, hro, _⟩ := ha.ownResp; rw [he] at hempty; rw [hempty] at hro; cases hro
  refine ⟨hne, ha.of_slot_change r.index hne rfl rfl (by simp) rfl rfl
    (fun k hk => by rw [hget, if_neg (Ne.symm hk)]) (fun _ => by rw [hget, if_pos rfl]; rfl) fun _ r' hr' => ?_⟩
  rw [hget, if_pos rfl] at hr'; cases hr'
  exact ⟨rfl, hsid, pub, r.status, by rw [← ha.hvs]; exact hpub, hsig⟩

theorem getResponse_approveStored (a : Agg F G) (idx k : Nat) :
    getResponse { a with responses := approveStored a.responses idx } k =
      if idx = k then (getResponse a k).map (fun r => { r with status := true }) else getResponse a k := by
  unfold getResponse approveStored
  simp only [List.getElem?_modify]
  by_cases h : idx = k
  · subst h
    rcases a.responses[idx]? with _ | x
    · simp
    · cases x <;> simp
  · simp [h]

theorem vj_cases (g : G) (a : Agg F G) (idx : Nat) (deal : Deal F G) (hdeal : a.deal.isSome = true) :
    (verifyJustification g a idx deal).1 = a ∨
    (verifyJustification g a idx deal).1 = { a with badDealer := true } ∨
    (verifyJustification g a idx deal).1 = { a with responses := approveStored a.responses idx } := by
  have hun := verifyDeal_stored_unchanged g a deal false hdeal
  unfold verifyJustification
  split
  · left; rfl          -- index out of range
  · split
    · left; rfl        -- no response stored for `idx`
    · split
      · left; rfl      -- the stored response is an approval
      · rcases hvd : verifyDeal g a deal false with ⟨a1, verr⟩
        rw [hvd] at hun; simp only at hun; subst hun
        rcases verr with _ | e
        · right; right; rfl
        · right; left; rfl

/-- `verifyJustification` on an aggregator that stores its deal: only the complainer's stored status
(or the bad-dealer flag) changes -/
theorem goodA_justification (g : G) (own : Nat) (long : F) (L : List G) (dealer : G) (j : Nat)
    (a : Agg F G) (idx : Nat) (deal : Deal F G) (ha : GoodA g own long L dealer j a)
    (hdeal : a.deal.isSome = true) (hidx : idx ≠ own) :
    GoodA g own long L dealer j (verifyJustification g a idx deal).1 ∧
      AggKeeps own a (verifyJustification g a idx deal).1 := by
  rcases vj_cases g a idx deal hdeal with h | h | h
  · rw [h]; exact ⟨ha, rfl, rfl, rfl, rfl, fun _ h => h⟩
  · rw [h]; exact ⟨⟨ha.hvs, ha.hdealer, ha.hlen, ha.ownResp, ha.others⟩, rfl, rfl, rfl, rfl, fun _ h => h⟩
  · rw [h]
    have hget := getResponse_approveStored a idx
    refine ha.of_slot_change idx hidx rfl rfl (by simp [approveStored]) rfl rfl
      (fun k hk => by rw [hget, if_neg (Ne.symm hk)]) (fun hs => by rw [hget, if_pos rfl]; simpa using hs)
      fun hij r' hr' => ?_
    -- the stored response of `idx` with its status set: `SlotOk` does not look at the status
    rw [hget, if_pos rfl] at hr'
    rcases hr : getResponse a idx with _ | r
    · rw [hr] at hr'; cases hr'
    · rw [hr] at hr'; cases hr'
      exact ha.others idx hidx hij r hr

theorem dealerProcessResponse_idx (g : G) (dl dl1 : Dealer F G) (r : Response F G) (jidx : Nat) (deal : Deal F G)
    (h : dealerProcessResponse g dl r = (dl1, .ok (some (jidx, deal)))) : jidx = r.index := by
  unfold dealerProcessResponse at h
  split at h
  · simp at h
  · split at h
    · simp at h
    · split at h
      · simp at h
      · simp only [Prod.mk.injEq, Except.ok.injEq, Option.some.injEq] at h
        exact h.2.1.symm

theorem getVerifier_lt {d : Gen F G} {j : Nat} {v : Verifier F G} (h : getVerifier d j = some v) :
    j < d.verifiers.length := by
  unfold getVerifier at h
  rcases hj : d.verifiers[j]? with _ | w
  · rw [hj] at h; cases h
  · exact (List.getElem?_eq_some_iff.1 hj).1

theorem ownResponse_shape (g : G) (d1 : Gen F G) (v1 : Verifier F G) (a' : Agg F G) (r : Response F G) :
    (ownResponse g d1 v1 a' r).1.participants = d1.participants ∧ (ownResponse g d1 v1 a' r).1.index = d1.index ∧
    (ownResponse g d1 v1 a' r).1.long = d1.long ∧
    ((ownResponse g d1 v1 a' r).1.verifiers = d1.verifiers ∨
      ∃ deal, (ownResponse g d1 v1 a' r).1.verifiers =
        d1.verifiers.set d1.index (some { v1 with agg := some (verifyJustification g a' r.index deal).1 })) := by
  unfold ownResponse
  split
  · exact ⟨rfl, rfl, rfl, Or.inl rfl⟩
  · exact ⟨rfl, rfl, rfl, Or.inl rfl⟩
  · rename_i dl1 jidx deal hdp
    cases dealerProcessResponse_idx g _ dl1 r jidx deal hdp
    split <;> rename_i hvj <;> exact ⟨rfl, rfl, rfl, Or.inr ⟨deal, by rw [hvj]; rfl⟩⟩

theorem vj_deal (g : G) (a : Agg F G) (idx : Nat) (deal : Deal F G) (dl : Deal F G) (h : a.deal = some dl) :
    (verifyJustification g a idx deal).1.deal = some dl := by
  rcases vj_cases g a idx deal (by rw [h]; rfl) with h' | h' | h' <;> rw [h'] <;> exact h

theorem verifyResponse_deal {g : G} {a a' : Agg F G} {r : Response F G} (h : verifyResponse g a r = .ok a') :
    a'.deal = a.deal := by
  obtain ⟨_, _, rfl⟩ := addResponse_ok (verifyResponse_ok h).2.2
  rfl

/-- no move loses a stored deal -/
theorem AggMove.deal {g : G} {own j : Nat} {lib : Bool} {a a2 : Agg F G} (h : AggMove g own j lib a a2)
    {dl : Deal F G} (hdl : a.deal = some dl) : a2.deal = some dl := by
  cases h with
  | resp hvr => rw [verifyResponse_deal hvr]; exact hdl
  | complaint deal _ hvr => exact vj_deal g _ _ deal dl (by rw [verifyResponse_deal hvr]; exact hdl)
  | just idx deal => exact vj_deal g a idx deal dl hdl

/-- the moves of the pipeline keep the slot invariant and what `AggKeeps` lists (the own slot stores its deal) -/
theorem AggMove.goodA {g : G} {own j : Nat} {a a2 : Agg F G} (h : AggMove g own j false a a2) {long : F} {L : List G}
    {dealer : G} (ha : GoodA g own long L dealer j a) (hown : j = own → a.deal.isSome = true) :
    GoodA g own long L dealer j a2 ∧ AggKeeps own a a2 := by
  cases h with
  | resp hvr => exact (goodA_verifyResponse g own long L dealer j a _ _ ha hvr).2
  | complaint deal hj hvr =>
    obtain ⟨hne, hga', hk⟩ := goodA_verifyResponse g own long L dealer j a _ _ ha hvr
    obtain ⟨hgj, hkj⟩ := goodA_justification g own long L dealer j _ _ deal hga' (by rw [hk.deal]; exact hown hj) hne
    exact ⟨hgj, hk.trans hkj⟩

/-- **`ProcessResponse`**: an error that leaves the state alone, or the response was compared with the session id
of the slot the message names and that slot's aggregator made one `AggMove` -/
theorem processResponse_spec (g : G) (lib : Bool) (d : Gen F G) (m : DkgResp F G) :
    (∃ e, processResponse g d m = (d, .error e)) ∨
    ∃ r v a a2, m.resp = some r ∧ getVerifier d m.index = some v ∧ v.agg = some a ∧ r.sid = a.sid ∧
      AggMove g d.index m.index lib a a2 ∧ SlotSet d (processResponse g d m).1 m.index { v with agg := some a2 } := by
  unfold processResponse
  -- the error exits in the order of the code: no response in the message, empty slot, verifier without
  -- aggregator, `verifyResponse` refuses; then another dealer's slot, then the own one
  split
  · exact Or.inl ⟨_, rfl⟩
  · rename_i r hr
    split
    · exact Or.inl ⟨_, rfl⟩
    · rename_i v hv
      split
      · exact Or.inl ⟨_, rfl⟩
      · rename_i a hagg
        split
        · exact Or.inl ⟨_, rfl⟩
        · rename_i a' hvr
          have hlt := getVerifier_lt hv
          refine Or.inr ⟨r, v, a, ?_⟩
          simp only
          split
          · exact ⟨a', hr, hv, hagg, (verifyResponse_ok hvr).1, .resp hvr, slotSet_set d _ hlt⟩
          · rename_i hmi
            have hme : m.index = d.index := by simpa using hmi
            obtain ⟨h1, h2, h3, h4⟩ := ownResponse_shape g (setVerifier d m.index { v with agg := some a' })
              { v with agg := some a' } a' r
            rcases h4 with h4 | ⟨deal, h4⟩
            · exact ⟨a', hr, hv, hagg, (verifyResponse_ok hvr).1, .resp hvr, .of_set h1 h2 h3 hlt (by rw [h4]; rfl)⟩
            · exact ⟨_, hr, hv, hagg, (verifyResponse_ok hvr).1, .complaint deal hme hvr,
                .of_set h1 h2 h3 hlt (by rw [h4]; simp only [setVerifier, List.set_set, hme])⟩

theorem processResponse_move (g : G) (lib : Bool) (d : Gen F G) (m : DkgResp F G) :
    Move g lib d (processResponse g d m).1 := by
  rcases processResponse_spec g lib d m with ⟨e, h⟩ | ⟨_, _, _, _, _, hv, hagg, _, hm, hs⟩
  · rw [h]; exact .stay
  · exact .agg hv hagg hm hs

theorem goodGen0_move {g : G} {d d' : Gen F G} (h : Move g false d d') (hd : GoodGen0 g d)
    (hown : ∀ v a, getVerifier d d.index = some v → v.agg = some a → a.deal.isSome = true) : GoodGen0 g d' := by
  obtain ⟨hp, hi, hl, hn⟩ := h.frame
  refine ⟨by rw [hn, hp]; exact hd.len, by rw [hl, hp, hi]; exact hd.idx, by rw [hi, hp]; exact hd.lt, ?_⟩
  rw [hi, hl, hp]
  refine h.forall_slots hd.len (fun hp _ _ ho => ?_) (fun hv hagg hm hgv => ?_) hd.good
  · cases ho with
    | failed => exact ⟨hp, rfl, rfl, rfl, by rintro _ ⟨⟩⟩
    | answered _ _ hga _ _ => exact ⟨hp, rfl, rfl, rfl, fun _ h => by cases h; exact hga⟩
  · exact ⟨hgv.hdealer, hgv.hvs, hgv.hlong, hgv.hindex, fun _ h => by
      cases h; exact (hm.goodA (hgv.hagg _ hagg) (fun hj => hown _ _ (hj ▸ hv) hagg)).1⟩

/-- the pipeline's moves keep `GoodGen`: the own slot stays taken and keeps its deal -/
theorem goodGen_move {g : G} {d d' : Gen F G} (h : Move g false d d') (hd : GoodGen g d) : GoodGen g d' := by
  have h0 := goodGen0_move h hd.toGoodGen0 hd.ownDeal
  obtain ⟨v, hv⟩ := Option.isSome_iff_exists.1 hd.ownSlot
  refine ⟨h0, ?_, fun w a2 hw ha2 => ?_⟩ <;> rw [h.frame.2.1] at *
  · rcases h.slot_kept hd.len hv with h | ⟨_, _, _, _, h⟩ <;> rw [h] <;> rfl
  · rcases h.slot_kept hd.len hv with h | ⟨a, a3, hagg, hm, h⟩ <;> cases h.symm.trans hw
    · exact hd.ownDeal v a2 hv ha2
    · cases ha2
      obtain ⟨dl, hdl⟩ := Option.isSome_iff_exists.1 (hd.ownDeal v a hv hagg)
      rw [hm.deal hdl]; rfl

theorem processDeal_good (g : G) (d : Gen F G) (dd : DkgDeal F G) (hd : GoodGen g d) :
    GoodGen g (processDeal g d dd).1 :=
  goodGen_move (processDeal_move g false d dd hd.idx) hd

theorem processResponse_good (g : G) (d : Gen F G) (m : DkgResp F G) (hd : GoodGen g d) :
    GoodGen g (processResponse g d m).1 :=
  goodGen_move (processResponse_move g false d m) hd

end Dos.Dkg
