import DosModel.Proofs.Framing

/-! The step machine of `Model/Framing.lean` (`readFrom` cut at its `conn.Read` calls) run long enough ends with
`readFrame`'s result: each of its two read loops follows `readN` (`loop_follows_readN`), and `Reaches` chains the
pieces without counting steps.  Two machines under a schedule are each machine alone with its own number of turns
(`runInter_split`). -/
namespace Dos.Framing
open Dos

theorem iterReader_add (L : Nat) : ∀ (a b : Nat) (r : Reader),
    iterReader L (a + b) r = iterReader L b (iterReader L a r) := by
  intro a
  induction a with
  | zero => intro b r; simp [iterReader]
  | succ a ih => intro b r; rw [Nat.succ_add]; simp [iterReader, ih]

theorem step_fin (L : Nat) (out : Except Err Bytes) (req : Nat) (cs : List Bytes) :
    stepReader L { ph := .fin out req, cs := cs } = { ph := .fin out req, cs := cs } := rfl

theorem iter_fin (L : Nat) (out : Except Err Bytes) (req : Nat) (cs : List Bytes) :
    ∀ k, iterReader L k { ph := .fin out req, cs := cs } = { ph := .fin out req, cs := cs } := by
  intro k; induction k with
  | zero => rfl
  | succ k ih => simp [iterReader, step_fin, ih]

theorem step_hdr0_bad (L : Nat) (acc : Bytes) (cs : List Bytes) (hc : beNat acc > L ∨ beNat acc = 0) :
    stepReader L { ph := .hdr 0 acc, cs := cs } = { ph := .fin (.error .size) headerSize, cs := cs } := by
  simp [stepReader, hc]

theorem step_hdr0_ok (L : Nat) (acc : Bytes) (cs : List Bytes) (hc : ¬ (beNat acc > L ∨ beNat acc = 0)) :
    stepReader L { ph := .hdr 0 acc, cs := cs } = { ph := .body (beNat acc) (beNat acc) [], cs := cs } := by
  simp [stepReader, hc]

theorem step_body0 (L size : Nat) (acc : Bytes) (cs : List Bytes) :
    stepReader L { ph := .body size 0 acc, cs := cs } = { ph := .fin (.ok acc) (max headerSize size), cs := cs } := rfl

def Reaches (L : Nat) (r r' : Reader) : Prop := ∃ k, iterReader L k r = r'

theorem Reaches.refl (L : Nat) (r : Reader) : Reaches L r r := ⟨0, rfl⟩

theorem Reaches.head {L : Nat} {r r' : Reader} : Reaches L (stepReader L r) r' → Reaches L r r' :=
  fun ⟨k, h⟩ => ⟨k + 1, h⟩

theorem Reaches.trans {L : Nat} {a b c : Reader} : Reaches L a b → Reaches L b c → Reaches L a c :=
  fun ⟨k1, h1⟩ ⟨k2, h2⟩ => ⟨k1 + k2, by rw [iterReader_add, h1, h2]⟩

/-- a read loop of the machine — phase `mk need acc` while `need` bytes are missing, `fail` when the
connection ends — follows `readN`; the header loop and the content loop are the two instances -/
theorem loop_follows_readN (L : Nat) (mk : Nat → Bytes → Phase) (fail : Phase)
    (hstep : ∀ need acc cs, stepReader L { ph := mk (need + 1) acc, cs := cs } =
      match cs with
      | [] => { ph := fail, cs := [] }
      | ch :: cs =>
        if ch.length = 0 then { ph := mk (need + 1) acc, cs := cs }
        else if ch.length ≤ need + 1 then { ph := mk (need + 1 - ch.length) (acc ++ ch), cs := cs }
        else { ph := mk 0 (acc ++ ch.take (need + 1)), cs := ch.drop (need + 1) :: cs }) :
    ∀ (cs : List Bytes) (n : Nat) (acc : Bytes),
      Reaches L { ph := mk n acc, cs := cs }
        (match readN n cs with
          | none => { ph := fail, cs := [] }
          | some (b, r) => { ph := mk 0 (acc ++ b), cs := r }) := by
  intro cs
  induction cs with
  | nil =>
    intro n acc
    cases n with
    | zero => simpa [readN] using Reaches.refl L _
    | succ n => exact .head (by simpa [hstep, readN] using Reaches.refl L _)
  | cons ch cs ih =>
    intro n acc
    cases n with
    | zero => simpa [readN] using Reaches.refl L _
    | succ n =>
      refine .head ?_
      rw [hstep]
      by_cases h0 : ch.length = 0
      · simpa [readN, h0] using ih (n + 1) acc
      · by_cases hle : ch.length ≤ n + 1
        · have := ih (n + 1 - ch.length) (acc ++ ch)
          simp only [readN, h0, hle, if_true, if_false]
          cases hr : readN (n + 1 - ch.length) cs with
          | none => simpa [hr] using this
          | some p => simpa [hr, List.append_assoc] using this
        · simpa [readN, h0, hle] using Reaches.refl L _

theorem machine_is_readFrame (L : Nat) (cs : List Bytes) :
    ∃ k0, ∀ k, k0 ≤ k → readerResult (iterReader L k (initReader cs)) = some (readFrame L cs) := by
  -- it is enough to reach the final state once: `fin` is absorbing
  suffices h : Reaches L (initReader cs)
      { ph := .fin (readFrame L cs).out (readFrame L cs).req, cs := (readFrame L cs).rest } by
    obtain ⟨k0, h⟩ := h
    refine ⟨k0, fun k hk => ?_⟩
    obtain ⟨d, rfl⟩ := Nat.exists_eq_add_of_le hk
    rw [iterReader_add, h, iter_fin]; rfl
  refine (loop_follows_readN L .hdr (.fin (.error .header) headerSize)
    (fun _ _ cs => by cases cs <;> rfl) cs headerSize []).trans ?_
  unfold readFrame
  cases readN headerSize cs with
  | none => exact .refl L _
  | some p =>
    obtain ⟨hb, cs1⟩ := p
    refine .head ?_
    simp only [List.nil_append]
    by_cases hc : beNat hb > L ∨ beNat hb = 0
    · rw [step_hdr0_bad L hb cs1 hc, if_pos hc]
      exact .refl L _
    · rw [step_hdr0_ok L hb cs1 hc, if_neg hc]
      refine (loop_follows_readN L (.body (beNat hb)) (.fin (.error .body) (max headerSize (beNat hb)))
        (fun _ _ cs => by cases cs <;> rfl) cs1 (beNat hb) []).trans ?_
      cases readN (beNat hb) cs1 with
      | none => exact .refl L _
      | some q =>
        refine .head ?_
        show Reaches L (stepReader L { ph := .body (beNat hb) 0 ([] ++ q.1), cs := q.2 }) _
        rw [step_body0]
        exact .refl L _

def countTrue : List Bool → Nat
  | [] => 0
  | true :: s => countTrue s + 1
  | false :: s => countTrue s

def countFalse : List Bool → Nat
  | [] => 0
  | true :: s => countFalse s
  | false :: s => countFalse s + 1

theorem runInter_split (L : Nat) : ∀ (sch : List Bool) (a b : Reader),
    runInter L sch (a, b) = (iterReader L (countTrue sch) a, iterReader L (countFalse sch) b) := by
  intro sch
  induction sch with
  | nil => intro a b; rfl
  | cons x sch ih => intro a b; cases x <;> simp [runInter, ih, countTrue, countFalse, iterReader]

end Dos.Framing
