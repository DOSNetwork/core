/-
Honest key generation (C04): whatever sequence of GENUINE deals and responses a member's
`DistKeyGenerator` processes – any order, any repetition, any subset – every deal it stores is the
dealer's genuine deal for it; hence a finished member outputs the coefficient-wise sum of the
dealers' commitments and the sum of the dealers' polynomials at its own index.
-/
import DosModel.Proofs.DkgMember
import DosModel.Model.DkgNet
import DosModel.Proofs.Share

set_option linter.unusedSectionVars false

namespace Dos.Dkg
open Dos Dos.Vss

variable {F G : Type} [Field F] [AddCommGroup G] [Module F G] [DecidableEq F] [DecidableEq G]

/-- a genuine deal message: dealer `j`'s deal for some member `i'`, sealed by `j` -/
def GenuineDeal (c : Cfg F G) (m : DkgDeal F G) : Prop :=
  ∃ (j i' : Nat) (long eph : F) (f : List F) (rnd : Nat), c.longs[j]? = some long ∧ c.polys[j]? = some f ∧
    m = ⟨j, sealDeal c.g long c.pubs i' eph rnd (.deal (honestDeal c.g long c.pubs f i'))⟩

/-- every stored deal is the genuine one of that slot's dealer for this member -/
def StoredGenuine (c : Cfg F G) (d : Gen F G) : Prop :=
  ∀ j dl, dealAt d j = some dl → ∃ long f, c.longs[j]? = some long ∧ c.polys[j]? = some f ∧
    dl = honestDeal c.g long c.pubs f d.index

theorem sealed_plain {g : G} {long : F} {L : List G} {i : Nat} {eph : F} {rnd : Nat} {pt : Plain F G}
    {e : EncDeal F G} (h : sealDeal g long L i eph rnd pt = some e) (v : Verifier F G) (d : Deal F G)
    (hd : decryptDeal g v e = .ok d) : pt = .deal d := by
  obtain ⟨_, X, _, _, hc⟩ := (decryptDeal_ok_iff g v e d).1 hd
  unfold sealDeal at h
  split at h
  · cases h
  · injection h with h; subst h
    simp only [Cipher.seal.injEq] at hc
    exact hc.2.2.2

theorem dealAt_setVerifier (d : Gen F G) (j : Nat) (w : Verifier F G) (hj : j < d.verifiers.length) (k : Nat) :
    dealAt (setVerifier d j w) k = if j = k then w.agg.bind (·.deal) else dealAt d k := by
  unfold dealAt
  rw [getVerifier_set d j k w hj]
  split <;> rfl

/-- **where a stored deal comes from**: a deal stored after `ProcessDeal` was stored before, or it is what the
new verifier of slot `dd.index` decrypted from the message, and carries a share for the own index -/
theorem processDeal_stored (g : G) (d : Gen F G) (dd : DkgDeal F G) (hd : GoodGen0 g d) (k : Nat) (dl : Deal F G) :
    dealAt (processDeal g d dd).1 k = some dl → dealAt d k = some dl ∨
    (k = dd.index ∧ ∃ pub e val, dd.deal = some e ∧ decryptDeal g (slotVerifier g d pub d.index) e = .ok dl ∧
      dl.share = some ⟨(d.index : Int), some val⟩) := by
  intro hk
  rcases processDeal_spec g d dd hd.idx with ⟨e, h⟩ | ⟨pub, w, hp, _, _, hw, hcase⟩
  · rw [h] at hk; exact Or.inl hk
  · rw [hw, dealAt_setVerifier d dd.index _ (hd.len ▸ (List.getElem?_eq_some_iff.1 hp).1)] at hk
    split at hk
    · rename_i hjk
      obtain ⟨hn, _⟩ | ⟨a, _, dl', val, e, hwa, _, _, _, hdl, hsh, hde, hdec, _⟩ := hcase
      · rw [hn] at hk; cases hk
      · rw [hwa] at hk
        cases hdl.symm.trans hk
        exact Or.inr ⟨hjk.symm, pub, e, val, hde, hdec, hsh⟩
    · exact Or.inl hk

/-- `ProcessDeal` of a genuine deal keeps "all stored deals are genuine": the opened deal is the sealed
plaintext, and `ProcessDeal` only stores it if its share index is this member's -/
theorem processDeal_genuine (c : Cfg F G) (d : Gen F G) (m : DkgDeal F G) (hd : GoodGen0 c.g d)
    (hs : StoredGenuine c d) (hm : GenuineDeal c m) :
    StoredGenuine c (processDeal c.g d m).1 := by
  obtain ⟨j, i', long, eph, f, rnd, hlong, hf, rfl⟩ := hm
  intro k dl hk
  rw [(processDeal_move c.g false d _ hd.idx).frame.2.1]
  rcases processDeal_stored c.g d _ hd k dl hk with h | ⟨rfl, pub, e, val, hdeal, hdec, hsh⟩
  · exact hs k dl h
  · injection sealed_plain (show sealDeal _ _ _ _ _ _ _ = some e from hdeal) _ dl hdec with hpt
    subst hpt
    injection hsh with hsh; injection hsh with hi' _
    exact ⟨long, f, hlong, hf, by rw [Int.natCast_inj.1 hi']⟩

/-- `ProcessResponse` never changes a stored deal -/
theorem processResponse_genuine (c : Cfg F G) (d : Gen F G) (m : DkgResp F G) (hd : GoodGen c.g d)
    (hs : StoredGenuine c d) : StoredGenuine c (processResponse c.g d m).1 := by
  rcases processResponse_spec c.g false d m with ⟨e, h⟩ | ⟨_, v, a, a2, _, hv, hagg, _, hm, hset⟩
  · rw [h]; exact hs
  · intro j dl hj
    rw [hset.index]
    apply hs j dl
    unfold dealAt at hj ⊢
    rw [hset.get] at hj
    split at hj
    · subst_vars
      rw [hv]
      simpa [hagg, (hm.goodA ((hd.good _ v hv).hagg a hagg) fun h => hd.ownDeal v a (h ▸ hv) hagg).2.deal] using hj
    · exact hj

theorem map_range_eq_map {α β : Type} (l : List β) (φ : Nat → α) (ψ : β → α)
    (h : ∀ j (hj : j < l.length), φ j = ψ l[j]) : (List.range l.length).map φ = l.map ψ := by
  apply List.ext_getElem
  · simp
  · intro k h1 h2
    simp only [List.getElem_map, List.getElem_range]
    exact h k (by simpa using h1)

/-- **what a finished honest member outputs**: with all stored deals genuine, `DistKeyShare()` returns
the sum of all dealers' commitment vectors and the sum of all dealers' polynomials at the own index. -/
theorem finished_genuine (c : Cfg F G) (d : Gen F G) (ks : KeyShare F G) (hlen : d.verifiers.length = d.participants.length)
    (hn : d.participants.length = c.n) (hpl : c.polys.length = c.n) (hs : StoredGenuine c d)
    (h : distKeyShare d = .ok ks) :
    ks.commits = vecSum (c.polys.map (commit c.g)) ∧
    ks.shareV = (c.polys.map (fun f => priEval f (d.index : Int))).sum ∧ ks.shareI = d.index := by
  obtain ⟨_, hslots, hcom, _, hsh, hi, _⟩ := distKeyShare_spec d ks hlen h
  have hat : ∀ j (hj : j < c.polys.length), ∃ long, dealAt d j = some (honestDeal c.g long c.pubs c.polys[j] d.index) := by
    intro j hj
    obtain ⟨v, a, dl, _, _, hv, hagg, hdl, _, _⟩ := hslots j (by rw [hn, ← hpl]; exact hj)
    have hda := dealAt_eq hv hagg hdl
    obtain ⟨long, f, _, hf, hdeq⟩ := hs j dl hda
    rw [List.getElem?_eq_getElem hj] at hf; injection hf with hf
    exact ⟨long, by rw [hda, hdeq, hf]⟩
  rw [hn, ← hpl] at hcom hsh
  refine ⟨?_, ?_, hi⟩
  · rw [hcom, map_range_eq_map c.polys _ (commit c.g) (fun j hj => by
      obtain ⟨long, hda⟩ := hat j hj; simp [commitsAt, hda, honestDeal])]
  · rw [hsh, map_range_eq_map c.polys _ (fun f => priEval f (d.index : Int)) (fun j hj => by
      obtain ⟨long, hda⟩ := hat j hj; simp [valAt, hda, valOf, honestDeal])]

/-- States of member `i`'s `DistKeyGenerator` reachable in a run in which every deal is genuine:
`Deals()` on a fresh generator, then ANY sequence of `ProcessDeal` on genuine deals (any dealer, any
addressee, repeated, in any order) and `ProcessResponse` on arbitrary responses. Every schedule of
the networked protocol among honest members only produces such sequences. -/
inductive HonestReach (c : Cfg F G) (i : Nat) : Gen F G → Prop
  | init (long : F) (f ephs : List F) (d0 d1 : Gen F G) (ds : List (Nat × DkgDeal F G)) :
      c.longs[i]? = some long → c.polys[i]? = some f → newGen c.g long c.pubs f = .ok d0 →
      deals c.g d0 ephs = .ok (d1, ds) → HonestReach c i d1
  | deal (d : Gen F G) (m : DkgDeal F G) : HonestReach c i d → GenuineDeal c m →
      HonestReach c i (processDeal c.g d m).1
  | resp (d : Gen F G) (m : DkgResp F G) : HonestReach c i d → HonestReach c i (processResponse c.g d m).1

theorem findIndex_nodup (pub : G) : ∀ (l : List G) (k i : Nat), l.Nodup → l[i]? = some pub →
    findIndex pub l k = some (k + i)
  | [], _, _, _, h => by simp at h
  | p :: ps, k, 0, _, h => by
    simp only [List.getElem?_cons_zero, Option.some.injEq] at h
    simp [findIndex, h]
  | p :: ps, k, i + 1, hnd, h => by
    rw [List.getElem?_cons_succ] at h
    obtain ⟨hp, hnd'⟩ := List.nodup_cons.1 hnd
    have hne : p ≠ pub := fun he => hp (he ▸ List.mem_of_getElem? h)
    rw [findIndex, if_neg hne, findIndex_nodup pub ps (k + 1) i hnd' h, Nat.add_assoc, Nat.add_comm 1 i]

theorem findIndex_get (pub : G) : ∀ (l : List G) (k i : Nat), findIndex pub l k = some i → l[i - k]? = some pub
  | [], k, i, h => by simp [findIndex] at h
  | p :: ps, k, i, h => by
    unfold findIndex at h
    by_cases hp : p = pub
    · simp only [hp, if_true, Option.some.injEq] at h; subst h; simp [hp]
    · simp only [hp, if_false] at h
      have := findIndex_get pub ps (k + 1) i h
      have hlt := (findIndex_lt pub ps (k + 1) i h).1
      have : i - k = (i - (k + 1)) + 1 := by omega
      rw [this]; simpa using ‹ps[i - (k + 1)]? = some pub›

/-- the dealer `NewDistKeyGenerator` creates -/
theorem newGen_dealer {g : G} {long : F} {L : List G} {f : List F} {d : Gen F G} (h : newGen g long L f = .ok d) :
    d.verifiers.length = L.length ∧ d.dealer.long = long ∧ d.dealer.vs = L ∧
    d.dealer.deals = (List.range L.length).map (fun k => honestDeal g long L f k) ∧
    d.dealer.agg = newAgg (long • g) L (commit g f) f.length (.h (long • g) L (commit g f) f.length) := by
  obtain ⟨_, _, rfl⟩ := newGen_ok h
  exact ⟨by simp, rfl, rfl, rfl, rfl⟩

/-- the encrypted deal a fresh generator computes for member `tgt` -/
theorem encryptedDeals_newGen {g : G} {long : F} {L : List G} {f : List F} {d : Gen F G}
    (h : newGen g long L f = .ok d) (ephs : List F) {tgt : Nat} (ht : tgt < L.length) :
    ((encryptedDeals g d.dealer ephs)[tgt]?).join =
      (ephs[tgt]?).bind (fun eph => sealDeal g long L tgt eph 0 (.deal (honestDeal g long L f tgt))) := by
  obtain ⟨_, h1, h2, h3, _⟩ := newGen_dealer h
  unfold encryptedDeals
  rw [h2, h3, h1]
  simp only [List.getElem?_map, List.getElem?_range ht, Option.map_some, Option.join_some]
  cases ephs[tgt]? <;> rfl

theorem honestReach_inv (c : Cfg F G) (i : Nat) (hnd : c.pubs.Nodup) (d : Gen F G)
    (h : HonestReach c i d) :
    GoodGen c.g d ∧ StoredGenuine c d ∧ d.participants = c.pubs ∧ d.index = i := by
  induction h with
  | init long f ephs d0 d1 ds hlong hf hng hdl =>
    obtain ⟨h0, hempty, hp, hl, hdf⟩ := newGen_good0 hng
    obtain ⟨i1, _, i3, i4, i5, i6⟩ := deals_good c.g d0 d1 ephs ds h0 hempty hdl
    have hidx : d0.index = i := by
      have h1 := h0.idx
      rw [hp, hl, findIndex_nodup _ c.pubs 0 i hnd (by simp [Cfg.pubs, hlong]), Nat.zero_add] at h1
      injection h1 with h1; exact h1.symm
    refine ⟨i1, ?_, by rw [i5, hp], by rw [i3, hidx]⟩
    -- the own deal is the only stored one, and it is genuine
    have hown : GenuineDeal c { index := d0.index, deal := ((encryptedDeals c.g d0.dealer ephs)[d0.index]?).join } := by
      rw [encryptedDeals_newGen hng ephs (by rw [← hp]; exact h0.lt), hidx]
      rcases ephs[i]? with _ | eph
      · -- no ephemeral secret: no encrypted deal (a deal nobody can process)
        exact ⟨i, c.pubs.length, long, 0, f, 0, hlong, hf, by simp [sealDeal]⟩
      · exact ⟨i, i, long, eph, f, 0, hlong, hf, rfl⟩
    have hsg0 : StoredGenuine c d0 := by
      intro j dl hj; simp [dealAt, hempty j] at hj
    rcases deals_ok hdl with ⟨_, rfl⟩ | ⟨_, _, hpd, _⟩
    · exact hsg0
    · have := processDeal_genuine c d0 _ h0 hsg0 hown
      rwa [hpd] at this
  | deal d m _ hm ih =>
    obtain ⟨i1, i2, i3, i4⟩ := ih
    have hgood := processDeal_good c.g d m i1
    have hgen := processDeal_genuine c d m i1.toGoodGen0 i2 hm
    have hfr := (processDeal_move c.g false d m i1.idx).frame
    exact ⟨hgood, hgen, hfr.1.trans i3, hfr.2.1.trans i4⟩
  | resp d m _ ih =>
    obtain ⟨i1, i2, i3, i4⟩ := ih
    have hfr := (processResponse_move c.g false d m).frame
    exact ⟨processResponse_good c.g d m i1, processResponse_genuine c d m i1 i2, by rw [hfr.1, i3], by rw [hfr.2.1, i4]⟩

theorem headD_zipWith_add (p q : List F) (h : p.length = q.length) :
    (List.zipWith (· + ·) p q).headD 0 = p.headD 0 + q.headD 0 := by
  cases p with
  | nil => cases q <;> simp_all
  | cons a p => cases q with
    | nil => simp at h
    | cons b q => simp

/-- the constant coefficient of the summed polynomial is the sum of the dealers' secrets -/
theorem headD_vecSum (L : Nat) (fs : List (List F)) (h : ∀ f ∈ fs, f.length = L) :
    (vecSum fs).headD 0 = (fs.map (fun f => f.headD 0)).sum :=
  vecSum_hom (fun f => f.headD 0) L rfl (fun p q hp hq => headD_zipWith_add p q (hp.trans hq.symm)) fs h

theorem headD_commit (g : G) (f : List F) : (commit g f).headD 0 = f.headD 0 • g := by
  cases f <;> simp [commit]

/-- this model's Horner evaluation is the one of the model of share/poly.go -/
theorem priEval_eq_share (f : List F) (i : Int) : priEval f i = Share.priEval f i := rfl

/-- `Share.recoverSecret_ok` in the form `Props/C04.lean` has at hand: `t` entries are usable and the first `t`
usable ones carry distinct indices -/
theorem recoverSecret_of_shares (dp : Bool) (f : List F) (t n : Nat) (ht : 0 < t) (hf : f.length ≤ t)
    (hc : Share.CharGt F n) (shares : List (Option (Share.PriShare F)))
    (hval : ∀ iv ∈ shares.filterMap (Share.usablePri n), iv.2 = Share.priEval f iv.1)
    (hcnt : t ≤ (shares.filterMap (Share.usablePri n)).length)
    (hdist : (((shares.filterMap (Share.usablePri n)).take t).map (·.1)).Nodup) :
    Share.recoverSecret dp shares t n = .ok (f.headD 0) :=
  Share.recoverSecret_ok dp f t n ht hf hc shares hval (Share.card_of_take_nodup _ t hcnt hdist)

end Dos.Dkg
