/-
C10 layer 5 — bridge to Mathlib's group law. For any field K of characteristic ≠ 2 and any b,
let W be the curve y² = x³ + b and `toPoint` the map from Jacobian triples to Mathlib's
`W.Point` (identity for z = 0, the affine point (X/Z², Y/Z³) otherwise). On valid triples
(identity, or finite with a nonsingular affine image) the transcribed `Jac.add` and
`Jac.double` ARE Mathlib's addition: `toPoint (add c a b) = toPoint a + toPoint b`, for every
receiver, every pair of representatives and every branch of the code (identity, P+P, P+(−P),
general). Since `W.Point` is an `AddCommGroup` (Mathlib), the code's G1 / G2 addition is
associative, commutative, has inverses — for ALL points — and the Mul loops compute k • P.
Route: the code computes the affine chord-and-tangent formulas on the nose (`Jac.aff_add`, `aff_double`, `aff_neg`,
from the closed forms of Proofs/Bn256Curve.lean), and those are Mathlib's addition on nonsingular points
(Proofs/CurveAffine.lean).
-/
import Mathlib.AlgebraicGeometry.EllipticCurve.Affine.Point
import DosModel.Proofs.Bn256Curve
import DosModel.Proofs.Bn256CurveMul
import DosModel.Proofs.CurveAffine

namespace Dos.Bn256
open WeierstrassCurve WeierstrassCurve.Affine Dos.Compose.Curve

section
variable {K : Type} [Field K] [DecidableEq K] [Sq K]
set_option linter.unusedSectionVars false

/-- the curve y² = x³ + b -/
def shortW (b : K) : WeierstrassCurve.Affine K := ⟨0, 0, 0, 0, b⟩

/-- identity, or finite with a nonsingular affine image on y² = x³ + b -/
def Valid (b : K) (a : Jac K) : Prop := a.z = 0 ∨ (shortW b).Nonsingular (Jac.ax a) (Jac.ay a)

open Classical in
/-- the point of Mathlib's group that a Jacobian triple denotes -/
noncomputable def toPoint (b : K) (a : Jac K) : (shortW b).Point :=
  if a.z = 0 then 0
  else if h : (shortW b).Nonsingular (Jac.ax a) (Jac.ay a) then Point.some _ _ h else 0

theorem toPoint_inf (b : K) (a : Jac K) (hz : a.z = 0) : toPoint b a = 0 := by
  simp [toPoint, hz]

theorem toPoint_fin (b : K) (a : Jac K) (hz : a.z ≠ 0) (h : (shortW b).Nonsingular (Jac.ax a) (Jac.ay a)) :
    toPoint b a = Point.some _ _ h := by
  simp [toPoint, hz, h]

/-! ### the Jacobian code refines the affine chord-and-tangent law

For EVERY triple, receiver and branch of the code — no curve equation, no validity — the affine point of the result of
`Jac.double` / `Jac.add` / `Jac.neg` is `adbl` / `aadd` / `aneg` (Proofs/CurveAffine.lean) of the affine points of the
operands. -/
/-- the affine point a Jacobian triple stands for -/
def Jac.aff (a : Jac K) : APt K := if a.z = 0 then .inf else .aff (Jac.ax a) (Jac.ay a)

theorem Jac.aff_inf {a : Jac K} (h : a.z = 0) : a.aff = .inf := if_pos h
theorem Jac.aff_fin {a : Jac K} (h : a.z ≠ 0) : a.aff = .aff (Jac.ax a) (Jac.ay a) := if_neg h

theorem Jac.aff_double (hsq : ∀ a : K, Sq.sq a = a * a) (h2 : (2 : K) ≠ 0) (c a : Jac K) :
    (Jac.double c a).aff = adbl a.aff := by
  by_cases hz : a.z = 0
  · rw [Jac.aff_inf hz, Jac.aff_inf (by rw [(Jac.double_formulas hsq c a).2.2.1, hz, mul_zero])]; rfl
  · rw [Jac.aff_fin hz]
    by_cases hy : a.y = 0
    · have hay : Jac.ay a = 0 := by simp only [Jac.ay, hy, zero_div]
      rw [Jac.aff_inf (Jac.double_order_two hsq c a hy)]; simp only [adbl, hay, if_true]
    · obtain ⟨hdz, hx, hyy⟩ := Jac.double_affine_tangent hsq c a hz hy h2
      have hay : Jac.ay a ≠ 0 := div_ne_zero hy (pow_ne_zero _ hz)
      rw [Jac.aff_fin hdz, hx, hyy, hx]; simp only [adbl, hay, if_false]

theorem Jac.aff_add (hsq : ∀ a : K, Sq.sq a = a * a) (h2 : (2 : K) ≠ 0) (c a b : Jac K) :
    (Jac.add c a b).aff = aadd a.aff b.aff := by
  by_cases hza : a.z = 0
  · rw [Jac.add_inf_left c a b hza, Jac.aff_inf hza]; cases b.aff <;> rfl
  by_cases hzb : b.z = 0
  · rw [Jac.add_inf_right c a b hza hzb, Jac.aff_inf hzb, Jac.aff_fin hza]; rfl
  rw [Jac.aff_fin hza, Jac.aff_fin hzb]
  by_cases hH : Jac.H a b = 0
  · have hx := (Jac.H_eq_zero_iff a b hza hzb).mp hH
    by_cases hN : Jac.N a b = 0
    · have hy := (Jac.N_eq_zero_iff a b hza hzb).mp hN
      rw [Jac.add_same hsq c a b hza hzb hH hN, Jac.aff_double hsq h2, Jac.aff_fin hza]
      simp only [aadd, hx, hy, if_true]
    · have hy : Jac.ay a ≠ Jac.ay b := mt (Jac.N_eq_zero_iff a b hza hzb).mpr hN
      rw [Jac.aff_inf (Jac.add_opposite hsq c a b hza hzb hH hN)]
      simp only [aadd, hx, hy, if_true, if_false]
  · obtain ⟨hz, hx, hy⟩ := Jac.add_affine_chord hsq c a b hza hzb hH h2
    have hxne : Jac.ax a ≠ Jac.ax b := mt (Jac.H_eq_zero_iff a b hza hzb).mpr hH
    rw [Jac.aff_fin hz, hx, hy, hx]; simp only [aadd, hxne, if_false]

theorem Jac.aff_neg (a : Jac K) (t : K) : (Jac.neg a t).aff = aneg a.aff := by
  by_cases hz : a.z = 0
  · rw [Jac.aff_inf hz, Jac.aff_inf (show (Jac.neg a t).z = 0 from hz)]; rfl
  · rw [Jac.aff_fin hz, Jac.aff_fin (show (Jac.neg a t).z ≠ 0 from hz)]
    exact congrArg (APt.aff _) (neg_div _ _)

/-- what a triple denotes in Mathlib's group, through its affine point -/
theorem toPoint_eq (b : K) (a : Jac K) : toPoint b a = Dos.Compose.Curve.toPoint b a.aff := by
  unfold toPoint Jac.aff
  split <;> rfl

theorem valid_iff_nonsing (b : K) (a : Jac K) : Valid b a ↔ a.aff.Nonsing b := by
  unfold Valid Jac.aff
  split
  · simp only [*, true_or]; exact ⟨fun _ => trivial, fun _ => trivial⟩
  · simp only [*, false_or]; exact Iff.rfl

/-! ### the group law: the refinement equations, and the affine law on nonsingular points -/

/-- **Double is doubling in the group** -/
theorem double_point (hsq : ∀ a : K, Sq.sq a = a * a) (h2 : (2 : K) ≠ 0) (b : K) (c a : Jac K)
    (ha : Valid b a) :
    Valid b (Jac.double c a) ∧ toPoint b (Jac.double c a) = toPoint b a + toPoint b a := by
  simp only [valid_iff_nonsing, toPoint_eq, Jac.aff_double hsq h2] at ha ⊢
  exact adbl_point h2 _ ha

/-- **Add is addition in the group**, in every branch of the code -/
theorem add_point (hsq : ∀ a : K, Sq.sq a = a * a) (h2 : (2 : K) ≠ 0) (bb : K) (c a b : Jac K)
    (ha : Valid bb a) (hb : Valid bb b) :
    Valid bb (Jac.add c a b) ∧ toPoint bb (Jac.add c a b) = toPoint bb a + toPoint bb b := by
  simp only [valid_iff_nonsing, toPoint_eq, Jac.aff_add hsq h2] at ha hb ⊢
  exact aadd_point h2 _ _ ha hb

/-- **Neg is negation in the group** (whatever is put in the `t` field) -/
theorem neg_point (b : K) (a : Jac K) (ha : Valid b a) (t : K := a.t) :
    Valid b (Jac.neg a t) ∧ toPoint b (Jac.neg a t) = -toPoint b a := by
  simp only [valid_iff_nonsing, toPoint_eq, Jac.aff_neg] at ha ⊢
  exact aneg_point b _ ha

/-- **the Mul loops compute k • P in Mathlib's group**, for every scalar -/
theorem mul_point (hsq : ∀ a : K, Sq.sq a = a * a) (h2 : (2 : K) ≠ 0) (b : K) (a : Jac K) (ha : Valid b a)
    (k : Nat) :
    toPoint b (Jac.curveMul a k) = k • toPoint b a ∧ toPoint b (Jac.twistMul a k) = k • toPoint b a := by
  have hinf : Valid b (Jac.infinity : Jac K) ∧ toPoint b (Jac.infinity : Jac K) = 0 :=
    ⟨Or.inl rfl, toPoint_inf b _ rfl⟩
  have hzero : Valid b (Jac.zeroValue : Jac K) ∧ toPoint b (Jac.zeroValue : Jac K) = 0 :=
    ⟨Or.inl rfl, toPoint_inf b _ rfl⟩
  exact ⟨(mulLoop_smul (Valid b) (toPoint b) (fun c a h => double_point hsq h2 b c a h)
      (fun c x y hx hy => add_point hsq h2 b c x y hx hy) a ha k _ _ hinf.1 hinf.2).2,
    (mulLoop_smul (Valid b) (toPoint b) (fun c a h => double_point hsq h2 b c a h)
      (fun c x y hx hy => add_point hsq h2 b c x y hx hy) a ha k _ _ hzero.1 hzero.2).2⟩

end

/-- on y² = x³ + b over a field of characteristic ≠ 2, a point satisfying the equation with y ≠ 0 is
nonsingular -/
theorem shortW_nonsingular_of_y_ne_zero {K : Type} [Field K] (h2 : (2 : K) ≠ 0) (b x y : K)
    (he : y * y = x * x * x + b) (hy : y ≠ 0) : (shortW b).Nonsingular x y := by
  rw [nonsingular_iff, equation_iff]
  simp only [shortW]
  refine ⟨by linear_combination he, Or.inr ?_⟩
  intro h
  have h' : (2 : K) * y = 0 := by linear_combination h
  rcases mul_eq_zero.mp h' with h0 | h0
  · exact h2 h0
  · exact hy h0

end Dos.Bn256
