/-
Composition helper: the executable affine G1 / G2 of `Model/Bn256.lean` (C11, C06) mapped into the
generic affine formulas of `Proofs/ComposeCurve.lean` over `F_p` / `F_p²`, hence into Mathlib's
elliptic-curve GROUPS `E(F_p) : y² = x³ + 3` and `E'(F_p²) : y² = x³ + 3/ξ`.

G1: `cG1`, `pt1` carry `G1.neg/add/smul` to the group's; closure of `G1.valid` under them (`valid_add`,
`valid_neg`, `valid_smul`, `reachable_valid`), `valid_iff` and the casts `cast_fadd` … used here without prefix
are those of `Proofs/Bn256ConcCurve.lean` (namespace `Dos.Bn256`).
G2: `G2.valid` (reduced coordinates ∧ on the twist ∧ `r • P = O`) is preserved by `G2.neg`, `G2.double`,
`G2.add`, `G2.smul`, which `pt2` carries to the group's (`valid2_*`).
Generators: `r • g₁ = O` and `G2.valid g₂`, each by ONE kernel evaluation of the inversion-free ladder of
`Proofs/ComposeCurve.lean` (`jtorsion_sound`; the model's affine `smul` would pay a Fermat inversion per step);
from them `r • P = O` for everything reachable, and `smul k = smul (k % r)`.
`laws_of_embedding` (`Proofs/CurveAffine.lean`) reads the group laws of the model's operations off `pt1` / `pt2`
(`Props/C11Compose.lean`: `g1_group_laws`, `g2_group_laws`).
-/
import DosModel.Proofs.ComposeFp2
import DosModel.Proofs.ComposeCurve

namespace Dos.Compose
open Dos Dos.Bn256 Dos.Compose.Curve

/-! ### G1 -/

def cG1 : Bn256.G1 → APt (ZMod Bn256.p)
  | .inf => .inf
  | .aff x y => .aff (x : ZMod Bn256.p) (y : ZMod Bn256.p)

theorem good3 : Good (3 : ZMod Bn256.p) := ⟨two_ne_zero_F, three_ne_zero_F, three_ne_zero_F⟩

theorem cG1_neg (P : Bn256.G1) : cG1 (G1.neg P) = aneg (cG1 P) := by
  cases P with
  | inf => rfl
  | aff x y => simp [G1.neg, cG1, aneg, cast_fneg]

theorem cG1_double (P : Bn256.G1) : cG1 (G1.double P) = adbl (cG1 P) := by
  cases P with
  | inf => rfl
  | aff x y =>
    by_cases hy : y % Bn256.p = 0
    · have h0 : (y : ZMod Bn256.p) = 0 := (mod_eq_zero_iff_cast y).1 hy
      simp [G1.double, cG1, adbl, hy, h0]
    · have h0 : (y : ZMod Bn256.p) ≠ 0 := fun h => hy ((mod_eq_zero_iff_cast y).2 h)
      simp only [G1.double, cG1, hy, if_false]
      exact (adbl_eq h0 (by simp only [cast_fsub, cast_fsq, cast_fadd]; rfl)
        (by simp only [cast_fmul, cast_fsq, cast_finv, cast_fadd, Nat.cast_ofNat])
        (by simp only [cast_fsub, cast_fmul])).symm

theorem cG1_add (P Q : Bn256.G1) : cG1 (G1.add P Q) = aadd (cG1 P) (cG1 Q) := by
  cases P with
  | inf => cases Q <;> rfl
  | aff x1 y1 =>
    cases Q with
    | inf => rfl
    | aff x2 y2 =>
      by_cases hx : x1 % Bn256.p = x2 % Bn256.p
      · have hx' : (x1 : ZMod Bn256.p) = x2 := (mod_eq_iff_cast x1 x2).1 hx
        by_cases hy : y1 % Bn256.p = y2 % Bn256.p
        · have hy' : (y1 : ZMod Bn256.p) = y2 := (mod_eq_iff_cast y1 y2).1 hy
          have := cG1_double (.aff x1 y1)
          simp only [G1.add, hx, hy, if_true]
          rw [this]
          simp [cG1, aadd, hx', hy']
        · have hy' : (y1 : ZMod Bn256.p) ≠ y2 := fun h => hy ((mod_eq_iff_cast y1 y2).2 h)
          simp [G1.add, hx, hy, cG1, aadd, hx', hy']
      · have hx' : (x1 : ZMod Bn256.p) ≠ x2 := fun h => hx ((mod_eq_iff_cast x1 x2).2 h)
        simp only [G1.add, hx, cG1, if_false]
        exact (aadd_eq hx' (by simp only [cast_fsub, cast_fsq]; rfl)
          (by simp only [cast_fmul, cast_finv, cast_fsub]) (by simp only [cast_fsub, cast_fmul])).symm

theorem cG1_smulAux (P : Bn256.G1) : ∀ fuel k, cG1 (G1.smulAux P fuel k) = asmulAux (cG1 P) fuel k := by
  intro fuel
  induction fuel with
  | zero => intro k; rfl
  | succ fuel ih =>
    intro k
    unfold G1.smulAux asmulAux
    by_cases h0 : k = 0
    · simp [h0, cG1]
    · simp only [h0, if_false]
      by_cases hodd : k % 2 = 1
      · simp only [hodd, if_true]; rw [cG1_add, cG1_double, ih]
      · simp only [hodd, if_false]; rw [cG1_double, ih]

theorem cG1_onCurve (P : Bn256.G1) (h : G1.valid P = true) : (cG1 P).OnCurve (3 : ZMod Bn256.p) := by
  cases P with
  | inf => trivial
  | aff x y => exact ((valid_iff x y).1 h).2.2

theorem cG1_inf_iff (P : Bn256.G1) : cG1 P = .inf ↔ P = .inf := by
  cases P <;> simp [cG1]

theorem cG1_inj {P Q : Bn256.G1} (hP : G1.valid P = true) (hQ : G1.valid Q = true)
    (h : cG1 P = cG1 Q) : P = Q := by
  cases P with
  | inf => exact ((cG1_inf_iff Q).1 h.symm).symm
  | aff x y =>
    cases Q with
    | inf => exact (cG1_inf_iff _).1 h
    | aff x' y' =>
      obtain ⟨hx, hy, _⟩ := (valid_iff x y).1 hP
      obtain ⟨hx', hy', _⟩ := (valid_iff x' y').1 hQ
      simp only [cG1, APt.aff.injEq] at h
      have e1 := (mod_eq_iff_cast x x').2 h.1
      have e2 := (mod_eq_iff_cast y y').2 h.2
      rw [Nat.mod_eq_of_lt hx, Nat.mod_eq_of_lt hx'] at e1
      rw [Nat.mod_eq_of_lt hy, Nat.mod_eq_of_lt hy'] at e2
      rw [e1, e2]

/-- the point of `E(F_p)` a model value denotes -/
noncomputable def pt1 (P : Bn256.G1) : (sw (3 : ZMod Bn256.p)).Point := toPoint 3 (cG1 P)

theorem pt1_add (P Q : Bn256.G1) (hP : G1.valid P = true) (hQ : G1.valid Q = true) :
    pt1 (G1.add P Q) = pt1 P + pt1 Q := by
  unfold pt1; rw [cG1_add]; exact (aadd_spec good3 _ _ (cG1_onCurve P hP) (cG1_onCurve Q hQ)).2

theorem pt1_neg (P : Bn256.G1) (hP : G1.valid P = true) : pt1 (G1.neg P) = -pt1 P := by
  unfold pt1; rw [cG1_neg]; exact (aneg_spec good3 _ (cG1_onCurve P hP)).2

theorem pt1_smul (k : Nat) (P : Bn256.G1) (hP : G1.valid P = true) : pt1 (G1.smul k P) = k • pt1 P := by
  unfold pt1 G1.smul; rw [cG1_smulAux]
  exact (asmulAux_spec good3 _ (cG1_onCurve P hP) k k Nat.lt_two_pow_self).2

/-! closure (`Proofs/Bn256ConcCurve.lean`) and homomorphism together, in the form of the G2 lemmas `valid2_*` -/

theorem valid1_add (P Q : Bn256.G1) (hP : G1.valid P = true) (hQ : G1.valid Q = true) :
    G1.valid (G1.add P Q) = true ∧ pt1 (G1.add P Q) = pt1 P + pt1 Q :=
  ⟨valid_add P Q hP hQ, pt1_add P Q hP hQ⟩

theorem valid1_neg (P : Bn256.G1) (hP : G1.valid P = true) :
    G1.valid (G1.neg P) = true ∧ pt1 (G1.neg P) = -pt1 P :=
  ⟨valid_neg P hP, pt1_neg P hP⟩

theorem valid1_smul (k : Nat) (P : Bn256.G1) (hP : G1.valid P = true) :
    G1.valid (G1.smul k P) = true ∧ pt1 (G1.smul k P) = k • pt1 P :=
  ⟨valid_smul k P hP, pt1_smul k P hP⟩

theorem pt1_inj {P Q : Bn256.G1} (hP : G1.valid P = true) (hQ : G1.valid Q = true)
    (h : pt1 P = pt1 Q) : P = Q :=
  cG1_inj hP hQ (toPoint_injOn good3 (cG1_onCurve P hP) (cG1_onCurve Q hQ) h)

/-! ### G2 -/

def cG2 : Bn256.G2 → APt K2
  | .inf => .inf
  | .aff x y => .aff (c2 x) (c2 y)

/-- coordinates reduced: part of `G2.valid`, and what makes `cG2` injective -/
def G2.Red : Bn256.G2 → Prop
  | .inf => True
  | .aff x y => Fp2.Red x ∧ Fp2.Red y

theorem c2_twistB_ne_zero : c2 twistB ≠ 0 := fun h =>
  ZModFacts.natCast_ne_zero (q := Bn256.p) (n := twistB.re) (by decide) (by decide) (congrArg QuadraticAlgebra.re h)

theorem goodTwist : Good (c2 twistB) := ⟨two_ne_zero_K2, three_ne_zero_K2, c2_twistB_ne_zero⟩

theorem cG2_neg (P : Bn256.G2) : cG2 (G2.neg P) = aneg (cG2 P) := by
  cases P with
  | inf => rfl
  | aff x y => simp [G2.neg, cG2, aneg, c2_neg]

theorem cG2_double (P : Bn256.G2) : cG2 (G2.double P) = adbl (cG2 P) := by
  cases P with
  | inf => rfl
  | aff x y =>
    by_cases hy : (Fp2.reduce y).isZero = true
    · have h0 : c2 y = 0 := (reduce_isZero_iff y).1 hy
      simp [G2.double, cG2, adbl, hy, h0]
    · have h0 : c2 y ≠ 0 := fun h => hy ((reduce_isZero_iff y).2 h)
      have hy' : (Fp2.reduce y).isZero = false := by simpa using hy
      simp only [G2.double, hy', Bool.false_eq_true, if_false, cG2]
      exact (adbl_eq h0 (by simp only [c2_sub, c2_sq, c2_add]; rfl)
        (by simp only [c2_mul, c2_smulFp, c2_sq, c2_inv, c2_add, Nat.cast_ofNat])
        (by simp only [c2_sub, c2_mul])).symm

theorem cG2_add (P Q : Bn256.G2) : cG2 (G2.add P Q) = aadd (cG2 P) (cG2 Q) := by
  cases P with
  | inf => cases Q <;> rfl
  | aff x1 y1 =>
    cases Q with
    | inf => rfl
    | aff x2 y2 =>
      by_cases hx : Fp2.reduce x1 = Fp2.reduce x2
      · have hx' : c2 x1 = c2 x2 := (reduce_eq_iff x1 x2).1 hx
        by_cases hy : Fp2.reduce y1 = Fp2.reduce y2
        · have hy' : c2 y1 = c2 y2 := (reduce_eq_iff y1 y2).1 hy
          have := cG2_double (.aff x1 y1)
          simp only [G2.add, hx, hy, if_true]
          rw [this]
          simp [cG2, aadd, hx', hy']
        · have hy' : c2 y1 ≠ c2 y2 := fun h => hy ((reduce_eq_iff y1 y2).2 h)
          simp [G2.add, hx, hy, cG2, aadd, hx', hy']
      · have hx' : c2 x1 ≠ c2 x2 := fun h => hx ((reduce_eq_iff x1 x2).2 h)
        simp only [G2.add, hx, cG2, if_false]
        exact (aadd_eq hx' (by simp only [c2_sub, c2_sq]; rfl)
          (by simp only [c2_mul, c2_inv, c2_sub]) (by simp only [c2_sub, c2_mul])).symm

theorem cG2_smulAux (P : Bn256.G2) : ∀ fuel k, cG2 (G2.smulAux P fuel k) = asmulAux (cG2 P) fuel k := by
  intro fuel
  induction fuel with
  | zero => intro k; rfl
  | succ fuel ih =>
    intro k
    unfold G2.smulAux asmulAux
    by_cases h0 : k = 0
    · simp [h0, cG2]
    · simp only [h0, if_false]
      by_cases hodd : k % 2 = 1
      · simp only [hodd, if_true]; rw [cG2_add, cG2_double, ih]
      · simp only [hodd, if_false]; rw [cG2_double, ih]

theorem cG2_inf_iff (P : Bn256.G2) : cG2 P = .inf ↔ P = .inf := by
  cases P <;> simp [cG2]

/-- the Boolean twist test is the curve equation in `F_p²` -/
theorem onCurve2_iff (x y : Bn256.Fp2) :
    G2.onCurve (.aff x y) = true ↔ (cG2 (.aff x y)).OnCurve (c2 twistB) := by
  simp only [G2.onCurve, beq_iff_eq, cG2, APt.OnCurve]
  constructor
  · intro h
    have := congrArg c2 h
    simp only [c2_sq, c2_add, c2_mul] at this
    rw [pow_two, pow_succ, pow_two]; exact this
  · intro h
    apply c2_inj_reduced (red_mul _ _) (red_add _ _)
    simp only [c2_sq, c2_add, c2_mul]
    rw [pow_two, pow_succ, pow_two] at h; exact h

/-! `cG2` forgets representatives, so closure of `G2.valid` needs, besides the group law, that results are reduced -/

theorem red_double (P : Bn256.G2) (h : G2.Red P) : G2.Red (G2.double P) := by
  cases P with
  | inf => trivial
  | aff x y =>
    simp only [G2.double]
    split
    · trivial
    · exact ⟨red_sub _ _, red_sub _ _⟩

theorem red_add2 (P Q : Bn256.G2) (hP : G2.Red P) (hQ : G2.Red Q) : G2.Red (G2.add P Q) := by
  cases P with
  | inf => cases Q <;> simpa [G2.add] using hQ
  | aff x1 y1 =>
    cases Q with
    | inf => simpa [G2.add] using hP
    | aff x2 y2 =>
      simp only [G2.add]
      split
      · split
        · exact red_double _ hP
        · trivial
      · exact ⟨red_sub _ _, red_sub _ _⟩

theorem red_neg2 (P : Bn256.G2) (h : G2.Red P) : G2.Red (G2.neg P) := by
  cases P with
  | inf => trivial
  | aff x y => exact ⟨h.1, red_neg _⟩

theorem red_smulAux (P : Bn256.G2) (hP : G2.Red P) : ∀ fuel k, G2.Red (G2.smulAux P fuel k) := by
  intro fuel
  induction fuel with
  | zero => intro k; trivial
  | succ fuel ih =>
    intro k
    unfold G2.smulAux
    split
    · trivial
    · simp only []
      split
      · exact red_add2 _ _ (red_double _ (ih _)) hP
      · exact red_double _ (ih _)

/-- the point of `E'(F_p²)` a model value denotes -/
noncomputable def pt2 (P : Bn256.G2) : (sw (c2 twistB)).Point := toPoint (c2 twistB) (cG2 P)

theorem pt2_smul_of_onCurve (k : Nat) (P : Bn256.G2) (hP : (cG2 P).OnCurve (c2 twistB)) :
    (cG2 (G2.smul k P)).OnCurve (c2 twistB) ∧ pt2 (G2.smul k P) = k • pt2 P := by
  unfold pt2 G2.smul; rw [cG2_smulAux]
  exact asmulAux_spec goodTwist _ hP k k Nat.lt_two_pow_self

theorem smul_inf_iff (k : Nat) (P : Bn256.G2) (hP : (cG2 P).OnCurve (c2 twistB)) :
    G2.smul k P = .inf ↔ k • pt2 P = 0 := by
  obtain ⟨hc, hp⟩ := pt2_smul_of_onCurve k P hP
  rw [← hp, ← cG2_inf_iff]
  exact (toPoint_eq_zero_iff goodTwist hc).symm

theorem valid2_iff (P : Bn256.G2) :
    G2.valid P = true ↔ G2.Red P ∧ (cG2 P).OnCurve (c2 twistB) ∧ Bn256.r • pt2 P = 0 := by
  have hb : G2.valid P = true ↔ G2.Red P ∧ (cG2 P).OnCurve (c2 twistB) ∧ G2.smul Bn256.r P = .inf := by
    cases P with
    | inf =>
      simp only [G2.valid, G2.Red, cG2, APt.OnCurve, true_and, true_iff]
      exact Codec.g2_smul_inf _
    | aff x y =>
      simp only [G2.valid, Bool.and_eq_true, decide_eq_true_eq, onCurve2_iff, G2.inSubgroup, beq_iff_eq,
        G2.Red, Fp2.Red]
      constructor
      · rintro ⟨⟨⟨⟨⟨h1, h2⟩, h3⟩, h4⟩, h5⟩, h6⟩; exact ⟨⟨⟨h1, h2⟩, ⟨h3, h4⟩⟩, h5, h6⟩
      · rintro ⟨⟨⟨h1, h2⟩, ⟨h3, h4⟩⟩, h5, h6⟩; exact ⟨⟨⟨⟨⟨h1, h2⟩, h3⟩, h4⟩, h5⟩, h6⟩
  rw [hb]
  exact and_congr_right fun _ => and_congr_right fun hc => smul_inf_iff Bn256.r P hc

theorem valid2_add (P Q : Bn256.G2) (hP : G2.valid P = true) (hQ : G2.valid Q = true) :
    G2.valid (G2.add P Q) = true ∧ pt2 (G2.add P Q) = pt2 P + pt2 Q := by
  obtain ⟨r1, c1, t1⟩ := (valid2_iff P).1 hP
  obtain ⟨r2, c2', t2⟩ := (valid2_iff Q).1 hQ
  obtain ⟨hc, hp⟩ := aadd_spec goodTwist _ _ c1 c2'
  rw [← cG2_add] at hc hp
  change pt2 _ = pt2 P + pt2 Q at hp
  exact ⟨(valid2_iff _).2 ⟨red_add2 P Q r1 r2, hc, by rw [hp, nsmul_add, t1, t2, add_zero]⟩, hp⟩

theorem valid2_neg (P : Bn256.G2) (hP : G2.valid P = true) :
    G2.valid (G2.neg P) = true ∧ pt2 (G2.neg P) = -pt2 P := by
  obtain ⟨r1, c1, t1⟩ := (valid2_iff P).1 hP
  obtain ⟨hc, hp⟩ := aneg_spec goodTwist _ c1
  rw [← cG2_neg] at hc hp
  change pt2 _ = -pt2 P at hp
  exact ⟨(valid2_iff _).2 ⟨red_neg2 P r1, hc, by rw [hp, neg_nsmul, t1, neg_zero]⟩, hp⟩

theorem valid2_double (P : Bn256.G2) (hP : G2.valid P = true) :
    G2.valid (G2.double P) = true ∧ pt2 (G2.double P) = pt2 P + pt2 P := by
  obtain ⟨r1, c1, t1⟩ := (valid2_iff P).1 hP
  obtain ⟨hc, hp⟩ := adbl_spec goodTwist _ c1
  rw [← cG2_double] at hc hp
  change pt2 _ = pt2 P + pt2 P at hp
  exact ⟨(valid2_iff _).2 ⟨red_double P r1, hc, by rw [hp, nsmul_add, t1, add_zero]⟩, hp⟩

theorem valid2_smul (k : Nat) (P : Bn256.G2) (hP : G2.valid P = true) :
    G2.valid (G2.smul k P) = true ∧ pt2 (G2.smul k P) = k • pt2 P := by
  obtain ⟨r1, c1, t1⟩ := (valid2_iff P).1 hP
  obtain ⟨hc, hp⟩ := pt2_smul_of_onCurve k P c1
  exact ⟨(valid2_iff _).2 ⟨red_smulAux P r1 k k, hc, by rw [hp, smul_comm, t1, nsmul_zero]⟩, hp⟩

theorem pt2_inj {P Q : Bn256.G2} (hP : G2.valid P = true) (hQ : G2.valid Q = true)
    (h : pt2 P = pt2 Q) : P = Q := by
  obtain ⟨r1, c1, _⟩ := (valid2_iff P).1 hP
  obtain ⟨r2, c2', _⟩ := (valid2_iff Q).1 hQ
  have hc := toPoint_injOn goodTwist c1 c2' h
  cases P with
  | inf => exact ((cG2_inf_iff Q).1 hc.symm).symm
  | aff x y =>
    cases Q with
    | inf => exact (cG2_inf_iff _).1 hc
    | aff x' y' =>
      simp only [cG2, APt.aff.injEq] at hc
      rw [c2_inj_reduced r1.1 r2.1 hc.1, c2_inj_reduced r1.2 r2.2 hc.2]

/-! ### torsion: the generators, and what follows for everything built from them -/

theorem valid2_torsion (P : Bn256.G2) (hP : G2.valid P = true) : Bn256.r • pt2 P = 0 :=
  ((valid2_iff P).1 hP).2.2

theorem smul2_mod_r (k : Nat) (P : Bn256.G2) (hP : G2.valid P = true) :
    G2.smul k P = G2.smul (k % Bn256.r) P := by
  apply pt2_inj (valid2_smul _ P hP).1 (valid2_smul _ P hP).1
  rw [(valid2_smul _ P hP).2, (valid2_smul _ P hP).2, nsmul_eq_mod_nsmul k (valid2_torsion P hP)]

/-! the carriers the inversion-free ladder `jtorsion` (`Proofs/ComposeCurve.lean`) runs on: numbers with `% p`
for G1, the model's `Fp2` for G2 -/

def fpOps : FOps Nat := ⟨fadd, fsub, fmul, fun a => a % Bn256.p == 0⟩

theorem fpOps_hom : fpOps.Hom (fun a : Nat => (a : ZMod Bn256.p)) :=
  ⟨cast_fadd, cast_fsub, cast_fmul, fun a => by simp only [fpOps, beq_iff_eq]; exact mod_eq_zero_iff_cast a⟩

def fp2Ops : FOps Bn256.Fp2 := ⟨Fp2.add, Fp2.sub, Fp2.mul, fun a => (Fp2.reduce a).isZero⟩

theorem fp2Ops_hom : fp2Ops.Hom c2 := ⟨c2_add, c2_sub, c2_mul, reduce_isZero_iff⟩

/-- `r • g₁ = O`: the one evaluation (`jtorsion` over `fpOps`, by the kernel) everything about G1 torsion
rests on -/
theorem g1gen_torsion : G1.smul Bn256.r g1gen = .inf := by
  have hv : G1.valid g1gen = true := by decide
  have h : Bn256.r • pt1 g1gen = 0 :=
    jtorsion_sound fpOps_hom good3 (one := 1) (x := 1) (y := 2) Nat.cast_one (cG1_onCurve g1gen hv)
      (hn := by decide) (h := by decide +kernel)
  apply pt1_inj (valid_smul _ _ hv) (by rfl)
  rw [pt1_smul _ _ hv, h]; rfl

/-- `g₂` is reduced, on the twist, and `r • g₂ = O` (evaluated as for `g₁`, over `Fp2`) -/
theorem g2gen_valid : G2.valid g2gen = true := by
  have hc : (cG2 g2gen).OnCurve (c2 twistB) := (onCurve2_iff _ _).1 (by decide)
  have h1 : c2 Fp2.one = 1 := by
    ext <;> simp [c2, Fp2.one, QuadraticAlgebra.re_one, QuadraticAlgebra.im_one]
  refine (valid2_iff g2gen).2 ⟨⟨⟨by decide, by decide⟩, ⟨by decide, by decide⟩⟩, hc, ?_⟩
  exact jtorsion_sound fp2Ops_hom goodTwist (one := Fp2.one) h1 hc (hn := by decide) (h := by decide +kernel)

/-- `r • P = O` for every G1 element reachable from the generator: no assumption on `#E(F_p)` -/
theorem reachable_torsion {P : Bn256.G1} (h : G1.Reachable P) : Bn256.r • pt1 P = 0 := by
  induction h with
  | base => rw [← pt1_smul Bn256.r g1gen (by decide), g1gen_torsion]; rfl
  | null => exact nsmul_zero _
  | neg hA ih => rw [pt1_neg _ (reachable_valid hA), neg_nsmul, ih, neg_zero]
  | add hA hB ihA ihB =>
    rw [pt1_add _ _ (reachable_valid hA) (reachable_valid hB), nsmul_add, ihA, ihB, add_zero]
  | smul k hA ih => rw [pt1_smul k _ (reachable_valid hA), nsmul_left_comm, ih, nsmul_zero]

theorem smul1_mod_r (k : Nat) {P : Bn256.G1} (h : G1.Reachable P) :
    G1.smul k P = G1.smul (k % Bn256.r) P := by
  have hv := reachable_valid h
  apply pt1_inj (valid_smul _ P hv) (valid_smul _ P hv)
  rw [pt1_smul _ P hv, pt1_smul _ P hv, nsmul_eq_mod_nsmul k (reachable_torsion h)]

end Dos.Compose
