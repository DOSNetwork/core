/-
Helper lemmas for C19: nonces across the request queue.
-/
import DosModel.Model.CallData

namespace Dos.CallData
open Dos Dos.ReqLoop

theorem bumpNonce_same (views : List EndpointView) (i : Nat) (v : EndpointView) (h : views[i]? = some v) :
    (bumpNonce views i)[i]? = some { v with pendingNonce := v.pendingNonce + 1 } := by
  fun_induction bumpNonce views i with
  | case1 => simp at h
  | case2 w ws => simp at h; subst h; rfl
  | case3 w ws i ih => simpa using ih (by simpa using h)

theorem bumpNonce_other (views : List EndpointView) (i j : Nat) (hij : i ≠ j) :
    (bumpNonce views j)[i]? = views[i]? := by
  fun_induction bumpNonce views j generalizing i with
  | case1 => rfl
  | case2 w ws =>
    cases i with
    | zero => exact absurd rfl hij
    | succ i => rfl
  | case3 w ws j ih =>
    cases i with
    | zero => rfl
    | succ i => simpa using ih i (by omega)

theorem acceptedBy_contacted {r : CallResult} {os : List Outcome} {i : Nat} (h : acceptedBy r os = some i) :
    i ∈ r.contacted ∧ os[i]? = some Outcome.accept := by
  simp only [acceptedBy] at h
  have h1 := List.mem_of_find?_eq_some h
  have h2 := List.find?_some h
  exact ⟨h1, by simpa using h2⟩

theorem acceptedNonces_consecutive (cfg : Config) : ∀ (hist : List (Method × List Outcome)) (dead : List Nat)
    (views : List EndpointView) (i : Nat) (v : EndpointView), views[i]? = some v →
    ∃ k, acceptedNonces cfg dead views hist i = List.range' v.pendingNonce k := by
  intro hist
  induction hist with
  | nil => intro dead views i v _; exact ⟨0, by simp [acceptedNonces]⟩
  | cons c rest ih =>
    intro dead views i v hv
    obtain ⟨m, os⟩ := c
    simp only [acceptedNonces]
    cases hacc : acceptedBy (call true dead os).1 os with
    | none =>
      obtain ⟨k, hk⟩ := ih (call true dead os).2 views i v hv
      exact ⟨k, by simp [hk]⟩
    | some j =>
      by_cases hji : j = i
      · subst hji
        have hv' := bumpNonce_same views j v hv
        obtain ⟨k, hk⟩ := ih (call true dead os).2 (bumpNonce views j) j _ hv'
        refine ⟨k + 1, ?_⟩
        simp only [if_true, hv, hk, envelope, List.range'_succ]
      · have hv' : (bumpNonce views j)[i]? = some v := by rw [bumpNonce_other views i j (Ne.symm hji)]; exact hv
        obtain ⟨k, hk⟩ := ih (call true dead os).2 (bumpNonce views j) i v hv'
        refine ⟨k, ?_⟩
        have : ¬ (some j = some i) := by simpa using hji
        simp only [this, if_false, hk]

end Dos.CallData
