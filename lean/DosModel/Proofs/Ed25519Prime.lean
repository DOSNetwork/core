/-
Kernel-checked primality of the ed25519 base-field modulus `p = 2^255 - 19` (its Pratt certificate is part of
the table of `Proofs/Primes.lean`, checked there by the Lean kernel), the field `F = ZMod p`, the constants
`d`, `sqrtM1` of `Dos.Ed`, and the square-root facts for `p ≡ 5 (mod 8)` that ref10's point decompression
relies on.

No compiled/native evaluation: the axioms are propext, Classical.choice, Quot.sound only.
-/
import Mathlib.Tactic.LinearCombination
import Mathlib.Tactic.Ring
import Mathlib.FieldTheory.Finite.Basic
import DosModel.Proofs.PrimesCore
import DosModel.Proofs.Primes
import DosModel.Model.Schnorr

namespace Dos.Ed25519Prime
open Dos.Primes

theorem p25519_prime : Nat.Prime (2 ^ 255 - 19) := table_prime (by decide +kernel)

theorem p_prime : Nat.Prime Dos.Ed.p := p25519_prime

instance fact_p : Fact (Nat.Prime Dos.Ed.p) := ⟨p_prime⟩

/-- the ed25519 base field -/
abbrev F := ZMod Dos.Ed.p

/-- `F` is a field (Mathlib's `ZMod.instField` through `fact_p`) -/
example : Field F := inferInstance

/-! ### the constants -/

theorem p_mod_8 : Dos.Ed.p % 8 = 5 := by decide +kernel

theorem one_le_p : 1 ≤ Dos.Ed.p := p_prime.one_lt.le

/-- `p - 1` is `-1` in `F` -/
theorem cast_p_sub_one : ((Dos.Ed.p - 1 : ℕ) : F) = -1 := by
  rw [Nat.cast_sub one_le_p, ZMod.natCast_self, Nat.cast_one, zero_sub]

theorem two_ne_zero' : (2 : F) ≠ 0 := by
  intro h
  have h2 : ((2 : ℕ) : F) = 0 := by exact_mod_cast h
  rw [ZMod.natCast_eq_zero_iff] at h2
  exact absurd (Nat.le_of_dvd (by norm_num) h2) (by decide +kernel)

theorem one_ne_neg_one : (1 : F) ≠ -1 := by
  intro h
  apply two_ne_zero'
  linear_combination h

theorem sqrtM1_sq : ((Dos.Ed.sqrtM1 : ℕ) : F) ^ 2 = -1 := by
  have h : ((Dos.Ed.sqrtM1 ^ 2 : ℕ) : F) = ((Dos.Ed.p - 1 : ℕ) : F) := by
    rw [ZMod.natCast_eq_natCast_iff]
    show Dos.Ed.sqrtM1 ^ 2 % Dos.Ed.p = (Dos.Ed.p - 1) % Dos.Ed.p
    decide +kernel
  rw [← cast_p_sub_one, ← h, Nat.cast_pow]

theorem d_mul : ((Dos.Ed.d : ℕ) : F) * 121666 = -121665 := by
  have h : ((Dos.Ed.d * 121666 + 121665 : ℕ) : F) = 0 := by
    rw [ZMod.natCast_eq_zero_iff]
    exact Nat.dvd_of_mod_eq_zero (by decide +kernel)
  push_cast at h
  exact eq_neg_of_add_eq_zero_left h

theorem d_euler : ((Dos.Ed.d : ℕ) : F) ^ ((Dos.Ed.p - 1) / 2) = -1 := by
  have hlt : (Dos.Ed.p - 1) / 2 < 2 ^ 256 := by decide +kernel
  have hrun : powMod 256 Dos.Ed.d ((Dos.Ed.p - 1) / 2) Dos.Ed.p = Dos.Ed.p - 1 := by
    decide +kernel
  rw [← powMod_cast (n := Dos.Ed.p) hlt, hrun, cast_p_sub_one]

theorem half_mul_two : (Dos.Ed.p - 1) / 2 * 2 = Dos.Ed.p - 1 := by decide +kernel

theorem d_not_square : ¬ IsSquare ((Dos.Ed.d : ℕ) : F) := by
  rintro ⟨z, hz⟩
  have he := d_euler
  have hz0 : z ≠ 0 := by
    rintro rfl
    rw [hz, mul_zero, zero_pow (by decide +kernel)] at he
    exact zero_ne_one (α := F) (by linear_combination -he)
  rw [hz, ← pow_two, ← pow_mul, mul_comm, half_mul_two, ZMod.pow_card_sub_one_eq_one hz0] at he
  exact one_ne_neg_one he

/-! ### inversion by Fermat -/

theorem pow_inv (z : F) (hz : z ≠ 0) : z ^ (Dos.Ed.p - 2) = z⁻¹ := by
  apply eq_inv_of_mul_eq_one_left
  rw [← pow_succ, show Dos.Ed.p - 2 + 1 = Dos.Ed.p - 1 by decide +kernel]
  exact ZMod.pow_card_sub_one_eq_one hz

theorem pow_inv_zero : (0 : F) ^ (Dos.Ed.p - 2) = 0 :=
  zero_pow (by decide +kernel)

/-! ### square roots for `p ≡ 5 (mod 8)` -/

/-- ref10's candidate root of `u / v`: `u v^3 (u v^7)^((p-5)/8)` -/
def cand (u v : F) : F := u * v ^ 3 * (u * v ^ 7) ^ ((Dos.Ed.p - 5) / 8)

local notation "i" => ((Dos.Ed.sqrtM1 : ℕ) : F)

theorem cand_key_gen (u v : F) (n : ℕ) :
    v * (u * v ^ 3 * (u * v ^ 7) ^ n) ^ 2 = u * (u * v ^ 7) ^ (2 * n + 1) := by
  ring

theorem quarter_eq : (Dos.Ed.p - 1) / 4 = 2 * ((Dos.Ed.p - 5) / 8) + 1 := by decide +kernel
theorem quarter_mul_four : (Dos.Ed.p - 1) / 4 * 4 = Dos.Ed.p - 1 := by decide +kernel
theorem quarter_ne_zero : (Dos.Ed.p - 1) / 4 ≠ 0 := by decide +kernel

/-- `v · cand² = u · (u v^7)^((p-1)/4)` -/
theorem cand_key (u v : F) :
    v * (cand u v) ^ 2 = u * (u * v ^ 7) ^ ((Dos.Ed.p - 1) / 4) := by
  rw [quarter_eq]
  exact cand_key_gen u v _

/-- the fourth roots of unity of `F` are `1, -1, i, -i` -/
theorem fourth_root (x : F) (h : x ^ 4 = 1) : x = 1 ∨ x = -1 ∨ x = i ∨ x = -i := by
  have hi := sqrtM1_sq
  have hprod : (x - 1) * ((x + 1) * ((x - i) * (x + i))) = 0 := by
    linear_combination h - (x ^ 2 - 1) * hi
  rcases mul_eq_zero.1 hprod with h1 | h2
  · exact Or.inl (sub_eq_zero.1 h1)
  rcases mul_eq_zero.1 h2 with h1 | h2
  · exact Or.inr (Or.inl (eq_neg_of_add_eq_zero_left h1))
  rcases mul_eq_zero.1 h2 with h1 | h2
  · exact Or.inr (Or.inr (Or.inl (sub_eq_zero.1 h1)))
  · exact Or.inr (Or.inr (Or.inr (eq_neg_of_add_eq_zero_left h2)))

theorem pow_quarter_fourth (w : F) (hw : w ≠ 0) : (w ^ ((Dos.Ed.p - 1) / 4)) ^ 4 = 1 := by
  rw [← pow_mul, quarter_mul_four]
  exact ZMod.pow_card_sub_one_eq_one hw

theorem cand_sq (u v : F) (hv : v ≠ 0) :
    v * (cand u v) ^ 2 = u ∨ v * (cand u v) ^ 2 = -u ∨ v * (cand u v) ^ 2 = u * i ∨
      v * (cand u v) ^ 2 = -(u * i) := by
  rw [cand_key]
  by_cases hu : u = 0
  · left; rw [hu, zero_mul]
  have hw : u * v ^ 7 ≠ 0 := mul_ne_zero hu (pow_ne_zero _ hv)
  rcases fourth_root _ (pow_quarter_fourth _ hw) with h | h | h | h <;> rw [h]
  · left; ring
  · right; left; ring
  · right; right; left; ring
  · right; right; right; ring

theorem cand_fourth (u v : F) (hv : v ≠ 0) : (v * (cand u v) ^ 2) ^ 2 = u ^ 2 ∨
    (v * (cand u v) ^ 2) ^ 2 = -u ^ 2 := by
  have hi := sqrtM1_sq
  rcases cand_sq u v hv with h | h | h | h <;> rw [h]
  · left; ring
  · left; ring
  · right; linear_combination u ^ 2 * hi
  · right; linear_combination u ^ 2 * hi

theorem sqrt_fix (u v : F) (_hv : v ≠ 0) (h : v * (cand u v) ^ 2 = -u) :
    v * (cand u v * i) ^ 2 = u := by
  have hi := sqrtM1_sq
  linear_combination (i ^ 2) * h - u * hi

theorem exists_sqrt_iff (u v : F) (hv : v ≠ 0) :
    (∃ x : F, v * x ^ 2 = u) ↔ (v * (cand u v) ^ 2 = u ∨ v * (cand u v) ^ 2 = -u) := by
  constructor
  · rintro ⟨x, hx⟩
    rw [cand_key]
    by_cases hy : x * v ^ 4 = 0
    · have hx0 : x = 0 := (mul_eq_zero.1 hy).resolve_right (pow_ne_zero _ hv)
      have hu : u = 0 := by rw [← hx, hx0]; ring
      left; rw [hu, zero_mul]
    · have hw : u * v ^ 7 = (x * v ^ 4) ^ 2 := by rw [← hx]; ring
      have hsq : ((u * v ^ 7) ^ ((Dos.Ed.p - 1) / 4)) ^ 2 = 1 := by
        rw [hw, ← pow_mul, ← pow_mul, mul_comm 2, mul_assoc,
          show (Dos.Ed.p - 1) / 4 * (2 * 2) = Dos.Ed.p - 1 from quarter_mul_four]
        exact ZMod.pow_card_sub_one_eq_one hy
      have hprod : ((u * v ^ 7) ^ ((Dos.Ed.p - 1) / 4) - 1) *
          ((u * v ^ 7) ^ ((Dos.Ed.p - 1) / 4) + 1) = 0 := by
        linear_combination hsq
      rcases mul_eq_zero.1 hprod with h | h
      · left; rw [sub_eq_zero.1 h, mul_one]
      · right; rw [eq_neg_of_add_eq_zero_left h]; ring
  · rintro (h | h)
    · exact ⟨_, h⟩
    · exact ⟨_, sqrt_fix u v hv h⟩

theorem sqrt_unique (v u x y : F) (hv : v ≠ 0) (hx : v * x ^ 2 = u) (hy : v * y ^ 2 = u) :
    y = x ∨ y = -x := by
  have h : y ^ 2 = x ^ 2 := mul_left_cancel₀ hv (hy.trans hx.symm)
  exact sq_eq_sq_iff_eq_or_eq_neg.1 h

end Dos.Ed25519Prime
