/-
For C07: `padOrTrim`, the closed forms of the system-randomness message, of `stripResult` and of the
submitter index.  Big-endian values of byte strings, `natBE` and `natBytes`: `Proofs/CodecBytes.lean`.
-/
import DosModel.Model.Content
import DosModel.Proofs.CodecBytes
-- not for a tactic: with Mathlib in scope `256 ^ k` in the statements here elaborates through `Monoid.npow`, as in Props/C07
import Mathlib.Tactic.Ring

namespace Dos.Content
open Dos CodecBytes

theorem beNat_nil : beNat [] = 0 := rfl

theorem beNat_replicate_zero (k : Nat) (bs : Bytes) : beNat (List.replicate k 0 ++ bs) = beNat bs := by
  rw [beNat_append, CodecBytes.beNat_replicate_zero, Nat.zero_mul, Nat.zero_add]

theorem beNat_drop (bs : Bytes) (k : Nat) : beNat (bs.drop k) = beNat bs % 256 ^ (bs.length - k) := by
  have h := beNat_append (bs.take k) (bs.drop k)
  rw [List.take_append_drop] at h
  have hl : (bs.drop k).length = bs.length - k := List.length_drop
  have hlt := beNat_lt (bs.drop k)
  rw [hl] at h hlt
  rw [h, Nat.mul_add_mod_self_right, Nat.mod_eq_of_lt hlt]

theorem natBytes_length_le (n k : Nat) (h : n < 256 ^ k) : (natBytes n).length ≤ k :=
  CodecBytes.natBytes_length_le n k h

/-! ### `padOrTrim` -/

theorem padOrTrim_length (bb : Bytes) (k : Nat) : (padOrTrim bb k).length = k := by
  unfold padOrTrim
  by_cases h1 : bb.length = k
  · simp [h1]
  · by_cases h2 : bb.length > k
    · simp only [h1, h2, if_false, if_true, List.length_drop]; omega
    · simp only [h1, h2, if_false, List.length_append, List.length_replicate]; omega

/-- the value is kept modulo 2^(8k): zero padding on the left, or the LOW k bytes -/
theorem padOrTrim_value (bb : Bytes) (k : Nat) : beNat (padOrTrim bb k) = beNat bb % 256 ^ k := by
  unfold padOrTrim
  by_cases h1 : bb.length = k
  · simp only [h1, if_true]
    have := beNat_lt bb
    rw [h1] at this
    exact (Nat.mod_eq_of_lt this).symm
  · by_cases h2 : bb.length > k
    · simp only [h1, h2, if_false, if_true]
      rw [beNat_drop]
      congr 2; omega
    · simp only [h1, h2, if_false]
      rw [beNat_replicate_zero]
      have hlt := beNat_lt bb
      have : 256 ^ bb.length ≤ 256 ^ k := Nat.pow_le_pow_right (by decide) (by omega)
      exact (Nat.mod_eq_of_lt (by omega)).symm

/-- canonical form: the padded/trimmed bytes ARE the k-byte big-endian encoding of the value mod 2^(8k) -/
theorem padOrTrim_eq_natBE (bb : Bytes) (k : Nat) : padOrTrim bb k = natBE k (beNat bb) := by
  apply beNat_inj
  · rw [padOrTrim_length, natBE_length]
  · rw [padOrTrim_value, beNat_natBE_mod]

/-- the system-randomness message: the k-byte big-endian last randomness, then the address -/
theorem sysContent_eq (k r : Nat) (a : Bytes) : sysContent k r a = natBE k r ++ a := by
  simp only [sysContent, sysContentRaw]; rw [padOrTrim_eq_natBE, beNat_natBytes]

/-! ### `stripResult` (the tail of `recoverSign`) -/

theorem stripResult_of_le {k : Nat} {c : Bytes} (h : k ≤ c.length) :
    stripResult k c = .ok (c.take (c.length - k)) := by
  simp [stripResult, Nat.not_lt.2 h]

theorem stripResult_of_lt {k : Nat} {c : Bytes} (h : c.length < k) : stripResult k c = .tooShort := by
  simp [stripResult, h]

theorem stripResult_append (x a : Bytes) : stripResult a.length (x ++ a) = .ok x := by
  rw [stripResult_of_le (by simp)]; simp

/-! ### the submitter -/

theorem submitterIdx_eq {n : Nat} (hn : n ≠ 0) (r : Nat) : submitterIdx r n = some (r % 2 ^ 64 % n) :=
  if_neg hn

theorem submitter_eq {ids : List Bytes} (hn : ids.length ≠ 0) (r : Nat) :
    submitter ids r = ids[r % 2 ^ 64 % ids.length]? := by
  simp only [submitter, submitterIdx_eq hn]

end Dos.Content
