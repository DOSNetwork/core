/-
Composition helper: the concrete G1 of the C02/C03 driver (`Model/TblsG1.lean`: affine points over
`Nat` with `% p`, chord/tangent `add`, `neg`, the 64-byte codec) mapped into Mathlib's elliptic-curve
group `E(F_p) : y² = x³ + 3` through the generic affine layer `Proofs/ComposeCurve.lean`.
`p = Gen.bn256P` (regenerated from /repo) is prime by `Proofs/Primes.lean`.
`Model/Bn256.lean` is a second model of the same curve (`Proofs/Bn256ConcCurve.lean`,
`Proofs/ComposeBn256Group.lean`, prime `Bn256.p`, the same numeral as `G1.p`). The facts about `+ *` and
the curve test are taken from there; `add`, `neg`, `fsub`, `finv` are other programs than theirs and are
proved here (`cT_add`, `valid_add`, …); the codecs are joined by `valid_conv`.
-/
import DosModel.Model.TblsG1
import DosModel.Proofs.ComposePrimes
import DosModel.Proofs.ComposeCurve
import Mathlib.FieldTheory.Finite.Basic
import DosModel.Proofs.CodecTblsG1
import DosModel.Proofs.Bn256ConcCurve

namespace Dos.Compose.TG1
open Dos Dos.G1 Dos.Compose.Curve

instance fact_p : Fact (Nat.Prime G1.p) := ⟨Dos.Compose.bn256P_prime⟩

abbrev Fp := ZMod G1.p

theorem p_pos : 0 < G1.p := by decide

-- `G1.p` and `Bn256.p` unfold to the same numeral, so `Fp`, `G1.fadd`, `G1.fmul`, `G1.onCurve` ARE
-- `Bn256.F`, `Bn256.fadd`, `Bn256.fmul`, `Bn256.G1.onCurve` and their lemmas apply as they stand
theorem cast_fadd (a b : Nat) : ((G1.fadd a b : Nat) : Fp) = (a : Fp) + b := Bn256.cast_fadd a b

theorem cast_fmul (a b : Nat) : ((G1.fmul a b : Nat) : Fp) = (a : Fp) * b := Bn256.cast_fmul a b

/-- `fsub` is subtraction for a reduced subtrahend (all callers pass reduced values) -/
theorem cast_fsub (a b : Nat) (hb : b < G1.p) : ((G1.fsub a b : Nat) : Fp) = (a : Fp) - b := by
  simp only [G1.fsub, ZMod.natCast_mod, Nat.cast_add, Nat.cast_sub hb.le, ZMod.natCast_self]
  ring

theorem cast_finv (a : Nat) : ((G1.finv a : Nat) : Fp) = (a : Fp)⁻¹ := by
  unfold G1.finv
  rw [Zq.powMod_eq, ZMod.natCast_mod, Nat.cast_pow, ZMod.natCast_mod]
  exact ZModFacts.pow_sub_two (by decide) _

theorem fadd_lt (a b : Nat) : G1.fadd a b < G1.p := Nat.mod_lt _ p_pos
theorem fsub_lt (a b : Nat) : G1.fsub a b < G1.p := Nat.mod_lt _ p_pos
theorem fmul_lt (a b : Nat) : G1.fmul a b < G1.p := Nat.mod_lt _ p_pos

theorem cast_eq_zero_iff {a : Nat} (ha : a < G1.p) : (a : Fp) = 0 ↔ a = 0 := by
  have := ZModFacts.natCast_inj ha p_pos
  simpa using this

theorem good3 : Good (3 : Fp) := ⟨Bn256.two_ne_zero_F, Bn256.three_ne_zero_F, Bn256.three_ne_zero_F⟩

/-- a valid element of the driver's G1: infinity, or reduced coordinates on the curve -/
def Valid : Pt → Prop
  | .inf => True
  | .aff x y => x < G1.p ∧ y < G1.p ∧ G1.onCurve x y = true

def cT : Pt → APt Fp
  | .inf => .inf
  | .aff x y => .aff (x : Fp) (y : Fp)

theorem onCurve_iff (x y : Nat) : G1.onCurve x y = true ↔ (y : Fp) ^ 2 = (x : Fp) ^ 3 + 3 :=
  Bn256.onCurve_iff x y

theorem cT_onCurve {P : Pt} (h : Valid P) : (cT P).OnCurve (3 : Fp) := by
  cases P with
  | inf => trivial
  | aff x y => exact (onCurve_iff x y).1 h.2.2

theorem cT_inj {P Q : Pt} (hP : Valid P) (hQ : Valid Q) (h : cT P = cT Q) : P = Q := by
  cases P with
  | inf => cases Q with
    | inf => rfl
    | aff x y => simp [cT] at h
  | aff x y => cases Q with
    | inf => simp [cT] at h
    | aff x' y' =>
      simp only [cT, APt.aff.injEq] at h
      rw [(ZModFacts.natCast_inj hP.1 hQ.1).1 h.1, (ZModFacts.natCast_inj hP.2.1 hQ.2.1).1 h.2]

theorem cT_neg (P : Pt) (hP : Valid P) : cT (G1.neg P) = aneg (cT P) := by
  cases P with
  | inf => rfl
  | aff x y =>
    simp only [G1.neg, cT, aneg, cast_fsub 0 y hP.2.1]
    simp

theorem cT_add (P Q : Pt) (hP : Valid P) (hQ : Valid Q) : cT (G1.add P Q) = aadd (cT P) (cT Q) := by
  cases P with
  | inf => cases Q <;> rfl
  | aff x1 y1 =>
    cases Q with
    | inf => rfl
    | aff x2 y2 =>
      obtain ⟨hx1, hy1, _⟩ := hP
      obtain ⟨hx2, hy2, _⟩ := hQ
      by_cases hx : x1 = x2
      · subst hx
        by_cases hy : y1 = y2
        · subst hy
          by_cases h0 : y1 = 0
          · subst h0
            simp [G1.add, cT, aadd, adbl]
          · have h0' : (y1 : Fp) ≠ 0 := fun h => h0 ((cast_eq_zero_iff hy1).1 h)
            simp only [G1.add, if_true, true_and, h0, ne_eq, not_false_eq_true, cT, aadd]
            exact (adbl_eq h0' (by rw [cast_fsub _ _ hx1, cast_fsub _ _ hx1, cast_fmul, sub_sub])
              (by simp only [cast_fmul, cast_finv, Nat.cast_ofNat, two_mul])
              (by rw [cast_fsub _ _ hy1, cast_fmul, cast_fsub _ _ (fsub_lt _ _)])).symm
        · have hy' : (y1 : Fp) ≠ y2 := fun h => hy ((ZModFacts.natCast_inj hy1 hy2).1 h)
          simp [G1.add, hy, cT, aadd, hy']
      · have hx' : (x1 : Fp) ≠ x2 := fun h => hx ((ZModFacts.natCast_inj hx1 hx2).1 h)
        simp only [G1.add, hx, if_false, cT]
        exact (aadd_eq hx' (by rw [cast_fsub _ _ hx2, cast_fsub _ _ hx1, cast_fmul])
          (by rw [cast_fmul, cast_finv, cast_fsub _ _ hy1, cast_fsub _ _ hx1])
          (by rw [cast_fsub _ _ hy1, cast_fmul, cast_fsub _ _ (fsub_lt _ _)])).symm

def Reduced : Pt → Prop
  | .inf => True
  | .aff x y => x < G1.p ∧ y < G1.p

/-- results of `add` have reduced coordinates -/
theorem add_reduced (P Q : Pt) (hP : Valid P) (hQ : Valid Q) : Reduced (G1.add P Q) := by
  cases P with
  | inf => cases Q with
    | inf => trivial
    | aff x y => exact ⟨hQ.1, hQ.2.1⟩
  | aff x1 y1 =>
    cases Q with
    | inf => exact ⟨hP.1, hP.2.1⟩
    | aff x2 y2 =>
      simp only [G1.add]
      split_ifs
      · exact ⟨fsub_lt _ _, fsub_lt _ _⟩
      · trivial
      · exact ⟨fsub_lt _ _, fsub_lt _ _⟩

theorem valid_of_onCurve {P : Pt} (hr : Reduced P) (hc : (cT P).OnCurve (3 : Fp)) : Valid P := by
  cases P with
  | inf => trivial
  | aff x y => exact ⟨hr.1, hr.2, (onCurve_iff x y).2 hc⟩

/-- **closure + homomorphism** for the driver's addition -/
theorem valid_add (P Q : Pt) (hP : Valid P) (hQ : Valid Q) :
    Valid (G1.add P Q) ∧ toPoint 3 (cT (G1.add P Q)) = toPoint 3 (cT P) + toPoint 3 (cT Q) := by
  obtain ⟨hc, hp⟩ := aadd_spec good3 _ _ (cT_onCurve hP) (cT_onCurve hQ)
  rw [← cT_add P Q hP hQ] at hc hp
  exact ⟨valid_of_onCurve (add_reduced P Q hP hQ) hc, hp⟩

theorem valid_neg (P : Pt) (hP : Valid P) :
    Valid (G1.neg P) ∧ toPoint 3 (cT (G1.neg P)) = -toPoint 3 (cT P) := by
  obtain ⟨hc, hp⟩ := aneg_spec good3 _ (cT_onCurve hP)
  rw [← cT_neg P hP] at hc hp
  refine ⟨valid_of_onCurve ?_ hc, hp⟩
  cases P with
  | inf => trivial
  | aff x y => exact ⟨hP.1, fsub_lt _ _⟩

/-- validity here is `G1.valid` of the C11 model, on the same point -/
theorem valid_conv (P : Pt) : Bn256.G1.valid (CodecTblsG1.conv P) = true ↔ Valid P := by
  cases P with
  | inf => exact ⟨fun _ => trivial, fun _ => rfl⟩
  | aff x y =>
    simp only [CodecTblsG1.conv, Bn256.G1.valid, Bool.and_eq_true, decide_eq_true_eq, Valid,
      ← CodecTblsG1.onCurve_eq, ← CodecTblsG1.p_eq, and_assoc]

/-- what `UnmarshalBinary` accepts is a valid element -/
theorem decode_valid (b : Bytes) (P : Pt) (h : G1.decode b = some P) : Valid P :=
  (valid_conv P).1 (Codec.unmarshalG1_ok b _ ((CodecTblsG1.decode_some_iff b P).1 h)).2.1

/-- the codec reads back what it writes, for every valid element -/
theorem decode_encode (P : Pt) (hP : Valid P) : G1.decode (G1.encode P) = some P := by
  rw [CodecTblsG1.decode_some_iff, CodecTblsG1.encode_eq]
  simpa using Codec.unmarshalG1_marshalG1 _ ((valid_conv P).2 hP) []

end Dos.Compose.TG1
