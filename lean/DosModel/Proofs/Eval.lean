/-
For Props/C07.lean: the nesting guard of Model/Eval.lean is the scanner of Model/HandlersDoc.lean, how the selected
values / nodes are joined, the evaluation machine reaches the one-shot result, machines in one list do not disturb one
another under any schedule, the group table returns what was announced, and so does the node around it (`NodeSt`: a
dissolve is acted on only with a share; its table is `pdkg`'s table on a part of the history, `nodeRun_book`).
-/
import DosModel.Model.Eval
import DosModel.Proofs.HandlersDoc

namespace Dos.Eval
open Dos Dos.Content

/-! ### the nesting guard: `jsonDepthExceeds` of dos_stages.go is transcribed in Model/Eval.lean as a fold with an
`over` flag and in Model/HandlersDoc.lean (C12) as a recursion that returns early; they are one function -/

theorem jsonScan_over (max : Nat) : ∀ (l : Bytes) (s : JScan), s.over = true →
    (l.foldl (jsonScanStep max) s).over = true
  | [], _, h => h
  | _ :: l, s, h => jsonScan_over max l _ (by simp [jsonScanStep, h])

theorem jsonScan_agree (max : Nat) : ∀ (b : Bytes) (d : Nat) (i e : Bool),
    (b.foldl (jsonScanStep max) ⟨d, i, e, false⟩).over = Handlers.jsonScan max ⟨d, i, e⟩ b
  | [], _, _, _ => rfl
  | c :: r, d, i, e => by
    rw [List.foldl_cons, Handlers.jsonScan]
    -- with the fold over `r` moved into the branches of the step the two bodies are alike: every branch goes on with `r`,
    -- except `return true`, where the fold keeps `over`
    simp only [jsonScanStep, Bool.false_eq_true, if_false, Bool.or_eq_true, decide_eq_true_eq, gt_iff_lt,
      apply_ite (fun s => (List.foldl (jsonScanStep max) s r).over), jsonScan_agree max r, jsonScan_over max r]

theorem jsonDepthExceeds_agree (b : Bytes) (max : Nat) :
    jsonDepthExceeds b max = Handlers.jsonDepthExceeds max b := jsonScan_agree max b 0 false false

/-! ### the assembly around the engines -/

/-- every node followed by its line feed: what the list library says of `flatten` and `map` holds of `xmlJoin` -/
theorem xmlJoin_eq_flatten : ∀ l : List Bytes, xmlJoin l = (l.map (· ++ [10])).flatten
  | [] => rfl
  | n :: l => by simp [xmlJoin, xmlJoin_eq_flatten l]

theorem xmlJoin_append (a : List Bytes) (n : Bytes) : xmlJoin (a ++ [n]) = xmlJoin a ++ n ++ [10] := by
  simp [xmlJoin_eq_flatten]

theorem jsonJoin_append {a b : List Bytes} (ha : a ≠ []) (hb : b ≠ []) :
    jsonJoin (a ++ b) = jsonJoin a ++ [0x2c] ++ jsonJoin b := by
  induction a with
  | nil => exact absurd rfl ha
  | cons v a ih =>
    cases a with
    | nil =>
      cases b with
      | nil => exact absurd rfl hb
      | cons w b => simp [jsonJoin]
    | cons w a =>
      have := ih (by simp)
      simp only [List.cons_append] at this ⊢
      simp only [jsonJoin, this, List.append_assoc]

theorem unpackAll_map_some : ∀ l : List Bytes, unpackAll (l.map some) = some l
  | [] => rfl
  | v :: l => by simp [unpackAll, unpackAll_map_some l]

/-! ### one evaluation, cut at its statements -/

theorem iter_succ (E : Engines) (k : Nat) (e : Ev) : iter E (k + 1) e = iter E k (step E e) := rfl

theorem iter_add (E : Engines) : ∀ (a b : Nat) (e : Ev), iter E (a + b) e = iter E b (iter E a e)
  | 0, b, e => by simp [iter]
  | a + 1, b, e => by
    have : a + 1 + b = (a + b) + 1 := by omega
    rw [this, iter_succ, iter_add E a b, iter_succ]

theorem iter_done (E : Engines) (r : Req) (o : Option Bytes) :
    ∀ k, iter E k { req := r, pc := .done o } = { req := r, pc := .done o }
  | 0 => rfl
  | k + 1 => by rw [iter_succ]; simp only [step]; exact iter_done E r o k

theorem iter_req (E : Engines) : ∀ (k : Nat) (e : Ev), (iter E k e).req = e.req
  | 0, _ => rfl
  | k + 1, e => by
    rw [iter_succ, iter_req E k]
    unfold step
    split
    · split
      · rfl
      · split
        · split <;> rfl
        · split
          · split <;> rfl
          · rfl
    all_goals rfl

/-- the node loop: from `xmlLoop ns acc`, after `|ns| + 2` turns the machine is done with
`acc ++ xmlJoin ns ++ addr` -/
theorem iter_xmlLoop (E : Engines) (r : Req) :
    ∀ (ns : List Bytes) (acc : Bytes),
      iter E (ns.length + 2) { req := r, pc := .xmlLoop ns acc }
        = { req := r, pc := .done (some (queryContent (acc ++ xmlJoin ns) r.addr)) }
  | [], acc => by
    simp [iter, step, xmlJoin]
  | n :: ns, acc => by
    have : (n :: ns).length + 2 = (ns.length + 2) + 1 := by simp
    rw [this, iter_succ]
    simp only [step]
    rw [iter_xmlLoop E r ns (acc ++ n ++ [10])]
    simp [xmlJoin, List.append_assoc]

/-- **the machine is `queryResult`**: after `turns E r` turns – and after any larger number – the
evaluation of `r` is done with exactly the one-shot result. -/
theorem machine_is_queryResult (E : Engines) (r : Req) (k : Nat) (hk : turns E r ≤ k) :
    result (iter E k (init r)) = some (queryResult E r) := by
  obtain ⟨d, rfl⟩ := Nat.exists_eq_add_of_le hk
  rw [iter_add]
  suffices h : iter E (turns E r) (init r) = { req := r, pc := .done (queryResult E r) } by
    rw [h, iter_done]; rfl
  obtain ⟨doc, sel, addr⟩ := r
  cases sel with
  | nil => simp [turns, iter, step, init, queryResult, dataParse]
  | cons c rest =>
    by_cases h24 : c = 0x24
    · subst h24
      simp only [turns, queryResult, dataParse, init]
      cases hj : jsonBranch E doc (0x24 :: rest) <;> simp [iter, step, hj]
    · by_cases h2f : c = 0x2f
      · subst h2f
        simp only [turns, queryResult, dataParse, init, if_true]
        cases hx : E.xml doc (0x2f :: rest) with
        | nodes ns =>
          have : ns.length + 3 = (ns.length + 2) + 1 := by omega
          simp only [this]
          have hs : step E { req := { doc := doc, sel := 0x2f :: rest, addr := addr }, pc := .start }
              = { req := { doc := doc, sel := 0x2f :: rest, addr := addr }, pc := .xmlLoop ns [] } := by
            simp [step, hx]
          rw [iter_succ, hs, iter_xmlLoop]
          simp
        | err => simp [iter, step, hx]
        | panic => simp [iter, step, hx]
      · simp [turns, iter, step, init, queryResult, dataParse, h24, h2f]

/-! ### many machines, any schedule -/

theorem stepAt_getElem? (E : Engines) : ∀ (es : List Ev) (i j : Nat),
    (stepAt E i es)[j]? = if i = j then (es[j]?).map (step E) else es[j]?
  | [], i, j => by simp [stepAt]
  | e :: es, 0, 0 => by simp [stepAt]
  | e :: es, 0, j + 1 => by simp [stepAt]
  | e :: es, i + 1, 0 => by simp [stepAt]
  | e :: es, i + 1, j + 1 => by
    simp only [stepAt, List.getElem?_cons_succ]
    rw [stepAt_getElem? E es i j]
    simp

theorem stepAt_length (E : Engines) : ∀ (es : List Ev) (i : Nat), (stepAt E i es).length = es.length
  | [], _ => by simp [stepAt]
  | _ :: _, 0 => by simp [stepAt]
  | _ :: es, i + 1 => by simp [stepAt, stepAt_length E es i]

theorem runSched_length (E : Engines) : ∀ (sch : List Nat) (es : List Ev), (runSched E sch es).length = es.length
  | [], _ => rfl
  | i :: sch, es => by
    show (runSched E sch (stepAt E i es)).length = es.length
    rw [runSched_length E sch, stepAt_length]

/-- under ANY schedule machine `j` has simply taken as many steps as it had turns: nobody else's
turn touches it -/
theorem runSched_getElem? (E : Engines) : ∀ (sch : List Nat) (es : List Ev) (j : Nat),
    (runSched E sch es)[j]? = (es[j]?).map (iter E (sch.count j))
  | [], es, j => by simp [runSched, iter]
  | i :: sch, es, j => by
    show (runSched E sch (stepAt E i es))[j]? = _
    rw [runSched_getElem? E sch, stepAt_getElem?]
    by_cases h : i = j
    · subst h
      simp only [if_true, Option.map_map, List.count_cons_self]
      congr 1
    · simp [h]

/-- under ANY schedule that gives evaluation `i` its turns, its result is the one-shot result -/
theorem runSched_result (E : Engines) (rs : List Req) (sch : List Nat) (i : Nat)
    (h : ∀ hi : i < rs.length, turns E rs[i] ≤ sch.count i) :
    ((runSched E sch (rs.map init))[i]?).map result = rs[i]?.map fun r => some (queryResult E r) := by
  rw [runSched_getElem?, List.getElem?_map]
  by_cases hi : i < rs.length
  · rw [List.getElem?_eq_getElem hi]
    exact congrArg some (machine_is_queryResult E rs[i] _ (h hi))
  · rw [List.getElem?_eq_none (by omega)]; rfl

/-! ### the group table -/

/-- the first entry for `gid` wins: an appended entry is seen only when there was none -/
theorem ids_append (b : Book) (g gid : Nat) (l : List Bytes) :
    Book.ids (b ++ [(g, l)]) gid = (Book.ids b gid).or (if g = gid then some l else none) := by
  induction b with
  | nil => simp [Book.ids]
  | cons p rest ih =>
    obtain ⟨g', l'⟩ := p
    simp only [Book.ids, List.cons_append]
    split
    · rfl
    · exact ih

theorem ids_filter (b : Book) (g gid : Nat) :
    Book.ids (b.filter (fun p => p.1 ≠ g)) gid = if g = gid then none else Book.ids b gid := by
  induction b with
  | nil => simp [Book.ids]
  | cons p rest ih =>
    obtain ⟨g', l'⟩ := p
    by_cases hg : g' = g
    · subst hg
      simp only [List.filter_cons, ne_eq, not_true_eq_false, decide_false, Bool.false_eq_true, if_false, ih]
      by_cases h2 : g' = gid
      · simp [h2]
      · simp [Book.ids, h2]
    · have : decide (g' ≠ g) = true := by simp [hg]
      simp only [List.filter_cons, this, if_true, Book.ids, ih]
      by_cases h2 : g' = gid
      · subst h2; simp; intro h; exact absurd h.symm hg
      · simp [h2]

/-- one event changes the list of group `gid` only in two ways: an announcement naming `me`
while the table has no entry installs exactly the announced list; a dissolve removes the entry -/
theorem apply_ids (me : Bytes) (b : Book) (op : Op) (gid : Nat) :
    Book.ids (Book.apply me b op) gid =
      match op with
      | .grouping g l => if g = gid ∧ me ∈ l ∧ Book.ids b gid = none then some l else Book.ids b gid
      | .dissolve g => if g = gid then none else Book.ids b gid := by
  cases op with
  | dissolve g => simp only [Book.apply]; exact ids_filter b g gid
  | grouping g l =>
    simp only [Book.apply]
    by_cases hm : me ∈ l
    · simp only [hm, if_true, true_and]
      cases hb : Book.ids b g with
      | some l0 =>
        by_cases hg : g = gid
        · subst hg; simp [hb]
        · simp [hg]
      | none =>
        rw [ids_append]
        by_cases hg : g = gid
        · subst hg; simp [hb]
        · cases Book.ids b gid <;> simp [hg]
    · simp [hm]

/-- if a step can establish `P` only from `P` or by an event of kind `Q`, then `P` of the folded state
means `P` held at the start or an event of kind `Q` occurred -/
theorem foldl_origin {σ ο : Type} (f : σ → ο → σ) (P : σ → Prop) (Q : ο → Prop)
    (hstep : ∀ s o, P (f s o) → P s ∨ Q o) (ops : List ο) (s : σ) (h : P (ops.foldl f s)) :
    P s ∨ ∃ o ∈ ops, Q o := by
  induction ops generalizing s with
  | nil => exact Or.inl h
  | cons o ops ih =>
    rcases ih _ h with h1 | ⟨o', hm, hq⟩
    · exact (hstep s o h1).imp_right fun hq => ⟨o, List.mem_cons_self, hq⟩
    · exact Or.inr ⟨o', List.mem_cons_of_mem _ hm, hq⟩

theorem apply_ids_some {me : Bytes} {b : Book} {op : Op} {gid : Nat} {l : List Bytes}
    (h : Book.ids (Book.apply me b op) gid = some l) :
    Book.ids b gid = some l ∨ (op = .grouping gid l ∧ me ∈ l) := by
  rw [apply_ids] at h
  cases op with
  | dissolve g =>
    simp only at h
    split at h
    · cases h
    · exact Or.inl h
  | grouping g l' =>
    simp only at h
    split at h
    · rename_i hc; cases h; exact Or.inr ⟨by rw [hc.1], hc.2.1⟩
    · exact Or.inl h

/-- whatever a node holds for `gid` after any sequence of events was announced for `gid`, names
the node, and is stored unchanged -/
theorem run_ids_announced (me : Bytes) (ops : List Op) (b0 : Book) (gid : Nat) (l : List Bytes)
    (h : Book.ids (ops.foldl (Book.apply me) b0) gid = some l) :
    Book.ids b0 gid = some l ∨ (Op.grouping gid l ∈ ops ∧ me ∈ l) :=
  (foldl_origin (Book.apply me) (fun b => Book.ids b gid = some l) (fun op => op = .grouping gid l ∧ me ∈ l)
    (fun _ _ => apply_ids_some) ops b0 h).imp_right fun ⟨_, hm, ho, hme⟩ => ⟨ho ▸ hm, hme⟩

/-! ### the node around the table: a dissolve is acted on only with a share -/

/-- the table steps a node event can cause: `pdkg`'s own step for an announcement or a dissolve, none for a
certification -/
def NodeOp.toOp : NodeOp → Option Op
  | .grouping g l => some (.grouping g l)
  | .certified _ => none
  | .dissolve g => some (.dissolve g)

/-- what one event does to the node's table: the step of `pdkg`'s table (`Book.apply`), or – a certification, a
dissolve without a share – nothing -/
theorem nodeApply_book (me : Bytes) (st : NodeSt) (op : NodeOp) :
    (NodeSt.apply me st op).book =
      match op with
      | .grouping g l => Book.apply me st.book (.grouping g l)
      | .certified _ => st.book
      | .dissolve g => if g ∈ st.shares then Book.apply me st.book (.dissolve g) else st.book := by
  cases op with
  | grouping g l => rfl
  | certified g =>
    simp only [NodeSt.apply]
    split
    · split <;> rfl
    · rfl
  | dissolve g => simp only [NodeSt.apply]; split <;> rfl

/-- **the node's table is `pdkg`'s table on a part of the history**: the announcements, and those dissolve events
that found a share.  (Not on the whole history: `C07.stale_entry_witness`.) -/
theorem nodeRun_book (me : Bytes) (ops : List NodeOp) (st0 : NodeSt) :
    ∃ ops' : List Op, ops'.Sublist (ops.filterMap NodeOp.toOp) ∧
      (ops.foldl (NodeSt.apply me) st0).book = ops'.foldl (Book.apply me) st0.book := by
  induction ops generalizing st0 with
  | nil => exact ⟨[], .slnil, rfl⟩
  | cons op ops ih =>
    obtain ⟨ops', hs, hb⟩ := ih (NodeSt.apply me st0 op)
    rw [List.foldl_cons, hb, nodeApply_book]
    cases op with
    | grouping g l => exact ⟨_ :: ops', hs.cons_cons _, rfl⟩
    | certified g => exact ⟨ops', hs, rfl⟩
    | dissolve g =>
      by_cases hm : g ∈ st0.shares
      · exact ⟨_ :: ops', hs.cons_cons _, by simp [hm]⟩
      · exact ⟨ops', hs.cons _, by simp [hm]⟩

/-- whatever a NODE holds for `gid` after any sequence of announcements, certifications and dissolve
events was announced for `gid`, names the node, and is stored unchanged -/
theorem nodeRun_ids_announced (me : Bytes) (ops : List NodeOp) (st0 : NodeSt) (gid : Nat) (l : List Bytes)
    (h : Book.ids (ops.foldl (NodeSt.apply me) st0).book gid = some l) :
    Book.ids st0.book gid = some l ∨ (NodeOp.grouping gid l ∈ ops ∧ me ∈ l) := by
  obtain ⟨ops', hs, hb⟩ := nodeRun_book me ops st0
  refine (run_ids_announced me ops' st0.book gid l (hb ▸ h)).imp_right fun ⟨hm, hme⟩ => ⟨?_, hme⟩
  obtain ⟨op, ho, he⟩ := List.mem_filterMap.1 (hs.subset hm)
  cases op <;> cases he
  exact ho

theorem nodeApply_share {me : Bytes} {st : NodeSt} {op : NodeOp} {gid : Nat}
    (h : gid ∈ (NodeSt.apply me st op).shares) : gid ∈ st.shares ∨ op = .certified gid := by
  cases op with
  | grouping g l => exact Or.inl (by simpa [NodeSt.apply] using h)
  | dissolve g =>
    by_cases hm : g ∈ st.shares
    · simp only [NodeSt.apply, hm, if_true, List.mem_filter] at h; exact Or.inl h.1
    · simp only [NodeSt.apply, hm, if_false] at h; exact Or.inl h
  | certified g =>
    simp only [NodeSt.apply] at h
    cases hb : Book.ids st.book g with
    | none => simp only [hb] at h; exact Or.inl h
    | some l0 =>
      simp only [hb] at h
      by_cases hm : g ∈ st.shares
      · simp only [hm, if_true] at h; exact Or.inl h
      · simp only [hm, if_false, List.mem_cons] at h
        exact h.symm.imp_right fun c => by rw [c]

/-- a share is held only for a group whose key generation was certified -/
theorem nodeRun_share_certified (me : Bytes) (ops : List NodeOp) (st0 : NodeSt) (gid : Nat)
    (h : gid ∈ (ops.foldl (NodeSt.apply me) st0).shares) :
    gid ∈ st0.shares ∨ NodeOp.certified gid ∈ ops :=
  (foldl_origin (NodeSt.apply me) (fun st => gid ∈ st.shares) (fun op => op = .certified gid)
    (fun _ _ => nodeApply_share) ops st0 h).imp_right fun ⟨_, hm, ho⟩ => ho ▸ hm

/-- **an entry without a share is permanent**: as long as the key generation of `gid` is not certified,
no sequence of announcements and dissolve events changes the list the node holds for `gid` (a
dissolve is not acted on, and every later announcement of the id is refused as a duplicate) -/
theorem entry_without_share_stays (me : Bytes) (ops : List NodeOp) (st0 : NodeSt) (gid : Nat) (l0 : List Bytes)
    (h0 : Book.ids st0.book gid = some l0) (hs : gid ∉ st0.shares) (hc : NodeOp.certified gid ∉ ops) :
    Book.ids (ops.foldl (NodeSt.apply me) st0).book gid = some l0 ∧ gid ∉ (ops.foldl (NodeSt.apply me) st0).shares := by
  induction ops generalizing st0 with
  | nil => exact ⟨h0, hs⟩
  | cons op ops ih =>
    rw [List.foldl_cons]
    refine ih _ ?_ (fun c => (nodeApply_share c).elim hs (fun c' => hc (by simp [c'])))
      (fun h => hc (List.mem_cons_of_mem _ h))
    rw [nodeApply_book]
    cases op with
    | certified g => exact h0
    | dissolve g =>
      by_cases hm : g ∈ st0.shares
      · simp only [hm, if_true, apply_ids]
        rw [if_neg (fun c : g = gid => hs (c ▸ hm))]
        exact h0
      · simp only [hm, if_false]; exact h0
    | grouping g l => simp [apply_ids, h0]

/-- a node that handles a request of `gid` holds a list announced for `gid` that names it, chooses the submitter from
that list, and the key generation of `gid` was certified -/
theorem nodeRun_submitterOf {me : Bytes} {ops : List NodeOp} {gid r : Nat} {s : Bytes}
    (h : NodeSt.submitterOf (NodeSt.run me ops) gid r = some s) :
    ∃ l, NodeOp.grouping gid l ∈ ops ∧ me ∈ l ∧ submitter l r = some s ∧ NodeOp.certified gid ∈ ops := by
  unfold NodeSt.submitterOf Book.submitterOf at h
  split at h
  · rename_i hm
    split at h
    · cases h
    · rename_i l hb
      obtain ⟨hg, hme⟩ := (nodeRun_ids_announced me ops .init gid l hb).resolve_left (by simp [NodeSt.init, Book.ids])
      exact ⟨l, hg, hme, h, (nodeRun_share_certified me ops .init gid hm).resolve_left (by simp [NodeSt.init])⟩
  · cases h

end Dos.Eval
