import DosModel.Proofs.ConnTableServe

/-! What the duplicate-connection guard of receiveHandler buys: at a node, an accepted connection that is
still running IS the table entry of its peer — so a Reply, which picks the connection by peer id, goes
back on the connection the request came in on.  (Configuration of the code, `Cfg.good`.)  As the table invariant it is
a predicate about one node over the fields it reads (`NodeGuard`); it uses nothing of `NodeTab`. -/

namespace Dos.ConnTable
open Dos

theorem not_mem_eraseIdx_of_count_le_one {α : Type} [BEq α] [LawfulBEq α] :
    ∀ (l : List α) (k : Nat) (x : α), l.count x ≤ 1 → l[k]? = some x → x ∉ l.eraseIdx k
  | [], _, _, _, h => by simp at h
  | a :: l, 0, x, hc, h => by
    simp only [List.getElem?_cons_zero, Option.some.injEq] at h
    subst h
    simp only [List.count_cons, beq_self_eq_true, if_true] at hc
    simp only [List.eraseIdx_zero, List.tail_cons]
    exact List.count_eq_zero.mp (by omega)
  | a :: l, k + 1, x, hc, h => by
    simp only [List.getElem?_cons_succ] at h
    have hx : x ∈ l := List.mem_of_getElem? h
    have h1 : 1 ≤ l.count x := List.one_le_count_iff.mpr hx
    simp only [List.count_cons] at hc
    have hax : (a == x) = false := by
      cases hb : (a == x)
      · rfl
      · simp [hb] at hc; omega
    simp only [hax, Bool.false_eq_true, if_false, Nat.add_zero] at hc
    simp only [List.eraseIdx_cons_succ, List.mem_cons, not_or]
    refine ⟨fun e => by rw [e] at hax; simp at hax, not_mem_eraseIdx_of_count_le_one l k x hc h⟩

/-- what receiveHandler's table `inb`, the removals reported and not yet taken (`rm`) and the messages the application
holds (`held`) at a node `n` running the code say about the connections -/
structure NodeGuard (N : Nat) (cs : Nat → Conn) (n : Nat) (inb : Nat → Option Nat) (rm : List (Bool × Nat))
    (held : List Held) : Prop where
  /-- an accepted connection that still runs is its peer's entry -/
  entry : ∀ c, c < N → (cs c).a = n → (cs c).regA = true → (cs c).retA = false → inb (cs c).d = some c
  /-- while a removal for `id` is on the way, no accepted connection from `id` runs -/
  noneRuns : ∀ id, (false, id) ∈ rm → ∀ c, c < N → (cs c).a = n → (cs c).d = id → (cs c).regA = true → (cs c).retA = true
  /-- … and the entry it is going to delete is still there (so the guard keeps new ones out) -/
  entryKept : ∀ id, (false, id) ∈ rm → inb id ≠ none
  /-- at most one removal per peer is on the way -/
  oneRemoval : ∀ id, rm.count (false, id) ≤ 1
  /-- a held message remembers the connection it came in on -/
  heldConn : ∀ h, h ∈ held → h.conn < N ∧ (cs h.conn).a = n ∧ (cs h.conn).d = h.sender ∧ (cs h.conn).regA = true

def GuardInv (s : Net) : Prop :=
  ∀ n, s.ideal n = false → NodeGuard s.nconn s.conns n (s.nodes n).inb (s.nodes n).rm (s.nodes n).held

namespace NodeGuard
variable {N N' : Nat} {cs cs' : Nat → Conn} {n : Nat} {inb : Nat → Option Nat} {rm : List (Bool × Nat)} {held : List Held}

/-- the connections move on: those there stay what they are and `retA` does not go back; a new one is not an accepted
connection of this node that runs -/
theorem conns (h : NodeGuard N cs n inb rm held) (hN : N ≤ N') (hid : ∀ c, c < N → SameId (cs c) (cs' c))
    (hA : ∀ c, c < N → (cs c).retA = true → (cs' c).retA = true)
    (hnew : ∀ c, N ≤ c → c < N' → (cs' c).a = n → (cs' c).regA = true → (cs' c).retA = true) :
    NodeGuard N' cs' n inb rm held where
  entry c hc ha hr hra := by
    by_cases hlt : c < N
    · obtain ⟨ed, ea, _, ereg⟩ := hid c hlt
      rw [ed]
      exact h.entry c hlt (ea ▸ ha) (ereg ▸ hr) (Bool.eq_false_iff.mpr fun h' => absurd ((hA c hlt h').symm.trans hra) nofun)
    · exact absurd ((hnew c (Nat.le_of_not_lt hlt) hc ha hr).symm.trans hra) nofun
  noneRuns id hm c hc ha hd hr := by
    by_cases hlt : c < N
    · obtain ⟨ed, ea, _, ereg⟩ := hid c hlt
      exact hA c hlt (h.noneRuns id hm c hlt (ea ▸ ha) (ed ▸ hd) (ereg ▸ hr))
    · exact hnew c (Nat.le_of_not_lt hlt) hc ha hr
  entryKept := h.entryKept
  oneRemoval := h.oneRemoval
  heldConn x hx := by
    obtain ⟨h1, h2⟩ := h.heldConn x hx
    obtain ⟨ed, ea, _, ereg⟩ := hid _ h1
    exact ⟨Nat.lt_of_lt_of_le h1 hN, by rw [ed, ea, ereg]; exact h2⟩

/-- a removal is reported to receiveHandler for a peer none of whose accepted connections runs, whose entry is there,
and for which no removal is on the way -/
theorem report (h : NodeGuard N cs n inb rm held) {id : Nat}
    (hnone : ∀ c, c < N → (cs c).a = n → (cs c).d = id → (cs c).regA = true → (cs c).retA = true)
    (hent : inb id ≠ none) (hcnt : (false, id) ∉ rm) : NodeGuard N cs n inb (rm ++ [(false, id)]) held :=
  { h with
    noneRuns := fun id' hm => (List.mem_append.mp hm).elim (h.noneRuns id') fun hm => by
      cases List.mem_singleton.mp hm; exact hnone
    entryKept := fun id' hm => (List.mem_append.mp hm).elim (h.entryKept id') fun hm => by
      cases List.mem_singleton.mp hm; exact hent
    oneRemoval := fun id' => by
      rw [List.count_append, List.count_singleton]; split
      · rename_i hb; cases beq_iff_eq.mp hb
        exact Nat.le_of_eq (congrArg (· + 1) (List.count_eq_zero.mpr hcnt))
      · exact h.oneRemoval id' }

/-- a removal reported to callHandler is none of receiveHandler's -/
theorem reportCall (h : NodeGuard N cs n inb rm held) (id : Nat) : NodeGuard N cs n inb (rm ++ [(true, id)]) held :=
  { h with
    noneRuns := fun id' hm => h.noneRuns id' (by simpa using hm)
    entryKept := fun id' hm => h.entryKept id' (by simpa using hm)
    oneRemoval := fun id' => by simpa [List.count_append] using h.oneRemoval id' }

/-- a reported removal is taken: the entry under its id goes with it -/
theorem take (h : NodeGuard N cs n inb rm held) {k id : Nat} (isCall : Bool) (hk : rm[k]? = some (isCall, id)) :
    NodeGuard N cs n (if isCall then inb else setTab inb id none) (rm.eraseIdx k) held := by
  have hsub : ∀ id', (false, id') ∈ rm.eraseIdx k → (false, id') ∈ rm := fun _ => List.mem_of_mem_eraseIdx
  have hcnt : ∀ id', (rm.eraseIdx k).count (false, id') ≤ 1 := fun id' =>
    Nat.le_trans (List.Sublist.count_le _ (List.eraseIdx_sublist _ _)) (h.oneRemoval id')
  cases isCall
  · -- the removal was on the way, so nothing accepted from `id` runs; one removal per peer: none for `id` is left
    have hgone : (false, id) ∉ rm.eraseIdx k := not_mem_eraseIdx_of_count_le_one _ k _ (h.oneRemoval id) hk
    refine ⟨fun c hc ha hr hra => ?_, fun id' hm => h.noneRuns id' (hsub id' hm), fun id' hm => ?_, hcnt, h.heldConn⟩
    · have hd : (cs c).d ≠ id := fun hd =>
        absurd ((h.noneRuns id (List.mem_of_getElem? hk) c hc ha hd hr).symm.trans hra) nofun
      simpa [setTab, hd] using h.entry c hc ha hr hra
    · have hne : id' ≠ id := fun e => hgone (e ▸ hm)
      simpa [setTab, hne] using h.entryKept id' (hsub id' hm)
  · exact ⟨h.entry, fun id' hm => h.noneRuns id' (hsub id' hm), fun id' hm => h.entryKept id' (hsub id' hm), hcnt, h.heldConn⟩

/-- connection `N` from `x.d` is accepted: the guard saw no entry for that peer -/
theorem accept (h : NodeGuard N cs n inb rm held) {x : Conn} (hx : cs' N = x) (hold : ∀ c, c < N → cs' c = cs c)
    (hg : inb x.d = none) : NodeGuard (N + 1) cs' n (setTab inb x.d (some N)) rm held where
  entry c hc ha hr hra := by
    by_cases hcN : c = N
    · subst hcN; rw [hx]; simp [setTab]
    · have hlt : c < N := by omega
      rw [hold c hlt] at ha hr hra ⊢
      have old := h.entry c hlt ha hr hra
      -- were this connection's peer the new one's, the guard would have seen its entry
      have hd : (cs c).d ≠ x.d := fun e => by rw [e, hg] at old; cases old
      simpa [setTab, hd] using old
  noneRuns id hm c hc ha hd hr := by
    by_cases hcN : c = N
    · -- a removal for `id` is on the way, so its entry is still there: the guard keeps a new one out
      subst hcN; rw [hx] at hd; exact absurd (hd ▸ hg) (h.entryKept id hm)
    · have hlt : c < N := by omega
      rw [hold c hlt] at ha hd hr ⊢
      exact h.noneRuns id hm c hlt ha hd hr
  entryKept id hm := by
    simp only [setTab]; split
    · nofun
    · exact h.entryKept id hm
  oneRemoval := h.oneRemoval
  heldConn y hy := by
    obtain ⟨h1, h2⟩ := h.heldConn y hy
    exact ⟨Nat.lt_succ_of_lt h1, by rw [hold _ h1]; exact h2⟩

end NodeGuard

theorem GuardInv.init (ideal : Nat → Bool) : GuardInv (init ideal) := fun _ _ =>
  ⟨nofun, nofun, nofun, fun _ => Nat.zero_le _, nofun⟩

theorem GuardInv.setNode {s : Net} (hG : GuardInv s) (n : Nat) (f : Node → Node)
    (h : s.ideal n = false → NodeGuard s.nconn s.conns n (f (s.nodes n)).inb (f (s.nodes n)).rm (f (s.nodes n)).held) :
    GuardInv (s.setNode n f) :=
  setNode_forall (P := fun m nd => s.ideal m = false → NodeGuard s.nconn s.conns m nd.inb nd.rm nd.held) hG n f h

/-- a change of one connection record that leaves its identity alone and does not take `retA` back -/
theorem GuardInv.setConn {s : Net} (hG : GuardInv s) (c : Nat) (f : Conn → Conn)
    (hid : SameId (s.conns c) (f (s.conns c))) (hA : (s.conns c).retA = true → (f (s.conns c)).retA = true) :
    GuardInv (s.setConn c f) := fun n hi =>
  (hG n hi).conns (Nat.le_refl _) (fun e _ => setConn_forall (P := fun e y => SameId (s.conns e) y) (fun _ => .rfl _) c f hid e)
    (fun e _ => setConn_forall (P := fun e y => (s.conns e).retA = true → y.retA = true) (fun _ => id) c f hA e)
    (fun _ h1 h2 => absurd h2 (Nat.not_lt.mpr h1))

theorem GuardInv.hand {s : Net} (hG : GuardInv s) (i c : Nat) : GuardInv (hand Cfg.good s i c) := by
  cases hcl : (s.conns c).clD
  · rw [hand_open _ s i c hcl]; exact hG.setConn c (handF Cfg.good s i c) ⟨rfl, rfl, rfl, rfl⟩ id
  · rw [hand_closed _ s i c hcl]; exact hG

theorem GuardInv.retAtD {s : Net} (hG : GuardInv s) (c : Nat) : GuardInv (retAtD Cfg.good s c) := by
  cases h : (s.conns c).retD
  case true => rw [retAtD_idle _ s c h]; exact hG
  rw [retAtD_fire _ s c h]
  have h1 := hG.setConn c (fun x => { x with retD := true }) ⟨rfl, rfl, rfl, rfl⟩ id
  exact h1.setNode _ _ fun hi => (h1 _ hi).reportCall _

/-- the accepting end of `c` stops running: its removal is reported -/
theorem GuardInv.retAtA {s : Net} (hG : GuardInv s) (c : Nat) (hc : c < s.nconn) : GuardInv (retAtA Cfg.good s c) := by
  by_cases hact : (s.conns c).retA = false ∧ (s.conns c).regA = true
  case neg => rw [retAtA_idle _ s c hact]; exact hG
  obtain ⟨hrA, hrg⟩ := hact
  rw [retAtA_fire _ s c hrA hrg, reportA_good]
  have h1 := hG.setConn c (fun x => { x with retA := true }) ⟨rfl, rfl, rfl, rfl⟩ (fun _ => rfl)
  refine h1.setNode _ _ fun hi => ?_
  -- while `c` ran it was its peer's entry, and no removal for that peer was on the way
  have hent := (hG _ hi).entry c hc rfl hrg hrA
  refine (h1 _ hi).report (fun e he ha hd hr => ?_) (fun h => absurd (hent.symm.trans h) nofun)
    (fun hm => absurd (((hG _ hi).noneRuns _ hm c hc rfl rfl hrg).symm.trans hrA) nofun)
  -- another accepted connection from this peer, if it still ran, would be the entry too
  rw [setConn_conns] at ha hd hr ⊢; split
  · rfl
  · rename_i hec
    rw [if_neg hec] at ha hd hr
    cases hre : (s.conns e).retA
    · have h2 := (hG _ hi).entry e he ha hr hre
      rw [hd, hent] at h2
      exact absurd (Option.some.inj h2).symm hec
    · rfl

theorem GuardInv.openConn {s : Net} (hG : GuardInv s) (a x : Nat) : GuardInv (openConn Cfg.good s a x x) := by
  rw [openConn_eq]
  have hold := fun c (hc : c < s.nconn) => pushConn_old s (mkConn Cfg.good s a x x) hc
  have hnew := pushConn_new s (mkConn Cfg.good s a x x)
  -- a node that does not accept the new connection
  have hpush : ∀ n, s.ideal n = false → (n = x → refused Cfg.good s a x = true) →
      NodeGuard (s.nconn + 1) (pushConn s (mkConn Cfg.good s a x x)).conns n (s.nodes n).inb (s.nodes n).rm
        (s.nodes n).held := fun n hi hno =>
    (hG n hi).conns (Nat.le_succ _) (fun c hc => hold c hc ▸ .rfl _) (fun c hc h => hold c hc ▸ h) fun c h1 h2 ha hr => by
      cases Nat.le_antisymm (Nat.le_of_lt_succ h2) h1
      rw [hnew] at ha hr
      simp [mkConn, hno ha.symm] at hr
  have key : GuardInv (if s.ideal x || refused Cfg.good s a x then pushConn s (mkConn Cfg.good s a x x) else
      (pushConn s (mkConn Cfg.good s a x x)).setNode x fun n => { n with inb := setTab n.inb a (some s.nconn) }) := by
    split
    · rename_i hg
      exact fun n hi => hpush n hi fun e => (Bool.or_eq_true_iff.mp hg).resolve_left fun h => by
        rw [← e] at h; exact absurd (h.symm.trans hi) nofun
    · rename_i hg
      intro n hi
      show NodeGuard _ _ n (((pushConn s (mkConn Cfg.good s a x x)).setNode x _).nodes n).inb _ _
      rw [setNode_nodes]; split
      · -- what the guard saw: no entry for `a`
        rename_i hn; subst hn
        refine (hG n hi).accept hnew hold ?_
        show (s.nodes n).inb a = none
        have : refused Cfg.good s a n = false := (Bool.or_eq_false_iff.mp (Bool.eq_false_iff.mpr hg)).2
        cases h : (s.nodes n).inb a
        · rfl
        · simp [refused, Cfg.good, keyVal, h, (show s.ideal n = false from hi)] at this
      · exact hpush n hi fun e => absurd e ‹_›
  -- callHandler's table plays no role
  exact key.setNode a _ fun hi => key a hi

theorem Effect.guardInv {s t : Net} {e : Ev} (h : Effect Cfg.good s e t) (hG : GuardInv s) : GuardInv t := by
  induction h with
  | init => exact hG
  | newReq _ _ _ ih | errs _ _ _ ih | got _ _ _ _ _ _ _ _ ih => exact ih
  | hand i c _ _ _ _ ih => exact ih.hand i c
  | openConn a b x _ _ hx _ ih => exact announced_eq_dialled hx ▸ ih.openConn a x
  | retAtD c _ _ ih => exact ih.retAtD c
  | retAtA c hc _ ih => exact ih.retAtA c hc
  | conn c f q _ ih => exact ih.setConn c f ⟨q.d, q.a, q.ann, q.regA⟩ fun h => q.retA ▸ h
  | deliver n hd _ hc _ ih =>
    exact ih.setNode n _ fun hi => { ih n hi with
      heldConn := fun h hh => (List.mem_append.mp hh).elim ((ih n hi).heldConn h) fun hh => List.mem_singleton.mp hh ▸ hc }
  | answer b k _ ih =>
    exact ih.setNode b _ fun hi => { ih b hi with
      heldConn := fun h hh => (ih b hi).heldConn h (List.mem_of_mem_eraseIdx hh) }
  | reply b c' hd _ _ ih => exact ih.setConn c' _ ⟨rfl, rfl, rfl, rfl⟩ id
  | @procRm n k isCall id _ hk =>
    refine hG.setNode n _ fun hi => ?_
    cases isCall <;> exact (hG n hi).take _ hk
  | disconnect a b _ => exact hG.setNode a _ fun hi => hG a hi
  | reset n _ =>
    intro m hi
    show NodeGuard _ _ m ((step Cfg.good s (.reset n)).nodes m).inb _ _
    have hc := (hG m hi).conns (cs' := (step Cfg.good s (.reset n)).conns) (Nat.le_refl _) (fun c _ => reset_sameId _ s n c)
      (fun c _ h => by rw [reset_retA, h]; rfl) (fun _ h1 h2 => absurd h2 (Nat.not_lt.mpr h1))
    rw [reset_nodes]; split
    · -- the restarted node: none of the connections it accepted runs any more
      rename_i hm
      refine ⟨fun c _ ha _ hra => ?_, nofun, nofun, fun _ => Nat.zero_le _, nofun⟩
      rw [reset_retA, ← (reset_sameId _ s n c).a, ha, hm] at hra; simp at hra
    · exact hc

theorem run_guardInv {s : Net} (hG : GuardInv s) (evs : List Ev) : GuardInv (run Cfg.good s evs) :=
  run_induction _ (fun t e => (step_effect _ t e).guardInv) hG evs

/-- the Reply to a held message goes to the connection the message came in on, as long as that connection's
accepting end still runs (`client.run` has not returned there) -/
theorem reply_target_is_arrival_connection {s : Net} (hG : GuardInv s) (b : Nat) (h : Held) (hh : h ∈ (s.nodes b).held)
    (hib : s.ideal b = false) (hrun : (s.conns h.conn).retA = false) :
    (s.nodes b).inb h.sender = some h.conn := by
  obtain ⟨h1, h2, h3, h4⟩ := (hG b hib).heldConn h hh
  exact h3 ▸ (hG b hib).entry h.conn h1 h2 h4 hrun

/-- … and so the reply frame is put on that very connection (if its wire is up and its accepting end not closed) -/
theorem appReply_on_arrival_connection {s : Net} (hG : GuardInv s) (b k : Nat) (h : Held)
    (hk : (s.nodes b).held[k]? = some h) (hib : s.ideal b = false)
    (hrun : (s.conns h.conn).retA = false) (hcl : (s.conns h.conn).clA = false) (hup : (s.conns h.conn).up = true) :
    ((step Cfg.good s (.appReply b k)).conns h.conn).repQ = (s.conns h.conn).repQ ++ [(h.nonce, h.g)] := by
  have ht := reply_target_is_arrival_connection hG b h (List.mem_of_getElem? hk) hib hrun
  simp only [step, hk, hib, Bool.false_eq_true, if_false, ht, hcl, hup, Bool.not_true, Bool.or_self]
  simp

end Dos.ConnTable
