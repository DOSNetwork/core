/-
C14 liveness: the termination measure (buffered items, idle goroutines, escape distances) and
how a move changes it.
-/
import DosModel.Proofs.PipeLive2

namespace Dos.Pipe
variable {p : Pipeline}

theorem liveOk_parts (h : LiveOk p = true) :
    W0 p = true ∧ ∀ (g : Gi) (gr : Goroutine), p.gs[g]? = some gr → gr.daemon = false →
      (∀ nd ∈ gr.nodes, nodeLive p g nd = true) ∧ W4g p g gr = true := by
  unfold LiveOk at h
  simp only [Bool.and_eq_true] at h
  refine ⟨h.1, ?_⟩
  intro g gr hg hd
  have := zipIdx_all h.2 hg
  simp only [hd, Bool.false_or, liveG, Bool.and_eq_true, List.all_eq_true] at this
  exact this

/-- the escape distance labeling of a goroutine -/
def distG (p : Pipeline) (g : Gi) (gr : Goroutine) : List Nat := distTo (escEdges p g) gr.nodes Node.isExit

theorem distOk_edge {esc : Node → List (Lab × Pc)} {nodes : List Node} {tgt : Node → Bool}
    {scope : Nat → Bool} {d : List Nat} (h : distOk esc nodes tgt scope d = true) {pc : Pc} {nd : Node}
    (hn : nodes[pc]? = some nd) (hs : scope pc = true) (ht : tgt nd = false) :
    ∃ l n, (l, n) ∈ esc nd ∧ distAt d n < distAt d pc := by
  unfold distOk at h
  have := zipIdx_all h hn
  simp only [hs, ht, Bool.not_true, Bool.false_or, List.any_eq_true, decide_eq_true_eq] at this
  obtain ⟨⟨l, n⟩, hm, hlt⟩ := this
  exact ⟨l, n, hm, hlt⟩

theorem W4g_edge {g : Gi} {gr : Goroutine} (h : W4g p g gr = true) {pc : Pc} {nd : Node}
    (hn : gr.nodes[pc]? = some nd) (hne : nd.isExit = false) :
    ∃ l n, (l, n) ∈ escEdges p g nd ∧ distAt (distG p g gr) n < distAt (distG p g gr) pc := by
  unfold W4g at h
  exact distOk_edge h hn rfl hne

/-- a running goroutine stands at a node of its graph -/
theorem at_in_range (h0 : W0 p = true) {g : Gi} {gr : Goroutine} (hg : p.gs[g]? = some gr) :
    ∀ s, Reach p s → ∀ pc, s.gs[g]? = some (.at pc) → pc < gr.nodes.length := by
  have hpos : 0 < gr.nodes.length := by
    unfold W0 at h0
    rw [List.all_eq_true] at h0
    have := h0 gr (List.mem_of_getElem? hg)
    simp only [Bool.and_eq_true, decide_eq_true_eq] at this
    exact this.1
  intro s hr
  exact (at_inv hg (J := fun pc _ => pc < gr.nodes.length) (D := fun _ => True) (fun _ => hpos)
    (fun _ _ _ _ _ hJ => hJ) (fun _ _ _ _ _ _ _ _ _ _ hn hed _ _ _ => (W0_edge h0 hg hn hed).2)
    (fun _ _ _ _ _ _ _ => trivial) (fun _ _ _ _ _ => trivial) s hr).1

theorem ctxDone_mono {s s' : State} {e : Ev} (hst : Step p s e (.run s')) (k : Nat)
    (h : s.ctxDone k = true) : s'.ctxDone k = true := by
  rw [(step_rest hst).ctxDone]; exact effect_ctxDone_mono s _ k h

theorem reach_path {s s' : State} (hr : Reach p s) (hp : Path p s s') : Reach p s' := by
  induction hp with
  | refl => exact hr
  | step hst _ ih => exact ih (Reach.step hr hst)

theorem path_trans {p : Pipeline} {s t u : State} (h1 : Path p s t) (h2 : Path p t u) : Path p s u := by
  induction h1 with
  | refl => exact h2
  | step hst _ ih => exact Path.step hst (ih h2)

def lenSum : List ChSt → Nat
  | [] => 0
  | x :: xs => x.len + lenSum xs

def totalLen (s : State) : Nat := lenSum s.chs

def idleCnt : List GSt → Nat
  | [] => 0
  | x :: xs => (if x = GSt.idle then 1 else 0) + idleCnt xs

def idleCount (s : State) : Nat := idleCnt s.gs

def gweight (p : Pipeline) (g : Gi) (gr : Goroutine) (st : GSt) : Nat :=
  if gr.daemon then 0 else
  match st with
  | .at pc => 1 + distAt (distG p g gr) pc
  | _ => 0

def wsum (p : Pipeline) : Nat → List Goroutine → List GSt → Nat
  | i, gr :: grs, st :: sts => gweight p i gr st + wsum p (i + 1) grs sts
  | _, _, _ => 0

def weightSum (p : Pipeline) (s : State) : Nat := wsum p 0 p.gs s.gs

theorem lenSum_set : ∀ (chs : List ChSt) (c : Nat) (x y : ChSt), chs[c]? = some x →
    lenSum (chs.set c y) + x.len = lenSum chs + y.len := by
  intro chs
  induction chs with
  | nil => intro c x y h; simp at h
  | cons z zs ih =>
    intro c x y h
    cases c with
    | zero =>
      simp only [List.getElem?_cons_zero, Option.some.injEq] at h
      subst h
      simp only [List.set_cons_zero, lenSum]; omega
    | succ c =>
      simp only [List.getElem?_cons_succ] at h
      simp only [List.set_cons_succ, lenSum]
      have := ih c x y h
      omega

theorem idleCnt_set : ∀ (sts : List GSt) (i : Nat) (x y : GSt), sts[i]? = some x →
    idleCnt (sts.set i y) + (if x = GSt.idle then 1 else 0) = idleCnt sts + (if y = GSt.idle then 1 else 0) := by
  intro sts
  induction sts with
  | nil => intro i x y h; simp at h
  | cons z zs ih =>
    intro i x y h
    cases i with
    | zero =>
      simp only [List.getElem?_cons_zero, Option.some.injEq] at h
      subst h
      simp only [List.set_cons_zero, idleCnt]; omega
    | succ i =>
      simp only [List.getElem?_cons_succ] at h
      simp only [List.set_cons_succ, idleCnt]
      have := ih i x y h
      omega

theorem wsum_set (p : Pipeline) : ∀ (grs : List Goroutine) (sts : List GSt) (k i : Nat) (gr : Goroutine) (st st' : GSt),
    grs[i]? = some gr → sts[i]? = some st →
    wsum p k grs (sts.set i st') + gweight p (k + i) gr st = wsum p k grs sts + gweight p (k + i) gr st' := by
  intro grs
  induction grs with
  | nil => intro sts k i gr st st' h; simp at h
  | cons g0 grs ih =>
    intro sts k i gr st st' hg hs
    cases sts with
    | nil => simp at hs
    | cons s0 sts =>
      cases i with
      | zero =>
        simp only [List.getElem?_cons_zero, Option.some.injEq] at hg hs
        subst hg; subst hs
        simp only [List.set_cons_zero, wsum, Nat.add_zero]
        omega
      | succ i =>
        simp only [List.getElem?_cons_succ] at hg hs
        simp only [List.set_cons_succ, wsum]
        have := ih sts (k + 1) i gr st st' hg hs
        have e : k + 1 + i = k + (i + 1) := by omega
        rw [e] at this
        omega

/-- lexicographic decrease of (buffered items, idle goroutines, escape weights) -/
def Dec (p : Pipeline) (s s1 : State) : Prop :=
  totalLen s1 < totalLen s ∨
  (totalLen s1 = totalLen s ∧
    (idleCount s1 < idleCount s ∨ (idleCount s1 = idleCount s ∧ weightSum p s1 < weightSum p s)))

theorem totalLen_setG (s : State) (g : Gi) (x : GSt) : totalLen (s.setG g x) = totalLen s := rfl

theorem chs_get_of_lt {s : State} {c : Ch} (h : c < s.chs.length) : ∃ x, s.chs[c]? = some x :=
  ⟨s.chs[c], by simp [h]⟩

theorem totalLen_setLen (s : State) (c : Ch) (n : Nat) (h : c < s.chs.length) :
    totalLen (s.setLen c n) + s.len c = totalLen s + n := by
  obtain ⟨x, hx⟩ := chs_get_of_lt h
  unfold totalLen State.setLen
  have := lenSum_set s.chs c x { len := n, closed := s.closed c } hx
  have hl : s.len c = x.len := by simp [State.len, hx]
  dsimp only at this ⊢
  omega

theorem totalLen_setClosed (s : State) (c : Ch) : totalLen (s.setClosed c) = totalLen s := by
  by_cases h : c < s.chs.length
  · obtain ⟨x, hx⟩ := chs_get_of_lt h
    unfold totalLen State.setClosed
    have := lenSum_set s.chs c x { len := s.len c, closed := true } hx
    have hl : s.len c = x.len := by simp [State.len, hx]
    dsimp only at this ⊢
    omega
  · unfold totalLen State.setClosed
    rw [List.set_eq_of_length_le (Nat.le_of_not_lt h)]

/-- an escape label is neither a send nor a successful receive -/
def Lab.quiet : Lab → Bool
  | .send _ | .recvOk _ => false
  | _ => true

theorem totalLen_effect_quiet (s : State) (l : Lab) (h : l.quiet = true) : totalLen (effect s l) = totalLen s := by
  cases l <;> simp [Lab.quiet] at h <;> simp [effect, totalLen_setClosed] <;> try rfl
  case spawn g => split <;> rfl

theorem totalLen_effect_recvOk (s : State) (c : Ch) (hin : c < s.chs.length) (hpos : 0 < s.len c) :
    totalLen (effect s (.recvOk c)) + 1 = totalLen s := by
  have := totalLen_setLen s c (s.len c - 1) hin
  simp only [effect]
  omega

theorem esc_quiet {g : Gi} {nd : Node} {l : Lab} {n : Pc} (h : (l, n) ∈ escEdges p g nd) :
    l.quiet = true := by
  rcases mem_escEdges_cases h with ⟨alts, rfl⟩ | ⟨ns, rfl, rfl⟩ | ⟨c, rfl, rfl⟩ | ⟨w, rfl, rfl⟩ | ⟨w, rfl, rfl⟩ |
      ⟨g', rfl, rfl⟩ | ⟨k, rfl, rfl⟩
  · rcases mem_escEdges_sel h with ⟨rfl, _⟩ | ⟨rfl, _⟩ | ⟨c, a, _, rfl, _⟩ <;> rfl
  all_goals rfl

theorem idleCount_effect (s : State) (l : Lab) :
    idleCount (effect s l) = idleCount s ∨ idleCount (effect s l) + 1 = idleCount s := by
  unfold idleCount
  rcases effect_gs_cases s l with h | ⟨g', _, hidle, h⟩
  · left; rw [h]
  · right; rw [h]
    have := idleCnt_set s.gs g' GSt.idle (GSt.at 0) hidle
    simp at this
    omega

theorem weightSum_effect_of_idle_same (s : State) (l : Lab)
    (h : idleCount (effect s l) = idleCount s) : wsum p 0 p.gs (effect s l).gs = wsum p 0 p.gs s.gs := by
  rcases effect_gs_cases s l with h1 | ⟨g', _, hidle, h1⟩
  · rw [h1]
  · exfalso
    unfold idleCount at h
    rw [h1] at h
    have := idleCnt_set s.gs g' GSt.idle (GSt.at 0) hidle
    simp at this
    omega

/-- moving the running goroutine `g` along an escape edge to a node closer to the exit
    decreases the measure -/
theorem moved_dec {s : State} {g : Gi} {gr : Goroutine} {pc n : Pc} {l : Lab}
    (hg : p.gs[g]? = some gr) (hd : gr.daemon = false) (hat : s.gs[g]? = some (.at pc))
    (hq : l.quiet = true) (hlt : distAt (distG p g gr) n < distAt (distG p g gr) pc) :
    Dec p s (moved s g l n) := by
  unfold Dec moved
  right
  refine ⟨by rw [totalLen_setG, totalLen_effect_quiet s l hq], ?_⟩
  have hat2 := effect_get_at l hat
  have hidle : idleCount ((effect s l).setG g (GSt.at n)) = idleCount (effect s l) := by
    unfold idleCount
    have := idleCnt_set (effect s l).gs g (GSt.at pc) (GSt.at n) hat2
    simp at this
    simpa using this
  rcases idleCount_effect s l with h1 | h1
  · right
    refine ⟨by rw [hidle, h1], ?_⟩
    unfold weightSum
    have hw := wsum_set p p.gs (effect s l).gs 0 g gr (GSt.at pc) (GSt.at n) hg hat2
    rw [weightSum_effect_of_idle_same s l h1] at hw
    simp only [Nat.zero_add] at hw
    have e1 : gweight p g gr (GSt.at pc) = 1 + distAt (distG p g gr) pc := by simp [gweight, hd]
    have e2 : gweight p g gr (GSt.at n) = 1 + distAt (distG p g gr) n := by simp [gweight, hd]
    simp only [State.setG_gs]
    omega
  · left
    rw [hidle]; omega

theorem recvOk_dec {s : State} {g : Gi} {c : Ch} {n : Pc}
    (hin : c < s.chs.length) (hpos : 0 < s.len c) : Dec p s (moved s g (.recvOk c) n) := by
  unfold Dec moved
  left
  rw [totalLen_setG]
  have := totalLen_effect_recvOk s c hin hpos
  omega

theorem exit_dec {s : State} {g : Gi} {gr : Goroutine} {pc : Pc}
    (hg : p.gs[g]? = some gr) (hd : gr.daemon = false) (hat : s.gs[g]? = some (.at pc)) :
    Dec p s (s.setG g .done) := by
  unfold Dec
  right
  refine ⟨rfl, ?_⟩
  right
  constructor
  · unfold idleCount
    have := idleCnt_set s.gs g (GSt.at pc) GSt.done hat
    simp at this
    simpa using this
  · unfold weightSum
    have hw := wsum_set p p.gs s.gs 0 g gr (GSt.at pc) GSt.done hg hat
    simp only [Nat.zero_add] at hw
    have e1 : gweight p g gr (GSt.at pc) = 1 + distAt (distG p g gr) pc := by simp [gweight, hd]
    have e2 : gweight p g gr GSt.done = 0 := by simp [gweight]
    simp only [State.setG_gs]
    omega

end Dos.Pipe
