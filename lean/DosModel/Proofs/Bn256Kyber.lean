/-
C10 / E7 — helper lemmas for Props/C10Kyber.lean (the kyber-level functions of point.go and the
gfp.go helpers, translated by go/extract/bn256code).
* the stated behaviour of the scalar type `kyber/group/mod.Int` (NOT translated: a dependency): the big.Int `V`
  that `pointGx.Mul` hands to the curve code is the integer reduced into [0, M), M = Order for every scalar the
  suite makes (`mod.NewInt64(0, Order)`, group.go);
* gfP.Invert's loop over any base type (the generated straight-line code equals it by evaluation).
-/
import DosModel.Proofs.Bn256Concrete2
import DosModel.Proofs.Bn256Code

namespace Dos.Bn256
open Dos.Mont

/-- `mod.Int`: the value `V` of a scalar that was set to the integer `k` modulo `m` (`Int.Init`, `SetInt64`,
`SetBytes`, `Add`, `Mul`, `Neg`, … all end in `V.Mod(V, M)`, Go's Euclidean modulus: 0 ≤ V < M) -/
def modIntV (k : Int) (m : Nat) : Nat := (k % (m : Int)).toNat

theorem modIntV_lt (k : Int) (m : Nat) (hm : 0 < m) : modIntV k m < m := by
  unfold modIntV
  have h1 : 0 ≤ k % (m : Int) := Int.emod_nonneg _ (by omega)
  have h2 : k % (m : Int) < m := Int.emod_lt_of_pos _ (by omega)
  omega

theorem modIntV_cast (k : Int) (m : Nat) (hm : 0 < m) : ((modIntV k m : Nat) : Int) = k % (m : Int) := by
  unfold modIntV
  exact Int.toNat_of_nonneg (Int.emod_nonneg _ (by omega))

theorem modIntV_natCast (k m : Nat) : modIntV (k : Int) m = k % m := by
  unfold modIntV
  rw [← Int.natCast_mod]; rfl

/-- in an additive group where `n • P = 0`, the multiple by the reduced scalar is the multiple by the integer -/
theorem modIntV_smul {G : Type} [AddCommGroup G] (P : G) (n : Nat) (hn : 0 < n) (h0 : n • P = 0) (k : Int) :
    (modIntV k n) • P = k • P := by
  have hz : ((n : Int)) • P = 0 := by rw [natCast_zsmul]; exact h0
  have e : k = (n : Int) * (k / n) + k % n := (Int.mul_ediv_add_emod k n).symm
  rw [← natCast_zsmul, modIntV_cast k n hn]
  conv_rhs => rw [e, add_zsmul, mul_zsmul', hz, zsmul_zero, zero_add]

/-! ### gfP.Invert: the loop over any base type -/

/-- the loop of gfP.Invert over any type with a multiplication (Model/Bn256Field.lean's `invLoopG` is this at GFp) -/
def invLoopAny {α : Type} [Mul α] (bits : List Bool) (st : α × α) : α × α :=
  bits.foldl (fun st bit => (if bit then st.1 * st.2 else st.1, st.2 * st.2)) st

theorem invLoopAny_gfp (bits : List Bool) (st : GFp × GFp) : invLoopAny bits st = GFp.invLoopG bits st := rfl

end Dos.Bn256
