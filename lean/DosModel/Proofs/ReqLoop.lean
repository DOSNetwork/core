/-
Helper lemmas for C19: the request loop `handleReq` as a function of the endpoint outcomes; at the end `toBigInt` and
`decodePubKey` in the terms of C11's codec model (`Model/Codec.lean`, `Proofs/Codec.lean`).
-/
import DosModel.Model.ReqLoop
import DosModel.Proofs.Codec

namespace Dos.ReqLoop
open Dos

/-- `f` is invoked when the loop reaches an endpoint with this outcome -/
def called : Outcome → Bool
  | .ctxDone | .opDone => false
  | _ => true

/-- the loop does not go on to the next endpoint after this outcome -/
def stops : Outcome → Bool
  | .accept | .revert | .insufficient | .opDone => true
  | _ => false

/-- the loop invokes the endpoint's cancel function after this outcome -/
def cancels : Outcome → Bool
  | .closedConn | .nonceErr => true
  | _ => false

theorem called_iff (o : Outcome) : called o = true ↔ o ≠ .ctxDone ∧ o ≠ .opDone := by cases o <;> decide

theorem cancels_iff (o : Outcome) : cancels o = true ↔ o = .closedConn ∨ o = .nonceErr := by cases o <;> decide

/-- the endpoints the loop reaches whose outcome satisfies `p`, as a function of the outcomes alone: the loop walks
the endpoints in order up to and including the first one whose outcome stops it -/
def reachedSpec (p : Outcome → Bool) : Nat → List Outcome → List Nat
  | _, [] => []
  | k, o :: os => (if p o then [k] else []) ++ (if stops o then [] else reachedSpec p (k + 1) os)

abbrev contactedSpec := reachedSpec called
abbrev cancelledSpec := reachedSpec cancels

/-- the Go variable `err` after the loop, entered with `err = e`: the error of the last endpoint on which `f` is invoked -/
def lastErr : List Outcome → Option ErrKind → Option ErrKind
  | [], e => e
  | o :: os, e =>
    if stops o then (if called o then o.err else e)
    else lastErr os (if called o then o.err else e)

/-- does the loop end on an accepting endpoint -/
def acceptedSpec : List Outcome → Bool
  | [] => false
  | o :: os => if stops o then o == .accept else acceptedSpec os

/-- does the loop reach an `opDone` endpoint (returns without replying) -/
def gaveUp : List Outcome → Bool
  | [] => false
  | o :: os => if stops o then o == .opDone else gaveUp os

/-- `response.idx` -/
def idxSpec : Nat → List Outcome → Nat → Nat
  | _, [], i => i
  | k, o :: os, i => if stops o then (if o == .opDone then i else k) else idxSpec (k + 1) os k

/-- the F8 repair: an error is supplied when nothing was attempted -/
def fixErr (fixed acc : Bool) (e : Option ErrKind) : Option ErrKind :=
  if fixed && !acc && e.isNone then some ErrKind.noEndpoint else e

theorem loop_eq (fixed : Bool) : ∀ (os : List Outcome) (k : Nat) (s : St),
    loop fixed k os s =
      { contacted := s.contacted ++ contactedSpec k os, cancelled := s.cancelled ++ cancelledSpec k os,
        reply := if gaveUp os then none
          else some { idx := idxSpec k os s.idx, accepted := acceptedSpec os,
                      err := fixErr fixed (acceptedSpec os) (lastErr os s.err) } } := by
  intro os
  induction os with
  | nil => intro k s; simp [loop, finish, reachedSpec, gaveUp, acceptedSpec, lastErr, idxSpec, fixErr]
  | cons o os ih =>
    intro k s
    cases o <;> simp [loop, finish, reachedSpec, called, cancels, stops, gaveUp, acceptedSpec, lastErr, Outcome.err,
      idxSpec, fixErr, ih]

theorem handleReq_contacted (fixed : Bool) (os : List Outcome) :
    (handleReq fixed os).contacted = contactedSpec 0 os := by
  simp [handleReq, loop_eq]

theorem handleReq_cancelled (fixed : Bool) (os : List Outcome) :
    (handleReq fixed os).cancelled = cancelledSpec 0 os := by
  simp [handleReq, loop_eq]

theorem handleReq_reply (fixed : Bool) (os : List Outcome) :
    (handleReq fixed os).reply =
      if gaveUp os then none
      else some { idx := idxSpec 0 os 0, accepted := acceptedSpec os,
                  err := fixErr fixed (acceptedSpec os) (lastErr os none) } := by
  simp [handleReq, loop_eq]

theorem mem_reachedSpec (p : Outcome → Bool) : ∀ (os : List Outcome) (k j : Nat),
    j ∈ reachedSpec p k os ↔
      ∃ i o, j = k + i ∧ os[i]? = some o ∧ p o = true ∧
        ∀ m o', m < i → os[m]? = some o' → stops o' = false := by
  intro os
  induction os with
  | nil => intro k j; simp [reachedSpec]
  | cons o os ih =>
    intro k j
    simp only [reachedSpec, List.mem_append]
    constructor
    · rintro (h | h)
      · by_cases hc : p o = true
        · simp [hc] at h
          exact ⟨0, o, by omega, by simp, hc, by intro m o' hm; omega⟩
        · simp [hc] at h
      · by_cases hs : stops o = true
        · simp [hs] at h
        · simp [hs] at h
          obtain ⟨i, o1, hj, hi, hc, hall⟩ := (ih (k + 1) j).1 h
          refine ⟨i + 1, o1, by omega, by simpa using hi, hc, ?_⟩
          intro m o' hm hget
          cases m with
          | zero => simp at hget; subst hget; simpa using hs
          | succ m => exact hall m o' (by omega) (by simpa using hget)
    · rintro ⟨i, o1, hj, hi, hc, hall⟩
      cases i with
      | zero =>
        simp at hi; subst hi
        left; simp [hc]; omega
      | succ i =>
        right
        have hs : stops o = false := hall 0 o (by omega) (by simp)
        simp [hs]
        refine (ih (k + 1) j).2 ⟨i, o1, by omega, by simpa using hi, hc, ?_⟩
        intro m o' hm hget
        exact hall (m + 1) o' (by omega) (by simpa using hget)

/-- from endpoint 0, as `handleReq` starts: endpoint `j` is reached with an outcome satisfying `p` -/
theorem mem_reachedSpec_zero (p : Outcome → Bool) (os : List Outcome) (j : Nat) :
    j ∈ reachedSpec p 0 os ↔
      ∃ o, os[j]? = some o ∧ p o = true ∧ ∀ m o', m < j → os[m]? = some o' → stops o' = false := by
  rw [mem_reachedSpec]
  constructor
  · rintro ⟨i, o, hj, h⟩
    obtain rfl : j = i := by omega
    exact ⟨o, h⟩
  · rintro ⟨o, h⟩
    exact ⟨j, o, by omega, h⟩

theorem contactedSpec_sorted : ∀ (os : List Outcome) (k : Nat),
    (contactedSpec k os).Pairwise (· < ·) ∧ ∀ j ∈ contactedSpec k os, k ≤ j := by
  intro os
  induction os with
  | nil => intro k; simp [reachedSpec]
  | cons o os ih =>
    intro k
    obtain ⟨h1, h2⟩ := ih (k + 1)
    by_cases hc : called o = true <;> by_cases hs : stops o = true <;>
      simp [reachedSpec, hc, hs, h1]
    · constructor
      · intro j hj; have := h2 j hj; omega
      · intro j hj; have := h2 j hj; omega
    · intro j hj; have := h2 j hj; omega

theorem opDone_mem_of_gaveUp : ∀ (os : List Outcome), gaveUp os = true → Outcome.opDone ∈ os
  | [], h => by simp [gaveUp] at h
  | o :: os, h => by
    rw [gaveUp] at h
    split at h
    · exact List.mem_cons.2 (.inl (eq_of_beq h).symm)
    · exact List.mem_cons_of_mem _ (opDone_mem_of_gaveUp os h)

theorem handleReq_reply_none (fixed : Bool) (os : List Outcome) :
    (handleReq fixed os).reply = none ↔ gaveUp os = true := by
  rw [handleReq_reply]
  by_cases h : gaveUp os = true <;> simp [h]

theorem handleReq_reply_some (fixed : Bool) (os : List Outcome) (r : Reply)
    (h : (handleReq fixed os).reply = some r) :
    r.accepted = acceptedSpec os ∧ r.err = fixErr fixed (acceptedSpec os) (lastErr os none) := by
  rw [handleReq_reply] at h
  by_cases hg : gaveUp os = true
  · simp [hg] at h
  · simp [hg] at h
    subst h
    simp

theorem lastErr_of_accepted : ∀ (os : List Outcome) (e : Option ErrKind),
    acceptedSpec os = true → lastErr os e = none := by
  intro os
  induction os with
  | nil => intro e h; simp [acceptedSpec] at h
  | cons o os ih =>
    intro e h
    cases o <;> simp_all [acceptedSpec, lastErr, stops, called, Outcome.err]

/-- the loop ends on an accepting endpoint iff it reaches one -/
theorem acceptedSpec_iff_reached : ∀ (os : List Outcome) (k : Nat),
    acceptedSpec os = true ↔ ∃ j, j ∈ reachedSpec (· == Outcome.accept) k os
  | [], _ => by simp [acceptedSpec, reachedSpec]
  | o :: os, k => by
    have ih := acceptedSpec_iff_reached os (k + 1)
    cases o <;> simp [acceptedSpec, reachedSpec, stops, ih]

/-- … i.e. iff a contacted endpoint accepted -/
theorem acceptedSpec_iff_contacted (os : List Outcome) :
    acceptedSpec os = true ↔ ∃ j ∈ contactedSpec 0 os, os[j]? = some Outcome.accept := by
  simp only [acceptedSpec_iff_reached os 0, mem_reachedSpec_zero, beq_iff_eq]
  constructor
  · rintro ⟨j, _, ho, rfl, hall⟩
    exact ⟨j, ⟨_, ho, rfl, hall⟩, ho⟩
  · rintro ⟨j, ⟨_, _, _, hall⟩, ho⟩
    exact ⟨j, _, ho, rfl, hall⟩

theorem overlay_get (dead : List Nat) (os : List Outcome) (j : Nat) :
    (overlay dead os)[j]? = os[j]?.map fun o => if dead.contains j then Outcome.ctxDone else o := by
  unfold overlay
  rw [List.getElem?_zipWith]
  by_cases h : j < os.length
  · simp [List.getElem?_range h, List.getElem?_eq_getElem h]
  · simp [List.getElem?_eq_none (Nat.le_of_not_lt h)]

theorem took_iff_accepted (e : EpRun) (hp : e.possible = true) (hno : e ≠ acceptedReplyLost) :
    e.took = decide (e.outcome = .accept) := by
  obtain ⟨o, t⟩ := e
  revert hp hno
  cases o <;> cases t <;> decide

theorem replicate_done (n k : Nat) :
    contactedSpec k (List.replicate n Outcome.ctxDone) = [] ∧ gaveUp (List.replicate n Outcome.ctxDone) = false ∧
    acceptedSpec (List.replicate n Outcome.ctxDone) = false ∧ lastErr (List.replicate n Outcome.ctxDone) none = none := by
  induction n generalizing k with
  | zero => exact ⟨rfl, rfl, rfl, rfl⟩
  | succ n ih => simpa [List.replicate_succ, reachedSpec, called, stops, gaveUp, acceptedSpec, lastErr] using ih (k + 1)

/-- `toBigInt` is `Codec.sigToBigInt` (C11's model of the same function), on every byte string -/
theorem toBigInt_eq_codec (sig : Bytes) : Codec.sigToBigInt sig = .ok (toBigInt sig) := by
  unfold Codec.sigToBigInt toBigInt
  split <;> rfl

/-- `decodePubKey` on 129 bytes or more reads the four words behind the first byte: what `Codec.decodePubKey` reads
(`Codec.decodePubKey_long`) -/
theorem decodePubKey_long (mar : Bytes) (h : 129 ≤ mar.length) :
    decodePubKey mar = some (Codec.wordsOf 4 (mar.drop 1)) := by
  rw [decodePubKey, if_neg (by omega)]
  simp [Codec.wordsOf, List.range, List.range.loop, List.drop_drop]

end Dos.ReqLoop
