/-
C10 layers 5/6 — the scalar-multiplication loop of curve.go / twist.go computes k • P, and
the PairingCheck logic of point.go, both over abstract algebra:

* `mulLoop_smul`: let φ map Jacobian triples to ANY commutative additive monoid G such that, on a
  class V of valid triples closed under the two operations, Double is φ-doubling and Add is
  φ-addition (what Proofs/Bn256Curve.lean establishes for the affine image). Then the loop
  `for i = BitLen(k) … 0 { t.Double(sum); if bit i { sum.Add(t, a) } else { sum.Set(t) } }`
  started from any valid representative of 0 yields k • φ(a), for EVERY k — including the
  leading iteration i = BitLen(k) whose bit is always 0.
* `pairingCheck_logic`: skipping pairs with an identity and applying ONE final exponentiation
  to the product of Miller values decides "the product of the pairings is one" whenever the
  final exponentiation is multiplicative.
-/
import Mathlib.Algebra.BigOperators.Group.List.Basic
import DosModel.Proofs.Bn256Scalar
import DosModel.Model.Bn256CPairing

namespace Dos.Bn256

section mul
set_option linter.unusedSectionVars false
variable {K : Type} [Add K] [Sub K] [Neg K] [Mul K] [Zero K] [One K] [Sq K] [DecidableEq K]
variable {G : Type} [AddCommMonoid G]

/-- the loop invariant: `sum` stays in V and φ(sum) follows the double-and-add recurrence in G -/
theorem mulLoop_fold (V : Jac K → Prop) (φ : Jac K → G)
    (hdbl : ∀ c a, V a → V (Jac.double c a) ∧ φ (Jac.double c a) = φ a + φ a)
    (hadd : ∀ c a b, V a → V b → V (Jac.add c a b) ∧ φ (Jac.add c a b) = φ a + φ b)
    (a : Jac K) (ha : V a) (k : Nat) (l : List Nat) :
    ∀ st : Jac K × Jac K, V st.1 →
      V (l.foldl (fun (st : Jac K × Jac K) i =>
          let t := Jac.double st.2 st.1
          let sum := if k.testBit i then Jac.add st.1 t a else t
          (sum, t)) st).1 ∧
      φ (l.foldl (fun (st : Jac K × Jac K) i =>
          let t := Jac.double st.2 st.1
          let sum := if k.testBit i then Jac.add st.1 t a else t
          (sum, t)) st).1 =
        l.foldl (fun acc i => if k.testBit i then acc + acc + φ a else acc + acc) (φ st.1) := by
  induction l with
  | nil => intro st h; exact ⟨h, rfl⟩
  | cons i l ih =>
    intro st h
    simp only [List.foldl_cons]
    obtain ⟨hv, hφ⟩ := hdbl st.2 st.1 h
    by_cases hb : k.testBit i
    · obtain ⟨hv2, hφ2⟩ := hadd st.1 (Jac.double st.2 st.1) a hv ha
      have := ih (Jac.add st.1 (Jac.double st.2 st.1) a, Jac.double st.2 st.1) hv2
      simp only [hb, if_true] at this ⊢
      rw [hφ2, hφ] at this
      exact this
    · have := ih (Jac.double st.2 st.1, Jac.double st.2 st.1) hv
      simp only [hb, Bool.false_eq_true, if_false] at this ⊢
      rw [hφ] at this
      exact this

/-- `C10Curve.mul_double_and_add` is this at `sum0` = SetInfinity (curve.go) and = the zero value (twist.go) -/
theorem mulLoop_smul (V : Jac K → Prop) (φ : Jac K → G)
    (hdbl : ∀ c a, V a → V (Jac.double c a) ∧ φ (Jac.double c a) = φ a + φ a)
    (hadd : ∀ c a b, V a → V b → V (Jac.add c a b) ∧ φ (Jac.add c a b) = φ a + φ b)
    (a : Jac K) (ha : V a) (k : Nat) (sum0 t0 : Jac K) (h0 : V sum0) (hφ0 : φ sum0 = 0) :
    V (Jac.mulLoop a k sum0 t0) ∧ φ (Jac.mulLoop a k sum0 t0) = k • φ a := by
  obtain ⟨hv, hφ⟩ := mulLoop_fold V φ hdbl hadd a ha k (List.range (Fp12.bitLen k + 1)).reverse (sum0, t0) h0
  refine ⟨hv, ?_⟩
  unfold Jac.mulLoop
  rw [hφ, Scalar.dblAdd_fold, hφ0, nsmul_zero, zero_add,
    Nat.mod_eq_of_lt (Scalar.lt_two_pow_bitLen_succ k)]

end mul

section pairing
set_option linter.unusedSectionVars false
variable {P Q T : Type} [CommMonoid T] [DecidableEq T]

theorem pairing_fold (infP : P → Bool) (infQ : Q → Bool) (mil : Q → P → T) (fin : T →* T)
    (ps : List (P × Q)) : ∀ acc : T,
    fin (ps.foldl (fun acc pq => if infP pq.1 || infQ pq.2 then acc else acc * mil pq.2 pq.1) acc) =
      fin acc * (ps.map fun pq => if infP pq.1 || infQ pq.2 then 1 else fin (mil pq.2 pq.1)).prod := by
  induction ps with
  | nil => intro acc; simp
  | cons pq ps ih =>
    intro acc
    simp only [List.foldl_cons, List.map_cons, List.prod_cons]
    rw [ih]
    split
    · simp
    · rw [map_mul, mul_assoc]

theorem pairingCheck_logic (infP : P → Bool) (infQ : Q → Bool) (mil : Q → P → T) (fin : T →* T)
    (ps : List (P × Q)) :
    pairingCheckAbs infP infQ mil (· * ·) 1 fin (fun t => decide (t = 1)) ps = true ↔
      (ps.map fun pq => if infP pq.1 || infQ pq.2 then 1 else fin (mil pq.2 pq.1)).prod = 1 := by
  unfold pairingCheckAbs
  rw [decide_eq_true_iff, pairing_fold, map_one, one_mul]

end pairing
end Dos.Bn256
