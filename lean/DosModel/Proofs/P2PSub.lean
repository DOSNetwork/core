/-
Helper lemmas for the subscription-table model (Model/P2PSub.lean): the string-keyed table of
messageDispatch refines the specification by type identity whenever the three key computations
agree on every type of the universe and separate every two of them.
-/
import DosModel.Model.P2PSubCfg

namespace Dos.P2PSub

theorem Table.get_eq_find (t : Table) (k : String) : Table.get t k = (t.find? (·.1 = k)).map (·.2) := by
  induction t with
  | nil => rfl
  | cons e r ih => simp only [Table.get, List.find?_cons, ih]; split <;> simp [*]

theorem Table.get_del (t : Table) (k k' : String) :
    Table.get (Table.del t k) k' = if k' = k then none else Table.get t k' := by
  rw [Table.get_eq_find, Table.get_eq_find, Table.del, List.find?_filter]
  split
  · rename_i h; subst h; simp
  · rename_i h
    congr 2; funext e
    by_cases he : e.1 = k' <;> simp [he, h]

theorem Table.get_set (t : Table) (k k' : String) (ch : Nat) :
    Table.get (Table.set t k ch) k' = if k' = k then some ch else Table.get t k' := by
  by_cases h : k = k'
  · simp [Table.set, Table.get, h]
  · have h' : ¬ k' = k := fun e => h e.symm
    simp [Table.set, Table.get, h, h', Table.get_del]

/-- the three key computations agree on every type of `U`, separate every two types of `U`, and
a subscription / unsubscription handed a POINTER lands on a key no struct value has -/
structure Good (c : Cfg) (U : TypeId → Prop) : Prop where
  agreeD : ∀ T, U T → c.dispatch.key ⟨T, true⟩ = c.subscribe.key ⟨T, false⟩
  agreeU : ∀ T, U T → c.unsubscribe.key ⟨T, false⟩ = c.subscribe.key ⟨T, false⟩
  sep    : ∀ T T', U T → U T' → c.subscribe.key ⟨T, false⟩ = c.subscribe.key ⟨T', false⟩ → T = T'
  ptrS   : ∀ T T', U T → U T' → c.subscribe.key ⟨T, true⟩ ≠ c.subscribe.key ⟨T', false⟩
  ptrU   : ∀ T T', U T → U T' → c.unsubscribe.key ⟨T, true⟩ ≠ c.subscribe.key ⟨T', false⟩

/-- the same as a computation over a finite list of types -/
def goodCheck (c : Cfg) (reg : List TypeId) : Bool :=
  reg.all fun T =>
    c.dispatch.key ⟨T, true⟩ == c.subscribe.key ⟨T, false⟩ &&
    c.unsubscribe.key ⟨T, false⟩ == c.subscribe.key ⟨T, false⟩ &&
    reg.all fun T' =>
      (c.subscribe.key ⟨T, false⟩ != c.subscribe.key ⟨T', false⟩ || T == T') &&
      c.subscribe.key ⟨T, true⟩ != c.subscribe.key ⟨T', false⟩ &&
      c.unsubscribe.key ⟨T, true⟩ != c.subscribe.key ⟨T', false⟩

theorem good_of_check (c : Cfg) (reg : List TypeId) (h : goodCheck c reg = true) : Good c (· ∈ reg) := by
  simp only [goodCheck, List.all_eq_true, Bool.and_eq_true, beq_iff_eq, Bool.or_eq_true, bne_iff_ne] at h
  refine ⟨fun T hT => (h T hT).1.1, fun T hT => (h T hT).1.2, ?_, ?_, ?_⟩
  · intro T T' hT hT' e
    rcases ((h T hT).2 T' hT').1.1 with h1 | h1
    · exact absurd e h1
    · exact h1
  · intro T T' hT hT'
    exact ((h T hT).2 T' hT').1.2
  · intro T T' hT hT'
    exact ((h T hT).2 T' hT').2

theorem check_of_good (c : Cfg) (reg : List TypeId) (g : Good c (· ∈ reg)) : goodCheck c reg = true := by
  simp only [goodCheck, List.all_eq_true, Bool.and_eq_true, beq_iff_eq, Bool.or_eq_true, bne_iff_ne]
  intro T hT
  refine ⟨⟨g.agreeD T hT, g.agreeU T hT⟩, fun T' hT' => ⟨⟨?_, g.ptrS T T' hT hT'⟩, g.ptrU T T' hT hT'⟩⟩
  by_cases h : c.subscribe.key ⟨T, false⟩ = c.subscribe.key ⟨T', false⟩
  · exact .inr (g.sep T T' hT hT' h)
  · exact .inl h

/-- the table represents `cur`: every type's by-value key holds that type's current subscriber -/
def Rep (c : Cfg) (U : TypeId → Prop) (t : Table) (cur : TypeId → Option Nat) : Prop :=
  ∀ T, U T → Table.get t (c.subscribe.key ⟨T, false⟩) = cur T

theorem rep_empty (c : Cfg) (U : TypeId → Prop) : Rep c U [] (fun _ => none) := by
  intro T _; rfl

theorem rep_subscribe {c : Cfg} {U : TypeId → Prop} (g : Good c U) {t : Table} {cur : TypeId → Option Nat}
    (r : Rep c U t cur) (ch : Nat) (h : Handed) (hU : U h.ty) :
    Rep c U (Table.set t (c.subscribe.key h) ch)
      (fun ty => if h.ty = ty ∧ h.ptr = false then some ch else cur ty) := by
  intro T hT
  rw [Table.get_set]
  obtain ⟨ty, p⟩ := h
  cases p with
  | false =>
    by_cases e : ty = T
    · subst e; simp
    · have : c.subscribe.key ⟨T, false⟩ ≠ c.subscribe.key ⟨ty, false⟩ := fun k => e (g.sep T ty hT hU k).symm
      simp [this, e, r T hT]
  | true =>
    have : c.subscribe.key ⟨T, false⟩ ≠ c.subscribe.key ⟨ty, true⟩ := fun k => g.ptrS ty T hU hT k.symm
    simp [this, r T hT]

theorem rep_unsubscribe {c : Cfg} {U : TypeId → Prop} (g : Good c U) {t : Table} {cur : TypeId → Option Nat}
    (r : Rep c U t cur) (h : Handed) (hU : U h.ty) :
    Rep c U (Table.del t (c.unsubscribe.key h))
      (fun ty => if h.ty = ty ∧ h.ptr = false then none else cur ty) := by
  intro T hT
  rw [Table.get_del]
  obtain ⟨ty, p⟩ := h
  cases p with
  | false =>
    rw [g.agreeU ty hU]
    by_cases e : ty = T
    · subst e; simp
    · have : c.subscribe.key ⟨T, false⟩ ≠ c.subscribe.key ⟨ty, false⟩ := fun k => e (g.sep T ty hT hU k).symm
      simp [this, e, r T hT]
  | true =>
    have : c.subscribe.key ⟨T, false⟩ ≠ c.unsubscribe.key ⟨ty, true⟩ := fun k => g.ptrU ty T hU hT k.symm
    simp [this, r T hT]

theorem step_msg {c : Cfg} {U : TypeId → Prop} (g : Good c U) {t : Table} {cur : TypeId → Option Nat}
    (r : Rep c U t cur) (id : Nat) (T : TypeId) (hT : U T) :
    step c t (.msg id T) = (t, (cur T).map fun ch => ⟨ch, id⟩) := by
  simp only [step, g.agreeD T hT, r T hT]
  cases cur T <;> rfl

/-- refinement: on every history over types of `U` the table-driven loop delivers exactly what the
specification by type identity asks for — same messages, same channels, same order, each once — and the
table it ends with still represents the specification's current-subscriber map -/
theorem run_refines {c : Cfg} {U : TypeId → Prop} (g : Good c U) :
    ∀ (evs : List Ev) (t : Table) (cur : TypeId → Option Nat), Rep c U t cur → (∀ e ∈ evs, U e.ty) →
      (run c t evs).2 = specRun evs cur ∧ Rep c U (run c t evs).1 (fun T => subscriberOf T evs (cur T)) := by
  intro evs
  induction evs with
  | nil => intro t cur r _; exact ⟨rfl, r⟩
  | cons e es ih =>
    intro t cur r hU
    have hUe : U e.ty := hU e List.mem_cons_self
    have hUes : ∀ e' ∈ es, U e'.ty := fun e' h => hU e' (List.mem_cons_of_mem _ h)
    cases e with
    | subscribe ch h =>
      simp only [run, step, specRun, subscriberOf]
      exact ih _ _ (rep_subscribe g r ch h hUe) hUes
    | unsubscribe h =>
      simp only [run, step, specRun, subscriberOf]
      exact ih _ _ (rep_unsubscribe g r h hUe) hUes
    | msg id T =>
      have ⟨h1, h2⟩ := ih t cur r hUes
      simp only [run, step_msg g r id T hUe, specRun, subscriberOf]
      cases cur T <;> exact ⟨by simp [h1], h2⟩

theorem run_eq_spec {c : Cfg} {U : TypeId → Prop} (g : Good c U) (evs : List Ev) (t : Table)
    (cur : TypeId → Option Nat) (r : Rep c U t cur) (hU : ∀ e ∈ evs, U e.ty) :
    (run c t evs).2 = specRun evs cur :=
  (run_refines g evs t cur r hU).1

theorem rep_after {c : Cfg} {U : TypeId → Prop} (g : Good c U) (evs : List Ev) (t : Table)
    (cur : TypeId → Option Nat) (r : Rep c U t cur) (hU : ∀ e ∈ evs, U e.ty) :
    Rep c U (run c t evs).1 (fun T => subscriberOf T evs (cur T)) :=
  (run_refines g evs t cur r hU).2

theorem subscriberOf_append (T : TypeId) (a b : List Ev) (cur : Option Nat) :
    subscriberOf T (a ++ b) cur = subscriberOf T b (subscriberOf T a cur) := by
  induction a generalizing cur with
  | nil => rfl
  | cons e es ih => cases e <;> simp [subscriberOf, ih]

theorem run_append_fst (c : Cfg) (a b : List Ev) (t : Table) :
    (run c t (a ++ b)).1 = (run c (run c t a).1 b).1 := by
  induction a generalizing t with
  | nil => rfl
  | cons e es ih => simp [run, ih]

theorem inj_of_nodup_map {α β : Type} (f : α → β) : ∀ l : List α, (l.map f).Nodup →
    ∀ x ∈ l, ∀ y ∈ l, f x = f y → x = y := by
  intro l
  induction l with
  | nil => intro _ x hx; cases hx
  | cons a l ih =>
    intro h x hx y hy e
    rw [List.map_cons, List.nodup_cons] at h
    rcases List.mem_cons.mp hx with rfl | hx' <;> rcases List.mem_cons.mp hy with rfl | hy'
    · rfl
    · exact absurd (List.mem_map.mpr ⟨y, hy', e.symm⟩) h.1
    · exact absurd (List.mem_map.mpr ⟨x, hx', e⟩) h.1
    · exact ih h.2 x hx' y hy' e


/-- the key computations of the code (`Props.C16Sub.c16_sub_keys`) on the regenerated registry: dispatch and
subscription keys agree on EVERY type (`"" ++ s = s`), unsubscription uses the subscription's computation; that
the keys of the registered types are pairwise different, and none of them is a pointer key, is a sweep over
the registry -/
theorem good_code_keys : Good ⟨.strStrip, .str, .str⟩ (· ∈ regTypes) := by
  have hsep : (regTypes.map fun T => KeyFn.str.key ⟨T, false⟩).Nodup := by decide +kernel
  have hptr : (regTypes.all fun T => regTypes.all fun T' =>
      KeyFn.str.key ⟨T, true⟩ != KeyFn.str.key ⟨T', false⟩) = true := by decide +kernel
  simp only [List.all_eq_true, bne_iff_ne] at hptr
  exact ⟨fun T _ => by simp [KeyFn.key, typeString], fun _ _ => rfl, fun T T' hT hT' => inj_of_nodup_map _ _ hsep T hT T' hT',
    fun T T' hT hT' => hptr T hT T' hT', fun T T' hT hT' => hptr T hT T' hT'⟩

end Dos.P2PSub
