/-
C20 — point DECOMPRESSION: correctness of `Ge.extFromBytes`
(= `(*extendedGroupElement).FromBytes` of ge.go = point.UnmarshalBinary).

  `extFromBytes_some` : whatever is accepted is a good extended representation of a point ON THE CURVE whose y is the
                        encoded y (bit 255 cleared, mod p) and whose x has the encoded sign (unless x = 0)
  `extFromBytes_none` : `false` is returned (for 32 bytes) ONLY when no x with (x, y) on the curve exists
  `extFromBytes_len`  : (Proofs/GeDec.lean) other lengths are rejected
  `extFromBytes_enc`  : decode (encode P) = P for EVERY curve point
  `extFromBytes_noncanonical_accepted` : y ≥ p is accepted (the encoding of p + 1 decodes to the neutral element,
                        like the canonical encoding of 1)
-/
import DosModel.Proofs.GeDec

set_option exponentiation.threshold 600

namespace Dos.Ge
open Dos Dos.Ed25519 Dos.FeProg Dos.FeOps Dos.GeProg Dos.Ed25519Prime Dos.Edwards Dos.Gen.Ed25519Ge

/-- **accepted ⇒ a curve point with the encoded y and sign**, as a good extended representation -/
theorem extFromBytes_some {s : Bytes} {e : Ext} (h : extFromBytes s = some e) :
    s.length = 32 ∧ ∃ P : Pt, GoodExt e P ∧ P.y = (((leNat s % 2 ^ 255 : ℕ) : ℕ) : F) ∧
      (P.x ≠ 0 → P.x.val % 2 = leNat s / 2 ^ 255) := by
  have hs : s.length = 32 := by
    by_contra hne
    rw [extFromBytes_len hne] at h
    cases h
  refine ⟨hs, ?_⟩
  obtain ⟨u, v, hu, hv, hacc, hrej⟩ := extFromBytes_char s hs
  by_cases hsq : v * (cand u v) ^ 2 = u ∨ v * (cand u v) ^ 2 = -u
  · obtain ⟨e', x', he, hx, hpar, rX, rY, rZ, rT⟩ := hacc hsq
    rw [h] at he
    cases Option.some.inj he
    have on : OnCurve E25519.d x' (((leNat s % 2 ^ 255 : ℕ) : ℕ) : F) := by
      rw [onCurve_iff, ← hu, ← hv]; exact hx
    refine ⟨⟨x', _, on⟩, ?_, rfl, hpar⟩
    exact
      { bX := rX.1, bY := rY.1, bZ := rZ.1, bT := rT.1
        z_ne := by rw [rZ.2]; exact one_ne_zero
        xy := by rw [rX.2, rY.2, rZ.2, rT.2, one_mul]
        hx := by rw [rX.2, rZ.2, div_one]
        hy := by rw [rY.2, rZ.2, div_one] }
  · rw [hrej hsq] at h
    cases h

/-- **rejected ⇒ no curve point has this y**: never a false rejection -/
theorem extFromBytes_none {s : Bytes} (hlen : s.length = 32) (h : extFromBytes s = none) :
    ¬ ∃ x : F, OnCurve E25519.d x (((leNat s % 2 ^ 255 : ℕ) : ℕ) : F) := by
  obtain ⟨u, v, hu, hv, hacc, hrej⟩ := extFromBytes_char s hlen
  rintro ⟨x, hx⟩
  have hv0 : v ≠ 0 := by rw [hv]; exact E25519.v_ne _
  have hsq : v * (cand u v) ^ 2 = u ∨ v * (cand u v) ^ 2 = -u := by
    apply (exists_sqrt_iff u v hv0).1
    refine ⟨x, ?_⟩
    rw [onCurve_iff, ← hu, ← hv] at hx
    exact hx
  obtain ⟨e', _, he, _⟩ := hacc hsq
  rw [h] at he
  cases he

theorem encPt_y (P : Pt) : leNat (encPt P) % 2 ^ 255 = P.y.val := by
  rw [encPt_leNat, Nat.add_mul_mod_self_left]
  exact Nat.mod_eq_of_lt (val_lt P.y)

theorem encPt_sign (P : Pt) : leNat (encPt P) / 2 ^ 255 = P.x.val % 2 := by
  rw [encPt_leNat, Nat.add_mul_div_left _ _ (by positivity), Nat.div_eq_of_lt (val_lt P.y), Nat.zero_add]

/-- **every 32-byte string with the y of a curve point P and (unless P.x = 0) the sign of its x decodes to P** -/
theorem extFromBytes_of_point {s : Bytes} (hlen : s.length = 32) (P : Pt)
    (hy : (((leNat s % 2 ^ 255 : ℕ) : ℕ) : F) = P.y) (hs : P.x ≠ 0 → leNat s / 2 ^ 255 = P.x.val % 2) :
    ∃ e, extFromBytes s = some e ∧ GoodExt e P := by
  cases hd : extFromBytes s with
  | none => exact absurd ⟨P.x, by rw [hy]; exact P.on⟩ (extFromBytes_none hlen hd)
  | some e =>
    obtain ⟨_, Q, hg, hQy, hQs⟩ := extFromBytes_some hd
    rw [hy] at hQy
    refine ⟨e, rfl, ?_⟩
    suffices hQP : Q = P by rw [← hQP]; exact hg
    exact pt_eq_of_y_parity hQy (fun hp => by rw [hQs (fun h0 => hp (x_eq_zero_of_y hQy.symm h0)), hs hp])

/-- **decode (encode P) = P** for every curve point -/
theorem extFromBytes_enc (P : Pt) : ∃ e, extFromBytes (encPt P) = some e ∧ GoodExt e P :=
  extFromBytes_of_point (encPt_length P) P (by rw [encPt_y]; exact ZMod.natCast_zmod_val P.y) (fun _ => encPt_sign P)

/-- the 32-byte little-endian encoding of p + 1 (y ≥ p: not the encoding of any point) is accepted and decodes to the
neutral element (0, 1), exactly like the canonical encoding of 1 -/
theorem extFromBytes_noncanonical_accepted :
    (∀ P : Pt, encPt P ≠ natLE 32 (Dos.Ed.p + 1)) ∧
    (∃ e, extFromBytes (natLE 32 (Dos.Ed.p + 1)) = some e ∧ GoodExt e 0) ∧
    (∃ e, extFromBytes (natLE 32 1) = some e ∧ GoodExt e 0) := by
  have hlt : Dos.Ed.p + 1 < 256 ^ 32 := by decide
  have hle : leNat (natLE 32 (Dos.Ed.p + 1)) = Dos.Ed.p + 1 := leNat_natLE_of_lt _ _ hlt
  have hmod : (Dos.Ed.p + 1) % 2 ^ 255 = Dos.Ed.p + 1 := by decide
  have hlen : (natLE 32 (Dos.Ed.p + 1)).length = 32 := natLE_length _ _
  have hy : (((leNat (natLE 32 (Dos.Ed.p + 1)) % 2 ^ 255 : ℕ) : ℕ) : F) = 1 := by
    rw [hle, hmod]
    push_cast
    rw [ZMod.natCast_self, zero_add]
  refine ⟨?_, ?_, ?_⟩
  · intro P hP
    have h1 := congrArg leNat hP
    rw [hle, encPt_leNat] at h1
    have hyl := ZMod.val_lt P.y
    have h2 : P.x.val % 2 < 2 := Nat.mod_lt _ (by decide)
    have hp : Dos.Ed.p + 19 = 2 ^ 255 := by decide
    omega
  · exact extFromBytes_of_point hlen 0 hy (fun h => absurd rfl h)
  · refine extFromBytes_of_point (natLE_length _ _) 0 ?_ (fun h => absurd rfl h)
    rw [leNat_natLE_of_lt 32 1 (by decide)]
    exact Nat.cast_one

end Dos.Ge
