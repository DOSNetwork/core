/-
C14: discipline B (fan-in): one closer that passes `wgWait w` before `close c`; every sender
still owes its `wgDone w` when it sends.
-/
import DosModel.Proofs.PipeWg

namespace Dos.Pipe
variable {p : Pipeline}

theorem fwdClosed_parts {nodes : List Node} {cut : Node → Bool} {m : List Bool}
    (h : fwdClosedOk nodes cut m = true) :
    mark m 0 = true ∧ ∀ i nd, nodes[i]? = some nd → mark m i = true →
      ∀ j ∈ nd.succs, mark m j = false → cut nd = true := by
  unfold fwdClosedOk at h
  simp only [Bool.and_eq_true] at h
  refine ⟨h.1, ?_⟩
  intro i nd hn hm j hj hmj
  have := zipIdx_all h.2 hn
  simp only [Bool.or_eq_true, Bool.not_eq_true', List.all_eq_true] at this
  rcases this with (h1 | h1) | h1
  · rw [hm] at h1; cases h1
  · exact h1
  · rw [h1 j hj] at hmj; cases hmj

/-- the closer has really waited: past the `wgWait w` on every path, the counter is zero -/
theorem waited_zero {w : Nat} {h : Gi} {gr : Goroutine} (hg : p.gs[h]? = some gr)
    (hfw : fwdClosedOk gr.nodes (Node.isWait w) (notWaited gr w) = true) :
    ∀ s, Reach p s → ∀ pc, s.gs[h]? = some (.at pc) → mark (notWaited gr w) pc = false → s.wg w = 0 := by
  obtain ⟨h0, hfwd⟩ := fwdClosed_parts hfw
  intro s hr
  refine (at_inv hg (J := fun pc s => mark (notWaited gr w) pc = false → s.wg w = 0) (D := fun _ => True)
    (fun s hm => by rw [h0] at hm; cases hm) (fun pc s e s' hst hJ hm => wg_zero_mono hst (hJ hm)) ?_
    (fun _ _ _ _ _ _ _ => trivial) (fun _ _ _ _ _ => trivial) s hr).1
  intro s e s' pc nd l n _ hst _ hn hed _ ht hJ hm'
  cases hmp : mark (notWaited gr w) pc with
  | false => exact wg_zero_mono hst (hJ hmp)
  | true =>
    -- the edge leaves the labeling: its node is the `wgWait w`, whose guard is `wg w = 0`
    obtain rfl := lab_of_isWait (hfwd pc nd hn hmp n (mem_succs_of_edge hed) hm') hed
    cases ht with
    | act hgd => exact wg_zero_mono hst (by simpa [guard] using hgd)

theorem safe_B {c : Ch} (h : discB p c = true) :
    ¬ CrashReachable p (.sendClosed c) ∧ ¬ CrashReachable p (.closeClosed c) := by
  unfold discB at h
  rw [List.any_eq_true] at h
  obtain ⟨w, _, hw⟩ := h
  unfold discBw at hw
  split at hw
  · rename_i h0 hsing
    split at hw
    · rename_i gr hg
      simp only [Bool.and_eq_true, Bool.not_eq_true'] at hw
      obtain ⟨⟨⟨⟨_, honce⟩, hwait⟩, hsend⟩, h5⟩ := hw
      obtain ⟨hfw, hclnw⟩ := hwait
      have honly : ∀ g gr', p.gs[g]? = some gr' → gr'.hasClose c = true → g = h0 :=
        fun g gr' hg' hf => gsWhere_singleton hsing hg' hf
      have hpast := closer_past_ops hg honce honly
      have hwaited := waited_zero hg hfw
      have hcnt := wg_counts_debt (wgOk_of_W5w h5)
      obtain ⟨hback, _⟩ := closeOnce_parts honce
      -- closed c → the counter is zero
      have hzero : ∀ s, Reach p s → s.closed c = true → s.wg w = 0 := by
        apply reach_inv
        · intro hc; rw [init_closed] at hc; cases hc
        · intro s0 e s1 hr ih hst hc'
          cases hc : s0.closed c with
          | true => exact wg_zero_mono hst (ih hc)
          | false =>
            obtain ⟨g, gr', pc, n, hg', hcl', hn, hat, _⟩ := closed_step hst hc hc'
            obtain rfl := honly g gr' hg' hcl'
            rw [hg] at hg'; cases hg'
            have hnw : mark (notWaited gr w) pc = false := by
              have := zipIdx_all hclnw hn
              simpa [Node.closes] using this
            exact wg_zero_mono hst (hwaited s0 hr pc hat hnw)
      refine no_crash_on (fun s g pc nd n hr hc hat hnd hed => ?_) (fun s g pc nd n hr hc hat hnd hed => ?_)
      · obtain ⟨grg, hgg, hn⟩ := node_some hnd
        have hso := sendsOn_of_edge hed
        rw [List.all_eq_true] at hsend
        have hs := hsend grg (List.mem_of_getElem? hgg)
        simp only [Bool.or_eq_true, Bool.not_eq_true'] at hs
        rcases hs with hs | hs
        · rw [hasSend_of_node hn hso] at hs; cases hs
        · have hm := zipIdx_all hs hn
          simp only [hso, Bool.not_true, Bool.false_or] at hm
          have h1 : owe grg w (GSt.at pc) = 1 := owe_at_true hm
          have h2 := debt_ge w p.gs s.gs g grg (GSt.at pc) hgg hat
          have h3 := (hcnt s hr).2
          have h4 := hzero s hr hc
          omega
      · obtain ⟨grg, hgg, hn⟩ := node_some hnd
        obtain rfl := honly g grg hgg (hasClose_of_node hn (closes_of_edge hed))
        rw [hg] at hgg; cases hgg
        have h1 := backClosed_seed hback hn (opsOn_of_close_edge hed)
        have h2 := hpast s hr hc
        rw [hat] at h2
        simp only [labelAt] at h2
        rw [h1] at h2; cases h2
    · cases hw
  · cases hw

end Dos.Pipe
