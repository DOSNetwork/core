/-
C20 — COMPOSITION: the group record the Schnorr model needs (`Schnorr.Grp`), built from the translated
ref10 code, is `Lawful`: the hypothesis `Lawful g` of the Schnorr theorems holds of the point code.

`codeGrp : Grp Pt` (G = the curve points, a commutative group by Proofs/EdwardsAssoc.lean):
  add P Q  := the point represented by `ptAdd` (point.Add over ge.go) applied to representations of P and Q
  smul n P := for n < 2^255 (the documented precondition a[31] ≤ 127 of geScalarMult): the point represented by
              `geScalarMult` on the 32 little-endian bytes of n; for larger n (no caller of the Schnorr theorems
              with canonical scalars gets there) the mathematical n • P
  base     := the point represented by the constant `baseext`
  enc P    := `extToBytes` (point.MarshalBinary) of a representation of P
  dec b    := `extFromBytes b` (point.UnmarshalBinary), read as a point
Representations are chosen (`repr`), but every theorem used holds for ALL good representations.
-/
import DosModel.Proofs.Schnorr
import DosModel.Proofs.GeDec3
import DosModel.Proofs.GeScalarMult
import DosModel.Proofs.GeNatOrder

set_option exponentiation.threshold 600

namespace Dos.Ge
open Dos Dos.Ed25519 Dos.FeProg Dos.FeOps Dos.GeProg Dos.Ed25519Prime Dos.Edwards Dos.Schnorr

/-- some good representation of P (the decoding of its encoding is one) -/
noncomputable def repr (P : Pt) : Ext :=
  open Classical in if h : ∃ e, GoodExt e P then Classical.choose h else default

theorem repr_good {P : Pt} (h : ∃ e, GoodExt e P) : GoodExt (repr P) P := by
  unfold repr
  rw [dif_pos h]
  exact Classical.choose_spec h

/-- the group record of the translated code -/
noncomputable def codeGrp : Grp Pt :=
  { add := fun P Q => absPt (ptAdd (repr P) (repr Q))
    smul := fun n P => if n < 2 ^ 255 then absPt (geScalarMult (natLE 32 n) (repr P)) else n • P
    base := absPt baseExt
    enc := fun P => extToBytes (repr P)
    dec := fun b => (extFromBytes b).map absPt }

/-- **`Lawful` discharged**: the record built from the translated ref10 point code is a lawful group record.  What
the code contributes: decode∘encode (`extFromBytes_enc`, Proofs/GeDec3.lean), scalar multiplication (`geScalarMult_spec`)
and ℓ•B = 0 (`ell_smul_base`, Proofs/GeNatOrder.lean) -/
theorem codeGrp_is_lawful : Lawful codeGrp := by
  have hrep : ∀ P : Pt, GoodExt (repr P) P := fun P => by
    obtain ⟨e, _, he⟩ := extFromBytes_enc P
    exact repr_good ⟨e, he⟩
  refine ⟨?_, ?_, ?_, ?_, ?_⟩
  · intro P Q
    exact absPt_of_good (ptAdd_spec (hrep P) (hrep Q))
  · intro n P
    show (if n < 2 ^ 255 then absPt (geScalarMult (natLE 32 n) (repr P)) else n • P) = n • P
    split
    · rename_i hn
      have h := geScalarMult_spec (natLE 32 n) (natLE_length _ _) (natLE_top n hn) (hrep P)
      have hlt : n < 256 ^ 32 := by
        have : (2 : Nat) ^ 255 < 256 ^ 32 := by norm_num
        omega
      rw [leNat_natLE_of_lt 32 n hlt] at h
      exact absPt_of_good h
    · rfl
  · show ell • absPt baseExt = 0
    rw [absPt_of_good baseExt_good]
    exact ell_smul_base
  · intro P
    show (extToBytes (repr P)).length = 32
    rw [extToBytes_spec (hrep P)]
    exact encPt_length P
  · intro P
    show (extFromBytes (extToBytes (repr P))).map absPt = some P
    rw [extToBytes_spec (hrep P)]
    obtain ⟨e, h1, h2⟩ := extFromBytes_enc P
    rw [h1]
    show some (absPt e) = some P
    rw [absPt_of_good h2]

theorem codeGrp_base : codeGrp.base = basePt := absPt_of_good baseExt_good

theorem codeGrp_base_ne_zero : codeGrp.base ≠ 0 := by
  rw [codeGrp_base]; exact basePt_ne_zero

end Dos.Ge
