import DosModel.Proofs.ConnTable
import DosModel.Proofs.P2PSym
import DosModel.Model.ConnSym

/-! Session and signing keys of the connection-table model: no table event ever changes the keys of a
connection that exists, and with a key pair drawn per connection all keys are pairwise different (`KeyInv`).
On top of it, for the symbolic channel across connections (`Model/ConnSym.lean`): every frame on record was packed
with the keys of its connection and end, and every delivery at an end of a connection is the delivery of a frame
the other end of that connection packed (`SInv`, kept by every event whose arriving frame the adversary can have). -/
namespace Dos.ConnTable
open Dos

/-- with a key pair per connection: connection `c` has session key `3c+1` and signing keys `3c+2`, `3c+3` — any
numbering would do, the point is that all of them differ -/
structure KeyInv (s : Net) : Prop where
  next : s.nextKey = 3 * s.nconn + 1
  keys : ∀ c, c < s.nconn → (s.conns c).key = 3 * c + 1 ∧ (s.conns c).skD = 3 * c + 2 ∧ (s.conns c).skA = 3 * c + 3

namespace KeyInv
variable {cfg : Cfg} {s : Net}

theorem init (ideal : Nat → Bool) : KeyInv (init ideal) :=
  ⟨rfl, fun c h => absurd h (Nat.not_lt_zero c)⟩

theorem key_inj (hK : KeyInv s) {c c' : Nat} (hc : c < s.nconn) (hc' : c' < s.nconn)
    (h : (s.conns c).key = (s.conns c').key) : c = c' := by
  rw [(hK.keys c hc).1, (hK.keys c' hc').1] at h; omega

theorem skD_ne_skA (hK : KeyInv s) {c : Nat} (hc : c < s.nconn) : (s.conns c).skD ≠ (s.conns c).skA := by
  rw [(hK.keys c hc).2.1, (hK.keys c hc).2.2]; omega

theorem setConn (hK : KeyInv s) (c : Nat) (f : Conn → Conn)
    (hf : (f (s.conns c)).key = (s.conns c).key ∧ (f (s.conns c)).skD = (s.conns c).skD ∧
      (f (s.conns c)).skA = (s.conns c).skA) : KeyInv (s.setConn c f) := by
  refine ⟨hK.next, fun e he => ?_⟩
  rw [setConn_conns]; split
  · subst e; rw [hf.1, hf.2.1, hf.2.2]; exact hK.keys c he
  · exact hK.keys e he

theorem setNode (hK : KeyInv s) (n : Nat) (f : Node → Node) : KeyInv (s.setNode n f) := ⟨hK.next, hK.keys⟩

theorem setReq (hK : KeyInv s) (i : Nat) (f : Req → Req) : KeyInv (s.setReq i f) := ⟨hK.next, hK.keys⟩

theorem retAtD (hK : KeyInv s) (c : Nat) : KeyInv (retAtD cfg s c) := by
  simp only [ConnTable.retAtD]; split
  · exact hK
  · exact (hK.setConn c _ (by exact ⟨rfl, rfl, rfl⟩)).setNode _ _

theorem retAtA (hK : KeyInv s) (c : Nat) : KeyInv (retAtA cfg s c) := by
  simp only [ConnTable.retAtA]; split
  · exact hK
  · exact (hK.setConn c _ (by exact ⟨rfl, rfl, rfl⟩)).setNode _ _

theorem hand (hK : KeyInv s) (i c : Nat) : KeyInv (hand cfg s i c) := by
  simp only [ConnTable.hand]; split
  · exact hK
  · exact (hK.setConn c _ (by exact ⟨rfl, rfl, rfl⟩)).setReq _ _

theorem openConn (hk : cfg.keyPerConn = true) (hK : KeyInv s) (a b x : Nat) : KeyInv (openConn cfg s a b x) := by
  refine ⟨by rw [openConn_nextKey, openConn_nconn, hK.next]; omega, fun c hc => ?_⟩
  rw [openConn_nconn] at hc
  rw [openConn_conns]; split
  · subst c; simp only [mkConn, hk, Bool.true_or, if_true, hK.next, and_self]
  · exact hK.keys c (by omega)

end KeyInv

/-- no elementary update of the table touches the keys of a connection that exists; `openConn` adds one connection
with the next three keys -/
theorem Effect.keyInv {cfg : Cfg} (hk : cfg.keyPerConn = true) {s t : Net} {e : Ev} (h : Effect cfg s e t)
    (hK : KeyInv s) : KeyInv t ∧ s.nconn ≤ t.nconn := by
  induction h with
  | init => exact ⟨hK, Nat.le_refl _⟩
  | newReq _ _ _ ih | errs _ _ _ ih | got _ _ _ _ _ _ _ _ ih | deliver _ _ _ _ _ ih | answer _ _ _ ih =>
    exact ⟨⟨ih.1.next, ih.1.keys⟩, ih.2⟩
  | hand i c _ _ _ _ ih => exact ⟨ih.1.hand i c, by rw [hand_nconn]; exact ih.2⟩
  | openConn a b x _ _ _ _ ih => exact ⟨ih.1.openConn hk a b x, by rw [openConn_nconn]; exact Nat.le_succ_of_le ih.2⟩
  | retAtD c _ _ ih => exact ⟨ih.1.retAtD c, by rw [retAtD_nconn]; exact ih.2⟩
  | retAtA c _ _ ih => exact ⟨ih.1.retAtA c, by rw [retAtA_nconn]; exact ih.2⟩
  | conn c f hf _ ih => exact ⟨ih.1.setConn c f hf.key, ih.2⟩
  | reply b c' hd _ _ ih => exact ⟨ih.1.setConn c' _ ⟨rfl, rfl, rfl⟩, ih.2⟩
  | procRm | disconnect => exact ⟨⟨hK.next, hK.keys⟩, Nat.le_refl _⟩
  | reset n =>
    refine ⟨⟨hK.next, fun c hc => ?_⟩, Nat.le_refl _⟩
    rw [reset_conns]; split <;> exact hK.keys c hc

theorem step_keyInv (cfg : Cfg) (hk : cfg.keyPerConn = true) {s : Net} (hK : KeyInv s) (e : Ev) :
    KeyInv (step cfg s e) :=
  ((step_effect cfg s e).keyInv hk hK).1

theorem run_keyInv (cfg : Cfg) (hk : cfg.keyPerConn = true) (evs : List Ev) {s : Net} (hK : KeyInv s) :
    KeyInv (run cfg s evs) :=
  run_induction cfg (P := KeyInv) (fun _ e h => step_keyInv cfg hk h e) hK evs

end Dos.ConnTable

namespace Dos.ConnSym
open Dos Dos.P2PSym

theorem view_of_keys (ca dr : Bool) {x y : ConnTable.Conn} (h : y.key = x.key ∧ y.skD = x.skD ∧ y.skA = x.skA)
    (d : Bool) : view ca dr y d = view ca dr x d ∧ skOf y d = skOf x d := by
  cases d <;> simp [view, skOf, h.1, h.2.1, h.2.2]

theorem mem_upd2_append {α : Type} {f : Nat → Bool → List α} {c c' : Nat} {d d' : Bool} {x y : α} :
    y ∈ upd2 f c d (f c d ++ [x]) c' d' ↔ y ∈ f c' d' ∨ (c' = c ∧ d' = d ∧ y = x) := by
  unfold upd2
  split
  · rename_i h; obtain ⟨rfl, rfl⟩ := h; simp
  · rename_i h; exact ⟨.inl, fun h' => h'.elim id fun ⟨h1, h2, _⟩ => absurd ⟨h1, h2⟩ h⟩

structure SInv (ca dr : Bool) (s : SNet) : Prop where
  keys : ConnTable.KeyInv s.net
  sent : ∀ c d f, f ∈ s.sent c d → c < s.net.nconn ∧
          ∃ m nonce reply, f = pack (skOf (s.net.conns c) d) (s.net.conns c).key [] m nonce reply
  out  : ∀ c d dl, dl ∈ (s.rs c d).out → ∃ f, f ∈ s.sent c (!d) ∧ recvFrame (view ca dr (s.net.conns c) d) f = .deliver dl

theorem SInv.init (ca dr : Bool) (ideal : Nat → Bool) : SInv ca dr { net := ConnTable.init ideal } where
  keys := ConnTable.KeyInv.init ideal
  sent := by intro c d f h; simp at h
  out := by intro c d dl h; simp at h

theorem sstep_inv (cfg : ConnTable.Cfg) (hk : cfg.keyPerConn = true) (ca dr : Bool) {s : SNet} (hS : SInv ca dr s)
    (e : SEv) (hadv : match e with
      | .wire _ _ f => AdvCan s f
      | _ => True) : SInv ca dr (sstep cfg ca dr s e) := by
  cases e with
  | tbl e =>
    simp only [sstep]
    obtain ⟨hK, hmono⟩ := (ConnTable.step_effect cfg s.net e).keyInv hk hS.keys
    -- the step leaves the keys of every connection that exists as they are
    have hsame : ∀ c, c < s.net.nconn →
        ((ConnTable.step cfg s.net e).conns c).key = (s.net.conns c).key ∧
        ((ConnTable.step cfg s.net e).conns c).skD = (s.net.conns c).skD ∧
        ((ConnTable.step cfg s.net e).conns c).skA = (s.net.conns c).skA := fun c hc =>
      have k' := hK.keys c (Nat.lt_of_lt_of_le hc hmono)
      have k := hS.keys.keys c hc
      And.intro (k'.1.trans k.1.symm) (And.intro (k'.2.1.trans k.2.1.symm) (k'.2.2.trans k.2.2.symm))
    refine ⟨hK, ?_, ?_⟩
    · intro c d f hf
      obtain ⟨hc, m, nonce, reply, hfe⟩ := hS.sent c d f hf
      refine ⟨Nat.lt_of_lt_of_le hc hmono, m, nonce, reply, ?_⟩
      rw [(view_of_keys ca dr (hsame c hc) d).2, (hsame c hc).1]; exact hfe
    · intro c d dl hdl
      obtain ⟨f, hf, hr⟩ := hS.out c d dl hdl
      exact ⟨f, hf, by rw [(view_of_keys ca dr (hsame c (hS.sent c (!d) f hf).1) d).1]; exact hr⟩
  | pack c d m nonce reply =>
    simp only [sstep]
    split
    · rename_i hc
      refine ⟨hS.keys, ?_, ?_⟩
      · intro c' d' f hf
        rcases mem_upd2_append.mp hf with hf | ⟨rfl, rfl, rfl⟩
        · exact hS.sent c' d' f hf
        · exact ⟨hc, m, nonce, reply, rfl⟩
      · intro c' d' dl hdl
        obtain ⟨f, hf, hr⟩ := hS.out c' d' dl hdl
        exact ⟨f, mem_upd2_append.mpr (.inl hf), hr⟩
    · exact hS
  | wire c d f =>
    simp only [sstep]
    split
    · rename_i hlive
      obtain ⟨hc, _⟩ := hlive
      refine ⟨hS.keys, hS.sent, ?_⟩
      intro c' d' dl hdl
      simp only [upd2] at hdl
      split at hdl
      · rename_i h; obtain ⟨h1, h2⟩ := h; subst h1 h2
        rcases rstep_mem hdl with hdl | hr
        · exact hS.out c' d' dl hdl
        · -- the frame that was just delivered: where can the man in the middle have it from?
          refine ⟨f, ?_, hr⟩
          cases hadv with
          | seen c2 d2 hc2 hmem =>
            obtain ⟨_, m, nonce, reply, hfe⟩ := hS.sent c2 d2 f hmem
            rw [hfe] at hr
            obtain ⟨hkk, hss, _⟩ := recvFrame_pack_deliver hr
            cases hS.keys.key_inj hc2 hc hkk
            have hdd : d2 = !d' := by
              have := hS.keys.skD_ne_skA hc
              cases d2 <;> cases d'
              · exact absurd hss.symm this
              · rfl
              · rfl
              · exact absurd hss this
            rw [← hdd]; exact hmem
          | raw n => simp [recvFrame] at hr
          | broken => simp [recvFrame] at hr
          | foreign hk' =>
            have := hk' c' hc
            simp [recvFrame, view, this] at hr
      · exact hS.out c' d' dl hdl
    · exact hS

theorem srun_inv (cfg : ConnTable.Cfg) (hk : cfg.keyPerConn = true) (ca dr : Bool) {s : SNet} (hS : SInv ca dr s)
    (evs : List SEv) (hv : Valid cfg ca dr s evs) : SInv ca dr (srun cfg ca dr s evs) := by
  induction evs generalizing s with
  | nil => exact hS
  | cons e es ih =>
    obtain ⟨h1, h2⟩ := hv
    exact ih (sstep_inv cfg hk ca dr hS e h1) h2

end Dos.ConnSym
