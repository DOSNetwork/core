/-
C14 liveness: invariants used by the liveness theorems.
  * the shape of the state never changes,
  * a static goroutine is never idle,
  * a goroutine that closes `c` on every path has closed it when it has exited,
  * a goroutine that does not owe a `wgDone w` at its entry never owes one.
-/
import DosModel.Proofs.PipeHandoff

namespace Dos.Pipe
variable {p : Pipeline}

/-- an effect changes no length but, by a spawn, a control state -/
theorem effect_lengths (s : State) (l : Lab) : (effect s l).chs.length = s.chs.length ∧
    (effect s l).wgs.length = s.wgs.length ∧ (effect s l).ctxs.length = s.ctxs.length := by
  cases l <;> simp [effect, State.setLen, State.setClosed, State.setWg, State.setCtx]
  case spawn g => split <;> simp [State.setG]

structure Shape (p : Pipeline) (s : State) : Prop where
  gs : s.gs.length = p.gs.length
  chs : s.chs.length = p.chans.length
  wgs : s.wgs.length = p.wgs.length
  ctxs : s.ctxs.length = p.nctx

theorem shape : ∀ s, Reach p s → Shape p s := by
  apply reach_inv
  · exact ⟨by simp [init], by simp [init], by simp [init], by simp [init]⟩
  · intro s e s' _ ih hst
    obtain ⟨h1, h2, h3⟩ := effect_lengths s e.lab
    have hr := step_rest hst
    refine ⟨?_, by rw [hr.chs, h1, ih.chs], by rw [hr.wgs, h2, ih.wgs], by rw [hr.ctxs, h3, ih.ctxs]⟩
    cases hst <;> simp [effect_gs_length, ih.gs]

theorem static_not_idle {g : Gi} {gr : Goroutine} (hg : p.gs[g]? = some gr)
    (hs : gr.static = true) : ∀ s, Reach p s → s.gs[g]? ≠ some GSt.idle := by
  apply reach_inv
  · rw [init_gs, hg]; simp [hs]
  · intro s e s' _ ih hst hidle
    cases step_moves hst g with
    | stays _ hsame => rw [hsame] at hidle; exact ih hidle
    | edge _ _ _ _ _ _ _ hat2 => rw [hat2] at hidle; cases hidle
    | spawned _ hi => exact ih hi
    | exits _ _ _ _ hat2 => rw [hat2] at hidle; cases hidle

theorem closesOnAllPaths_parts {gr : Goroutine} {c : Ch} (h : closesOnAllPaths gr c = true) :
    fwdClosedOk gr.nodes (Node.closes c) (notClosedYet gr c) = true ∧
    ∀ (pc : Pc) (nd : Node), gr.nodes[pc]? = some nd → nd.isExit = true → mark (notClosedYet gr c) pc = false := by
  unfold closesOnAllPaths at h
  simp only [Bool.and_eq_true] at h
  refine ⟨h.1, ?_⟩
  intro pc nd hn he
  have := zipIdx_all h.2 hn
  simpa [he] using this

/-- `h` closes `c` on every path: once it is past the close (or has exited), `c` is closed -/
theorem closer_closed {h : Gi} {gr : Goroutine} {c : Ch} (hg : p.gs[h]? = some gr)
    (hc : closesOnAllPaths gr c = true) (hin : c < p.chans.length) :
    ∀ s, Reach p s →
      (s.gs[h]? = some .done ∨ ∃ pc, s.gs[h]? = some (.at pc) ∧ mark (notClosedYet gr c) pc = false) →
      s.closed c = true := by
  obtain ⟨hfw, hexit⟩ := closesOnAllPaths_parts hc
  obtain ⟨h0, hfwd⟩ := fwdClosed_parts hfw
  intro s hr hcase
  have hinv := at_inv hg (J := fun pc s => mark (notClosedYet gr c) pc = false → s.closed c = true)
    (D := fun s => s.closed c = true)
    (fun s hm => by rw [h0] at hm; cases hm) (fun pc s e s' hst hJ hm => closed_mono hst (hJ hm)) ?_
    (fun s e s' pc hst hn hJ => closed_mono hst (hJ (hexit pc .exit hn rfl)))
    (fun s e s' hst hD => closed_mono hst hD) s hr
  · rcases hcase with hd | ⟨pc, hat, hm⟩
    · exact hinv.2 hd
    · exact hinv.1 pc hat hm
  intro s e s' pc nd l n hr hst _ hn hed _ ht hJ hm
  cases hmp : mark (notClosedYet gr c) pc with
  | false => exact closed_mono hst (hJ hmp)
  | true =>
    -- the edge leaves the labeling: its node is the `close c`, and taking it closes `c`
    obtain rfl := lab_of_closes (hfwd pc nd hn hmp n (mem_succs_of_edge hed) hm) hed
    cases ht
    simp [(step_rest hst).closed, Ev.lab, effect_closed, (shape s hr).chs, hin]

theorem never_owes {g : Gi} {gr : Goroutine} {w : Nat} (hg : p.gs[g]? = some gr)
    (hok : owesOk gr w = true) (h0 : mark (owes gr w) 0 = false) :
    ∀ s, Reach p s → labelAt (owes gr w) (s.gs[g]?) = false := by
  intro s hr
  have hinv := (at_inv hg (J := fun pc _ => mark (owes gr w) pc = false) (D := fun _ => True) (fun _ => h0)
    (fun _ _ _ _ _ hJ => hJ) ?_ (fun _ _ _ _ _ _ _ => trivial) (fun _ _ _ _ _ => trivial) s hr).1
  · cases hs : s.gs[g]? with
    | none => rfl
    | some st =>
      cases st with
      | idle => exact h0
      | «at» pc => exact hinv pc hs
      | done => rfl
  intro s e s' pc nd l n _ _ _ hn hed _ _ hJ
  have hparts := owesOk_parts hok hn
  cases hd : nd.isDone w with
  | true => rw [(hparts.2.1 hd).1] at hJ; cases hJ
  | false => rw [hparts.2.2 hd n (mem_succs_of_edge hed)]; exact hJ

end Dos.Pipe
