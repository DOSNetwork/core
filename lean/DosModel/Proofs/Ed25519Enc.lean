/-
C20 — little-endian encodings: `leNat` / `natLE` are mutually inverse, the scalar API model
(`scUnmarshal`, `scMarshal`, `scCanonical`) round-trips exactly on canonical 32-byte values.
Core Lean + omega only.
-/
import DosModel.Model.Ed25519Scalar

namespace Dos.Ed25519
open Dos

theorem natLE_length (k n : Nat) : (natLE k n).length = k := by
  induction k generalizing n with
  | zero => rfl
  | succ k ih => simp [natLE, ih]

theorem leNat_lt (b : Bytes) : leNat b < 256 ^ b.length := by
  induction b with
  | nil => simp [leNat]
  | cons x xs ih =>
    have hx : x.toNat < 256 := x.toNat_lt
    simp only [leNat, List.length_cons, Nat.pow_succ]
    omega

theorem leNat_natLE (k n : Nat) : leNat (natLE k n) = n % 256 ^ k := by
  induction k generalizing n with
  | zero => simp [natLE, leNat, Nat.mod_one]
  | succ k ih =>
    simp only [natLE, leNat, UInt8.toNat_ofNat', ih, Nat.pow_succ]
    have h1 : n % (256 ^ k * 256) = n % 256 + 256 * (n / 256 % 256 ^ k) := by
      rw [Nat.mul_comm (256 ^ k) 256, Nat.mod_mul]
    omega

theorem leNat_natLE_of_lt (k n : Nat) (h : n < 256 ^ k) : leNat (natLE k n) = n := by
  rw [leNat_natLE, Nat.mod_eq_of_lt h]

theorem natLE_leNat (b : Bytes) : natLE b.length (leNat b) = b := by
  induction b with
  | nil => rfl
  | cons x xs ih =>
    have hx : x.toNat < 256 := x.toNat_lt
    have h1 : (x.toNat + 256 * leNat xs) % 256 = x.toNat := by omega
    have h2 : (x.toNat + 256 * leNat xs) / 256 = leNat xs := by omega
    simp only [List.length_cons, natLE, leNat, h1, h2, ih]
    congr 1
    exact UInt8.ofNat_toNat

theorem leNat_append (a b : Bytes) : leNat (a ++ b) = leNat a + 256 ^ a.length * leNat b := by
  induction a with
  | nil => simp [leNat]
  | cons x xs ih =>
    simp only [List.cons_append, leNat, ih, List.length_cons, Nat.pow_succ]
    rw [Nat.mul_add, ← Nat.mul_assoc, Nat.mul_comm 256 (256 ^ xs.length)]
    omega

theorem leNat_inj (a b : Bytes) (hl : a.length = b.length) (h : leNat a = leNat b) : a = b := by
  rw [← natLE_leNat a, ← natLE_leNat b, hl, h]

/-- byte `i` of a little-endian string is digit `i` of its value (0 beyond the end) -/
theorem getD_toNat : ∀ (s : Bytes) (i : Nat), (s.getD i 0).toNat = leNat s / 256 ^ i % 256
  | [], i => by simp [leNat]
  | b :: s, 0 => by
    have := b.toNat_lt
    simp only [List.getD_cons_zero, leNat, Nat.pow_zero, Nat.div_one]; omega
  | b :: s, i + 1 => by
    have := b.toNat_lt
    rw [List.getD_cons_succ, getD_toNat s i, leNat, Nat.pow_succ, Nat.mul_comm (256 ^ i), ← Nat.div_div_eq_div_mul,
      show (b.toNat + 256 * leNat s) / 256 = leNat s by omega]

theorem ell_lt : ell < 256 ^ 32 := by decide

theorem scMarshal_length (v : Bytes) : (scMarshal v).length = 32 := natLE_length _ _

theorem leNat_scMarshal (v : Bytes) : leNat (scMarshal v) = leNat v % ell := by
  unfold scMarshal
  rw [leNat_natLE_of_lt]
  exact Nat.lt_trans (Nat.mod_lt _ (by decide)) ell_lt

/-- marshal after unmarshal is the identity exactly on canonical values -/
theorem scMarshal_eq_self_iff (b : Bytes) : scMarshal b = b ↔ b.length = 32 ∧ leNat b < ell := by
  constructor
  · intro h
    have hl : b.length = 32 := by rw [← h]; exact scMarshal_length b
    have hv := leNat_scMarshal b
    rw [h] at hv
    refine ⟨hl, ?_⟩
    rw [hv]; exact Nat.mod_lt _ (by decide)
  · intro ⟨hl, hv⟩
    apply leNat_inj _ _ (by rw [scMarshal_length, hl])
    rw [leNat_scMarshal, Nat.mod_eq_of_lt hv]

/-- a number below ℓ in 32 bytes is a canonical scalar encoding -/
theorem scMarshal_natLE {m : Nat} (h : m < ell) : scMarshal (natLE 32 m) = natLE 32 m ∧ leNat (natLE 32 m) = m :=
  have e := leNat_natLE_of_lt 32 m (Nat.lt_trans h ell_lt)
  ⟨(scMarshal_eq_self_iff _).2 ⟨natLE_length _ _, e.symm ▸ h⟩, e⟩

theorem scCanonical_iff (b : Bytes) : scCanonical b = true ↔ b.length = 32 ∧ leNat b < ell := by
  unfold scCanonical
  rw [beq_iff_eq]
  exact scMarshal_eq_self_iff b

theorem scCanonical_natLE (s : Nat) (h : s < ell) : scCanonical (natLE 32 s) = true := by
  rw [scCanonical_iff, natLE_length, leNat_natLE_of_lt 32 s (Nat.lt_trans h ell_lt)]
  exact ⟨rfl, h⟩

end Dos.Ed25519
