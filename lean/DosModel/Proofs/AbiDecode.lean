/-
The decoder on ARBITRARY bytes: it never panics and what it returns is in the range of its type.  Both come from one
induction along the decoder, over the predicate `Sat P r`: "`r` is a value with property `P`, or an ordinary error".
-/
import DosModel.Proofs.Abi

namespace Dos.Abi
open Dos Dos.ReqLoop Dos.CodecBytes

/-- `r` is a value with property `P`, or the error go-ethereum returns: not a run-time panic -/
def Sat {α : Type} (P : α → Prop) : Dec α → Prop
  | .ok a => P a
  | .error .err => True
  | .error (.panic _) => False

/-- the result is a value or an ordinary error -/
abbrev NoPanic {α : Type} (r : Dec α) : Prop := Sat (fun _ => True) r

theorem Sat.ne_panic {α : Type} {P : α → Prop} {r : Dec α} (h : Sat P r) (s : String) : r ≠ .error (.panic s) := by
  rintro rfl; exact h

theorem Sat.of_ok {α : Type} {P : α → Prop} {r : Dec α} {a : α} (h : Sat P r) (e : r = .ok a) : P a := by
  subst e; exact h

theorem Sat.mono {α : Type} {P Q : α → Prop} {r : Dec α} (h : Sat P r) (hi : ∀ a, P a → Q a) : Sat Q r :=
  match r, h with
  | .ok a, h => hi a h
  | .error .err, _ => trivial

theorem Sat.bind {α β : Type} {Q : α → Prop} {P : β → Prop} {x : Dec α} {f : α → Dec β} (hx : Sat Q x)
    (hf : ∀ a, Q a → Sat P (f a)) : Sat P (x >>= f) :=
  match x, hx with
  | .ok a, h => hf a h
  | .error .err, _ => trivial

theorem bind_ok {α β : Type} {x : Dec α} {f : α → Dec β} {b : β} (h : x >>= f = .ok b) :
    ∃ a, x = .ok a ∧ f a = .ok b := by
  cases x with
  | ok a => exact ⟨a, rfl, h⟩
  | error e => simp [bind, Except.bind] at h

theorem slice_sat {site : String} {bs : Bytes} {a b : Nat} (h1 : a ≤ b) (h2 : b ≤ bs.length) :
    Sat (·.length = b - a) (slice site bs a b) := by
  rw [slice_ok h1 h2]
  show ((bs.drop a).take (b - a)).length = b - a
  rw [List.length_take, List.length_drop]; omega

theorem slice_len {site : String} {bs r : Bytes} {a b : Nat} (h : slice site bs a b = .ok r) : r.length = b - a := by
  by_cases hc : a ≤ b ∧ b ≤ bs.length
  · exact (slice_sat hc.1 hc.2).of_ok h
  · simp [slice, hc] at h

theorem wordAt_sat (bs : Bytes) (i : Nat) : Sat (·.length = 32) (wordAt bs i) := by
  unfold wordAt
  split
  · trivial
  · exact (slice_sat (by omega) (by omega)).mono fun w h => by omega

theorem beNat_lt_256 {w : Bytes} (hl : w.length = 32) : beNat w < 2 ^ 256 := by
  have := beNat_lt w
  rwa [hl, two_pow_256] at this

/-- narrow integers and addresses are reduced to their width, `uint256` is the whole word, `bool` is strict -/
theorem decElem_sat {e : Elem} (hw : e.wf = true) {w : Bytes} (hl : w.length = 32) :
    Sat (EVal.wt e · = true) (decElem e w) := by
  cases e with
  | uint b =>
    simp only [Elem.wf, Bool.or_eq_true, beq_iff_eq] at hw
    simp only [decElem]
    split
    · exact decide_eq_true (Nat.mod_lt _ (Nat.pow_pos (by omega)))
    · rename_i hc
      simp only [Bool.or_eq_true, beq_iff_eq, not_or] at hc
      obtain rfl : b = 256 := by omega
      exact decide_eq_true (beNat_lt_256 hl)
  | address => exact decide_eq_true (Nat.mod_lt _ (Nat.pow_pos (by omega)))
  | bool =>
    simp only [decElem]
    split
    · rfl
    · split
      · rfl
      · trivial
  | fixedBytes n =>
    simp only [Elem.wf, Bool.and_eq_true, decide_eq_true_eq] at hw
    exact (slice_sat (by omega) (by omega)).bind fun b hb => by
      show (b.length == n) = true
      rw [hb, Nat.sub_zero]; exact beq_self_eq_true n

theorem decWords_sat {e : Elem} (hw : e.wf = true) (sub : Bytes) : ∀ (n start : Nat),
    Sat (fun l => l.length = n ∧ l.all (EVal.wt e) = true) (decWords e sub n start)
  | 0, _ => ⟨rfl, rfl⟩
  | n + 1, start =>
    (wordAt_sat sub start).bind fun _ hl => (decElem_sat hw hl).bind fun _ hv =>
      (decWords_sat hw sub n (start + 32)).bind fun _ h =>
        ⟨congrArg (· + 1) h.1, by rw [List.all_cons, hv, h.2]; rfl⟩

theorem forEach_sat {e : Elem} (hw : e.wf = true) (sub : Bytes) (n : Nat) :
    Sat (fun l => l.length = n ∧ l.all (EVal.wt e) = true) (forEach e sub n) := by
  unfold forEach
  split
  · trivial
  · exact decWords_sat hw sub n 0

theorem lengthPrefix_sat {bs : Bytes} {i : Nat} (hi : i + 32 ≤ bs.length) :
    Sat (fun p => p.1 + p.2 ≤ bs.length) (lengthPrefix bs i) := by
  simp only [lengthPrefix]
  refine (slice_sat (by omega) hi).bind fun w _ => ?_
  split
  · trivial
  split
  · trivial
  refine (slice_sat (by omega) (by omega)).bind fun lw _ => ?_
  split
  · trivial
  split
  · trivial
  · show _ + _ ≤ _; omega

theorem lengthPrefix_bounds {bs : Bytes} {i start len : Nat} (h : lengthPrefix bs i = .ok (start, len)) :
    start + len ≤ bs.length := by
  by_cases hi : i + 32 ≤ bs.length
  · exact (lengthPrefix_sat hi).of_ok h
  · simp [lengthPrefix, slice, hi, bind, Except.bind] at h

theorem decOne_sat {t : AbiType} (hw : t.wf = true) (bs : Bytes) (i : Nat) :
    Sat (AbiVal.wt t · = true) (decOne t bs i) := by
  simp only [decOne]
  split
  · trivial
  have hi : i + 32 ≤ bs.length := by omega
  cases t with
  | elem e => exact (wordAt_sat bs i).bind fun _ hl => (decElem_sat hw hl).bind fun _ hv => hv
  | sarray e n =>
    simp only [AbiType.wf, Bool.and_eq_true] at hw
    exact (slice_sat (by omega) (Nat.le_refl _)).bind fun sub _ => (forEach_sat hw.1 sub n).bind fun l h => by
      show (l.length == n && l.all (EVal.wt e)) = true
      rw [h.1, h.2, beq_self_eq_true]; rfl
  | darray e =>
    exact (lengthPrefix_sat hi).bind fun ⟨start, len⟩ hb =>
      (slice_sat (by omega) (Nat.le_refl _)).bind fun sub _ => (forEach_sat hw sub len).bind fun _ h => h.2
  | bytes | string =>
    exact (lengthPrefix_sat hi).bind fun ⟨start, len⟩ hb =>
      (slice_sat (Nat.le_add_right _ _) hb).bind fun _ _ => rfl

/-- `UnpackValues` on arbitrary bytes: values well-typed for `tys`, or an error -/
theorem decGo_sat : ∀ (tys : List AbiType) (i : Nat) (bs : Bytes), tysWf tys = true →
    Sat (wtArgs tys · = true) (decGo i tys bs)
  | [], _, _, _ => rfl
  | t :: ts, i, bs, hw => by
    simp only [tysWf, List.all_cons, Bool.and_eq_true] at hw
    exact (decOne_sat hw.1 bs i).bind fun v hv => (decGo_sat ts _ bs hw.2).bind fun vs hvs => by
      show (v.wt t && wtArgs ts vs) = true
      rw [hv, hvs]; rfl

end Dos.Abi
