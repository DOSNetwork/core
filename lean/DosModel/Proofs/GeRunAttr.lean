/-
The simp set `ge_run`: the equations by which a run of the interpreter of Model/GeProg.lean on a literal body and a
literal register file is evaluated (members: Proofs/GeSpec.lean; the register layout of FromBytes: Proofs/GeDec.lean).
-/
import Lean.Meta.Tactic.Simp.RegisterCommand

/-- evaluation of `GeProg.runBody` on literal bodies and register files -/
register_simp_attr ge_run
