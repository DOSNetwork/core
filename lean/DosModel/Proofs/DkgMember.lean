/-
`Deals()` establishes the invariant, and every state a member machine (`Model/DkgSession.lean`)
can reach – whatever messages arrive, in whatever order – satisfies `MemberInv`: the generator
it carries satisfies `GoodGen`, all its own responses are approvals, and a finished member's
key share is what `DistKeyShare()` returned on that generator.
-/
import DosModel.Proofs.DkgSafety

set_option linter.unusedSectionVars false

namespace Dos.Dkg
open Dos Dos.Vss

variable {F G : Type} [Field F] [AddCommGroup G] [Module F G] [DecidableEq F] [DecidableEq G]

/-- a successful `Deals()` leaves the generator alone (the own slot is taken) or is the `ProcessDeal` of the
own deal, answered with an approval -/
theorem deals_ok {g : G} {d d1 : Gen F G} {ephs : List F} {ds : List (Nat × DkgDeal F G)}
    (h : deals g d ephs = .ok (d1, ds)) :
    ((getVerifier d d.index).isSome = true ∧ d1 = d) ∨
    ∃ resp r, processDeal g d ⟨d.index, ((encryptedDeals g d.dealer ephs)[d.index]?).join⟩ = (d1, .ok resp) ∧
      resp.resp = some r ∧ r.status = true := by
  unfold deals at h
  by_cases hex : (getVerifier d d.index).isSome = true
  · rw [if_pos hex] at h; cases h; exact Or.inl ⟨hex, rfl⟩
  · rw [if_neg hex] at h
    rcases hpd : processDeal g d ⟨d.index, ((encryptedDeals g d.dealer ephs)[d.index]?).join⟩ with ⟨d', err | resp⟩ <;>
      rw [hpd] at h <;> simp only at h
    · cases h
    · rcases hrr : resp.resp with _ | r <;> simp only [hrr] at h
      · cases h
      · split at h
        · rename_i hs; cases h; exact Or.inr ⟨resp, r, rfl, hrr, hs⟩
        · cases h

theorem deals_good (g : G) (d d1 : Gen F G) (ephs : List F) (ds : List (Nat × DkgDeal F G))
    (hd : GoodGen0 g d) (hempty : ∀ j, getVerifier d j = none) (h : deals g d ephs = .ok (d1, ds)) :
    GoodGen g d1 ∧ AllApproved d1 ∧ d1.index = d.index ∧ d1.long = d.long ∧ d1.participants = d.participants ∧
      d1.dealer = d.dealer := by
  rcases deals_ok h with ⟨hex, _⟩ | ⟨resp, r0, hpd, hrr, hs⟩
  · rw [hempty] at hex; cases hex
  generalize hdd : ({ index := d.index, deal := ((encryptedDeals g d.dealer ephs)[d.index]?).join } : DkgDeal F G) = dd
    at hpd
  replace hdd : dd.index = d.index := by rw [← hdd]
  have hgood0 := goodGen0_move (processDeal_move g false d dd hd.idx) hd fun v a hv => by rw [hempty] at hv; cases hv
  rcases processDeal_spec g d dd hd.idx with ⟨e, he⟩ | ⟨pub, w, hp, _, _, hw, hcase⟩
  · rw [hpd] at he; cases he
  rw [hpd] at hgood0 hw hcase
  obtain ⟨_, e, he⟩ | ⟨a, r, dl, _, _, hwa, hgr, _, _, hdl, _, _, _, hres⟩ := hcase
  · cases he
  cases hres; cases hrr
  obtain rfl : d1 = setVerifier d dd.index w := hw
  have hget : ∀ k, getVerifier (setVerifier d dd.index w) k = if dd.index = k then some w else none := fun k => by
    rw [getVerifier_set d dd.index k w (hd.len ▸ (List.getElem?_eq_some_iff.1 hp).1)]; split <;> [rfl; exact hempty k]
  refine ⟨⟨hgood0, ?_, ?_⟩, ?_, rfl, rfl, rfl, rfl⟩
  · show (getVerifier _ d.index).isSome = true
    rw [hget, if_pos hdd]; rfl
  · intro v a' hv ha'
    rw [show (setVerifier d dd.index w).index = d.index from rfl, hget, if_pos hdd] at hv
    cases hv; cases hwa.symm.trans ha'
    rw [hdl]; rfl
  · intro j v a' r0 hv ha' hr0
    rw [hget] at hv
    split at hv
    · cases hv; cases hwa.symm.trans ha'
      cases hgr.symm.trans hr0; exact hs
    · cases hv

/-- invariant of a member machine (the participant list has no key twice: fix babf9f5) -/
def MemberInv (g : G) (m : Member F G) : Prop :=
  match m.stage with
  | .waitDeals d => GoodGen g d ∧ AllApproved d ∧ d.long = m.long ∧ d.participants.Nodup
  | .waitResps d => GoodGen g d ∧ AllApproved d ∧ d.long = m.long ∧ d.participants.Nodup
  | .done d ks => GoodGen g d ∧ AllApproved d ∧ d.long = m.long ∧ d.participants.Nodup ∧ distKeyShare d = .ok ks
  | _ => True

theorem memberInv_done {g : G} {m : Member F G} {d : Gen F G} {ks : KeyShare F G} (hm : MemberInv g m)
    (hst : m.stage = .done d ks) : Finished g d ks ∧ d.participants.Nodup := by
  simp only [MemberInv, hst] at hm
  exact ⟨⟨⟨hm.1, hm.2.1⟩, hm.2.2.2.2⟩, hm.2.2.2.1⟩

/-- no key at two indices of a partially filled key table -/
def SomeInj (l : List (Option G)) : Prop := ∀ (a b : Nat) (k : G), l[a]? = some (some k) → l[b]? = some (some k) → a = b

theorem place_cons {n : Nat} {m : PkMsg G} {ms : List (PkMsg G)} {acc acc' : List (Option G)}
    (h : buildGen.place n (m :: ms) acc = some acc') :
    ∃ k, m.key = some k ∧ m.index < n ∧ m.sender = m.index ∧ acc[m.index]?.join = none ∧ some k ∉ acc ∧
      buildGen.place n ms (acc.set m.index (some k)) = some acc' := by
  rw [buildGen.place] at h
  rcases hk : m.key with _ | k
  · rw [hk] at h; cases h
  · rw [hk] at h
    -- the loop goes on only if every guard fails
    simp only [ite_eq_iff, reduceCtorEq, and_false, false_or] at h
    obtain ⟨h1, h2, h3, h4, h⟩ := h
    exact ⟨k, rfl, Nat.lt_of_not_le h1, not_not.1 h2, by simpa using h3,
      fun hin => h4 (List.contains_iff_mem.2 hin), h⟩

theorem someInj_set {acc : List (Option G)} {i : Nat} {k : G} (hinj : SomeInj acc) (hnot : some k ∉ acc) :
    SomeInj (acc.set i (some k)) := by
  intro a b k' ha hb
  rw [List.getElem?_set] at ha hb
  split at ha <;> split at hb
  · omega
  · split at ha
    · cases ha; exact absurd (List.mem_of_getElem? hb) hnot
    · cases ha
  · split at hb
    · cases hb; exact absurd (List.mem_of_getElem? ha) hnot
    · cases hb
  · exact hinj a b k' ha hb

/-- what a successful `place` guarantees: no key twice, nothing overwritten, and every message was
announced by the member whose index it claims and sits at that index -/
theorem place_inv (n : Nat) : ∀ (ms : List (PkMsg G)) (acc acc' : List (Option G)),
    acc.length = n → buildGen.place n ms acc = some acc' → SomeInj acc →
    SomeInj acc' ∧ (∀ (k : Nat) (v : G), acc[k]? = some (some v) → acc'[k]? = some (some v)) ∧
    (∀ x ∈ ms, x.sender = x.index ∧ ∃ v, x.key = some v ∧ acc'[x.index]? = some (some v)) := by
  intro ms
  induction ms with
  | nil =>
    intro acc acc' _ h hinj
    cases h
    exact ⟨hinj, fun _ _ h => h, fun _ h => (nomatch h)⟩
  | cons m ms ih =>
    intro acc acc' hl h hinj
    obtain ⟨k, hk, hlt, hsender, hfree, hnot, h'⟩ := place_cons h
    obtain ⟨h2, h3, h4⟩ := ih _ acc' (by rw [List.length_set, hl]) h' (someInj_set hinj hnot)
    refine ⟨h2, fun a v ha => h3 a v ?_, fun x hx => ?_⟩
    · rw [List.getElem?_set]
      split
      · rename_i he; rw [he, ha] at hfree; cases hfree
      · exact ha
    · rcases List.mem_cons.1 hx with rfl | hx
      · exact ⟨hsender, k, hk, h3 _ _ (List.getElem?_set_self (hl ▸ hlt))⟩
      · exact h4 x hx

theorem mapM_id_eq_some {α : Type} : ∀ (l : List (Option α)) (r : List α), l.mapM id = some r → l = r.map some := by
  intro l
  induction l with
  | nil => intro r h; simp at h; subst h; rfl
  | cons a l ih =>
    intro r h
    rw [List.mapM_cons] at h
    rcases a with _ | x
    · simp at h
    · rcases hl : l.mapM id with _ | bs
      · simp [hl] at h
      · simp [hl] at h
        subst h
        rw [ih bs hl]; rfl

/-- a generator that `exchangePub`/`genDistKeyGenerator` built: the good initial state; no key at two
indices; every key message of the batch was announced by the member whose index it claims, and its
key is the participant at that index -/
theorem buildGen_good {g : G} {n : Nat} {long : F} {f : List F} {own : PkMsg G} {batch : List (PkMsg G)}
    {d : Gen F G} (h : buildGen g n long f own batch = some d) :
    GoodGen0 g d ∧ (∀ j, getVerifier d j = none) ∧ d.long = long ∧ d.dealer.f = f ∧ d.participants.Nodup ∧
    (∀ x ∈ own :: batch, x.sender = x.index ∧ ∃ v, x.key = some v ∧ d.participants[x.index]? = some v) := by
  unfold buildGen at h
  split at h
  · cases h
  · rename_i slots hpl
    split at h
    · cases h
    · rename_i pubs hmap
      split at h
      · rename_i d0 hng
        injection h with h; subst h
        obtain ⟨h1, h2, h3, h4, h5⟩ := newGen_good0 hng
        obtain ⟨hinj, _, hb⟩ := place_inv n (own :: batch) (List.replicate n none) slots (by simp) hpl
          (by intro a b k ha _; by_cases hn : a < n <;> simp [hn] at ha)
        have hs := mapM_id_eq_some slots pubs hmap
        subst hs
        refine ⟨h1, h2, h4, h5, ?_, ?_⟩
        · rw [h3, List.nodup_iff_getElem?_ne_getElem?]
          intro a b hab hb' heq
          have hblt : b < pubs.length := hb'
          have halt : a < pubs.length := by omega
          have := hinj a b pubs[a] (by simp [halt]) (by
            rw [List.getElem?_map, ← heq]; simp [halt])
          omega
        · intro x hx
          obtain ⟨e1, v, e3, e4⟩ := hb x hx
          refine ⟨e1, v, e3, ?_⟩
          rw [h3]
          rw [List.getElem?_map] at e4
          rcases hp : pubs[x.index]? with _ | w
          · rw [hp] at e4; cases e4
          · rw [hp] at e4; simp at e4; rw [e4]
      · cases h

theorem advance_inv (g : G) : ∀ (fuel : Nat) (m : Member F G), MemberInv g m → MemberInv g (Member.advance g fuel m) := by
  intro fuel
  induction fuel with
  | zero => intro m hm; exact hm
  | succ fuel ih =>
    intro m hm
    unfold Member.advance
    -- per stage: no batch yet (`exact hm`), the stage fails (`trivial`: `MemberInv` of `failed` is `True`),
    -- or it hands on and `advance` goes on with the next stage (`ih`)
    split
    · -- waitPk
      split
      · exact hm
      · rename_i batch hb
        split
        · trivial
        · rename_i d hbg
          obtain ⟨h0, hempty, hlong, _, hnd, _⟩ := buildGen_good hbg
          split
          · rename_i d1 ds hdl
            apply ih
            obtain ⟨i1, i2, _, i4, i5, _⟩ := deals_good g d d1 m.ephs ds h0 hempty hdl
            exact ⟨i1, i2, by rw [i4, hlong], by rw [i5]; exact hnd⟩
          · trivial
    · -- waitDeals
      rename_i d hst
      have hm' : GoodGen g d ∧ AllApproved d ∧ d.long = m.long ∧ d.participants.Nodup := by
        unfold MemberInv at hm; rw [hst] at hm; exact hm
      split
      · exact hm
      · rename_i batch hb
        split
        · trivial
        · rename_i d1 rs hrd
          apply ih
          obtain ⟨i1, i2, _, i4, i5⟩ := runDeals_inv g batch d [] d1 rs hm'.1 hm'.2.1 hrd
          exact ⟨i1, i2, by rw [i4, hm'.2.2.1], by rw [i5]; exact hm'.2.2.2⟩
    · -- waitResps
      rename_i d hst
      have hm' : GoodGen g d ∧ AllApproved d ∧ d.long = m.long ∧ d.participants.Nodup := by
        unfold MemberInv at hm; rw [hst] at hm; exact hm
      split
      · exact hm
      · rename_i batch hb
        split
        · trivial
        · rename_i d1 hrr
          obtain ⟨i1, i2, _, i4, i5, _⟩ := runResps_inv g batch d d1 true hm'.1 hm'.2.1 hrr
          split
          · rename_i ks hgg
            exact ⟨i1, i2, by rw [i4, hm'.2.2.1], by rw [i5]; exact hm'.2.2.2, hgg⟩
          · trivial
          · trivial
    · exact hm

/-- a member whose key batch `buildGen` refuses fails with "gen" -/
theorem advance_gen_failed (g : G) (fuel : Nat) (m : Member F G) (batch : List (PkMsg G))
    (hs : m.stage = .waitPk) (hb : m.pkBox = some batch)
    (h : ∀ d, buildGen g m.n m.long m.f ⟨m.index, some (m.long • g), m.index⟩ batch ≠ some d) :
    (Member.advance g (fuel + 1) m).stage = .failed "gen" := by
  have hnone : buildGen g m.n m.long m.f ⟨m.index, some (m.long • g), m.index⟩ batch = none := by
    rcases hbg : buildGen g m.n m.long m.f ⟨m.index, some (m.long • g), m.index⟩ batch with _ | d
    · rfl
    · exact absurd hbg (h d)
  rw [Member.advance]
  simp only [hs, hb, hnone]

/-- the invariant only looks at the stage and the long-term key -/
theorem memberInv_congr {g : G} {m m' : Member F G} (hs : m'.stage = m.stage) (hl : m'.long = m.long)
    (h : MemberInv g m) : MemberInv g m' := by
  unfold MemberInv at h ⊢
  rw [hs, hl]; exact h

end Dos.Dkg
