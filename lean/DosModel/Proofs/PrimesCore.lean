/-
Pratt-certificate machinery for the kernel-checked primality proofs in `Proofs/Primes.lean`.

`powModAux` is exponentiation on `Nat` by base-256 digits of the exponent with a reduction modulo `n`
after every step, written by structural recursion on a fuel argument so that the Lean
kernel can evaluate it (with its GMP-accelerated `Nat.pow`/`Nat.mul`/`Nat.mod`/`Nat.div`) on closed terms.
`powModAux_modEq` proves it equal to `a ^ e` modulo `n` once and for all; `pratt` turns a
successful run of the Boolean checker `prattCheck` (one `a^(p-1) = 1`, one `a^((p-1)/f) ≠ 1` per
listed factor `f`, and `∏ fᵢ^eᵢ = p-1`) plus primality of the listed factors into `Nat.Prime p`
through Mathlib's `lucas_primality`.

A whole certificate is data: a list of rows `(q, a, factorisation of q - 1)` in dependency order.  `certOk` runs
`prattCheck` on every row and accepts a listed factor if it is the `q` of an earlier row or passes `smallPrime`
(one `Nat.gcd` against a factorial); `certOk_sound` says that every `q` of an accepted list is prime.

No compiled/native evaluation is trusted: the certificate file uses `decide +kernel`, i.e. the
check is a reduction of `certOk … = true` performed by the Lean kernel itself.
-/
import Mathlib.NumberTheory.LucasPrimality
import Mathlib.Data.Nat.ModEq
import Mathlib.Algebra.BigOperators.Group.List.Basic

namespace Dos.Primes

/-- exponentiation by the base-256 digits of the exponent, lowest first:
`powModAux n fuel b e acc ≡ acc * b^e (mod n)` when `e < 2^fuel`.  The small powers `b ^ 256`, `b ^ (e % 256)`
are single calls of the kernel's GMP `Nat.pow`, so a step costs little more than a squaring step of the
binary method would, and there are eight times fewer of them. -/
def powModAux (n : Nat) : Nat → Nat → Nat → Nat → Nat
  | 0, _, _, acc => acc
  | fuel + 1, b, e, acc =>
    bif e == 0 then acc
    else powModAux n fuel (b ^ 256 % n) (e / 256) (acc * b ^ (e % 256) % n)

/-- `a ^ e mod n` (`fuel` ≥ bit length of `e`) -/
def powMod (fuel a e n : Nat) : Nat := powModAux n fuel (a % n) e (1 % n)

theorem powModAux_modEq (n : Nat) :
    ∀ (fuel b e acc : Nat), e < 2 ^ fuel → powModAux n fuel b e acc ≡ acc * b ^ e [MOD n]
  | 0, b, e, acc, h => by
    have : e = 0 := by simpa using h
    subst this
    simp [powModAux, Nat.ModEq]
  | fuel + 1, b, e, acc, h => by
    unfold powModAux
    by_cases he : e = 0
    · subst he; simp [Nat.ModEq]
    · have hlt : e / 256 < 2 ^ fuel := by
        rw [pow_succ] at h
        omega
      have he' : (e == 0) = false := by simpa using he
      rw [he', cond_false]
      refine (powModAux_modEq n fuel _ _ _ hlt).trans ?_
      have hb : (b ^ 256 % n) ^ (e / 256) ≡ (b ^ 256) ^ (e / 256) [MOD n] := (Nat.mod_modEq _ _).pow _
      refine ((Nat.mod_modEq _ _).mul hb).trans ?_
      rw [← pow_mul, mul_assoc, ← pow_add, Nat.mod_add_div]

theorem powMod_modEq {fuel a e n : Nat} (h : e < 2 ^ fuel) : powMod fuel a e n ≡ a ^ e [MOD n] := by
  unfold powMod
  refine (powModAux_modEq n fuel (a % n) e (1 % n) h).trans ?_
  have := ((Nat.mod_modEq 1 n).mul ((Nat.mod_modEq a n).pow e))
  simpa using this

theorem powModAux_lt {n : Nat} (hn : 0 < n) :
    ∀ (fuel b e acc : Nat), acc < n → powModAux n fuel b e acc < n
  | 0, _, _, _, h => by simpa [powModAux] using h
  | fuel + 1, b, e, acc, h => by
    unfold powModAux
    cases (e == 0)
    · exact powModAux_lt hn _ _ _ _ (Nat.mod_lt _ hn)
    · simpa using h

theorem powMod_lt {fuel a e n : Nat} (hn : 1 < n) : powMod fuel a e n < n :=
  powModAux_lt (by omega) _ _ _ _ (Nat.mod_lt _ (by omega))

/-- the run of `powMod` is the power in `ZMod n` -/
theorem powMod_cast {fuel a e n : Nat} (h : e < 2 ^ fuel) :
    ((powMod fuel a e n : ℕ) : ZMod n) = (a : ZMod n) ^ e := by
  rw [← Nat.cast_pow, ZMod.natCast_eq_natCast_iff]
  exact powMod_modEq h

/-- every listed base is prime -/
def AllPrime : List (ℕ × ℕ) → Prop
  | [] => True
  | f :: fs => f.1.Prime ∧ AllPrime fs

theorem AllPrime.mem : ∀ {fs : List (ℕ × ℕ)}, AllPrime fs → ∀ f ∈ fs, f.1.Prime
  | [], _, _, hf => by cases hf
  | _ :: _, h, f, hf => by
    rcases List.mem_cons.1 hf with rfl | hf
    · exact h.1
    · exact AllPrime.mem h.2 f hf

/-- `∏ fᵢ ^ eᵢ` -/
def factProd : List (ℕ × ℕ) → ℕ
  | [] => 1
  | f :: fs => f.1 ^ f.2 * factProd fs

theorem dvd_factProd : ∀ {fs : List (ℕ × ℕ)}, AllPrime fs → ∀ {q : ℕ}, q.Prime → q ∣ factProd fs →
    ∃ f ∈ fs, f.1 = q
  | [], _, q, hq, hd => by
    exact absurd (Nat.dvd_one.1 hd) hq.ne_one
  | f :: fs, h, q, hq, hd => by
    rcases (Nat.Prime.dvd_mul hq).1 hd with h1 | h2
    · have := hq.dvd_of_dvd_pow h1
      exact ⟨f, List.mem_cons_self, ((Nat.prime_dvd_prime_iff_eq hq h.1).1 this).symm⟩
    · obtain ⟨g, hg, hgq⟩ := dvd_factProd h.2 hq h2
      exact ⟨g, List.mem_cons_of_mem _ hg, hgq⟩

/-- all the order conditions `a^((p-1)/f) ≠ 1 (mod p)` -/
def orderCheck (fuel p a : ℕ) : List (ℕ × ℕ) → Bool
  | [] => true
  | f :: fs => (powMod fuel a ((p - 1) / f.1) p != 1) && orderCheck fuel p a fs

theorem orderCheck_mem {fuel p a : ℕ} : ∀ {fs : List (ℕ × ℕ)}, orderCheck fuel p a fs = true →
    ∀ f ∈ fs, powMod fuel a ((p - 1) / f.1) p ≠ 1
  | [], _, _, hf => by cases hf
  | _ :: _, h, f, hf => by
    simp only [orderCheck, Bool.and_eq_true, bne_iff_ne, ne_eq] at h
    rcases List.mem_cons.1 hf with rfl | hf
    · exact h.1
    · exact orderCheck_mem h.2 f hf

/-- the Boolean Pratt check of one node: `1 < p < 2^fuel`, `∏ fᵢ^eᵢ = p-1`, `a^(p-1) = 1`,
`a^((p-1)/fᵢ) ≠ 1` for every `i`, all modulo `p` -/
def prattCheck (fuel p a : ℕ) (fs : List (ℕ × ℕ)) : Bool :=
  Nat.blt 1 p && Nat.blt p (2 ^ fuel) && (factProd fs == p - 1) &&
    (powMod fuel a (p - 1) p == 1) && orderCheck fuel p a fs

/-- **Pratt node**: a successful check and primality of the listed factors give primality. -/
theorem pratt (fuel p a : ℕ) (fs : List (ℕ × ℕ)) (hc : prattCheck fuel p a fs = true)
    (hfs : AllPrime fs) : p.Prime := by
  simp only [prattCheck, Bool.and_eq_true, Nat.blt_eq, beq_iff_eq] at hc
  obtain ⟨⟨⟨⟨h1p, hp⟩, hprod⟩, hpow⟩, hord⟩ := hc
  have hlt : ∀ e, e ≤ p - 1 → e < 2 ^ fuel := fun e he => lt_of_le_of_lt (he.trans (Nat.sub_le _ _)) hp
  apply lucas_primality p (a : ZMod p)
  · rw [← powMod_cast (hlt _ le_rfl), hpow, Nat.cast_one]
  · intro q hq hqd
    rw [← hprod] at hqd
    obtain ⟨f, hf, rfl⟩ := dvd_factProd hfs hq hqd
    have hne := orderCheck_mem hord f hf
    rw [← powMod_cast (hlt _ (Nat.div_le_self _ _))]
    intro h
    apply hne
    have h' : ((powMod fuel a ((p - 1) / f.1) p : ℕ) : ZMod p) = ((1 : ℕ) : ZMod p) := by
      simpa using h
    rw [ZMod.natCast_eq_natCast_iff, Nat.ModEq, Nat.mod_eq_of_lt h1p] at h'
    rwa [Nat.mod_eq_of_lt (powMod_lt h1p)] at h'

/-! ### a certificate as data -/

open scoped Nat

/-- a number below `m ^ 2` with no factor in `2 … m - 1` is prime -/
theorem prime_of_coprime_factorial {q m : ℕ} (h1 : 1 < q) (hm : q < m ^ 2) (hc : q.Coprime (m - 1)!) :
    q.Prime := by
  by_contra hq
  have hlt : q.minFac < m :=
    lt_of_pow_lt_pow_left₀ 2 m.zero_le ((Nat.minFac_sq_le_self (Nat.zero_lt_of_lt h1) hq).trans_lt hm)
  exact (Nat.minFac_prime h1.ne').one_lt.ne' (Nat.eq_one_of_dvd_coprimes hc q.minFac_dvd
    (Nat.dvd_factorial q.minFac_pos (Nat.le_sub_one_of_lt hlt)))

/-- the test for the small factors of a certificate: `1 < q < 2 ^ 20` has no factor below `m`, a power of two
with `q < m ^ 2`.  For the kernel this is one `Nat.gcd` of literals once the factorial (at most 1023 factors) is
evaluated, and the calls of one check share the factorials: the kernel remembers the closed terms it has reduced.
The bound only keeps the test cheap; `certOk` looks a larger factor up among its rows. -/
def smallPrime (q : ℕ) : Bool :=
  Nat.blt 1 q && Nat.blt q (2 ^ 20) && Nat.gcd q (2 ^ (q.log2 / 2 + 1) - 1)! == 1

theorem smallPrime_sound {q : ℕ} (h : smallPrime q = true) : q.Prime := by
  simp only [smallPrime, Bool.and_eq_true, Nat.blt_eq, beq_iff_eq] at h
  refine prime_of_coprime_factorial h.1.1 (Nat.lt_log2_self.trans_le ?_) h.2
  rw [← pow_mul]
  exact Nat.pow_le_pow_right Nat.two_pos (by omega)

theorem allPrime_of_forall : ∀ {fs : List (ℕ × ℕ)}, (∀ f ∈ fs, f.1.Prime) → AllPrime fs
  | [], _ => trivial
  | _ :: _, h => ⟨h _ List.mem_cons_self, allPrime_of_forall fun g hg => h g (List.mem_cons_of_mem _ hg)⟩

/-- the check of a certificate: rows `(q, a, factorisation of q - 1)`, every listed factor a small prime or the
`q` of an earlier row (`known` holds those of the rows already passed), every row a Pratt node -/
def certOk (known : List ℕ) : List (ℕ × ℕ × List (ℕ × ℕ)) → Bool
  | [] => true
  | (q, a, fs) :: rows =>
    fs.all (fun f => smallPrime f.1 || known.contains f.1) && prattCheck (q.log2 + 1) q a fs &&
      certOk (q :: known) rows

/-- every row of a certificate that passes the check holds a prime -/
theorem certOk_sound : ∀ {known : List ℕ} {rows : List (ℕ × ℕ × List (ℕ × ℕ))}, certOk known rows = true →
    (∀ k ∈ known, k.Prime) → ∀ q ∈ rows.map (·.1), q.Prime
  | _, [], _, _, _, hq => by cases hq
  | known, (q, a, fs) :: rows, h, hk, r, hr => by
    simp only [certOk, Bool.and_eq_true, List.all_eq_true, Bool.or_eq_true, List.contains_iff_mem] at h
    have hq : q.Prime :=
      pratt _ q a fs h.1.2 (allPrime_of_forall fun f hf => (h.1.1 f hf).elim smallPrime_sound (hk _))
    rcases List.mem_cons.1 hr with rfl | hr
    · exact hq
    · exact certOk_sound h.2 (fun k hk' => (List.mem_cons.1 hk').elim (· ▸ hq) (hk k)) r hr

end Dos.Primes
