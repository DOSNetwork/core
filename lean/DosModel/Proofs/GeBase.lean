/-
C20 — the base point.  `basePt` is the affine point (x, 4/5) of RFC 8032 (the coordinates the independent
model `Dos.Ed.base` uses); it is on the curve, and the limb constant `baseext` of const.go (regenerated) is a good
extended representation of it (its Z is not 1).
-/
import DosModel.Proofs.GeSpec
import DosModel.Proofs.ZModFacts

set_option exponentiation.threshold 600

namespace Dos.Ge
open Dos Dos.Ed25519 Dos.FeProg Dos.FeOps Dos.GeProg Dos.Ed25519Prime Dos.Edwards Dos.Gen.Ed25519Ge

def baseX : Nat := 15112221349535400772501151409588531511454012693041857206046113283949847762202
def baseY : Nat := 46316835694926478169428394003475163141307993866256225615783033603165251855960

theorem natCast_eq_of_mod {a b : Nat} (h : a % Dos.Ed.p = b % Dos.Ed.p) : ((a : ℕ) : F) = ((b : ℕ) : F) :=
  (ZMod.natCast_eq_natCast_iff a b _).2 h

theorem base_onCurve : OnCurve E25519.d ((baseX : ℕ) : F) ((baseY : ℕ) : F) := by
  unfold OnCurve
  have h : ((baseY ^ 2 : ℕ) : F) = ((baseX ^ 2 + 1 + Dos.Ed.d * baseX ^ 2 * baseY ^ 2 : ℕ) : F) :=
    natCast_eq_of_mod (by decide +kernel)
  push_cast at h
  show -((baseX : ℕ) : F) ^ 2 + ((baseY : ℕ) : F) ^ 2 = 1 + ((Dos.Ed.d : ℕ) : F) * ((baseX : ℕ) : F) ^ 2 * ((baseY : ℕ) : F) ^ 2
  linear_combination h

def basePt : Pt := ⟨((baseX : ℕ) : F), ((baseY : ℕ) : F), base_onCurve⟩

/-- values of the four limb vectors of `baseext` modulo p -/
def extXn : Nat := (feVal baseExt.X % pI).toNat
def extYn : Nat := (feVal baseExt.Y % pI).toNat
def extZn : Nat := (feVal baseExt.Z % pI).toNat
def extTn : Nat := (feVal baseExt.T % pI).toNat

theorem baseExt_good : GoodExt baseExt basePt := by
  have vX : val baseExt.X = ((extXn : ℕ) : F) := val_of_modP (by unfold ModP; decide +kernel)
  have vY : val baseExt.Y = ((extYn : ℕ) : F) := val_of_modP (by unfold ModP; decide +kernel)
  have vZ : val baseExt.Z = ((extZn : ℕ) : F) := val_of_modP (by unfold ModP; decide +kernel)
  have vT : val baseExt.T = ((extTn : ℕ) : F) := val_of_modP (by unfold ModP; decide +kernel)
  have hz : ((extZn : ℕ) : F) ≠ 0 := ZModFacts.natCast_ne_zero (by decide +kernel) (by decide +kernel)
  have hx : ((extXn : ℕ) : F) = ((baseX : ℕ) : F) * ((extZn : ℕ) : F) := by
    rw [← Nat.cast_mul]; exact natCast_eq_of_mod (by decide +kernel)
  have hy : ((extYn : ℕ) : F) = ((baseY : ℕ) : F) * ((extZn : ℕ) : F) := by
    rw [← Nat.cast_mul]; exact natCast_eq_of_mod (by decide +kernel)
  have hxy : ((extXn : ℕ) : F) * ((extYn : ℕ) : F) = ((extZn : ℕ) : F) * ((extTn : ℕ) : F) := by
    rw [← Nat.cast_mul, ← Nat.cast_mul]; exact natCast_eq_of_mod (by decide +kernel)
  exact
    { bX := by decide, bY := by decide, bZ := by decide, bT := by decide
      z_ne := by rw [vZ]; exact hz
      xy := by rw [vX, vY, vZ, vT]; exact hxy
      hx := by rw [vX, vZ, hx]; exact mul_div_cancel_right₀ _ hz
      hy := by rw [vY, vZ, hy]; exact mul_div_cancel_right₀ _ hz }

theorem basePt_ne_zero : basePt ≠ 0 := by
  intro h
  exact ZModFacts.natCast_ne_zero (q := Dos.Ed.p) (n := baseX) (by decide) (by decide) (congrArg Point.x h)

end Dos.Ge
