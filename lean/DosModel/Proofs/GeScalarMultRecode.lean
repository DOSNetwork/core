/-
C20 — the signed-nybble recoding at the head of `geScalarMult` / `geScalarMultBase` (ge.go):

    e[2i] = a[i] & 15, e[2i+1] = (a[i] >> 4) & 15;  carry pass over i < 63;  e[63] += carry

For a 32-byte scalar with a[31] ≤ 127 the 64 digits are in [−8, 8] (the first 63 even in [−8, 7]), every int8
intermediate of the Go code is within [0, 24] ⊂ int8 (so the int8 arithmetic never wraps), and
Σ e[i]·16^i = leNat a.
-/
import Mathlib.Tactic.Ring
import Mathlib.Tactic.Linarith
import DosModel.Model.Ed25519Ge

namespace Dos.Ge
open Dos Dos.Ed25519

theorem getD_eq_getElem' {α : Type} (l : List α) (d : α) {n : Nat} (h : n < l.length) : l.getD n d = l[n] := by
  simp [List.getD, List.getElem?_eq_getElem h]

theorem getD_mem' {α : Type} (l : List α) (d : α) {n : Nat} (h : n < l.length) : l.getD n d ∈ l := by
  rw [getD_eq_getElem' l d h]; exact List.getElem_mem _

/-- little-endian radix-16 value of a digit list -/
def digitsVal : List Int → Int
  | [] => 0
  | x :: xs => x + 16 * digitsVal xs

theorem digitsVal_append (l : List Int) (y : Int) : digitsVal (l ++ [y]) = digitsVal l + 16 ^ l.length * y := by
  induction l with
  | nil => simp [digitsVal]
  | cons x xs ih =>
    simp only [List.cons_append, digitsVal, ih, List.length_cons]
    ring

/-- the value of the digits from position `i` on: Horner step -/
theorem digitsVal_drop (l : List Int) (i : Nat) (hi : i < l.length) :
    digitsVal (l.drop i) = l.getD i 0 + 16 * digitsVal (l.drop (i + 1)) := by
  rw [List.drop_eq_getElem_cons hi]
  simp only [digitsVal]
  rw [getD_eq_getElem' _ _ hi]

theorem nybbles_cons (v : UInt8) (a : Bytes) :
    nybbles (v :: a) = Int.ofNat (v.toNat % 16) :: Int.ofNat (v.toNat / 16 % 16) :: nybbles a := by
  simp [nybbles]

theorem nybbles_nil : nybbles [] = [] := rfl

theorem nybbles_length (a : Bytes) : (nybbles a).length = 2 * a.length := by
  induction a with
  | nil => rfl
  | cons v a ih => rw [nybbles_cons]; simp only [List.length_cons, ih]; ring

theorem nybbles_range (a : Bytes) : ∀ d ∈ nybbles a, 0 ≤ d ∧ d ≤ 15 := by
  induction a with
  | nil => intro d hd; simp [nybbles_nil] at hd
  | cons v a ih =>
    intro d hd
    rw [nybbles_cons] at hd
    simp only [List.mem_cons] at hd
    rcases hd with rfl | rfl | hd
    · simp only [Int.ofNat_eq_natCast]; omega
    · simp only [Int.ofNat_eq_natCast]; omega
    · exact ih d hd

theorem nybbles_val (a : Bytes) : digitsVal (nybbles a) = (leNat a : Int) := by
  induction a with
  | nil => rfl
  | cons v a ih =>
    rw [nybbles_cons]
    simp only [digitsVal, leNat, ih, Int.ofNat_eq_natCast]
    have := v.toNat_lt
    omega

theorem nybbles_odd (a : Bytes) (i : Nat) : (nybbles a).getD (2 * i + 1) 0 = Int.ofNat ((a.getD i 0).toNat / 16 % 16) := by
  induction a generalizing i with
  | nil => simp [nybbles_nil]
  | cons v a ih =>
    rw [nybbles_cons]
    cases i with
    | zero => simp
    | succ i =>
      have : 2 * (i + 1) + 1 = (2 * i + 1) + 1 + 1 := by ring
      rw [this, List.getD_cons_succ, List.getD_cons_succ, ih, List.getD_cons_succ]

/-- one iteration `e[i] += carry; carry = (e[i] + 8) >> 4; e[i] -= carry << 4` -/
def recStep (st : List Int × Int) (x : Int) : List Int × Int :=
  let x := x + st.2
  let c := shrI (x + 8) 4
  (st.1 ++ [x - shl c 4], c)

theorem recode_eq (e : List Int) : recode e = ((e.take 63).foldl recStep ([], 0)).1 ++ [e.getD 63 0 + ((e.take 63).foldl recStep ([], 0)).2] := rfl

/-- one step on a digit 0 … 15 with carry 0/1: the int8 intermediates of the Go code (`e[i] + carry`, `e[i] + 8`,
`carry << 4`, the new `e[i]`) stay within int8 (in fact within [−8, 24]), the new digit is in [−8, 7], the new carry
is 0/1, and digit + 16·carry' = x + carry -/
theorem recStep_spec (x c : Int) (hx : 0 ≤ x ∧ x ≤ 15) (hc : 0 ≤ c ∧ c ≤ 1) :
    let x1 := x + c
    let c1 := shrI (x1 + 8) 4
    (0 ≤ x1 ∧ x1 ≤ 16) ∧ (8 ≤ x1 + 8 ∧ x1 + 8 ≤ 24) ∧ (0 ≤ c1 ∧ c1 ≤ 1) ∧ (0 ≤ shl c1 4 ∧ shl c1 4 ≤ 16)
      ∧ (-8 ≤ x1 - shl c1 4 ∧ x1 - shl c1 4 ≤ 7) ∧ (x1 - shl c1 4) + 16 * c1 = x + c := by
  simp only
  unfold shrI shl
  rw [Int.shiftRight_eq_div_pow]
  norm_num
  omega

theorem carryPass (l : List Int) (hl : ∀ d ∈ l, 0 ≤ d ∧ d ≤ 15) (acc : List Int) (c : Int) (hc : 0 ≤ c ∧ c ≤ 1) :
    ∃ ds c', l.foldl recStep (acc, c) = (acc ++ ds, c') ∧ ds.length = l.length ∧ (∀ d ∈ ds, -8 ≤ d ∧ d ≤ 7)
      ∧ (0 ≤ c' ∧ c' ≤ 1) ∧ digitsVal ds + 16 ^ l.length * c' = digitsVal l + c := by
  induction l generalizing acc c with
  | nil => exact ⟨[], c, by simp, rfl, by simp, hc, by simp [digitsVal]⟩
  | cons x xs ih =>
    obtain ⟨_, _, h3, _, h5, h6⟩ := recStep_spec x c (hl x (by simp)) hc
    obtain ⟨ds, c', e1, e2, e3, e4, e5⟩ := ih (fun d hd => hl d (by simp [hd]))
      (acc ++ [x + c - shl (shrI (x + c + 8) 4) 4]) (shrI (x + c + 8) 4) h3
    refine ⟨(x + c - shl (shrI (x + c + 8) 4) 4) :: ds, c', ?_, by simp [e2], ?_, e4, ?_⟩
    · rw [List.foldl_cons]
      show List.foldl recStep (acc ++ [x + c - shl (shrI (x + c + 8) 4) 4], shrI (x + c + 8) 4) xs = _
      rw [e1]; simp
    · intro d hd
      simp only [List.mem_cons] at hd
      rcases hd with rfl | hd
      · exact h5
      · exact e3 d hd
    · simp only [digitsVal, List.length_cons]
      have : (16 : Int) ^ (xs.length + 1) * c' = 16 * (16 ^ xs.length * c') := by ring
      rw [this]
      linarith

theorem list64_split (e : List Int) (h : e.length = 64) : e = e.take 63 ++ [e.getD 63 0] := by
  have h1 : e = e.take 63 ++ e.drop 63 := (List.take_append_drop 63 e).symm
  have h2 : e.drop 63 = [e.getD 63 0] := by
    rw [List.drop_eq_getElem_cons (by omega), getD_eq_getElem' _ _ (by omega)]
    rw [List.drop_eq_nil_of_le (by omega)]
  rw [← h2]; exact h1

/-- the recoding of any 64 digits in [0, 15] whose last one is ≤ 7 -/
theorem recode_digits (e : List Int) (hlen : e.length = 64) (hr : ∀ d ∈ e, 0 ≤ d ∧ d ≤ 15) (h63 : e.getD 63 0 ≤ 7) :
    (recode e).length = 64 ∧ (∀ i, i < 64 → -8 ≤ (recode e).getD i 0 ∧ (recode e).getD i 0 ≤ 8)
      ∧ digitsVal (recode e) = digitsVal e := by
  obtain ⟨ds, c', e1, e2, e3, e4, e5⟩ := carryPass (e.take 63) (fun d hd => hr d (List.mem_of_mem_take hd)) [] 0 (by omega)
  have hlt : (e.take 63).length = 63 := by simp [hlen]
  have h63' : 0 ≤ e.getD 63 0 := by
    rw [getD_eq_getElem' _ _ (by omega)]
    exact (hr _ (List.getElem_mem _)).1
  rw [recode_eq, e1]
  simp only [List.nil_append]
  refine ⟨by simp [e2, hlt], ?_, ?_⟩
  · intro i hi
    have hlen' : (ds ++ [e.getD 63 0 + c']).length = 64 := by simp [e2, hlt]
    have hmem : (ds ++ [e.getD 63 0 + c']).getD i 0 ∈ ds ++ [e.getD 63 0 + c'] := getD_mem' _ _ (by omega)
    rw [List.mem_append] at hmem
    rcases hmem with hm | hm
    · have := e3 _ hm; omega
    · simp only [List.mem_singleton] at hm
      rw [hm]; omega
  · rw [digitsVal_append, e2]
    conv_rhs => rw [list64_split e hlen, digitsVal_append]
    rw [hlt] at e5 ⊢
    linarith

/-- **recoding**: 64 digits in [−8, 8] with Σ e[i]·16^i = the scalar -/
theorem recode_spec (a : Bytes) (hlen : a.length = 32) (h31 : (a.getD 31 0).toNat ≤ 127) :
    let e := recode (nybbles a)
    e.length = 64 ∧ (∀ i, i < 64 → -8 ≤ e.getD i 0 ∧ e.getD i 0 ≤ 8) ∧ digitsVal e = (leNat a : Int) := by
  have h63 : (nybbles a).getD 63 0 ≤ 7 := by
    rw [show 63 = 2 * 31 + 1 from rfl, nybbles_odd]
    simp only [Int.ofNat_eq_natCast]
    omega
  obtain ⟨h1, h2, h3⟩ := recode_digits (nybbles a) (by rw [nybbles_length, hlen]) (nybbles_range a) h63
  exact ⟨h1, h2, by rw [h3, nybbles_val]⟩

end Dos.Ge
