/-
Composition helper: the driver's scalar multiplication `G1.mul` (`Model/TblsG1.lean`: MSB-first
double-and-add on Jacobian coordinates, doubling `Jac.dbl` ("dbl-2009-l", a = 0), mixed addition
`Jac.addAff`, conversion `Jac.toPt`) computes `k • P` in `E(F_p)`: every step is related to the generic
affine formulas of `Proofs/ComposeCurve.lean` through the representation invariant `JRep`.
-/
import DosModel.Proofs.ComposeTblsG1

namespace Dos.Compose.TG1
open Dos Dos.G1 Dos.Compose.Curve

/-- reduced Jacobian triple `a` denotes the affine point `Q` -/
structure JRep (a : Jac) (Q : APt Fp) : Prop where
  rx : a.x < G1.p
  ry : a.y < G1.p
  rz : a.z < G1.p
  den : ((a.z : Fp) = 0 ∧ Q = .inf) ∨
    ((a.z : Fp) ≠ 0 ∧ Q = .aff ((a.x : Fp) / (a.z : Fp) ^ 2) ((a.y : Fp) / (a.z : Fp) ^ 3))

/-- the coordinates `Jac.dbl` computes, in the field (`M = 3X²`, `S = 4XY²`) -/
theorem cast_dbl (a : Jac) :
    ((a.dbl.x : Nat) : Fp) = 3 * (a.x : Fp) ^ 2 * (3 * (a.x : Fp) ^ 2) - 4 * (a.x : Fp) * (a.y : Fp) ^ 2
        - 4 * (a.x : Fp) * (a.y : Fp) ^ 2
    ∧ ((a.dbl.y : Nat) : Fp) = 3 * (a.x : Fp) ^ 2 * (4 * (a.x : Fp) * (a.y : Fp) ^ 2 -
        (3 * (a.x : Fp) ^ 2 * (3 * (a.x : Fp) ^ 2) - 4 * (a.x : Fp) * (a.y : Fp) ^ 2
          - 4 * (a.x : Fp) * (a.y : Fp) ^ 2)) - 8 * (a.y : Fp) ^ 4
    ∧ ((a.dbl.z : Nat) : Fp) = 2 * ((a.y : Fp) * (a.z : Fp)) := by
  refine ⟨?_, ?_, ?_⟩
  · simp only [Jac.dbl]
    rw [cast_fsub _ _ (fmul_lt _ _)]
    simp only [cast_fmul, cast_fadd, cast_fsub _ _ (fmul_lt _ _), Nat.cast_ofNat]
    ring
  · simp only [Jac.dbl]
    rw [cast_fsub _ _ (fmul_lt _ _), cast_fmul, cast_fsub _ _ (fsub_lt _ _), cast_fsub _ _ (fmul_lt _ _)]
    simp only [cast_fmul, cast_fadd, cast_fsub _ _ (fmul_lt _ _), Nat.cast_ofNat]
    ring
  · simp only [Jac.dbl, cast_fmul, Nat.cast_ofNat]

theorem jrep_dbl (a : Jac) (Q : APt Fp) (h : JRep a Q) : JRep a.dbl (adbl Q) := by
  obtain ⟨ex, ey, ez⟩ := cast_dbl a
  refine ⟨fsub_lt _ _, fsub_lt _ _, fmul_lt _ _, ?_⟩
  rcases h.den with ⟨hz, rfl⟩ | ⟨hz, rfl⟩
  · left; exact ⟨by rw [ez, hz, mul_zero, mul_zero], rfl⟩
  · by_cases hy : (a.y : Fp) = 0
    · left
      refine ⟨by rw [ez, hy, zero_mul, mul_zero], ?_⟩
      simp [adbl, hy]
    · right
      rw [ex, ey, ez]
      exact ⟨mul_ne_zero good3.two (mul_ne_zero hy hz), adbl_jaff good3.two hy hz rfl rfl rfl⟩

/-- the two numbers `Jac.addAff` branches on, in the field: `H = x₂Z² − X`, `R = y₂Z³ − Y` of `aadd_jaff` -/
theorem cast_addAff_general (a : Jac) (x2 y2 : Nat) (hax : a.x < G1.p) (hay : a.y < G1.p) :
    ((G1.fsub (G1.fmul x2 (G1.fmul a.z a.z)) a.x : Nat) : Fp) = (x2 : Fp) * (a.z : Fp) ^ 2 - a.x
    ∧ ((G1.fsub (G1.fmul y2 (G1.fmul a.z (G1.fmul a.z a.z))) a.y : Nat) : Fp)
        = (y2 : Fp) * (a.z : Fp) ^ 3 - a.y := by
  refine ⟨?_, ?_⟩
  · rw [cast_fsub _ _ hax]; simp only [cast_fmul]; ring
  · rw [cast_fsub _ _ hay]; simp only [cast_fmul]; ring

theorem jrep_addAff (a : Jac) (Q : APt Fp) (h : JRep a Q) (x2 y2 : Nat) (hx2 : x2 < G1.p)
    (hy2 : y2 < G1.p) : JRep (a.addAff x2 y2) (aadd Q (.aff (x2 : Fp) (y2 : Fp))) := by
  obtain ⟨hh, hr⟩ := cast_addAff_general a x2 y2 h.rx h.ry
  unfold Jac.addAff
  by_cases hz0 : a.z = 0
  · simp only [hz0, if_true]
    have hzF : (a.z : Fp) = 0 := by rw [hz0]; simp
    rcases h.den with ⟨_, rfl⟩ | ⟨hz, _⟩
    · refine ⟨hx2, hy2, (by show 1 < G1.p; decide), Or.inr ⟨by simp, ?_⟩⟩
      simp [aadd]
    · exact absurd hzF hz
  · simp only [hz0, if_false]
    have hzF : (a.z : Fp) ≠ 0 := fun h0 => hz0 ((cast_eq_zero_iff h.rz).1 h0)
    rcases h.den with ⟨hz, _⟩ | ⟨_, rfl⟩
    · exact absurd hz hzF
    · by_cases hh0 : G1.fsub (G1.fmul x2 (G1.fmul a.z a.z)) a.x = 0
      · simp only [hh0, if_true]
        have hhF : (x2 : Fp) * (a.z : Fp) ^ 2 - a.x = 0 := by rw [← hh, hh0]; simp
        have hxeq : (a.x : Fp) / (a.z : Fp) ^ 2 = x2 :=
          (div_eq_iff (pow_ne_zero 2 hzF)).2 (sub_eq_zero.1 hhF).symm
        by_cases hr0 : G1.fsub (G1.fmul y2 (G1.fmul a.z (G1.fmul a.z a.z))) a.y = 0
        · simp only [hr0, if_true]
          have hrF : (y2 : Fp) * (a.z : Fp) ^ 3 - a.y = 0 := by rw [← hr, hr0]; simp
          have hyeq : (a.y : Fp) / (a.z : Fp) ^ 3 = y2 :=
            (div_eq_iff (pow_ne_zero 3 hzF)).2 (sub_eq_zero.1 hrF).symm
          have := jrep_dbl a _ h
          simp only [aadd, hxeq, hyeq, if_true]
          rw [hxeq, hyeq] at this
          exact this
        · simp only [hr0, if_false]
          have hrF : (y2 : Fp) * (a.z : Fp) ^ 3 - a.y ≠ 0 := by
            rw [← hr]; exact fun h0 => hr0 ((cast_eq_zero_iff (fsub_lt _ _)).1 h0)
          have hyne : (a.y : Fp) / (a.z : Fp) ^ 3 ≠ y2 := fun he =>
            hrF (sub_eq_zero.2 ((div_eq_iff (pow_ne_zero 3 hzF)).1 he).symm)
          refine ⟨by decide, by decide, by decide, Or.inl ⟨by simp, ?_⟩⟩
          simp [aadd, hxeq, hyne]
      · simp only [hh0, if_false]
        have hhF : (x2 : Fp) * (a.z : Fp) ^ 2 - a.x ≠ 0 := by
          rw [← hh]; exact fun h0 => hh0 ((cast_eq_zero_iff (fsub_lt _ _)).1 h0)
        refine ⟨fsub_lt _ _, fsub_lt _ _, fmul_lt _ _, Or.inr ⟨?_, ?_⟩⟩
        · rw [cast_fmul, hh]; exact mul_ne_zero hzF hhF
        · simp only [cast_fsub _ _ (fmul_lt _ _), cast_fsub _ _ (fsub_lt _ _), cast_fmul, Nat.cast_ofNat]
          exact aadd_jaff hzF (hh ▸ hhF) hh hr

theorem jrep_toPt (a : Jac) (Q : APt Fp) (h : JRep a Q) : cT a.toPt = Q ∧ Reduced a.toPt := by
  unfold Jac.toPt
  by_cases hz0 : a.z = 0
  · simp only [hz0, if_true]
    have hzF : (a.z : Fp) = 0 := by rw [hz0]; simp
    rcases h.den with ⟨_, rfl⟩ | ⟨hz, _⟩
    · exact ⟨rfl, trivial⟩
    · exact absurd hzF hz
  · simp only [hz0, if_false]
    have hzF : (a.z : Fp) ≠ 0 := fun h0 => hz0 ((cast_eq_zero_iff h.rz).1 h0)
    rcases h.den with ⟨hz, _⟩ | ⟨_, rfl⟩
    · exact absurd hz hzF
    · refine ⟨?_, fmul_lt _ _, fmul_lt _ _⟩
      simp only [cT, cast_fmul, cast_finv]
      refine congrArg₂ APt.aff ?_ ?_
      · field_simp
      · field_simp

/-- the low `i + 1` bits of `k`: bit `i`, then the low `i` bits -/
theorem mod_two_pow_succ (k i : Nat) :
    k % 2 ^ (i + 1) = (if k.testBit i then 2 ^ i else 0) + k % 2 ^ i := by
  rw [Nat.mod_pow_succ, Nat.testBit_eq_decide_div_mod_eq, Nat.add_comm]
  rcases Nat.mod_two_eq_zero_or_one (k / 2 ^ i) with h | h <;> simp [h]

/-- the loop: with `i` bits of `k` left to process, the accumulator `Q` ends as
`2^i • Q + (k mod 2^i) • P` – stated with the generic affine operations -/
theorem mulAux_spec (x y : Nat) (hx : x < G1.p) (hy : y < G1.p) (hc : (APt.aff (x : Fp) (y : Fp)).OnCurve (3 : Fp))
    (k : Nat) : ∀ (i : Nat) (acc : Jac) (Q : APt Fp), JRep acc Q → Q.OnCurve (3 : Fp) →
      ∃ Q', JRep (mulAux x y k i acc) Q' ∧ Q'.OnCurve (3 : Fp) ∧
        toPoint 3 Q' = (2 ^ i) • toPoint 3 Q + (k % 2 ^ i) • toPoint 3 (APt.aff (x : Fp) (y : Fp)) := by
  intro i
  induction i with
  | zero =>
    intro acc Q h hq
    exact ⟨Q, h, hq, by simp [Nat.mod_one]⟩
  | succ i ih =>
    intro acc Q h hq
    unfold mulAux
    have hd := jrep_dbl acc Q h
    obtain ⟨hdc, hdp⟩ := adbl_spec good3 Q hq
    rw [mod_two_pow_succ]
    cases hb : k.testBit i with
    | true =>
      have ha := jrep_addAff acc.dbl _ hd x y hx hy
      obtain ⟨hac, hap⟩ := aadd_spec good3 _ (APt.aff (x : Fp) (y : Fp)) hdc hc
      obtain ⟨Q', h1, h2, h3⟩ := ih _ _ ha hac
      refine ⟨Q', h1, h2, ?_⟩
      rw [h3, hap, hdp, if_pos rfl, pow_succ, mul_nsmul', two_nsmul, nsmul_add, add_nsmul, add_assoc]
    | false =>
      obtain ⟨Q', h1, h2, h3⟩ := ih _ _ hd hdc
      refine ⟨Q', h1, h2, ?_⟩
      rw [h3, hdp, if_neg Bool.false_ne_true, zero_add, pow_succ, mul_nsmul', two_nsmul]

/-- **the driver's scalar multiplication is `k •` in `E(F_p)`**, and stays valid -/
theorem mul_spec (k : Nat) (P : Pt) (hP : Valid P) :
    Valid (G1.mul k P) ∧ toPoint 3 (cT (G1.mul k P)) = k • toPoint 3 (cT P) := by
  cases P with
  | inf => exact ⟨trivial, by simp [G1.mul, cT, toPoint]⟩
  | aff x y =>
    obtain ⟨hx, hy, hcv⟩ := hP
    have hc : (APt.aff (x : Fp) (y : Fp)).OnCurve (3 : Fp) := (onCurve_iff x y).1 hcv
    have h0 : JRep ⟨0, 1, 0⟩ .inf := ⟨by decide, by decide, by decide, Or.inl ⟨by simp, rfl⟩⟩
    obtain ⟨Q', h1, h2, h3⟩ := mulAux_spec x y hx hy hc k (k.log2 + 1) ⟨0, 1, 0⟩ .inf h0 trivial
    obtain ⟨e, hr⟩ := jrep_toPt _ _ h1
    have hmod : k % 2 ^ (k.log2 + 1) = k := Nat.mod_eq_of_lt Nat.lt_log2_self
    have hval : toPoint 3 (cT (G1.mul k (.aff x y))) = k • toPoint 3 (cT (.aff x y)) := by
      show toPoint 3 (cT (mulAux x y k (k.log2 + 1) ⟨0, 1, 0⟩).toPt) = _
      rw [e, h3, hmod]
      have hz : toPoint (3 : Fp) APt.inf = 0 := rfl
      rw [hz, nsmul_zero, zero_add]
      rfl
    exact ⟨valid_of_onCurve hr (e ▸ h2), hval⟩

end Dos.Compose.TG1
