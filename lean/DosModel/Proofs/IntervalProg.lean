/-
C20 — soundness of the interval abstract interpreter of Model/IntervalProg.lean, proved ONCE
for all programs:

  `absProg_sound`   : if the concrete environment lies in the abstract one (every variable in its interval, the
                      carry fact true) and `absProg σ p = some σ'`, then no (sub)expression of `p` leaves the int64
                      range (`SafeProg`) and the final environment lies in `σ'`;
  `evalProg64_eq`   : `SafeProg ρ p` ⇒ Go's wrapping int64 semantics and the unbounded-`Int` semantics coincide;
  the same for the phases of a scalar routine (`absLoad/absInit/absBlocks/absStore`, `runW wrap = runW id`).

Interval rules: `+ - *` by interval arithmetic (four corner products), `>> k` is floor division by 2^k (monotone),
`<< k` multiplication by 2^k, `&` of two non-negative values is bounded by both, `|` of two non-negative values has
no more bits than the larger.  Relational rule: after `c := (s + off) >> k` (s, c not overwritten since),
`s - (c << k) = (s + off) mod 2^k - off ∈ [-off, 2^k - 1 - off]`.
-/
import Mathlib.Tactic.Ring
import Mathlib.Tactic.Linarith
import Mathlib.Order.Basic
import Mathlib.Data.List.Forall2
import DosModel.Model.IntervalProg

set_option exponentiation.threshold 600

namespace Dos.IntervalProg
open Dos Dos.Ed25519 List

/-! ### int64 wrap-around -/

theorem wrap_of_I64 {x : Int} (h : I64 x) : wrap x = x := by
  unfold wrap
  unfold I64 minI64 maxI64 at h
  omega

theorem Expr.eval64_eq (ρ : Env) : ∀ e : Expr, e.Safe ρ → e.evalW wrap ρ = e.evalW id ρ := by
  intro e
  induction e with
  | v i => intro _; rfl
  | c n => intro _; rfl
  | add a b iha ihb =>
    intro h; obtain ⟨h1, h2, h3⟩ := h
    show wrap (a.evalW wrap ρ + b.evalW wrap ρ) = id (a.evalW id ρ + b.evalW id ρ)
    rw [iha h1, ihb h2]; exact wrap_of_I64 h3
  | sub a b iha ihb =>
    intro h; obtain ⟨h1, h2, h3⟩ := h
    show wrap (a.evalW wrap ρ - b.evalW wrap ρ) = id (a.evalW id ρ - b.evalW id ρ)
    rw [iha h1, ihb h2]; exact wrap_of_I64 h3
  | mul a b iha ihb =>
    intro h; obtain ⟨h1, h2, h3⟩ := h
    show wrap (a.evalW wrap ρ * b.evalW wrap ρ) = id (a.evalW id ρ * b.evalW id ρ)
    rw [iha h1, ihb h2]; exact wrap_of_I64 h3
  | shr a k iha =>
    intro h; obtain ⟨h1, _⟩ := h
    show shrI (a.evalW wrap ρ) k = shrI (a.evalW id ρ) k
    rw [iha h1]
  | shl a k iha =>
    intro h; obtain ⟨h1, h3⟩ := h
    show wrap (Ed25519.shl (a.evalW wrap ρ) k) = id (Ed25519.shl (a.evalW id ρ) k)
    rw [iha h1]; exact wrap_of_I64 h3
  | band a b iha ihb =>
    intro h; obtain ⟨h1, h2, h3⟩ := h
    show wrap (Ed25519.band (a.evalW wrap ρ) (b.evalW wrap ρ)) = id (Ed25519.band (a.evalW id ρ) (b.evalW id ρ))
    rw [iha h1, ihb h2]; exact wrap_of_I64 h3
  | bor a b iha ihb =>
    intro h; obtain ⟨h1, h2, h3⟩ := h
    show wrap (Ed25519.bor (a.evalW wrap ρ) (b.evalW wrap ρ)) = id (Ed25519.bor (a.evalW id ρ) (b.evalW id ρ))
    rw [iha h1, ihb h2]; exact wrap_of_I64 h3

theorem evalProg64_eq : ∀ (p : Prog) (ρ : Env), SafeProg ρ p → evalProgW wrap ρ p = evalProgW id ρ p := by
  intro p
  induction p with
  | nil => intro ρ _; rfl
  | cons s p ih =>
    intro ρ h
    obtain ⟨h1, h2⟩ := h
    show evalProgW wrap (ρ.set s.dst (s.rhs.evalW wrap ρ)) p = evalProgW id (ρ.set s.dst (s.rhs.evalW id ρ)) p
    rw [Expr.eval64_eq ρ s.rhs h1]
    exact ih _ h2

/-! ### lists related pointwise -/

theorem forall₂_getD {α β : Type} {R : α → β → Prop} {l₁ : List α} {l₂ : List β} (h : Forall₂ R l₁ l₂)
    {d₁ : α} {d₂ : β} (hd : R d₁ d₂) : ∀ i, R (l₁.getD i d₁) (l₂.getD i d₂) := by
  induction h with
  | nil => intro i; simpa using hd
  | cons hab _ ih =>
    intro i
    cases i with
    | zero => simpa using hab
    | succ i => simpa using ih i

theorem forall₂_set {α β : Type} {R : α → β → Prop} {l₁ : List α} {l₂ : List β} (h : Forall₂ R l₁ l₂)
    {a : α} {b : β} (hab : R a b) : ∀ i, Forall₂ R (l₁.set i a) (l₂.set i b) := by
  induction h with
  | nil => intro i; simp
  | cons hxy hl ih =>
    intro i
    cases i with
    | zero => simpa using Forall₂.cons hab hl
    | succ i => simpa using Forall₂.cons hxy (ih i)

theorem forall₂_replicate {α β : Type} {R : α → β → Prop} {a : α} {b : β} (h : R a b) :
    ∀ n, Forall₂ R (List.replicate n a) (List.replicate n b) := by
  intro n
  induction n with
  | zero => exact Forall₂.nil
  | succ n ih => exact Forall₂.cons h ih

abbrev In (ρ : Env) (A : List Itv) : Prop := Forall₂ Itv.mem ρ A

theorem mem_zero : Itv.mem 0 (0, 0) := ⟨Int.le_refl _, Int.le_refl _⟩

theorem In.getD {ρ : Env} {A : List Itv} (h : In ρ A) (i : Nat) : Itv.mem (ρ.getD i 0) (A.getD i (0, 0)) :=
  forall₂_getD h mem_zero i

theorem In.slice {ρ : Env} {A : List Itv} (h : In ρ A) (off n : Nat) : In (slice off n ρ) (aslice off n A) :=
  forall₂_map_left_iff.2 (forall₂_map_right_iff.2 (forall₂_same.2 fun i _ => h.getD (off + i)))

theorem In.enter {ρ : Env} {A : List Itv} (h : In ρ A) (n m : Nat) : In (enter n m ρ) (aenter n m A) :=
  rel_append (h.slice 0 n) (forall₂_replicate mem_zero m)

/-! ### reading an updated list -/

theorem getD_set_ne {α : Type} (l : List α) (i j : Nat) (a d : α) (h : i ≠ j) :
    (l.set i a).getD j d = l.getD j d := by
  simp [List.getD, List.getElem?_set_ne h]

theorem getD_set_self {α : Type} (l : List α) (i : Nat) (a d : α) (h : i < l.length) :
    (l.set i a).getD i d = a := by
  simp [List.getD, List.getElem?_set_self h]

/-! ### the interval rules -/

theorem chk_some {i j : Itv} (h : chk i = some j) : j = i ∧ minI64 ≤ i.1 ∧ i.2 ≤ maxI64 := by
  unfold chk at h
  split at h
  · rename_i hc; exact ⟨(Option.some.inj h).symm, hc.1, hc.2⟩
  · cases h

theorem I64_of_mem {x : Int} {i : Itv} (hm : Itv.mem x i) (h1 : minI64 ≤ i.1) (h2 : i.2 ≤ maxI64) : I64 x :=
  ⟨Int.le_trans h1 hm.1, Int.le_trans hm.2 h2⟩

theorem mul_le_max (c b y1 y2 : Int) (h1 : y1 ≤ b) (h2 : b ≤ y2) : c * b ≤ max (c * y1) (c * y2) := by
  rcases Int.le_total 0 c with hc | hc
  · exact Int.le_trans (Int.mul_le_mul_of_nonneg_left h2 hc) (Int.le_max_right _ _)
  · exact Int.le_trans (Int.mul_le_mul_of_nonpos_left hc h1) (Int.le_max_left _ _)

theorem min_le_mul (c b y1 y2 : Int) (h1 : y1 ≤ b) (h2 : b ≤ y2) : min (c * y1) (c * y2) ≤ c * b := by
  rcases Int.le_total 0 c with hc | hc
  · exact Int.le_trans (Int.min_le_left _ _) (Int.mul_le_mul_of_nonneg_left h1 hc)
  · exact Int.le_trans (Int.min_le_right _ _) (Int.mul_le_mul_of_nonpos_left hc h2)

/-- the product of two values lies between the smallest and the largest corner product -/
theorem mul_corners (a b x1 x2 y1 y2 : Int) (ha1 : x1 ≤ a) (ha2 : a ≤ x2) (hb1 : y1 ≤ b) (hb2 : b ≤ y2) :
    min (min (x1 * y1) (x1 * y2)) (min (x2 * y1) (x2 * y2)) ≤ a * b
    ∧ a * b ≤ max (max (x1 * y1) (x1 * y2)) (max (x2 * y1) (x2 * y2)) := by
  constructor
  · -- a*b ≥ min (x1*b) (x2*b) ≥ …
    have h1 : min (b * x1) (b * x2) ≤ b * a := min_le_mul b a x1 x2 ha1 ha2
    have h2 : min (x1 * y1) (x1 * y2) ≤ x1 * b := min_le_mul x1 b y1 y2 hb1 hb2
    have h3 : min (x2 * y1) (x2 * y2) ≤ x2 * b := min_le_mul x2 b y1 y2 hb1 hb2
    rw [Int.mul_comm b a, Int.mul_comm b x1, Int.mul_comm b x2] at h1
    have h4 : min (min (x1 * y1) (x1 * y2)) (min (x2 * y1) (x2 * y2)) ≤ min (x1 * b) (x2 * b) :=
      le_min (Int.le_trans (Int.min_le_left _ _) h2) (Int.le_trans (Int.min_le_right _ _) h3)
    exact Int.le_trans h4 h1
  · have h1 : b * a ≤ max (b * x1) (b * x2) := mul_le_max b a x1 x2 ha1 ha2
    have h2 : x1 * b ≤ max (x1 * y1) (x1 * y2) := mul_le_max x1 b y1 y2 hb1 hb2
    have h3 : x2 * b ≤ max (x2 * y1) (x2 * y2) := mul_le_max x2 b y1 y2 hb1 hb2
    rw [Int.mul_comm b a, Int.mul_comm b x1, Int.mul_comm b x2] at h1
    have h4 : max (x1 * b) (x2 * b) ≤ max (max (x1 * y1) (x1 * y2)) (max (x2 * y1) (x2 * y2)) :=
      max_le (Int.le_trans h2 (Int.le_max_left _ _)) (Int.le_trans h3 (Int.le_max_right _ _))
    exact Int.le_trans h1 h4

theorem shrI_mono (a b : Int) (k : Nat) (h : a ≤ b) : shrI a k ≤ shrI b k := by
  have e : ∀ x : Int, shrI x k = x / 2 ^ k := fun x => Int.shiftRight_eq_div_pow x k
  rw [e, e]
  exact Int.ediv_le_ediv (Int.pow_pos (by decide) : (0 : Int) < 2 ^ k) h

theorem shl_mono (a b : Int) (k : Nat) (h : a ≤ b) : Ed25519.shl a k ≤ Ed25519.shl b k := by
  unfold Ed25519.shl
  exact Int.mul_le_mul_of_nonneg_right h (Int.le_of_lt (Int.pow_pos (by decide)))

theorem u64_nonneg (x : Int) (h0 : 0 ≤ x) (h : x ≤ maxI64) : u64 x = x.toNat := by
  unfold u64
  unfold maxI64 at h
  rw [Int.emod_eq_of_lt h0 (by omega)]

theorem band_bounds (a b : Int) (ha0 : 0 ≤ a) (ha : a ≤ maxI64) (hb0 : 0 ≤ b) (hb : b ≤ maxI64) :
    0 ≤ Ed25519.band a b ∧ Ed25519.band a b ≤ a ∧ Ed25519.band a b ≤ b := by
  unfold Ed25519.band
  rw [u64_nonneg a ha0 ha, u64_nonneg b hb0 hb]
  obtain ⟨m, rfl⟩ := Int.eq_ofNat_of_zero_le ha0
  obtain ⟨n, rfl⟩ := Int.eq_ofNat_of_zero_le hb0
  simp only [Int.toNat_natCast, Int.ofNat_eq_natCast]
  refine ⟨Int.natCast_nonneg _, ?_, ?_⟩
  · exact_mod_cast Nat.and_le_left
  · exact_mod_cast Nat.and_le_right

theorem bor_bounds (a b m : Int) (ha0 : 0 ≤ a) (ha : a ≤ maxI64) (hb0 : 0 ≤ b) (hb : b ≤ maxI64)
    (ham : a ≤ m) (hbm : b ≤ m) : 0 ≤ Ed25519.bor a b ∧ Ed25519.bor a b ≤ 2 ^ bitlen m - 1 := by
  unfold Ed25519.bor
  rw [u64_nonneg a ha0 ha, u64_nonneg b hb0 hb]
  obtain ⟨x, rfl⟩ := Int.eq_ofNat_of_zero_le ha0
  obtain ⟨y, rfl⟩ := Int.eq_ofNat_of_zero_le hb0
  have hm0 : 0 ≤ m := Int.le_trans ha0 ham
  obtain ⟨z, rfl⟩ := Int.eq_ofNat_of_zero_le hm0
  simp only [Int.toNat_natCast, Int.ofNat_eq_natCast, bitlen]
  refine ⟨Int.natCast_nonneg _, ?_⟩
  have hx : x ≤ z := by exact_mod_cast ham
  have hy : y ≤ z := by exact_mod_cast hbm
  have hz : z < 2 ^ (z.log2 + 1) := Nat.lt_log2_self
  have h := Nat.or_lt_two_pow (Nat.lt_of_le_of_lt hx hz) (Nat.lt_of_le_of_lt hy hz)
  have h' : ((x ||| y : Nat) : Int) < ((2 ^ (z.log2 + 1) : Nat) : Int) := by exact_mod_cast h
  rw [Nat.cast_pow] at h'
  have : ((2 : Nat) : Int) = 2 := rfl
  rw [this] at h'
  omega

/-- `match2_some`, `match1_some`: what an equation `… = some r` gives for the `match` on sub-results in `absExpr` -/
theorem match2_some {α : Type} {oa ob : Option Itv} {f : Itv → Itv → Option α} {r : α}
    (h : (match oa, ob with | some x, some y => f x y | _, _ => none) = some r) :
    ∃ x y, oa = some x ∧ ob = some y ∧ f x y = some r := by
  cases oa <;> cases ob <;> simp at h
  exact ⟨_, _, rfl, rfl, h⟩

theorem match1_some {α : Type} {oa : Option Itv} {f : Itv → Option α} {r : α}
    (h : (match oa with | some x => f x | none => none) = some r) : ∃ x, oa = some x ∧ f x = some r := by
  cases oa <;> simp at h
  exact ⟨_, rfl, h⟩

/-- a value in an interval that passes `chk` is an int64 -/
theorem mem_of_chk {v : Int} {j i : Itv} (hi : chk j = some i) (hm : Itv.mem v j) :
    I64 v ∧ Itv.mem v i ∧ minI64 ≤ i.1 ∧ i.2 ≤ maxI64 := by
  obtain ⟨rfl, h1, h2⟩ := chk_some hi
  exact ⟨I64_of_mem hm h1 h2, hm, h1, h2⟩

theorem absExpr_sound {ρ : Env} {A : List Itv} (h : In ρ A) :
    ∀ (e : Expr) (i : Itv), absExpr A e = some i →
      e.Safe ρ ∧ Itv.mem (e.eval ρ) i ∧ minI64 ≤ i.1 ∧ i.2 ≤ maxI64 := by
  intro e
  induction e with
  | v n => intro i hi; exact mem_of_chk hi (h.getD n)
  | c n => intro i hi; exact mem_of_chk hi ⟨Int.le_refl _, Int.le_refl _⟩
  | add a b iha ihb =>
    intro i hi
    obtain ⟨x, y, hxa, hxb, hi⟩ := match2_some hi
    obtain ⟨sa, ma, _, _⟩ := iha x hxa
    obtain ⟨sb, mb, _, _⟩ := ihb y hxb
    obtain ⟨s, r⟩ := mem_of_chk hi (v := a.eval ρ + b.eval ρ) ⟨Int.add_le_add ma.1 mb.1, Int.add_le_add ma.2 mb.2⟩
    exact ⟨⟨sa, sb, s⟩, r⟩
  | sub a b iha ihb =>
    intro i hi
    obtain ⟨x, y, hxa, hxb, hi⟩ := match2_some hi
    obtain ⟨sa, ma, _, _⟩ := iha x hxa
    obtain ⟨sb, mb, _, _⟩ := ihb y hxb
    obtain ⟨s, r⟩ := mem_of_chk hi (v := a.eval ρ - b.eval ρ) ⟨Int.sub_le_sub ma.1 mb.2, Int.sub_le_sub ma.2 mb.1⟩
    exact ⟨⟨sa, sb, s⟩, r⟩
  | mul a b iha ihb =>
    intro i hi
    obtain ⟨x, y, hxa, hxb, hi⟩ := match2_some hi
    obtain ⟨sa, ma, _, _⟩ := iha x hxa
    obtain ⟨sb, mb, _, _⟩ := ihb y hxb
    obtain ⟨s, r⟩ := mem_of_chk hi (mul_corners (a.eval ρ) (b.eval ρ) x.1 x.2 y.1 y.2 ma.1 ma.2 mb.1 mb.2)
    exact ⟨⟨sa, sb, s⟩, r⟩
  | shr a k iha =>
    intro i hi
    obtain ⟨x, hxa, hi⟩ := match1_some hi
    obtain ⟨sa, ma, _, _⟩ := iha x hxa
    obtain ⟨s, r⟩ := mem_of_chk hi (v := shrI (a.eval ρ) k) ⟨shrI_mono _ _ k ma.1, shrI_mono _ _ k ma.2⟩
    exact ⟨⟨sa, s⟩, r⟩
  | shl a k iha =>
    intro i hi
    obtain ⟨x, hxa, hi⟩ := match1_some hi
    obtain ⟨sa, ma, _, _⟩ := iha x hxa
    obtain ⟨s, r⟩ := mem_of_chk hi (v := Ed25519.shl (a.eval ρ) k) ⟨shl_mono _ _ k ma.1, shl_mono _ _ k ma.2⟩
    exact ⟨⟨sa, s⟩, r⟩
  | band a b iha ihb =>
    intro i hi
    obtain ⟨x, y, hxa, hxb, hi⟩ := match2_some hi
    split at hi
    · rename_i hc
      obtain ⟨sa, ma, _, xa2⟩ := iha x hxa
      obtain ⟨sb, mb, _, yb2⟩ := ihb y hxb
      obtain ⟨g0, g1, g2⟩ := band_bounds (a.eval ρ) (b.eval ρ) (Int.le_trans hc.1 ma.1) (Int.le_trans ma.2 xa2)
        (Int.le_trans hc.2 mb.1) (Int.le_trans mb.2 yb2)
      obtain ⟨s, r⟩ := mem_of_chk hi (v := Ed25519.band (a.eval ρ) (b.eval ρ))
        ⟨g0, le_min (Int.le_trans g1 ma.2) (Int.le_trans g2 mb.2)⟩
      exact ⟨⟨sa, sb, s⟩, r⟩
    · cases hi
  | bor a b iha ihb =>
    intro i hi
    obtain ⟨x, y, hxa, hxb, hi⟩ := match2_some hi
    split at hi
    · rename_i hc
      obtain ⟨sa, ma, _, xa2⟩ := iha x hxa
      obtain ⟨sb, mb, _, yb2⟩ := ihb y hxb
      obtain ⟨s, r⟩ := mem_of_chk hi (bor_bounds (a.eval ρ) (b.eval ρ) (max x.2 y.2) (Int.le_trans hc.1 ma.1)
        (Int.le_trans ma.2 xa2) (Int.le_trans hc.2 mb.1) (Int.le_trans mb.2 yb2)
        (Int.le_trans ma.2 (Int.le_max_left _ _)) (Int.le_trans mb.2 (Int.le_max_right _ _)))
      exact ⟨⟨sa, sb, s⟩, r⟩
    · cases hi

/-! ### the carry fact -/

theorem constVal_sound {e : Expr} {n : Int} (h : constVal e = some n) (ρ : Env) : e.eval ρ = n := by
  unfold constVal at h
  split at h
  · exact Option.some.inj h
  · exact Option.some.inj h
  · cases h

theorem newFact_sound {dst : Nat} {e : Expr} {f : Fact} (h : newFact dst e = some f) :
    f.cv = dst ∧ f.sv ≠ dst ∧ ∀ ρ : Env, e.eval ρ = shrI (ρ.getD f.sv 0 + f.off) f.k := by
  unfold newFact at h
  split at h
  · rename_i x k
    split at h
    · cases h
    · rename_i hne
      cases Option.some.inj h
      refine ⟨rfl, hne, fun ρ => ?_⟩
      show shrI (ρ.getD x 0) k = shrI (ρ.getD x 0 + 0) k
      rw [Int.add_zero]
  · rename_i x e' k
    split at h
    · rename_i off hoff
      split at h
      · cases h
      · rename_i hne
        cases Option.some.inj h
        refine ⟨rfl, hne, fun ρ => ?_⟩
        show shrI (id (ρ.getD x 0 + e'.evalW id ρ)) k = shrI (ρ.getD x 0 + off) k
        have := constVal_sound hoff ρ
        simp only [Expr.eval] at this
        rw [this]; rfl
    · cases h
  · cases h

/-- `s - ((s + off) >> k << k) = (s + off) mod 2^k - off` -/
theorem sub_carry_bounds (s off : Int) (k : Nat) :
    -off ≤ s - Ed25519.shl (shrI (s + off) k) k ∧ s - Ed25519.shl (shrI (s + off) k) k ≤ 2 ^ k - 1 - off := by
  have e : shrI (s + off) k = (s + off) / 2 ^ k := Int.shiftRight_eq_div_pow _ k
  rw [e]
  unfold Ed25519.shl
  have hp : (0 : Int) < 2 ^ k := Int.pow_pos (by decide)
  have h1 := Int.emod_nonneg (s + off) (Int.ne_of_gt hp)
  have h2 := Int.emod_lt_of_pos (s + off) hp
  have h3 := Int.emod_def (s + off) (2 ^ k)
  rw [Int.mul_comm] at h3
  generalize (s + off) / 2 ^ k * 2 ^ k = q at *
  generalize (s + off) % 2 ^ k = r at *
  generalize (2 : Int) ^ k = m at *
  omega

theorem refine_sound {ρ : Env} {fact : Option Fact} (hf : ∀ f, fact = some f → f.holds ρ)
    (e : Expr) (i : Itv) (hm : Itv.mem (e.eval ρ) i) : Itv.mem (e.eval ρ) (refine fact e i) := by
  unfold refine
  split
  · rename_i f x y k
    split
    · rename_i hc
      obtain ⟨rfl, rfl, rfl⟩ := hc
      have hh : ρ.getD f.cv 0 = shrI (ρ.getD f.sv 0 + f.off) f.k := hf f rfl
      have hv : (Expr.sub (.v f.sv) (.shl (.v f.cv) f.k)).eval ρ
          = ρ.getD f.sv 0 - Ed25519.shl (shrI (ρ.getD f.sv 0 + f.off) f.k) f.k := by
        show id (ρ.getD f.sv 0 - id (Ed25519.shl (ρ.getD f.cv 0) f.k)) = _
        rw [hh]; rfl
      have hb := sub_carry_bounds (ρ.getD f.sv 0) f.off f.k
      rw [← hv] at hb
      exact ⟨max_le hm.1 hb.1, le_min hm.2 hb.2⟩
    · exact hm
  · exact hm

def Sound (ρ : Env) (σ : AState) : Prop := In ρ σ.itv ∧ ∀ f, σ.fact = some f → f.holds ρ

theorem stepFact_sound {ρ : Env} {fact : Option Fact} (hf : ∀ f, fact = some f → f.holds ρ)
    (s : Stmt) (hd : s.dst < ρ.length) :
    ∀ f, stepFact fact s = some f → f.holds (ρ.set s.dst (s.rhs.eval ρ)) := by
  intro f hs
  unfold stepFact at hs
  split at hs
  · rename_i g hg
    cases Option.some.inj hs
    obtain ⟨h1, h2, h3⟩ := newFact_sound hg
    unfold Fact.holds
    rw [h1, getD_set_self _ _ _ _ hd, getD_set_ne _ _ _ _ _ (Ne.symm h2)]
    exact h3 ρ
  · split at hs
    · rename_i g
      split at hs
      · cases hs
      · rename_i hne
        cases Option.some.inj hs
        have hg := hf f rfl
        unfold Fact.holds at *
        have n1 : s.dst ≠ f.cv := fun h => hne (Or.inl h)
        have n2 : s.dst ≠ f.sv := fun h => hne (Or.inr h)
        rw [getD_set_ne _ _ _ _ _ n1, getD_set_ne _ _ _ _ _ n2]
        exact hg
    · cases hs

theorem absStmt_sound {ρ : Env} {σ σ' : AState} (h : Sound ρ σ) (s : Stmt) (hs : absStmt σ s = some σ') :
    s.rhs.Safe ρ ∧ Sound (ρ.set s.dst (s.rhs.eval ρ)) σ' := by
  unfold absStmt at hs
  split at hs
  · rename_i hlt
    split at hs
    · rename_i i hi
      cases Option.some.inj hs
      obtain ⟨hsafe, hm, _, _⟩ := absExpr_sound h.1 s.rhs i hi
      have hlen : s.dst < ρ.length := by rw [h.1.length_eq]; exact hlt
      exact ⟨hsafe, forall₂_set h.1 (refine_sound h.2 s.rhs i hm) s.dst, stepFact_sound h.2 s hlen⟩
    · cases hs
  · cases hs

theorem absProg_sound : ∀ (p : Prog) {ρ : Env} {σ σ' : AState}, Sound ρ σ → absProg σ p = some σ' →
    SafeProg ρ p ∧ Sound (evalProg ρ p) σ' := by
  intro p
  induction p with
  | nil =>
    intro ρ σ σ' h hp
    cases Option.some.inj hp
    exact ⟨trivial, h⟩
  | cons s p ih =>
    intro ρ σ σ' h hp
    simp only [absProg] at hp
    cases hs : absStmt σ s with
    | none => simp [hs] at hp
    | some σ₁ =>
      simp only [hs] at hp
      obtain ⟨h1, h2⟩ := absStmt_sound h s hs
      obtain ⟨h3, h4⟩ := ih h2 hp
      exact ⟨⟨h1, h3⟩, h4⟩

theorem sound_init {ρ : Env} {A : List Itv} (h : In ρ A) : Sound ρ ⟨A, none⟩ :=
  ⟨h, fun _ hf => by cases hf⟩

/-! ### phases -/

open ScProg

theorem absBlock_sound {nC : Nat} {b : Prog} {ρ : Env} {A A' : List Itv} (h : In ρ A)
    (hb : absBlock nC b A = some A') : SafeProg (enter 24 nC ρ) b ∧ In (blockW id nC b ρ) A' := by
  unfold absBlock at hb
  split at hb
  · rename_i σ hσ
    cases Option.some.inj hb
    obtain ⟨h1, h2⟩ := absProg_sound b (sound_init (h.enter 24 nC)) hσ
    exact ⟨h1, h2.1⟩
  · cases hb

theorem absBlocks_sound {nC : Nat} : ∀ (bs : List Prog) {ρ : Env} {A A' : List Itv}, In ρ A →
    absBlocks nC bs A = some A' → SafeBlocks nC bs ρ ∧ In (blocksW id nC bs ρ) A' := by
  intro bs
  induction bs with
  | nil =>
    intro ρ A A' h hb
    cases Option.some.inj hb
    exact ⟨trivial, h⟩
  | cons b bs ih =>
    intro ρ A A' h hb
    simp only [absBlocks] at hb
    cases h1 : absBlock nC b A with
    | none => simp [h1] at hb
    | some A₁ =>
      simp only [h1] at hb
      obtain ⟨s1, i1⟩ := absBlock_sound h h1
      obtain ⟨s2, i2⟩ := ih i1 hb
      exact ⟨⟨s1, s2⟩, i2⟩

theorem blocksW_append (w : Int → Int) (nC : Nat) (bs cs : List Prog) (ρ : Env) :
    blocksW w nC (bs ++ cs) ρ = blocksW w nC cs (blocksW w nC bs ρ) := by
  simp [blocksW, List.foldl_append]

theorem safeBlocks_append {nC : Nat} : ∀ (bs cs : List Prog) (ρ : Env),
    SafeBlocks nC (bs ++ cs) ρ ↔ SafeBlocks nC bs ρ ∧ SafeBlocks nC cs (blocksW id nC bs ρ) := by
  intro bs
  induction bs with
  | nil => intro cs ρ; simp [SafeBlocks, blocksW]
  | cons b bs ih =>
    intro cs ρ
    simp only [List.cons_append, SafeBlocks, ih, and_assoc]
    rfl

theorem absInit_sound {p : ScProg} {lv : Env} {L I : List Itv} (h : In lv L) (hi : absInit p L = some I) :
    SafeProg (enter p.nLoad p.nInit lv) p.init ∧ In (initW id p lv) I := by
  unfold absInit at hi
  split at hi
  · rename_i σ hσ
    cases Option.some.inj hi
    obtain ⟨h1, h2⟩ := absProg_sound p.init (sound_init (h.enter p.nLoad p.nInit)) hσ
    exact ⟨h1, forall₂_map_left_iff.2 (forall₂_map_right_iff.2 (forall₂_same.2 fun j _ => h2.1.getD j))⟩
  · cases hi

theorem absLoad_sound {p : ScProg} {raws : Env} {R L : List Itv} (h : In raws R) (hl : absLoad p R = some L) :
    SafeProg (enter p.raw.length p.nLoad raws) p.loads ∧ In (loadW id p raws) L := by
  unfold absLoad at hl
  split at hl
  · rename_i σ hσ
    cases Option.some.inj hl
    obtain ⟨h1, h2⟩ := absProg_sound p.loads (sound_init (h.enter p.raw.length p.nLoad)) hσ
    exact ⟨h1, h2.1.slice _ _⟩
  · cases hl

theorem absStore_sound {p : ScProg} {ρ : Env} {A : List Itv} (h : In ρ A) (hs : absStore p A = true) :
    ∀ e ∈ p.store, e.Safe (slice 0 24 ρ) := by
  intro e he
  unfold absStore at hs
  rw [List.all_eq_true] at hs
  have := hs e he
  cases hx : absExpr (aslice 0 24 A) e with
  | none => simp [hx] at this
  | some i => exact (absExpr_sound (h.slice 0 24) e i hx).1

/-- `absLimbs`: from intervals of the load variables to intervals of the final limbs, init and blocks overflow-free -/
theorem absLimbs_sound {p : ScProg} {lv : Env} {L F : List Itv} (h : In lv L) (hl : absLimbs p L = some F) :
    SafeProg (enter p.nLoad p.nInit lv) p.init ∧ SafeBlocks p.nCarry p.blocks (initW id p lv)
    ∧ In (limbsW id p lv) F := by
  unfold absLimbs at hl
  split at hl
  · rename_i I hI
    obtain ⟨s1, i1⟩ := absInit_sound h hI
    obtain ⟨s2, i2⟩ := absBlocks_sound p.blocks i1 hl
    exact ⟨s1, s2, i2⟩
  · cases hl

/-! ### raw loads -/

theorem load3_bounds (b : Bytes) (h : 3 ≤ b.length) : Itv.mem (load3 b) (0, 16777215) := by
  rcases b with _ | ⟨b0, _ | ⟨b1, _ | ⟨b2, t⟩⟩⟩
  · simp at h
  · simp at h
  · simp at h
  · have h0 := b0.toNat_lt
    have h1 := b1.toNat_lt
    have h2 := b2.toNat_lt
    simp only [load3, Itv.mem, Int.ofNat_eq_natCast]
    omega

theorem load4_bounds (b : Bytes) (h : 4 ≤ b.length) : Itv.mem (load4 b) (0, 4294967295) := by
  rcases b with _ | ⟨b0, _ | ⟨b1, _ | ⟨b2, _ | ⟨b3, t⟩⟩⟩⟩
  · simp at h
  · simp at h
  · simp at h
  · simp at h
  · have h0 := b0.toNat_lt
    have h1 := b1.toNat_lt
    have h2 := b2.toNat_lt
    have h3 := b3.toNat_lt
    simp only [load4, Itv.mem, Int.ofNat_eq_natCast]
    omega

theorem rawItv_sound (arrs : List Bytes) (r : Nat × Nat × Nat) (i : Itv)
    (h : rawItv (arrs.map List.length) r = some i) : Itv.mem (rawVal arrs r) i := by
  have hlen : (arrs.map List.length).getD r.2.1 0 = (arrs.getD r.2.1 []).length := by
    simp [List.getD, List.getElem?_map]
    cases arrs[r.2.1]? <;> simp
  unfold rawItv at h
  rw [hlen] at h
  unfold rawVal
  split at h
  · rename_i hc
    cases Option.some.inj h
    rw [if_pos hc.1]
    apply load3_bounds
    simp only [sl, List.length_drop]
    omega
  · split at h
    · rename_i hn hc
      cases Option.some.inj h
      have : ¬ r.1 = 3 := by omega
      rw [if_neg this]
      apply load4_bounds
      simp only [sl, List.length_drop]
      omega
    · cases h

theorem rawItvs_sound (arrs : List Bytes) : ∀ (rs : List (Nat × Nat × Nat)) (R : List Itv),
    rawItvs (arrs.map List.length) rs = some R → In (rs.map (rawVal arrs)) R := by
  intro rs
  induction rs with
  | nil =>
    intro R h
    cases Option.some.inj h
    exact Forall₂.nil
  | cons r rs ih =>
    intro R h
    simp only [rawItvs] at h
    cases h1 : rawItv (arrs.map List.length) r with
    | none => simp [h1] at h
    | some i =>
      cases h2 : rawItvs (arrs.map List.length) rs with
      | none => simp [h1, h2] at h
      | some is =>
        simp only [h1, h2] at h
        cases Option.some.inj h
        exact Forall₂.cons (rawItv_sound arrs r i h1) (ih is h2)

theorem absLoadsOf_sound {p : ScProg} (arrs : List Bytes) {L : List Itv}
    (h : absLoadsOf p (arrs.map List.length) = some L) :
    SafeProg (enter p.raw.length p.nLoad (p.rawVals arrs)) p.loads ∧ In (loadW id p (p.rawVals arrs)) L := by
  unfold absLoadsOf at h
  split at h
  · rename_i R hR
    exact absLoad_sound (rawItvs_sound arrs p.raw R hR) h
  · cases h

/-! ### the wrapping semantics of the phases -/

theorem blocksW_wrap_eq {nC : Nat} : ∀ (bs : List Prog) (ρ : Env), SafeBlocks nC bs ρ →
    blocksW wrap nC bs ρ = blocksW id nC bs ρ := by
  intro bs
  induction bs with
  | nil => intro ρ _; rfl
  | cons b bs ih =>
    intro ρ h
    obtain ⟨h1, h2⟩ := h
    show blocksW wrap nC bs (blockW wrap nC b ρ) = blocksW id nC bs (blockW id nC b ρ)
    have e : blockW wrap nC b ρ = blockW id nC b ρ := evalProg64_eq b _ h1
    rw [e]
    exact ih _ h2

theorem limbsW_wrap_eq {p : ScProg} {lv : Env} (h : p.SafeLimbs lv) : limbsW wrap p lv = limbsW id p lv := by
  obtain ⟨h1, h2, _⟩ := h
  unfold limbsW
  have e : initW wrap p lv = initW id p lv := by
    unfold initW
    rw [evalProg64_eq p.init _ h1]
  rw [e]
  exact blocksW_wrap_eq _ _ h2

theorem storeW_wrap_eq {p : ScProg} {ρ : Env} (h : ∀ e ∈ p.store, e.Safe (slice 0 24 ρ)) :
    storeW wrap p ρ = storeW id p ρ := by
  unfold storeW
  apply List.map_congr_left
  intro e he
  rw [Expr.eval64_eq _ e (h e he)]

/-- **no overflow ⇒ Go's wrapping int64 run is the unbounded-`Int` run**, on byte arrays -/
theorem runW_wrap_eq {p : ScProg} {arrs : List Bytes} (h : p.SafeFrom (p.rawVals arrs)) :
    p.runW wrap arrs = p.runW id arrs := by
  obtain ⟨h1, h2, h3, h4⟩ := h
  unfold runW
  have e : loadW wrap p (p.rawVals arrs) = loadW id p (p.rawVals arrs) := by
    unfold loadW
    rw [evalProg64_eq p.loads _ h1]
  rw [e, limbsW_wrap_eq ⟨h2, h3, h4⟩, storeW_wrap_eq h4]

end Dos.IntervalProg
