/-
C20 — the twisted Edwards curve with a = −1 over an arbitrary field K:

      −x² + y² = 1 + d x² y²,        d a non-square, −1 a square (i² = −1), 2 ≠ 0.

This file: the complete addition law

      x3 = (x1 y2 + y1 x2) / (1 + d x1 x2 y1 y2),   y3 = (y1 y2 + x1 x2) / (1 − d x1 x2 y1 y2)

is total on curve points (`denom_ne_zero`: the denominators never vanish, because d is not a
square), closed (`add_closed`), commutative, has the identity (0, 1) and inverses (−x, y); y determines x up to sign
(`sq_x_of_y`).
`addCommGroup E h` packages these with an associativity hypothesis `h : AssocLaw E` into an
`AddCommGroup (Point E)` whose `+`, `0`, `-` are definitionally the instances defined here.
Associativity itself is proved in `EdwardsAssoc.lean`, from the lemmas of this file.

Pure mathematics; nothing here is specific to 2^255 − 19.
-/
import Mathlib.Tactic.Ring
import Mathlib.Tactic.FieldSimp
import Mathlib.Tactic.LinearCombination
import Mathlib.Algebra.Field.Basic
import Mathlib.Algebra.Group.Even

namespace Dos.Edwards

variable {K : Type*} [Field K]

def OnCurve (d x y : K) : Prop := -x^2 + y^2 = 1 + d * x^2 * y^2

/-- curve parameters: d is not a square, −1 is a square (i² = −1), and 2 ≠ 0 -/
structure Params (K : Type*) [Field K] where
  d : K
  i : K
  i_sq : i ^ 2 = -1
  d_nonsq : ¬ IsSquare d
  two_ne : (2 : K) ≠ 0

/-- The core of completeness: if d·x1·x2·y1·y2 = ε with ε² = 1 and i·x2 + y2 ≠ 0, then d is a
square (d · (x1 y1 (i x2 + y2))² = (i x1 + ε y1)²). -/
private theorem isSquare_of_eps {d i x1 y1 x2 y2 ε : K} (hi : i ^ 2 = -1)
    (h1 : OnCurve d x1 y1) (h2 : OnCurve d x2 y2) (hε : ε ^ 2 = 1)
    (h : d * x1 * x2 * y1 * y2 = ε) (hne : i * x2 + y2 ≠ 0) : IsSquare d := by
  unfold OnCurve at h1 h2
  have hε0 : ε ≠ 0 := by
    intro h0; rw [h0] at hε; simp at hε
  have hx1 : x1 ≠ 0 := by
    intro h0; apply hε0; rw [← h, h0]; ring
  have hy1 : y1 ≠ 0 := by
    intro h0; apply hε0; rw [← h, h0]; ring
  have key : (i * x1 + ε * y1) ^ 2 = d * (x1 * y1 * (i * x2 + y2)) ^ 2 := by
    linear_combination (x1 ^ 2 - d * x1 ^ 2 * y1 ^ 2 * x2 ^ 2) * hi + (y1 ^ 2 - 1) * hε + h1
      - d * x1 ^ 2 * y1 ^ 2 * h2 + (-(d * x1 * x2 * y1 * y2 + ε) - 2 * i * x1 * y1) * h
  have hw : x1 * y1 * (i * x2 + y2) ≠ 0 := mul_ne_zero (mul_ne_zero hx1 hy1) hne
  refine ⟨(i * x1 + ε * y1) / (x1 * y1 * (i * x2 + y2)), ?_⟩
  field_simp
  linear_combination -key

private theorem eps_false {d i x1 y1 x2 y2 ε : K} (hi : i ^ 2 = -1) (hd : ¬ IsSquare d)
    (h2ne : (2 : K) ≠ 0)
    (h1 : OnCurve d x1 y1) (h2 : OnCurve d x2 y2) (hε : ε ^ 2 = 1)
    (h : d * x1 * x2 * y1 * y2 = ε) : False := by
  by_cases hp : i * x2 + y2 = 0
  · by_cases hm : i * x2 + -y2 = 0
    · -- then 2·y2 = 0, so y2 = 0 and ε = 0
      have hy2 : y2 = 0 := by
        have : (2 : K) * y2 = 0 := by linear_combination hp - hm
        rcases mul_eq_zero.mp this with h' | h'
        · exact absurd h' h2ne
        · exact h'
      have : ε = 0 := by rw [← h, hy2]; ring
      rw [this] at hε; simp at hε
    · have h2' : OnCurve d x2 (-y2) := by
        unfold OnCurve at h2 ⊢; linear_combination h2
      exact hd (isSquare_of_eps (ε := -ε) hi h1 h2' (by linear_combination hε)
        (by linear_combination -h) hm)
  · exact hd (isSquare_of_eps hi h1 h2 hε h hp)

/-- Completeness: the two denominators of the addition law never vanish on curve points. -/
theorem denom_ne_zero (E : Params K) {x1 y1 x2 y2 : K} (h1 : OnCurve E.d x1 y1)
    (h2 : OnCurve E.d x2 y2) :
    1 + E.d * x1 * x2 * y1 * y2 ≠ 0 ∧ 1 - E.d * x1 * x2 * y1 * y2 ≠ 0 := by
  constructor
  · intro h
    exact eps_false (ε := -1) E.i_sq E.d_nonsq E.two_ne h1 h2 (by ring) (by linear_combination h)
  · intro h
    exact eps_false (ε := 1) E.i_sq E.d_nonsq E.two_ne h1 h2 (by ring) (by linear_combination -h)

/-- d ≠ 0 (0 is a square). -/
theorem Params.d_ne_zero (E : Params K) : E.d ≠ 0 := by
  intro h; exact E.d_nonsq ⟨0, by rw [h]; ring⟩

/-- The closure identity with denominators cleared. -/
theorem add_closed_poly {d x1 y1 x2 y2 : K} (h1 : OnCurve d x1 y1) (h2 : OnCurve d x2 y2) :
    -(x1 * y2 + y1 * x2) ^ 2 * (1 - d * x1 * x2 * y1 * y2) ^ 2
      + (y1 * y2 + x1 * x2) ^ 2 * (1 + d * x1 * x2 * y1 * y2) ^ 2
    = (1 + d * x1 * x2 * y1 * y2) ^ 2 * (1 - d * x1 * x2 * y1 * y2) ^ 2
      + d * (x1 * y2 + y1 * x2) ^ 2 * (y1 * y2 + x1 * x2) ^ 2 := by
  unfold OnCurve at h1 h2
  linear_combination
    (y2^4 - 4*x2^2*y2^2 + 2*x2^2*y2^4 + x2^4 - 2*x2^4*y2^2 - 2*d*x2^2*y2^2 - 2*d*x2^4*y2^4
      - d*y1^2*x2^2*y2^4 + d*y1^2*x2^4*y2^2 + d*x1^2*x2^2*y2^4 - d*x1^2*x2^4*y2^2
      - d^2*x2^4*y2^4 + d^2*y1^2*x2^4*y2^4 - d^2*x1^2*x2^4*y2^4
      + d^3*x1^2*y1^2*x2^4*y2^4) * h1
    + (1 + y2^2 - x2^2 + 2*x2^2*y2^2 - y1^2*y2^2 + y1^2*x2^2 - 2*y1^2*x2^2*y2^2 + x1^2*y2^2
      - x1^2*x2^2 + 2*x1^2*x2^2*y2^2 + d*x2^2*y2^2 - 2*d*y1^2*x2^2*y2^2 + d*y1^4*x2^2*y2^2
      + 2*d*x1^2*x2^2*y2^2 + d*x1^4*x2^2*y2^2) * h2

theorem add_closed (E : Params K) {x1 y1 x2 y2 : K} (h1 : OnCurve E.d x1 y1)
    (h2 : OnCurve E.d x2 y2) :
    OnCurve E.d ((x1 * y2 + y1 * x2) / (1 + E.d * x1 * x2 * y1 * y2))
      ((y1 * y2 + x1 * x2) / (1 - E.d * x1 * x2 * y1 * y2)) := by
  obtain ⟨hp, hm⟩ := denom_ne_zero E h1 h2
  have key := add_closed_poly h1 h2
  unfold OnCurve
  generalize 1 + E.d * x1 * x2 * y1 * y2 = p at hp key ⊢
  generalize 1 - E.d * x1 * x2 * y1 * y2 = m at hm key ⊢
  field_simp
  linear_combination key

theorem zero_onCurve (d : K) : OnCurve d 0 1 := by unfold OnCurve; ring

theorem neg_onCurve {d x y : K} (h : OnCurve d x y) : OnCurve d (-x) y := by
  unfold OnCurve at h ⊢; linear_combination h

@[ext] structure Point (E : Params K) where
  x : K
  y : K
  on : OnCurve E.d x y

variable {E : Params K}

instance : Zero (Point E) := ⟨⟨0, 1, zero_onCurve E.d⟩⟩

instance : Neg (Point E) := ⟨fun P => ⟨-P.x, P.y, neg_onCurve P.on⟩⟩

instance : Add (Point E) :=
  ⟨fun P Q => ⟨(P.x * Q.y + P.y * Q.x) / (1 + E.d * P.x * Q.x * P.y * Q.y),
    (P.y * Q.y + P.x * Q.x) / (1 - E.d * P.x * Q.x * P.y * Q.y), add_closed E P.on Q.on⟩⟩

@[simp] theorem zero_x : (0 : Point E).x = 0 := rfl
@[simp] theorem zero_y : (0 : Point E).y = 1 := rfl
@[simp] theorem neg_x (P : Point E) : (-P).x = -P.x := rfl
@[simp] theorem neg_y (P : Point E) : (-P).y = P.y := rfl
@[simp] theorem add_x (P Q : Point E) :
    (P + Q).x = (P.x * Q.y + P.y * Q.x) / (1 + E.d * P.x * Q.x * P.y * Q.y) := rfl
@[simp] theorem add_y (P Q : Point E) :
    (P + Q).y = (P.y * Q.y + P.x * Q.x) / (1 - E.d * P.x * Q.x * P.y * Q.y) := rfl

theorem Point.denom_ne_zero (P Q : Point E) :
    1 + E.d * P.x * Q.x * P.y * Q.y ≠ 0 ∧ 1 - E.d * P.x * Q.x * P.y * Q.y ≠ 0 :=
  Dos.Edwards.denom_ne_zero E P.on Q.on

theorem add_comm' (P Q : Point E) : P + Q = Q + P := by
  ext
  · simp only [add_x]; congr 1 <;> ring
  · simp only [add_y]; congr 1 <;> ring

theorem zero_add' (P : Point E) : 0 + P = P := by
  ext <;> simp

theorem add_zero' (P : Point E) : P + 0 = P := by
  ext <;> simp

theorem neg_add_cancel' (P : Point E) : -P + P = 0 := by
  obtain ⟨hp, hm⟩ := Point.denom_ne_zero (-P) P
  have hon := P.on
  unfold OnCurve at hon
  ext
  · simp only [add_x, neg_x, neg_y, zero_x]
    rw [div_eq_zero_iff]; left; ring
  · simp only [add_y, neg_x, neg_y, zero_y] at hm ⊢
    rw [div_eq_one_iff_eq hm]
    linear_combination hon

theorem add_neg_cancel' (P : Point E) : P + -P = 0 := by
  rw [add_comm', neg_add_cancel']

/-- v = d y² + 1 never vanishes (d y² = −1 would make d = (i / y)² a square) -/
theorem Params.v_ne (E : Params K) (y : K) : E.d * y ^ 2 + 1 ≠ 0 := by
  intro h0
  have hy0 : y ≠ 0 := by
    intro hz; rw [hz] at h0; simp at h0
  apply E.d_nonsq
  refine ⟨E.i / y, ?_⟩
  have hi := E.i_sq
  rw [div_mul_div_comm, eq_div_iff (mul_ne_zero hy0 hy0)]
  linear_combination h0 - hi

/-- the curve equation solved for x² -/
theorem onCurve_iff (d x y : K) : OnCurve d x y ↔ (d * y ^ 2 + 1) * x ^ 2 = y ^ 2 - 1 := by
  unfold OnCurve
  constructor <;> intro h <;> linear_combination -h

/-- y determines x up to sign -/
theorem sq_x_of_y {P Q : Point E} (h : P.y = Q.y) : P.x ^ 2 = Q.x ^ 2 := by
  have hQ := (onCurve_iff E.d Q.x Q.y).1 Q.on
  rw [← h] at hQ
  exact mul_left_cancel₀ (E.v_ne P.y) (((onCurve_iff E.d P.x P.y).1 P.on).trans hQ.symm)

theorem x_eq_zero_of_y {P Q : Point E} (h : P.y = Q.y) (hQ : Q.x = 0) : P.x = 0 := by
  have := sq_x_of_y h
  rw [hQ, zero_pow two_ne_zero] at this
  exact pow_eq_zero_iff two_ne_zero |>.1 this

/-- associativity of `+`, the argument of `addCommGroup`; proved in `EdwardsAssoc.lean` (`assocLaw`) -/
def AssocLaw (E : Params K) : Prop := ∀ P Q R : Point E, P + Q + R = P + (Q + R)

@[reducible] def addCommGroup (E : Params K) (h : AssocLaw E) : AddCommGroup (Point E) where
  add := (· + ·)
  add_assoc := h
  zero := 0
  zero_add := zero_add'
  add_zero := add_zero'
  nsmul := nsmulRec
  neg := (- ·)
  zsmul := zsmulRec
  neg_add_cancel := neg_add_cancel'
  add_comm := add_comm'

example (E : Params K) (h : AssocLaw E) (P Q : Point E) :
    (letI := addCommGroup E h; P + Q) = P + Q := rfl
example (E : Params K) (h : AssocLaw E) (P : Point E) :
    (letI := addCommGroup E h; -P) = -P := rfl
example (E : Params K) (h : AssocLaw E) :
    (letI := addCommGroup E h; (0 : Point E)) = 0 := rfl

end Dos.Edwards
