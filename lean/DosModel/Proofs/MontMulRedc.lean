/-
C10 layer 2/3 — the reduction half of gfpMul at limb level and the final composition. `redM` and
`redMX` compute only the ten partial products of t·np that matter and drop every carry out of
the fourth word, with the chains of the product macros: they are the low halves of `mul8` /
`mulx8` on (np, t), hence (T mod 2^256)·np mod 2^256. So the limb model of the whole function, on
both code paths, is `mulM` (Montgomery REDC of a·b), for ALL word operands and moduli.
-/
import DosModel.Proofs.MontMulSchool
import DosModel.Proofs.AsmMul

namespace Dos.Mont

theorem addLo_comm (y x : Nat) : addLo y x = addLo x y := congrArg (· % W) (Nat.add_comm y x)
theorem addC_comm (y x : Nat) : addC y x = addC x y := congrArg (· / W) (Nat.add_comm y x)
theorem adcLo_comm (y x c : Nat) : adcLo y x c = adcLo x y c :=
  congrArg (fun s => (s + c) % W) (Nat.add_comm y x)
theorem adcC_comm (y x c : Nat) : adcC y x c = adcC x y c :=
  congrArg (fun s => (s + c) / W) (Nat.add_comm y x)

/-- `gfpReduce` adds each new row TO the words kept so far, the `mul` macro adds the words kept so far to
the new row: up to that order of the operands of ADDQ / ADCQ, `redM` is the low half of `mul8` on (np, t) -/
theorem redM_eq (np t : L4) : redM np t = (mul8 np t).lo := by
  simp only [redM, mul8, accRow, add4, L5.hi,
    addLo_comm (mulRow np.l0 t).lo.l1, addC_comm (mulRow np.l0 t).lo.l1, adcLo_comm (mulRow np.l0 t).lo.l2,
    adcC_comm (mulRow np.l0 t).lo.l2, adcLo_comm (mulRow np.l0 t).lo.l3,
    fun y => addLo_comm y (mulRow np.l2 t).lo.l0, fun y => addC_comm y (mulRow np.l2 t).lo.l0,
    fun y c => adcLo_comm y (mulRow np.l2 t).lo.l1 c, fun y => addLo_comm y (mulLo np.l3 t.l0)]
  rfl

theorem L8.lo_spec {T : L8} {x y : Nat} (h : T.val = x * y ∧ T.ok) : T.lo.val = y * x % R ∧ T.lo.ok :=
  ⟨by rw [Nat.mul_comm, ← h.1, L8.val, Nat.add_mul_mod_self_left, Nat.mod_eq_of_lt (L4.val_lt _ h.2.1)], h.2.1⟩

theorem redM_val (np t : L4) (hnp : np.ok) (ht : t.ok) :
    (redM np t).val = t.val * np.val % R ∧ (redM np t).ok :=
  redM_eq np t ▸ L8.lo_spec (mul8_val np t hnp ht)

theorem redMX_val (np t : L4) (hnp : np.ok) (ht : t.ok) :
    (redMX np t).val = t.val * np.val % R ∧ (redMX np t).ok :=
  L8.lo_spec (mulx8_val np t hnp ht)

/-- **gfpMul, limb-exact, all operands**: over any product block and any block for the low words of
t · np, the composition stores `mulM p np a b` = REDC(a·b) with one conditional subtraction, truncated to
four words -/
theorem mulStruct_val {mul : L4 → L4 → L8} {red : L4 → L4 → L4}
    (hmul : ∀ a b : L4, a.ok → b.ok → (mul a b).val = a.val * b.val ∧ (mul a b).ok)
    (hred : ∀ np t : L4, np.ok → t.ok → (red np t).val = t.val * np.val % R ∧ (red np t).ok)
    (p np a b : L4) (hp : p.ok) (hnp : np.ok) (ha : a.ok) (hb : b.ok) :
    (mulStruct mul red p np a b).val = mulM p.val np.val a.val b.val ∧ (mulStruct mul red p np a b).ok := by
  obtain ⟨hT, oT⟩ := hmul a b ha hb
  obtain ⟨hm, om⟩ := hred np _ hnp oT.1
  obtain ⟨hM, oM⟩ := hmul p _ hp om
  obtain ⟨hu, ou⟩ := hi5_val _ _ oM oT
  obtain ⟨hc, oc⟩ := carryLimbs_val p _ _ hp ou.1 ou.2
  refine ⟨hc.trans ?_, oc⟩
  have hlo : (mul a b).lo.val = a.val * b.val % R := Nat.mul_comm _ _ ▸ (L8.lo_spec ⟨hT, oT⟩).1
  have e : (hi5 (mul p (red np (mul a b).lo)) (mul a b)).val = redcU p.val np.val (a.val * b.val) := by
    rw [hu, hM, hm, hlo, hT, redcU, Nat.add_comm, Nat.mul_comm p.val]
  rw [← L5.val, e]
  rfl

theorem mulLimbsMULQ_val (p np a b : L4) (hp : p.ok) (hnp : np.ok) (ha : a.ok) (hb : b.ok) :
    (mulLimbsMULQ p np a b).val = mulM p.val np.val a.val b.val ∧ (mulLimbsMULQ p np a b).ok :=
  mulLimbsMULQ_eq p np a b ▸ mulStruct_val mul8_val redM_val p np a b hp hnp ha hb

theorem mulLimbsMULX_val (p np a b : L4) (hp : p.ok) (hnp : np.ok) (ha : a.ok) (hb : b.ok) :
    (mulLimbsMULX p np a b).val = mulM p.val np.val a.val b.val ∧ (mulLimbsMULX p np a b).ok :=
  mulLimbsMULX_eq p np a b ▸ mulStruct_val mulx8_val redMX_val p np a b hp hnp ha hb

end Dos.Mont
