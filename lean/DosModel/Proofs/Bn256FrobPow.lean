/-
C10 — the Frobenius maps of gfp6.go / gfp12.go ARE the q-power maps of the tower over a field K of
characteristic q in which c^q = c (K = F_p, q = p), as soon as the three constants are the stated powers of ξ
(`consts_frobenius` evaluates exactly that on the regenerated literals).

Proof: in characteristic q the q-power is a ring endomorphism (Mathlib's `frobenius`), and so is each map of the code
(Proofs/Bn256FinalExp.lean); two ring homomorphisms out of a level of the tower agree as soon as they agree on the
level below and on the generator (`ringHom_ext`): on the coefficients c^q = c in K, conj on gfP2 because i^q = −i for
q ≡ 3 mod 4; τ³ = ξ ⇒ τ^q = ξ^((q−1)/3)·τ (q ≡ 1 mod 3); ω² = τ ⇒ ω^q = ξ^((q−1)/6)·ω (q ≡ 1 mod 6).
-/
import Mathlib.Algebra.CharP.Algebra
import Mathlib.Algebra.CharP.Frobenius
import Mathlib.Algebra.Ring.Parity
import DosModel.Proofs.Bn256FinalExp

namespace Dos.Bn256

section
variable {K : Type} [Field K]

variable (q : Nat) [hq : Fact q.Prime] [CharP K q]

instance Fp2.charP : CharP (Fp2 K) q := charP_of_injective_ringHom Fp2.ofBaseHom_inj q
instance Fp6.charP : CharP (Fp6 K) q := charP_of_injective_ringHom Fp6.ofBaseHom_inj q
instance Fp12.charP : CharP (Fp12 K) q := charP_of_injective_ringHom Fp12.ofBaseHom_inj q

variable (hK : ∀ c : K, c ^ q = c) (h4 : q % 4 = 3)
include hK h4

/-! ### gfP2: conjugation is the q-power -/

theorem Fp2.frobenius_eq : frobenius (Fp2 K) q = Fp2.conjugateHom := by
  refine Fp2.ringHom_ext (fun c => ?_) ?_
  · exact ((map_pow (Fp2.ofBaseHom : K →+* Fp2 K) c q).symm.trans (congrArg _ (hK c))).trans
      (Fp2.conjugate_ofBase c).symm
  · have e : q = 2 * ((q - 1) / 2) + 1 := by omega
    have hodd : Odd ((q - 1) / 2) := by rw [Nat.odd_iff]; omega
    rw [frobenius_def, e, pow_succ, pow_mul, pow_two, Fp2.i_sq, hodd.neg_one_pow, neg_one_mul]
    exact Fp2.conjugate_i.symm

/-- **x^q = conj x on gfP2** when c^q = c on K and q ≡ 3 (mod 4) -/
theorem Fp2.pow_char (a : Fp2 K) : a ^ q = Fp2.conjugate a := DFunLike.congr_fun (Fp2.frobenius_eq q hK h4) a

/-! ### gfP6 -/

omit hK h4 in
theorem Fp6.tau_cube : (Fp6.tau : Fp6 K) * Fp6.tau * Fp6.tau = Fp6.ofBase Fp2.xi := by
  rw [mul_assoc]; exact Fp6.tau_cubed

omit hq hK h4 [CharP K q] in
/-- τ^(3m+1) = ξ^m · τ -/
theorem Fp6.tau_pow (m : Nat) : (Fp6.tau : Fp6 K) ^ (3 * m + 1) = Fp6.ofBase (Fp2.xi ^ m) * Fp6.tau := by
  rw [pow_succ, pow_mul, pow_three', Fp6.tau_cube]
  exact congrArg (· * _) (map_pow (Fp6.ofBaseHom : Fp2 K →+* Fp6 K) _ m).symm

variable (cs : FrobConsts K) (hc1 : cs.xiToPMinus1Over3 = Fp2.xi ^ ((q - 1) / 3))
  (hc2 : cs.xiTo2PMinus2Over3 = Fp2.xi ^ ((2 * q - 2) / 3))
include hc1 hc2

/-- the two relations that make gfP6.Frobenius a ring endomorphism hold for constants that are the stated powers of ξ -/
theorem FrobConsts.relations_of_powers (h3 : q % 3 = 1) :
    cs.xiToPMinus1Over3 * cs.xiToPMinus1Over3 = cs.xiTo2PMinus2Over3 ∧
    Fp2.xi * (cs.xiToPMinus1Over3 * cs.xiTo2PMinus2Over3) = Fp2.conjugate Fp2.xi := by
  have e : (2 * q - 2) / 3 = (q - 1) / 3 + (q - 1) / 3 := by omega
  rw [hc1, hc2, e, ← pow_add, ← pow_add, ← pow_succ', ← Fp2.pow_char q hK h4]
  exact ⟨rfl, congrArg _ (by omega)⟩

/-- **gfP6.Frobenius is the q-power**, given c₁ = ξ^((q−1)/3) and c₂ = ξ^((2q−2)/3) -/
theorem Fp6.frobeniusG_eq_pow (h3 : q % 3 = 1) (a : Fp6 K) : Fp6.frobeniusG cs a = a ^ q := by
  obtain ⟨h1, hx⟩ := FrobConsts.relations_of_powers q hK h4 cs hc1 hc2 h3
  refine (DFunLike.congr_fun (?_ : _root_.frobenius (Fp6 K) q = Fp6.frobeniusHom cs h1 hx) a).symm
  refine Fp6.ringHom_ext (fun c => ?_) ?_
  · exact ((map_pow (Fp6.ofBaseHom : Fp2 K →+* Fp6 K) c q).symm.trans
      (congrArg _ (Fp2.pow_char q hK h4 c))).trans (Fp6.frobeniusG_ofBase cs c).symm
  · have hq3 : q = 3 * ((q - 1) / 3) + 1 := by omega
    rw [frobenius_def, hq3, Fp6.tau_pow, ← hc1]
    exact (Fp6.frobeniusG_tau cs).symm

/-! ### gfP12 -/

omit hq hK h4 hc1 hc2 [CharP K q] in
/-- ω^(6n+1) = ξ^n · ω -/
theorem Fp12.omega_pow (n : Nat) :
    (Fp12.omega : Fp12 K) ^ (6 * n + 1) = Fp12.ofBase (Fp6.ofBase (Fp2.xi ^ n)) * Fp12.omega := by
  have e : 6 * n + 1 = 2 * (3 * n) + 1 := by ring
  rw [e, pow_succ, pow_mul, pow_two, show (Fp12.omega : Fp12 K) * Fp12.omega = _ from Fp12.omega_sq]
  refine congrArg (· * _) ?_
  show Fp12.ofBaseHom Fp6.tau ^ (3 * n) = Fp12.ofBaseHom (Fp6.ofBaseHom (Fp2.xi ^ n))
  rw [← map_pow, pow_mul, pow_three', Fp6.tau_cube, map_pow (Fp6.ofBaseHom : Fp2 K →+* Fp6 K)]; rfl

/-- **gfP12.Frobenius is the q-power** x ↦ x^q, given the three constants as powers of ξ -/
theorem Fp12.frobeniusG_eq_pow (h6 : q % 6 = 1) (hc6 : cs.xiToPMinus1Over6 = Fp2.xi ^ ((q - 1) / 6)) (a : Fp12 K) :
    Fp12.frobeniusG cs a = a ^ q := by
  obtain ⟨h1, hx⟩ := FrobConsts.relations_of_powers q hK h4 cs hc1 hc2 (by omega)
  have h46 : cs.xiToPMinus1Over6 * cs.xiToPMinus1Over6 = cs.xiToPMinus1Over3 := by
    rw [hc6, hc1, ← pow_add]; exact congrArg _ (by omega)
  refine (DFunLike.congr_fun (?_ : _root_.frobenius (Fp12 K) q = Fp12.frobeniusHom cs h1 hx h46) a).symm
  refine Fp12.ringHom_ext (fun c => ?_) ?_
  · exact ((map_pow (Fp12.ofBaseHom : Fp6 K →+* Fp12 K) c q).symm.trans
      (congrArg _ (Fp6.frobeniusG_eq_pow q hK h4 cs hc1 hc2 (by omega) c).symm)).trans
      (Fp12.frobeniusG_ofBase cs h1 hx c).symm
  · have hq6 : q = 6 * ((q - 1) / 6) + 1 := by omega
    rw [frobenius_def, hq6, Fp12.omega_pow, ← hc6]
    exact (Fp12.frobeniusG_omega cs h1 hx).symm

end
end Dos.Bn256
