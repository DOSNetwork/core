/-
C10 layer 5 — `Jac.add` / `Jac.double` (curve.go, twist.go, transcribed in
Model/Bn256Curve.lean) over ANY commutative ring / field K in which the squaring operation
of the code is squaring (`hsq`; true for gfP by definition and for gfP2 by `Fp2.square_eq`):
closed forms of the general branch and of the doubling, the special cases, and the affine
chord / tangent equalities.
-/
import Mathlib.Tactic.Ring
import Mathlib.Tactic.FieldSimp
import Mathlib.Tactic.LinearCombination
import Mathlib.Algebra.Field.Basic
import DosModel.Model.Bn256Curve

namespace Dos.Bn256

/-- ℚ with x ↦ x·x as the squaring operation (used for concrete instances of the theorems) -/
instance instSqRat : Sq Rat := ⟨fun a => a * a⟩

namespace Jac

section ring
variable {K : Type} [CommRing K] [Sq K] [DecidableEq K]
set_option linter.unusedSectionVars false

/-- H = x₂z₁² − x₁z₂² -/
def H (a b : Jac K) : K := b.x * (a.z * a.z) - a.x * (b.z * b.z)
/-- N = y₂z₁³ − y₁z₂³ -/
def N (a b : Jac K) : K := b.y * (a.z * (a.z * a.z)) - a.y * (b.z * (b.z * b.z))

/-- **doubling, closed form** (dbl-2009-l, a = 0): X₃ = 9X⁴ − 8XY², Y₃ = 3X²(4XY² − X₃) − 8Y⁴, Z₃ = 2YZ;
the receiver's `t` is kept -/
theorem double_formulas (hsq : ∀ a : K, Sq.sq a = a * a) (c a : Jac K) :
    (double c a).x = 9 * a.x ^ 4 - 8 * a.x * a.y ^ 2 ∧
    (double c a).y = 3 * a.x ^ 2 * (4 * a.x * a.y ^ 2 - (9 * a.x ^ 4 - 8 * a.x * a.y ^ 2)) - 8 * a.y ^ 4 ∧
    (double c a).z = 2 * a.y * a.z ∧ (double c a).t = c.t := by
  simp only [double, hsq]
  refine ⟨by ring, by ring, by ring, trivial⟩

theorem add_inf_left (c a b : Jac K) (ha : a.z = 0) : add c a b = b := by
  simp [add, isInfinity, ha]

theorem add_inf_right (c a b : Jac K) (ha : a.z ≠ 0) (hb : b.z = 0) : add c a b = a := by
  simp [add, isInfinity, ha, hb]

/-- the two comparisons the code makes are H = 0 and N = 0 -/
theorem add_cases (hsq : ∀ a : K, Sq.sq a = a * a) (c a b : Jac K) (ha : a.z ≠ 0) (hb : b.z ≠ 0) :
    add c a b = if H a b = 0 ∧ N a b = 0 then double c a else
      ⟨4 * (N a b ^ 2 - (a.x * b.z ^ 2 + b.x * a.z ^ 2) * H a b ^ 2),
       8 * N a b * (a.x * b.z ^ 2) * H a b ^ 2
         - 2 * N a b * (4 * (N a b ^ 2 - (a.x * b.z ^ 2 + b.x * a.z ^ 2) * H a b ^ 2))
         - 8 * a.y * b.z ^ 3 * H a b ^ 3,
       2 * a.z * b.z * H a b, c.t⟩ := by
  have hH : b.x * Sq.sq a.z - a.x * Sq.sq b.z = H a b := by simp only [hsq, H]
  have hN : b.y * (a.z * Sq.sq a.z) - a.y * (b.z * Sq.sq b.z) = N a b := by simp only [hsq, N]
  simp only [add, isInfinity, ha, hb, decide_false, Bool.false_eq_true, if_false, hH, hN,
    Bool.and_eq_true, decide_eq_true_eq]
  split
  · rfl
  · simp only [hsq, H, N]
    congr 1 <;> ring

/-- **P + P through Add**: equal affine points are doubled -/
theorem add_same (hsq : ∀ a : K, Sq.sq a = a * a) (c a b : Jac K) (ha : a.z ≠ 0) (hb : b.z ≠ 0)
    (hH : H a b = 0) (hN : N a b = 0) : add c a b = double c a := by
  rw [add_cases hsq c a b ha hb, if_pos ⟨hH, hN⟩]

/-- **P + (−P)**: equal x, different y gives z₃ = 0 (the identity) -/
theorem add_opposite (hsq : ∀ a : K, Sq.sq a = a * a) (c a b : Jac K) (ha : a.z ≠ 0) (hb : b.z ≠ 0)
    (hH : H a b = 0) (hN : N a b ≠ 0) : (add c a b).z = 0 := by
  rw [add_cases hsq c a b ha hb, if_neg (fun h => hN h.2)]
  simp [hH]

end ring

section field
variable {K : Type} [Field K] [Sq K] [DecidableEq K]
set_option linter.unusedSectionVars false

/-- affine x and y of a Jacobian triple -/
def ax (a : Jac K) : K := a.x / a.z ^ 2
def ay (a : Jac K) : K := a.y / a.z ^ 3

theorem ax_sub (a b : Jac K) (ha : a.z ≠ 0) (hb : b.z ≠ 0) :
    ax b - ax a = H a b / (a.z ^ 2 * b.z ^ 2) := by
  simp only [ax, H]; field_simp

theorem ay_sub (a b : Jac K) (ha : a.z ≠ 0) (hb : b.z ≠ 0) :
    ay b - ay a = N a b / (a.z ^ 3 * b.z ^ 3) := by
  simp only [ay, N]; field_simp

/-- the chord slope in Jacobian terms: λ = N / (z₁ z₂ H) -/
theorem slope_eq (a b : Jac K) (ha : a.z ≠ 0) (hb : b.z ≠ 0) (hH : H a b ≠ 0) :
    (ay b - ay a) / (ax b - ax a) = N a b / (a.z * b.z * H a b) := by
  rw [ax_sub a b ha hb, ay_sub a b ha hb]; field_simp

/-- **add_affine (chord)**: for finite inputs with different affine x (H ≠ 0) the result is finite and
its affine image is the chord sum: λ = (y₂ − y₁)/(x₂ − x₁), x₃ = λ² − x₁ − x₂, y₃ = λ(x₁ − x₃) − y₁
(an identity of rational functions: no curve equation is needed) -/
theorem add_affine_chord (hsq : ∀ a : K, Sq.sq a = a * a) (c a b : Jac K) (ha : a.z ≠ 0) (hb : b.z ≠ 0)
    (hH : H a b ≠ 0) (h2 : (2 : K) ≠ 0) :
    (add c a b).z ≠ 0 ∧
    ax (add c a b) = ((ay b - ay a) / (ax b - ax a)) ^ 2 - ax a - ax b ∧
    ay (add c a b) = ((ay b - ay a) / (ax b - ax a)) * (ax a - ax (add c a b)) - ay a := by
  rw [add_cases hsq c a b ha hb, if_neg (fun h => hH h.1), slope_eq a b ha hb hH]
  have hz : 2 * a.z * b.z * H a b ≠ 0 := by simp [h2, ha, hb, hH]
  refine ⟨hz, ?_, ?_⟩
  · simp only [ax]; field_simp; ring
  · simp only [ax, ay]; field_simp; ring

/-- **add_affine (tangent)**: the doubling, for y ≠ 0: λ = 3x²/(2y), x₃ = λ² − 2x, y₃ = λ(x − x₃) − y -/
theorem double_affine_tangent (hsq : ∀ a : K, Sq.sq a = a * a) (c a : Jac K) (ha : a.z ≠ 0)
    (hy : a.y ≠ 0) (h2 : (2 : K) ≠ 0) :
    (double c a).z ≠ 0 ∧
    ax (double c a) = (3 * ax a ^ 2 / (2 * ay a)) ^ 2 - 2 * ax a ∧
    ay (double c a) = (3 * ax a ^ 2 / (2 * ay a)) * (ax a - ax (double c a)) - ay a := by
  obtain ⟨hx, hyy, hz, _⟩ := double_formulas hsq c a
  have hz0 : 2 * a.y * a.z ≠ 0 := by simp [h2, ha, hy]
  refine ⟨by rw [hz]; exact hz0, ?_, ?_⟩
  · simp only [ax, ay, hx, hz]; field_simp; ring
  · simp only [ax, ay, hx, hyy, hz]; field_simp; ring

/-- doubling a point with y = 0 (a point of order 2; none exists on y² = x³ + 3 over gfP) gives z₃ = 0 -/
theorem double_order_two (hsq : ∀ a : K, Sq.sq a = a * a) (c a : Jac K) (hy : a.y = 0) :
    (double c a).z = 0 := by
  rw [(double_formulas hsq c a).2.2.1, hy]; ring

/-- the two comparisons of the code in affine terms: H = 0 ⇔ same x, N = 0 ⇔ same y -/
theorem H_eq_zero_iff (a b : Jac K) (ha : a.z ≠ 0) (hb : b.z ≠ 0) : H a b = 0 ↔ ax a = ax b := by
  rw [eq_comm (a := ax a), ← sub_eq_zero (a := ax b), ax_sub a b ha hb, div_eq_zero_iff,
    or_iff_left (mul_ne_zero (pow_ne_zero _ ha) (pow_ne_zero _ hb))]

theorem N_eq_zero_iff (a b : Jac K) (ha : a.z ≠ 0) (hb : b.z ≠ 0) : N a b = 0 ↔ ay a = ay b := by
  rw [eq_comm (a := ay a), ← sub_eq_zero (a := ay b), ay_sub a b ha hb, div_eq_zero_iff,
    or_iff_left (mul_ne_zero (pow_ne_zero _ ha) (pow_ne_zero _ hb))]

/-- equal affine points are recognised: H = 0 ∧ N = 0 ⇔ same affine x and y -/
theorem same_affine_iff (a b : Jac K) (ha : a.z ≠ 0) (hb : b.z ≠ 0) :
    (H a b = 0 ∧ N a b = 0) ↔ (ax a = ax b ∧ ay a = ay b) :=
  and_congr (H_eq_zero_iff a b ha hb) (N_eq_zero_iff a b ha hb)

/-- the doubling reached through Add (same affine point, different Jacobian representatives) is the
tangent sum of that affine point -/
theorem add_affine_tangent (hsq : ∀ a : K, Sq.sq a = a * a) (c a b : Jac K) (ha : a.z ≠ 0) (hb : b.z ≠ 0)
    (hH : H a b = 0) (hN : N a b = 0) (hy : a.y ≠ 0) (h2 : (2 : K) ≠ 0) :
    (add c a b).z ≠ 0 ∧
    ax (add c a b) = (3 * ax a ^ 2 / (2 * ay a)) ^ 2 - 2 * ax a ∧
    ay (add c a b) = (3 * ax a ^ 2 / (2 * ay a)) * (ax a - ax (add c a b)) - ay a := by
  rw [add_same hsq c a b ha hb hH hN]; exact double_affine_tangent hsq c a ha hy h2

/-- the curve equation y² = x³ + b in Jacobian form: Y² = X³ + b·Z⁶ -/
def OnCurve (b : K) (a : Jac K) : Prop := a.y ^ 2 = a.x ^ 3 + b * a.z ^ 6

theorem onCurve_affine (b : K) (a : Jac K) (ha : a.z ≠ 0) :
    OnCurve b a ↔ ay a ^ 2 = ax a ^ 3 + b := by
  simp only [OnCurve, ax, ay]
  constructor
  · intro h; field_simp; linear_combination h
  · intro h; field_simp at h; linear_combination h

end field
end Jac
end Dos.Bn256
