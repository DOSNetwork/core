/-
C10 — the group law for the CONCRETE Montgomery model of G2 (twist.go over gfP2): same route as
Proofs/Bn256Concrete.lean one level up. `Fp2.map f` preserves the transcribed gfP2 operations whenever f
preserves the gfP operations; gfP2 over ZMod p is a field (p ≡ 3 mod 4); hence `Jac.add`, `Jac.double`,
`twistMul` over `Fp2 GFp` compute the group operations of E'(F_p²) after decoding.
-/
import DosModel.Proofs.Bn256Concrete

namespace Dos.Bn256

section maps
variable {K L : Type}
variable [Add K] [Sub K] [Neg K] [Mul K] [Zero K] [One K] [Inv K] [Sq K] [DecidableEq K]
variable [Add L] [Sub L] [Neg L] [Mul L] [Zero L] [One L] [Inv L] [Sq L] [DecidableEq L]

def Fp2.map (f : K → L) (a : Fp2 K) : Fp2 L := ⟨f a.x, f a.y⟩

/-- `Fp2.map f` preserves the transcribed gfP2 operations (Add, Sub, Neg, Mul, SetZero, SetOne, Invert, Square) -/
theorem Fp2.mapHom {f : K → L} (h : OpsHom f) : OpsHom (Fp2.map f) where
  map_add a b := congrArg₂ Fp2.mk (h.map_add a.x b.x) (h.map_add a.y b.y)
  map_sub a b := congrArg₂ Fp2.mk (h.map_sub a.x b.x) (h.map_sub a.y b.y)
  map_neg a := congrArg₂ Fp2.mk (h.map_neg a.x) (h.map_neg a.y)
  map_zero := congrArg₂ Fp2.mk h.map_zero h.map_zero
  map_one := congrArg₂ Fp2.mk h.map_zero h.map_one
  map_mul a b := by
    show Fp2.map f (Fp2.mul a b) = Fp2.mul (Fp2.map f a) (Fp2.map f b)
    simp only [Fp2.map, Fp2.mul, h.map_add, h.map_sub, h.map_mul]
  map_inv a := by
    show Fp2.map f (Fp2.invert a) = Fp2.invert (Fp2.map f a)
    simp only [Fp2.map, Fp2.invert, h.map_add, h.map_mul, h.map_neg, h.map_inv]
  map_sq a := by
    show Fp2.map f (Fp2.square a) = Fp2.square (Fp2.map f a)
    simp only [Fp2.map, Fp2.square, h.map_add, h.map_sub, h.map_mul]
  inj a b hab := by
    cases a; cases b
    exact congrArg₂ Fp2.mk (h.inj (congrArg Fp2.x hab)) (h.inj (congrArg Fp2.y hab))

end maps

/-- gfP2 over the base field of bn256 is a FIELD whose operations are the transcribed functions -/
noncomputable instance instFieldFp2 : Field (Fp2 (ZMod p)) where
  toCommRing := Fp2.instCommRing
  inv := Fp2.invert
  exists_pair_ne := ⟨0, 1, by
    intro h
    have : (0 : Fp2 (ZMod p)).y = (1 : Fp2 (ZMod p)).y := congrArg Fp2.y h
    exact zero_ne_one this⟩
  mul_inv_cancel a ha := fp2_invert_all a ha
  inv_zero := by
    show Fp2.invert (Fp2.zero : Fp2 (ZMod p)) = Fp2.zero
    simp [Fp2.invert, Fp2.zero]
  nnqsmul := _
  qsmul := _

theorem hsqFp2 : ∀ a : Fp2 (ZMod p), Sq.sq a = a * a := fun a => Fp2.square_eq a

theorem two_ne_zero_Fp2 : (2 : Fp2 (ZMod p)) ≠ 0 :=
  map_ofNat (Fp2.ofBaseHom (α := ZMod p)) 2 ▸ (map_ne_zero_iff _ Fp2.ofBaseHom_inj).2 two_ne_zero_Fp

/-- all eight gfP coordinates of a G2 triple are reduced -/
def Jac.Reduced2 (a : Jac (Fp2 GFp)) : Prop :=
  (a.x.x.v < p ∧ a.x.y.v < p) ∧ (a.y.x.v < p ∧ a.y.y.v < p) ∧ (a.z.x.v < p ∧ a.z.y.v < p) ∧
    (a.t.x.v < p ∧ a.t.y.v < p)

def Jac.lift2 (a : Jac (Fp2 GFp)) (h : Jac.Reduced2 a) : Jac (Fp2 GFpR) :=
  ⟨⟨⟨a.x.x, h.1.1⟩, ⟨a.x.y, h.1.2⟩⟩, ⟨⟨a.y.x, h.2.1.1⟩, ⟨a.y.y, h.2.1.2⟩⟩,
   ⟨⟨a.z.x, h.2.2.1.1⟩, ⟨a.z.y, h.2.2.1.2⟩⟩, ⟨⟨a.t.x, h.2.2.2.1⟩, ⟨a.t.y, h.2.2.2.2⟩⟩⟩

/-- Montgomery decoding of a G2 triple -/
def Jac.decJ2 (a : Jac (Fp2 GFp)) : Jac (Fp2 (ZMod p)) := Jac.map (Fp2.map dec) a

abbrev val2 : Fp2 GFpR → Fp2 GFp := Fp2.map (fun (x : GFpR) => x.1)
abbrev dec2 : Fp2 GFpR → Fp2 (ZMod p) := Fp2.map decR

theorem Jac.val_lift2 (a : Jac (Fp2 GFp)) (h : Jac.Reduced2 a) : Jac.map val2 (Jac.lift2 a h) = a := rfl
theorem Jac.dec_lift2 (a : Jac (Fp2 GFp)) (h : Jac.Reduced2 a) : Jac.map dec2 (Jac.lift2 a h) = Jac.decJ2 a := rfl

/-- **G2**: the same for twist.go over Montgomery gfP2 and E'(F_p²) -/
theorem g2_law (bb : Fp2 (ZMod p)) : Jac.GroupLaw (fun x : Fp2 GFp => x.x.v < p ∧ x.y.v < p) (Fp2.map dec) bb :=
  .of_homs (Fp2.mapHom valHom) (Fp2.mapHom decHom)
    (fun x => ⟨fun h => ⟨⟨⟨x.x, h.1⟩, ⟨x.y, h.2⟩⟩, rfl⟩, fun ⟨s, e⟩ => e ▸ ⟨s.x.2, s.y.2⟩⟩) (fun _ => rfl) hsqFp2
    two_ne_zero_Fp2 bb

theorem Jac.Reduced2.rep {bb : Fp2 (ZMod p)} {a : Jac (Fp2 GFp)} (ha : Jac.Reduced2 a)
    (va : Valid bb (Jac.decJ2 a)) :
    Jac.Rep (fun x : Fp2 GFp => x.x.v < p ∧ x.y.v < p) (Fp2.map dec) bb a (toPoint bb (Jac.decJ2 a)) :=
  ⟨ha, va, rfl⟩

end Dos.Bn256
