/-
C10 — transport of the final-exponentiation theorems to the IMPLEMENTED final exponentiation
(`Bn256.finalExponentiation` = `finalExponentiationG` at the regenerated constants over the Montgomery
gfP, the function the driver runs and compares with optate.go):
* the regenerated constants, decoded into ZMod p, are an instance of `FrobConsts.Good`
  (`frobConstsFp_good`): the six relations are evaluated by the kernel in Montgomery arithmetic on reduced
  values and carried along the decoding homomorphism;
* on reduced gfP12 values the implemented final exponentiation stays reduced, decodes to the generic one
  over ZMod p (naturality, Proofs/Bn256NaturalTower.lean) and is therefore multiplicative;
* `pairingCheck` is true iff the product in F_p¹² of the decoded pairing values `optimalAte` is one,
  provided the Miller values are reduced.
The vocabulary for reduced tower values that the later files use is defined here: `Red2/6/12`, `lift2R/6R/12R`,
`valF`, `val12`, `dec12`, the constants as reduced values `frobConstsR` and decoded `frobConstsFp`, `xiR`.
-/
import DosModel.Proofs.Bn256NaturalTower
import DosModel.Proofs.Bn256FinalExp
import DosModel.Model.Bn256CPairing

namespace Dos.Bn256
open Dos.Mont

/-! ### reduced tower values and their lifts -/
def Red2 (a : F2) : Prop := a.x.v < p ∧ a.y.v < p
def Red6 (a : F6) : Prop := Red2 a.x ∧ Red2 a.y ∧ Red2 a.z
def Red12 (a : F12) : Prop := Red6 a.x ∧ Red6 a.y

def lift2R (a : F2) (h : Red2 a) : Fp2 GFpR := ⟨⟨a.x, h.1⟩, ⟨a.y, h.2⟩⟩
def lift6R (a : F6) (h : Red6 a) : Fp6 GFpR := ⟨lift2R a.x h.1, lift2R a.y h.2.1, lift2R a.z h.2.2⟩
def lift12R (a : F12) (h : Red12 a) : Fp12 GFpR := ⟨lift6R a.x h.1, lift6R a.y h.2⟩

/-- "forget reducedness": the map `fun x => x.1` of `valHom` (Proofs/Bn256Concrete.lean) under a name -/
abbrev valF : GFpR → GFp := fun x => x.1
abbrev val12 : Fp12 GFpR → F12 := Fp12.map valF
abbrev dec12R : Fp12 GFpR → Fp12 (ZMod p) := Fp12.map decR
/-- Montgomery decoding of a gfP12 value -/
def dec12 (a : F12) : Fp12 (ZMod p) := Fp12.map dec a

theorem val_lift12 (a : F12) (h : Red12 a) : val12 (lift12R a h) = a := rfl
theorem dec12_val (x : Fp12 GFpR) : dec12 (val12 x) = dec12R x := rfl
theorem red12_val (x : Fp12 GFpR) : Red12 (val12 x) :=
  ⟨⟨⟨x.x.x.x.2, x.x.x.y.2⟩, ⟨x.x.y.x.2, x.x.y.y.2⟩, ⟨x.x.z.x.2, x.x.z.y.2⟩⟩,
   ⟨⟨x.y.x.x.2, x.y.x.y.2⟩, ⟨x.y.y.x.2, x.y.y.y.2⟩, ⟨x.y.z.x.2, x.y.z.y.2⟩⟩⟩

/-! ### the constants -/
theorem frobConsts_reduced :
    Red2 frobConsts.xiToPMinus1Over6 ∧ Red2 frobConsts.xiToPMinus1Over3 ∧ Red2 frobConsts.xiToPMinus1Over2 ∧
    Red2 frobConsts.xiTo2PMinus2Over3 ∧ frobConsts.xiToPSquaredMinus1Over3.v < p ∧
    frobConsts.xiTo2PSquaredMinus2Over3.v < p ∧ frobConsts.xiToPSquaredMinus1Over6.v < p := by
  unfold Red2; decide

theorem twistGen_reduced : Jac.Reduced2 twistGen := by unfold Jac.Reduced2; decide
theorem curveGen_reduced : Jac.Reduced curveGen := by unfold Jac.Reduced; decide
theorem gfP12Gen_reduced : Red12 gfP12Gen := by unfold Red12 Red6 Red2; decide

/-- the constants as reduced values -/
def frobConstsR : FrobConsts GFpR :=
  { xiToPMinus1Over6 := lift2R _ frobConsts_reduced.1
    xiToPMinus1Over3 := lift2R _ frobConsts_reduced.2.1
    xiToPMinus1Over2 := lift2R _ frobConsts_reduced.2.2.1
    xiTo2PMinus2Over3 := lift2R _ frobConsts_reduced.2.2.2.1
    xiToPSquaredMinus1Over3 := ⟨_, frobConsts_reduced.2.2.2.2.1⟩
    xiTo2PSquaredMinus2Over3 := ⟨_, frobConsts_reduced.2.2.2.2.2.1⟩
    xiToPSquaredMinus1Over6 := ⟨_, frobConsts_reduced.2.2.2.2.2.2⟩ }

theorem frobConstsR_val : frobConstsR.map valF = frobConsts := rfl

/-- **the code's Frobenius constants, decoded into F_p** -/
def frobConstsFp : FrobConsts (ZMod p) := frobConstsR.map decR

/-- ξ = i + 9 as a reduced Montgomery value -/
def xiR : Fp2 GFpR := ⟨⟨GFp.newGFp 1, by decide⟩, ⟨GFp.newGFp 9, by decide⟩⟩

theorem dec_xiR : Fp2.map decR xiR = (Fp2.xi : Fp2 (ZMod p)) := by
  have d9 : dec (GFp.newGFp 9) = 9 := dec_eq_natCast _ 9 (by decide)
  show (⟨dec (GFp.newGFp 1), dec (GFp.newGFp 9)⟩ : Fp2 (ZMod p)) = ⟨1, 9⟩
  rw [d9, show dec (GFp.newGFp 1) = 1 from dec_one.2]

/-- **`FrobConsts.Good` holds for the regenerated constants of the code** (decoded into the field F_p): the six
relations are evaluated by the kernel on the reduced Montgomery values and carried along the decoding -/
theorem frobConstsFp_good : frobConstsFp.Good := by
  have R : Fp2.mul frobConstsR.xiToPMinus1Over3 frobConstsR.xiToPMinus1Over3 = frobConstsR.xiTo2PMinus2Over3 ∧
      Fp2.mul xiR (Fp2.mul frobConstsR.xiToPMinus1Over3 frobConstsR.xiTo2PMinus2Over3) = Fp2.conjugate xiR ∧
      Fp2.mul frobConstsR.xiToPMinus1Over6 frobConstsR.xiToPMinus1Over6 = frobConstsR.xiToPMinus1Over3 ∧
      frobConstsR.xiToPSquaredMinus1Over3 * frobConstsR.xiToPSquaredMinus1Over3 =
        frobConstsR.xiTo2PSquaredMinus2Over3 ∧
      frobConstsR.xiToPSquaredMinus1Over3 * frobConstsR.xiTo2PSquaredMinus2Over3 = (1 : GFpR) ∧
      frobConstsR.xiToPSquaredMinus1Over6 * frobConstsR.xiToPSquaredMinus1Over6 =
        frobConstsR.xiToPSquaredMinus1Over3 := by decide +kernel
  obtain ⟨R1, R3, R4, S1, S12, S6⟩ := R
  refine ⟨?_, ?_, ?_, ?_, ?_, ?_⟩
  · have := congrArg (Fp2.map decR) R1
    rwa [Fp2.map_mul' decHom] at this
  · have := congrArg (Fp2.map decR) R3
    rwa [Fp2.map_mul' decHom, Fp2.map_mul' decHom, Fp2.map_conjugate decHom, dec_xiR] at this
  · have := congrArg (Fp2.map decR) R4
    rwa [Fp2.map_mul' decHom] at this
  · have := congrArg decR S1; rwa [decHom.map_mul] at this
  · have := congrArg decR S12; rwa [decHom.map_mul, decHom.map_one] at this
  · have := congrArg decR S6; rwa [decHom.map_mul] at this

/-! ### the implemented final exponentiation on reduced values -/

theorem finalExp_val (x : Fp12 GFpR) :
    Bn256.finalExponentiation (val12 x) = val12 (finalExponentiationG frobConstsR uParam x) := by
  show finalExponentiationG frobConsts uParam (val12 x) = _
  rw [← frobConstsR_val]
  exact (map_finalExponentiationG valHom frobConstsR uParam x).symm

/-- a gfP12 → gfP12 function that is the value of one on reduced values, which in turn decodes to `ΦZ`, keeps
reducedness and decodes to `ΦZ` -/
theorem dec_of_natural {Φ : F12 → F12} {ΦR : Fp12 GFpR → Fp12 GFpR} {ΦZ : Fp12 (ZMod p) → Fp12 (ZMod p)}
    (hv : ∀ x, Φ (val12 x) = val12 (ΦR x)) (hd : ∀ x, dec12R (ΦR x) = ΦZ (dec12R x)) (x : F12) (hx : Red12 x) :
    Red12 (Φ x) ∧ dec12 (Φ x) = ΦZ (dec12 x) := by
  rw [show x = val12 (lift12R x hx) from rfl, hv]
  exact ⟨red12_val _, hd _⟩

/-- decoding commutes with the implemented final exponentiation; reducedness is kept -/
theorem finalExp_dec (x : F12) (hx : Red12 x) :
    Red12 (Bn256.finalExponentiation x) ∧
    dec12 (Bn256.finalExponentiation x) = finalExponentiationG frobConstsFp uParam (dec12 x) :=
  dec_of_natural finalExp_val (map_finalExponentiationG decHom frobConstsR uParam) x hx

theorem mul_dec (x y : F12) (hx : Red12 x) (hy : Red12 y) :
    Red12 (Fp12.mul x y) ∧ dec12 (Fp12.mul x y) = dec12 x * dec12 y := by
  have ex : x = val12 (lift12R x hx) := rfl
  have ey : y = val12 (lift12R y hy) := rfl
  rw [ex, ey, ← Fp12.map_mul' valHom]
  refine ⟨red12_val _, ?_⟩
  rw [dec12_val, dec12_val, dec12_val]
  exact Fp12.map_mul' decHom _ _

theorem one_dec : Red12 (Fp12.one : F12) ∧ dec12 (Fp12.one : F12) = 1 := by
  have e : (Fp12.one : F12) = val12 (Fp12.one : Fp12 GFpR) := (Fp12.map_one' valHom).symm
  rw [e]
  exact ⟨red12_val _, by rw [dec12_val]; exact Fp12.map_one' decHom⟩

theorem dec12_inj (x y : F12) (hx : Red12 x) (hy : Red12 y) (h : dec12 x = dec12 y) : x = y := by
  have ex : x = val12 (lift12R x hx) := rfl
  have ey : y = val12 (lift12R y hy) := rfl
  rw [ex, ey] at h ⊢
  rw [dec12_val, dec12_val] at h
  rw [Fp12.map_inj decHom h]

/-- **the implemented final exponentiation is multiplicative** on reduced gfP12 values -/
theorem finalExp_concrete_mul (x y : F12) (hx : Red12 x) (hy : Red12 y) :
    Bn256.finalExponentiation (Fp12.mul x y) =
      Fp12.mul (Bn256.finalExponentiation x) (Bn256.finalExponentiation y) := by
  obtain ⟨rxy, dxy⟩ := mul_dec x y hx hy
  obtain ⟨r1, d1⟩ := finalExp_dec _ rxy
  obtain ⟨rx, dx⟩ := finalExp_dec x hx
  obtain ⟨ry, dy⟩ := finalExp_dec y hy
  obtain ⟨r2, d2⟩ := mul_dec _ _ rx ry
  apply dec12_inj _ _ r1 r2
  rw [d1, dxy, d2, dx, dy]
  exact finalExp_mul frobConstsFp frobConstsFp_good uParam _ _

/-! ### the implemented PairingCheck -/

theorem optimalAte_of_inf {a : G2J} {b : G1J} (h : (a.isInfinity || b.isInfinity) = true) :
    optimalAte a b = Fp12.one := by
  simp only [optimalAte, h, if_true]

theorem optimalAte_of_fin {a : G2J} {b : G1J} (h : ¬ (a.isInfinity || b.isInfinity) = true) :
    optimalAte a b = Bn256.finalExponentiation (miller a b) := by
  simp only [optimalAte, h, Bool.false_eq_true, if_false]

/-- **PairingCheck, concrete**: if the Miller values are reduced, the implemented check is true exactly when the
product in F_p¹² of the decoded pairing values `optimalAte(q, p)` is one — identities at any position included -/
theorem pairingCheck_concrete (ps : List (G1J × G2J)) (hm : ∀ pq ∈ ps, Red12 (miller pq.2 pq.1)) :
    pairingCheck ps = true ↔ (ps.map fun pq => dec12 (optimalAte pq.2 pq.1)).prod = 1 := by
  obtain ⟨r1, d1⟩ := one_dec
  -- the accumulator stays reduced and decodes to the product accumulated over F_p¹²
  obtain ⟨rf, df⟩ := List.foldl_rel (l := ps) (r := fun (x : F12) (y : Fp12 (ZMod p)) => Red12 x ∧ dec12 x = y)
    (f := fun acc pq => if pq.1.isInfinity || pq.2.isInfinity then acc else Fp12.mul acc (miller pq.2 pq.1))
    (g := fun acc pq => if pq.1.isInfinity || pq.2.isInfinity then acc else acc * dec12 (miller pq.2 pq.1))
    one_dec (fun pq hpq c c' hc => by
      split
      · exact hc
      · obtain ⟨r, d⟩ := mul_dec c _ hc.1 (hm pq hpq)
        exact ⟨r, by rw [d, hc.2]⟩)
  obtain ⟨re, de⟩ := finalExp_dec _ rf
  have hcheck : pairingCheck ps = true ↔
      Bn256.finalExponentiation (ps.foldl (fun acc pq => if pq.1.isInfinity || pq.2.isInfinity then acc
        else Fp12.mul acc (miller pq.2 pq.1)) Fp12.one) = Fp12.one := by
    simp only [pairingCheck, pairingCheckAbs, Fp12.isOne, decide_eq_true_eq]
  rw [hcheck]
  have hmap : (ps.map fun pq => if pq.1.isInfinity || pq.2.isInfinity then (1 : Fp12 (ZMod p))
        else finalExponentiationG frobConstsFp uParam (dec12 (miller pq.2 pq.1))) =
      ps.map fun pq => dec12 (optimalAte pq.2 pq.1) := by
    apply List.map_congr_left
    intro pq hpq
    by_cases hi : (pq.1.isInfinity || pq.2.isInfinity) = true
    · have : optimalAte pq.2 pq.1 = Fp12.one := optimalAte_of_inf (by rw [Bool.or_comm]; exact hi)
      simp only [hi, if_true, this, d1]
    · have : optimalAte pq.2 pq.1 = Bn256.finalExponentiation (miller pq.2 pq.1) :=
        optimalAte_of_fin (by rw [Bool.or_comm]; exact hi)
      simp only [hi, Bool.false_eq_true, if_false, this]
      exact ((finalExp_dec _ (hm pq hpq)).2).symm
  have key := pairing_fold (fun (a : G1J) => a.isInfinity) (fun (b : G2J) => b.isInfinity)
    (fun q p => dec12 (miller q p)) (finalExpHom frobConstsFp frobConstsFp_good uParam) ps 1
  simp only [finalExpHom_apply, finalExp_one _ frobConstsFp_good, one_mul] at key
  have hdec : dec12 (Bn256.finalExponentiation (ps.foldl (fun acc pq =>
      if pq.1.isInfinity || pq.2.isInfinity then acc else Fp12.mul acc (miller pq.2 pq.1)) Fp12.one)) =
      (ps.map fun pq => dec12 (optimalAte pq.2 pq.1)).prod := by
    rw [de, df, key, hmap]
  constructor
  · intro h
    rw [← hdec, h, d1]
  · intro h
    apply dec12_inj _ _ re r1
    rw [hdec, h, d1]

end Dos.Bn256
