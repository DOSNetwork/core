/-
C12 — key generation: exchangePub, genDistKeyGenerator with the pigeonhole argument, ProcessDeal /
ProcessResponse with the invariant `GoodVers` that `DistKeyShare` relies on, honest deals after any history,
the session layer of pdkg.Loop with its invariant `SessInv`: under it each handler does to the state what `vstep`
does to the view of the event's session (`Sim`).
-/
import DosModel.Proofs.Handlers

namespace Dos.Handlers

/-- a batch that does not go through ends in an `err`, never in what looks like a hand-over -/
theorem xpubBatch_err (n : Nat) : ∀ (b : List Elem) (k : Nat),
    Errs (fun o => o.isPanic = false ∧ ∀ i, o ≠ .ok i) (xpubBatch Cfg.all n b k)
  | [], _ => by simp [xpubBatch]
  | .other :: _, _ => by simp [xpubBatch]
  | .good idx sender hasKey :: r, k => by cases hasKey <;> simp [xpubBatch, xpubBatch_err n r]

theorem xpubLoop_total (n : Nat) (bs : List (List Elem)) : ∀ k, (xpubLoop Cfg.all n bs k).isPanic = false := by
  induction bs with
  | nil => intro k; rfl
  | cons b r ih =>
    intro k
    simp only [xpubLoop]
    cases h : xpubBatch Cfg.all n b k with
    | error o => exact (xpubBatch_err n b k o h).1
    | ok k' =>
      simp only
      split
      · rfl
      · exact ih k'

theorem exchangePub_total (n : Nat) (self : Elem) (bs : List (List Elem)) : (exchangePub Cfg.all n self bs).isPanic = false := by
  cases self with
  | other => simp [exchangePub]
  | good i sd hk => exact xpubLoop_total n bs 1

/-- what exchangePub hands on has exactly `n` keys -/
theorem xpubLoop_count (n : Nat) (bs : List (List Elem)) : ∀ k i, xpubLoop Cfg.all n bs k = .ok i → i = toString n := by
  induction bs with
  | nil => intro k i h; simp [xpubLoop] at h
  | cons b r ih =>
    intro k i h
    simp only [xpubLoop] at h
    cases hb : xpubBatch Cfg.all n b k with
    | error o =>
      rw [hb] at h; simp only at h
      exact absurd h ((xpubBatch_err n b k o hb).2 i)
    | ok k' =>
      rw [hb] at h; simp only at h
      split at h
      · next e => cases h; rw [e]
      · exact ih k' i h

def filled (sl : Slots) : Nat := sl.countP Option.isSome

theorem setSlot_length (sl : Slots) : ∀ i k, (setSlot sl i k).length = sl.length := by
  induction sl with
  | nil => intro i k; rfl
  | cons x r ih => intro i k; cases i <;> simp [setSlot, ih]

theorem getSlot_lt (sl : Slots) : ∀ i, i < sl.length → getSlot sl i ≠ none := by
  induction sl with
  | nil => intro i h; simp at h
  | cons x r ih => intro i h; cases i with
    | zero => simp [getSlot]
    | succ j => simp [getSlot]; exact ih j (by simpa using h)

theorem filled_setSlot (sl : Slots) : ∀ i k, getSlot sl i = some none → filled (setSlot sl i k) = filled sl + 1 := by
  induction sl with
  | nil => intro i k h; simp [getSlot] at h
  | cons x r ih =>
    intro i k h
    cases i with
    | zero =>
      simp [getSlot] at h; subst h
      simp [setSlot, filled]
    | succ j =>
      simp [getSlot] at h
      have := ih j k h
      simp [setSlot, filled, List.countP_cons] at this ⊢
      omega

/-- the loop never panics with the guard on, and every accepted key fills one empty slot -/
theorem gdkgLoop_spec (pubs : List PubMsg) : ∀ sl,
    (∀ o, gdkgLoop Cfg.all pubs sl = .error o → o.isPanic = false) ∧
    (∀ sl', gdkgLoop Cfg.all pubs sl = .ok sl' → sl'.length = sl.length ∧ filled sl' = filled sl + pubs.length) := by
  induction pubs with
  | nil => intro sl; simp [gdkgLoop]
  | cons p ps ih =>
    intro sl
    unfold gdkgLoop
    by_cases hg : (p.key.isNone || decide (p.idx ≥ sl.length)) = true
    · simp [hg]
    · simp only [all_gdkgGuard, Bool.true_and, hg]
      have hidx : p.idx < sl.length := by
        simp at hg; omega
      cases hs : getSlot sl p.idx with
      | none => exact absurd hs (getSlot_lt sl p.idx hidx)
      | some x =>
        cases x with
        | some k => simp
        | none =>
          cases hk : p.key with
          | none => simp [hk] at hg
          | some k =>
            -- an accepted key (any tag but `garbage`) that no slot holds yet fills the empty slot `p.idx`
            have acc : (∀ o, (if sl.contains (some k) then .error (.err "dupkey") else gdkgLoop Cfg.all ps (setSlot sl p.idx k))
                  = Except.error o → o.isPanic = false) ∧
                ∀ sl', (if sl.contains (some k) then .error (.err "dupkey") else gdkgLoop Cfg.all ps (setSlot sl p.idx k))
                  = Except.ok sl' → sl'.length = sl.length ∧ filled sl' = filled sl + (ps.length + 1) := by
              split
              · exact ⟨fun o h => by cases h; rfl, fun sl' h => by cases h⟩
              · have := ih (setSlot sl p.idx k)
                rw [setSlot_length, filled_setSlot sl p.idx _ hs] at this
                exact ⟨this.1, fun sl' h => by have := this.2 sl' h; omega⟩
            cases k with
            | garbage => simp
            | own => exact acc
            | peer j => exact acc
            | identity => exact acc

theorem findOwn_full (sl : Slots) (h : ∀ x ∈ sl, x.isSome = true) : ∀ o, findOwn sl ≠ .error o := by
  induction sl with
  | nil => intro o; simp [findOwn]
  | cons x r ih =>
    intro o
    cases x with
    | none => have := h none (by simp); simp at this
    | some k =>
      have ih' := ih (fun y hy => h y (by simp [hy])) o
      cases k <;> simp [findOwn] <;> exact ih'

theorem newDkg_full (sl : Slots) (h : ∀ x ∈ sl, x.isSome = true) : (newDkg sl).isPanic = false := by
  unfold newDkg
  cases hf : findOwn sl with
  | error o => exact absurd hf (findOwn_full sl h o)
  | ok b =>
    cases b with
    | false => rfl
    | true =>
      simp only
      split
      · rfl
      · have : sl.any Option.isNone = false := by
          rw [List.any_eq_false]; intro x hx; have hh := h x hx; cases x <;> simp at hh ⊢
        simp [this]

/-- **genDistKeyGenerator never panics on the `n` keys exchangePub hands over**, whatever their
indices and key fields: an index ≥ n or a missing key is an error, and `n` accepted keys with distinct
indices below `n` leave no participant slot empty (pigeonhole), so `NewDistKeyGenerator` /
`vss.NewDealer` never call a method of a nil point. -/
theorem genDkg_total (n : Nat) (pubs : List PubMsg) (hlen : pubs.length = n) : (genDkg Cfg.all n pubs).isPanic = false := by
  unfold genDkg
  have sp := gdkgLoop_spec pubs (List.replicate n none)
  cases h : gdkgLoop Cfg.all pubs (List.replicate n none) with
  | error o => exact sp.1 o h
  | ok sl =>
    have ⟨hl, hf⟩ := sp.2 sl h
    have h0 : filled (List.replicate n (none : Option KeyTag)) = 0 := by
      simp [filled, List.countP_replicate]
    simp only
    apply newDkg_full
    have : filled sl = sl.length := by rw [hf, h0, hl, hlen]; simp
    exact (List.countP_eq_length.mp this)

theorem decryptDeal_total (e : Option Enc) : NoPanic (decryptDeal Cfg.all e) := by
  cases e <;> simp [decryptDeal]

theorem verifyDeal_total (n : Nat) (p : Plain) (i : Nat) (v : Bool) : NoPanic (verifyDeal Cfg.all n p i v) := by
  cases v <;> simp [verifyDeal]

theorem processEncryptedDeal_total (n me : Nat) (e : Option Enc) : NoPanic (processEncryptedDeal Cfg.all n me e) := by
  unfold processEncryptedDeal
  split
  · next o hd => simpa using decryptDeal_total e o hd
  · simp
  · simp
  · split
    · simp
    · simp [verifyDeal_total]

/-- only a present box opens, to its content -/
theorem decryptDeal_ok (e : Option Enc) (op : Opened) (h : decryptDeal Cfg.all e = .ok op) :
    ∃ enc, e = some enc ∧ enc.opened = op := by
  cases e with
  | none => simp [decryptDeal] at h
  | some enc =>
    -- `guard_eq_ok` / `guard_eq_ok'` read `h` as: the three guards passed, and `enc.opened = op`
    simp [decryptDeal] at h
    exact ⟨enc, rfl, h.2.2.2⟩

/-- when `ProcessEncryptedDeal` answers (approval or complaint), the aggregator it created stores a
deal whose share has a value -/
theorem processEncryptedDeal_stores (n me : Nat) (e : Option Enc) (b : Bool)
    (h : processEncryptedDeal Cfg.all n me e = .ok b) : storedDeal Cfg.all e = some true := by
  unfold processEncryptedDeal at h
  split at h <;> try cases h
  next p hd =>
  obtain ⟨enc, rfl, hop⟩ := decryptDeal_ok e _ hd
  split at h
  · simp at h
  · next i v hs =>
    cases v with
    | false => simp at h
    | true => simp [storedDeal, hop, hs]

theorem verifyResponse_total (n : Nat) (rec : List Nat) (r : VResp) : NoPanic (verifyResponse Cfg.all n rec r) := by
  simp [verifyResponse]

/-- every aggregator the generator holds stores a deal whose share has a value: what `DistKeyShare` relies on -/
def GoodVers (vers : List (Nat × VerSt)) : Prop :=
  ∀ e ∈ vers, ∀ r d, e.2 = .agg r d → d = some true

theorem vlookup_mem (k : Nat) (m : List (Nat × VerSt)) (v : VerSt) (h : vlookup k m = some v) : (k, v) ∈ m := by
  induction m with
  | nil => simp [vlookup] at h
  | cons x r ih =>
    obtain ⟨k', v'⟩ := x
    simp only [vlookup] at h
    split at h
    · next e => cases h; subst e; simp
    · exact List.mem_cons_of_mem _ (ih h)

theorem goodVers_vset (k : Nat) (v : VerSt) (m : List (Nat × VerSt)) (hm : GoodVers m)
    (hv : ∀ r d, v = .agg r d → d = some true) : GoodVers (vset k v m) := by
  intro e he r d hed
  simp only [vset, List.mem_cons, List.mem_filter] at he
  rcases he with he | he
  · subst he; exact hv r d hed
  · exact hm e he.1 r d hed

theorem processDeal_spec (st : DkgSt) (m : DealMsg) :
    (processDeal Cfg.all st m).2.isPanic = false ∧ (GoodVers st.vers → GoodVers (processDeal Cfg.all st m).1.vers) ∧
    (processDeal Cfg.all st m).1.n = st.n ∧ (processDeal Cfg.all st m).1.me = st.me := by
  unfold processDeal
  split
  · simp
  split
  · exact ⟨rfl, id, rfl, rfl⟩
  dsimp only
  cases h : processEncryptedDeal Cfg.all st.n st.me m.enc with
  | error o =>
    exact ⟨processEncryptedDeal_total _ _ _ _ h, fun hg => goodVers_vset _ _ _ hg (by intro r d hh; cases hh), rfl, rfl⟩
  | ok b =>
    exact ⟨by cases b <;> rfl, fun hg => goodVers_vset _ _ _ hg
      (by intro r d hh; cases hh; exact processEncryptedDeal_stores _ _ _ _ h), rfl, rfl⟩

theorem processResponse_spec (st : DkgSt) (m : RespMsg) :
    (processResponse Cfg.all st m).2.isPanic = false ∧
      (GoodVers st.vers → GoodVers (processResponse Cfg.all st m).1.vers) ∧
      (processResponse Cfg.all st m).1.n = st.n ∧ (processResponse Cfg.all st m).1.me = st.me := by
  unfold processResponse
  cases hr : m.resp with
  | none => simp
  | some r =>
    cases hv : vlookup m.idx st.vers with
    | none => simp
    | some v =>
      cases v with
      | noAgg => simp
      | agg rec dl =>
        -- the aggregator found keeps its deal, whatever responses it records
        have g1 : ∀ rec', GoodVers st.vers → GoodVers (vset m.idx (.agg rec' dl) st.vers) := fun rec' hg =>
          goodVers_vset _ _ _ hg (by intro r d hh; cases hh; exact hg _ (vlookup_mem _ _ _ hv) rec dl rfl)
        simp only [all_respNil, Option.isNone_some, Bool.and_false, Bool.false_eq_true, if_false]
        cases h1 : verifyResponse Cfg.all st.n rec r with
        | error o => exact ⟨verifyResponse_total _ _ _ _ h1, id, rfl, rfl⟩
        | ok rec' =>
          dsimp only
          split
          · exact ⟨rfl, g1 rec', rfl, rfl⟩
          · cases h2 : verifyResponse Cfg.all st.n st.dealerResps r with
            | error o => exact ⟨verifyResponse_total _ _ _ _ h2, g1 rec', rfl, rfl⟩
            | ok d => exact ⟨by simp, g1 rec', rfl, rfl⟩

/-- one deal or response: no panic, `GoodVers` is kept; group size and own index, set when the generator is built,
are not touched -/
theorem dkgStep_spec (st : DkgSt) (op : DkgOp) :
    (dkgStep Cfg.all st op).2.isPanic = false ∧ (GoodVers st.vers → GoodVers (dkgStep Cfg.all st op).1.vers) ∧
    (dkgStep Cfg.all st op).1.n = st.n ∧ (dkgStep Cfg.all st op).1.me = st.me := by
  cases op with
  | deal m => exact processDeal_spec st m
  | resp m => exact processResponse_spec st m

theorem dkgRun_good (ops : List DkgOp) (st : DkgSt) (hg : GoodVers st.vers) : GoodVers (dkgRun Cfg.all st ops).1.vers := by
  rw [dkgRun_eq]
  exact (runLoop_inv _ (fun st => GoodVers st.vers) (fun _ => True) ops
    (fun st op _ h => ⟨(dkgStep_spec st op).2.1 h, trivial⟩) st hg).1

theorem distKeyShare_good (st : DkgSt) (hg : GoodVers st.vers) : (distKeyShare st).isPanic = false := by
  have h : ∀ e ∈ st.vers, e.2.noDeal = false ∧ e.2.noValue = false := by
    intro e he
    cases hv : e.2 with
    | noAgg => exact ⟨rfl, rfl⟩
    | agg r d => cases hg e he r d hv; exact ⟨rfl, rfl⟩
  have h1 : st.vers.any (fun e => e.2.noDeal) = false := List.any_eq_false.mpr fun e he => by simp [(h e he).1]
  have h2 : st.vers.any (fun e => e.2.noValue) = false := List.any_eq_false.mpr fun e he => by simp [(h e he).2]
  simp [distKeyShare, h1, h2]

theorem goodVers_init (n me : Nat) : GoodVers (DkgSt.init n me).vers := by
  intro e he r d hh
  simp [DkgSt.init] at he
  subst he
  cases hh; rfl

theorem dkgRun_total (ops : List DkgOp) (st : DkgSt) : ∀ o ∈ (dkgRun Cfg.all st ops).2, o.isPanic = false := by
  rw [dkgRun_eq]
  exact (runLoop_inv _ (fun _ => True) (·.isPanic = false) ops
    (fun st op _ _ => ⟨trivial, (dkgStep_spec st op).1⟩) st trivial).2

/-- what `ProcessDeal` does with an honest deal from a member that has no verifier yet -/
theorem honest_deal_eq (st : DkgSt) (idx t : Nat) (hidx : idx < st.n) (hnew : vlookup idx st.vers = none)
    (ht : validT t st.n = true) (hme : st.me < st.n) :
    processDeal Cfg.all st (honestDeal idx st.me t) =
      ({ st with vers := vset idx (.agg [st.me, idx].eraseDups (some true)) st.vers }, .ok "approval") := by
  have h1 : ¬ (idx ≥ st.n) := by omega
  have h2 : ¬ (st.me ≥ st.n) := by omega
  simp [honestDeal, processDeal, h1, hnew, processEncryptedDeal, decryptDeal, verifyDeal, ht, h2, storedDeal]

/-- keeps serving: whatever happened before, an honest deal from a member that has no verifier yet is approved -/
theorem honest_deal_served (st : DkgSt) (idx t : Nat) (hidx : idx < st.n) (hnew : vlookup idx st.vers = none)
    (ht : validT t st.n = true) (hme : st.me < st.n) :
    (processDeal Cfg.all st (honestDeal idx st.me t)).2 = .ok "approval" := by
  rw [honest_deal_eq st idx t hidx hnew ht hme]

theorem dkgRun_n_me (ops : List DkgOp) (st : DkgSt) :
    (dkgRun Cfg.all st ops).1.n = st.n ∧ (dkgRun Cfg.all st ops).1.me = st.me := by
  rw [dkgRun_eq]
  exact (runLoop_inv _ (fun s => s.n = st.n ∧ s.me = st.me) (fun _ => True) ops
    (fun s op _ h => ⟨⟨(dkgStep_spec s op).2.2.1.trans h.1, (dkgStep_spec s op).2.2.2.trans h.2⟩, trivial⟩) st ⟨rfl, rfl⟩).1

/-- keeps serving within one session: after ANY history of deals and responses an honest deal from a member that has
no verifier yet is approved -/
theorem honest_deal_served_after (st : DkgSt) (ops : List DkgOp) (idx t : Nat) (hidx : idx < st.n) (hme : st.me < st.n)
    (ht : validT t st.n = true) (hnew : vlookup idx (dkgRun Cfg.all st ops).1.vers = none) :
    (processDeal Cfg.all (dkgRun Cfg.all st ops).1 (honestDeal idx st.me t)).2 = .ok "approval" := by
  obtain ⟨hn, hm⟩ := dkgRun_n_me ops st
  have := honest_deal_served (dkgRun Cfg.all st ops).1 idx t (hn ▸ hidx) hnew (hn ▸ ht) (by rw [hn, hm]; exact hme)
  rwa [hm] at this

theorem vlookup_filter_ne (k k' : Nat) (h : k' ≠ k) (m : List (Nat × VerSt)) :
    vlookup k (m.filter (fun e => e.1 != k')) = vlookup k m := by
  induction m with
  | nil => rfl
  | cons x r ih =>
    obtain ⟨a, v⟩ := x
    by_cases e : a = k'
    · subst e; simp [vlookup, h, ih]
    · by_cases e2 : a = k <;> simp [vlookup, e, e2, ih, Ne.symm h]

theorem vlookup_vset_ne (k k' : Nat) (h : k' ≠ k) (v : VerSt) (m : List (Nat × VerSt)) :
    vlookup k (vset k' v m) = vlookup k m := by
  simp only [vset, vlookup, h, if_false]
  exact vlookup_filter_ne k k' h m

theorem honest_deal_step (st : DkgSt) (idx t : Nat) (hidx : idx < st.n) (hnew : vlookup idx st.vers = none)
    (ht : validT t st.n = true) (hme : st.me < st.n) :
    (processDeal Cfg.all st (honestDeal idx st.me t)).2 = .ok "approval" ∧
    (processDeal Cfg.all st (honestDeal idx st.me t)).1.n = st.n ∧
    (processDeal Cfg.all st (honestDeal idx st.me t)).1.me = st.me ∧
    ∀ k, k ≠ idx → vlookup k (processDeal Cfg.all st (honestDeal idx st.me t)).1.vers = vlookup k st.vers := by
  rw [honest_deal_eq st idx t hidx hnew ht hme]
  exact ⟨rfl, rfl, rfl, fun k hk => vlookup_vset_ne k idx (Ne.symm hk) _ _⟩

/-- all honest deals of a list of distinct dealers that have not dealt yet are approved, one after the other -/
theorem honest_deals_run (t : Nat) (dealers : List Nat) : ∀ st : DkgSt, st.me < st.n → validT t st.n = true →
    dealers.Nodup → (∀ i ∈ dealers, i < st.n ∧ vlookup i st.vers = none) →
    ∀ o ∈ (dkgRun Cfg.all st (dealers.map (fun i => .deal (honestDeal i st.me t)))).2, o = .ok "approval" := by
  induction dealers with
  | nil => intro st _ _ _ _ o ho; simp [dkgRun] at ho
  | cons i r ih =>
    intro st hme ht hnd hall o ho
    have hi := hall i (by simp)
    have stp := honest_deal_step st i t hi.1 hi.2 ht hme
    simp only [List.map_cons, dkgRun, dkgStep] at ho
    rcases List.mem_cons.mp ho with ho | ho
    · rw [ho]; exact stp.1
    · have hnd' := (List.nodup_cons.mp hnd)
      have := ih (processDeal Cfg.all st (honestDeal i st.me t)).1 (by rw [stp.2.1, stp.2.2.1]; exact hme)
        (by rw [stp.2.1]; exact ht) hnd'.2
        (fun j hj => by
          have hj' := hall j (List.mem_cons_of_mem _ hj)
          have hne : j ≠ i := fun e => hnd'.1 (e ▸ hj)
          rw [stp.2.1, stp.2.2.2 j hne]; exact hj')
      rw [stp.2.2.1] at this
      exact this o ho

def chans (s : Sess) : List Nat := s.req.map (fun e => e.2.chan)

/-- what excludes the double close: the reply channel of every registration in the map is open (`open_`) and is
no other registration's (`nodup`), so closing one and deleting its entry leaves the others open; `lt` and
`closedLt` make the channel `handleRequest` allocates (`s.next`) fresh on both counts -/
structure SessInv (s : Sess) : Prop where
  lt : ∀ c ∈ chans s, c < s.next
  open_ : ∀ c ∈ chans s, c ∉ s.closed
  nodup : (chans s).Nodup
  closedLt : ∀ c ∈ s.closed, c < s.next
  alive : s.alive = true

theorem aerase_sublist {β : Type} (k : String) (m : List (String × β)) : (aerase k m).Sublist m := by
  induction m with
  | nil => exact List.Sublist.slnil
  | cons e r ih =>
    obtain ⟨k', v⟩ := e
    simp only [aerase]
    split
    · exact List.Sublist.cons _ ih
    · exact List.Sublist.cons_cons _ ih

theorem aerase_key {β : Type} (k : String) (m : List (String × β)) : ∀ e ∈ aerase k m, e.1 ≠ k := by
  induction m with
  | nil => intro e h; simp [aerase] at h
  | cons x r ih =>
    obtain ⟨k', v⟩ := x
    intro e h
    simp only [aerase] at h
    split at h
    · exact ih e h
    · next hne =>
      rcases List.mem_cons.mp h with h | h
      · subst h; exact hne
      · exact ih e h

theorem alookup_mem {β : Type} (k : String) (m : List (String × β)) (v : β) (h : alookup k m = some v) : (k, v) ∈ m := by
  induction m with
  | nil => simp [alookup] at h
  | cons x r ih =>
    obtain ⟨k', v'⟩ := x
    simp only [alookup] at h
    split at h
    · next e => cases h; subst e; simp
    · exact List.mem_cons_of_mem _ (ih h)

theorem nodup_map_inj {α β : Type} (f : α → β) (l : List α) (h : (l.map f).Nodup) :
    ∀ a ∈ l, ∀ b ∈ l, f a = f b → a = b := by
  induction l with
  | nil => intro a ha; simp at ha
  | cons x r ih =>
    simp only [List.map_cons, List.nodup_cons] at h
    intro a ha b hb e
    rcases List.mem_cons.mp ha with h1 | h1 <;> rcases List.mem_cons.mp hb with h2 | h2
    · rw [h1, h2]
    · subst h1; exact absurd (e ▸ List.mem_map_of_mem (f := f) h2) h.1
    · subst h2; exact absurd (e ▸ List.mem_map_of_mem (f := f) h1) h.1
    · exact ih h.2 a h1 b h2 e

theorem alookup_aerase_ne {β : Type} (k k' : String) (h : k' ≠ k) (m : List (String × β)) :
    alookup k (aerase k' m) = alookup k m := by
  induction m with
  | nil => rfl
  | cons x r ih =>
    obtain ⟨a, v⟩ := x
    by_cases e : a = k'
    · subst e; simp [aerase, alookup, h, ih]
    · by_cases e2 : a = k <;> simp [aerase, alookup, e, e2, ih, Ne.symm h]

theorem alookup_ainsert_ne {β : Type} (k k' : String) (h : k' ≠ k) (v : β) (m : List (String × β)) :
    alookup k (ainsert k' v m) = alookup k m := by
  simp only [ainsert, alookup, h, if_false]
  exact alookup_aerase_ne k k' h m

theorem alookup_aerase_self {β : Type} (k : String) (m : List (String × β)) : alookup k (aerase k m) = none := by
  induction m with
  | nil => rfl
  | cons x r ih => by_cases e : x.1 = k <;> simp [aerase, alookup, e, ih]

theorem alookup_ainsert_self {β : Type} (k : String) (v : β) (m : List (String × β)) : alookup k (ainsert k v m) = some v := by
  simp [ainsert, alookup]

theorem vstep_noPanic (v : View) (e : SessEv) : (vstep v e).2.isPanic = false := by
  cases e with
  | msg sid it =>
    simp only [vstep]
    split
    · rfl
    · split
      · rfl
      · split <;> rfl
  | req sid num => simp only [vstep]; split <;> rfl
  | expire d => rfl

/-- `r1`, the new state and the answer of a handler on `s`, is for session `sid` what `r` is for its view alone: the
invariant is kept, `sid` now sees `r.1` and is answered `r.2`, every other session sees what it saw -/
structure Sim (sid : String) (s : Sess) (r : View × Out) (r1 : Sess × Out) : Prop where
  inv : SessInv r1.1
  own : view sid r1.1 = r.1
  out : r1.2 = r.2
  frame : ∀ s', sid ≠ s' → view s' r1.1 = view s' s

theorem Sim.refl {s : Sess} (inv : SessInv s) (sid : String) (o : Out) : Sim sid s (view sid s, o) (s, o) :=
  ⟨inv, rfl, rfl, fun _ _ => rfl⟩

theorem Sim.trans {sid : String} {s : Sess} {r r' : View × Out} {r1 r2 : Sess × Out} (h1 : Sim sid s r r1)
    (h2 : Sim sid r1.1 r' r2) : Sim sid s r' r2 :=
  ⟨h2.inv, h2.own, h2.out, fun s' h => (h2.frame s' h).trans (h1.frame s' h)⟩

theorem Sim.noPanic {sid : String} {s : Sess} {v : View} {e : SessEv} {r1 : Sess × Out} (h : Sim sid s (vstep v e) r1) :
    r1.2.isPanic = false := h.out ▸ vstep_noPanic v e

/-- a message goes into the buffer of `sid` -/
theorem sim_buf {s : Sess} (inv : SessInv s) (sid : String) (c : List Item) (o : Out) :
    Sim sid s (⟨c, (view sid s).num⟩, o) ({ s with buf := ainsert sid c s.buf }, o) :=
  ⟨⟨inv.lt, inv.open_, inv.nodup, inv.closedLt, inv.alive⟩, by simp [view, alookup_ainsert_self], rfl,
    fun s' h => by simp [view, alookup_ainsert_ne s' sid h]⟩

/-- a registration: its reply channel is the next fresh one -/
theorem sim_req {s : Sess} (inv : SessInv s) (sid : String) (num : Int) (o : Out) :
    Sim sid s (⟨(view sid s).cur, some num⟩, o)
      ({ s with req := ainsert sid { num := num, chan := s.next } s.req, next := s.next + 1 }, o) := by
  have sub : ((aerase sid s.req).map (fun e => e.2.chan)).Sublist (chans s) := (aerase_sublist sid s.req).map _
  refine ⟨⟨?_, ?_, ?_, ?_, inv.alive⟩, by simp [view, alookup_ainsert_self], rfl,
    fun s' h => by simp [view, alookup_ainsert_ne s' sid h]⟩
  · intro c h
    simp only [chans, ainsert, List.map_cons, List.mem_cons] at h
    rcases h with h | h
    · subst h; simp
    · have := inv.lt c (sub.subset h); simp; omega
  · intro c h
    simp only [chans, ainsert, List.map_cons, List.mem_cons] at h
    rcases h with h | h
    · subst h; intro hc; exact absurd (inv.closedLt _ hc) (by simp)
    · exact inv.open_ c (sub.subset h)
  · simp only [chans, ainsert, List.map_cons, List.nodup_cons]
    exact ⟨fun h => absurd (inv.lt _ (sub.subset h)) (by simp), inv.nodup.sublist sub⟩
  · intro c h; have := inv.closedLt c h; simp; omega

/-- a completion: the reply channel of the registration found under `sid` is open by the invariant, so it is closed
once; the entry and the buffer go -/
theorem sim_fire {s : Sess} (inv : SessInv s) {sid : String} {r : Req} (hr : (sid, r) ∈ s.req) (k : Nat) (site : String) :
    Sim sid s (⟨[], none⟩, .ok s!"fire {k}") (fire s sid r k site) := by
  have hc : r.chan ∈ chans s := List.mem_map.mpr ⟨(sid, r), hr, rfl⟩
  simp only [fire, inv.open_ _ hc, if_false]
  have sub : (chans { s with buf := aerase sid s.buf, req := aerase sid s.req, closed := r.chan :: s.closed }).Sublist (chans s) :=
    (aerase_sublist sid s.req).map _
  refine ⟨⟨fun c h => inv.lt c (sub.subset h), fun c h => ?_, inv.nodup.sublist sub, fun c h => ?_, inv.alive⟩,
    by simp [view, alookup_aerase_self], rfl, fun s' h => by simp [view, alookup_aerase_ne s' sid h]⟩
  · simp only [List.mem_cons, not_or]
    refine ⟨?_, inv.open_ c (sub.subset h)⟩
    -- c belongs to an entry with another key, r to the entry with key sid: different entries, so different channels
    obtain ⟨e, he, hce⟩ := List.mem_map.mp h
    have hem : e ∈ s.req := (aerase_sublist sid s.req).subset he
    intro heq
    have := nodup_map_inj (fun e : String × Req => e.2.chan) s.req inv.nodup e hem (sid, r) hr (by simp [hce, heq])
    exact aerase_key sid s.req e he (this ▸ rfl)
  · rcases List.mem_cons.mp h with h | h
    · subst h; exact inv.lt _ hc
    · exact inv.closedLt c h

/-- with `peerRespNil` on no `Response` of a response without sub-message is read -/
theorem respDeref_all (cur : List Item) (it : Item) : respDeref Cfg.all cur it = false := by
  cases it <;> simp [respDeref]
  next d r => cases r <;> simp

/-- `handlePeerMsg` does to the state what `vstep` does to the view of the message's session, and answers the same -/
theorem handlePeerMsg_sim {s : Sess} (inv : SessInv s) (sid : String) (it : Item) :
    Sim sid s (vstep (view sid s) (.msg sid it)) (handlePeerMsg Cfg.all s sid it) := by
  simp only [handlePeerMsg, respDeref_all, Bool.false_eq_true, if_false, vstep, view, all_peerClean, fireC_all]
  by_cases hdup : isDup ((alookup sid s.buf).getD []) it = true
  · simp only [hdup, if_true]
    exact Sim.refl inv sid _
  simp only [hdup, Bool.false_eq_true, if_false]
  have buf := sim_buf inv sid ((alookup sid s.buf).getD [] ++ [it])
  simp only [view] at buf
  cases hl : alookup sid s.req with
  | none =>
    -- the zero-value request is never selected: the buffer has at least one element after the append
    have : ¬ (((((alookup sid s.buf).getD [] ++ [it]).length : Nat) : Int) = 0) := by simp; omega
    simp only [hl, Option.map_none, this, if_false] at buf ⊢
    exact buf _
  | some r =>
    simp only [hl, Option.map_some] at buf ⊢
    by_cases hk : ((((alookup sid s.buf).getD [] ++ [it]).length : Nat) : Int) = r.num
    · simp only [hk, if_true]
      -- buffered, then fired; what the state in between would have answered plays no part
      exact (buf .dropped).trans (sim_fire (buf .dropped).inv (alookup_mem sid s.req r hl) _ _)
    · simp only [hk, if_false]
      exact buf _

theorem handleRequest_sim {s : Sess} (inv : SessInv s) (sid : String) (num : Int) :
    Sim sid s (vstep (view sid s) (.req sid num)) (handleRequest Cfg.all s sid num) := by
  have reg := sim_req inv sid num
  simp only [handleRequest, vstep, view, all_reqClean, fireC_all] at reg ⊢
  by_cases hk : ((((alookup sid s.buf).getD []).length : Nat) : Int) = num
  · simp only [hk, if_true]
    exact (reg .dropped).trans (sim_fire (reg .dropped).inv (by simp [ainsert]) _ _)
  · simp only [hk, if_false]
    exact reg _

/-- the expiry sweep closes only channels of registrations that are in the map, whose channel is open by the
invariant: never a double close, whatever ids are reported done and in whatever order; a session that is not
reported done sees nothing of it -/
theorem expire_inv (done : List String) : ∀ (s : Sess) (k : Nat), SessInv s →
    SessInv (expire Cfg.all s done k).1 ∧ (expire Cfg.all s done k).2.isPanic = false ∧
    ∀ s', done.contains s' = false → view s' (expire Cfg.all s done k).1 = view s' s := by
  induction done with
  | nil => exact fun s k inv => ⟨inv, rfl, fun _ _ => rfl⟩
  | cons sid rest ih =>
    intro s k inv
    simp only [expire, all_expClean, fireC_all, List.contains_cons, Bool.or_eq_false_iff, beq_eq_false_iff_ne]
    cases hl : alookup sid s.req with
    | none => exact ⟨(ih s k inv).1, (ih s k inv).2.1, fun s' h => (ih s k inv).2.2 s' h.2⟩
    | some r =>
      have mv := sim_fire inv (alookup_mem sid s.req r hl) 0 "dkg.pdkg.Loop|close|close(req.reply)"
      dsimp only
      generalize fire s sid r 0 _ = p at mv ⊢
      obtain ⟨s1, o⟩ := p
      cases mv.out
      have := ih s1 (k + 1) mv.inv
      exact ⟨this.1, this.2.1, fun s' h => (this.2.2 s' h.2).trans (mv.frame s' (Ne.symm h.1))⟩

/-- one event keeps the invariant, is not answered with a panic, and is not seen by the sessions it does not concern -/
theorem sessStep_inv (s : Sess) (e : SessEv) (inv : SessInv s) :
    SessInv (sessStep Cfg.all s e).1 ∧ (sessStep Cfg.all s e).2.isPanic = false ∧
    ∀ s', touches s' e = false → view s' (sessStep Cfg.all s e).1 = view s' s := by
  cases e with
  | msg sid it =>
    have h := handlePeerMsg_sim inv sid it
    simp only [sessStep, inv.alive, if_true, touches, beq_eq_false_iff_ne]
    exact ⟨h.inv, h.noPanic, h.frame⟩
  | req sid num =>
    have h := handleRequest_sim inv sid num
    simp only [sessStep, inv.alive, if_true, touches, beq_eq_false_iff_ne]
    exact ⟨h.inv, h.noPanic, h.frame⟩
  | expire done =>
    simp only [sessStep, inv.alive, if_true, touches]
    exact expire_inv done s 0 inv

theorem sessRun_inv (evs : List SessEv) : ∀ s, SessInv s →
    SessInv (sessRun Cfg.all s evs).1 ∧ ∀ o ∈ (sessRun Cfg.all s evs).2, o.isPanic = false := by
  simp only [sessRun_eq]
  exact runLoop_inv _ SessInv (·.isPanic = false) evs fun s e _ inv => ⟨(sessStep_inv s e inv).1, (sessStep_inv s e inv).2.1⟩

theorem sessInit_inv : SessInv {} := ⟨by simp [chans], by simp [chans], by simp [chans], by simp, rfl⟩

end Dos.Handlers
