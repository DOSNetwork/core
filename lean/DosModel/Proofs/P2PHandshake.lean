import DosModel.Model.P2PHandshake

/-! The ideal Diffie–Hellman point of `Model/P2PHandshake.lean` is the unordered pair of its two secrets. -/
namespace Dos.P2PHandshake

theorem dh_comm (a b : Nat) : dh a b = dh b a := by
  unfold dh
  by_cases h1 : a ≤ b <;> by_cases h2 : b ≤ a <;> simp only [h1, h2, if_true, if_false]
  · cases Nat.le_antisymm h1 h2; rfl
  · omega

theorem knows_dh (secrets : List Nat) (a b : Nat) : Knows secrets (dh a b) ↔ a ∈ secrets ∨ b ∈ secrets := by
  unfold Knows dh
  split
  · exact Iff.rfl
  · exact or_comm

theorem dh_left_inj {a b c : Nat} (h : dh a b = dh a c) : b = c := by
  unfold dh at h
  split at h <;> split at h <;> simp only [DHPoint.mk.injEq] at h <;> omega

end Dos.P2PHandshake
