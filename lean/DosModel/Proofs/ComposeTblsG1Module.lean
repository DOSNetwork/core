/-
Composition helper: the driver's concrete threshold-BLS instance (scalars `Zq r`, points `G1.Pt`,
codec `g1Codec` of `Model/TblsDrv.lean`) related to an abstract module so that the C02/C03 theorems apply
to the functions the driver RUNS.

* `E = E(F_p)` (Mathlib's `WeierstrassCurve.Affine.Point` for `y² = x³ + 3`) is an `AddCommGroup` by
  Mathlib; under the hypothesis `hr : ∀ P : E, r • P = 0` (the curve group has exponent `r`, i.e.
  `#E(F_p) = r` — NOT proved, explicit) it is a module over the field `Zq r` (`moduleE`).
* `φ = toPoint ∘ cT : G1.Pt → E` is a homomorphism on valid points for `0`, `+`
  (`Proofs/ComposeTblsG1.lean`) and for the driver's scalar multiplication `G1.mul` (`mulBridge`, from
  `Proofs/ComposeTblsG1Mul.lean`: the Jacobian double-and-add with mixed addition of
  `Model/TblsG1.lean` computes `k • P`).
* `ψ : E → G1.Pt` picks the representative with coordinates `< p`; it inverts `φ` on valid points and is
  therefore a total injective homomorphism (`hom`), which is what `recover_nat`
  (`Proofs/ComposeNatural.lean`) needs to identify the driver's run with the abstract one.
* `validIdx_codecE_iff` restates "an entry counts for member `i`" (`validIdx`, `validIdx_eq_some_iff` of
  `Proofs/Tbls.lean`, which reaches this file through the `Props` imports) on driver values.
-/
import DosModel.Model.TblsDrv
import DosModel.Proofs.ComposeTblsG1
import DosModel.Proofs.ComposeTblsG1Mul
import DosModel.Proofs.ComposeNatural
import DosModel.Props.C02
import DosModel.Props.C03
import DosModel.Props.C09

-- the proofs open with the same `letI := moduleE hr` as the statements they prove
set_option linter.style.haveILetI false

namespace Dos.Compose.TG1
open Dos Dos.G1 Dos.Share Dos.Tbls Dos.Compose.Curve Dos.Compose.Natural

/-- the elliptic-curve group `E(F_p)`, `y² = x³ + 3` -/
abbrev E := (sw (3 : Fp)).Point

/-- the point of `E(F_p)` a driver value denotes -/
noncomputable def φ (P : Pt) : E := toPoint 3 (cT P)

/-- representative of a group element (coordinates `< p`) -/
def ψ : E → Pt
  | .zero => .inf
  | .some x y _ => .aff x.val y.val

theorem ψ_φ (P : Pt) (hP : Valid P) : ψ (φ P) = P := by
  cases P with
  | inf => rfl
  | aff x y =>
    have hn := (nonsingular_sw good3 (x : Fp) (y : Fp)).2 (cT_onCurve hP)
    unfold φ
    rw [show cT (.aff x y) = .aff (x : Fp) (y : Fp) from rfl, toPoint_aff _ _ hn]
    simp only [ψ, ZMod.val_natCast, Nat.mod_eq_of_lt hP.1, Nat.mod_eq_of_lt hP.2.1]

theorem valid_ψ (X : E) : Valid (ψ X) := by
  cases X with
  | zero => trivial
  | some x y h =>
    refine ⟨ZMod.val_lt x, ZMod.val_lt y, (onCurve_iff _ _).2 ?_⟩
    rw [ZMod.natCast_zmod_val, ZMod.natCast_zmod_val]
    exact (nonsingular_sw good3 x y).1 h

theorem φ_ψ (X : E) : φ (ψ X) = X := by
  cases X with
  | zero => rfl
  | some x y h =>
    unfold φ
    have e : cT (ψ (.some x y h)) = .aff x y := by
      simp only [ψ, cT, ZMod.natCast_zmod_val]
    rw [e, toPoint_aff x y h]

theorem φ_inj {P Q : Pt} (hP : Valid P) (hQ : Valid Q) (h : φ P = φ Q) : P = Q :=
  cT_inj hP hQ (toPoint_injOn good3 (cT_onCurve hP) (cT_onCurve hQ) h)

theorem mod_nsmul (hr : ∀ P : E, G1.r • P = 0) (c : Nat) (X : E) : (c % G1.r) • X = c • X :=
  (nsmul_eq_mod_nsmul c (hr X)).symm

/-- **`E(F_p)` as a module over the scalars `Zq r`**, given that `r` kills every point;
`k • X` is `k.val • X` -/
@[reducible] noncomputable def moduleE (hr : ∀ P : E, G1.r • P = 0) : Module (Zq G1.r) E where
  smul k X := k.val • X
  one_smul X := by
    show (1 % G1.r) • X = X
    rw [mod_nsmul hr, one_nsmul]
  mul_smul a b X := by
    show ((a.val * b.val) % G1.r) • X = a.val • (b.val • X)
    rw [mod_nsmul hr, mul_nsmul']
  smul_zero k := nsmul_zero _
  smul_add k X Y := nsmul_add _ _ _
  add_smul a b X := by
    show ((a.val + b.val) % G1.r) • X = a.val • X + b.val • X
    rw [mod_nsmul hr, add_nsmul]
  zero_smul X := by
    show (0 % G1.r) • X = 0
    rw [mod_nsmul hr, zero_nsmul]

/-- the bridge for scalar multiplication: the driver's `G1.mul` (Jacobian double-and-add with mixed
addition, `Model/TblsG1.lean`) stays on the curve and computes `k • P` in `E(F_p)`
(`mul_spec` of `Proofs/ComposeTblsG1Mul.lean`, written with `φ`) -/
theorem mulBridge (k : Nat) (P : Pt) (hP : Valid P) :
    Valid (G1.mul k P) ∧ φ (G1.mul k P) = k • φ P := mul_spec k P hP

/-- the abstract codec corresponding to `g1Codec` -/
noncomputable def codecE : Codec E := ⟨fun b => (G1.decode b).map φ, fun X => G1.encode (ψ X)⟩

theorem codecE_roundtrip (X : E) : codecE.decode (codecE.encode X) = some X := by
  show (G1.decode (G1.encode (ψ X))).map φ = some X
  rw [decode_encode _ (valid_ψ X), Option.map_some, φ_ψ]

/-- reading group elements back as driver values is an injective homomorphism: on the representatives
the driver's `add` and `mul` ARE the group's operations -/
theorem hom (hr : ∀ P : E, G1.r • P = 0) :
    letI := moduleE hr
    Hom (Zq G1.r) ψ := by
  letI := moduleE hr
  exact {
    f0 := rfl
    fadd := fun X Y => by
      obtain ⟨hv, he⟩ := valid_add _ _ (valid_ψ X) (valid_ψ Y)
      change φ _ = φ _ + φ _ at he
      rw [φ_ψ, φ_ψ] at he
      exact (congrArg ψ he).symm.trans (ψ_φ _ hv)
    fsmul := fun k X => by
      obtain ⟨hv, he⟩ := mulBridge k.val _ (valid_ψ X)
      rw [φ_ψ] at he
      exact (congrArg ψ he).symm.trans (ψ_φ _ hv)
    inj := Function.LeftInverse.injective φ_ψ }

theorem codecHom : CodecHom ψ codecE g1Codec where
  dec b := by
    show G1.decode b = ((G1.decode b).map φ).map ψ
    cases hd : G1.decode b with
    | none => rfl
    | some s => exact congrArg some (ψ_φ s (decode_valid b s hd)).symm
  enc _ := rfl

/-- **the driver's `Recover` is the abstract `Recover`** over `E(F_p)` -/
theorem recover_eq_abstract (hr : ∀ P : E, G1.r • P = 0) (f : List (Zq G1.r))
    (hm : Pt) (hv : Valid hm) (sigs : List Bytes) (t n : Nat) :
    letI := moduleE hr
    recover codecE f (φ hm) sigs t n = recover g1Codec f hm sigs t n := by
  letI := moduleE hr
  have := recover_nat (hom hr) codecHom f (φ hm) sigs t n
  rwa [ψ_φ hm hv, eq_comm] at this

/-- … and so is the driver's `bls.Verify` -/
theorem blsVerifyR_eq_abstract (hr : ∀ P : E, G1.r • P = 0) (x : Zq G1.r) (hm : Pt) (hv : Valid hm)
    (s : Bytes) :
    letI := moduleE hr
    blsVerifyR codecE x (φ hm) s = blsVerifyR g1Codec x hm s := by
  letI := moduleE hr
  have := blsVerifyR_nat (hom hr) codecHom x (φ hm) s
  rwa [ψ_φ hm hv, eq_comm] at this

/-- the abstract multiple of a valid point, read back, is the driver's multiple -/
theorem ψ_smul_φ (hr : ∀ P : E, G1.r • P = 0) (k : Zq G1.r) (hm : Pt) (hv : Valid hm) :
    letI := moduleE hr
    ψ (k • φ hm) = G1.mul k.val hm := by
  letI := moduleE hr
  rw [(hom hr).fsmul, ψ_φ hm hv]
  rfl

/-- bytes decode to the abstract multiple iff the driver decodes them to its own multiple -/
theorem decode_eq_smul_iff (hr : ∀ P : E, G1.r • P = 0) (b : Bytes) (k : Zq G1.r) (hm : Pt)
    (hv : Valid hm) :
    letI := moduleE hr
    codecE.decode b = some (k • φ hm) ↔ G1.decode b = some (G1.mul k.val hm) := by
  letI := moduleE hr
  rw [← ψ_smul_φ hr k hm hv, show G1.decode b = (codecE.decode b).map ψ from codecHom.dec b,
    Option.map_eq_some_iff]
  exact ⟨fun h => ⟨_, h, rfl⟩, fun ⟨X, hX, e⟩ => by rw [hX, (hom hr).inj e]⟩

/-- an entry counts for member `i` in the abstract run iff it carries index `i < n` and the driver
decodes its value to the share computed by its own `G1.mul` -/
theorem validIdx_codecE_iff (hr : ∀ P : E, G1.r • P = 0) (f : List (Zq G1.r)) (hm : Pt)
    (hv : Valid hm) (n : Nat) (e : Bytes) (i : Nat) :
    letI := moduleE hr
    validIdx codecE f (φ hm) n e = some i ↔ sigIndex e = some i ∧ i < n
      ∧ G1.decode (sigValue e) = some (G1.mul (priEval f (i : Int)).val hm) := by
  letI := moduleE hr
  rw [validIdx_eq_some_iff, decode_eq_smul_iff hr _ _ hm hv]

end Dos.Compose.TG1
