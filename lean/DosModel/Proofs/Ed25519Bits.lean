/-
C20 — bit fields of a natural number, and the int64 operations of scalar.go / fe.go on them.

`bitfield n o w` is the number made of bits o … o+w-1 of n.  A load `load4(a[k:])` is the field (8k, 32) of the
little-endian value of `a`, `>> j` moves a field up by j bits, `& (2^m - 1)` cuts it to m bits; consecutive fields,
each put back at its place, add up to the number (`fieldSum_self`).  So the value of any limb vector loaded from a
byte string is read off the offsets and widths of its limbs.

The other direction: `packBytes` is the list of byte expressions that scalar.go and fe.go write to store a list of
limbs of given widths; on digits it yields the little-endian bytes of the value of the list (`leNat_packBytes`).
-/
import DosModel.Proofs.Ed25519Enc

set_option exponentiation.threshold 600

namespace Dos.Ed25519
open Dos

/-- bits `o … o+w-1` of `n` -/
def bitfield (n o w : Nat) : Nat := n / 2 ^ o % 2 ^ w

theorem bitfield_lt (n o w : Nat) : bitfield n o w < 2 ^ w := Nat.mod_lt _ (Nat.two_pow_pos w)

theorem bitfield_div (n o w j : Nat) (h : j ≤ w) : bitfield n o w / 2 ^ j = bitfield n (o + j) (w - j) := by
  unfold bitfield
  rw [show 2 ^ w = 2 ^ j * 2 ^ (w - j) by rw [← Nat.pow_add, Nat.add_sub_cancel' h],
    Nat.mod_mul_right_div_self, Nat.div_div_eq_div_mul, ← Nat.pow_add]

theorem bitfield_mod (n o : Nat) {w v : Nat} (h : v ≤ w) : bitfield n o w % 2 ^ v = bitfield n o v :=
  Nat.mod_mod_of_dvd _ (Nat.pow_dvd_pow 2 h)

/-- `acc` plus the consecutive fields of widths `ws` from bit `o` on, each at its place -/
def fieldSum (n : Nat) : Nat → Nat → List Nat → Nat
  | acc, _, [] => acc
  | acc, o, w :: ws => fieldSum n (acc + bitfield n o w * 2 ^ o) (o + w) ws

theorem fieldSum_eq (n : Nat) : ∀ (ws : List Nat) (acc o : Nat),
    n % 2 ^ o + fieldSum n acc o ws = acc + n % 2 ^ (o + ws.sum) := by
  intro ws
  induction ws with
  | nil => intro acc o; exact Nat.add_comm _ _
  | cons w ws ih =>
    intro acc o
    have h := ih (acc + bitfield n o w * 2 ^ o) (o + w)
    rw [Nat.pow_add, Nat.mod_mul, Nat.mul_comm (2 ^ o), Nat.add_assoc o] at h
    rw [fieldSum, List.sum_cons]
    unfold bitfield at h ⊢
    omega

theorem fieldSum_zero (n : Nat) (ws : List Nat) : fieldSum n 0 0 ws = n % 2 ^ ws.sum := by
  have e := fieldSum_eq n ws 0 0
  rwa [Nat.pow_zero, Nat.mod_one, Nat.zero_add, Nat.zero_add, Nat.zero_add] at e

theorem fieldSum_self (n : Nat) (ws : List Nat) (h : n < 2 ^ ws.sum) : fieldSum n 0 0 ws = n :=
  (fieldSum_zero n ws).trans (Nat.mod_eq_of_lt h)

/-! ### the loads `load3(a[k:])`, `load4(a[k:])`, shifted and masked, are bit fields of the little-endian value of `a` -/

theorem leNat_drop : ∀ (k : Nat) (a : Bytes), leNat (a.drop k) = leNat a / 256 ^ k := by
  intro k
  induction k with
  | zero => intro a; simp
  | succ k ih =>
    intro a
    cases a with
    | nil => simp [leNat]
    | cons b a =>
      have hb := b.toNat_lt
      rw [List.drop_succ_cons, ih, leNat, Nat.pow_succ', ← Nat.div_div_eq_div_mul]
      congr 1
      omega

theorem load3_eq (b : Bytes) (h : 3 ≤ b.length) : load3 b = ((leNat b % 2 ^ 24 : Nat) : Int) := by
  rcases b with _ | ⟨b0, _ | ⟨b1, _ | ⟨b2, r⟩⟩⟩ <;> simp at h
  have h0 := b0.toNat_lt
  have h1 := b1.toNat_lt
  have h2 := b2.toNat_lt
  simp only [load3, leNat]
  exact congrArg Int.ofNat (by omega)

theorem load4_eq (b : Bytes) (h : 4 ≤ b.length) : load4 b = ((leNat b % 2 ^ 32 : Nat) : Int) := by
  rcases b with _ | ⟨b0, _ | ⟨b1, _ | ⟨b2, _ | ⟨b3, r⟩⟩⟩⟩ <;> simp at h
  have h0 := b0.toNat_lt
  have h1 := b1.toNat_lt
  have h2 := b2.toNat_lt
  have h3 := b3.toNat_lt
  simp only [load4, leNat]
  exact congrArg Int.ofNat (by omega)

theorem load3_sl (a : Bytes) (k : Nat) (h : k + 3 ≤ a.length) :
    load3 (sl a k) = ((bitfield (leNat a) (8 * k) 24 : Nat) : Int) := by
  rw [sl, load3_eq _ (by rw [List.length_drop]; omega), leNat_drop, bitfield, Nat.pow_mul]

theorem load4_sl (a : Bytes) (k : Nat) (h : k + 4 ≤ a.length) :
    load4 (sl a k) = ((bitfield (leNat a) (8 * k) 32 : Nat) : Int) := by
  rw [sl, load4_eq _ (by rw [List.length_drop]; omega), leNat_drop, bitfield, Nat.pow_mul]

theorem shrI_natCast (x j : Nat) : shrI (x : Int) j = ((x / 2 ^ j : Nat) : Int) := by
  rw [shrI, Int.shiftRight_eq_div_pow, Int.natCast_ediv, Int.natCast_pow]

theorem band_comm (x y : Int) : band x y = band y x := by
  unfold band; rw [Nat.and_comm]

theorem u64_natCast (x : Nat) (h : x < 2 ^ 64) : u64 (x : Int) = x := by
  unfold u64
  rw [Int.emod_eq_of_lt (by omega) (by omega), Int.toNat_natCast]

/-- `&` with the mask `2^m - 1` keeps the low `m` bits -/
theorem band_mask (c : Int) (m x : Nat) (hc : c = ((2 ^ m - 1 : Nat) : Int)) (hm : m ≤ 64) (hx : x < 2 ^ 64) :
    band c (x : Int) = ((x % 2 ^ m : Nat) : Int) := by
  have h2 : 2 ^ m - 1 < 2 ^ 64 :=
    Nat.lt_of_lt_of_le (Nat.sub_lt (Nat.two_pow_pos m) Nat.one_pos) (Nat.pow_le_pow_right (by decide) hm)
  rw [hc, band, u64_natCast _ h2, u64_natCast _ hx, Nat.and_comm, Nat.and_two_pow_sub_one_eq_mod]
  rfl

theorem shrI_bitfield (n o : Nat) {w j : Nat} (h : j ≤ w) :
    shrI ((bitfield n o w : Nat) : Int) j = ((bitfield n (o + j) (w - j) : Nat) : Int) := by
  rw [shrI_natCast, bitfield_div _ _ _ _ h]

theorem band_bitfield (c : Int) (m : Nat) (hc : c = ((2 ^ m - 1 : Nat) : Int)) (n o : Nat) {w : Nat} (h1 : m ≤ w) (h2 : w ≤ 64) :
    band c ((bitfield n o w : Nat) : Int) = ((bitfield n o m : Nat) : Int) := by
  rw [band_mask c m _ hc (Nat.le_trans h1 h2) (Nat.lt_of_lt_of_le (bitfield_lt n o w) (Nat.pow_le_pow_right (by decide) h2)),
    bitfield_mod _ _ h1]

/-! ### packing: the byte expressions `byte(s >> j)`, `byte((s >> j) | (t << m))` written for a list of digits -/

theorem nat_lor_shl (a b k : Nat) (ha : a < 2 ^ k) : a ||| (b <<< k) = a + b * 2 ^ k := by
  rw [Nat.or_comm, ← Nat.shiftLeft_add_eq_or_of_lt ha, Nat.shiftLeft_eq, Nat.add_comm]

/-- OR of a value below 2^k with a multiple of 2^k is their sum -/
theorem bor_shl (x y : Int) (k : Nat) (hx0 : 0 ≤ x) (hx : x < 2 ^ k) (hx64 : x < 2 ^ 64)
    (hy0 : 0 ≤ y) (hy64 : y * 2 ^ k < 2 ^ 64) : bor x (shl y k) = x + y * 2 ^ k := by
  obtain ⟨a, rfl⟩ := Int.eq_ofNat_of_zero_le hx0
  obtain ⟨b, rfl⟩ := Int.eq_ofNat_of_zero_le hy0
  have e : shl (b : Int) k = ((b <<< k : Nat) : Int) := by rw [shl, Nat.shiftLeft_eq]; push_cast; rfl
  rw [e, bor, u64_natCast a (by exact_mod_cast hx64), u64_natCast _ (by rw [Nat.shiftLeft_eq]; exact_mod_cast hy64),
    nat_lor_shl a b k (by exact_mod_cast hx)]
  push_cast
  rfl

/-- The byte expressions of a little-endian packing, as scalar.go and fe.go write them: `k` bytes from bit `j` of the
first limb on; the limbs come with their widths.  A byte inside a limb is `byte(s >> j)`; a byte that takes the top
`w - j < 8` bits of a limb takes the rest from the next one, `byte((s >> j) | (t << (w - j)))`. -/
def packBytes (shr : Shr) : List (Nat × Int) → Nat → Nat → Bytes
  | _, _, 0 => []
  | [], _, _ + 1 => []
  | (w, s) :: ls, j, k + 1 =>
    if j + 8 < w then byte (shr s j) :: packBytes shr ((w, s) :: ls) (j + 8) k
    else if j + 8 = w then byte (shr s j) :: packBytes shr ls 0 k
    else byte (bor (shr s j) (shl (ls.headD (0, 0)).2 (w - j))) :: packBytes shr ls (j + 8 - w) k

/-- the integer a list of limbs `(width, value)` stands for -/
def valL : List (Nat × Int) → Int
  | [] => 0
  | (w, s) :: ls => s + 2 ^ w * valL ls

/-- every limb is a digit of its width (widths between 8 and 32 bits) -/
def DigitsL (ls : List (Nat × Int)) : Prop := ∀ p ∈ ls, (8 ≤ p.1 ∧ p.1 ≤ 32) ∧ 0 ≤ p.2 ∧ p.2 < 2 ^ p.1

def bitsL (ls : List (Nat × Int)) : Nat := (ls.map Prod.fst).sum

theorem two_pow_pos (n : Nat) : (0 : Int) < 2 ^ n := Int.pow_pos (by decide)

theorem valL_nonneg : ∀ ls, DigitsL ls → 0 ≤ valL ls := by
  intro ls
  induction ls with
  | nil => intro _; exact Int.le_refl 0
  | cons p ls ih =>
    intro h
    have hp := h p (by simp)
    have := ih (fun q hq => h q (by simp [hq]))
    exact Int.add_nonneg hp.2.1 (Int.mul_nonneg (Int.le_of_lt (two_pow_pos p.1)) this)

/-- bytes depend on the low 8 bits only -/
theorem byte_add_mul (a c : Int) : byte (a + 256 * c) = byte a := by
  unfold byte
  rw [Int.add_mul_emod_self_left]

theorem natLE_succ_toNat (k : Nat) (x : Int) (hx : 0 ≤ x) :
    natLE (k + 1) x.toNat = byte x :: natLE k (x / 2 ^ 8).toNat := by
  obtain ⟨n, rfl⟩ := Int.eq_ofNat_of_zero_le hx
  rw [natLE, byte]
  congr 2

theorem add_mul_ediv_pow (s T : Int) {j w : Nat} (h : j ≤ w) :
    (s + 2 ^ w * T) / 2 ^ j = s / 2 ^ j + 2 ^ (w - j) * T := by
  have e : (2 : Int) ^ w = 2 ^ j * 2 ^ (w - j) := by rw [← Int.pow_add, Nat.add_sub_cancel' h]
  rw [e, Int.mul_assoc, Int.add_mul_ediv_left _ _ (Int.ne_of_gt (two_pow_pos j))]

theorem add_mul_ediv_self (s T : Int) (w : Nat) (h0 : 0 ≤ s) (h : s < 2 ^ w) : (s + 2 ^ w * T) / 2 ^ w = T := by
  rw [Int.add_mul_ediv_left _ _ (Int.ne_of_gt (two_pow_pos w)), Int.ediv_eq_zero_of_lt h0 h, Int.zero_add]

theorem two_pow_le {a b : Nat} (h : a ≤ b) : (2 : Int) ^ a ≤ 2 ^ b := by
  exact_mod_cast Nat.pow_le_pow_right (by decide) h

theorem ediv_pow_pow (x : Int) (a b : Nat) : x / 2 ^ a / 2 ^ b = x / 2 ^ (a + b) := by
  rw [Int.ediv_ediv_of_nonneg (Int.le_of_lt (two_pow_pos a)), ← Int.pow_add]

theorem shrI_eq (x : Int) (n : Nat) : shrI x n = x / 2 ^ n := Int.shiftRight_eq_div_pow x n

/-- On digits, `k` bytes packed from bit `j` on are the `k` low bytes of `value / 2^j`.  Induction on `k`: the first
byte is the low byte of `value / 2^j` (what lies above it in the limbs is a multiple of 256), and the rest is the
packing from bit `j + 8` on, which is bit `j + 8 - w` of the next limb once the first limb is used up. -/
theorem packBytes_eq : ∀ (k : Nat) (ls : List (Nat × Int)) (j : Nat), DigitsL ls →
    (∀ p ∈ ls.head?, j < p.1) → 8 * k + j ≤ bitsL ls →
    packBytes shrI ls j k = natLE k (valL ls / 2 ^ j).toNat := by
  intro k
  induction k with
  | zero => intro ls j _ _ _; rfl
  | succ k ih =>
    intro ls j hd hh hb
    match ls with
    | [] => simp [bitsL] at hb
    | (w, s) :: ls =>
      have hj : j < w := hh (w, s) rfl
      clear hh
      obtain ⟨⟨hw8, hw32⟩, hs0, hsw⟩ := hd (w, s) (by simp)
      have hd' : DigitsL ls := fun q hq => hd q (by simp [hq])
      have hV : 0 ≤ valL ((w, s) :: ls) / 2 ^ j :=
        Int.ediv_nonneg (valL_nonneg _ hd) (Int.le_of_lt (two_pow_pos j))
      have hb' : 8 * (k + 1) + j ≤ w + bitsL ls := by simpa [bitsL] using hb
      rw [natLE_succ_toNat k _ hV, ediv_pow_pow, packBytes]
      have hs : 0 ≤ s ∧ s < 2 ^ w := ⟨hs0, hsw⟩
      have hw : 8 ≤ w ∧ w ≤ 32 := ⟨hw8, hw32⟩
      clear hs0 hsw hw8 hw32
      have eV : valL ((w, s) :: ls) = s + 2 ^ w * valL ls := rfl
      by_cases h1 : j + 8 ≤ w
      · -- the byte lies inside the limb
        have e8 : (2 : Int) ^ (w - j) = 256 * 2 ^ (w - j - 8) := by
          rw [← show (2 : Int) ^ 8 = 256 from rfl, ← Int.pow_add]; congr 1; omega
        have eh : byte (shrI s j) = byte (valL ((w, s) :: ls) / 2 ^ j) := by
          rw [eV, add_mul_ediv_pow s _ (Nat.le_of_lt hj), e8, Int.mul_assoc, byte_add_mul, shrI_eq]
        by_cases h2 : j + 8 < w
        · rw [if_pos h2, eh, ih _ _ hd (fun p hp => by cases hp; exact h2) (by omega)]
        · have h3 : j + 8 = w := by omega
          rw [if_neg h2, if_pos h3, eh, ih _ _ hd' (fun p hp => by have := (hd' p (List.mem_of_mem_head? hp)).1.1; omega) (by omega),
            h3, eV, add_mul_ediv_self s _ w hs.1 hs.2, Int.pow_zero, Int.ediv_one]
      · -- the byte takes the top `w - j` bits of the limb and the low bits of the next one
        match ls with
        | [] => simp [bitsL] at hb'; omega
        | (w', s') :: ls =>
          obtain ⟨hw', hs'⟩ := hd' (w', s') (by simp)
          have hx : s / 2 ^ j < 2 ^ (w - j) := Int.ediv_lt_of_lt_mul (two_pow_pos j)
            (by rw [← Int.pow_add, Nat.sub_add_cancel (Nat.le_of_lt hj)]; exact hs.2)
          have hy : s' * 2 ^ (w - j) < 2 ^ 64 :=
            Int.lt_of_lt_of_le (Int.mul_lt_mul_of_pos_right hs'.2 (two_pow_pos _))
              (by rw [← Int.pow_add]; exact two_pow_le (by omega))
          obtain ⟨c, hc⟩ : ∃ c, w - j + w' = 8 + c := ⟨w - j + w' - 8, by omega⟩
          have e2 : (2 : Int) ^ (w - j) * 2 ^ w' = 256 * 2 ^ c := by
            rw [← show (2 : Int) ^ 8 = 256 from rfl, ← Int.pow_add, ← Int.pow_add, hc]
          have eh : valL ((w, s) :: (w', s') :: ls) / 2 ^ j = s / 2 ^ j + s' * 2 ^ (w - j) + 256 * (2 ^ c * valL ls) := by
            rw [eV, add_mul_ediv_pow s _ (Nat.le_of_lt hj), show valL ((w', s') :: ls) = s' + 2 ^ w' * valL ls from rfl,
              Int.mul_add, ← Int.mul_assoc, e2, Int.mul_assoc, Int.mul_comm s', Int.add_assoc]
          have et : valL ((w, s) :: (w', s') :: ls) / 2 ^ (j + 8) = valL ((w', s') :: ls) / 2 ^ (j + 8 - w) := by
            obtain ⟨d, hd⟩ : ∃ d, j + 8 = w + d := ⟨j + 8 - w, by omega⟩
            rw [hd, Nat.add_sub_cancel_left, ← ediv_pow_pow, eV, add_mul_ediv_self s _ w hs.1 hs.2]
          rw [if_neg (by omega), if_neg (by omega), eh, byte_add_mul, List.headD_cons, shrI_eq,
            bor_shl _ _ _ (Int.ediv_nonneg hs.1 (Int.le_of_lt (two_pow_pos j))) hx
              (Int.lt_of_lt_of_le hx (two_pow_le (by omega))) hs'.1 hy,
            ih _ _ hd' (fun p hp => by cases hp; omega) (by simp [bitsL] at hb' ⊢; omega), et]

theorem valL_lt : ∀ ls, DigitsL ls → valL ls < 2 ^ bitsL ls := by
  intro ls
  induction ls with
  | nil => intro _; decide
  | cons p ls ih =>
    intro h
    have hp := (h p (by simp)).2.2
    have := ih (fun q hq => h q (by simp [hq]))
    have e : bitsL (p :: ls) = p.1 + bitsL ls := by simp [bitsL]
    rw [e, Int.pow_add]
    calc valL (p :: ls) = p.2 + 2 ^ p.1 * valL ls := rfl
      _ < 2 ^ p.1 + 2 ^ p.1 * valL ls := Int.add_lt_add_right hp _
      _ = 2 ^ p.1 * (valL ls + 1) := by rw [Int.mul_add, Int.mul_one, Int.add_comm]
      _ ≤ 2 ^ p.1 * 2 ^ bitsL ls := Int.mul_le_mul_of_nonneg_left this (Int.le_of_lt (two_pow_pos _))

/-- **packing**: the bytes written for a list of digits are the little-endian bytes of its value -/
theorem packBytes_natLE (ls : List (Nat × Int)) (hd : DigitsL ls) (k : Nat) (h : 8 * k = bitsL ls) :
    packBytes shrI ls 0 k = natLE k (valL ls).toNat := by
  rw [packBytes_eq k ls 0 hd (fun p hp => by have := (hd p (List.mem_of_mem_head? hp)).1.1; omega) (by omega),
    Int.pow_zero, Int.ediv_one]

theorem leNat_packBytes (ls : List (Nat × Int)) (hd : DigitsL ls) (k : Nat) (h : 8 * k = bitsL ls) :
    (leNat (packBytes shrI ls 0 k) : Int) = valL ls := by
  have hlt : (valL ls).toNat < 256 ^ k := by
    have := valL_lt ls hd
    have h0 := valL_nonneg ls hd
    rw [← h, Int.pow_mul, show ((2 : Int) ^ 8) = ((256 : Nat) : Int) from rfl, ← Int.natCast_pow] at this
    omega
  rw [packBytes_natLE ls hd k h, leNat_natLE_of_lt _ _ hlt, Int.toNat_of_nonneg (valL_nonneg ls hd)]

end Dos.Ed25519
