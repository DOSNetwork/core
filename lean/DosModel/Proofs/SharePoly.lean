/-
`PriPoly.Mul` is polynomial multiplication and `RecoverPriPoly` assembles the Lagrange
interpolation polynomial (model of `share/poly.go`, any field).
-/
import DosModel.Proofs.Share

set_option linter.unusedSectionVars false

namespace Dos.Share
open Polynomial

variable {F : Type} [Field F] [DecidableEq F]

theorem toPoly_replicate_zero (n : Nat) : toPoly (List.replicate n (0 : F)) = 0 := by
  induction n with
  | zero => rfl
  | succ n ih => simp [List.replicate_succ, ih]

theorem toPoly_modify (acc : List F) (k : Nat) (d : F) (hk : k < acc.length) :
    toPoly (acc.modify k (fun c => c + d)) = toPoly acc + C d * X ^ k := by
  induction acc generalizing k with
  | nil => exact absurd hk (Nat.not_lt_zero _)
  | cons c rest ih =>
    cases k with
    | zero => rw [List.modify_zero_cons, toPoly_cons, toPoly_cons, C_add, pow_zero]; ring
    | succ k =>
      rw [List.modify_succ_cons, toPoly_cons, toPoly_cons, ih k (Nat.lt_of_succ_lt_succ hk),
        pow_succ]
      ring

theorem toPoly_mulRow (pi : F) (qs : List F) :
    ∀ (k : Nat) (acc : List F), k + qs.length ≤ acc.length →
      toPoly (mulRow pi qs k acc) = toPoly acc + C pi * X ^ k * toPoly qs
        ∧ (mulRow pi qs k acc).length = acc.length := by
  induction qs with
  | nil => intro k acc _; simp [mulRow]
  | cons qj qs ih =>
    intro k acc h
    simp only [List.length_cons] at h
    unfold mulRow
    have hlen : (acc.modify k (fun c => c + pi * qj)).length = acc.length := by simp
    obtain ⟨h1, h2⟩ := ih (k + 1) (acc.modify k (fun c => c + pi * qj)) (by rw [hlen]; omega)
    refine ⟨?_, by rw [h2, hlen]⟩
    rw [h1, toPoly_modify acc k _ (by omega), toPoly_cons, C_mul]
    ring

/-- the bound says that the last row, which starts at `i + ps.length - 1` and is `q.length` long,
fits into `acc` -/
theorem toPoly_mulRows (q : List F) (ps : List F) :
    ∀ (i : Nat) (acc : List F), i + ps.length + q.length ≤ acc.length + 1 →
      toPoly (mulRows q ps i acc) = toPoly acc + X ^ i * toPoly ps * toPoly q
        ∧ (mulRows q ps i acc).length = acc.length := by
  induction ps with
  | nil => intro i acc _; simp [mulRows]
  | cons pi ps ih =>
    intro i acc h
    rw [List.length_cons] at h
    unfold mulRows
    obtain ⟨r1, r2⟩ := toPoly_mulRow pi q i acc (by omega)
    obtain ⟨h1, h2⟩ := ih (i + 1) (mulRow pi q i acc) (by rw [r2]; omega)
    refine ⟨?_, by rw [h2, r2]⟩
    rw [h1, r1, toPoly_cons]
    ring

/-- `PriPoly.Mul` multiplies the polynomials -/
theorem toPoly_polyMul (p q : List F) (hp : p ≠ []) :
    toPoly (polyMul p q) = toPoly p * toPoly q
      ∧ (polyMul p q).length = p.length + q.length - 1 := by
  have hpl : 0 < p.length := List.length_pos_iff.2 hp
  obtain ⟨h1, h2⟩ := toPoly_mulRows q p 0 (List.replicate (p.length + q.length - 1) 0)
    (by rw [List.length_replicate]; omega)
  rw [List.length_replicate] at h2
  exact ⟨by rw [polyMul, h1, toPoly_replicate_zero, zero_add, pow_zero, one_mul], h2⟩

theorem priMul_correct (p q : List F) (hp : p ≠ []) :
    ∃ r, priMul p q = .ok r ∧ toPoly r = toPoly p * toPoly q := by
  refine ⟨polyMul p q, ?_, (toPoly_polyMul p q hp).1⟩
  simp [priMul, polyMul, hp]

theorem toPoly_xMinusConst (c : F) : toPoly (xMinusConst c) = X - C c := by
  rw [xMinusConst, toPoly_cons, toPoly_cons, toPoly_nil, C_neg, C_1]; ring

theorem toPoly_map_mul (l : List F) (a : F) : toPoly (l.map (fun c => c * a)) = C a * toPoly l := by
  induction l with
  | nil => simp
  | cons c l ih => simp [ih, C_mul]; ring

/-- inner loop of `RecoverPriPoly` over the entries it does not skip -/
theorem basis_fold (j : Node F F) (l : List (Node F F)) :
    ∀ (b : List F) (a : F), b ≠ [] →
      let r := l.foldl (fun (ba : List F × F) m =>
        (polyMul ba.1 (xMinusConst m.x), ba.2 * (j.x - m.x)⁻¹)) (b, a)
      toPoly r.1 = toPoly b * (l.map (fun m => X - C m.x)).prod
        ∧ r.1.length = b.length + l.length
        ∧ r.2 = a * (l.map (fun m => (j.x - m.x)⁻¹)).prod := by
  induction l with
  | nil => intro b a _; exact ⟨(mul_one _).symm, rfl, (mul_one _).symm⟩
  | cons m l ih =>
    intro b a hb
    obtain ⟨p1, p2⟩ := toPoly_polyMul b (xMinusConst m.x) hb
    have hne : polyMul b (xMinusConst m.x) ≠ [] :=
      List.length_pos_iff.1 (by rw [p2]; exact Nat.lt_sub_of_add_lt (by simp [xMinusConst]))
    obtain ⟨t1, t2, t3⟩ := ih (polyMul b (xMinusConst m.x)) (a * (j.x - m.x)⁻¹) hne
    simp only [List.foldl_cons, List.map_cons, List.prod_cons, List.length_cons]
    refine ⟨?_, ?_, ?_⟩
    · rw [t1, p1, toPoly_xMinusConst, mul_assoc]
    · rw [t2, p2]
      show b.length + 2 - 1 + _ = _
      omega
    · rw [t3, mul_assoc]

/-- the list `RecoverPriPoly` adds for the entry `j` -/
def basisList (xs : List (Node F F)) (j : Node F F) : List F :=
  (basisAcc xs j).1.map (fun c => c * (basisAcc xs j).2)

theorem basisList_spec (xs : List (Node F F)) (j : Node F F) :
    toPoly (basisList xs j)
        = C (j.v * ((xs.filter (fun m => m.pos ≠ j.pos)).map (fun m => (j.x - m.x)⁻¹)).prod)
          * ((xs.filter (fun m => m.pos ≠ j.pos)).map (fun m => X - C m.x)).prod
      ∧ (basisList xs j).length = 1 + (xs.filter (fun m => m.pos ≠ j.pos)).length := by
  obtain ⟨h1, h2, h3⟩ := basis_fold j (xs.filter (fun m => ¬ m.pos = j.pos)) [1] j.v (by simp)
  unfold basisList basisAcc
  rw [foldl_skip (fun m : Node F F => m.pos = j.pos)]
  refine ⟨?_, by rw [List.length_map]; exact h2⟩
  rw [toPoly_map_mul, h1, h3]; simp

theorem filter_pos_length (xs : List (Node F F)) (hpos : (xs.map (·.pos)).Nodup) (j : Node F F)
    (hj : j ∈ xs) : (xs.filter (fun m => m.pos ≠ j.pos)).length = xs.length - 1 := by
  have h1 : (xs.filter (fun m => m.pos ≠ j.pos)).length
      = ((xs.map (·.pos)).filter (· ≠ j.pos)).length := by
    rw [List.filter_map, List.length_map]; rfl
  have h2 : (xs.map (·.pos)).filter (fun x => decide (x ≠ j.pos)) = (xs.map (·.pos)).erase j.pos := by
    rw [List.Nodup.erase_eq_filter hpos]
    apply List.filter_congr
    intro x _; simp [bne, beq_eq_decide]
  rw [h1, h2, List.length_erase_of_mem (List.mem_map.2 ⟨j, hj, rfl⟩)]
  simp

/-- outer loop of `RecoverPriPoly`, started from a non-nil accumulator -/
theorem polyStep_fold (g : Nat) (xs : List (Node F F)) (L : Nat) :
    ∀ (ys : List (Node F F)) (c0 : List F), (∀ j ∈ ys, (basisList xs j).length = L) → c0.length = L →
      ∃ c, ys.foldl (polyStep g xs) (.ok (some ⟨g, c0⟩)) = .ok (some ⟨g, c⟩) ∧ c.length = L
        ∧ toPoly c = toPoly c0 + (ys.map fun j => toPoly (basisList xs j)).sum := by
  intro ys
  induction ys with
  | nil => intro c0 _ h0; exact ⟨c0, rfl, h0, by simp⟩
  | cons j ys ih =>
    intro c0 hys h0
    have hj : (basisList xs j).length = L := hys j (by simp)
    have hstep : polyStep g xs (.ok (some ⟨g, c0⟩)) j
        = .ok (some ⟨g, List.zipWith (· + ·) c0 (basisList xs j)⟩) := by
      have hL' : L = (basisAcc xs j).1.length := by simpa [basisList] using hj.symm
      simp [polyStep, priAdd, basisList, h0, ← hL']
    obtain ⟨c, e1, e2, e3⟩ := ih (List.zipWith (· + ·) c0 (basisList xs j))
      (fun k hk => hys k (by simp [hk])) (by simp [h0, hj])
    refine ⟨c, by rw [List.foldl_cons, hstep, e1], e2, ?_⟩
    rw [e3, toPoly_zipWith_add _ _ (by rw [h0, hj])]
    simp [add_assoc]

/-- the polynomials `RecoverPriPoly` adds up are the Lagrange basis: for nodes on `p` their sum is `p` -/
theorem sum_basisList (xs : List (Node F F)) (p : F[X]) (hg : GoodS xs p)
    (hdeg : p.degree < xs.length) : (xs.map fun k => toPoly (basisList xs k)).sum = p := by
  refine Eq.trans ?_ (Lagrange.list_interpolate (xs.map (·.x)) hg.x p (by rwa [List.length_map]))
  rw [List.map_map]
  refine congrArg List.sum (List.map_congr_left fun k hk => ?_)
  rw [Function.comp, (basisList_spec xs k).1, hg.val k hk,
    filter_pos_eq_filter_x xs hg.pos hg.x k hk (fun b => (k.x - b)⁻¹),
    filter_pos_eq_filter_x xs hg.pos hg.x k hk (fun b => (X : F[X]) - C b)]

/-- `RecoverPriPoly` on nodes that lie on `f` (with `t = len f` coefficients) returns `f` -/
theorem recoverPriPoly_of_good (g : Nat) (f : List F) (t : Nat) (ht : 0 < t) (hf : f.length = t)
    (xs : List (Node F F)) (hg : GoodS xs (toPoly f)) (hlen : xs.length = t)
    {shares : List (Option (PriShare F))} {n : Nat} (hxs : xScalar shares t n = xs) :
    recoverPriPoly g shares t n = .ok ⟨g, f⟩ := by
  unfold recoverPriPoly
  simp only [hxs, hlen, ne_eq, not_true_eq_false, if_false]
  have hL : ∀ j ∈ xs, (basisList xs j).length = t := by
    intro j hj
    rw [(basisList_spec xs j).2, filter_pos_length xs hg.pos j hj, hlen]; omega
  cases hx : xs with
  | nil => rw [hx] at hlen; simp at hlen; omega
  | cons j ys =>
    have hjm : j ∈ xs := by rw [hx]; simp
    have hfirst : polyStep g xs (.ok none) j = .ok (some ⟨g, basisList xs j⟩) := by
      simp [polyStep, basisList]
    obtain ⟨c, e1, e2, e3⟩ := polyStep_fold g xs t ys (basisList xs j)
      (fun k hk => hL k (by rw [hx]; simp [hk])) (hL j hjm)
    rw [List.foldl_cons, ← hx, hfirst, e1]
    simp only
    congr 2
    apply toPoly_injective_of_length (by rw [e2, hf])
    rw [e3]
    rw [← sum_basisList xs (toPoly f) hg (by rw [hlen, ← hf]; exact degree_toPoly_lt f), hx,
      List.map_cons, List.sum_cons]

end Dos.Share
