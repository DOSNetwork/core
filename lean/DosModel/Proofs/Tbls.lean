/-
Lemmas about the model of `sign/tbls` (`Model/Tbls.lean`) over an arbitrary field `F`
(scalars), `F`-module `G` (signature group) and codec.
-/
import DosModel.Model.Tbls
import DosModel.Proofs.Share
import DosModel.Proofs.TblsPairing
import Mathlib.Data.Finset.Card

set_option linter.unusedSectionVars false

namespace Dos.Tbls
open Dos Dos.Share

variable {F : Type} [Field F] [DecidableEq F]
variable {G : Type} [AddCommGroup G] [Module F G] [DecidableEq G]

theorem mem_uniqAux (seen l : List Bytes) (e : Bytes) :
    e ∈ uniqAux seen l ↔ e ∈ l ∧ e ∉ seen := by
  induction l generalizing seen with
  | nil => simp [uniqAux]
  | cons v rest ih =>
    unfold uniqAux
    split_ifs with hv
    · rw [ih, List.mem_cons]
      exact ⟨fun h => ⟨Or.inr h.1, h.2⟩, fun h => ⟨h.1.resolve_left fun he => h.2 (he ▸ hv), h.2⟩⟩
    · rw [List.mem_cons, ih, List.mem_cons, List.mem_cons]
      by_cases he : e = v
      · subst he; simp [hv]
      · simp [he]

theorem mem_uniq (l : List Bytes) (e : Bytes) : e ∈ uniq l ↔ e ∈ l := by
  simp [uniq, mem_uniqAux]

theorem mem_uniqInPlace (l : List Bytes) (e : Bytes) : e ∈ uniqInPlace l ↔ e ∈ l := by
  rw [uniqInPlace, List.mem_append, mem_uniq]
  exact ⟨fun h => h.elim id List.mem_of_mem_drop, Or.inl⟩

-- explicit from here on: the lemmas below are applied as `lemma cd pub hm t n …`
variable (cd : Codec G) (pub : List F) (hm : G) (t n : Nat)

theorem blsVerifyR_ok_iff (x : F) (sig : Bytes) :
    blsVerifyR cd x hm sig = .ok ↔ cd.decode sig = some (x • hm) := by
  unfold blsVerifyR
  cases cd.decode sig with
  | none => simp
  | some s =>
    by_cases hs : s = x • hm
    · simp [hs]
    · simp [hs]

theorem blsVerify_iff (x : F) (sig : Bytes) :
    blsVerify cd x hm sig = true ↔ cd.decode sig = some (x • hm) := by
  rw [blsVerify, decide_eq_true_iff, blsVerifyR_ok_iff]

/-- the byte-level verdict "decodes to `x • H(m)`" is the pairing equation under the key `x • B₂`,
in every non-degenerate bilinear pairing -/
theorem decode_eq_iff_verifyEq {G2 GT : Type} [AddCommGroup G2] [Module F G2] [CommGroup GT]
    (pr : Pairing F G G2 GT) (x : F) (sig : Bytes) :
    cd.decode sig = some (x • hm)
      ↔ ∃ S : G, cd.decode sig = some S ∧ pr.verifyEq (x • pr.g2) hm S :=
  ⟨fun h => ⟨_, h, (pr.verifyEq_iff x hm _).2 rfl⟩,
    fun ⟨S, hS, he⟩ => by rw [hS, (pr.verifyEq_iff x hm S).1 he]⟩

theorem tblsVerifyR_ok_iff (sig : Bytes) :
    tblsVerifyR cd pub hm sig = .ok
      ↔ ∃ i, sigIndex sig = some i ∧ cd.decode (sigValue sig) = some (priEval pub (i : Int) • hm) := by
  unfold tblsVerifyR
  cases sigIndex sig with
  | none => simp
  | some i => simp [blsVerifyR_ok_iff]

/-- the member number for which entry `e` is a valid share (index in range, verifies) -/
def validIdx (e : Bytes) : Option Nat :=
  match sigIndex e with
  | none => none
  | some i =>
    if i < n ∧ blsVerify cd (priEval pub (i : Int)) hm (sigValue e) = true then some i else none

/-- the members that have a valid share somewhere in the list -/
def members (l : List Bytes) : Finset Nat := (l.filterMap (validIdx cd pub hm n)).toFinset

theorem members_nil : members cd pub hm n [] = ∅ := rfl

theorem members_cons (e : Bytes) (l : List Bytes) :
    members cd pub hm n (e :: l)
      = match validIdx cd pub hm n e with
        | some i => insert i (members cd pub hm n l)
        | none => members cd pub hm n l := by
  unfold members
  cases h : validIdx cd pub hm n e <;> simp [h]

theorem members_uniq (l : List Bytes) : members cd pub hm n (uniq l) = members cd pub hm n l := by
  ext i
  simp only [members, List.mem_toFinset, List.mem_filterMap, mem_uniq]

theorem members_uniqInPlace (l : List Bytes) :
    members cd pub hm n (uniqInPlace l) = members cd pub hm n l := by
  ext i
  simp only [members, List.mem_toFinset, List.mem_filterMap, mem_uniqInPlace]

theorem le_card_members (l : List Bytes) (signers : List Nat) (hnd : signers.Nodup)
    (h : ∀ i ∈ signers, ∃ e ∈ l, validIdx cd pub hm n e = some i) :
    signers.length ≤ (members cd pub hm n l).card := by
  rw [← List.toFinset_card_of_nodup hnd]
  refine Finset.card_le_card fun i hi => ?_
  obtain ⟨e, he, hv⟩ := h i (List.mem_toFinset.1 hi)
  exact List.mem_toFinset.2 (List.mem_filterMap.2 ⟨e, he, hv⟩)

theorem validIdx_eq_some_iff (e : Bytes) (i : Nat) :
    validIdx cd pub hm n e = some i
      ↔ sigIndex e = some i ∧ i < n ∧ cd.decode (sigValue e) = some (priEval pub (i : Int) • hm) := by
  unfold validIdx
  cases sigIndex e with
  | none => simp
  | some j =>
    simp only [← blsVerify_iff, Option.some.injEq]
    split_ifs with hc
    · rw [Option.some.injEq]
      exact ⟨fun h => h ▸ ⟨rfl, hc⟩, fun h => h.1⟩
    · exact ⟨(fun h => nomatch h), fun h => hc (h.1 ▸ h.2)⟩

/-- an entry whose value decodes to anything but the share of the member it names counts for nobody -/
theorem validIdx_eq_none_of_decode (e : Bytes) (i : Nat) (p : G) (hidx : sigIndex e = some i)
    (hdec : cd.decode (sigValue e) = some p) (hne : p ≠ priEval pub (i : Int) • hm) :
    validIdx cd pub hm n e = none := by
  cases hv : validIdx cd pub hm n e with
  | none => rfl
  | some j =>
    obtain ⟨h1, -, h3⟩ := (validIdx_eq_some_iff cd pub hm n e j).1 hv
    cases hidx.symm.trans h1
    exact absurd (Option.some.inj (hdec.symm.trans h3)) hne

/-- one round of the loop of `tbls.Recover` in terms of `validIdx`: an entry that is not a valid
share of an in-range member is skipped, so is a second share of a member already collected; the
first valid share of a member decodes (to that member's `f(i+1) • H(m)`) and is appended -/
theorem collect_cons (sig : Bytes) (rest : List Bytes) (seen : List Nat) (acc : List (PubShare G)) :
    collect cd pub hm t n (sig :: rest) seen acc
      = match validIdx cd pub hm n sig with
        | none => collect cd pub hm t n rest seen acc
        | some i =>
          if i ∈ seen then collect cd pub hm t n rest seen acc
          else if (acc ++ [(⟨(i : Int), some (priEval pub (i : Int) • hm)⟩ : PubShare G)]).length ≥ t
            then some (acc ++ [⟨(i : Int), some (priEval pub (i : Int) • hm)⟩])
            else collect cd pub hm t n rest (i :: seen)
              (acc ++ [⟨(i : Int), some (priEval pub (i : Int) • hm)⟩]) := by
  conv_lhs => unfold collect
  unfold validIdx
  cases sigIndex sig with
  | none => rfl
  | some i =>
    by_cases hs : i ∈ seen
    · by_cases h : i < n ∧ blsVerify cd (priEval pub (i : Int)) hm (sigValue sig) = true <;> simp [hs, h]
    · by_cases hn : i < n
      · cases hv : blsVerify cd (priEval pub (i : Int)) hm (sigValue sig) with
        | false => simp [hs, hn, hv]
        | true => simp [hs, hn, hv, Nat.not_le.2 hn, (blsVerify_iff cd hm _ _).1 hv]
      · simp [hs, hn, Nat.not_lt.1 hn]

/-- what the accumulator `pubShares` always looks like: what `RecoverCommit` will use of it are
true shares of distinct members -/
structure AccOK (acc : List (PubShare G)) : Prop where
  usable : (acc.map some).filterMap (usablePub n) = acc.map fun s => (s.I, priEval pub s.I • hm)
  nodup : (acc.map (·.I)).Nodup

theorem AccOK.append {acc : List (PubShare G)} (hok : AccOK pub hm n acc) {i : Nat} (hi : i < n)
    (hnew : (i : Int) ∉ acc.map (·.I)) :
    AccOK pub hm n (acc ++ [⟨(i : Int), some (priEval pub (i : Int) • hm)⟩]) := by
  constructor
  · rw [List.map_append, List.filterMap_append, hok.usable, List.map_append]
    refine congrArg _ ?_
    simp only [List.map_cons, List.map_nil, List.filterMap_cons, List.filterMap_nil, usablePub]
    rw [if_pos ⟨Int.natCast_nonneg i, Int.ofNat_lt.2 hi⟩]
  · rw [List.map_append, List.nodup_append]
    refine ⟨hok.nodup, List.nodup_singleton _, fun a ha b hb => ?_⟩
    rw [List.map_singleton, List.mem_singleton] at hb
    subst hb
    exact fun hab => hnew (by rwa [hab] at ha)

/-- **the loop of `tbls.Recover`**: it never fails, the collected shares are true shares of
distinct members in range, and their number is `min t (#members with a valid share not yet seen)` -/
theorem collect_spec (rest : List Bytes) (seen : List Nat) (acc : List (PubShare G))
    (hok : AccOK pub hm n acc) (hseen : ∀ i : Nat, i ∈ seen ↔ (i : Int) ∈ acc.map (·.I))
    (hlt : acc.length < t) :
    ∃ acc', collect cd pub hm t n rest seen acc = some acc' ∧ AccOK pub hm n acc'
      ∧ acc'.length = min t (acc.length + (members cd pub hm n rest \ seen.toFinset).card) := by
  induction rest generalizing seen acc with
  | nil =>
    exact ⟨acc, rfl, hok, by
      rw [members_nil, Finset.empty_sdiff, Finset.card_empty, Nat.add_zero, Nat.min_eq_right hlt.le]⟩
  | cons sig rest ih =>
    rw [collect_cons, members_cons]
    cases hv : validIdx cd pub hm n sig with
    | none => exact ih seen acc hok hseen hlt
    | some i =>
      have hi : i < n := ((validIdx_eq_some_iff cd pub hm n sig i).1 hv).2.1
      by_cases hs : i ∈ seen
      · simp only [hs, if_true, Finset.insert_sdiff_of_mem _ (List.mem_toFinset.2 hs)]
        exact ih seen acc hok hseen hlt
      · simp only [hs, if_false]
        have hok' := hok.append pub hm n hi fun h => hs ((hseen i).2 h)
        have hcard := Share.insert_sdiff_card (members cd pub hm n rest) seen.toFinset i
          (mt List.mem_toFinset.1 hs)
        rw [hcard, ← List.toFinset_cons]
        rw [List.length_append, List.length_singleton]
        split_ifs with hfull
        · exact ⟨_, rfl, hok', by rw [List.length_append, List.length_singleton]; omega⟩
        · obtain ⟨acc', e1, e2, e3⟩ := ih (i :: seen) _ hok' (fun j => by
            rw [List.mem_cons, hseen j, List.map_append, List.mem_append, List.map_singleton,
              List.mem_singleton, Int.natCast_inj, or_comm])
            (by rw [List.length_append, List.length_singleton]; omega)
          exact ⟨acc', e1, e2, by rw [e3, List.length_append, List.length_singleton]; omega⟩

/-- the guard of /repo 3cdfff8: a threshold below the number of coefficients is refused before
anything else happens -/
theorem recover_guard (sigs : List Bytes) (hlt : t < pub.length) :
    recover cd pub hm sigs t n = .errThreshold := by
  unfold recover; simp [hlt]

/-- past the guard `Recover` hands `RecoverCommit` true shares of `min t (#members)` distinct
members -/
theorem recover_commit (ht : 0 < t) (sigs : List Bytes) (hle : ¬ t < pub.length) :
    ∃ acc : List (PubShare G),
      recover cd pub hm sigs t n
          = (match recoverCommit (S := F) true (acc.map some) t n with
            | .ok c => .ok (cd.encode c)
            | .err _ => .errFew
            | .panic s => .panic s)
        ∧ (∀ iv ∈ (acc.map some).filterMap (usablePub n), iv.2 = priEval pub iv.1 • hm)
        ∧ (idxPub n (acc.map some)).card = min t (members cd pub hm n sigs).card := by
  obtain ⟨acc, e1, hok, hlen⟩ := collect_spec cd pub hm t n (uniq sigs) [] []
    ⟨rfl, List.nodup_nil⟩ (by simp) ht
  refine ⟨acc, by simp only [recover, if_neg hle, e1]; rfl, fun iv hiv => ?_, ?_⟩
  · rw [hok.usable] at hiv
    obtain ⟨s, _, rfl⟩ := List.mem_map.1 hiv
    rfl
  · rw [idxPub_card_of_nodup n _ (by rw [hok.usable, List.map_map]; exact hok.nodup), hok.usable,
      List.length_map, hlen, members_uniq]
    simp

/-- **the complete outcome of `Recover`**, no hypothesis on the public polynomial -/
theorem recover_eq_full (ht : 0 < t) (hc : CharGt F n) (sigs : List Bytes) :
    recover cd pub hm sigs t n
      = if t < pub.length then .errThreshold
        else if t ≤ (members cd pub hm n sigs).card then .ok (cd.encode (pub.headD 0 • hm))
        else .errFew := by
  split_ifs with hlt hq
  · exact recover_guard cd pub hm t n sigs hlt
  · obtain ⟨acc, e, hval, hl⟩ := recover_commit cd pub hm t n ht sigs hlt
    rw [e, recoverCommit_ok true pub hm t n (Nat.le_of_not_lt hlt) hc _ hval (by omega)]
  · obtain ⟨acc, e, -, hl⟩ := recover_commit cd pub hm t n ht sigs hlt
    rw [e, recoverCommit_few true t n _ (by omega)]

theorem recover_eq (ht : 0 < t) (hf : pub.length ≤ t) (hc : CharGt F n) (sigs : List Bytes) :
    recover cd pub hm sigs t n
      = if t ≤ (members cd pub hm n sigs).card then .ok (cd.encode (pub.headD 0 • hm)) else .errFew := by
  rw [recover_eq_full cd pub hm t n ht hc sigs, if_neg (Nat.not_lt.2 hf)]

/-- never a panic, for ANY public polynomial and any entries -/
theorem recover_total (ht : 0 < t) (hc : CharGt F n) (sigs : List Bytes) :
    recover cd pub hm sigs t n = .errFew ∨ recover cd pub hm sigs t n = .errThreshold
      ∨ ∃ s, recover cd pub hm sigs t n = .ok s := by
  rw [recover_eq_full cd pub hm t n ht hc sigs]
  split_ifs
  · exact Or.inr (Or.inl rfl)
  · exact Or.inr (Or.inr ⟨_, rfl⟩)
  · exact Or.inl rfl

/-- fewer than `t` members with a valid share: an error, for ANY public polynomial. Not read off
`recover_eq_full`, which needs `CharGt`: the error comes before any division. -/
theorem recover_few (ht : 0 < t) (sigs : List Bytes)
    (hfew : (members cd pub hm n sigs).card < t) :
    recover cd pub hm sigs t n = if t < pub.length then .errThreshold else .errFew := by
  split_ifs with hlt
  · exact recover_guard cd pub hm t n sigs hlt
  · obtain ⟨acc, e, -, hl⟩ := recover_commit cd pub hm t n ht sigs hlt
    rw [e, recoverCommit_few (F := F) true t n _ (by omega)]

end Dos.Tbls
