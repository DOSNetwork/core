/-
Helper lemmas for C19: what the marshalling theorems need beyond `Proofs/CodecBytes.lean` (big-endian bytes ↔ numbers).
-/
import DosModel.Model.ReqLoop
import DosModel.Proofs.CodecBytes
-- not for a tactic: with Mathlib in scope `2 ^ 256` in the statements here and in Props/C19 elaborates through `Monoid.toNPow`
import Mathlib.Tactic.Ring

namespace Dos.ReqLoop
open Dos

theorem beNat_append (a b : Bytes) : beNat (a ++ b) = beNat a * 256 ^ b.length + beNat b :=
  CodecBytes.beNat_append a b

theorem two_pow_256 : (256 : Nat) ^ 32 = 2 ^ 256 := by decide

theorem beNat_word {v : Nat} (h : v < 2 ^ 256) : beNat (natBE 32 v) = v :=
  CodecBytes.beNat_natBE 32 v (two_pow_256 ▸ h)

end Dos.ReqLoop
