/-
C20 — lemmas about the interpreter of the translated point.go (Model/PtProg.lean); theorems:
Props/C20Point.lean.
-/
import Lean.Elab.Tactic
import DosModel.Proofs.KernelRfl
import Mathlib.Data.List.Basic
import DosModel.Gen.Ed25519Pt

namespace Dos.PtProg
open Dos Dos.Ed25519 Dos.Ge Dos.FeProg

theorem runStmt_ifByteGt (st : St) (hd : st.done = false) (name idx k : Nat) (thn : List Stmt) :
    runStmt st (.ifByteGt name idx k thn) =
      if ((bytesOf (st.val name)).getD idx 0).toNat > k then runBlock st thn else st := by
  rw [runStmt]; simp [hd]

theorem runStmt_rangeNe (st : St) (hd : st.done = false) (a b : Nat) (thn : List Stmt) :
    runStmt st (.rangeNe a b thn) =
      if firstNe (bytesOf (st.val a)) (bytesOf (st.val b)) then runBlock st thn else st := by
  rw [runStmt]; simp [hd]

theorem runBlock_append (a b : List Stmt) : ∀ st : St, runBlock st (a ++ b) = runBlock (runBlock st a) b := by
  induction a with
  | nil => intro st; rw [List.nil_append, runBlock]
  | cons s a ih => intro st; rw [List.cons_append, runBlock, runBlock, ih]

/-- the method with another body -/
abbrev PtFn.with (f : PtFn) (body : List Stmt) : PtFn := ⟨f.slots, body⟩

/-- A conditional in a method body is the choice between two straight-line bodies.  The kernel cannot evaluate a run
through a branch on symbolic data, but it evaluates each of the three branch-free runs (`pre`, `pre ++ thn ++ post`,
`pre ++ post`) from the initial state; `hx` has a variable on its right side so that `kernel_rfl` decides it. -/
theorem PtFn.run_ifByteGt (f : PtFn) (actuals : List Nat) (regs : List Val) (pre thn post : List Stmt) (n i k : Nat)
    (hb : f.body = pre ++ .ifByteGt n i k thn :: post) {x : UInt8}
    (hd : ((f.with pre).run actuals regs).done = false)
    (hx : (bytesOf (((f.with pre).run actuals regs).val n)).getD i 0 = x) :
    f.run actuals regs = if x.toNat > k then (f.with (pre ++ thn ++ post)).run actuals regs
      else (f.with (pre ++ post)).run actuals regs := by
  unfold PtFn.run at *
  simp only at hd hx ⊢
  rw [hb, runBlock_append, runBlock, runStmt_ifByteGt _ hd, hx, List.append_assoc, runBlock_append, runBlock_append,
    runBlock_append]
  exact apply_ite (fun s => runBlock s post) _ _ _

/-- the same for the comparison loop -/
theorem PtFn.run_rangeNe (f : PtFn) (actuals : List Nat) (regs : List Val) (pre thn post : List Stmt) (a b : Nat)
    (hb : f.body = pre ++ .rangeNe a b thn :: post) {x y : Bytes}
    (hd : ((f.with pre).run actuals regs).done = false)
    (hx : ((f.with pre).run actuals regs).val a = .bytes x) (hy : ((f.with pre).run actuals regs).val b = .bytes y) :
    f.run actuals regs = if firstNe x y then (f.with (pre ++ thn ++ post)).run actuals regs
      else (f.with (pre ++ post)).run actuals regs := by
  unfold PtFn.run at *
  simp only at hd hx hy ⊢
  rw [hb, runBlock_append, runBlock, runStmt_rangeNe _ hd, hx, hy, List.append_assoc, runBlock_append, runBlock_append,
    runBlock_append]
  exact apply_ite (fun s => runBlock s post) _ _ _

theorem feToBytes_len (h : L10) : (FeOps.feToBytes h).1.length = 32 := by
  simp only [FeOps.feToBytes, FeProg.runW, FeProg.outW, List.length_map]
  rfl

/-- `ToBytes` fills all 32 bytes, for every limb vector -/
theorem extToBytes_len (p : Ext) : (extToBytes p).length = 32 := by
  simp only [extToBytes, finishBytes, List.length_set, feToBytes_len]

/-- the comparison loop of `point.Equal` finds a differing index iff the arrays differ -/
theorem firstNe_false_iff (a b : Bytes) (h : a.length = b.length) : firstNe a b = false ↔ a = b := by
  unfold firstNe
  rw [List.any_eq_false]
  constructor
  · intro hh
    apply List.ext_getElem h
    intro i h1 h2
    have := hh i (List.mem_range.2 h1)
    simpa [List.getD_eq_getElem?_getD, List.getElem?_eq_getElem h1, List.getElem?_eq_getElem h2] using this
  · intro e i _
    subst e
    simp

theorem firstNe_eq (a b : Bytes) (h : a.length = b.length) : firstNe a b = !(a == b) := by
  cases hf : firstNe a b
  · rw [(firstNe_false_iff a b h).1 hf]; simp
  · have : a ≠ b := fun e => by rw [(firstNe_false_iff a b h).2 e] at hf; cases hf
    simp [this]

/-- `copy(wide[:], a[:])` into a zeroed `[64]byte` -/
theorem copy64 (a : Bytes) (h : a.length = 32) : copyInto (List.replicate 64 0) a = a ++ List.replicate 32 0 := by
  unfold copyInto
  rw [List.take_of_length_le (by simp [h]), h]
  rfl

/-- what is computed from the scalar `point.Mul` passes on, split along its guard `a[31] > 127` as the program splits -/
theorem mulScalar_ite {α : Type} (f : Bytes → α) (a : Bytes) (hl : a.length = 32) :
    f (mulScalar a) = if (a.getD 31 0).toNat > 127
      then f (Gen.Ed25519Sc.scReduce shrI (copyInto (List.replicate 64 0) a)) else f a := by
  unfold mulScalar
  rw [copy64 a hl]
  split <;> rfl

/-- the guard `if a[31] > 127 { … a = &red }` of `point.Mul` in a method body: what `obs` reads off the run is `g` of
the scalar `mulScalar a`, if it is `g` of the reduced scalar on the run through `thn` and `g a` on the run around it -/
theorem PtFn.run_mulGuard {α : Type} (f : PtFn) (actuals : List Nat) (regs : List Val) (pre thn post : List Stmt) (n : Nat)
    (hb : f.body = pre ++ .ifByteGt n 31 127 thn :: post) {a : Bytes} (hl : a.length = 32)
    (hd : ((f.with pre).run actuals regs).done = false)
    (hx : (bytesOf (((f.with pre).run actuals regs).val n)).getD 31 0 = a.getD 31 0) (obs : St → α) (g : Bytes → α)
    (h1 : obs ((f.with (pre ++ thn ++ post)).run actuals regs)
      = g (Gen.Ed25519Sc.scReduce shrI (copyInto (List.replicate 64 0) a)))
    (h0 : obs ((f.with (pre ++ post)).run actuals regs) = g a) : obs (f.run actuals regs) = g (mulScalar a) := by
  rw [f.run_ifByteGt actuals regs pre thn post n 31 127 hb hd hx, apply_ite obs, h1, h0, mulScalar_ite g a hl]

end Dos.PtProg
