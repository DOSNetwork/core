/-
C14 helper lemmas: state updates, what a step does to goroutines / channels / wait groups /
contexts, membership in `gsWhere`, the labeling lookups.
-/
import DosModel.Model.PipeWf

namespace Dos.Pipe
variable {p : Pipeline}

namespace State

@[simp] theorem setG_closed (s : State) (g : Gi) (x : GSt) (c : Ch) : (s.setG g x).closed c = s.closed c := rfl
@[simp] theorem setG_len (s : State) (g : Gi) (x : GSt) (c : Ch) : (s.setG g x).len c = s.len c := rfl
@[simp] theorem setG_wg (s : State) (g : Gi) (x : GSt) (w : Nat) : (s.setG g x).wg w = s.wg w := rfl
@[simp] theorem setG_ctxDone (s : State) (g : Gi) (x : GSt) (k : Nat) : (s.setG g x).ctxDone k = s.ctxDone k := rfl
@[simp] theorem setG_chs (s : State) (g : Gi) (x : GSt) : (s.setG g x).chs = s.chs := rfl
@[simp] theorem setG_wgs (s : State) (g : Gi) (x : GSt) : (s.setG g x).wgs = s.wgs := rfl
@[simp] theorem setG_ctxs (s : State) (g : Gi) (x : GSt) : (s.setG g x).ctxs = s.ctxs := rfl
@[simp] theorem setG_gs (s : State) (g : Gi) (x : GSt) : (s.setG g x).gs = s.gs.set g x := rfl
@[simp] theorem setG_gs_length (s : State) (g : Gi) (x : GSt) : (s.setG g x).gs.length = s.gs.length := by simp

theorem setG_get (s : State) (g g' : Gi) (x : GSt) :
    (s.setG g x).gs[g']? = if g = g' then (if g < s.gs.length then some x else none) else s.gs[g']? := by
  simp only [setG_gs, List.getElem?_set]

theorem setG_get_self {s : State} {g : Gi} {x y : GSt} (h : s.gs[g]? = some y) :
    (s.setG g x).gs[g]? = some x := by
  have := (List.getElem?_eq_some_iff.mp h).1
  simp [this]

theorem setG_get_ne {s : State} {g g' : Gi} {x : GSt} (h : g ≠ g') :
    (s.setG g x).gs[g']? = s.gs[g']? := by
  simp [h]

@[simp] theorem setLen_gs (s : State) (c : Ch) (n : Nat) : (s.setLen c n).gs = s.gs := rfl
@[simp] theorem setLen_wg (s : State) (c : Ch) (n : Nat) (w : Nat) : (s.setLen c n).wg w = s.wg w := rfl
@[simp] theorem setLen_ctxDone (s : State) (c : Ch) (n : Nat) (k : Nat) : (s.setLen c n).ctxDone k = s.ctxDone k := rfl
@[simp] theorem setClosed_gs (s : State) (c : Ch) : (s.setClosed c).gs = s.gs := rfl
@[simp] theorem setClosed_wg (s : State) (c : Ch) (w : Nat) : (s.setClosed c).wg w = s.wg w := rfl
@[simp] theorem setClosed_ctxDone (s : State) (c : Ch) (k : Nat) : (s.setClosed c).ctxDone k = s.ctxDone k := rfl
@[simp] theorem setWg_gs (s : State) (w n : Nat) : (s.setWg w n).gs = s.gs := rfl
@[simp] theorem setWg_closed (s : State) (w n : Nat) (c : Ch) : (s.setWg w n).closed c = s.closed c := rfl
@[simp] theorem setWg_len (s : State) (w n : Nat) (c : Ch) : (s.setWg w n).len c = s.len c := rfl
@[simp] theorem setWg_ctxDone (s : State) (w n : Nat) (k : Nat) : (s.setWg w n).ctxDone k = s.ctxDone k := rfl
@[simp] theorem setCtx_gs (s : State) (k : Nat) : (s.setCtx k).gs = s.gs := rfl
@[simp] theorem setCtx_closed (s : State) (k : Nat) (c : Ch) : (s.setCtx k).closed c = s.closed c := rfl
@[simp] theorem setCtx_len (s : State) (k : Nat) (c : Ch) : (s.setCtx k).len c = s.len c := rfl
@[simp] theorem setCtx_wg (s : State) (k : Nat) (w : Nat) : (s.setCtx k).wg w = s.wg w := rfl

theorem chs_none {s : State} {c : Ch} (h : ¬ c < s.chs.length) : s.chs[c]? = none := by
  rw [List.getElem?_eq_none_iff]; exact Nat.le_of_not_lt h

/-- a channel with something in its queue exists -/
theorem len_pos_lt {s : State} {c : Ch} (h : 0 < s.len c) : c < s.chs.length := by
  unfold len at h
  cases hh : s.chs[c]? with
  | none => simp [hh] at h
  | some y => exact (List.getElem?_eq_some_iff.mp hh).1

theorem setLen_closed (s : State) (c : Ch) (n : Nat) (c' : Ch) : (s.setLen c n).closed c' = s.closed c' := by
  unfold setLen
  simp only [closed, List.getElem?_set]
  by_cases h : c = c'
  · subst h
    by_cases hlt : c < s.chs.length
    · simp [hlt]
    · simp [hlt]
  · simp [h]

theorem setLen_len (s : State) (c : Ch) (n : Nat) (c' : Ch) :
    (s.setLen c n).len c' = if c = c' ∧ c < s.chs.length then n else s.len c' := by
  unfold setLen
  simp only [len, List.getElem?_set]
  by_cases h : c = c'
  · subst h
    by_cases hlt : c < s.chs.length
    · simp [hlt]
    · simp [hlt]
  · simp [h]

theorem setClosed_closed (s : State) (c c' : Ch) :
    (s.setClosed c).closed c' = (s.closed c' || (decide (c = c') && decide (c < s.chs.length))) := by
  unfold setClosed
  simp only [closed, List.getElem?_set]
  by_cases h : c = c'
  · subst h
    by_cases hlt : c < s.chs.length
    · simp [hlt]
    · simp [hlt]
  · simp [h]

theorem setClosed_len (s : State) (c c' : Ch) : (s.setClosed c).len c' = s.len c' := by
  unfold setClosed
  simp only [len, List.getElem?_set]
  by_cases h : c = c'
  · subst h
    by_cases hlt : c < s.chs.length
    · simp [hlt]
    · simp [hlt]
  · simp [h]

theorem setWg_wg (s : State) (w n w' : Nat) :
    (s.setWg w n).wg w' = if w = w' ∧ w < s.wgs.length then n else s.wg w' := by
  unfold setWg
  simp only [wg, List.getElem?_set]
  by_cases h : w = w'
  · subst h
    by_cases hlt : w < s.wgs.length
    · simp [hlt]
    · simp [hlt]
  · simp [h]

theorem setCtx_ctxDone (s : State) (k k' : Nat) :
    (s.setCtx k).ctxDone k' = (s.ctxDone k' || (decide (k = k') && decide (k < s.ctxs.length))) := by
  unfold setCtx
  simp only [ctxDone, List.getElem?_set]
  by_cases h : k = k'
  · subst h
    by_cases hlt : k < s.ctxs.length
    · simp [hlt]
    · simp [hlt]
  · simp [h]

end State

theorem effect_closed (s : State) (l : Lab) (c : Ch) :
    (effect s l).closed c = (s.closed c || (decide (l = .close c) && decide (c < s.chs.length))) := by
  cases l <;> simp [effect, State.setLen_closed, State.setClosed_closed]
  case close c' =>
    by_cases h : c' = c <;> simp [h]
  case spawn g =>
    split <;> simp

/-- only a `close c` closes `c` -/
theorem effect_closes {s : State} {l : Lab} {c : Ch} (h0 : s.closed c = false)
    (h1 : (effect s l).closed c = true) : l = .close c := by
  rw [effect_closed, h0] at h1
  simp only [Bool.false_or, Bool.and_eq_true, decide_eq_true_eq] at h1
  exact h1.1

theorem effect_closed_mono (s : State) (l : Lab) (c : Ch) (h : s.closed c = true) : (effect s l).closed c = true := by
  rw [effect_closed, h]; rfl

/-- the goroutine list after an effect: unchanged except for a spawn of an idle goroutine -/
theorem effect_gs (s : State) (l : Lab) :
    (effect s l).gs = match l with
      | .spawn g => if s.gs[g]? = some GSt.idle then s.gs.set g (.at 0) else s.gs
      | _ => s.gs := by
  cases l <;> simp [effect]
  case spawn g => split <;> simp

/-- the goroutine list after an effect, as one optional `set` -/
theorem effect_gs_cases (s : State) (l : Lab) :
    (effect s l).gs = s.gs ∨ ∃ g', l = .spawn g' ∧ s.gs[g']? = some GSt.idle ∧ (effect s l).gs = s.gs.set g' (.at 0) := by
  rw [effect_gs]
  cases l <;> try (left; rfl)
  case spawn g' =>
    simp only
    split
    · rename_i h; right; exact ⟨g', rfl, h, rfl⟩
    · left; rfl

theorem effect_wg (s : State) (l : Lab) (w : Nat) :
    (effect s l).wg w = if l = .wgDone w then s.wg w - 1 else s.wg w := by
  cases l <;> simp [effect, State.setWg_wg]
  case wgDone w' =>
    by_cases h : w' = w
    · subst h
      by_cases hlt : w' < s.wgs.length
      · simp [hlt]
      · simp [hlt, State.wg]
    · simp [h]
  case spawn g => split <;> simp

theorem effect_len (s : State) (l : Lab) (c : Ch) :
    (effect s l).len c =
      if l = .recvOk c then s.len c - 1
      else if l = .send c ∧ c < s.chs.length then s.len c + 1 else s.len c := by
  cases l <;> simp [effect, State.setLen_len, State.setClosed_len]
  case recvOk c' =>
    by_cases h : c' = c
    · subst h
      by_cases hlt : c' < s.chs.length
      · simp [hlt]
      · simp [hlt, State.len]
    · simp [h]
  case send c' => by_cases h : c' = c <;> simp [h]
  case spawn g => split <;> simp

theorem effect_ctxDone_mono (s : State) (l : Lab) (k : Nat) (h : s.ctxDone k = true) : (effect s l).ctxDone k = true := by
  cases l <;> simp [effect, h, State.setCtx_ctxDone]
  case spawn g => split <;> simp [h]

theorem node_some {g : Gi} {pc : Pc} {nd : Node} (h : p.node g pc = some nd) :
    ∃ gr, p.gs[g]? = some gr ∧ gr.nodes[pc]? = some nd := by
  unfold Pipeline.node at h
  split at h
  · rename_i gr hg; exact ⟨gr, hg, h⟩
  · simp at h

theorem mem_gsWhere {f : Goroutine → Bool} {g : Gi} :
    g ∈ p.gsWhere f ↔ ∃ gr, p.gs[g]? = some gr ∧ f gr = true := by
  unfold Pipeline.gsWhere
  simp only [List.mem_filterMap]
  constructor
  · rintro ⟨⟨gr, i⟩, hm, hx⟩
    have := List.mem_zipIdx hm
    simp only at hx
    split at hx
    · rename_i hf
      simp only [Option.some.injEq] at hx; subst hx
      simp only [Nat.zero_add, Nat.sub_zero] at this
      exact ⟨gr, by rw [List.getElem?_eq_some_iff]; exact ⟨this.2.1, this.2.2.symm⟩, hf⟩
    · simp at hx
  · rintro ⟨gr, hg, hf⟩
    refine ⟨(gr, g), ?_, by simp [hf]⟩
    obtain ⟨hlt, heq⟩ := List.getElem?_eq_some_iff.mp hg
    rw [List.mem_zipIdx_iff_getElem?]
    simpa using hg

/-- if exactly `h` satisfies `f`, every goroutine satisfying `f` is `h` -/
theorem gsWhere_singleton {f : Goroutine → Bool} {h g : Gi} {gr : Goroutine}
    (hs : p.gsWhere f = [h]) (hg : p.gs[g]? = some gr) (hf : f gr = true) : g = h := by
  have : g ∈ p.gsWhere f := mem_gsWhere.mpr ⟨gr, hg, hf⟩
  rw [hs] at this
  simpa using this

theorem gsWhere_nil {f : Goroutine → Bool} {g : Gi} {gr : Goroutine}
    (hs : p.gsWhere f = []) (hg : p.gs[g]? = some gr) : f gr = false := by
  cases hf : f gr with
  | false => rfl
  | true =>
    have : g ∈ p.gsWhere f := mem_gsWhere.mpr ⟨gr, hg, hf⟩
    rw [hs] at this
    simp at this

theorem mem_edges_sel {alts : List Alt} {l : Lab} {n : Pc} :
    (l, n) ∈ (Node.sel alts).edges ↔ ∃ a ∈ alts, (l, n) ∈ a.edges := by
  simp [Node.edges, List.mem_flatMap]

theorem closes_of_edge {nd : Node} {c : Ch} {n : Pc} (h : (Lab.close c, n) ∈ nd.edges) : nd.closes c = true := by
  cases nd <;> simp [Node.edges, Node.closes] at h ⊢
  case sel alts =>
    obtain ⟨a, _, ha⟩ := h
    cases a <;> simp [Alt.edges] at ha
  case close c' n' => exact h.1.symm

theorem close_node_of_edge {nd : Node} {c : Ch} {n : Pc} (h : (Lab.close c, n) ∈ nd.edges) : nd = .close c n := by
  cases nd <;> simp [Node.edges] at h ⊢
  case sel alts =>
    obtain ⟨a, _, ha⟩ := h
    cases a <;> simp [Alt.edges] at ha
  case close c' n' => exact ⟨h.1.symm, h.2.symm⟩

theorem sendsOn_of_edge {nd : Node} {c : Ch} {n : Pc} (h : (Lab.send c, n) ∈ nd.edges) : nd.sendsOn c = true := by
  cases nd <;> simp [Node.edges, Node.sendsOn] at h ⊢
  case sel alts =>
    obtain ⟨a, hm, ha⟩ := h
    refine ⟨a, hm, ?_⟩
    cases a <;> simp [Alt.edges, Alt.sendsOn] at ha ⊢
    exact ha.1.symm

theorem handsOff_of_edge {nd : Node} {r : Ch} {n : Pc} (hed : (Lab.send r, n) ∈ nd.edges) : nd.handsOff r = true := by
  cases nd <;> simp [Node.edges, Node.handsOff] at hed ⊢
  case sel alts =>
    obtain ⟨a, ha, hae⟩ := hed
    refine ⟨a, ha, ?_⟩
    cases a <;> simp [Alt.edges, Alt.handsOff] at hae ⊢
    exact hae.1.symm

theorem opsOn_of_close_edge {nd : Node} {c : Ch} {n : Pc} (h : (Lab.close c, n) ∈ nd.edges) : nd.opsOn c = true := by
  simp [Node.opsOn, closes_of_edge h]

theorem opsOn_of_send_edge {nd : Node} {c : Ch} {n : Pc} (h : (Lab.send c, n) ∈ nd.edges) : nd.opsOn c = true := by
  simp [Node.opsOn, sendsOn_of_edge h]

theorem recvsOn_of_edge {nd : Node} {c : Ch} {n : Pc} (h : (Lab.recvOk c, n) ∈ nd.edges) : nd.recvsOn c = true := by
  cases nd <;> simp [Node.edges, Node.recvsOn] at h ⊢
  case sel alts =>
    obtain ⟨a, hm, ha⟩ := h
    refine ⟨a, hm, ?_⟩
    cases a <;> simp [Alt.edges, Alt.recvsOn] at ha ⊢
    exact ha.1.symm

theorem isDone_of_edge {nd : Node} {w : Nat} {n : Pc} (h : (Lab.wgDone w, n) ∈ nd.edges) : nd.isDone w = true := by
  cases nd <;> simp [Node.edges, Node.isDone] at h ⊢
  case sel alts =>
    obtain ⟨a, _, ha⟩ := h
    cases a <;> simp [Alt.edges] at ha
  case wgDone w' n' => exact h.1.symm

theorem isWait_of_edge {nd : Node} {w : Nat} {n : Pc} (h : (Lab.wgWait w, n) ∈ nd.edges) : nd.isWait w = true := by
  cases nd <;> simp [Node.edges, Node.isWait] at h ⊢
  case sel alts =>
    obtain ⟨a, _, ha⟩ := h
    cases a <;> simp [Alt.edges] at ha
  case wgWait w' n' => exact h.1.symm

/-- an edge that leaves a node closing `c` / doing `wgDone w` / `wgWait w` carries that label -/
theorem lab_of_closes {nd : Node} {c : Ch} {l : Lab} {n : Pc} (h : nd.closes c = true)
    (he : (l, n) ∈ nd.edges) : l = .close c := by
  cases nd <;> simp [Node.closes] at h
  case close c' n' => subst h; simp [Node.edges] at he; exact he.1

theorem lab_of_isDone {nd : Node} {w : Nat} {l : Lab} {n : Pc} (h : nd.isDone w = true)
    (he : (l, n) ∈ nd.edges) : l = .wgDone w := by
  cases nd <;> simp [Node.isDone] at h
  case wgDone w' n' => subst h; simp [Node.edges] at he; exact he.1

theorem lab_of_isWait {nd : Node} {w : Nat} {l : Lab} {n : Pc} (h : nd.isWait w = true)
    (he : (l, n) ∈ nd.edges) : l = .wgWait w := by
  cases nd <;> simp [Node.isWait] at h
  case wgWait w' n' => subst h; simp [Node.edges] at he; exact he.1

theorem mem_succs_of_edge {nd : Node} {l : Lab} {n : Pc} (h : (l, n) ∈ nd.edges) : n ∈ nd.succs := by
  simp only [Node.succs, List.mem_map]
  exact ⟨(l, n), h, rfl⟩

theorem hasOps_of_node {gr : Goroutine} {pc : Pc} {nd : Node} {c : Ch}
    (hn : gr.nodes[pc]? = some nd) (h : nd.opsOn c = true) : gr.hasOps c = true := by
  simp only [Goroutine.hasOps, List.any_eq_true]
  exact ⟨nd, List.mem_of_getElem? hn, h⟩

theorem hasClose_of_node {gr : Goroutine} {pc : Pc} {nd : Node} {c : Ch}
    (hn : gr.nodes[pc]? = some nd) (h : nd.closes c = true) : gr.hasClose c = true := by
  simp only [Goroutine.hasClose, List.any_eq_true]
  exact ⟨nd, List.mem_of_getElem? hn, h⟩

theorem hasSend_of_node {gr : Goroutine} {pc : Pc} {nd : Node} {c : Ch}
    (hn : gr.nodes[pc]? = some nd) (h : nd.sendsOn c = true) : gr.hasSend c = true := by
  simp only [Goroutine.hasSend, List.any_eq_true]
  exact ⟨nd, List.mem_of_getElem? hn, h⟩

theorem hasRecv_of_node {gr : Goroutine} {pc : Pc} {nd : Node} {c : Ch}
    (hn : gr.nodes[pc]? = some nd) (h : nd.recvsOn c = true) : gr.hasRecv c = true := by
  simp only [Goroutine.hasRecv, List.any_eq_true]
  exact ⟨nd, List.mem_of_getElem? hn, h⟩

theorem zipIdx_all {α : Type} {l : List α} {f : α × Nat → Bool} (h : l.zipIdx.all f = true)
    {i : Nat} {x : α} (hx : l[i]? = some x) : f (x, i) = true := by
  rw [List.all_eq_true] at h
  apply h
  rw [List.mem_zipIdx_iff_getElem?]
  simpa using hx

theorem all_nodes {l : List Node} {f : Node → Bool} (h : l.all f = true) {i : Nat} {x : Node}
    (hx : l[i]? = some x) : f x = true := by
  rw [List.all_eq_true] at h
  exact h x (List.mem_of_getElem? hx)

/-- labeling closed backwards along edges: a marked successor marks the node -/
theorem backClosed_edge {nodes : List Node} {seed : Node → Bool} {m : List Bool}
    (h : backClosedOk nodes seed m = true) {i : Nat} {nd : Node} (hn : nodes[i]? = some nd)
    {l : Lab} {j : Pc} (he : (l, j) ∈ nd.edges) (hj : mark m j = true) : mark m i = true := by
  have := zipIdx_all h hn
  simp only [Bool.and_eq_true, List.all_eq_true, Bool.or_eq_true, Bool.not_eq_true'] at this
  rcases this.2 j (mem_succs_of_edge he) with h1 | h1
  · rw [h1] at hj; cases hj
  · exact h1

theorem backClosed_seed {nodes : List Node} {seed : Node → Bool} {m : List Bool}
    (h : backClosedOk nodes seed m = true) {i : Nat} {nd : Node} (hn : nodes[i]? = some nd)
    (hs : seed nd = true) : mark m i = true := by
  have := zipIdx_all h hn
  simp only [Bool.and_eq_true, Bool.or_eq_true, Bool.not_eq_true'] at this
  rcases this.1 with h1 | h1
  · rw [hs] at h1; cases h1
  · exact h1

end Dos.Pipe
