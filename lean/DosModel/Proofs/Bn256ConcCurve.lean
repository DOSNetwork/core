/-
The concrete affine G1 operations of `Model/Bn256.lean` stay on the curve: `G1.valid` (coordinates
< p, y² = x³ + 3) is preserved by `neg`, `double`, `add` and `smul`, and holds for the generator.
Hence every element reachable from the generator by scalar multiplication, addition and negation
is a valid element — the hypothesis of the C11 theorems.

Uses: p is prime (`Proofs/Primes.lean`, Pratt certificate checked by the kernel), so `ZMod p` is a
field and `finv a = a^(p−2)` is the inverse (Fermat).  The chord/tangent formulas are verified as
polynomial identities (`linear_combination` with explicit cofactors).
This is the Nat-level affine model of Model/Bn256.lean that C06 / C11 use, not the Montgomery `Jac GFp` model of
Proofs/Bn256Concrete.lean.
-/
import Mathlib.Data.ZMod.Basic
import Mathlib.FieldTheory.Finite.Basic
import Mathlib.Tactic.LinearCombination
import DosModel.Proofs.Primes
import DosModel.Proofs.Codec
import DosModel.Proofs.ZModFacts

namespace Dos.Bn256
open Dos

instance fact_p_prime : Fact (Nat.Prime p) := ⟨Dos.Primes.bn256_p_prime⟩

abbrev F := ZMod p

theorem cast_fadd (a b : Nat) : ((fadd a b : Nat) : F) = (a : F) + b := by
  simp [fadd, ZMod.natCast_mod]

theorem cast_fmul (a b : Nat) : ((fmul a b : Nat) : F) = (a : F) * b := by
  simp [fmul, ZMod.natCast_mod]

theorem cast_fsq (a : Nat) : ((fsq a : Nat) : F) = (a : F) * a := by
  simp [fsq, ZMod.natCast_mod]

theorem cast_fsub (a b : Nat) : ((fsub a b : Nat) : F) = (a : F) - b := by
  have hb : b % p ≤ p := Nat.le_of_lt (Nat.mod_lt _ Dos.Codec.p_pos)
  simp only [fsub, ZMod.natCast_mod, Nat.cast_add, Nat.cast_sub hb, ZMod.natCast_self]
  ring

theorem cast_fneg (a : Nat) : ((fneg a : Nat) : F) = -(a : F) := by
  have hb : a % p ≤ p := Nat.le_of_lt (Nat.mod_lt _ Dos.Codec.p_pos)
  simp only [fneg, ZMod.natCast_mod, Nat.cast_sub hb, ZMod.natCast_self]
  ring

/-- the square-and-multiply loop computes the power -/
theorem powAux_spec (m : Nat) : ∀ (fuel b e acc : Nat), e ≤ fuel →
    ((powAux m fuel b e acc : Nat) : ZMod m) = (acc : ZMod m) * (b : ZMod m) ^ e := by
  intro fuel
  induction fuel with
  | zero =>
    intro b e acc he
    have : e = 0 := by omega
    subst this; simp [powAux]
  | succ fuel ih =>
    intro b e acc he
    unfold powAux
    by_cases h0 : e = 0
    · subst h0; simp
    · simp only [h0, if_false]
      rw [ih _ _ _ (by omega)]
      have hsplit : e = 2 * (e / 2) + e % 2 := (Nat.div_add_mod e 2).symm
      by_cases hodd : e % 2 = 1
      · simp only [hodd, if_true, ZMod.natCast_mod, Nat.cast_mul]
        conv_rhs => rw [hsplit, hodd, pow_add, pow_mul, pow_one]
        ring
      · have hev : e % 2 = 0 := by omega
        simp only [hev, ZMod.natCast_mod, Nat.cast_mul]
        conv_rhs => rw [hsplit, hev, Nat.add_zero, pow_mul]
        simp [pow_two]

theorem cast_fpow (b e : Nat) : ((fpow b e : Nat) : F) = (b : F) ^ e := by
  unfold fpow powMod
  rw [powAux_spec p e (b % p) e (1 % p) (Nat.le_refl e)]
  simp [ZMod.natCast_mod]

/-- `finv` is the field inverse (Fermat; 0 ↦ 0) -/
theorem cast_finv (a : Nat) : ((finv a : Nat) : F) = (a : F)⁻¹ := by
  rw [finv, cast_fpow, ZModFacts.pow_sub_two (by decide)]

theorem fadd_lt (a b : Nat) : fadd a b < p := Nat.mod_lt _ Dos.Codec.p_pos
theorem fsub_lt (a b : Nat) : fsub a b < p := Nat.mod_lt _ Dos.Codec.p_pos
theorem fneg_lt (a : Nat) : fneg a < p := Nat.mod_lt _ Dos.Codec.p_pos
theorem fmul_lt (a b : Nat) : fmul a b < p := Nat.mod_lt _ Dos.Codec.p_pos
theorem fsq_lt (a : Nat) : fsq a < p := Nat.mod_lt _ Dos.Codec.p_pos

/-- the Boolean curve test is the curve equation in the field -/
theorem onCurve_iff (x y : Nat) :
    G1.onCurve (.aff x y) = true ↔ (y : F) ^ 2 = (x : F) ^ 3 + 3 := by
  simp only [G1.onCurve, beq_iff_eq, curveB]
  constructor
  · intro h
    have := congrArg (fun n : Nat => (n : F)) h
    simp only [cast_fsq, cast_fadd, cast_fmul] at this
    push_cast at this
    linear_combination this
  · intro h
    have e : ((fsq y : Nat) : F) = ((fadd (fmul (fsq x) x) 3 : Nat) : F) := by
      simp only [cast_fsq, cast_fadd, cast_fmul]
      push_cast
      linear_combination h
    exact (ZModFacts.natCast_inj (fsq_lt y) (fadd_lt _ _)).1 e

theorem mod_eq_zero_iff_cast (a : Nat) : a % p = 0 ↔ (a : F) = 0 := by
  rw [ZMod.natCast_eq_zero_iff]; exact (Nat.dvd_iff_mod_eq_zero).symm

theorem mod_eq_iff_cast (a b : Nat) : a % p = b % p ↔ (a : F) = b :=
  (ZMod.natCast_eq_natCast_iff' a b p).symm

theorem two_ne_zero_F : (2 : F) ≠ 0 := by
  simpa using ZModFacts.natCast_ne_zero (q := p) (n := 2) (by decide) (by decide)

theorem three_ne_zero_F : (3 : F) ≠ 0 := by
  simpa using ZModFacts.natCast_ne_zero (q := p) (n := 3) (by decide) (by decide)

/-! ### closure -/

theorem valid_iff (x y : Nat) :
    G1.valid (.aff x y) = true ↔ x < p ∧ y < p ∧ (y : F) ^ 2 = (x : F) ^ 3 + 3 := by
  simp only [G1.valid, Bool.and_eq_true, decide_eq_true_eq, onCurve_iff, and_assoc]

theorem valid_neg (P : G1) (h : G1.valid P = true) : G1.valid (G1.neg P) = true := by
  cases P with
  | inf => rfl
  | aff x y =>
    rw [valid_iff] at h
    simp only [G1.neg]
    rw [valid_iff]
    refine ⟨h.1, fneg_lt y, ?_⟩
    rw [cast_fneg]; linear_combination h.2.2

theorem valid_double (P : G1) (h : G1.valid P = true) : G1.valid (G1.double P) = true := by
  cases P with
  | inf => rfl
  | aff x y =>
    rw [valid_iff] at h
    obtain ⟨_, _, hc⟩ := h
    simp only [G1.double]
    split
    · rfl
    · rename_i hy
      have hy' : (y : F) ≠ 0 := fun h0 => hy ((mod_eq_zero_iff_cast y).mpr h0)
      rw [valid_iff]
      refine ⟨fsub_lt _ _, fsub_lt _ _, ?_⟩
      simp only [cast_fsub, cast_fmul, cast_fsq, cast_fadd, cast_finv]
      push_cast
      have h2y : (y : F) + y ≠ 0 := by
        intro h0
        have : (2 : F) * y = 0 := by linear_combination h0
        rcases mul_eq_zero.mp this with h | h
        · exact two_ne_zero_F h
        · exact hy' h
      generalize hl : (3 : F) * (x * x) * ((y : F) + y)⁻¹ = l
      have hl' : l * (2 * y) = 3 * (x : F) ^ 2 := by
        have e : (2 : F) * y = y + y := by ring
        rw [← hl, e, mul_assoc, inv_mul_cancel₀ h2y]; ring
      linear_combination (l ^ 2 - 3 * x) * hl' + hc

theorem valid_add (P Q : G1) (hP : G1.valid P = true) (hQ : G1.valid Q = true) :
    G1.valid (G1.add P Q) = true := by
  cases P with
  | inf => simpa [G1.add] using hQ
  | aff x1 y1 =>
    cases Q with
    | inf => simpa [G1.add] using hP
    | aff x2 y2 =>
      simp only [G1.add]
      split
      · split
        · exact valid_double _ hP
        · rfl
      · rename_i hx
        have hx' : (x2 : F) - x1 ≠ 0 := by
          intro h0
          apply hx
          rw [mod_eq_iff_cast]
          linear_combination -h0
        rw [valid_iff] at hP hQ
        obtain ⟨_, _, h1⟩ := hP
        obtain ⟨_, _, h2⟩ := hQ
        rw [valid_iff]
        refine ⟨fsub_lt _ _, fsub_lt _ _, ?_⟩
        simp only [cast_fsub, cast_fmul, cast_fsq, cast_finv]
        generalize hl : ((y2 : F) - y1) * ((x2 : F) - x1)⁻¹ = l
        have hl' : l * ((x2 : F) - x1) = y2 - y1 := by
          rw [← hl, mul_assoc, inv_mul_cancel₀ hx', mul_one]
        have key : ((x2 : F) - x1) *
            ((l * (x1 - (l * l - x1 - x2)) - y1) ^ 2 - ((l * l - x1 - x2) ^ 3 + 3)) = 0 := by
          linear_combination
            (-l ^ 3 * x1 + l ^ 3 * x2 + l ^ 2 * y1 + l ^ 2 * y2 + 2 * l * x1 ^ 2 - l * x1 * x2 - l * x2 ^ 2
              - 2 * x1 * y1 - 2 * x1 * y2 - x2 * y1 - x2 * y2) * hl'
            + (-l ^ 2 + x1 + 2 * x2) * h1 + (l ^ 2 - 2 * x1 - x2) * h2
        have := (mul_eq_zero.mp key).resolve_left hx'
        linear_combination this

theorem valid_smulAux (P : G1) (hP : G1.valid P = true) :
    ∀ fuel k, G1.valid (G1.smulAux P fuel k) = true := by
  intro fuel
  induction fuel with
  | zero => intro k; rfl
  | succ fuel ih =>
    intro k
    unfold G1.smulAux
    split
    · rfl
    · simp only []
      split
      · exact valid_add _ _ (valid_double _ (ih _)) hP
      · exact valid_double _ (ih _)

theorem valid_smul (k : Nat) (P : G1) (hP : G1.valid P = true) : G1.valid (G1.smul k P) = true :=
  valid_smulAux P hP k k

/-- elements reachable from the generator by the group operations the library offers -/
inductive G1.Reachable : G1 → Prop
  | base : G1.Reachable g1gen
  | null : G1.Reachable .inf
  | neg {P} : G1.Reachable P → G1.Reachable (G1.neg P)
  | add {P Q} : G1.Reachable P → G1.Reachable Q → G1.Reachable (G1.add P Q)
  | smul {P} (k : Nat) : G1.Reachable P → G1.Reachable (G1.smul k P)

theorem reachable_valid {P : G1} (h : G1.Reachable P) : G1.valid P = true := by
  induction h with
  | base => decide
  | null => rfl
  | neg _ ih => exact valid_neg _ ih
  | add _ _ ih1 ih2 => exact valid_add _ _ ih1 ih2
  | smul k _ ih => exact valid_smul k _ ih

end Dos.Bn256
