/-
Liveness of honest key generation, first stage: from the genuine public keys of all other members
(in any order) `exchangePub`/`genDistKeyGenerator` build the generator over the honest participant
list, and `Deals()` leaves it in the honest state with only the own slot, sending genuine deals.
-/
import DosModel.Proofs.DkgLiveBatch
import DosModel.Proofs.DkgLiveKeys

set_option linter.unusedSectionVars false

namespace Dos.Dkg
open Dos Dos.Vss

variable {F G : Type} [Field F] [AddCommGroup G] [Module F G] [DecidableEq F] [DecidableEq G]

/-- member `j`'s genuine public-key message -/
def Cfg.pkMsg (c : Cfg F G) (j : Nat) : PkMsg G := ⟨j, some ((c.longs.getD j 0) • c.g), j⟩

theorem mapM_id_map_some {α : Type} (l : List α) : ((l.map some).mapM id : Option (List α)) = some l := by
  induction l with
  | nil => rfl
  | cons a l ih => simp [List.mapM_cons, ih]

/-- `place` writes every key at its index -/
theorem place_spec (n : Nat) (key : Nat → G) (hinj : ∀ a b, a < n → b < n → key a = key b → a = b) :
    ∀ (ms : List (PkMsg G)) (acc : List (Option G)),
    acc.length = n → (∀ m ∈ ms, m.index < n ∧ m.key = some (key m.index) ∧ m.sender = m.index) → (ms.map (·.index)).Nodup →
    (∀ m ∈ ms, (acc[m.index]?).join = none) →
    (∀ m ∈ ms, ∀ k : Nat, acc[k]? = some (some (key m.index)) → False) →
    ∃ acc', buildGen.place n ms acc = some acc' ∧ acc'.length = n ∧
      ∀ k, acc'[k]? = if k ∈ ms.map (·.index) then some (some (key k)) else acc[k]? := by
  intro ms
  induction ms with
  | nil => intro acc hl _ _ _ _; exact ⟨acc, by simp [buildGen.place], hl, by simp⟩
  | cons m ms ih =>
    intro acc hl hm hnd hfree hfresh
    obtain ⟨hlt, hkey, hsender⟩ := hm m (by simp)
    simp only [List.map_cons, List.nodup_cons] at hnd
    have hfm := hfree m (by simp)
    have hnex : ∀ x ∈ ms, m.index ≠ x.index := by
      intro x hx he; exact hnd.1 (by rw [he]; exact List.mem_map.2 ⟨x, hx, rfl⟩)
    obtain ⟨acc', h1, h2, h3⟩ := ih (acc.set m.index (some (key m.index))) (by simp [hl])
      (fun x hx => hm x (by simp [hx])) hnd.2 (by
        intro x hx
        rw [List.getElem?_set_ne (hnex x hx)]
        exact hfree x (by simp [hx])) (by
        intro x hx k hk
        rw [List.getElem?_set] at hk
        by_cases hmk : m.index = k
        · simp only [hmk, if_true] at hk
          rw [if_pos (by omega)] at hk
          injection hk with hk; injection hk with hk
          exact hnex x hx (hinj _ _ hlt (hm x (by simp [hx])).1 (by rw [hmk]; exact hk))
        · simp only [hmk, if_false] at hk
          exact hfresh x (by simp [hx]) k hk)
    refine ⟨acc', ?_, h2, ?_⟩
    · rw [buildGen.place]
      simp only [hkey]
      have : ¬ (m.index ≥ n) := by omega
      have hnc : acc.contains (some (key m.index)) = false := by
        rcases hc : acc.contains (some (key m.index)) with _ | _
        · rfl
        · obtain ⟨k, hk⟩ := List.mem_iff_getElem?.1 (List.contains_iff_mem.1 hc)
          exact absurd hk (fun h => hfresh m (by simp) k h)
      simp only [this, if_false, hfm, Option.isSome_none, Bool.false_eq_true, hsender, ne_eq, not_true_eq_false, hnc]
      exact h1
    · intro k
      rw [h3 k]
      simp only [List.map_cons, List.mem_cons]
      by_cases hk : k ∈ ms.map (·.index)
      · simp [hk]
      · simp only [hk, if_false, or_false]
        by_cases hkm : k = m.index
        · subst hkm; simp [hl, hlt]
        · rw [List.getElem?_set_ne (Ne.symm hkm)]; simp [hkm]

/-- **the generator is built over the honest participant list** from the own key and the genuine keys
of all other members, in any order -/
theorem buildGen_genuine (c : Cfg F G) (ephs : List (List F)) (hw : WellFormed c ephs) (i : Nat) (hi : i < c.n)
    (batch : List (PkMsg G)) (hb : ∀ m ∈ batch, m.index < c.n ∧ m.index ≠ i ∧ m = c.pkMsg m.index)
    (hnd : (batch.map (·.index)).Nodup) (hall : ∀ j, j < c.n → j ≠ i → j ∈ batch.map (·.index)) :
    ∃ d, buildGen c.g c.n (c.longs.getD i 0) (c.polys.getD i []) (c.pkMsg i) batch = some d ∧
      newGen c.g (c.longs.getD i 0) c.pubs (c.polys.getD i []) = .ok d := by
  have hfind : ∀ j, j < c.n → findIndex ((c.longs.getD j 0) • c.g) c.pubs 0 = some j := fun j hj => by
    simpa using findIndex_nodup _ c.pubs 0 j hw.nodup (c.pubs_get j hj)
  obtain ⟨slots, hp, hlen, hget⟩ := place_spec c.n (fun j => (c.longs.getD j 0) • c.g)
    (fun a b ha hb' he => by
      have h1 := hfind a ha
      rw [he, hfind b hb'] at h1
      injection h1 with h1; exact h1.symm)
    (c.pkMsg i :: batch) (List.replicate c.n none)
    (by simp) (by
      intro m hm
      rcases List.mem_cons.1 hm with hm | hm
      · subst hm; exact ⟨hi, rfl, rfl⟩
      · obtain ⟨h1, _, h3⟩ := hb m hm; exact ⟨h1, by rw [h3]; rfl, by rw [h3]; rfl⟩)
    (List.nodup_cons.2 ⟨fun hin => by
      obtain ⟨x, hx, hxe⟩ := List.mem_map.1 hin
      exact (hb x hx).2.1 hxe, hnd⟩)
    (by intro m _; by_cases h : m.index < c.n <;> simp [h])
    (by intro m _ k hk; by_cases h : k < c.n <;> simp [h] at hk)
  have hslots : slots = c.pubs.map some := by
    apply List.ext_getElem?
    intro k
    rw [hget k]
    by_cases hk : k < c.n
    · have hin : k ∈ (c.pkMsg i :: batch).map (·.index) := by
        by_cases hki : k = i
        · rw [hki]; exact List.mem_cons_self ..
        · exact List.mem_cons_of_mem _ (hall k hk hki)
      rw [if_pos hin, List.getElem?_map, c.pubs_get k hk, Option.map_some]
    · have hnin : k ∉ (c.pkMsg i :: batch).map (·.index) := by
        intro hin
        rcases List.mem_cons.1 hin with hin | hin
        · have : k = i := hin; omega
        · obtain ⟨x, hx, hxe⟩ := List.mem_map.1 hin
          have := (hb x hx).1; omega
      rw [if_neg hnin, List.getElem?_eq_none (by simp; omega), List.getElem?_eq_none (by simp [c.pubs_length]; omega)]
  have hvt : validT (c.polys.getD i []).length c.pubs.length = true := by
    rw [hw.poly_length hi]; exact validT_t c hw.three
  have hng : ∃ d, newGen c.g (c.longs.getD i 0) c.pubs (c.polys.getD i []) = .ok d := by
    simp only [newGen, hfind i hi, newDealer, hvt, Bool.true_eq_false, if_false]
    exact ⟨_, rfl⟩
  obtain ⟨d, hd⟩ := hng
  refine ⟨d, ?_, hd⟩
  simp only [buildGen, hp, hslots, mapM_id_map_some, hd]

theorem sealDeal_some (g : G) (long : F) (L : List G) (i : Nat) (hi : i < L.length) (eph : F) (rnd : Nat)
    (pt : Plain F G) : ∃ e, sealDeal g long L i eph rnd pt = some e := by
  simp [sealDeal, List.getElem?_eq_getElem hi]

/-- the deal message `Deals()` produces for member `tgt` -/
def Cfg.dealMsg (c : Cfg F G) (ephs : List (List F)) (j tgt : Nat) : DkgDeal F G :=
  ⟨j, sealDeal c.g (c.longs.getD j 0) c.pubs tgt ((ephs.getD j []).getD tgt 0) 0 (.deal (c.deal j tgt))⟩

/-- **`Deals()` of an honest member**: the own deal is approved, the generator is in the honest state
with only the own slot, and the deals for the others are the genuine ones -/
theorem deals_genuine (c : Cfg F G) (ephs : List (List F)) (hw : WellFormed c ephs) (i : Nat) (hi : i < c.n)
    (d0 : Gen F G) (hng : newGen c.g (c.longs.getD i 0) c.pubs (c.polys.getD i []) = .ok d0) :
    ∃ d1, deals c.g d0 (ephs.getD i []) = .ok (d1, (others c.n i).map (fun tgt => (tgt, c.dealMsg ephs i tgt))) ∧
      HState c i (· = i) (baseResps i) (fun _ => False) d1 := by
  have hfl := hw.poly_length hi
  have hel : (ephs.getD i []).length = c.n := by
    have hj' : i < ephs.length := by rw [hw.ephs_len]; exact hi
    rw [getD_eq_getElem _ _ hj']; exact (hw.eph_len _ (List.getElem_mem hj')).1
  obtain ⟨h0, hempty, hp, hl, _⟩ := newGen_good0 hng
  obtain ⟨hvlen, _, _, _, hdagg⟩ := newGen_dealer hng
  have hidx : d0.index = i := by
    have h1 := h0.idx
    rw [hp, hl, findIndex_nodup _ c.pubs 0 i hw.nodup (c.pubs_get i hi), Nat.zero_add] at h1
    injection h1 with h1; exact h1.symm
  have hst0 : HState c i (fun _ => False) (baseResps i) (fun _ => False) d0 := by
    refine ⟨hp, hidx, hl, by rw [hvlen, c.pubs_length], by rw [← hidx]; exact h0.idx, fun j hj => absurd hj id,
      fun j _ => hempty j, ?_⟩
    rw [hdagg]
    refine ⟨rfl, by simp only [newAgg, Cfg.sid, hfl], by simp only [newAgg, hfl], rfl,
      by simp [newAgg, c.pubs_length], fun k hk => absurd hk id, fun k _ => ?_⟩
    simp only [getResponse, newAgg]
    by_cases hk : k < c.pubs.length <;> simp [hk]
  -- the encrypted deals `Deals()` computes
  have heds : ∀ tgt, tgt < c.n → ((encryptedDeals c.g d0.dealer (ephs.getD i []))[tgt]?).join =
      sealDeal c.g (c.longs.getD i 0) c.pubs tgt ((ephs.getD i []).getD tgt 0) 0 (.deal (c.deal i tgt)) := by
    intro tgt hto
    have he : (ephs.getD i [])[tgt]? = some ((ephs.getD i []).getD tgt 0) := by
      rw [getD_eq_getElem (ephs.getD i []) 0 (by rw [hel]; exact hto)]; exact List.getElem?_eq_getElem _
    rw [encryptedDeals_newGen hng _ (by rw [c.pubs_length]; exact hto), he]; rfl
  obtain ⟨e, hseal⟩ := sealDeal_some c.g (c.longs.getD i 0) c.pubs i (by rw [c.pubs_length]; exact hi)
    ((ephs.getD i []).getD i 0) 0 (.deal (c.deal i i))
  obtain ⟨hres, hst1⟩ := processDeal_genuine_ok c ephs hw i hi _ _ _ d0 hst0 i hi (fun h => h) (fun _ => Iff.rfl) _ 0 e hseal
  have hown : ({ index := d0.index, deal := ((encryptedDeals c.g d0.dealer (ephs.getD i []))[d0.index]?).join } : DkgDeal F G)
      = ⟨i, some e⟩ := by rw [hidx, heds i hi, hseal]
  refine ⟨(processDeal c.g d0 ⟨i, some e⟩).1, ?_, hst1.congr (fun _ => Iff.of_eq (false_or _)) (fun _ _ _ => Iff.rfl) (fun _ => Iff.rfl)⟩
  unfold deals
  simp only [hempty d0.index, Option.isSome_none, Bool.false_eq_true, if_false, hown]
  rcases hpd : processDeal c.g d0 ⟨i, some e⟩ with ⟨d1, res⟩
  rw [hpd] at hres
  simp only at hres
  subst hres
  simp only [Cfg.resp, if_true, hp, c.pubs_length, hidx]
  rw [← filterMap_others]
  congr 2
  apply List.filterMap_congr
  intro tgt hto
  by_cases hti : tgt = i
  · simp [hti]
  · simp only [hti, if_false, Cfg.dealMsg, heds tgt (List.mem_range.1 hto)]

end Dos.Dkg
