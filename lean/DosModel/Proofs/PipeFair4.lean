/-
C14 fairness: the semantic content of W6 and of the collector half of W7.

* `collector_closes`: a collector `d` that holds the right to operate on `c` (it has received the
  hand-off, `ownD`-labelled node) and passes `CollectorOk` closes `c` — or returns — in every fair
  run in which the request context (context 0) is eventually done.
* `send_moves`: weak fairness alone gives progress of a send whose consumers are ready from some
  position on.  `receiverless_blocks`: where W6 fails (nobody has a receive on `c`) nothing ever
  leaves `c`, and a goroutine at a bare send on the full `c` is blocked for ever, deadline or not.
-/
import DosModel.Proofs.PipeFair3

namespace Dos.Pipe
variable {p : Pipeline}

theorem collectorOk_parts {d : Gi} {gd : Goroutine} {c rr : Ch} (h : CollectorOk p d gd c rr = true) :
    distOk (escEdges p d) gd.nodes (fun nd => nd.closes c || nd.isExit) (mark (ownD gd c rr))
      (distTo (escEdges p d) gd.nodes (Node.closes c)) = true ∧
    (∀ pc nd, gd.nodes[pc]? = some nd → mark (ownD gd c rr) pc = true → nd.closes c = false →
      ∀ l n, (l, n) ∈ nd.edges → mark (ownD gd c rr) n = true) ∧
    (∀ pc nd, gd.nodes[pc]? = some nd → mark (ownD gd c rr) pc = true → nodeLive p d nd = true) := by
  unfold CollectorOk at h
  simp only [Bool.and_eq_true] at h
  refine ⟨h.1.1, ?_, ?_⟩
  · intro pc nd hn hm hc l n he
    have := zipIdx_all h.1.2 hn
    simp only [hm, hc, Bool.not_true, Bool.false_or, List.all_eq_true] at this
    exact this (l, n) he
  · intro pc nd hn hm
    have := zipIdx_all h.2 hn
    simpa [hm] using this

/-- a goroutine standing at `close c` closes `c` (weak fairness; the close cannot panic) -/
theorem close_node_closes (h0 : W0 p = true) {r : Run p} {g : Gi} {gr : Goroutine}
    (hg : p.gs[g]? = some gr) (hw : WeakFairG r g) {pc n : Pc} {c : Ch} {j : Nat}
    (hat : (r.st j).gs[g]? = some (.at pc)) (hn : gr.nodes[pc]? = some (.close c n)) :
    ∃ j', j ≤ j' ∧ (r.st j').closed c = true := by
  have hnd := node_of hg hn
  have hin : c < p.chans.length := by
    have := (W0_edge h0 hg hn (l := .close c) (n := n) (by simp [Node.edges])).1
    simpa [Lab.inRange] using this
  apply Classical.byContradiction
  intro hno
  have hopen : ∀ j', j ≤ j' → (r.st j').closed c = false := by
    intro j' hj'
    cases hcl : (r.st j').closed c with
    | false => rfl
    | true => exact absurd ⟨j', hj', hcl⟩ hno
  obtain ⟨i, hi, hati, e, he, hmv⟩ := r.moves_from hw hat (fun i hi h =>
    ⟨_, _, Step.act g pc _ (.close c) n h hnd (by simp [Node.edges]) (by simp [guard, hopen i hi])
      (fun h => by cases h), by simp [Ev.moves]⟩)
  -- the move is along the one edge of the node, whose effect closes `c`
  rcases move_cases (r.step_of_ev he) hati hnd hmv with ⟨l', n', hmem, _, ht⟩ | ⟨hex, _⟩
  · simp only [Node.edges, List.mem_singleton, Prod.mk.injEq] at hmem
    obtain ⟨rfl, _⟩ := hmem
    cases ht
    exact hno ⟨i + 1, by omega, by
      simp [(step_rest (r.step_of_ev he)).closed, Ev.lab, effect_closed, (shape _ (r.reach i)).chs, hin]⟩
  · cases hex

/-- **the collector closes what it was handed.**  In a fair run in which context 0 is eventually
done: if at position `i0` the collector `d` holds the right to operate on `c` (received on `rr`),
then later `c` is closed or `d` has returned. -/
theorem collector_closes (hlive : LiveOk p = true) (hsafe : NoCrash p) {r : Run p} (hf : Fair r)
    (hc : ∃ i, (r.st i).ctxDone 0 = true) {d : Gi} {gd : Goroutine} {c rr : Ch}
    (hg : p.gs[d]? = some gd) (hok : CollectorOk p d gd c rr = true) {i0 : Nat} {pc0 : Pc}
    (hat0 : (r.st i0).gs[d]? = some (.at pc0)) (hown : mark (ownD gd c rr) pc0 = true) :
    ∃ j, i0 ≤ j ∧ ((r.st j).closed c = true ∨ (r.st j).gs[d]? = some .done) := by
  obtain ⟨h0, _⟩ := liveOk_parts hlive
  obtain ⟨hdist, hfwd, hlv⟩ := collectorOk_parts hok
  apply Classical.byContradiction
  intro hno
  have hopen : ∀ j, i0 ≤ j → (r.st j).closed c = false := by
    intro j hj
    cases hcl : (r.st j).closed c with
    | false => rfl
    | true => exact absurd ⟨j, hj, Or.inl hcl⟩ hno
  have hnd' : ∀ j, i0 ≤ j → (r.st j).gs[d]? ≠ some .done :=
    fun j hj hd => hno ⟨j, hj, Or.inr hd⟩
  -- `d` keeps the right: it stays inside the labeling, at nodes that neither close `c` nor exit
  have hin : ∀ k, ∃ pc nd, (r.st (i0 + k)).gs[d]? = some (.at pc) ∧ gd.nodes[pc]? = some nd ∧
      mark (ownD gd c rr) pc = true ∧ (nd.closes c || nd.isExit) = false := by
    have hnode : ∀ j pc, i0 ≤ j → (r.st j).gs[d]? = some (.at pc) → mark (ownD gd c rr) pc = true →
        ∃ nd, gd.nodes[pc]? = some nd ∧ (nd.closes c || nd.isExit) = false := by
      intro j pc hj hat hm
      have hpc := at_in_range h0 hg (r.st j) (r.reach j) pc hat
      have hn : gd.nodes[pc]? = some gd.nodes[pc] := by simp [hpc]
      refine ⟨_, hn, ?_⟩
      generalize gd.nodes[pc] = nd at hn
      cases hcc : nd.closes c with
      | true =>
        exfalso
        have hnode : ∃ n, nd = .close c n := by
          cases nd <;> simp [Node.closes] at hcc
          case close c' n' => subst hcc; exact ⟨n', rfl⟩
        obtain ⟨n, hnode⟩ := hnode
        subst hnode
        obtain ⟨j', hj', hcl⟩ := close_node_closes h0 hg (hf.weak d) hat hn
        rw [hopen j' (by omega)] at hcl; cases hcl
      | false =>
        cases hex : nd.isExit with
        | false => rfl
        | true =>
          exfalso
          rw [eq_exit_of_isExit hex] at hn
          obtain ⟨j', hj', hdone⟩ := exit_node_returns (hf.weak d) hat (node_of hg hn)
          exact hnd' j' (by omega) hdone
    intro k
    induction k with
    | zero =>
      obtain ⟨nd, hn, ht⟩ := hnode i0 pc0 (Nat.le_refl _) hat0 hown
      exact ⟨pc0, nd, hat0, hn, hown, ht⟩
    | succ k ih =>
      obtain ⟨pc, nd, hat, hn, hm, ht⟩ := ih
      have hcc : nd.closes c = false := by
        cases h : nd.closes c with
        | false => rfl
        | true => simp [h] at ht
      have hnext : ∃ pc', (r.st (i0 + k + 1)).gs[d]? = some (.at pc') ∧ mark (ownD gd c rr) pc' = true := by
        by_cases hmv : r.movesAt d (i0 + k)
        · obtain ⟨e, he, hmv'⟩ := hmv
          rcases move_cases (r.step_of_ev he) hat (node_of hg hn) hmv' with ⟨l', n', hmem, hgs, _⟩ | ⟨_, _, hd⟩
          · exact ⟨n', hgs, hfwd pc nd hn hm hcc _ _ hmem⟩
          · exact absurd hd (hnd' (i0 + k + 1) (by omega))
        · exact ⟨pc, r.stay hat hmv, hm⟩
      obtain ⟨pc', hat', hm'⟩ := hnext
      obtain ⟨nd', hn', ht'⟩ := hnode (i0 + k + 1) pc' (by omega) hat' hm'
      exact ⟨pc', nd', hat', hn', hm', ht'⟩
  -- the pipeline goroutines have all returned from some position on
  obtain ⟨Tq, hTq⟩ := fair_run_terminates hlive hsafe hf hc
  obtain ⟨Tc, hTc⟩ := hc
  have H : EscHyp p r d gd (fun nd => nd.closes c || nd.isExit) (mark (ownD gd c rr)) (max i0 (max Tq Tc)) := by
    refine ⟨hg, ?_, fun j hj => r.ctxDone_stable hTc j (by omega), ?_⟩
    · intro j hj
      obtain ⟨k, rfl⟩ := Nat.exists_eq_add_of_le (show i0 ≤ j by omega)
      obtain ⟨pc, nd, hat, hn, hm, ht⟩ := hin k
      exact ⟨pc, nd, hat, hn, hm, ht, hlv pc nd hn hm⟩
    · intro j hj g' gr' hg' hst hdm _
      exact done_of_not_running (r.reach j) hg' hst hdm ((hTq j (by omega)).1 g')
  exact fair_escape h0 hsafe hf H hdist

/-- **progress of a send under weak fairness.**  A goroutine standing at a `select` with a send on
`c` whose consumers are ready at every position from `T` on, as long as it has not moved, moves (it
is not blocked for ever) — before the deadline or after it. -/
theorem send_moves (hsafe : NoCrash p) {r : Run p} {g : Gi} (hw : WeakFairG r g) {T : Nat} {pc n : Pc}
    {nd : Node} {c : Ch} (hat : (r.st T).gs[g]? = some (.at pc)) (hnd : p.node g pc = some nd)
    (hed : (Lab.send c, n) ∈ nd.edges)
    (hready : ∀ i, T ≤ i → (∀ j, T ≤ j → j < i → ¬ r.movesAt g j) → ConsumerReady p (r.st i) g c) :
    ∃ i, T ≤ i ∧ r.movesAt g i := by
  apply Classical.byContradiction
  intro hno
  have hstay := r.stays hat (fun d _ hm => hno ⟨T + d, by omega, hm⟩)
  apply hno
  apply hw T
  intro i hi
  obtain ⟨d, rfl⟩ := Nat.exists_eq_add_of_le hi
  have hopen : (r.st (T + d)).closed c = false := by
    cases hcl : (r.st (T + d)).closed c with
    | false => rfl
    | true =>
      exfalso
      exact hsafe (.sendClosed c) ⟨_, _, g, pc, r.reach _,
        Step.crash g pc nd _ n _ (hstay d) hnd hed (by simp [crashOf, hcl])⟩
  rcases hready (T + d) hi (fun j hj _ hm => hno ⟨j, hj, hm⟩) with hroom | ⟨hcap, g', pc', nd', n', hne, hat', hnd', hed'⟩
  · exact ⟨_, _, Step.act g pc nd _ n (hstay d) hnd hed (by simp [guard, hopen, hroom]) (fun h => by cases h),
      by simp [Ev.moves]⟩
  · exact ⟨_, _, Step.sync g pc nd n g' pc' nd' n' c (Ne.symm hne) (hstay d) hnd hed hat' hnd' hed' hcap hopen,
      by simp [Ev.moves]⟩

theorem receiverless_no_edge (h : Receiverless p c) {g : Gi} {pc n : Pc} {nd : Node}
    (hnd : p.node g pc = some nd) : (Lab.recvOk c, n) ∉ nd.edges := by
  intro hed
  obtain ⟨gr, hg, hn⟩ := node_some hnd
  have := hasRecv_of_node hn (recvsOn_of_edge hed)
  rw [h gr (List.mem_of_getElem? hg)] at this
  cases this

/-- nothing ever leaves a channel without a receiver -/
theorem receiverless_len_step {c : Ch} (h : Receiverless p c) {s s' : State} {e : Ev}
    (hst : Step p s e (.run s')) : s.len c ≤ s'.len c := by
  rw [(step_rest hst).len, effect_len]
  split
  · rename_i hl
    obtain ⟨g, rfl⟩ := act_of_lab hl (by simp) (by simp)
    cases step_moves hst g with
    | edge pc nd l n _ hnd hed _ ht => cases ht; exact absurd hed (receiverless_no_edge h hnd)
    | stays hm | spawned hm => simp [Ev.moves] at hm
    | exits _ he => cases he
  · split <;> omega

/-- **a W6 violation is a permanent block.**  Nobody has a receive on `c`: a goroutine that stands at
the bare send `c <- v` when the buffer of `c` is full never moves again — in any run, fair or not,
with or without the deadline (the deadline does not help a bare send). -/
theorem receiverless_blocks {c : Ch} (h : Receiverless p c) (r : Run p) {g : Gi} {T : Nat} {pc n : Pc}
    (hat : (r.st T).gs[g]? = some (.at pc)) (hnd : p.node g pc = some (.sel [.send c n]))
    (hfull : p.cap c ≤ (r.st T).len c) :
    ∀ i, T ≤ i → (r.st i).gs[g]? = some (.at pc) ∧ ¬ Enabled p (r.st i) g := by
  have hlen : ∀ d, p.cap c ≤ (r.st (T + d)).len c := fun d =>
    r.stable (fun s => p.cap c ≤ s.len c)
      (fun s e s' _ hI hst => Nat.le_trans hI (receiverless_len_step h hst)) hfull (T + d) (by omega)
  have hdis : ∀ d, (r.st (T + d)).gs[g]? = some (.at pc) → ¬ Enabled p (r.st (T + d)) g := by
    intro d hatd ⟨e, s', hst, hmv⟩
    rcases move_cases hst hatd hnd hmv with ⟨l', n', hmem, _, ht⟩ | ⟨hex, _⟩
    · simp only [Node.edges, Alt.edges, List.flatMap_cons, List.flatMap_nil, List.append_nil,
        List.mem_singleton, Prod.mk.injEq] at hmem
      obtain ⟨rfl, _⟩ := hmem
      cases ht with
      | act hgd =>
        have := hlen d
        simp only [guard, Bool.and_eq_true, decide_eq_true_eq] at hgd
        omega
      | send =>
        cases hst with
        | sync _ _ _ _ _ pc2 nd2 n2 _ _ _ _ _ _ hnd2 hed2 _ _ => exact receiverless_no_edge h hnd2 hed2
    · cases hex
  have hstay := r.stays hat (fun d ih ⟨e, he, hmv⟩ => hdis d ih ⟨e, _, r.step_of_ev he, hmv⟩)
  intro i hi
  obtain ⟨d, rfl⟩ := Nat.exists_eq_add_of_le hi
  exact ⟨hstay d, hdis d (hstay d)⟩

theorem W6_not_receiverless (h : W6 p = true) {c : Ch} (hc : c < p.chans.length)
    {gr : Goroutine} (hgr : gr ∈ p.gs) (hs : gr.hasSend c = true) : ¬ Receiverless p c := by
  intro hr
  unfold W6 at h
  rw [List.all_eq_true] at h
  have := h c (List.mem_range.mpr hc)
  simp only [Bool.or_eq_true, Bool.not_eq_true', List.any_eq_false, List.any_eq_true] at this
  rcases this with h1 | ⟨gr', hm, hrv⟩
  · have := h1 gr hgr; rw [hs] at this; exact absurd this (by simp)
  · rw [hr gr' hm] at hrv; cases hrv

end Dos.Pipe
