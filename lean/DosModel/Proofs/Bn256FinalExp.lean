/-
C10 layer 6 — `finalExponentiation` (optate.go) is MULTIPLICATIVE over every field, as soon as the
seven Frobenius constants satisfy their defining relations (`FrobConsts.Good`, six polynomial
identities that the regenerated constants are checked to satisfy): every building block —
Conjugate, Invert (through the gfP6 / gfP2 norms and adjugates), the p- and p²-Frobenius maps
with their constant twists, Exp, Mul, Square — maps products to products. Hence PairingCheck's
"one final exponentiation of the product of the Miller values" decides whether the product of
the pairings is one, for the implemented final exponentiation and ANY Miller function.
-/
import Mathlib.Tactic.Ring
import Mathlib.Tactic.LinearCombination
import Mathlib.Algebra.Field.Basic
import DosModel.Model.Bn256TFrob
import DosModel.Proofs.Bn256Tower12
import DosModel.Proofs.Bn256CurveMul

namespace Dos.Bn256

section
variable {K : Type} [Field K]

/-- the defining relations of the constants: with c₁ = ξ^((p−1)/3), c₂ = ξ^((2p−2)/3), c₆ = ξ^((p−1)/6),
d₁ = ξ^((p²−1)/3), d₂ = ξ^((2p²−2)/3), e₆ = ξ^((p²−1)/6) and ξ̄ = ξ^p the conjugate of ξ -/
structure FrobConsts.Good (cs : FrobConsts K) : Prop where
  h1 : cs.xiToPMinus1Over3 * cs.xiToPMinus1Over3 = cs.xiTo2PMinus2Over3
  h3 : Fp2.xi * (cs.xiToPMinus1Over3 * cs.xiTo2PMinus2Over3) = Fp2.conjugate Fp2.xi
  h4 : cs.xiToPMinus1Over6 * cs.xiToPMinus1Over6 = cs.xiToPMinus1Over3
  d1 : cs.xiToPSquaredMinus1Over3 * cs.xiToPSquaredMinus1Over3 = cs.xiTo2PSquaredMinus2Over3
  d12 : cs.xiToPSquaredMinus1Over3 * cs.xiTo2PSquaredMinus2Over3 = 1
  e6 : cs.xiToPSquaredMinus1Over6 * cs.xiToPSquaredMinus1Over6 = cs.xiToPSquaredMinus1Over3

/-! ### gfP2 -/
namespace Fp2

theorem invert_mul (a b : Fp2 K) : Fp2.invert (a * b) = Fp2.invert a * Fp2.invert b := by
  have hn := norm_mul a b
  obtain ⟨hx, hy⟩ := mul_coords a b
  obtain ⟨gx, gy⟩ := mul_coords (Fp2.invert a) (Fp2.invert b)
  ext
  · rw [gx]
    show -(a * b).x * ((a * b).x * (a * b).x + (a * b).y * (a * b).y)⁻¹ = _
    rw [hn, mul_inv, hx]; simp only [Fp2.invert]; ring
  · rw [gy]
    show (a * b).y * ((a * b).x * (a * b).x + (a * b).y * (a * b).y)⁻¹ = _
    rw [hn, mul_inv, hy]; simp only [Fp2.invert]; ring

theorem invert_one : Fp2.invert (1 : Fp2 K) = 1 := by
  rw [← one_eq]; ext <;> simp [Fp2.invert, Fp2.one]

end Fp2

/-! ### gfP6 -/
namespace Fp6
open Fp2 (xi)

theorem adj_mul (a b : Fp6 K) : adj (a * b) = adj a * adj b := by
  obtain ⟨hx, hy, hz⟩ := mul_coords a b
  obtain ⟨gx, gy, gz⟩ := mul_coords (adj a) (adj b)
  refine Fp6.ext' ?_ ?_ ?_
  · rw [gx]; simp only [adj, hx, hy, hz]; ring
  · rw [gy]; simp only [adj, hx, hy, hz]; ring
  · rw [gz]; simp only [adj, hx, hy, hz]; ring

theorem invert_mul (a b : Fp6 K) : Fp6.invert (a * b) = Fp6.invert a * Fp6.invert b := by
  rw [invert_eq, invert_eq a, invert_eq b, adj_mul, normF_mul, Fp2.invert_mul, ofBase_mul]; ring

theorem invert_one : Fp6.invert (1 : Fp6 K) = 1 := by
  rw [invert_eq]
  have hn : normF (1 : Fp6 K) = 1 := by
    rw [← one_eq]; simp only [normF, Fp6.one, Fp2.zero_eq, Fp2.one_eq]; ring
  have ha : adj (1 : Fp6 K) = 1 := by
    rw [← one_eq]
    refine Fp6.ext' ?_ ?_ ?_ <;> simp only [adj, Fp6.one, Fp2.zero_eq, Fp2.one_eq] <;> ring
  rw [hn, ha, Fp2.invert_one, one_mul]
  rw [← one_eq]; rfl

/-! Both Frobenius maps of gfP6 have the shape xτ² + yτ + z ↦ φ(x)·g₂·τ² + φ(y)·g₁·τ + φ(z) for a ring endomorphism
φ of gfP2 (conjugation, resp. the identity) and constants with g₁² = g₂ and ξ·g₁·g₂ = φ(ξ), i.e. τ ↦ g₁·τ with
(g₁τ)³ = φ(ξ): such a map is a ring endomorphism of gfP6. -/
section twist
variable (φ : Fp2 K →+* Fp2 K) (g1 g2 : Fp2 K)

def twist (a : Fp6 K) : Fp6 K := ⟨φ a.x * g2, φ a.y * g1, φ a.z⟩

def twistHom (h1 : g1 * g1 = g2) (h3 : xi * (g1 * g2) = φ xi) : Fp6 K →+* Fp6 K where
  toFun := twist φ g1 g2
  map_one' := by
    rw [← one_eq]
    refine Fp6.ext' ?_ ?_ ?_ <;> simp only [twist, Fp6.one, Fp2.zero_eq, Fp2.one_eq, map_zero, map_one, zero_mul]
  map_zero' := by
    rw [← zero_eq]
    refine Fp6.ext' ?_ ?_ ?_ <;> simp only [twist, Fp6.zero, Fp2.zero_eq, map_zero, zero_mul]
  map_add' a b := by
    rw [← add_eq, ← add_eq]
    refine Fp6.ext' ?_ ?_ ?_ <;> simp only [twist, Fp6.add, Fp2.add_eq, map_add] <;> ring
  map_mul' a b := by
    obtain ⟨hx, hy, hz⟩ := mul_coords a b
    obtain ⟨gx, gy, gz⟩ := mul_coords (twist φ g1 g2 a) (twist φ g1 g2 b)
    refine Fp6.ext' ?_ ?_ ?_
    · rw [gx]; simp only [twist, hx, map_add, map_mul]
      linear_combination (-(φ a.y * φ b.y)) * h1
    · rw [gy]; simp only [twist, hy, map_add, map_mul]
      linear_combination (-(φ a.x * φ b.x * g1)) * h3 + (φ a.x * φ b.x * xi * g2) * h1
    · rw [gz]; simp only [twist, hz, map_add, map_mul]
      linear_combination (-(φ a.x * φ b.y + φ a.y * φ b.x)) * h3

theorem twist_ofBase (c : Fp2 K) : twist φ g1 g2 (ofBase c) = ofBase (φ c) := by
  refine Fp6.ext' ?_ ?_ ?_ <;> simp only [twist, ofBase, map_zero, zero_mul]

theorem twist_tau : twist φ g1 g2 (tau : Fp6 K) = ofBase g1 * tau := by
  obtain ⟨gx, gy, gz⟩ := mul_coords (ofBase g1) (tau : Fp6 K)
  refine Fp6.ext' ?_ ?_ ?_
  · rw [gx]; simp only [twist, tau, ofBase, map_zero, map_one]; ring
  · rw [gy]; simp only [twist, tau, ofBase, map_zero, map_one]; ring
  · rw [gz]; simp only [twist, tau, ofBase, map_zero, map_one]; ring

end twist

variable (cs : FrobConsts K)

/-- gfP6.Frobenius as a ring endomorphism: Conjugate on gfP2, τ ↦ ξ^((p−1)/3)·τ (its function is `Fp6.frobeniusG cs`
by definition) -/
def frobeniusHom (h1 : cs.xiToPMinus1Over3 * cs.xiToPMinus1Over3 = cs.xiTo2PMinus2Over3)
    (h3 : xi * (cs.xiToPMinus1Over3 * cs.xiTo2PMinus2Over3) = Fp2.conjugate xi) : Fp6 K →+* Fp6 K :=
  twistHom Fp2.conjugateHom _ _ h1 h3

theorem frobeniusG_ofBase (c : Fp2 K) : Fp6.frobeniusG cs (ofBase c) = ofBase (Fp2.conjugate c) :=
  twist_ofBase Fp2.conjugateHom _ _ c

theorem frobeniusG_tau : Fp6.frobeniusG cs (tau : Fp6 K) = ofBase cs.xiToPMinus1Over3 * tau :=
  twist_tau Fp2.conjugateHom _ _

theorem frobeniusP2G_twist (a : Fp6 K) : Fp6.frobeniusP2G cs a =
    twist (RingHom.id _) (Fp2.ofBase cs.xiToPSquaredMinus1Over3) (Fp2.ofBase cs.xiTo2PSquaredMinus2Over3) a := by
  simp only [Fp6.frobeniusP2G, Fp2.mulScalar_eq]; rfl

/-- gfP6.FrobeniusP2 as a ring endomorphism: the identity on gfP2, τ ↦ ξ^((p²−1)/3)·τ -/
def frobeniusP2Hom (hg : cs.Good) : Fp6 K →+* Fp6 K :=
  (twistHom (RingHom.id _) (Fp2.ofBase cs.xiToPSquaredMinus1Over3) (Fp2.ofBase cs.xiTo2PSquaredMinus2Over3)
    (by rw [← Fp2.ofBase_mul, hg.d1])
    (by rw [← Fp2.ofBase_mul, hg.d12, Fp2.ofBase_one, mul_one]; rfl)).copy (Fp6.frobeniusP2G cs)
    (funext (frobeniusP2G_twist cs))

theorem frobeniusP2G_ofBase (c : Fp2 K) : Fp6.frobeniusP2G cs (ofBase c) = ofBase c :=
  (frobeniusP2G_twist cs _).trans (twist_ofBase _ _ _ c)

theorem frobeniusP2G_tau :
    Fp6.frobeniusP2G cs (tau : Fp6 K) = ofBase (Fp2.ofBase cs.xiToPSquaredMinus1Over3) * tau :=
  (frobeniusP2G_twist cs _).trans (twist_tau _ _ _)

end Fp6

/-! ### gfP12 -/
namespace Fp12
open Fp6 (tau)

theorem normT_mul (a b : Fp12 K) : normT (a * b) = normT a * normT b := by
  obtain ⟨hx, hy⟩ := mul_coords a b
  simp only [normT, hx, hy]; ring

theorem invert_mul (a b : Fp12 K) : Fp12.invert (a * b) = Fp12.invert a * Fp12.invert b := by
  rw [invert_eq, invert_eq a, invert_eq b, conjugate_mul', normT_mul, Fp6.invert_mul, ofBase_mul]; ring

theorem invert_one : Fp12.invert (1 : Fp12 K) = 1 := by
  rw [invert_eq, conjugate_one]
  have hn : normT (1 : Fp12 K) = 1 := by
    rw [← one_eq]; simp only [normT, Fp12.one, Fp6.zero_eq, Fp6.one_eq]; ring
  rw [hn, Fp6.invert_one, one_mul]
  rw [← one_eq]; rfl

/-! One level up the Frobenius maps have the shape xω + y ↦ T(x)·g·ω + T(y) for an endomorphism T of
gfP6 with T(τ) = τ·g², i.e. ω ↦ g·ω with (gω)² = T(τ). -/
section twist
variable (T : Fp6 K →+* Fp6 K) (g : Fp6 K)

def twist (a : Fp12 K) : Fp12 K := ⟨T a.x * g, T a.y⟩

def twistHom (htau : T tau = tau * (g * g)) : Fp12 K →+* Fp12 K where
  toFun := twist T g
  map_one' := by
    rw [← one_eq]
    refine Fp12.ext' ?_ ?_ <;> simp only [twist, Fp12.one, Fp6.zero_eq, Fp6.one_eq, map_zero, map_one, zero_mul]
  map_zero' := by
    refine Fp12.ext' ?_ ?_ <;> simp only [twist, show (0 : Fp12 K) = ⟨0, 0⟩ from rfl, map_zero, zero_mul]
  map_add' a b := by
    refine Fp12.ext' ?_ ?_ <;>
      simp only [twist, show a + b = ⟨a.x + b.x, a.y + b.y⟩ from rfl, map_add, add_mul] <;> rfl
  map_mul' a b := by
    obtain ⟨hx, hy⟩ := mul_coords a b
    obtain ⟨gx, gy⟩ := mul_coords (twist T g a) (twist T g b)
    refine Fp12.ext' ?_ ?_
    · rw [gx]; simp only [twist, hx, map_add, map_mul]; ring
    · rw [gy]; simp only [twist, hy, map_add, map_mul, htau]; ring

theorem twist_ofBase (c : Fp6 K) : twist T g (ofBase c) = ofBase (T c) := by
  refine Fp12.ext' ?_ ?_ <;> simp only [twist, ofBase, map_zero, zero_mul]

theorem twist_omega : twist T g (omega : Fp12 K) = ofBase g * omega := by
  obtain ⟨gx, gy⟩ := mul_coords (ofBase g) (omega : Fp12 K)
  refine Fp12.ext' ?_ ?_
  · rw [gx]; simp only [twist, omega, ofBase, map_one]; ring
  · rw [gy]; simp only [twist, omega, ofBase, map_zero]; ring

theorem twist_conjugate (a : Fp12 K) : twist T g (Fp12.conjugate a) = Fp12.conjugate (twist T g a) := by
  refine Fp12.ext' ?_ ?_ <;> simp only [twist, Fp12.conjugate, Fp6.neg_eq, map_neg, neg_mul]

end twist

variable (cs : FrobConsts K)

section p
variable (h1 : cs.xiToPMinus1Over3 * cs.xiToPMinus1Over3 = cs.xiTo2PMinus2Over3)
  (h3 : Fp2.xi * (cs.xiToPMinus1Over3 * cs.xiTo2PMinus2Over3) = Fp2.conjugate Fp2.xi)
include h1 h3

theorem frobeniusG_twist (a : Fp12 K) : Fp12.frobeniusG cs a =
    twist (Fp6.frobeniusHom cs h1 h3) (Fp6.ofBase cs.xiToPMinus1Over6) a := by
  simp only [Fp12.frobeniusG, Fp6.mulScalar_eq, Fp6.mul_eq]; rfl

/-- gfP12.Frobenius as a ring endomorphism: gfP6.Frobenius on gfP6, ω ↦ ξ^((p−1)/6)·ω -/
def frobeniusHom (h4 : cs.xiToPMinus1Over6 * cs.xiToPMinus1Over6 = cs.xiToPMinus1Over3) : Fp12 K →+* Fp12 K :=
  (twistHom (Fp6.frobeniusHom cs h1 h3) (Fp6.ofBase cs.xiToPMinus1Over6)
    (by rw [← Fp6.ofBase_mul, h4, mul_comm]; exact Fp6.frobeniusG_tau cs)).copy (Fp12.frobeniusG cs)
    (funext (frobeniusG_twist cs h1 h3))

theorem frobeniusG_ofBase (c : Fp6 K) : Fp12.frobeniusG cs (ofBase c) = ofBase (Fp6.frobeniusG cs c) :=
  (frobeniusG_twist cs h1 h3 _).trans (twist_ofBase _ _ c)

theorem frobeniusG_omega :
    Fp12.frobeniusG cs (omega : Fp12 K) = ofBase (Fp6.ofBase cs.xiToPMinus1Over6) * omega :=
  (frobeniusG_twist cs h1 h3 _).trans (twist_omega _ _)

/-- the p-power Frobenius commutes with conjugation (the p⁶-power one) -/
theorem frobeniusG_conjugate (a : Fp12 K) :
    Fp12.frobeniusG cs (Fp12.conjugate a) = Fp12.conjugate (Fp12.frobeniusG cs a) := by
  rw [frobeniusG_twist cs h1 h3, frobeniusG_twist cs h1 h3]; exact twist_conjugate _ _ a

end p

variable (hg : cs.Good)
include hg

theorem frobeniusG_mul (a b : Fp12 K) :
    Fp12.frobeniusG cs (a * b) = Fp12.frobeniusG cs a * Fp12.frobeniusG cs b :=
  map_mul (frobeniusHom cs hg.h1 hg.h3 hg.h4) a b

theorem frobeniusG_one : Fp12.frobeniusG cs (1 : Fp12 K) = 1 := map_one (frobeniusHom cs hg.h1 hg.h3 hg.h4)

theorem frobeniusP2G_twist (a : Fp12 K) : Fp12.frobeniusP2G cs a =
    twist (Fp6.frobeniusP2Hom cs hg) (Fp6.ofBase (Fp2.ofBase cs.xiToPSquaredMinus1Over6)) a := by
  simp only [Fp12.frobeniusP2G, Fp6.mulGFP_eq, Fp6.mul_eq]; rfl

/-- gfP12.FrobeniusP2 as a ring endomorphism: gfP6.FrobeniusP2 on gfP6, ω ↦ ξ^((p²−1)/6)·ω -/
def frobeniusP2Hom : Fp12 K →+* Fp12 K :=
  (twistHom (Fp6.frobeniusP2Hom cs hg) (Fp6.ofBase (Fp2.ofBase cs.xiToPSquaredMinus1Over6))
    (by rw [← Fp6.ofBase_mul, ← Fp2.ofBase_mul, hg.e6, mul_comm]; exact Fp6.frobeniusP2G_tau cs)).copy
    (Fp12.frobeniusP2G cs) (funext (frobeniusP2G_twist cs hg))

theorem frobeniusP2G_ofBase (c : Fp6 K) : Fp12.frobeniusP2G cs (ofBase c) = ofBase (Fp6.frobeniusP2G cs c) :=
  (frobeniusP2G_twist cs hg _).trans (twist_ofBase _ _ c)

theorem frobeniusP2G_omega : Fp12.frobeniusP2G cs (omega : Fp12 K) =
    ofBase (Fp6.ofBase (Fp2.ofBase cs.xiToPSquaredMinus1Over6)) * omega :=
  (frobeniusP2G_twist cs hg _).trans (twist_omega _ _)

theorem frobeniusP2G_mul (a b : Fp12 K) :
    Fp12.frobeniusP2G cs (a * b) = Fp12.frobeniusP2G cs a * Fp12.frobeniusP2G cs b :=
  map_mul (frobeniusP2Hom cs hg) a b

theorem frobeniusP2G_one : Fp12.frobeniusP2G cs (1 : Fp12 K) = 1 := map_one (frobeniusP2Hom cs hg)

theorem frobeniusP2G_conjugate (a : Fp12 K) :
    Fp12.frobeniusP2G cs (Fp12.conjugate a) = Fp12.conjugate (Fp12.frobeniusP2G cs a) := by
  rw [frobeniusP2G_twist cs hg, frobeniusP2G_twist cs hg]; exact twist_conjugate _ _ a

omit hg

theorem exp_mul (a b : Fp12 K) (k : Nat) : Fp12.exp (a * b) k = Fp12.exp a k * Fp12.exp b k := by
  simp only [exp_eq_pow, mul_pow]

theorem exp_one (k : Nat) : Fp12.exp (1 : Fp12 K) k = 1 := by simp only [exp_eq_pow, one_pow]

end Fp12

/-! ### the final exponentiation

After its first step t = conj x · x⁻¹ the code of optate.go is a straight-line program over the one value t, built from
Conjugate, the two Frobenius maps, Exp u, Square and Mul. It is written once, as the expression `FE.hard`; what holds of t,
is kept by those maps and by Mul, holds of the result: one induction over `FE` per such property. -/

/-- expressions in one value over the maps the final exponentiation is built from -/
inductive FE where
  | inp
  | conj (a : FE)
  | frob (a : FE)
  | frobP2 (a : FE)
  | expU (a : FE)
  | mul (a b : FE)
  | sq (a : FE)

end

namespace FE

/-- the value of an expression at `t`, through the transcribed functions -/
def run {α : Type} [Add α] [Sub α] [Neg α] [Mul α] [Zero α] [One α] [Inv α] (cs : FrobConsts α) (u : Nat)
    (t : Fp12 α) : FE → Fp12 α
  | inp => t
  | conj a => (run cs u t a).conjugate
  | frob a => Fp12.frobeniusG cs (run cs u t a)
  | frobP2 a => Fp12.frobeniusP2G cs (run cs u t a)
  | expU a => (run cs u t a).exp u
  | mul a b => (run cs u t a).mul (run cs u t b)
  | sq a => (run cs u t a).square

/-- finalExponentiation (optate.go) from `t1.Mul(t1, t2)` on, step for step -/
def hard : FE :=
  let t1 := mul inp (frobP2 inp)
  let fp := frob t1
  let fp2 := frobP2 t1
  let fp3 := frob fp2
  let fu := expU t1
  let fu2 := expU fu
  let fu3 := expU fu2
  let y3 := frob fu
  let fu2p := frob fu2
  let fu3p := frob fu3
  let y2 := frobP2 fu2
  let y0 := mul (mul fp fp2) fp3
  let y1 := conj t1
  let y5 := conj fu2
  let y3 := conj y3
  let y4 := conj (mul fu fu2p)
  let y6 := conj (mul fu3 fu3p)
  let t0 := sq y6
  let t0 := mul (mul t0 y4) y5
  let t1 := mul (mul y3 y5) t0
  let t0 := mul t0 y2
  let t1 := sq (mul (sq t1) t0)
  let t0 := mul t1 y1
  let t1 := mul t1 y0
  mul (sq t0) t1

theorem finalExp_eq_run {α : Type} [Add α] [Sub α] [Neg α] [Mul α] [Zero α] [One α] [Inv α]
    (cs : FrobConsts α) (u : Nat) (x : Fp12 α) :
    finalExponentiationG cs u x = run cs u (x.conjugate.mul x.invert) hard := rfl

variable {K : Type} [Field K] (cs : FrobConsts K) (u : Nat)

theorem run_mul (hg : cs.Good) (s t : Fp12 K) (e : FE) : run cs u (s * t) e = run cs u s e * run cs u t e := by
  induction e with
  | inp => rfl
  | conj a ih => simp only [run, ih, Fp12.conjugate_mul']
  | frob a ih => simp only [run, ih, Fp12.frobeniusG_mul cs hg]
  | frobP2 a ih => simp only [run, ih, Fp12.frobeniusP2G_mul cs hg]
  | expU a ih => simp only [run, ih, Fp12.exp_mul]
  | mul a b iha ihb => simp only [run, iha, ihb, Fp12.mul_eq]; ring
  | sq a ih => simp only [run, ih, Fp12.square_eq]; ring

theorem run_one (hg : cs.Good) (e : FE) : run cs u 1 e = 1 := by
  induction e with
  | inp => rfl
  | conj a ih => simp only [run, ih, Fp12.conjugate_one]
  | frob a ih => simp only [run, ih, Fp12.frobeniusG_one cs hg]
  | frobP2 a ih => simp only [run, ih, Fp12.frobeniusP2G_one cs hg]
  | expU a ih => simp only [run, ih, Fp12.exp_one]
  | mul a b iha ihb => simp only [run, iha, ihb, Fp12.mul_eq, mul_one]
  | sq a ih => simp only [run, ih, Fp12.square_eq, mul_one]

end FE

section
variable {K : Type} [Field K]

/-- **finalExponentiation is multiplicative** -/
theorem finalExp_mul (cs : FrobConsts K) (hg : cs.Good) (u : Nat) (x y : Fp12 K) :
    finalExponentiationG cs u (x * y) = finalExponentiationG cs u x * finalExponentiationG cs u y := by
  rw [FE.finalExp_eq_run, FE.finalExp_eq_run, FE.finalExp_eq_run, ← FE.run_mul cs u hg, Fp12.mul_eq, Fp12.mul_eq,
    Fp12.mul_eq, Fp12.conjugate_mul', Fp12.invert_mul, mul_mul_mul_comm]

theorem finalExp_one (cs : FrobConsts K) (hg : cs.Good) (u : Nat) : finalExponentiationG cs u (1 : Fp12 K) = 1 := by
  rw [FE.finalExp_eq_run, Fp12.mul_eq, Fp12.conjugate_one, Fp12.invert_one, one_mul, FE.run_one cs u hg]

/-- the final exponentiation as a monoid homomorphism -/
def finalExpHom (cs : FrobConsts K) (hg : cs.Good) (u : Nat) : Fp12 K →* Fp12 K :=
  ⟨⟨finalExponentiationG cs u, finalExp_one cs hg u⟩, finalExp_mul cs hg u⟩

theorem finalExpHom_apply (cs : FrobConsts K) (hg : cs.Good) (u : Nat) (x : Fp12 K) :
    finalExpHom cs hg u x = finalExponentiationG cs u x := rfl

theorem finalExpHom_coe (cs : FrobConsts K) (hg : cs.Good) (u : Nat) :
    ⇑(finalExpHom cs hg u) = finalExponentiationG cs u := rfl

end
end Dos.Bn256
