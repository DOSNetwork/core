/-
C20 — point compression: `extended.ToBytes` (and `projective.ToBytes`) of a good representation of the
curve point P is THE canonical encoding `encPt P` = 32-byte little-endian of y (fully reduced, < p) with bit 255 =
parity of x (fully reduced).
-/
import DosModel.Proofs.GeSpec
import DosModel.Proofs.Ed25519FeBytes

set_option exponentiation.threshold 600

namespace Dos.Ge
open Dos Dos.Ed25519 Dos.FeProg Dos.FeOps Dos.GeProg Dos.Ed25519Prime Dos.Edwards Dos.Gen.Ed25519Ge

/-- canonical encoding of a curve point -/
def encPt (P : Pt) : Bytes := natLE 32 (P.y.val + 2 ^ 255 * (P.x.val % 2))

/-- the curve point a limb structure stands for (the identity if it stands for none) -/
noncomputable def absPt (e : Ext) : Pt :=
  open Classical in
  if h : OnCurve E25519.d (val e.X / val e.Z) (val e.Y / val e.Z) then ⟨val e.X / val e.Z, val e.Y / val e.Z, h⟩ else 0

theorem absPt_of_good {e : Ext} {P : Pt} (h : GoodExt e P) : absPt e = P := by
  unfold absPt
  have hc : OnCurve E25519.d (val e.X / val e.Z) (val e.Y / val e.Z) := by rw [h.hx, h.hy]; exact P.on
  rw [dif_pos hc]
  exact Point.ext h.hx h.hy

theorem encPt_length (P : Pt) : (encPt P).length = 32 := natLE_length _ _

/-- value of a limb vector modulo p, as the `ZMod.val` of its field element -/
theorem val_val (l : L10) : (val l).val = (feVal l % pI).toNat := by
  unfold val
  have h := ZMod.val_intCast (n := Dos.Ed.p) (feVal l)
  rw [pI_eq]
  omega

theorem val_lt (x : F) : x.val < 2 ^ 255 := by
  have := ZMod.val_lt x
  have hp : Dos.Ed.p < 2 ^ 255 := by decide
  omega

theorem natLE_succ_append : ∀ (k n : Nat), natLE (k + 1) n = natLE k n ++ [UInt8.ofNat (n / 256 ^ k % 256)]
  | 0, n => by simp [natLE]
  | k + 1, n => by
    have ih := natLE_succ_append k (n / 256)
    show UInt8.ofNat (n % 256) :: natLE (k + 1) (n / 256) = (UInt8.ofNat (n % 256) :: natLE k (n / 256)) ++ _
    rw [ih, List.cons_append, Nat.div_div_eq_div_mul, pow_succ, Nat.mul_comm]

theorem natLE_mod (k n m : Nat) (h : n % 256 ^ k = m % 256 ^ k) : natLE k n = natLE k m :=
  leNat_inj _ _ (by rw [natLE_length, natLE_length]) (by rw [leNat_natLE, leNat_natLE, h])

theorem xor_sign (t b : Nat) (ht : t < 128) (hb : b ≤ 1) :
    UInt8.ofNat t ^^^ (UInt8.ofNat b <<< 7) = UInt8.ofNat (t + 128 * b) := by
  have key : ∀ t : Fin 128, ∀ b : Fin 2, UInt8.ofNat t.1 ^^^ (UInt8.ofNat b.1 <<< 7) = UInt8.ofNat (t.1 + 128 * b.1) := by
    decide
  exact key ⟨t, ht⟩ ⟨b, by omega⟩

/-- the top byte of a number below 2^255 in 32 little-endian bytes is below 128 -/
theorem div_pow_lt_128 {n : Nat} (h : n < 2 ^ 255) : n / 256 ^ 31 < 128 := by
  rw [Nat.div_lt_iff_lt_mul (by positivity)]
  have : (128 : Nat) * 256 ^ 31 = 2 ^ 255 := by norm_num
  omega

/-- the top byte of a 32-byte little-endian string with value below 2^255 -/
theorem top_byte_of_lt (b : Bytes) (h : leNat b < 2 ^ 255) : (b.getD 31 0).toNat ≤ 127 := by
  rw [getD_toNat]
  exact Nat.le_trans (Nat.mod_le _ _) (Nat.lt_succ_iff.1 (div_pow_lt_128 h))

theorem natLE_top (n : Nat) (h : n < 2 ^ 255) : ((natLE 32 n).getD 31 0).toNat ≤ 127 :=
  top_byte_of_lt _ (by rw [leNat_natLE]; exact Nat.lt_of_le_of_lt (Nat.mod_le _ _) h)

theorem set_last {α : Type} (l : List α) (a b : α) : (l ++ [a]).set l.length b = l ++ [b] := by
  simp

/-- `s[31] ^= sign << 7` on the little-endian encoding of y < 2^255 sets bit 255 -/
theorem set_sign (y b : Nat) (hy : y < 2 ^ 255) (hb : b ≤ 1) :
    (natLE 32 y).set 31 (((natLE 32 y).getD 31 0) ^^^ (UInt8.ofNat b <<< 7)) = natLE 32 (y + 2 ^ 255 * b) := by
  have hl : (natLE 31 y).length = 31 := natLE_length _ _
  rw [natLE_succ_append 31 y, natLE_succ_append 31 (y + 2 ^ 255 * b)]
  have e1 : natLE 31 (y + 2 ^ 255 * b) = natLE 31 y := by
    apply natLE_mod
    have : (2 : Nat) ^ 255 = 256 ^ 31 * 128 := by norm_num
    rw [this, Nat.mul_assoc, Nat.add_mul_mod_self_left]
  have hq : y / 256 ^ 31 < 128 := div_pow_lt_128 hy
  have e2 : (y + 2 ^ 255 * b) / 256 ^ 31 % 256 = y / 256 ^ 31 + 128 * b := by
    have : (2 : Nat) ^ 255 * b = 256 ^ 31 * (128 * b) := by
      have : (2 : Nat) ^ 255 = 256 ^ 31 * 128 := by norm_num
      rw [this, Nat.mul_assoc]
    rw [this, Nat.add_mul_div_left _ _ (by positivity)]
    apply Nat.mod_eq_of_lt
    omega
  have e3 : y / 256 ^ 31 % 256 = y / 256 ^ 31 := Nat.mod_eq_of_lt (by omega)
  rw [e1, e2, e3]
  have g : (natLE 31 y ++ [UInt8.ofNat (y / 256 ^ 31)]).getD 31 0 = UInt8.ofNat (y / 256 ^ 31) := by
    simp [List.getD, hl]
  rw [g, xor_sign _ _ hq hb]
  have h := set_last (natLE 31 y) (UInt8.ofNat (y / 256 ^ 31)) (UInt8.ofNat (y / 256 ^ 31 + 128 * b))
  rw [hl] at h
  exact h

/-- the common tail of both `ToBytes`: bytes of y, sign of x -/
theorem finishBytes_spec {x y : L10} {vx vy : F} (hx : R 1 x vx) (hy : R 1 y vy) :
    finishBytes x y = natLE 32 (vy.val + 2 ^ 255 * (vx.val % 2)) := by
  unfold finishBytes
  simp only
  have sy := (feToBytes_spec y (Bounded.mono13 hy.1)).1
  have sx := (feIsNegative_spec x (Bounded.mono13 hx.1)).1
  have ey : (feVal y % pI).toNat = vy.val := by rw [← val_val, hy.2]
  have ex : (feVal x % pI).toNat = vx.val := by rw [← val_val, hx.2]
  rw [ey] at sy
  rw [ex] at sx
  rw [sy]
  have hneg : (feIsNegative x).1 = UInt8.ofNat (vx.val % 2) := by
    apply UInt8.toNat_inj.1
    rw [sx, UInt8.toNat_ofNat']
    omega
  rw [hneg]
  exact set_sign _ _ (val_lt vy) (by omega)

theorem invF_eq (z : F) (hz : z ≠ 0) : invF z = z⁻¹ := pow_inv z hz

/-- **extended.ToBytes** (= point.MarshalBinary): the canonical encoding of the represented point -/
theorem extToBytes_spec {p : Ext} {P : Pt} (hp : GoodExt p P) : extToBytes p = encPt P := by
  have h := call_refines extended_ToBytes [p.regs] 3 0 (Or.inl rfl) (extRel hp)
    (M1 := [some 2, some 1, some 1, some 1, some 1, some 1, some 1, some 1, some 1, some 1]) (by decide)
    (by simp only [ge_run, extended_ToBytes]; rfl)
  have rx := h.get 5 rfl rfl
  have ry := h.get 6 rfl rfl
  rw [invF_eq _ hp.z_ne, ← div_eq_mul_inv, hp.hx] at rx
  rw [invF_eq _ hp.z_ne, ← div_eq_mul_inv, hp.hy] at ry
  exact finishBytes_spec rx ry

theorem projToBytes_spec {p : Proj} {P : Pt} (hp : GoodProj p P) : projToBytes p = encPt P := by
  have h := call_refines projective_ToBytes [p.regs] 3 0 (Or.inl rfl) (projRel hp)
    (M1 := [some 2, some 1, some 1, some 1, some 1, some 1, some 1, some 1, some 1]) (by decide)
    (by simp only [ge_run, projective_ToBytes]; rfl)
  have rx := h.get 4 rfl rfl
  have ry := h.get 5 rfl rfl
  rw [invF_eq _ hp.z_ne, ← div_eq_mul_inv, hp.hx] at rx
  rw [invF_eq _ hp.z_ne, ← div_eq_mul_inv, hp.hy] at ry
  exact finishBytes_spec rx ry

theorem encPt_leNat (P : Pt) : leNat (encPt P) = P.y.val + 2 ^ 255 * (P.x.val % 2) := by
  unfold encPt
  apply leNat_natLE_of_lt
  have := val_lt P.y
  have e : (256 : Nat) ^ 32 = 2 ^ 255 * 2 := by norm_num
  have : P.x.val % 2 < 2 := Nat.mod_lt _ (by decide)
  omega

/-- p is odd: negation flips the parity of a non-zero residue -/
theorem val_neg_parity (x : F) (hx : x ≠ 0) : (-x).val % 2 ≠ x.val % 2 := by
  rw [ZMod.neg_val, if_neg hx]
  have hlt := ZMod.val_lt x
  have hpos : 0 < x.val := Nat.pos_of_ne_zero (fun hz => hx ((ZMod.val_eq_zero _).1 hz))
  have hodd : Dos.Ed.p % 2 = 1 := by decide
  omega

/-- a curve point is determined by y and, unless x = 0, the parity of x: x² is determined by y, and the parity picks
the root -/
theorem pt_eq_of_y_parity {P Q : Pt} (hy : P.y = Q.y) (hs : Q.x ≠ 0 → P.x.val % 2 = Q.x.val % 2) : P = Q := by
  refine Point.ext ?_ hy
  rcases sq_eq_sq_iff_eq_or_eq_neg.1 (sq_x_of_y hy) with hx | hx
  · exact hx
  · by_cases hq : Q.x = 0
    · rw [hx, hq, neg_zero]
    · have := hs hq
      rw [hx] at this
      exact absurd this (val_neg_parity Q.x hq)

/-- the encoding determines the point: y and the parity of x are read off -/
theorem encPt_inj {P Q : Pt} (h : encPt P = encPt Q) : P = Q := by
  have h1 := congrArg leNat h
  rw [encPt_leNat, encPt_leNat] at h1
  have hP := val_lt P.y
  have hQ := val_lt Q.y
  have ey : P.y = Q.y := ZMod.val_injective _ (by omega)
  exact pt_eq_of_y_parity ey (fun _ => by omega)

end Dos.Ge
