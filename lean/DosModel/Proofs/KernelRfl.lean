import Lean.Elab.Tactic

open Lean Elab Tactic Meta in
/-- Close a goal `a = b` with the term `Eq.refl a` WITHOUT asking the elaborator whether `a` and `b` are
definitionally equal; the kernel checks that when the theorem is added to the environment, and rejects a wrong
statement there ("(kernel) declaration type mismatch").  For goals whose two sides agree by evaluating an interpreter
(of assembly, of limb programs, of method-call programs) on a symbolic state: the elaborator's unifier is far slower at
this than the kernel's evaluator.  Nothing is trusted beyond the kernel: the proof term is `Eq.refl`. -/
elab "kernel_rfl" : tactic => do
  let g ← getMainGoal
  let t ← instantiateMVars (← g.getType)
  match t.eq? with
  | some (_, a, _) => g.assign (← mkEqRefl a)
  | none => throwError "kernel_rfl: the goal is not an equality"
