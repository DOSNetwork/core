/-
C14: discipline C (hand-off).  The right to operate on `c` is a token: the creator `g` holds it,
a send on the hand-off channel `r` passes it to the collector `d`, a close destroys it.  The
number of tokens (held by `g`, in flight in `r`, held by `d`) never exceeds one and is zero once
`c` is closed; a goroutine that sends on or closes `c` holds the token.
-/
import DosModel.Proofs.PipeFanin

namespace Dos.Pipe

def tokOf (m : List Bool) (o : Option GSt) : Nat := if labelAt m o then 1 else 0

theorem tokOf_le_one (m : List Bool) (o : Option GSt) : tokOf m o ≤ 1 := by
  unfold tokOf; split <;> omega

theorem tokOf_at (m : List Bool) (pc : Pc) : tokOf m (some (GSt.at pc)) = if mark m pc then 1 else 0 := rfl
theorem tokOf_done (m : List Bool) : tokOf m (some GSt.done) = 0 := rfl

theorem labelAt_effect (m : List Bool) (s : State) (l : Lab) (y : Gi) :
    labelAt m ((effect s l).gs[y]?) = labelAt m (s.gs[y]?) := by
  rw [effect_gs_get]
  split
  · rename_i hc; rw [hc.2]; rfl
  · rfl

/-- the checks of discipline C, unpacked -/
structure HandOff (p : Pipeline) (c r : Ch) (g d : Gi) (gg gd : Goroutine) : Prop where
  ne : c ≠ r
  gd_ne : g ≠ d
  hg : p.gs[g]? = some gg
  hd : p.gs[d]? = some gd
  sendR : ∀ x gr, p.gs[x]? = some gr → gr.hasSend r = true → x = g
  recvR : ∀ x gr, p.gs[x]? = some gr → gr.hasRecv r = true → x = d
  opsC : ∀ x gr, p.gs[x]? = some gr → gr.hasOps c = true → x = g ∨ x = d
  gNoRecv : gg.hasRecv r = false
  dNoSend : gd.hasSend r = false
  okG : ownGOk gg c r = true
  okD : ownDOk gd c r = true

theorem handOff_of_discCr {p : Pipeline} {c r : Ch} (h : discCr p c r = true) :
    ∃ g d gg gd, HandOff p c r g d gg gd := by
  unfold discCr at h
  simp only [Bool.and_eq_true, bne_iff_ne, ne_eq] at h
  obtain ⟨hne, h⟩ := h
  split at h
  · rename_i g d hs hr
    simp only [Bool.and_eq_true, bne_iff_ne, ne_eq, List.all_eq_true, Bool.or_eq_true, beq_iff_eq] at h
    obtain ⟨⟨⟨hgd, hops⟩, hm⟩, _⟩ := h
    split at hm
    · rename_i gg gd hgg hgd'
      simp only [Bool.and_eq_true, Bool.not_eq_true'] at hm
      obtain ⟨⟨⟨⟨⟨h1, h2⟩, _⟩, _⟩, h5⟩, h6⟩ := hm
      refine ⟨g, d, gg, gd, ⟨hne, hgd, hgg, hgd', ?_, ?_, ?_, h1, h2, h5, h6⟩⟩
      · intro x gr hx hf; exact gsWhere_singleton hs hx hf
      · intro x gr hx hf; exact gsWhere_singleton hr hx hf
      · intro x gr hx hf
        exact hops x (mem_gsWhere.mpr ⟨gr, hx, hf⟩)
    · cases hm
  · cases h

variable {p : Pipeline} {c r : Ch} {g d : Gi} {gg gd : Goroutine}

namespace HandOff

theorem g_parts (H : HandOff p c r g d gg gd) :
    backClosedOk gg.nodes (fun nd => nd.opsOn c || nd.handsOff r) (ownG gg c r) = true ∧
    (∀ (pc n : Pc), gg.nodes[pc]? = some (Node.close c n) → mark (ownG gg c r) n = false) ∧
    (∀ (pc : Pc) (nd : Node) (n : Pc), gg.nodes[pc]? = some nd → (Lab.send r, n) ∈ nd.edges →
        mark (ownG gg c r) n = false) := by
  have h := H.okG
  unfold ownGOk at h
  simp only [Bool.and_eq_true] at h
  refine ⟨h.1, ?_, ?_⟩
  · intro pc n hn
    have := all_nodes h.2 hn
    simpa using this
  · intro pc nd n hn hed
    have := all_nodes h.2 hn
    cases nd <;> simp [Node.edges] at hed
    case sel alts =>
      obtain ⟨a, ha, hae⟩ := hed
      simp only [List.all_eq_true] at this
      have := this a ha
      cases a <;> simp [Alt.edges] at hae
      case send r' n' =>
        obtain ⟨rfl, rfl⟩ := hae
        simpa using this

theorem d_parts (H : HandOff p c r g d gg gd) :
    mark (ownD gd c r) 0 = false ∧
    (∀ (pc : Pc) (nd : Node), gd.nodes[pc]? = some nd → nd.opsOn c = true → mark (ownD gd c r) pc = true) ∧
    (∀ (pc : Pc) (nd : Node) (l : Lab) (n : Pc), gd.nodes[pc]? = some nd → (l, n) ∈ nd.edges →
        mark (ownD gd c r) n = true → l ≠ Lab.recvOk r → mark (ownD gd c r) pc = true ∧ nd.closes c = false) := by
  have h := H.okD
  unfold ownDOk at h
  simp only [Bool.and_eq_true, Bool.not_eq_true'] at h
  refine ⟨h.1, ?_, ?_⟩
  · intro pc nd hn hop
    have := zipIdx_all h.2 hn
    simp only [Bool.and_eq_true, Bool.or_eq_true, Bool.not_eq_true'] at this
    rcases this.1 with h1 | h1
    · rw [hop] at h1; cases h1
    · exact h1
  · intro pc nd l n hn hed hm hl
    have := zipIdx_all h.2 hn
    simp only [Bool.and_eq_true, Bool.or_eq_true, Bool.not_eq_true', List.all_eq_true, beq_iff_eq] at this
    rcases this.2 (l, n) hed with (h1 | h1) | h1
    · rw [hm] at h1; cases h1
    · exact h1
    · exact absurd h1 hl

end HandOff

/-- number of tokens for `c` -/
def tokens (gg gd : Goroutine) (c r : Ch) (g d : Gi) (s : State) : Nat :=
  tokOf (ownG gg c r) (s.gs[g]?) + s.len r + tokOf (ownD gd c r) (s.gs[d]?)

theorem recvOk_edge_recvsOn {nd : Node} {c : Ch} {n : Pc} (h : (Lab.recvOk c, n) ∈ nd.edges) :
    nd.recvsOn c = true := recvsOn_of_edge h

/-- the token of the creator after it moved along an edge -/
theorem tokG_move (H : HandOff p c r g d gg gd)
    {pc : Pc} {nd : Node} {l : Lab} {n : Pc} (hn : gg.nodes[pc]? = some nd) (hed : (l, n) ∈ nd.edges) :
    tokOf (ownG gg c r) (some (GSt.at n)) ≤ tokOf (ownG gg c r) (some (GSt.at pc)) ∧
    ((l = .send r ∨ l = .close c) →
      tokOf (ownG gg c r) (some (GSt.at pc)) = 1 ∧ tokOf (ownG gg c r) (some (GSt.at n)) = 0) := by
  obtain ⟨hback, hclose, hsend⟩ := H.g_parts
  constructor
  · rw [tokOf_at, tokOf_at]
    cases hm : mark (ownG gg c r) n with
    | false => simp
    | true => rw [backClosed_edge hback hn hed hm]; simp
  · rintro (hl | hl)
    · subst hl
      rw [tokOf_at, tokOf_at, hsend pc nd n hn hed,
        backClosed_seed hback hn (by simp [handsOff_of_edge hed])]
      simp
    · subst hl
      have := close_node_of_edge hed
      subst this
      rw [tokOf_at, tokOf_at, hclose pc n hn,
        backClosed_seed hback hn (by simp [Node.opsOn, Node.closes])]
      simp

/-- the token of the collector after it moved along an edge -/
theorem tokD_move (H : HandOff p c r g d gg gd)
    {pc : Pc} {nd : Node} {l : Lab} {n : Pc} (hn : gd.nodes[pc]? = some nd) (hed : (l, n) ∈ nd.edges) :
    (l ≠ .recvOk r → tokOf (ownD gd c r) (some (GSt.at n)) ≤ tokOf (ownD gd c r) (some (GSt.at pc))) ∧
    (l = .close c →
      tokOf (ownD gd c r) (some (GSt.at pc)) = 1 ∧ tokOf (ownD gd c r) (some (GSt.at n)) = 0) := by
  obtain ⟨_, hops, hedge⟩ := H.d_parts
  constructor
  · intro hl
    rw [tokOf_at, tokOf_at]
    cases hm : mark (ownD gd c r) n with
    | false => simp
    | true => rw [(hedge pc nd l n hn hed hm hl).1]; simp
  · intro hl
    subst hl
    have hcl := closes_of_edge hed
    rw [tokOf_at, tokOf_at, hops pc nd hn (by simp [Node.opsOn, hcl])]
    cases hm : mark (ownD gd c r) n with
    | false => simp
    | true =>
      have := (hedge pc nd _ n hn hed hm (by simp)).2
      rw [hcl] at this; cases this

theorem tokOf_effect (m : List Bool) (s : State) (l : Lab) (y : Gi) :
    tokOf m ((effect s l).gs[y]?) = tokOf m (s.gs[y]?) := by
  unfold tokOf; rw [labelAt_effect]

/-- the creator never gets the token back -/
theorem tokG_le (H : HandOff p c r g d gg gd)
    {s s' : State} {e : Ev} (hst : Step p s e (.run s')) :
    tokOf (ownG gg c r) (s'.gs[g]?) ≤ tokOf (ownG gg c r) (s.gs[g]?) := by
  unfold tokOf
  cases hl : labelAt (ownG gg c r) (s'.gs[g]?) with
  | false => exact Nat.zero_le _
  | true => rw [labelAt_step H.hg H.g_parts.1 hst hl]; exact Nat.le_refl _

/-- one step never creates a token, and closing `c` destroys one -/
theorem tokens_step (H : HandOff p c r g d gg gd)
    {s s' : State} {e : Ev} (hst : Step p s e (.run s')) (hT : tokens gg gd c r g d s ≤ 1) :
    tokens gg gd c r g d s' ≤ tokens gg gd c r g d s ∧
    (s.closed c = false → s'.closed c = true → tokens gg gd c r g d s' + 1 ≤ tokens gg gd c r g d s) := by
  unfold tokens at hT ⊢
  have hG := tokG_le H hst
  cases hst with
  | env k hk hd =>
    simp only [State.setCtx_gs, State.setCtx_len, State.setCtx_closed]
    exact ⟨Nat.le_refl _, fun h0 h1 => by rw [h0] at h1; cases h1⟩
  | exit x pc hat hnd =>
    simp only [State.setG_len, State.setG_closed]
    refine ⟨?_, fun h0 h1 => by rw [h0] at h1; cases h1⟩
    have hD : tokOf (ownD gd c r) ((s.setG x GSt.done).gs[d]?) ≤ tokOf (ownD gd c r) (s.gs[d]?) := by
      by_cases hx : x = d
      · subst hx; rw [State.setG_get_self hat, tokOf_done]; omega
      · rw [State.setG_get_ne hx]; omega
    omega
  | act x pc nd l n hat hnd hed hgd hdf =>
    simp only [State.setG_len, State.setG_closed]
    obtain ⟨grx, hgx, hn⟩ := node_some hnd
    by_cases hxg : x = g
    · -- the creator moves
      subst hxg
      obtain rfl : grx = gg := Option.some.inj (hgx.symm.trans H.hg)
      rw [act_get_self l n hat, act_get_ne s l n H.gd_ne, tokOf_effect, hat]
      obtain ⟨hle, hsp⟩ := tokG_move H hn hed
      have hnr : l ≠ .recvOk r := by
        intro hl; subst hl
        have := hasRecv_of_node hn (recvsOn_of_edge hed)
        rw [H.gNoRecv] at this; cases this
      rw [effect_len, if_neg (by simp [hnr])]
      by_cases hls : l = .send r
      · subst hls
        obtain ⟨h1, h2⟩ := hsp (Or.inl rfl)
        refine ⟨by split <;> omega, ?_⟩
        intro h0 h1'
        cases effect_closes h0 h1'
      · rw [if_neg (by simp [hls])]
        refine ⟨by omega, ?_⟩
        intro h0 h1
        obtain ⟨h1, h2⟩ := hsp (Or.inr (effect_closes h0 h1))
        omega
    · by_cases hxd : x = d
      · -- the collector moves
        subst hxd
        obtain rfl : grx = gd := Option.some.inj (hgx.symm.trans H.hd)
        rw [act_get_self l n hat, act_get_ne s l n hxg, tokOf_effect, hat]
        obtain ⟨hle, hcl⟩ := tokD_move H hn hed
        have hns : l ≠ .send r := by
          intro hl; subst hl
          have := hasSend_of_node hn (sendsOn_of_edge hed)
          rw [H.dNoSend] at this; cases this
        by_cases hlr : l = .recvOk r
        · subst hlr
          have hpos : 0 < s.len r := by simpa [guard] using hgd
          rw [effect_len, if_pos rfl]
          have := tokOf_le_one (ownD grx c r) (some (GSt.at n))
          refine ⟨by omega, ?_⟩
          intro h0 h1
          cases effect_closes h0 h1
        · rw [effect_len, if_neg (by simp [hlr]), if_neg (by simp [hns])]
          have := hle hlr
          refine ⟨by omega, ?_⟩
          intro h0 h1
          obtain ⟨h1, h2⟩ := hcl (effect_closes h0 h1)
          omega
      · -- somebody else moves
        rw [act_get_ne s l n hxg, act_get_ne s l n hxd, tokOf_effect, tokOf_effect]
        have hns : l ≠ .send r := by
          intro hl; subst hl
          exact hxg (H.sendR x grx hgx (hasSend_of_node hn (sendsOn_of_edge hed)))
        have hnr : l ≠ .recvOk r := by
          intro hl; subst hl
          exact hxd (H.recvR x grx hgx (hasRecv_of_node hn (recvsOn_of_edge hed)))
        rw [effect_len, if_neg (by simp [hnr]), if_neg (by simp [hns])]
        refine ⟨Nat.le_refl _, ?_⟩
        intro h0 h1
        have hl := effect_closes h0 h1
        subst hl
        rcases H.opsC x grx hgx (hasOps_of_node hn (opsOn_of_close_edge hed)) with h | h
        · exact absurd h hxg
        · exact absurd h hxd
  | sync x pc nd n y pc' nd' n' ch hne hat hnd hed hat' hnd' hed' hcap hcl =>
    simp only [State.setG_len, State.setG_closed]
    refine ⟨?_, fun h0 h1 => by rw [h0] at h1; cases h1⟩
    obtain ⟨grx, hgx, hn⟩ := node_some hnd
    obtain ⟨gry, hgy, hn'⟩ := node_some hnd'
    have hat2 : (s.setG x (GSt.at n)).gs[y]? = some (GSt.at pc') := by
      rw [State.setG_get_ne hne]; exact hat'
    -- positions after the rendezvous
    have posy : ((s.setG x (GSt.at n)).setG y (GSt.at n')).gs[y]? = some (GSt.at n') := State.setG_get_self hat2
    have posx : ((s.setG x (GSt.at n)).setG y (GSt.at n')).gs[x]? = some (GSt.at n) := by
      rw [State.setG_get_ne (Ne.symm hne)]; exact State.setG_get_self hat
    have posz : ∀ z, z ≠ x → z ≠ y → ((s.setG x (GSt.at n)).setG y (GSt.at n')).gs[z]? = s.gs[z]? := by
      intro z hzx hzy
      rw [State.setG_get_ne (Ne.symm hzy), State.setG_get_ne (Ne.symm hzx)]
    by_cases hch : ch = r
    · subst hch
      obtain rfl := H.sendR x grx hgx (hasSend_of_node hn (sendsOn_of_edge hed))
      obtain rfl := H.recvR y gry hgy (hasRecv_of_node hn' (recvsOn_of_edge hed'))
      obtain rfl : grx = gg := Option.some.inj (hgx.symm.trans H.hg)
      rw [posx, posy]
      rw [hat] at hT ⊢
      obtain ⟨_, hsp⟩ := tokG_move H hn hed
      obtain ⟨h1, h2⟩ := hsp (Or.inl rfl)
      have := tokOf_le_one (ownD gd c ch) (some (GSt.at n'))
      omega
    · have hD : tokOf (ownD gd c r) (((s.setG x (GSt.at n)).setG y (GSt.at n')).gs[d]?) ≤ tokOf (ownD gd c r) (s.gs[d]?) := by
        by_cases h1 : d = x
        · subst h1
          obtain rfl : grx = gd := Option.some.inj (hgx.symm.trans H.hd)
          rw [posx, hat]; exact (tokD_move H hn hed).1 (by simp)
        · by_cases h2 : d = y
          · subst h2
            obtain rfl : gry = gd := Option.some.inj (hgy.symm.trans H.hd)
            rw [posy, hat']
            exact (tokD_move H hn' hed').1 (by intro h; injection h with h; exact hch h)
          · rw [posz d h1 h2]; exact Nat.le_refl _
      omega

theorem tokens_inv (H : HandOff p c r g d gg gd) :
    ∀ s, Reach p s → tokens gg gd c r g d s ≤ 1 ∧ (s.closed c = true → tokens gg gd c r g d s = 0) := by
  apply reach_inv
  · refine ⟨?_, fun h => by rw [init_closed] at h; cases h⟩
    unfold tokens
    rw [init_len]
    have h1 := tokOf_le_one (ownG gg c r) ((init p).gs[g]?)
    have h2 : tokOf (ownD gd c r) ((init p).gs[d]?) = 0 := by
      rw [init_gs, H.hd]
      simp only [Option.map_some]
      have := H.d_parts.1
      split <;> simp [tokOf, labelAt, this]
    omega
  · intro s e s' _ ih hst
    obtain ⟨h1, h2⟩ := tokens_step H hst ih.1
    refine ⟨by omega, ?_⟩
    intro hc'
    cases hc : s.closed c with
    | true => have := ih.2 hc; omega
    | false => have := h2 hc hc'; omega

theorem safe_C {c : Ch} (h : discC p c = true) :
    ¬ CrashReachable p (.sendClosed c) ∧ ¬ CrashReachable p (.closeClosed c) := by
  unfold discC at h
  rw [List.any_eq_true] at h
  obtain ⟨r, _, hr⟩ := h
  obtain ⟨g, d, gg, gd, H⟩ := handOff_of_discCr hr
  have hinv := tokens_inv H
  obtain ⟨hback, _, _⟩ := H.g_parts
  obtain ⟨_, hopsD, _⟩ := H.d_parts
  -- whoever stands at a node that operates on `c` holds the token
  have key : ∀ s x pc nd, Reach p s → s.closed c = true → s.gs[x]? = some (.at pc) →
      p.node x pc = some nd → nd.opsOn c = true → False := by
    intro s x pc nd hr hc hat hnd hop
    obtain ⟨grx, hgx, hn⟩ := node_some hnd
    have h0 := (hinv s hr).2 hc
    unfold tokens at h0
    rcases H.opsC x grx hgx (hasOps_of_node hn hop) with hx | hx
    · subst hx
      obtain rfl : grx = gg := Option.some.inj (hgx.symm.trans H.hg)
      have : tokOf (ownG grx c r) (s.gs[x]?) = 1 := by
        rw [hat, tokOf_at, backClosed_seed hback hn (by simp [hop])]; rfl
      omega
    · subst hx
      obtain rfl : grx = gd := Option.some.inj (hgx.symm.trans H.hd)
      have : tokOf (ownD grx c r) (s.gs[x]?) = 1 := by
        rw [hat, tokOf_at, hopsD pc nd hn hop]; rfl
      omega
  exact no_crash_on (fun s x pc nd n hr hc hat hnd hed => key s x pc nd hr hc hat hnd (opsOn_of_send_edge hed))
    (fun s x pc nd n hr hc hat hnd hed => key s x pc nd hr hc hat hnd (opsOn_of_close_edge hed))

/-- the four disciplines together (`Props.C14.close_discipline_safe`) -/
theorem w1_safe {c : Ch} (h : W1c p c = true) :
    ¬ CrashReachable p (.sendClosed c) ∧ ¬ CrashReachable p (.closeClosed c) := by
  unfold W1c at h
  simp only [Bool.or_eq_true] at h
  rcases h with ((h | h) | h) | h
  · exact safe_N h
  · exact safe_A h
  · exact safe_B h
  · exact safe_C h

end Dos.Pipe
