/-
Composition helper: the C01 `Crypto` interface instantiated with the DRIVER's concrete threshold BLS
(scalars `Zq r`, points `G1.Pt`, `g1Codec`) — `cryptoG1` — is, under `hr`, the SAME record as the abstract
instance `tblsCrypto codecE f (φ ∘ H)` over `E(F_p)` (naturality of `recover` and `blsVerify`), so every
theorem of `Props/C01Compose.lean` holds for it.
-/
import DosModel.Proofs.ComposeTblsG1Module
import DosModel.Proofs.ComposeTbls

-- the proofs open with the same `letI := moduleE hr` as the statements they prove
set_option linter.style.haveILetI false

namespace Dos.Compose.TG1
open Dos Dos.G1 Dos.Share Dos.Tbls Dos.Query Dos.Compose Dos.Compose.Natural

/-- `tbls.Recover` / `bls.Verify` of the node, computed with the driver's own G1 arithmetic -/
def cryptoG1 (f : List (Zq G1.r)) (H : Bytes → Pt) (t n : Nat) : Crypto :=
  { recover := fun c sigs => recOut (Tbls.recover g1Codec f (H c) sigs t n)
    verify := fun c sig => blsVerify g1Codec (f.headD 0) (H c) sig }

theorem cryptoG1_eq (hr : ∀ P : E, G1.r • P = 0) (f : List (Zq G1.r)) (H : Bytes → Pt)
    (hH : ∀ c, Valid (H c)) (t n : Nat) :
    letI := moduleE hr
    cryptoG1 f H t n = tblsCrypto codecE f (fun c => φ (H c)) t n := by
  letI := moduleE hr
  refine congrArg₂ Crypto.mk (funext₂ fun c sigs => ?_) (funext₂ fun c sig => ?_)
  · rw [recover_eq_abstract hr f (H c) (hH c) sigs t n]
  · exact congrArg (fun r => decide (r = VRes.ok))
      (blsVerifyR_eq_abstract hr (f.headD 0) (H c) (hH c) sig).symm

/-- what the driver's `tbls.Sign` emits is what the abstract one emits -/
theorem tblsSign_eq (hr : ∀ P : E, G1.r • P = 0) (f : List (Zq G1.r)) (hm : Pt) (hv : Valid hm) (i : Nat) :
    letI := moduleE hr
    tblsSign codecE f (φ hm) i = tblsSign g1Codec f hm i := by
  letI := moduleE hr
  exact congrArg (fun P => natBE 2 i ++ G1.encode P) (ψ_smul_φ hr _ hm hv)

/-- the module structure as an instance under the hypothesis `#E(F_p) = r` given as a `Fact` (lets a
pairing on `E(F_p)` be an ordinary argument of a theorem) -/
noncomputable instance (priority := low) moduleEFact [h : Fact (∀ P : E, G1.r • P = 0)] :
    Module (Zq G1.r) E := moduleE h.out

end Dos.Compose.TG1
