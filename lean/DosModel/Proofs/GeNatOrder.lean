/-
C20 — the Ed25519 base point has order dividing ℓ:  ℓ • B = 0  in the curve group `Pt = Point E25519`.

`Ed.smul ell Ed.base` (252 doublings and the additions of the set bits of ℓ, on naturals modulo 2^255 − 19) is
EVALUATED BY THE KERNEL (`decide +kernel`, GMP arithmetic on literals); `nrep_smul` (Proofs/GeNatArith.lean) says the
result represents ℓ • B, and the evaluated result (X ≡ 0, Y ≡ Z mod p) represents the identity.
Together with the primality of ℓ (`Primes.ed25519_l_prime`) and `basePt_ne_zero`, the order of B is exactly ℓ
(`base_order`, `smul_base_eq_zero_iff`).
-/
import Mathlib.GroupTheory.OrderOfElement
import DosModel.Proofs.GeNatArith

set_option exponentiation.threshold 600

namespace Dos.Ge
open Dos Dos.Ed25519 Dos.Ed25519Prime Dos.Edwards

/-- the kernel's evaluation of ℓ•B on naturals: the result is (0 : Z : Z : _) modulo p -/
theorem ell_smul_base_nat :
    (Dos.Ed.smul Dos.Ed25519.ell Dos.Ed.base).X % Dos.Ed.p = 0 ∧
    (Dos.Ed.smul Dos.Ed25519.ell Dos.Ed.base).Y % Dos.Ed.p = (Dos.Ed.smul Dos.Ed25519.ell Dos.Ed.base).Z % Dos.Ed.p := by
  decide +kernel

theorem ell_smul_base : Dos.Ed25519.ell • basePt = 0 :=
  (nrep_smul Dos.Ed25519.ell nrep_base).eq_zero_of ell_smul_base_nat.1 ell_smul_base_nat.2

theorem smul_base_mod (n : ℕ) : (n % Dos.Ed25519.ell) • basePt = n • basePt :=
  (nsmul_eq_mod_nsmul n ell_smul_base).symm

theorem base_order : addOrderOf basePt = Dos.Ed25519.ell :=
  haveI : Fact (Nat.Prime Dos.Ed25519.ell) := ⟨Dos.Primes.ed25519_l_prime⟩
  addOrderOf_eq_prime ell_smul_base basePt_ne_zero

theorem smul_base_eq_zero_iff (n : ℕ) : n • basePt = 0 ↔ Dos.Ed25519.ell ∣ n := by
  rw [← base_order]; exact addOrderOf_dvd_iff_nsmul_eq_zero.symm

end Dos.Ge

#print axioms Dos.Ge.ell_smul_base
#print axioms Dos.Ge.base_order
