/-
The pipeline script of one member (`runDeals`, `runResps`, `genGroup` of `Model/DkgSession.lean`)
keeps the invariant `GoodGen` and the fact that every own response is an approval; a finished
member's key share is the sum of the stored deals, each consistent with its commitments.
-/
import DosModel.Proofs.DkgResp
import DosModel.Proofs.DkgAlg
import DosModel.Model.DkgSession

set_option linter.unusedSectionVars false

namespace Dos.Dkg
open Dos Dos.Vss

variable {F G : Type} [Field F] [AddCommGroup G] [Module F G] [DecidableEq F] [DecidableEq G]

/-- every own response stored so far is an approval -/
def AllApproved (d : Gen F G) : Prop :=
  ∀ j v a r, getVerifier d j = some v → v.agg = some a → getResponse a d.index = some r → r.status = true

theorem processDeal_allApproved (g : G) (d : Gen F G) (dd : DkgDeal F G) (hd : GoodGen0 g d)
    (ha : AllApproved d)
    (hok : ∀ resp, (processDeal g d dd).2 = .ok resp → ∃ r, resp.resp = some r ∧ r.status = true) :
    AllApproved (processDeal g d dd).1 := by
  rcases processDeal_spec g d dd hd.idx with ⟨e, h⟩ | ⟨pub, w, hp, _, _, hw, hcase⟩
  · rw [h]; exact ha
  · rw [hw]
    intro j v a r hv hagg hr
    rw [getVerifier_set d dd.index j w (hd.len ▸ (List.getElem?_eq_some_iff.1 hp).1)] at hv
    split at hv
    · cases hv
      rcases hcase with ⟨hn, _⟩ | ⟨a', r', _, _, _, hwa, hgr, _, _, _, _, _, _, hres⟩
      · rw [hn] at hagg; cases hagg
      · cases hwa.symm.trans hagg
        cases hgr.symm.trans hr
        obtain ⟨_, ⟨⟩, h2⟩ := hok _ hres
        exact h2
    · exact ha j v a r hv hagg hr

/-- an `AggMove` of the pipeline keeps the own response, hence "every own response is an approval" -/
theorem allApproved_agg {g : G} {d d' : Gen F G} {j : Nat} {v : Verifier F G} {a a2 : Agg F G} (hd : GoodGen g d)
    (ha : AllApproved d) (hv : getVerifier d j = some v) (hagg : v.agg = some a) (hm : AggMove g d.index j false a a2)
    (hs : SlotSet d d' j { v with agg := some a2 }) : AllApproved d' := by
  intro k w a' r hw hagg' hr
  rw [hs.index] at hr
  rw [hs.get] at hw
  split at hw
  · cases hw; cases hagg'
    rw [(hm.goodA ((hd.good _ _ hv).hagg _ hagg) fun hj => hd.ownDeal _ _ (hj ▸ hv) hagg).2.own] at hr
    exact ha _ v a r hv hagg hr
  · exact ha k w a' r hw hagg' hr

/-- `getAndProcessDeals`: if the stage hands on, the invariant holds and every own response is an
approval (a complaint stops the stage) -/
theorem runDeals_inv (g : G) : ∀ (ms : List (DkgDeal F G)) (d : Gen F G) (acc : List (DkgResp F G)) (d' : Gen F G)
    (out : List (DkgResp F G)), GoodGen g d → AllApproved d → runDeals g d ms acc = (d', some out) →
    GoodGen g d' ∧ AllApproved d' ∧ d'.index = d.index ∧ d'.long = d.long ∧ d'.participants = d.participants := by
  intro ms
  induction ms with
  | nil => intro d acc d' out hg ha h; cases h; exact ⟨hg, ha, rfl, rfl, rfl⟩
  | cons m ms ih =>
    intro d acc d' out hg ha h
    unfold runDeals at h
    have hgood := processDeal_good g d m hg
    have hall := processDeal_allApproved g d m hg.toGoodGen0 ha
    have hfr := (processDeal_move g false d m hg.idx).frame
    rcases hpd : processDeal g d m with ⟨d1, res⟩
    rw [hpd] at h hgood hall hfr
    -- the stage goes on only after an error or an approval
    obtain ⟨acc', h', hok⟩ : ∃ acc', runDeals g d1 ms acc' = (d', some out) ∧
        ∀ resp, res = .ok resp → ∃ r, resp.resp = some r ∧ r.status = true := by
      rcases res with err | resp
      · exact ⟨acc, h, by rintro _ ⟨⟩⟩
      · rcases hrr : resp.resp with _ | r
        · simp [hrr] at h
        · by_cases hs : r.status = true
          · exact ⟨_, by simpa [hrr, hs] using h, by rintro _ ⟨⟩; exact ⟨r, hrr, hs⟩⟩
          · simp [hrr, hs] at h
    obtain ⟨i1, i2, i3, i4, i5⟩ := ih d1 acc' d' out hgood (hall hok) h'
    exact ⟨i1, i2, i3.trans hfr.2.1, i4.trans hfr.2.2.1, i5.trans hfr.1⟩

/-- `getAndProcessResponses` keeps the invariant, the approvals, the stored deals and own responses; and
every response of a batch it worked off without an error was compared by `verifyResponse` with the
session id of the slot it names, as the slot was when the stage started (a slot's session id never
changes): nothing is recorded, skipped or de-duplicated before that comparison -/
theorem runResps_inv (g : G) : ∀ (ms : List (DkgResp F G)) (d d' : Gen F G) (ok : Bool),
    GoodGen g d → AllApproved d → runResps g d ms = (d', ok) →
    GoodGen g d' ∧ AllApproved d' ∧ d'.index = d.index ∧ d'.long = d.long ∧ d'.participants = d.participants ∧
    (∀ j v a, getVerifier d j = some v → v.agg = some a →
      ∃ a2, getVerifier d' j = some { v with agg := some a2 } ∧ getResponse a2 d.index = getResponse a d.index ∧
        a2.deal = a.deal ∧ a2.sid = a.sid) ∧
    (ok = true → ∀ m ∈ ms, ∃ r v a, m.resp = some r ∧ getVerifier d m.index = some v ∧ v.agg = some a ∧
      r.sid = a.sid) := by
  intro ms
  induction ms with
  | nil =>
    intro d d' ok hg ha h
    cases h
    exact ⟨hg, ha, rfl, rfl, rfl, fun j v a hv hagg => ⟨a, by rw [hv, ← hagg], rfl, rfl, rfl⟩, fun _ _ h => (nomatch h)⟩
  | cons m ms ih =>
    intro d d' ok hg ha h
    unfold runResps at h
    -- one step: nothing changes, or slot `m.index` (verifier `v0`, aggregator `a0`) makes an `AggMove` to `a2`, which
    -- keeps what `AggKeeps` lists
    obtain ⟨d1, res, hpr, hgood, hall, ⟨hp, hi, hl, _⟩, hstep⟩ : ∃ d1 res, processResponse g d m = (d1, res) ∧
        GoodGen g d1 ∧ AllApproved d1 ∧ (d1.participants = d.participants ∧ d1.index = d.index ∧ d1.long = d.long ∧
          d1.verifiers.length = d.verifiers.length) ∧
        ((d1 = d ∧ ∃ e, res = .error e) ∨ ∃ r v0 a0 a2, m.resp = some r ∧ getVerifier d m.index = some v0 ∧
          v0.agg = some a0 ∧ r.sid = a0.sid ∧ AggKeeps d.index a0 a2 ∧
          ∀ k, getVerifier d1 k = if m.index = k then some { v0 with agg := some a2 } else getVerifier d k) := by
      refine ⟨(processResponse g d m).1, (processResponse g d m).2, rfl, processResponse_good g d m hg, ?_,
        (processResponse_move g false d m).frame, ?_⟩
      all_goals rcases processResponse_spec g false d m with ⟨e, he⟩ | ⟨r, v0, a0, a2, h1, hv0, ha0, h4, hm, hs⟩
      · rw [he]; exact ha
      · exact allApproved_agg hg ha hv0 ha0 hm hs
      · rw [he]; exact Or.inl ⟨rfl, e, rfl⟩
      · exact Or.inr ⟨r, v0, a0, a2, h1, hv0, ha0, h4,
          (hm.goodA ((hg.good _ v0 hv0).hagg a0 ha0) fun hj => hg.ownDeal v0 a0 (hj ▸ hv0) ha0).2, hs.get⟩
    rw [hpr] at h
    have hkeep : ∀ j v a, getVerifier d j = some v → v.agg = some a →
        ∃ a2, getVerifier d1 j = some { v with agg := some a2 } ∧ AggKeeps d.index a a2 := by
      intro j v a hv hagg
      rcases hstep with ⟨rfl, _⟩ | ⟨_, v0, a0, a2, _, hv0, ha0, _, hk, hget⟩
      · exact ⟨a, by rw [hv, ← hagg], rfl, rfl, rfl, rfl, fun _ h => h⟩
      · rw [hget]
        split
        · subst_vars; cases hv0.symm.trans hv; cases ha0.symm.trans hagg
          exact ⟨a2, rfl, hk⟩
        · exact ⟨a, by rw [hv, ← hagg], rfl, rfl, rfl, rfl, fun _ h => h⟩
    rcases res with err | x
    · cases h
      exact ⟨hgood, hall, hi, hl, hp, fun j v a hv hagg =>
        let ⟨a2, h1, hk⟩ := hkeep j v a hv hagg; ⟨a2, h1, hk.own, hk.deal, hk.sid⟩, fun h => (nomatch h)⟩
    · obtain ⟨i1, i2, i3, i4, i5, i6, i7⟩ := ih d1 d' ok hgood hall h
      obtain ⟨_, _, ⟨⟩⟩ | ⟨r, v0, a0, a2, h1, hv0, ha0, h4, hk, hget⟩ := hstep
      refine ⟨i1, i2, i3.trans hi, i4.trans hl, i5.trans hp, fun j v a hv hagg => ?_, fun hok m' hm' => ?_⟩
      · obtain ⟨a3, k0, hk0⟩ := hkeep j v a hv hagg
        obtain ⟨a4, k1, k2, k3, k4⟩ := i6 j _ a3 k0 rfl
        exact ⟨a4, k1, by rw [← hi, k2, hi, hk0.own], k3.trans hk0.deal, k4.trans hk0.sid⟩
      · rcases List.mem_cons.1 hm' with rfl | hm'
        · exact ⟨r, v0, a0, h1, hv0, ha0, h4⟩
        · obtain ⟨r', v1, a1, e1, e2, e3, e4⟩ := i7 hok m' hm'
          rw [hget] at e2
          split at e2
          · rename_i hmm
            cases e2; cases e3
            exact ⟨r', v0, a0, e1, hmm ▸ hv0, ha0, e4.trans hk.sid⟩
          · exact ⟨r', v1, a1, e1, e2, e3, e4⟩

end Dos.Dkg
