/-
Liveness of honest key generation, member level: the invariant of one member machine that only
ever receives genuine messages (any order, any repetition, before or after its own start), and
`advance`: every stage whose batch has been handed over runs successfully.
-/
import DosModel.Proofs.DkgLiveGen
import DosModel.Proofs.DkgLiveKeys

set_option linter.unusedSectionVars false

namespace Dos.Dkg
open Dos Dos.Vss

variable {F G : Type} [Field F] [AddCommGroup G] [Module F G] [DecidableEq F] [DecidableEq G]

/-! ### genuine messages as member `i` receives them: the public key of another member, a deal sealed for `i`
by another dealer, a response of another member `k` about a dealer other than `k`; `keyPk`, `keyDl`, `keyRs`
(Proofs/DkgLiveBatch.lean) are the keys under which `Loop` de-duplicates them -/

def GPk (c : Cfg F G) (i : Nat) (m : PkMsg G) : Prop := m.index < c.n ∧ m.index ≠ i ∧ m = c.pkMsg m.index
def GDl (c : Cfg F G) (i : Nat) (m : DkgDeal F G) : Prop := GenuineDealFor c i m ∧ m.index ≠ i
def GRs (c : Cfg F G) (i : Nat) (m : DkgResp F G) : Prop :=
  ∃ j k rnd, j < c.n ∧ k < c.n ∧ k ≠ i ∧ k ≠ j ∧ m = ⟨j, some (c.resp j k rnd)⟩

def keyPk (m : PkMsg G) : Nat := m.index
def keyDl (m : DkgDeal F G) : Nat := m.index

theorem dupResp_eq (c : Cfg F G) (i : Nat) (a b : DkgResp F G) (ha : GRs c i a) (hb : GRs c i b) :
    dupResp a b = decide (keyRs a = keyRs b) := by
  obtain ⟨j, k, rnd, _, _, _, _, rfl⟩ := ha
  obtain ⟨j', k', rnd', _, _, _, _, rfl⟩ := hb
  simp only [dupResp, keyRs, Cfg.resp, Option.map_some, Option.getD_some, Prod.mk.injEq]
  by_cases h1 : j = j' <;> by_cases h2 : k = k' <;> simp [h1, h2]

theorem GRs.key {c : Cfg F G} {i : Nat} {m : DkgResp F G} (h : GRs c i m) : keyRs m ∈ respKeys c.n i := by
  obtain ⟨j, k, rnd, h1, h2, h3, h4, rfl⟩ := h
  exact (mem_respKeys c.n i (j, k)).2 ⟨h2, h3, h1, fun he => h4 he.symm⟩

def stageRank : Stage F G → Nat
  | .idle => 0 | .waitPk => 1 | .waitDeals _ => 2 | .waitResps _ => 3 | .done _ _ => 4 | .failed _ => 5

/-- the `Responses` message of member `i`: one genuine approval per other dealer, in some order -/
def GoodResps (c : Cfg F G) (i : Nat) (rs : List (DkgResp F G)) : Prop :=
  ∃ js : List Nat, (∀ j, j ∈ js ↔ j ∈ others c.n i) ∧ rs = js.map (fun j => ⟨j, some (c.resp j i 0)⟩)

/-- a genuine message of member `i`, as it puts it on the wire -/
def GenuineSent (c : Cfg F G) (ephs : List (List F)) (i : Nat) : Sent F G → Prop
  | .pk x => x = c.pkMsg i
  | .deal t x => x = c.dealMsg ephs i t
  | .resps rs => GoodResps c i rs

/-- everything member `i` has sent is genuine, and a member whose stage has rank `r` has sent its public key
(`1 ≤ r`), its deals (`2 ≤ r`), its responses (`3 ≤ r`) -/
structure SentOk (c : Cfg F G) (ephs : List (List F)) (i r : Nat) (sent : List (Sent F G)) : Prop where
  genuine : ∀ s ∈ sent, GenuineSent c ephs i s
  pk : 1 ≤ r → Sent.pk (c.pkMsg i) ∈ sent
  deals : 2 ≤ r → ∀ t ∈ others c.n i, Sent.deal t (c.dealMsg ephs i t) ∈ sent
  resps : 3 ≤ r → ∃ rs, Sent.resps rs ∈ sent

/-- the next stage has sent `new` -/
theorem SentOk.snoc {c : Cfg F G} {ephs : List (List F)} {i r : Nat} {sent : List (Sent F G)} (h : SentOk c ephs i r sent)
    (new : List (Sent F G)) (hnew : ∀ s ∈ new, GenuineSent c ephs i s)
    (hpk : r = 0 → Sent.pk (c.pkMsg i) ∈ new) (hdl : r = 1 → ∀ t ∈ others c.n i, Sent.deal t (c.dealMsg ephs i t) ∈ new)
    (hrs : r = 2 → ∃ rs, Sent.resps rs ∈ new) : SentOk c ephs i (r + 1) (sent ++ new) where
  genuine s hs := (List.mem_append.1 hs).elim (h.genuine s) (hnew s)
  pk _ := List.mem_append.2 (if h0 : r = 0 then Or.inr (hpk h0) else Or.inl (h.pk (by omega)))
  deals _ t ht := List.mem_append.2 (if h1 : r = 1 then Or.inr (hdl h1 t ht) else Or.inl (h.deals (by omega) t ht))
  resps _ := if h2 : r = 2 then (hrs h2).imp fun _ hr => List.mem_append_right _ hr
    else (h.resps (by omega)).imp fun _ hr => List.mem_append_left _ hr

/-- what the stage of member `i` says about its generator (the honest state, reached by `HonestReach` steps);
no stage fails -/
def StageOk (c : Cfg F G) (i : Nat) : Stage F G → Prop
  | .waitDeals d => HState c i (· = i) (baseResps i) (fun _ => False) d ∧ HonestReach c i d
  | .waitResps d => HState c i (· < c.n) (baseResps i) (fun _ => False) d ∧ HonestReach c i d
  | .done d ks => HonestReach c i d ∧ distKeyShare d = .ok ks
  | .failed _ => False
  | _ => True

/-- Member `i` after its `Grouping` call (iff `st`) and the arrival of genuine messages with the keys `sp`,
`sd`, `sr`: each of the three session pairs and its reply channel satisfies `PairInv`, still waited for by the
stages up to `waitPk` / `waitDeals` / `waitResps`. -/
structure LocalPre (c : Cfg F G) (ephs : List (List F)) (i : Nat) (m : Member F G)
    (st : Bool) (sp sd : List Nat) (sr : List (Nat × Nat)) : Prop where
  hn : m.n = c.n
  hidx : m.index = i
  hlong : m.long = c.longs.getD i 0
  hf : m.f = c.polys.getD i []
  hephs : m.ephs = ephs.getD i []
  ppk : PairInv (GPk c i) keyPk (others c.n i) sp st (decide (stageRank m.stage ≤ 1)) m.pkP m.pkBox
  pdl : PairInv (GDl c i) keyDl (others c.n i) sd st (decide (stageRank m.stage ≤ 2)) m.dlP m.dlBox
  prs : PairInv (GRs c i) keyRs (respKeys c.n i) sr st (decide (stageRank m.stage ≤ 3)) m.rsP m.rsBox
  hst : st = false ↔ m.stage = .idle
  hstage : StageOk c i m.stage
  hsent : SentOk c ephs i (stageRank m.stage) m.sent

theorem LocalPre.hst_of {c : Cfg F G} {ephs : List (List F)} {i : Nat} {m : Member F G} {st : Bool} {sp sd : List Nat}
    {sr : List (Nat × Nat)} (h : LocalPre c ephs i m st sp sd sr) (hm : m.stage ≠ .idle) {s : Stage F G}
    (hs : s ≠ .idle) : st = false ↔ s = .idle :=
  ⟨fun he => absurd (h.hst.1 he) hm, fun he => absurd he hs⟩

/-- no stage is waiting for a batch that has already been handed over -/
def Quiescent (m : Member F G) : Prop :=
  (stageRank m.stage = 1 → m.pkBox = none) ∧ (stageRank m.stage = 2 → m.dlBox = none) ∧
  (stageRank m.stage = 3 → m.rsBox = none)

def afterPk (m : Member F G) (d1 : Gen F G) (ds : List (Sent F G)) : Member F G :=
  { m with pkBox := none, stage := .waitDeals d1, lastGen := some d1, sent := m.sent ++ ds }
def afterDl (m : Member F G) (d1 : Gen F G) (rs : List (DkgResp F G)) : Member F G :=
  { m with dlBox := none, stage := .waitResps d1, lastGen := some d1, sent := m.sent ++ [Sent.resps rs] }
def afterRs (m : Member F G) (d1 : Gen F G) (ks : KeyShare F G) : Member F G :=
  { m with rsBox := none, stage := .done d1 ks, lastGen := some d1 }

/-- one unrolling of `advance` at a member whose public-key batch has been handed over: the stage succeeds
(`buildGen_genuine`, `deals_genuine`) and `advance` goes on from `afterPk`, which satisfies the invariant again;
`adv_dl`, `adv_rs` are the same step for the other two stages -/
theorem adv_pk (c : Cfg F G) (ephs : List (List F)) (hw : WellFormed c ephs) (i : Nat) (hi : i < c.n)
    (m : Member F G) (st : Bool) (sp sd : List Nat) (sr : List (Nat × Nat))
    (h : LocalPre c ephs i m st sp sd sr) (hs : m.stage = .waitPk) (batch : List (PkMsg G))
    (hb : m.pkBox = some batch) (fuel : Nat) :
    ∃ m', Member.advance c.g (fuel + 1) m = Member.advance c.g fuel m' ∧ stageRank m'.stage = 2 ∧
      LocalPre c ephs i m' st sp sd sr := by
  have hch := h.ppk; rw [hs, hb] at hch
  obtain ⟨hch', hnd, _, hfull, hP⟩ := hch.take
  obtain ⟨d0, hbg, hng⟩ := buildGen_genuine c ephs hw i hi batch hP hnd
    (fun j hj hji => hfull j ((mem_others c.n i j).2 ⟨hj, hji⟩))
  obtain ⟨d1, hdl, hst1⟩ := deals_genuine c ephs hw i hi d0 hng
  have hown : (⟨m.index, some (m.long • c.g), m.index⟩ : PkMsg G) = c.pkMsg i := by rw [h.hidx, h.hlong]; rfl
  refine ⟨afterPk m d1 (((others c.n i).map (fun tgt => (tgt, c.dealMsg ephs i tgt))).map (fun x => Sent.deal x.1 x.2)), ?_, rfl, h.hn, h.hidx, h.hlong, h.hf, h.hephs, hch',
    by have := h.pdl; rw [hs] at this; exact this, by have := h.prs; rw [hs] at this; exact this,
    h.hst_of (by simp [hs]) (by simp [afterPk]), ⟨hst1, ?_⟩, ?_⟩
  · have hbg' : buildGen c.g m.n m.long m.f ⟨m.index, some (m.long • c.g), m.index⟩ batch = some d0 := by
      rw [hown, h.hn, h.hlong, h.hf]; exact hbg
    have hdl' := hdl
    rw [← h.hephs] at hdl'
    rw [Member.advance]
    simp only [hs, hb, hbg', hdl']
    rfl
  · have hl : i < c.longs.length := hi
    have hp : i < c.polys.length := by rw [hw.polys_len]; exact hi
    exact HonestReach.init (c.longs.getD i 0) (c.polys.getD i []) (ephs.getD i []) d0 d1 _
      (by simp [List.getD_eq_getElem?_getD, hl]) (by simp [List.getD_eq_getElem?_getD, hp]) hng hdl
  · have := h.hsent; rw [hs] at this
    refine this.snoc _ (fun s hs => ?_) (fun h0 => by cases h0) (fun _ t ht => ?_) (fun h2 => by cases h2)
    · simp only [List.map_map, List.mem_map] at hs
      obtain ⟨t, _, rfl⟩ := hs; rfl
    · simp only [List.map_map, List.mem_map]
      exact ⟨t, ht, rfl⟩

theorem adv_dl (c : Cfg F G) (ephs : List (List F)) (hw : WellFormed c ephs) (i : Nat) (hi : i < c.n)
    (m : Member F G) (st : Bool) (sp sd : List Nat) (sr : List (Nat × Nat))
    (h : LocalPre c ephs i m st sp sd sr) (d : Gen F G) (hs : m.stage = .waitDeals d)
    (batch : List (DkgDeal F G)) (hb : m.dlBox = some batch) (fuel : Nat) :
    ∃ m', Member.advance c.g (fuel + 1) m = Member.advance c.g fuel m' ∧ stageRank m'.stage = 3 ∧
      LocalPre c ephs i m' st sp sd sr := by
  have hch := h.pdl; rw [hs, hb] at hch
  obtain ⟨hch', hnd, hsub, hfull, hP⟩ := hch.take
  obtain ⟨hst0, hreach⟩ : StageOk c i (.waitDeals d) := by
    have := h.hstage; rw [hs] at this; exact this
  obtain ⟨d', hrun, hst', hreach'⟩ := runDeals_genuine c ephs hw i hi _ batch _ d [] hst0 hreach
    (fun x hx => (hP x hx).1) hnd (fun x hx => (hP x hx).2)
  refine ⟨afterDl m d' (batch.map (fun x => ⟨x.index, some (c.resp x.index i 0)⟩)), ?_, rfl,
    h.hn, h.hidx, h.hlong, h.hf, h.hephs, by have := h.ppk; rw [hs] at this; exact this, hch',
    by have := h.prs; rw [hs] at this; exact this,
    h.hst_of (by simp [hs]) (by simp [afterDl]), ⟨?_, hreach'⟩, ?_⟩
  · rw [Member.advance]
    simp only [hs, hb, hrun, List.nil_append]
    rfl
  · refine hst'.congr (fun x => ⟨fun hx => ?_, fun hx => ?_⟩) (fun _ _ _ => Iff.rfl) (fun _ => Iff.rfl)
    · rcases hx with rfl | hx
      · exact hi
      · exact ((mem_others c.n i x).1 (hsub x hx)).1
    · by_cases hxi : x = i
      · exact Or.inl hxi
      · exact Or.inr (hfull x ((mem_others c.n i x).2 ⟨hx, hxi⟩))
  · have := h.hsent; rw [hs] at this
    refine this.snoc _ (fun s hs => ?_) (fun h0 => by cases h0) (fun h1 => by cases h1) (fun _ => ⟨_, List.mem_singleton_self _⟩)
    rw [List.mem_singleton.1 hs]
    exact ⟨batch.map keyDl, fun j => ⟨hsub j, hfull j⟩, by simp [List.map_map, keyDl, Function.comp_def]⟩

theorem adv_rs (c : Cfg F G) (ephs : List (List F)) (hw : WellFormed c ephs) (i : Nat)
    (m : Member F G) (st : Bool) (sp sd : List Nat) (sr : List (Nat × Nat))
    (h : LocalPre c ephs i m st sp sd sr) (d : Gen F G) (hs : m.stage = .waitResps d)
    (batch : List (DkgResp F G)) (hb : m.rsBox = some batch) (fuel : Nat) :
    ∃ m', Member.advance c.g (fuel + 1) m = m' ∧ stageRank m'.stage = 4 ∧ LocalPre c ephs i m' st sp sd sr := by
  have hch := h.prs; rw [hs, hb] at hch
  obtain ⟨hch', hnd, hsub, hfull, hP⟩ := hch.take
  obtain ⟨hst0, hreach⟩ : StageOk c i (.waitResps d) := by
    have := h.hstage; rw [hs] at this; exact this
  obtain ⟨d', hrun, hreach', hst'⟩ := runResps_genuine c i _ batch _ _ d hst0 hreach
    (fun x hx => have ⟨j, k, rnd, _, _, _, _, he⟩ := hP x hx; ⟨j, k, rnd, he⟩) hnd (by
      intro p hp
      obtain ⟨h1, h2, h3, h4⟩ := (mem_respKeys c.n i p).1 (hsub p hp)
      exact ⟨h3, h1, h3, fun h => h.elim h2 (fun he => h4 he.symm), fun _ h => h⟩)
  obtain ⟨ks, hks⟩ := distKeyShare_full c ephs hw i _ _ _ d' hst' (fun j hj => hj) (by
    intro j k hj hk
    by_cases hki : k = i
    · exact Or.inl (Or.inl hki)
    by_cases hkj : k = j
    · exact Or.inl (Or.inr hkj)
    exact Or.inr (hfull (j, k) ((mem_respKeys c.n i (j, k)).2 ⟨hk, hki, hj, fun he => hkj he.symm⟩)))
  refine ⟨afterRs m d' ks, ?_, rfl, h.hn, h.hidx, h.hlong, h.hf, h.hephs,
    by have := h.ppk; rw [hs] at this; exact this, by have := h.pdl; rw [hs] at this; exact this, hch',
    h.hst_of (by simp [hs]) (by simp [afterRs]),
    ⟨hreach', hks⟩, ?_⟩
  · rw [Member.advance]
    simp only [hs, hb, hrun, genGroup, hks]
    rfl
  · have := h.hsent; rw [hs] at this
    exact ⟨this.genuine, fun _ => this.pk (by simp [stageRank]), fun _ => this.deals (by simp [stageRank]),
      fun _ => this.resps (by simp [stageRank])⟩

theorem stageRank_eq_zero {s : Stage F G} : stageRank s = 0 ↔ s = .idle := by cases s <;> simp [stageRank]

theorem stageRank_eq_four {s : Stage F G} (h : stageRank s = 4) : ∃ d ks, s = .done d ks := by
  cases s <;> simp [stageRank] at h ⊢

theorem LocalPre.rank_le {c : Cfg F G} {ephs : List (List F)} {i : Nat} {m : Member F G} {st : Bool} {sp sd : List Nat}
    {sr : List (Nat × Nat)} (h : LocalPre c ephs i m st sp sd sr) : stageRank m.stage ≤ 4 := by
  have h1 := h.hstage
  cases hs : m.stage <;> rw [hs] at h1
  case failed => exact h1.elim
  all_goals simp [stageRank]

/-- **`advance` runs every stage whose batch has been handed over, successfully**; with fuel for every stage
that is left, no stage is left waiting in front of its batch -/
theorem advance_local (c : Cfg F G) (ephs : List (List F)) (hw : WellFormed c ephs) (i : Nat) (hi : i < c.n)
    (st : Bool) (sp sd : List Nat) (sr : List (Nat × Nat)) :
    ∀ (fuel : Nat) (m : Member F G), LocalPre c ephs i m st sp sd sr →
      LocalPre c ephs i (Member.advance c.g fuel m) st sp sd sr ∧
      (4 ≤ stageRank m.stage + fuel → Quiescent (Member.advance c.g fuel m)) := by
  intro fuel
  induction fuel with
  | zero =>
    intro m h
    have := h.rank_le
    refine ⟨h, fun hq => ?_⟩
    show Quiescent m
    exact ⟨fun hh => by omega, fun hh => by omega, fun hh => by omega⟩
  | succ fuel ih =>
    intro m h
    -- a stage that does not run leaves the member as it is (`P` stands for the fuel condition, which differs
    -- from case to case and is not needed here)
    have stay : Member.advance c.g (fuel + 1) m = m → (stageRank m.stage = 1 → m.pkBox = none) →
        (stageRank m.stage = 2 → m.dlBox = none) → (stageRank m.stage = 3 → m.rsBox = none) → ∀ P : Prop,
        LocalPre c ephs i (Member.advance c.g (fuel + 1) m) st sp sd sr ∧
        (P → Quiescent (Member.advance c.g (fuel + 1) m)) :=
      fun he h1 h2 h3 _ => by rw [he]; exact ⟨h, fun _ => ⟨h1, h2, h3⟩⟩
    rcases hs : m.stage with _ | _ | d | d | ⟨d, ks⟩ | why
    · exact stay (by rw [Member.advance]; simp [hs]) (by simp [hs, stageRank]) (by simp [hs, stageRank]) (by simp [hs, stageRank]) _
    · rcases hb : m.pkBox with _ | batch
      · exact stay (by rw [Member.advance]; simp [hs, hb]) (fun _ => hb) (by simp [hs, stageRank]) (by simp [hs, stageRank]) _
      · obtain ⟨m', he, hr, hp⟩ := adv_pk c ephs hw i hi m st sp sd sr h hs batch hb fuel
        rw [he]
        exact ⟨(ih m' hp).1, fun hq => (ih m' hp).2 (by simp only [stageRank] at hq; omega)⟩
    · rcases hb : m.dlBox with _ | batch
      · exact stay (by rw [Member.advance]; simp [hs, hb]) (by simp [hs, stageRank]) (fun _ => hb) (by simp [hs, stageRank]) _
      · obtain ⟨m', he, hr, hp⟩ := adv_dl c ephs hw i hi m st sp sd sr h d hs batch hb fuel
        rw [he]
        exact ⟨(ih m' hp).1, fun hq => (ih m' hp).2 (by simp only [stageRank] at hq; omega)⟩
    · rcases hb : m.rsBox with _ | batch
      · exact stay (by rw [Member.advance]; simp [hs, hb]) (by simp [hs, stageRank]) (by simp [hs, stageRank]) (fun _ => hb) _
      · obtain ⟨m', he, hr, hp⟩ := adv_rs c ephs hw i m st sp sd sr h d hs batch hb fuel
        rw [he]
        exact ⟨hp, fun _ => ⟨fun hh => by omega, fun hh => by omega, fun hh => by omega⟩⟩
    · exact stay (by rw [Member.advance]; simp [hs]) (by simp [hs, stageRank]) (by simp [hs, stageRank]) (by simp [hs, stageRank]) _
    · have := h.hstage; rw [hs] at this; exact this.elim

end Dos.Dkg
