/-
C14 safety: a channel that passes W1 is never sent on or closed after it was closed, in any
reachable state, under any schedule and any cancellation instant.  Here: the tools for invariants
over `Reach` (`reach_inv`, `step_rest`, `step_moves`, `at_inv`, `labelAt_step`, `no_crash_on`) and the disciplines N
and A; B is in `PipeFanin`, C and the four together (`w1_safe`) in `PipeHandoff`.

The proofs use only the edge-local checks of `PipeWf`.
-/
import DosModel.Proofs.PipeBasic
import DosModel.Model.PipeRun

namespace Dos.Pipe
variable {p : Pipeline}

theorem reach_inv (I : State → Prop) (h0 : I (init p))
    (hs : ∀ s e s', Reach p s → I s → Step p s e (.run s') → I s') : ∀ s, Reach p s → I s := by
  intro s hr
  induction hr with
  | init => exact h0
  | step hr hst ih => exact hs _ _ _ hr ih hst

theorem init_closed (p : Pipeline) (c : Ch) : (init p).closed c = false := by
  unfold init State.closed
  simp only [List.getElem?_map]
  cases p.chans[c]? <;> rfl

theorem init_len (p : Pipeline) (c : Ch) : (init p).len c = 0 := by
  unfold init State.len
  simp only [List.getElem?_map]
  cases p.chans[c]? <;> rfl

theorem init_gs (p : Pipeline) (g : Gi) :
    (init p).gs[g]? = (p.gs[g]?).map (fun gr => if gr.static then GSt.at 0 else GSt.idle) := by
  simp [init]

theorem crashOf_send {s : State} {l : Lab} {c : Ch} (h : crashOf s l = some (.sendClosed c)) :
    l = .send c ∧ s.closed c = true := by
  cases l <;> simp [crashOf] at h
  case send c' => exact ⟨by rw [h.2], by rw [← h.2]; exact h.1⟩

theorem crashOf_close {s : State} {l : Lab} {c : Ch} (h : crashOf s l = some (.closeClosed c)) :
    l = .close c ∧ s.closed c = true := by
  cases l <;> simp [crashOf] at h
  case close c' => exact ⟨by rw [h.2], by rw [← h.2]; exact h.1⟩

theorem crashOf_wg {s : State} {l : Lab} {w : Nat} (h : crashOf s l = some (.wgNegative w)) :
    l = .wgDone w ∧ s.wg w = 0 := by
  cases l <;> simp [crashOf] at h
  case wgDone w' => exact ⟨by rw [h.2], by rw [← h.2]; exact h.1⟩

/-- a crash on `c` needs a goroutine that stands, while `c` is closed, at a node with a send edge
    (a close edge) on `c` -/
theorem no_crash_on {c : Ch}
    (hsend : ∀ s g pc nd n, Reach p s → s.closed c = true → s.gs[g]? = some (.at pc) →
      p.node g pc = some nd → (Lab.send c, n) ∈ nd.edges → False)
    (hclose : ∀ s g pc nd n, Reach p s → s.closed c = true → s.gs[g]? = some (.at pc) →
      p.node g pc = some nd → (Lab.close c, n) ∈ nd.edges → False) :
    ¬ CrashReachable p (.sendClosed c) ∧ ¬ CrashReachable p (.closeClosed c) := by
  constructor
  · rintro ⟨s, e, g, pc, hr, hst⟩
    cases hst with
    | crash g pc nd l n k hat hnd hed hk =>
      obtain ⟨rfl, hc⟩ := crashOf_send hk
      exact hsend s g pc nd n hr hc hat hnd hed
  · rintro ⟨s, e, g, pc, hr, hst⟩
    cases hst with
    | crash g pc nd l n k hat hnd hed hk =>
      obtain ⟨rfl, hc⟩ := crashOf_close hk
      exact hclose s g pc nd n hr hc hat hnd hed

theorem effect_gs_length (s : State) (l : Lab) : (effect s l).gs.length = s.gs.length := by
  rcases effect_gs_cases s l with h | ⟨_, _, _, h⟩ <;> simp [h]

theorem effect_gs_get (s : State) (l : Lab) (x : Gi) :
    (effect s l).gs[x]? = if l = .spawn x ∧ s.gs[x]? = some GSt.idle then some (GSt.at 0) else s.gs[x]? := by
  rw [effect_gs]
  cases l <;> simp
  case spawn g =>
    by_cases hg : s.gs[g]? = some GSt.idle
    · simp only [hg, if_true, List.getElem?_set]
      by_cases hx : g = x
      · subst hx
        obtain ⟨hlt, heq⟩ := List.getElem?_eq_some_iff.mp hg
        simp [hlt, heq]
      · simp [hx]
    · by_cases hx : g = x
      · subst hx; simp [hg]
      · simp [hg, hx]

/-- an effect leaves a started goroutine where it is -/
theorem effect_get_at {s : State} (l : Lab) {g : Gi} {pc : Pc} (hat : s.gs[g]? = some (.at pc)) :
    (effect s l).gs[g]? = some (.at pc) := by
  rw [effect_gs_get]
  split
  · rename_i hc; rw [hat] at hc; cases hc.2
  · exact hat

/-- positions after an `act` step of `x` -/
theorem act_get_ne (s : State) (l : Lab) {x y : Gi} (n : Pc) (h : x ≠ y) :
    ((effect s l).setG x (GSt.at n)).gs[y]? = (effect s l).gs[y]? := State.setG_get_ne h

theorem act_get_self {s : State} (l : Lab) {x : Gi} {pc : Pc} (n : Pc) (hat : s.gs[x]? = some (GSt.at pc)) :
    ((effect s l).setG x (GSt.at n)).gs[x]? = some (GSt.at n) := by
  rw [State.setG_get, if_pos rfl, effect_gs_length, if_pos (List.getElem?_eq_some_iff.mp hat).1]

/-- the label whose effect on channels, wait groups and contexts the event has: a cancellation by the
    environment acts like a `cancel`, a rendezvous and a return like an internal step -/
def Ev.lab : Ev → Lab
  | .env k => .cancel k
  | .act _ l => l
  | .sync _ _ _ | .exit _ => .tau

/-- `t` differs from `s` in control states only -/
structure SameRest (s t : State) : Prop where
  chs : t.chs = s.chs
  wgs : t.wgs = s.wgs
  ctxs : t.ctxs = s.ctxs

namespace SameRest
variable {s t : State} (h : SameRest s t)
include h
theorem closed (c : Ch) : t.closed c = s.closed c := by unfold State.closed; rw [h.chs]
theorem len (c : Ch) : t.len c = s.len c := by unfold State.len; rw [h.chs]
theorem wg (w : Nat) : t.wg w = s.wg w := by unfold State.wg; rw [h.wgs]
theorem ctxDone (k : Nat) : t.ctxDone k = s.ctxDone k := by unfold State.ctxDone; rw [h.ctxs]
end SameRest

/-- apart from the control states, a step is the effect of the label of its event -/
theorem step_rest {s s' : State} {e : Ev} (hst : Step p s e (.run s')) : SameRest (effect s e.lab) s' := by
  cases hst <;> exact ⟨rfl, rfl, rfl⟩

theorem act_guard {s s' : State} {g : Gi} {l : Lab} (hst : Step p s (.act g l) (.run s')) :
    guard p s l = true := by
  cases hst; assumption

/-- a label other than `tau` and `cancel` is the label of an `act` event only -/
theorem act_of_lab {e : Ev} {l : Lab} (h : e.lab = l) (h1 : l ≠ .tau) (h2 : ∀ k, l ≠ .cancel k) :
    ∃ g, e = .act g l := by
  cases e with
  | env k => exact absurd h.symm (h2 k)
  | act g l' => exact ⟨g, by rw [← h]; rfl⟩
  | sync g g' c => exact absurd h.symm h1
  | exit g => exact absurd h.symm h1

/-- `z` moves along an edge labelled `l` in the event: alone, the guard of `l` holding, or as the sender
    or the receiver of a rendezvous on the open channel `c` (a `sync` step has no guard hypothesis for
    the two labels) -/
inductive Takes (p : Pipeline) (s : State) (z : Gi) : Lab → Ev → Prop
  | act {l : Lab} : guard p s l = true → Takes p s z l (.act z l)
  | send {g' : Gi} {c : Ch} : z ≠ g' → s.closed c = false → Takes p s z (.send c) (.sync z g' c)
  | recv {g : Gi} {c : Ch} : g ≠ z → s.closed c = false → Takes p s z (.recvOk c) (.sync g z c)

/-- what a step does to the goroutine `z` -/
inductive Moves (p : Pipeline) (s : State) (e : Ev) (s' : State) (z : Gi) : Prop
  | stays : e.moves z = false → s'.gs[z]? = s.gs[z]? → Moves p s e s' z
  | spawned : e.moves z = false → s.gs[z]? = some .idle → s'.gs[z]? = some (.at 0) → Moves p s e s' z
  | edge (pc : Pc) (nd : Node) (l : Lab) (n : Pc) : s.gs[z]? = some (.at pc) → p.node z pc = some nd →
      (l, n) ∈ nd.edges → s'.gs[z]? = some (.at n) → Takes p s z l e → Moves p s e s' z
  | exits (pc : Pc) : e = .exit z → s.gs[z]? = some (.at pc) → p.node z pc = some .exit →
      s'.gs[z]? = some .done → Moves p s e s' z

theorem step_moves {s s' : State} {e : Ev} (hst : Step p s e (.run s')) (z : Gi) : Moves p s e s' z := by
  cases hst with
  | env k hk hd => exact .stays rfl rfl
  | act g pc nd l n hat hnd hed hgd hdf =>
    by_cases hgz : g = z
    · subst hgz
      exact .edge pc nd l n hat hnd hed (act_get_self l n hat) (.act hgd)
    · have hm : (Ev.act g l).moves z = false := by simp [Ev.moves, hgz]
      have hz := (act_get_ne s l n hgz).trans (effect_gs_get s l z)
      split at hz
      · rename_i hc; exact .spawned hm hc.2 hz
      · exact .stays hm hz
  | sync g pc nd n g' pc' nd' n' c hne hat hnd hed hat' hnd' hed' hcap hcl =>
    by_cases h2 : g' = z
    · subst h2
      refine .edge pc' nd' _ n' hat' hnd' hed' ?_ (.recv hne hcl)
      exact State.setG_get_self ((State.setG_get_ne hne).trans hat')
    · by_cases h1 : g = z
      · subst h1
        exact .edge pc nd _ n hat hnd hed ((State.setG_get_ne h2).trans (State.setG_get_self hat)) (.send hne hcl)
      · exact .stays (by simp [Ev.moves, h1, h2]) ((State.setG_get_ne h2).trans (State.setG_get_ne h1))
  | exit g pc hat hnd =>
    by_cases hgz : g = z
    · subst hgz
      exact .exits pc rfl hat hnd (State.setG_get_self hat)
    · exact .stays (by simp [Ev.moves, hgz]) (State.setG_get_ne hgz)

/-- the label of the position of a goroutine, for a labeling of its nodes; an idle goroutine
    counts as standing at its entry, an exited one carries no label -/
def labelAt (m : List Bool) : Option GSt → Bool
  | some (.at pc) => mark m pc
  | some .idle => mark m 0
  | _ => false

theorem node_of_gs {h : Gi} {gr : Goroutine} {pc : Pc} {nd : Node}
    (hg : p.gs[h]? = some gr) (hn : p.node h pc = some nd) : gr.nodes[pc]? = some nd := by
  obtain ⟨gr', h1, h2⟩ := node_some hn
  rw [hg] at h1; cases h1; exact h2

theorem node_of {g : Gi} {gr : Goroutine} {pc : Pc} {nd : Node}
    (hg : p.gs[g]? = some gr) (hn : gr.nodes[pc]? = some nd) : p.node g pc = some nd := by
  unfold Pipeline.node; rw [hg]; exact hn

/-- An invariant `J pc s` of the node at which goroutine `h` stands and of the state: it holds at the
    entry in every state, is kept by a step that leaves `h` where it is, and is carried along the edge
    `h` takes.  `D` is what holds once `h` has returned. -/
theorem at_inv {h : Gi} {gr : Goroutine} (hg : p.gs[h]? = some gr)
    {J : Pc → State → Prop} {D : State → Prop} (hentry : ∀ s, J 0 s)
    (hkeep : ∀ pc s e s', Step p s e (.run s') → J pc s → J pc s')
    (hedge : ∀ s e s' pc nd l n, Reach p s → Step p s e (.run s') → s.gs[h]? = some (.at pc) →
      gr.nodes[pc]? = some nd → (l, n) ∈ nd.edges → s'.gs[h]? = some (.at n) →
      Takes p s h l e → J pc s → J n s')
    (hexit : ∀ s e s' pc, Step p s e (.run s') → gr.nodes[pc]? = some .exit → J pc s → D s')
    (hkeepD : ∀ s e s', Step p s e (.run s') → D s → D s') :
    ∀ s, Reach p s → (∀ pc, s.gs[h]? = some (.at pc) → J pc s) ∧ (s.gs[h]? = some .done → D s) := by
  intro s hr
  induction hr with
  | init =>
    rw [init_gs, hg]
    constructor
    · intro pc hat
      simp only [Option.map_some] at hat
      split at hat <;> cases hat
      exact hentry _
    · intro hd
      simp only [Option.map_some] at hd
      split at hd <;> cases hd
  | step hr hst ih =>
    rename_i s e s'
    cases step_moves hst h with
    | stays _ hsame =>
      rw [hsame]
      exact ⟨fun pc hat => hkeep pc s e s' hst (ih.1 pc hat), fun hd => hkeepD s e s' hst (ih.2 hd)⟩
    | edge pc nd l n hat hnd hed hat2 ht =>
      rw [hat2]
      refine ⟨fun pc' hat' => ?_, fun hd => by cases hd⟩
      cases hat'
      exact hedge s e s' pc nd l n hr hst hat (node_of_gs hg hnd) hed hat2 ht (ih.1 pc hat)
    | spawned _ _ hat2 =>
      rw [hat2]
      exact ⟨fun pc' hat' => by cases hat'; exact hentry _, fun hd => by cases hd⟩
    | exits pc _ hat hnd hat2 =>
      rw [hat2]
      exact ⟨fun pc' hat' => (by cases hat'), fun _ => hexit s e s' pc hst (node_of_gs hg hnd) (ih.1 pc hat)⟩

/-- A labeling that is closed backwards along the edges never appears out of nothing:
    if goroutine `h` carries the label after a step, it carried it before. -/
theorem labelAt_step {h : Gi} {gr : Goroutine} {seed : Node → Bool} {m : List Bool}
    (hg : p.gs[h]? = some gr) (hm : backClosedOk gr.nodes seed m = true)
    {s s' : State} {e : Ev} (hst : Step p s e (.run s')) (hl : labelAt m (s'.gs[h]?) = true) :
    labelAt m (s.gs[h]?) = true := by
  cases step_moves hst h with
  | stays _ hsame => rw [← hsame]; exact hl
  | edge pc nd l n hat hnd hed hat2 =>
    rw [hat2] at hl
    rw [hat]
    exact backClosed_edge hm (node_of_gs hg hnd) hed hl
  | spawned _ hi hat2 =>
    rw [hat2] at hl
    rw [hi]; exact hl
  | exits _ _ _ _ hat2 => rw [hat2] at hl; cases hl

/-- a step closes `c` only through a `close c` node of some goroutine -/
theorem closed_step {c : Ch} {s s' : State} {e : Ev} (hst : Step p s e (.run s'))
    (h0 : s.closed c = false) (h1 : s'.closed c = true) :
    ∃ (g : Gi) (gr : Goroutine) (pc n : Pc), p.gs[g]? = some gr ∧ gr.hasClose c = true ∧ gr.nodes[pc]? = some (.close c n) ∧
      s.gs[g]? = some (.at pc) ∧ s'.gs[g]? = some (.at n) := by
  rw [(step_rest hst).closed] at h1
  obtain ⟨g, rfl⟩ := act_of_lab (effect_closes h0 h1) (by simp) (by simp)
  cases step_moves hst g with
  | edge pc nd l n hat hnd hed hat2 ht =>
    cases ht
    obtain rfl := close_node_of_edge hed
    obtain ⟨gr, hg, hn⟩ := node_some hnd
    exact ⟨g, gr, pc, n, hg, hasClose_of_node hn (by simp [Node.closes]), hn, hat, hat2⟩
  | stays hm | spawned hm => simp [Ev.moves] at hm
  | exits pc he => cases he

theorem closed_mono {c : Ch} {s s' : State} {e : Ev} (hst : Step p s e (.run s'))
    (h : s.closed c = true) : s'.closed c = true := by
  rw [(step_rest hst).closed, effect_closed, h]; rfl

theorem never_closed {c : Ch} (h : discN p c = true) : ∀ s, Reach p s → s.closed c = false := by
  apply reach_inv
  · exact init_closed p c
  · intro s e s' _ ih hst
    cases hcl : s'.closed c with
    | false => rfl
    | true =>
      obtain ⟨g, gr, pc, n, hg, this, _⟩ := closed_step hst ih hcl
      unfold discN at h
      rw [List.all_eq_true] at h
      have := h gr (List.mem_of_getElem? hg)
      simp_all

theorem safe_N {c : Ch} (h : discN p c = true) :
    ¬ CrashReachable p (.sendClosed c) ∧ ¬ CrashReachable p (.closeClosed c) :=
  no_crash_on (fun s _ _ _ _ hr hc _ _ _ => by rw [never_closed h s hr] at hc; cases hc)
    (fun s _ _ _ _ hr hc _ _ _ => by rw [never_closed h s hr] at hc; cases hc)

theorem closeOnce_parts {gr : Goroutine} {c : Ch} (h : closeOnceOk gr c = true) :
    backClosedOk gr.nodes (Node.opsOn c) (mayOp gr c) = true ∧
    ∀ (pc n : Pc), gr.nodes[pc]? = some (Node.close c n) → mark (mayOp gr c) n = false := by
  unfold closeOnceOk at h
  simp only [Bool.and_eq_true] at h
  refine ⟨h.1, ?_⟩
  intro pc n hn
  have := all_nodes h.2 hn
  simpa using this

/-- the invariant of disciplines A and B for the closer `h`: once `c` is closed, `h` is past
    every operation on `c` -/
theorem closer_past_ops {c : Ch} {h : Gi} {gr : Goroutine}
    (hg : p.gs[h]? = some gr) (hok : closeOnceOk gr c = true)
    (honly : ∀ g gr', p.gs[g]? = some gr' → gr'.hasClose c = true → g = h) :
    ∀ s, Reach p s → s.closed c = true → labelAt (mayOp gr c) (s.gs[h]?) = false := by
  obtain ⟨hback, hclose⟩ := closeOnce_parts hok
  apply reach_inv
  · intro hc; rw [init_closed] at hc; cases hc
  · intro s e s' _ ih hst hc'
    cases hc : s.closed c with
    | false =>
      obtain ⟨g, gr', pc, n, hg', hcl', hn, _, hat'⟩ := closed_step hst hc hc'
      obtain rfl := honly g gr' hg' hcl'
      rw [hg] at hg'; cases hg'
      rw [hat']
      exact hclose pc n hn
    | true =>
      cases hl : labelAt (mayOp gr c) (s'.gs[h]?) with
      | false => rfl
      | true =>
        have := labelAt_step hg hback hst hl
        rw [ih hc] at this; cases this

theorem safe_A {c : Ch} (h : discA p c = true) :
    ¬ CrashReachable p (.sendClosed c) ∧ ¬ CrashReachable p (.closeClosed c) := by
  unfold discA at h
  split at h
  · -- nobody operates on `c`
    rename_i hnil
    apply safe_N
    unfold discN
    rw [List.all_eq_true]
    intro gr hm
    obtain ⟨g, hg⟩ := List.getElem?_of_mem hm
    have := gsWhere_nil hnil hg
    simp only [Goroutine.hasOps, List.any_eq_false] at this
    simp only [Goroutine.hasClose, Bool.not_eq_true', List.any_eq_false]
    intro nd hnd
    have := this nd hnd
    simp only [Node.opsOn, Bool.or_eq_true, not_or] at this
    simpa using this.1
  · rename_i h0 hsing
    split at h
    · rename_i gr hg
      have honlyOps : ∀ g gr', p.gs[g]? = some gr' → gr'.hasOps c = true → g = h0 :=
        fun g gr' hg' hf => gsWhere_singleton hsing hg' hf
      have honly : ∀ g gr', p.gs[g]? = some gr' → gr'.hasClose c = true → g = h0 := by
        intro g gr' hg' hf
        apply honlyOps g gr' hg'
        simp only [Goroutine.hasClose, List.any_eq_true] at hf
        obtain ⟨nd, hm, hcl⟩ := hf
        simp only [Goroutine.hasOps, List.any_eq_true]
        exact ⟨nd, hm, by simp [Node.opsOn, hcl]⟩
      have hinv := closer_past_ops hg h honly
      obtain ⟨hback, _⟩ := closeOnce_parts h
      -- a crash on `c` needs a goroutine at a node that operates on `c`: that is `h0`, marked
      have key : ∀ s g pc nd, Reach p s → s.closed c = true → s.gs[g]? = some (.at pc) →
          p.node g pc = some nd → nd.opsOn c = true → False := by
        intro s g pc nd hr hc hat hnd hop
        obtain ⟨gr', hg', hn⟩ := node_some hnd
        have hgh := honlyOps g gr' hg' (hasOps_of_node hn hop)
        subst hgh
        rw [hg] at hg'; cases hg'
        have h1 := backClosed_seed hback hn hop
        have h2 := hinv s hr hc
        rw [hat] at h2
        simp only [labelAt] at h2
        rw [h1] at h2; cases h2
      exact no_crash_on
        (fun s g pc nd n hr hc hat hnd hed => key s g pc nd hr hc hat hnd (opsOn_of_send_edge hed))
        (fun s g pc nd n hr hc hat hnd hed => key s g pc nd hr hc hat hnd (opsOn_of_close_edge hed))
    · cases h
  · cases h

end Dos.Pipe
