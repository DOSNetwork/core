/-
C20 — the results of the five generated functions have the shape `Digits11`, `HiZero` (defined in
Proofs/Ed25519Pack.lean): the last carry pass leaves 21-bit digits and the high limbs are zero (both from the shared
blocks, for any state they start from), the generated `_store` is the packing `packLo ++ packHi`.
-/
import DosModel.Proofs.Ed25519Load

set_option exponentiation.threshold 600

namespace Dos.Ed25519
open Dos Dos.Gen.Ed25519Sc

theorem runBlocks_append (shr : Shr) (as bs : List (Shr → L24 → L24)) (s : L24) :
    runBlocks shr (as ++ bs) s = runBlocks shr bs (runBlocks shr as s) :=
  List.foldl_append

/-- the last carry pass (the last block, applied with the real shift) leaves 21-bit digits in limbs 0…10,
whatever state it starts from -/
theorem scReduce_blocks_digits (t : L24) : Digits11 (runBlocks shrI scReduce_blocks t) := by
  rw [runBlocks_last _ _ (by unfold_gen; simp)]
  generalize runBlocks _ _ _ = t
  unfold_gen
  simp only [List.getLast_cons_cons, List.getLast_singleton]
  simp only [Digits11, shrI, shl, Int.shiftRight_eq_div_pow]
  omega

theorem scMulAdd_blocks_digits (t : L24) : Digits11 (runBlocks shrI scMulAdd_blocks t) := by
  have h := scReduce_blocks_digits (runBlocks shrI (scMulAdd_blocks.take 2) t)
  rwa [scReduce_blocks_eq, ← runBlocks_append, List.take_append_drop] at h

/-- the fold blocks assign 0 to limbs 23 … 12 and nothing after them writes these limbs, whatever `>>` computes and
whatever the state before -/
theorem scReduce_blocks_hiZero (shr : Shr) (t : L24) : HiZero (runBlocks shr scReduce_blocks t) :=
  ⟨rfl, rfl, rfl, rfl, rfl, rfl, rfl, rfl, rfl, rfl, rfl, rfl⟩

theorem scMulAdd_blocks_hiZero (shr : Shr) (t : L24) : HiZero (runBlocks shr scMulAdd_blocks t) := by
  have h := scReduce_blocks_hiZero shr (runBlocks shr (scMulAdd_blocks.take 2) t)
  rwa [scReduce_blocks_eq, ← runBlocks_append, List.take_append_drop] at h

theorem scMulAdd_final (a0 a1 a2 a3 a4 a5 a6 a7 a8 a9 a10 a11 b0 b1 b2 b3 b4 b5 b6 b7 b8 b9 b10 b11 c0 c1 c2 c3 c4 c5 c6 c7 c8 c9 c10 c11 : Int) :
    Digits11 (scMulAdd_limbs shrI a0 a1 a2 a3 a4 a5 a6 a7 a8 a9 a10 a11 b0 b1 b2 b3 b4 b5 b6 b7 b8 b9 b10 b11 c0 c1 c2 c3 c4 c5 c6 c7 c8 c9 c10 c11) :=
  scMulAdd_blocks_digits _

theorem scMulAdd_hiZero (shr : Shr) (a0 a1 a2 a3 a4 a5 a6 a7 a8 a9 a10 a11 b0 b1 b2 b3 b4 b5 b6 b7 b8 b9 b10 b11 c0 c1 c2 c3 c4 c5 c6 c7 c8 c9 c10 c11 : Int) :
    HiZero (scMulAdd_limbs shr a0 a1 a2 a3 a4 a5 a6 a7 a8 a9 a10 a11 b0 b1 b2 b3 b4 b5 b6 b7 b8 b9 b10 b11 c0 c1 c2 c3 c4 c5 c6 c7 c8 c9 c10 c11) :=
  scMulAdd_blocks_hiZero shr _

theorem scMulAdd_store_eq (shr : Shr) (st : L24) :
    scMulAdd_store shr st = packLo shr st.s0 st.s1 st.s2 st.s3 st.s4 st.s5 st.s6 st.s7 ++ packHi shr st.s8 st.s9 st.s10 st.s11 := by
  unfold_gen; rfl

theorem scMul_final (a0 a1 a2 a3 a4 a5 a6 a7 a8 a9 a10 a11 b0 b1 b2 b3 b4 b5 b6 b7 b8 b9 b10 b11 : Int) :
    Digits11 (scMul_limbs shrI a0 a1 a2 a3 a4 a5 a6 a7 a8 a9 a10 a11 b0 b1 b2 b3 b4 b5 b6 b7 b8 b9 b10 b11) := by
  rw [scMul_limbs, scMul_blocks_eq]; exact scMulAdd_blocks_digits _

theorem scMul_hiZero (shr : Shr) (a0 a1 a2 a3 a4 a5 a6 a7 a8 a9 a10 a11 b0 b1 b2 b3 b4 b5 b6 b7 b8 b9 b10 b11 : Int) :
    HiZero (scMul_limbs shr a0 a1 a2 a3 a4 a5 a6 a7 a8 a9 a10 a11 b0 b1 b2 b3 b4 b5 b6 b7 b8 b9 b10 b11) := by
  rw [scMul_limbs, scMul_blocks_eq]; exact scMulAdd_blocks_hiZero shr _

theorem scMul_store_eq (shr : Shr) (st : L24) :
    scMul_store shr st = packLo shr st.s0 st.s1 st.s2 st.s3 st.s4 st.s5 st.s6 st.s7 ++ packHi shr st.s8 st.s9 st.s10 st.s11 := by
  unfold_gen; rfl

theorem scAdd_final (a0 a1 a2 a3 a4 a5 a6 a7 a8 a9 a10 a11 c0 c1 c2 c3 c4 c5 c6 c7 c8 c9 c10 c11 : Int) :
    Digits11 (scAdd_limbs shrI a0 a1 a2 a3 a4 a5 a6 a7 a8 a9 a10 a11 c0 c1 c2 c3 c4 c5 c6 c7 c8 c9 c10 c11) := by
  rw [scAdd_limbs, scAdd_blocks_eq]; exact scMulAdd_blocks_digits _

theorem scAdd_hiZero (shr : Shr) (a0 a1 a2 a3 a4 a5 a6 a7 a8 a9 a10 a11 c0 c1 c2 c3 c4 c5 c6 c7 c8 c9 c10 c11 : Int) :
    HiZero (scAdd_limbs shr a0 a1 a2 a3 a4 a5 a6 a7 a8 a9 a10 a11 c0 c1 c2 c3 c4 c5 c6 c7 c8 c9 c10 c11) := by
  rw [scAdd_limbs, scAdd_blocks_eq]; exact scMulAdd_blocks_hiZero shr _

theorem scAdd_store_eq (shr : Shr) (st : L24) :
    scAdd_store shr st = packLo shr st.s0 st.s1 st.s2 st.s3 st.s4 st.s5 st.s6 st.s7 ++ packHi shr st.s8 st.s9 st.s10 st.s11 := by
  unfold_gen; rfl

theorem scSub_final (a0 a1 a2 a3 a4 a5 a6 a7 a8 a9 a10 a11 c0 c1 c2 c3 c4 c5 c6 c7 c8 c9 c10 c11 : Int) :
    Digits11 (scSub_limbs shrI a0 a1 a2 a3 a4 a5 a6 a7 a8 a9 a10 a11 c0 c1 c2 c3 c4 c5 c6 c7 c8 c9 c10 c11) := by
  rw [scSub_limbs, scSub_blocks_eq]; exact scMulAdd_blocks_digits _

theorem scSub_hiZero (shr : Shr) (a0 a1 a2 a3 a4 a5 a6 a7 a8 a9 a10 a11 c0 c1 c2 c3 c4 c5 c6 c7 c8 c9 c10 c11 : Int) :
    HiZero (scSub_limbs shr a0 a1 a2 a3 a4 a5 a6 a7 a8 a9 a10 a11 c0 c1 c2 c3 c4 c5 c6 c7 c8 c9 c10 c11) := by
  rw [scSub_limbs, scSub_blocks_eq]; exact scMulAdd_blocks_hiZero shr _

theorem scSub_store_eq (shr : Shr) (st : L24) :
    scSub_store shr st = packLo shr st.s0 st.s1 st.s2 st.s3 st.s4 st.s5 st.s6 st.s7 ++ packHi shr st.s8 st.s9 st.s10 st.s11 := by
  unfold_gen; rfl

theorem scReduce_final (s0 s1 s2 s3 s4 s5 s6 s7 s8 s9 s10 s11 s12 s13 s14 s15 s16 s17 s18 s19 s20 s21 s22 s23 : Int) :
    Digits11 (scReduce_limbs shrI s0 s1 s2 s3 s4 s5 s6 s7 s8 s9 s10 s11 s12 s13 s14 s15 s16 s17 s18 s19 s20 s21 s22 s23) :=
  scReduce_blocks_digits _

theorem scReduce_hiZero (shr : Shr) (s0 s1 s2 s3 s4 s5 s6 s7 s8 s9 s10 s11 s12 s13 s14 s15 s16 s17 s18 s19 s20 s21 s22 s23 : Int) :
    HiZero (scReduce_limbs shr s0 s1 s2 s3 s4 s5 s6 s7 s8 s9 s10 s11 s12 s13 s14 s15 s16 s17 s18 s19 s20 s21 s22 s23) :=
  scReduce_blocks_hiZero shr _

theorem scReduce_store_eq (shr : Shr) (st : L24) :
    scReduce_store shr st = packLo shr st.s0 st.s1 st.s2 st.s3 st.s4 st.s5 st.s6 st.s7 ++ packHi shr st.s8 st.s9 st.s10 st.s11 := by
  unfold_gen; rfl

/-- from digits, zero high limbs and a top limb below 2^25: the packed bytes spell the value of the limbs -/
theorem packed_value (r : L24) (hd : Digits11 r) (hz : HiZero r) (h11 : 0 ≤ r.s11 ∧ r.s11 < 33554432) :
    (leNat (packLo shrI r.s0 r.s1 r.s2 r.s3 r.s4 r.s5 r.s6 r.s7 ++ packHi shrI r.s8 r.s9 r.s10 r.s11) : Int) = value r := by
  rw [pack_value r hd h11, value_of_hiZero r hz]

/-- what is known of the output bytes `out` of a routine once they are the packing of a limb vector `r` with digits in
limbs 0…10, zero limbs 12…23 and value ≡ `x` (mod ℓ): if moreover the top limb is below 2^25, they spell `value r`.
The hypotheses are returned with the conclusion: the conjunction is the body of the `∃ r` of
`Props/C20Scalar.scMulAdd_bytes` … `scSub_bytes`. -/
theorem packed_spec {out : Bytes} {r : L24} {x : Int}
    (ho : out = packLo shrI r.s0 r.s1 r.s2 r.s3 r.s4 r.s5 r.s6 r.s7 ++ packHi shrI r.s8 r.s9 r.s10 r.s11)
    (hd : Digits11 r) (hz : HiZero r) (hx : value r % (ell : Int) = x % (ell : Int)) :
    out = packLo shrI r.s0 r.s1 r.s2 r.s3 r.s4 r.s5 r.s6 r.s7 ++ packHi shrI r.s8 r.s9 r.s10 r.s11
      ∧ Digits11 r ∧ HiZero r ∧ value r % (ell : Int) = x % (ell : Int)
      ∧ (0 ≤ r.s11 ∧ r.s11 < 33554432 →
          (leNat out : Int) = value r ∧ (leNat out : Int) % (ell : Int) = x % (ell : Int)) :=
  ⟨ho, hd, hz, hx, fun h11 => by rw [ho, packed_value r hd hz h11]; exact ⟨rfl, hx⟩⟩

end Dos.Ed25519
