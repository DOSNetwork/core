/-
Decidable comparisons between the regenerated ABI facts (Gen/AbiFacts.lean, Gen/EventTable.lean: the abigen
bindings, the adaptor's call sites, the subscription table) and what the models assume
(Model/CallData.lean, Model/EventAbi.lean).  Definitions only; the theorems are in Props/C19Abi.lean and
Props/C18Abi.lean.
-/
import DosModel.Model.CallData
import DosModel.Model.EventAbi
import DosModel.Model.KeccakNat
import DosModel.Gen.AbiFacts
import DosModel.Gen.EventTable
import DosModel.Gen.ReqLoopFacts

namespace Dos.AbiCheck
open Dos Dos.Abi Dos.CallData Dos.EventAbi Dos.Gen.AbiFacts

/-- Go package of a contract's binding -/
def pkgOf : Contract → String
  | .proxy => "dosproxy"
  | .commitReveal => "commitreveal"

/-- receiver variable of the binding's methods -/
def recvOf : Contract → String
  | .proxy => "Dosproxy"
  | .commitReveal => "Commitreveal"

/-- slice the adaptor indexes for a contract's rpc sessions -/
def collOf : Contract → String
  | .proxy => "proxies"
  | .commitReveal => "crs"

/-- the Go type abigen gives a parameter / event field of an ABI type -/
def goElem : Elem → String
  | .uint 8 => "uint8"
  | .uint 16 => "uint16"
  | .uint 32 => "uint32"
  | .uint 64 => "uint64"
  | .uint _ => "*big.Int"
  | .address => "common.Address"
  | .bool => "bool"
  | .fixedBytes n => "[" ++ toString n ++ "]byte"

def goType : AbiType → String
  | .elem e => goElem e
  | .sarray e n => "[" ++ toString n ++ "]" ++ goElem e
  | .darray e => "[]" ++ goElem e
  | .bytes => "[]byte"
  | .string => "string"

/-- `s` with its first character in upper case -/
def capitalize (s : String) : String :=
  match s.toList with
  | [] => ""
  | c :: cs => String.ofList (c.toUpper :: cs)

/-- the `_`-separated parts of a name, as character lists (structural recursion: the kernel evaluates it) -/
def splitUnderscore : List Char → List Char → List (List Char)
  | [], cur => [cur.reverse]
  | c :: cs, cur => if c == '_' then cur.reverse :: splitUnderscore cs [] else splitUnderscore cs (c :: cur)

def capChars : List Char → List Char
  | [] => []
  | c :: cs => c.toUpper :: cs

/-- `abi.ToCamelCase`: upper-case the first letter of every `_`-separated part, drop the underscores -/
def toCamelCase (s : String) : String :=
  String.ofList ((splitUnderscore s.toList []).map capChars).flatten

/-! ### methods (C19) -/

def abiMethod (m : Method) : Option AMethod :=
  methods.find? (fun a => a.contract == pkgOf m.contract && a.name == m.name)

/-- the embedded ABI declares the method with exactly the model's inputs (names, types, order), nothing indexed,
not payable -/
def methodMatches (m : Method) : Bool :=
  match abiMethod m with
  | some a =>
    a.inputs.map (fun i => (i.name, i.ty, i.indexed)) == m.inputs.map (fun p => (p.1, p.2.name, false))
      && a.mutability == "nonpayable"
      && (methods.filter (fun a => a.contract == pkgOf m.contract && a.name == m.name)).length == 1
  | none => false

def transactorOf (m : Method) : Option BMethod :=
  transactors.find? (fun b => b.contract == pkgOf m.contract && b.goName == m.binding)
def sessionOf (m : Method) : Option BMethod :=
  sessions.find? (fun b => b.contract == pkgOf m.contract && b.goName == m.binding)

/-- the Transactor method packs ABI method `m.name` with its own parameters, in order, each of the Go type of the
ABI input in that position; the Session method hands its parameters on in order with the session's TransactOpts -/
def bindingForwards (m : Method) : Bool :=
  match transactorOf m, sessionOf m with
  | some t, some s =>
    t.target == m.name && t.first == "opts"
      && t.params == ("opts", "*bind.TransactOpts") :: m.inputs.map (fun p => (p.1, goType p.2))
      && t.passed == m.inputs.map (·.1)
      && s.params == m.inputs.map (fun p => (p.1, goType p.2))
      && s.passed == m.inputs.map (·.1)
      && s.first == "&_" ++ recvOf m.contract ++ ".TransactOpts"
      && s.target == "_" ++ recvOf m.contract ++ ".Contract." ++ m.binding
  | _, _ => false

/-- the Go expression the adaptor puts into each ABI slot of a queue method: (ABI input name, expression) -/
def slotSources (m : Method) : List (String × String) :=
  match callSites.find? (fun c => c.adaptorMethod == m.goName) with
  | some c => (m.inputs.map (·.1)).zip c.args
  | none => []

/-- what the model (`Call.args`) assumes feeds each slot -/
def modelSlotSources : List (String × List (String × String)) := [
  ("SetGroupSize", [("newSize", "groupSize")]),
  ("UpdateRandomness", [("sig", "sig")]),
  ("DataReturn", [("requestId", "requestId"), ("trafficType", "trafficType"), ("result", "result"), ("sig", "sig")]),
  ("RegisterGroupPubKey", [("groupId", "groupId"), ("suggestedPubKey", "pubKey")]),
  ("RegisterNewNode", []),
  ("UnRegisterNode", []),
  ("SignalUnregister", [("member", "addr")]),
  ("StartCommitReveal", [("_startBlock", "big.NewInt(startBlock)"), ("_commitDuration", "big.NewInt(commitDuration)"),
    ("_revealDuration", "big.NewInt(revealDuration)"), ("_revealThreshold", "big.NewInt(revealThreshold)")]),
  ("Commit", [("_cid", "cid"), ("_secretHash", "commitment")]),
  ("Reveal", [("_cid", "cid"), ("_secret", "secret")])]

/-- one call site per queue method, on the rpc session slice of the right contract at the request's endpoint index,
calling the binding method the model names, with as many arguments as ABI inputs, each the expression the model assumes -/
def callSiteMatches (m : Method) : Bool :=
  match callSites.filter (fun c => c.adaptorMethod == m.goName) with
  | [c] =>
    c.coll == collOf m.contract && c.index == "idx" && c.goMethod == m.binding
      && c.args.length == m.inputs.length
      && some (slotSources m) == (modelSlotSources.find? (fun p => p.1 == m.goName)).map (·.2)
  | _ => false

/-- how the local variables of the call sites are computed (`prep` statements of the closures, Gen/ReqLoopFacts) -/
def prepOf (goName : String) : List String :=
  match Dos.Gen.ReqLoopFacts.closures.find? (fun c => c.method == goName) with
  | some c => c.prep
  | none => []

def selectorHex (m : Method) : String := toHex (selector KeccakNat.keccak256 m.name m.types)

/-- the id abigen quoted in the doc comment of the Transactor method -/
def docSelector (m : Method) : String := ((transactorOf m).map (·.docId)).getD "?"

/-! ### events (C18) -/

def abiEvent (e : Ev) : Option AEvent :=
  events.find? (fun a => a.contract == (if e.cr then "commitreveal" else "dosproxy") && a.name == e.spec.name)

/-- the embedded ABI declares the event with exactly the model's inputs (names, types, indexed flags, order) -/
def eventMatches (e : Ev) : Bool :=
  match abiEvent e with
  | some a =>
    a.inputs.map (fun i => (i.name, i.ty, i.indexed)) == e.spec.inputs.map (fun i => (i.name, i.ty.name, i.indexed))
      && !a.anonymous
  | none => false

def bindingStructName (e : Ev) : String :=
  if e.cr then "commitreveal.Commitreveal" ++ e.spec.name else "dosproxy.Dosproxy" ++ e.spec.name

/-- the abigen event struct: one field per ABI input, in order, named `ToCamelCase(input)`, of the Go type of the
input's ABI type; then `Raw types.Log` -/
def bindingStructMatches (e : Ev) : Bool :=
  match Dos.Gen.EventTable.bindingStructs.find? (fun s => s.name == bindingStructName e) with
  | some s => s.fields == e.spec.inputs.map (fun i => (toCamelCase i.name, goType i.ty)) ++ [("Raw", "types.Log")]
  | none => false

/-- position of the ABI input whose binding field is `f` -/
def inputIndexOfField (e : Ev) (f : String) : Option Nat :=
  let names := e.spec.inputs.map (fun i => toCamelCase i.name)
  let k := names.findIdx (· == f)
  if k < names.length then some k else none

/-- for the table entry of event `e`: node-struct field ↦ position of the ABI input it is filled from -/
def nodeFieldSources (e : Ev) : List (String × Option Nat) :=
  match Dos.Gen.EventTable.entries.find? (fun en => en.index == e.index) with
  | some en => en.assigns.map (fun a =>
      (a.1, match a.2 with
        | .field f => inputIndexOfField e f
        | .mapAddrBytes f => inputIndexOfField e f
        | .other _ => none))
  | none => []

/-- what the property demands for the seven subscribed events: node field ↦ ABI input position -/
def modelFieldSources : List (Nat × List (String × Option Nat)) := [
  (0, [("LastRandomness", some 0), ("DispatchedGroupId", some 1)]),
  (1, [("RequestId", some 0), ("LastSystemRandomness", some 1), ("UserSeed", some 2), ("DispatchedGroupId", some 3)]),
  (2, [("QueryId", some 0), ("Timeout", some 1), ("DataSource", some 2), ("Selector", some 3), ("Randomness", some 4),
       ("DispatchedGroupId", some 5)]),
  (4, [("GroupId", some 0), ("NodeId", some 1)]),
  (5, [("GroupId", some 0), ("WorkingGroupSize", some 2)]),
  (7, [("GroupId", some 0)]),
  (13, [("Cid", some 0), ("StartBlock", some 1), ("CommitDuration", some 2), ("RevealDuration", some 3),
        ("RevealThreshold", some 4)])]

/-- the value the table entry of `e` puts into node-struct field `f`, given what the binding struct holds
(`vals[k]` = the field of ABI input `k`; `none` inside = Go zero value) -/
def deliveredField (e : Ev) (vals : List (Option AbiVal)) (f : String) : Option (Option AbiVal) :=
  match (nodeFieldSources e).find? (fun p => p.1 == f) with
  | some (_, some k) => vals[k]?
  | _ => none

def topic0Hex (e : Ev) : String := toHex (topic0 KeccakNat.keccak256 e.spec)

def docTopic0 (e : Ev) : String :=
  ((eventDocIds.find? (fun d => d.1 == (if e.cr then "commitreveal" else "dosproxy") && d.2.1 == e.spec.name)).map (·.2.2)).getD "?"

end Dos.AbiCheck
