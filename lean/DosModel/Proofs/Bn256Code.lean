/-
C10 / E7 — helper lemmas for Props/C10Code.lean (generated code = hand model).
Core Lean only. Nothing here mentions a particular generated definition except the
zero / one tests of gfP2 (whose Go code compares the two limbs groups separately, while the
hand model compares the structure).
-/
import Lean.Meta.Tactic.Simp.RegisterCommand
import DosModel.Gen.Bn256Code

/-- the ties `generated function = model function` of Props/C10Code.lean, as a rewrite set: the tie of a
function is proved by rewriting its body with the ties of its callees (the attribute is on the ties that the
proof of a later tie rewrites with) -/
register_simp_attr code_tie

namespace Dos.Bn256.CodeTie
open Dos.Bn256 Dos.Gen

/-- a fold whose state has an extra component that the first component's step does not need -/
theorem foldl_fst {σ τ ι : Type} (f : σ × τ → ι → σ × τ) (g : σ → ι → σ)
    (h : ∀ s i, (f s i).1 = g s.1 i) (l : List ι) (init : σ × τ) :
    (l.foldl f init).1 = l.foldl g init.1 := by
  induction l generalizing init with
  | nil => rfl
  | cons x xs ih => simp only [List.foldl_cons]; rw [ih, h]

theorem ite_pair {σ τ : Type} (c : Prop) [Decidable c] (x y : σ) (t : τ) :
    (if c then (x, t) else (y, t)) = (if c then x else y, t) := by
  split <;> rfl

theorem ite_fst {σ τ : Type} (c : Prop) [Decidable c] (x y : σ) (t : τ) :
    (if c then (x, t) else (y, t)).1 = (if c then x else y) := by
  split <;> rfl

variable {α : Type}

/-- squaring in curve.go is `gfpMul(c, a, a)`: the hand model's `Sq GFp` instance, for any base type
(Props/C10Code.lean states the curve.go ties for `Jac α` with this squaring) -/
@[reducible] def sqMul [Mul α] : Sq α := ⟨fun a => a * a⟩

theorem gfP2_isZero_eq [Zero α] [DecidableEq α] (e : Fp2 α) :
    Bn256Code.gfP2_isZero e = decide (e = Fp2.zero) := by
  cases e with
  | mk x y => simp [Bn256Code.gfP2_isZero, Fp2.zero, Fp2.mk.injEq]

theorem gfP2_isOne_eq [Zero α] [One α] [DecidableEq α] (e : Fp2 α) :
    Bn256Code.gfP2_isOne e = decide (e = Fp2.one) := by
  cases e with
  | mk x y => simp [Bn256Code.gfP2_isOne, Fp2.one, Fp2.mk.injEq]

theorem fp6_eq_iff (a b : Fp6 α) : a = b ↔ a.x = b.x ∧ a.y = b.y ∧ a.z = b.z := by
  cases a; cases b; simp [Fp6.mk.injEq]

theorem fp12_eq_iff (a b : Fp12 α) : a = b ↔ a.x = b.x ∧ a.y = b.y := by
  cases a; cases b; simp [Fp12.mk.injEq]

end Dos.Bn256.CodeTie
