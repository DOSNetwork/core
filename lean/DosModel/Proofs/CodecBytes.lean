/-
Big-endian byte strings ↔ numbers: `beNat ∘ natBE k = (· % 256^k)` and `natBE |bs| ∘ beNat = id`.
Core Lean only.
-/
import DosModel.Model.Util

namespace Dos.CodecBytes
open Dos

theorem natBE_length (k n : Nat) : (natBE k n).length = k := by
  induction k with
  | zero => rfl
  | succ k ih => simp [natBE, ih]

theorem foldl_shift (bs : Bytes) (acc : Nat) :
    bs.foldl (fun a (b : UInt8) => a * 256 + b.toNat) acc
      = acc * 256 ^ bs.length + bs.foldl (fun a (b : UInt8) => a * 256 + b.toNat) 0 := by
  induction bs generalizing acc with
  | nil => simp
  | cons b bs ih =>
    simp only [List.foldl_cons, List.length_cons]
    rw [ih (acc * 256 + b.toNat), ih (0 * 256 + b.toNat)]
    simp only [Nat.zero_mul, Nat.zero_add, Nat.pow_succ, Nat.add_mul]
    rw [Nat.mul_assoc acc 256, Nat.mul_comm 256 (256 ^ bs.length), Nat.add_assoc]

theorem beNat_nil : beNat [] = 0 := rfl

theorem beNat_cons (b : UInt8) (bs : Bytes) :
    beNat (b :: bs) = b.toNat * 256 ^ bs.length + beNat bs := by
  simp only [beNat, List.foldl_cons]
  rw [foldl_shift]; simp

theorem beNat_append (as bs : Bytes) :
    beNat (as ++ bs) = beNat as * 256 ^ bs.length + beNat bs := by
  simp only [beNat, List.foldl_append]
  rw [foldl_shift]

theorem beNat_lt (bs : Bytes) : beNat bs < 256 ^ bs.length := by
  induction bs with
  | nil => simp [beNat]
  | cons b bs ih =>
    rw [beNat_cons, List.length_cons, Nat.pow_succ]
    have hb : b.toNat < 256 := UInt8.toNat_lt b
    have : b.toNat * 256 ^ bs.length + 256 ^ bs.length ≤ 256 * 256 ^ bs.length := by
      have : (b.toNat + 1) * 256 ^ bs.length ≤ 256 * 256 ^ bs.length :=
        Nat.mul_le_mul_right _ (by omega)
      simpa [Nat.add_mul] using this
    rw [Nat.mul_comm (256 ^ bs.length) 256]
    omega

theorem beNat_natBE_mod (k n : Nat) : beNat (natBE k n) = n % 256 ^ k := by
  induction k with
  | zero => simp [natBE, beNat, Nat.mod_one]
  | succ k ih =>
    rw [natBE, beNat_cons, natBE_length, ih]
    have h1 : (UInt8.ofNat (n / 256 ^ k % 256)).toNat = n / 256 ^ k % 256 := by
      simp [UInt8.toNat_ofNat']
    rw [h1, Nat.pow_succ, Nat.mod_mul, Nat.mul_comm (256 ^ k), Nat.add_comm]

theorem beNat_natBE (k n : Nat) (h : n < 256 ^ k) : beNat (natBE k n) = n := by
  rw [beNat_natBE_mod, Nat.mod_eq_of_lt h]

theorem natBE_mod (k n : Nat) : natBE k (n % 256 ^ k) = natBE k n := by
  induction k generalizing n with
  | zero => rfl
  | succ k ih =>
    simp only [natBE]
    have h1 : n % 256 ^ (k + 1) / 256 ^ k % 256 = n / 256 ^ k % 256 := by
      rw [Nat.pow_succ, Nat.mod_mul_right_div_self, Nat.mod_mod]
    have h2 : natBE k (n % 256 ^ (k + 1)) = natBE k n := by
      rw [← ih (n % 256 ^ (k + 1)), ← ih n]
      congr 1
      exact Nat.mod_mod_of_dvd n ⟨256, Nat.pow_succ ..⟩
    rw [h1, h2]

theorem natBE_beNat (bs : Bytes) : natBE bs.length (beNat bs) = bs := by
  induction bs with
  | nil => rfl
  | cons b bs ih =>
    rw [List.length_cons, natBE, beNat_cons]
    have hv := beNat_lt bs
    have hpos : 0 < 256 ^ bs.length := Nat.pow_pos (by decide)
    have h1 : (b.toNat * 256 ^ bs.length + beNat bs) / 256 ^ bs.length = b.toNat := by
      rw [Nat.mul_comm, Nat.mul_add_div hpos, Nat.div_eq_of_lt hv, Nat.add_zero]
    have h2 : natBE bs.length (b.toNat * 256 ^ bs.length + beNat bs) = bs := by
      rw [← natBE_mod, Nat.mul_comm, Nat.mul_add_mod, Nat.mod_eq_of_lt hv, ih]
    have hb : b.toNat % 256 = b.toNat := Nat.mod_eq_of_lt (UInt8.toNat_lt b)
    rw [h1, h2, hb]
    simp

/-- two byte strings of the same length with the same value are equal -/
theorem beNat_inj (as bs : Bytes) (hl : as.length = bs.length) (h : beNat as = beNat bs) : as = bs := by
  rw [← natBE_beNat as, ← natBE_beNat bs, hl, h]

theorem natBE_inj (k a b : Nat) (ha : a < 256 ^ k) (hb : b < 256 ^ k) (h : natBE k a = natBE k b) :
    a = b := by
  rw [← beNat_natBE k a ha, ← beNat_natBE k b hb, h]

theorem natBE_zero (k : Nat) : natBE k 0 = List.replicate k 0 := by
  induction k with
  | zero => rfl
  | succ k ih => simp [natBE, ih, List.replicate_succ]

theorem beNat_replicate_zero (k : Nat) : beNat (List.replicate k 0) = 0 := by
  rw [← natBE_zero, beNat_natBE_mod]; simp

end Dos.CodecBytes

namespace Dos.CodecBytes
open Dos

/-! ### `natBytes` (`big.Int.Bytes()`: minimal big-endian, empty for 0) -/

theorem beNat_natBytesAux : ∀ (fuel n : Nat) (acc : Bytes), n < fuel →
    beNat (natBytesAux fuel n acc) = n * 256 ^ acc.length + beNat acc := by
  intro fuel
  induction fuel with
  | zero => intro n acc h; omega
  | succ fuel ih =>
    intro n acc h
    by_cases hn : n = 0
    · simp [natBytesAux, hn]
    · simp only [natBytesAux, hn, if_false]
      rw [ih (n / 256) _ (by omega), beNat_cons, List.length_cons, Nat.pow_succ]
      have h8 : (UInt8.ofNat (n % 256)).toNat = n % 256 := by simp [UInt8.toNat_ofNat']
      -- n = 256 · (n / 256) + n % 256, multiplied out
      rw [h8, ← Nat.add_assoc, ← Nat.mul_assoc, Nat.mul_right_comm, ← Nat.add_mul, Nat.div_add_mod']

theorem beNat_natBytes (n : Nat) : beNat (natBytes n) = n := by
  rw [natBytes, beNat_natBytesAux (n + 1) n [] (by omega)]
  simp [beNat]

theorem natBytesAux_length : ∀ (fuel n : Nat) (acc : Bytes) (k : Nat), n < 256 ^ k →
    (natBytesAux fuel n acc).length ≤ acc.length + k := by
  intro fuel
  induction fuel with
  | zero => intro n acc k _; simp [natBytesAux]
  | succ fuel ih =>
    intro n acc k hk
    simp only [natBytesAux]
    by_cases h0 : n = 0
    · simp [h0]
    · simp only [h0, if_false]
      cases k with
      | zero => simp at hk; omega
      | succ k =>
        have : n / 256 < 256 ^ k := by
          rw [Nat.pow_succ] at hk
          exact Nat.div_lt_of_lt_mul (by rw [Nat.mul_comm]; exact hk)
        have := ih (n / 256) (UInt8.ofNat (n % 256) :: acc) k this
        simp only [List.length_cons] at this
        omega

/-- a value below `256^k` has at most `k` bytes (leading zero bytes are dropped) -/
theorem natBytes_length_le (n k : Nat) (h : n < 256 ^ k) : (natBytes n).length ≤ k := by
  simpa [natBytes] using natBytesAux_length (n + 1) n [] k h

end Dos.CodecBytes
