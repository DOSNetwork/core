/-
C14 liveness: after cancellation, the escape edges of the pipeline goroutine of least
rank among the running ones are enabled (`escape_step`); `PipeLive4.min_running_steps` concludes
that this goroutine is never stuck (`no_stuck_after_cancel` in Props/C14.lean).
-/
import DosModel.Proofs.PipeLive

namespace Dos.Pipe
variable {p : Pipeline}

/-- neither a send on / close of a closed channel nor a negative wait group is reachable -/
def NoCrash (p : Pipeline) : Prop := ∀ k, ¬ CrashReachable p k

theorem W0_edge (h0 : W0 p = true) {g : Gi} {gr : Goroutine} (hg : p.gs[g]? = some gr)
    {pc : Pc} {nd : Node} (hn : gr.nodes[pc]? = some nd) {l : Lab} {n : Pc} (he : (l, n) ∈ nd.edges) :
    l.inRange p = true ∧ n < gr.nodes.length := by
  unfold W0 at h0
  rw [List.all_eq_true] at h0
  have := h0 gr (List.mem_of_getElem? hg)
  simp only [Bool.and_eq_true, List.all_eq_true, decide_eq_true_eq] at this
  exact this.2 nd (List.mem_of_getElem? hn) (l, n) he

/-- the escape edges of a `select`: its `<-ctx_0.Done()` alternatives; else its timer alternatives;
    else the closed branch of a lone receive that passes W3 -/
theorem mem_escEdges_sel {g : Gi} {alts : List Alt} {l : Lab} {n : Pc}
    (h : (l, n) ∈ escEdges p g (.sel alts)) :
    (l = .ctx 0 ∧ Alt.ctx 0 n ∈ alts) ∨ (l = .tick ∧ Alt.tick n ∈ alts) ∨
    (∃ c a, alts = [.recv c a n] ∧ l = .recvCl c ∧ rangeOk p g c = true) := by
  simp only [escEdges] at h
  split at h
  · simp only [List.mem_flatMap, List.mem_filter] at h
    obtain ⟨a, ⟨ha, hc⟩, hae⟩ := h
    cases a <;> simp [Alt.isCtx0] at hc
    case ctx k n0 =>
      subst hc
      simp only [Alt.edges, List.mem_singleton, Prod.mk.injEq] at hae
      obtain ⟨rfl, rfl⟩ := hae
      exact Or.inl ⟨rfl, ha⟩
  · split at h
    · simp only [List.mem_flatMap, List.mem_filter] at h
      obtain ⟨a, ⟨ha, hc⟩, hae⟩ := h
      cases a <;> simp [Alt.isTick] at hc
      case tick n0 =>
        simp only [Alt.edges, List.mem_singleton, Prod.mk.injEq] at hae
        obtain ⟨rfl, rfl⟩ := hae
        exact Or.inr (Or.inl ⟨rfl, ha⟩)
    · split at h
      · rename_i c a b _ _
        split at h
        · rename_i hr
          simp only [List.mem_singleton, Prod.mk.injEq] at h
          obtain ⟨rfl, rfl⟩ := h
          exact Or.inr (Or.inr ⟨c, a, rfl, rfl, hr⟩)
        · simp at h
      · simp at h

/-- the escape edges of the other nodes are their edges -/
theorem mem_escEdges_cases {g : Gi} {nd : Node} {l : Lab} {n : Pc}
    (h : (l, n) ∈ escEdges p g nd) :
    (∃ alts, nd = .sel alts) ∨ (∃ ns, nd = .branch ns ∧ l = .tau) ∨
    (∃ c, nd = .close c n ∧ l = .close c) ∨ (∃ w, nd = .wgDone w n ∧ l = .wgDone w) ∨
    (∃ w, nd = .wgWait w n ∧ l = .wgWait w) ∨ (∃ g', nd = .spawn g' n ∧ l = .spawn g') ∨
    (∃ k, nd = .cancel k n ∧ l = .cancel k) := by
  cases nd with
  | sel alts => exact Or.inl ⟨alts, rfl⟩
  | branch ns =>
    obtain ⟨n0, _, h⟩ := List.mem_map.mp (show (l, n) ∈ (Node.branch ns).edges from h)
    cases h
    exact Or.inr (Or.inl ⟨ns, rfl, rfl⟩)
  | close c n0 =>
    cases List.mem_singleton.mp (show (l, n) ∈ (Node.close c n0).edges from h)
    exact Or.inr (Or.inr (Or.inl ⟨c, rfl, rfl⟩))
  | wgDone w n0 =>
    cases List.mem_singleton.mp (show (l, n) ∈ (Node.wgDone w n0).edges from h)
    exact Or.inr (Or.inr (Or.inr (Or.inl ⟨w, rfl, rfl⟩)))
  | wgWait w n0 =>
    cases List.mem_singleton.mp (show (l, n) ∈ (Node.wgWait w n0).edges from h)
    exact Or.inr (Or.inr (Or.inr (Or.inr (Or.inl ⟨w, rfl, rfl⟩))))
  | spawn g' n0 =>
    cases List.mem_singleton.mp (show (l, n) ∈ (Node.spawn g' n0).edges from h)
    exact Or.inr (Or.inr (Or.inr (Or.inr (Or.inr (Or.inl ⟨g', rfl, rfl⟩)))))
  | cancel k n0 =>
    cases List.mem_singleton.mp (show (l, n) ∈ (Node.cancel k n0).edges from h)
    exact Or.inr (Or.inr (Or.inr (Or.inr (Or.inr (Or.inr ⟨k, rfl, rfl⟩)))))
  | exit => cases (show (l, n) ∈ (Node.exit).edges from h)

theorem esc_sub_edges {g : Gi} {nd : Node} {l : Lab} {n : Pc}
    (h : (l, n) ∈ escEdges p g nd) : (l, n) ∈ nd.edges := by
  cases nd <;> try exact h
  case sel alts =>
    rw [mem_edges_sel]
    rcases mem_escEdges_sel h with ⟨rfl, ha⟩ | ⟨rfl, ha⟩ | ⟨c, a, rfl, rfl, _⟩
    · exact ⟨_, ha, by simp [Alt.edges]⟩
    · exact ⟨_, ha, by simp [Alt.edges]⟩
    · exact ⟨_, List.mem_singleton_self _, by simp [Alt.edges]⟩

/-- what the liveness argument knows about a pipeline goroutine standing at a node -/
structure LiveAt (p : Pipeline) (s : State) (g : Gi) (gr : Goroutine) (pc : Pc) (nd : Node) : Prop where
  reach : Reach p s
  cancelled : s.ctxDone 0 = true
  hg : p.gs[g]? = some gr
  hn : gr.nodes[pc]? = some nd
  hat : s.gs[g]? = some (.at pc)
  lower : ∀ g' gr', p.gs[g']? = some gr' → gr'.static = true → gr'.daemon = false →
    rankOf p g' < rankOf p g → s.gs[g']? = some .done
  live : nodeLive p g nd = true

theorem rangeOk_parts {g : Gi} {c : Ch} (h : rangeOk p g c = true) :
    ∃ hc grh, p.gs[hc]? = some grh ∧ grh.static = true ∧ grh.daemon = false ∧
      rankOf p hc < rankOf p g ∧ closesOnAllPaths grh c = true := by
  unfold rangeOk at h
  split at h
  · rename_i hc _
    split at h
    · rename_i grh hgr
      simp only [Bool.and_eq_true, Bool.not_eq_true', decide_eq_true_eq] at h
      exact ⟨hc, grh, hgr, h.1.1.1, h.1.1.2, h.1.2, h.2⟩
    · cases h
  · cases h

theorem waitOk_parts {g : Gi} {w : Nat} (h : waitOk p g w = true) :
    W5w p w = true ∧ ∀ (g' : Gi) (gr' : Goroutine), p.gs[g']? = some gr' → owesAtEntry gr' w = true →
      gr'.static = true ∧ gr'.daemon = false ∧ rankOf p g' < rankOf p g := by
  unfold waitOk at h
  simp only [Bool.and_eq_true] at h
  refine ⟨h.1, ?_⟩
  intro g' gr' hg' ho
  have := zipIdx_all h.2 hg'
  simp only [ho, Bool.not_true, Bool.false_or, Bool.and_eq_true, Bool.not_eq_true', decide_eq_true_eq] at this
  exact ⟨this.1.1, this.1.2, this.2⟩

/-- the step along an edge, spelled out -/
def moved (s : State) (g : Gi) (l : Lab) (n : Pc) : State := (effect s l).setG g (.at n)

/-- **escape edges are enabled.**  After cancellation, for the pipeline goroutine `g` all of
whose lower-ranked pipeline goroutines have exited, every escape edge `(l, n)` of its current
node can be taken — except that a lone receive on a closed channel first drains the buffer.
A `close` or `wgDone` edge is enabled because its guard fails only where the same edge panics, and no
crash is reachable; `wgWait w` because the counter is the debt (`wg_counts_debt`), and every goroutine
that owed a `wgDone w` at its entry has smaller rank, so has returned. -/
theorem escape_step (h0 : W0 p = true) (hsafe : NoCrash p)
    {s : State} {g : Gi} {gr : Goroutine} {pc : Pc} {nd : Node} (L : LiveAt p s g gr pc nd)
    {l : Lab} {n : Pc} (he : (l, n) ∈ escEdges p g nd) :
    Step p s (.act g l) (.run (moved s g l n)) ∨
    ∃ c n', l = .recvCl c ∧ 0 < s.len c ∧ (Lab.recvOk c, n') ∈ nd.edges ∧
      Step p s (.act g (.recvOk c)) (.run (moved s g (.recvOk c) n')) := by
  have hnd := node_of L.hg L.hn
  have hedge := esc_sub_edges he
  -- an enabled edge that is not `default`
  have take : ∀ l' n', (l', n') ∈ nd.edges → guard p s l' = true → l' ≠ .dflt →
      Step p s (.act g l') (.run (moved s g l' n')) :=
    fun l' n' hed hgd hnd' => Step.act g pc nd l' n' L.hat hnd hed hgd (fun h => absurd h hnd')
  rcases mem_escEdges_cases he with ⟨alts, rfl⟩ | ⟨ns, rfl, rfl⟩ | ⟨c, rfl, rfl⟩ | ⟨w, rfl, rfl⟩ | ⟨w, rfl, rfl⟩ |
      ⟨g', rfl, rfl⟩ | ⟨k, rfl, rfl⟩
  · -- a `select`
    rcases mem_escEdges_sel he with ⟨rfl, _⟩ | ⟨rfl, _⟩ | ⟨c, a, rfl, rfl, hrange⟩
    · left
      exact take _ _ hedge (by simpa [guard] using L.cancelled) (by simp)
    · left
      exact take _ _ hedge (by simp [guard]) (by simp)
    · obtain ⟨hc, grh, hgh, hst, hdm, hrk, hcl⟩ := rangeOk_parts hrange
      have hdone := L.lower hc grh hgh hst hdm hrk
      have hin : c < p.chans.length := by
        have := (W0_edge h0 L.hg L.hn hedge).1
        simpa [Lab.inRange] using this
      have hclosed := closer_closed hgh hcl hin s L.reach (Or.inl hdone)
      by_cases hlen : s.len c = 0
      · left
        exact take _ _ hedge (by simp [guard, hclosed, hlen]) (by simp)
      · right
        have hpos : 0 < s.len c := Nat.pos_of_ne_zero hlen
        have hed2 : (Lab.recvOk c, a) ∈ (Node.sel [Alt.recv c a n]).edges := by
          simp [Node.edges, Alt.edges]
        exact ⟨c, a, rfl, hpos, hed2, take _ _ hed2 (by simp [guard, hpos]) (by simp)⟩
  · -- `branch`
    left
    exact take _ _ hedge (by simp [guard]) (by simp)
  · -- `close c`
    left
    apply take _ _ hedge _ (by simp)
    cases hcl : s.closed c with
    | false => simp [guard, hcl]
    | true =>
      exfalso
      exact hsafe (.closeClosed c) ⟨s, _, g, pc, L.reach,
        Step.crash g pc _ _ _ _ L.hat hnd hedge (by simp [crashOf, hcl])⟩
  · -- `wgDone w`
    left
    apply take _ _ hedge _ (by simp)
    by_cases hz : s.wg w = 0
    · exfalso
      exact hsafe (.wgNegative w) ⟨s, _, g, pc, L.reach,
        Step.crash g pc _ _ _ _ L.hat hnd hedge (by simp [crashOf, hz])⟩
    · simp [guard]; omega
  · -- `wgWait w`
    left
    apply take _ _ hedge _ (by simp)
    have hlive := L.live
    simp only [nodeLive] at hlive
    obtain ⟨h5, hall⟩ := waitOk_parts hlive
    have hw := wgOk_of_W5w h5
    obtain ⟨hlen, hcnt⟩ := wg_counts_debt hw s L.reach
    have hzero : debt w p.gs s.gs = 0 := by
      apply debt_zero
      intro i gri st hgi hsi
      cases ho : owesAtEntry gri w with
      | true =>
        obtain ⟨hst, hdm, hrk⟩ := hall i gri hgi ho
        have := L.lower i gri hgi hst hdm hrk
        rw [hsi] at this; cases this
        exact owe_done gri w
      | false =>
        have := never_owes hgi (hw.owes gri (List.mem_of_getElem? hgi)) ho s L.reach
        rw [hsi] at this
        unfold owe; rw [this]; rfl
    simp [guard, hcnt, hzero]
  · -- `spawn`
    left
    exact take _ _ hedge (by simp [guard]) (by simp)
  · -- `cancel`
    left
    exact take _ _ hedge (by simp [guard]) (by simp)

end Dos.Pipe
