/-
Lemmas about `Model/VssSym.lean` at an arbitrary field `F` and `F`-module `G`:
the Horner evaluations are linear, `verifyDeal` is its error chain on the aggregator that stored the deal,
and what `decryptDeal` returns `ok` on.
-/
import DosModel.Model.VssSym
import Mathlib.Algebra.Module.Basic
import Mathlib.Algebra.Field.Basic
import Mathlib.Algebra.NoZeroSMulDivisors.Basic
import Mathlib.Tactic.Ring
import Mathlib.Tactic.Abel

set_option linter.unusedSectionVars false

namespace Dos.Vss

variable {F G : Type} [Field F] [AddCommGroup G] [Module F G] [DecidableEq F] [DecidableEq G]

theorem pubEval_nil (i : Int) : pubEval (S := F) ([] : List G) i = 0 := rfl

theorem pubEval_cons (c : G) (cs : List G) (i : Int) :
    pubEval (S := F) (c :: cs) i = (xOf i : F) • pubEval (S := F) cs i + c := rfl

theorem priEval_nil (i : Int) : priEval ([] : List F) i = 0 := rfl

theorem priEval_cons (c : F) (cs : List F) (i : Int) :
    priEval (c :: cs) i = priEval cs i * xOf i + c := rfl

/-- `Props.C09.pubEval_commit` for this model's `pubEval`: evaluating the commitments of `f` gives the
commitment of `f(i+1)` -/
theorem pubEval_commit (g : G) (f : List F) (i : Int) :
    pubEval (S := F) (commit g f) i = priEval f i • g := by
  induction f with
  | nil => simp [commit, pubEval_nil, priEval_nil]
  | cons c cs ih =>
    have : commit g (c :: cs) = c • g :: commit g cs := rfl
    rw [this, pubEval_cons, priEval_cons, ih, add_smul, mul_smul, smul_comm]

/-- scalar multiplication of a non-zero point is injective (a module over a field is torsion free) -/
theorem smul_base_inj {g : G} (hg : g ≠ 0) {a b : F} (h : a • g = b • g) : a = b := by
  have h0 : (a - b) • g = 0 := by rw [sub_smul, h, sub_self]
  rcases smul_eq_zero.mp h0 with h1 | h1
  · exact sub_eq_zero.mp h1
  · exact absurd h1 hg

theorem check_commit_iff {g : G} (hg : g ≠ 0) (f : List F) (i : Int) (val : F) :
    val • g = pubEval (S := F) (commit g f) i ↔ val = priEval f i := by
  rw [pubEval_commit]
  exact ⟨smul_base_inj hg, fun h => by rw [h]⟩

/-- the deal is consistent for an aggregator of (dealer, vs): valid threshold, session id = the
identifier of what the deal carries, a share with a value whose index is in range and which lies
on the committed polynomial -/
def Consistent (g : G) (dealer : G) (vs : List G) (d : Deal F G) : Prop :=
  ∃ (i : Int) (val : F), d.share = some ⟨i, some val⟩ ∧ validT d.t vs.length = true ∧
    Sid.h dealer vs d.commits d.t = d.sid ∧ 0 ≤ i ∧ i < (vs.length : Int) ∧
    val • g = pubEval (S := F) d.commits i

/-- with the share at hand the existentials of `Consistent` are determined -/
theorem consistent_iff_of_share {g dealer : G} {vs : List G} {d : Deal F G} {i : Int} {val : F}
    (hsh : d.share = some ⟨i, some val⟩) :
    Consistent g dealer vs d ↔ validT d.t vs.length = true ∧ Sid.h dealer vs d.commits d.t = d.sid ∧
      0 ≤ i ∧ i < (vs.length : Int) ∧ val • g = pubEval (S := F) d.commits i := by
  constructor
  · rintro ⟨i', val', he, h⟩
    rw [hsh] at he; cases he; exact h
  · exact fun h => ⟨i, val, hsh, h⟩

/-- the aggregator once `VerifyDeal` is past its "already processed" test: a first deal is stored -/
def storeDeal (a : Agg F G) (d : Deal F G) : Agg F G :=
  if a.deal.isNone then { a with commits := d.commits, sid := d.sid, deal := some d } else a

/-- the checks `VerifyDeal` then makes on the share `(i, val)`, in the order of the code -/
def dealErr (g : G) (a : Agg F G) (d : Deal F G) (i : Int) (val : F) : Option VErr :=
  if validT d.t a.vs.length = false then some .badT
  else if a.sid ≠ d.sid then some .sidDiffer
  else if Sid.h a.dealer a.vs d.commits d.t ≠ d.sid then some .sidMismatch
  else if i < 0 ∨ i ≥ (a.vs.length : Int) then some .bounds
  else if val • g = pubEval (S := F) d.commits i then none
  else some .share

/-- **`VerifyDeal` in full**: without a share value nothing happens; a stored deal with `inclusion` is
"already processed"; otherwise the first deal is stored and the error is that of the chain of checks -/
theorem verifyDeal_eq (g : G) (a : Agg F G) (d : Deal F G) (incl : Bool) :
    verifyDeal g a d incl =
      match d.share with
      | some ⟨i, some val⟩ =>
        if a.deal.isSome ∧ incl = true then (a, some .already)
        else (storeDeal a d, dealErr g (storeDeal a d) d i val)
      | _ => (a, some .noValue) := by
  rcases hsh : d.share with _ | ⟨i, _ | val⟩
  · simp only [verifyDeal, hsh]
  · simp only [verifyDeal, hsh]
  · by_cases h : a.deal.isSome ∧ incl = true
    · simp only [verifyDeal, hsh, h, and_self, if_true]
    · unfold verifyDeal dealErr storeDeal
      simp only [hsh, h, if_false]
      -- the stored aggregator is a variable from here on: both sides are the same chain of `if`s
      generalize (if a.deal.isNone then ({ a with commits := d.commits, sid := d.sid, deal := some d } : Agg F G) else a) = a1
      simp only [apply_ite (Prod.mk a1)]

theorem dealErr_ne_already (g : G) (a : Agg F G) (d : Deal F G) (i : Int) (val : F) :
    dealErr g a d i val ≠ some .already := by
  intro h
  simp only [dealErr, ite_eq_iff, reduceCtorEq, and_false, false_or, Option.some.injEq] at h

/-- no error: every guard of the chain fails -/
theorem dealErr_eq_none_iff (g : G) (a : Agg F G) (d : Deal F G) (i : Int) (val : F) :
    dealErr g a d i val = none ↔ validT d.t a.vs.length = true ∧ a.sid = d.sid ∧
      Sid.h a.dealer a.vs d.commits d.t = d.sid ∧ 0 ≤ i ∧ i < (a.vs.length : Int) ∧
      val • g = pubEval (S := F) d.commits i := by
  simp only [dealErr, ite_eq_iff, reduceCtorEq, and_false, false_or, and_true, Bool.not_eq_false, ne_eq,
    not_not, not_or, not_lt, ge_iff_le, not_le, and_assoc, or_false]

/-- `VerifyDeal` never touches the member list, the dealer, the responses or the flag -/
theorem verifyDeal_frame (g : G) (a : Agg F G) (d : Deal F G) (incl : Bool) :
    (verifyDeal g a d incl).1.vs = a.vs ∧ (verifyDeal g a d incl).1.dealer = a.dealer ∧
    (verifyDeal g a d incl).1.responses = a.responses ∧ (verifyDeal g a d incl).1.badDealer = a.badDealer ∧
    (verifyDeal g a d incl).1.t = a.t := by
  rw [verifyDeal_eq]
  unfold storeDeal
  (repeat' split) <;> exact ⟨rfl, rfl, rfl, rfl, rfl⟩

/-- on a fresh aggregator `VerifyDeal(d, true)` is never "already processed" -/
theorem verifyDeal_fresh_not_already (g : G) (a : Agg F G) (d : Deal F G) (ha : a.deal = none) :
    (verifyDeal g a d true).2 ≠ some .already := by
  rw [verifyDeal_eq]
  split
  · rw [if_neg (by simp [ha])]; exact dealErr_ne_already g _ d _ _
  · exact fun h => nomatch h

/-- On an aggregator that has not stored a deal yet, `VerifyDeal(d, true)` succeeds iff the deal is
consistent. -/
theorem verifyDeal_fresh_ok_iff (g : G) (a : Agg F G) (d : Deal F G) (ha : a.deal = none) :
    (verifyDeal g a d true).2 = none ↔ Consistent g a.dealer a.vs d := by
  rw [verifyDeal_eq]
  split
  · rename_i i val hsh
    rw [if_neg (by simp [ha]), dealErr_eq_none_iff, consistent_iff_of_share hsh]
    simp [storeDeal, ha]
  · rename_i hno
    exact ⟨fun h => (nomatch h), fun ⟨i, val, hsh, _⟩ => absurd hsh (hno i val)⟩

theorem verifyDhSig_true_iff (g pub : G) (msg : DhBytes G) (s : DhSig F G) :
    verifyDhSig g pub msg s = true ↔ ∃ sk rnd, s = .sign sk msg rnd ∧ sk • g = pub := by
  cases s with
  | junk id => simp [verifyDhSig]
  | sign sk m rnd =>
    simp only [verifyDhSig, Bool.and_eq_true, decide_eq_true_eq, DhSig.sign.injEq]
    exact ⟨fun ⟨h1, h2⟩ => ⟨sk, rnd, ⟨rfl, h2, rfl⟩, h1⟩, fun ⟨_, _, ⟨h, h2, _⟩, h1⟩ => ⟨h ▸ h1, h2⟩⟩

/-- everything `decryptDeal` returns `ok` on: the DH bytes carry a signature of the expected dealer,
they decode, the nonce has the AEAD's size and the ciphertext is a sealing of `d` under exactly the
key derived from the verifier's long-term secret, the decoded point and the verifier's own context,
with that context as associated data. -/
theorem decryptDeal_ok_iff (g : G) (v : Verifier F G) (e : EncDeal F G) (d : Deal F G) :
    decryptDeal g v e = .ok d ↔
      (∃ sk rnd, e.sig = .sign sk e.dh rnd ∧ sk • g = v.dealer) ∧
      ∃ X, e.dh.parse = some X ∧ e.nonce.length = nonceSize ∧
        e.cipher = .seal ⟨v.long • X, v.ctx⟩ e.nonce v.ctx (.deal d) := by
  rw [← verifyDhSig_true_iff]
  unfold decryptDeal
  cases verifyDhSig g v.dealer e.dh e.sig
  · simp
  · rcases e.dh.parse with _ | X
    · simp
    · by_cases hn : e.nonce.length = nonceSize
      · rcases e.cipher with ⟨k, n, ad, pt⟩ | id
        · by_cases hk : k = ⟨v.long • X, v.ctx⟩ ∧ n = e.nonce ∧ ad = v.ctx
          · cases pt <;> simp [hn, hk, eq_comm]
          · simp only [hn, hk, if_false]; simp; tauto
        · simp [hn]
      · simp [hn]

theorem process_decrypt_error (g : G) (v : Verifier F G) (e : EncDeal F G) (rnd : Nat) (err : Err)
    (h : decryptDeal g v e = .error err) : processEncryptedDeal g v e rnd = (v, .error err) := by
  simp [processEncryptedDeal, h]

/-- the response `ProcessEncryptedDeal` signs for the opened deal `d` -/
def signedResp (v : Verifier F G) (d : Deal F G) (st : Bool) (rnd : Nat) : Response F G :=
  { sid := .h v.dealer v.vs d.commits d.t, index := v.index, status := st,
    sig := .sign v.long (.h v.dealer v.vs d.commits d.t) v.index st rnd }

/-- the aggregator of a verifier that answered the opened deal `d`, its first, with status `st`: the
deal is stored whatever the status, the only response is the verifier's own -/
def answeredAgg (v : Verifier F G) (d : Deal F G) (st : Bool) (rnd : Nat) : Agg F G :=
  ⟨v.dealer, v.vs, d.commits, d.t, d.sid, some d,
    (List.replicate v.vs.length none).set v.index (some (signedResp v d st rnd)), false⟩

def answered (v : Verifier F G) (d : Deal F G) (st : Bool) (rnd : Nat) : Verifier F G :=
  { v with agg := some (answeredAgg v d st rnd), approved := st }

/-- The complete effect of `ProcessEncryptedDeal` on a verifier that has not seen a deal, for an opened
deal whose share has a value and the verifier's own index: the status of the signed response, which is
also the `approved` flag, is approval exactly when the deal is consistent.  (A verifier whose index is
outside its list cannot record its own response.) -/
theorem processEncryptedDeal_fresh (g : G) (v : Verifier F G) (e : EncDeal F G) (rnd : Nat) (d : Deal F G)
    (val : F) (hv : v.agg = none) (hd : decryptDeal g v e = .ok d)
    (hsh : d.share = some ⟨(v.index : Int), some val⟩) :
    ∃ st : Bool, (st = true ↔ Consistent g v.dealer v.vs d) ∧
      processEncryptedDeal g v e rnd =
        if v.index < v.vs.length then (answered v d st rnd, .ok (signedResp v d st rnd))
        else ({ v with agg := some ⟨v.dealer, v.vs, d.commits, d.t, d.sid, some d,
                  List.replicate v.vs.length none, false⟩ }, .error .respIndex) := by
  have hvd := verifyDeal_eq g (newAgg (S := F) v.dealer v.vs d.commits d.t d.sid) d true
  simp only [hsh] at hvd
  rw [if_neg (by simp [newAgg])] at hvd
  have hst : storeDeal (newAgg (S := F) v.dealer v.vs d.commits d.t d.sid) d =
      ⟨v.dealer, v.vs, d.commits, d.t, d.sid, some d, List.replicate v.vs.length none, false⟩ := rfl
  rw [hst] at hvd
  have hiff := dealErr_eq_none_iff g
    ⟨v.dealer, v.vs, d.commits, d.t, d.sid, some d, List.replicate v.vs.length none, false⟩ d v.index val
  have hna := dealErr_ne_already g
    ⟨v.dealer, v.vs, d.commits, d.t, d.sid, some d, List.replicate v.vs.length none, false⟩ d v.index val
  generalize dealErr g _ d v.index val = verr at hvd hiff hna
  refine ⟨verr.isNone, ?_, ?_⟩
  · rw [Option.isNone_iff_eq_none, hiff, consistent_iff_of_share hsh]
    simp
  · simp only [processEncryptedDeal, hd, hsh, Option.isNone_some, Bool.false_eq_true, if_false, ne_eq,
      not_true_eq_false, hv, hvd, hna]
    by_cases hidx : v.index < v.vs.length
    · simp [addResponse, hasResponse, getResponse, Nat.not_le.2 hidx, hidx, signedResp, answered, answeredAgg]
    · simp [addResponse, Nat.le_of_not_lt hidx, hidx]

/-- an opened deal without a share value for the verifier's own index is an error that leaves the
verifier as it was, with or without aggregator -/
theorem processEncryptedDeal_error (g : G) (v : Verifier F G) (e : EncDeal F G) (rnd : Nat) (d : Deal F G)
    (hd : decryptDeal g v e = .ok d) (hsh : ∀ val, d.share ≠ some ⟨(v.index : Int), some val⟩) :
    ∃ err, processEncryptedDeal g v e rnd = (v, .error err) := by
  rcases h : d.share with _ | ⟨i, _ | val⟩
  · exact ⟨.noShare, by simp [processEncryptedDeal, hd, h]⟩
  · exact ⟨.noShare, by simp [processEncryptedDeal, hd, h]⟩
  · have hi : i ≠ (v.index : Int) := fun hi => hsh val (by rw [h, hi])
    exact ⟨.index, by simp [processEncryptedDeal, hd, h, hi]⟩

/-- every outcome of `ProcessEncryptedDeal` on a verifier that has not seen a deal: an error that leaves
it alone (decryption failed, or no share value for the own index), or the opened deal carries the own
share and the result is the one `processEncryptedDeal_fresh` gives -/
theorem processEncryptedDeal_outcome (g : G) (v : Verifier F G) (e : EncDeal F G) (rnd : Nat)
    (hv : v.agg = none) :
    (∃ err, processEncryptedDeal g v e rnd = (v, .error err)) ∨
    ∃ d val st, decryptDeal g v e = .ok d ∧ d.share = some ⟨(v.index : Int), some val⟩ ∧
      (st = true ↔ Consistent g v.dealer v.vs d) ∧
      (v.index < v.vs.length →
        processEncryptedDeal g v e rnd = (answered v d st rnd, .ok (signedResp v d st rnd))) ∧
      (¬ v.index < v.vs.length → ∃ w, processEncryptedDeal g v e rnd = (w, .error .respIndex)) := by
  rcases hd : decryptDeal g v e with err | d
  · exact Or.inl ⟨err, process_decrypt_error g v e rnd err hd⟩
  · by_cases hsh : ∃ val, d.share = some ⟨(v.index : Int), some val⟩
    · obtain ⟨val, hsh⟩ := hsh
      obtain ⟨st, hst, hp⟩ := processEncryptedDeal_fresh g v e rnd d val hv hd hsh
      exact Or.inr ⟨d, val, st, rfl, hsh, hst, fun hidx => hp.trans (if_pos hidx),
        fun hidx => ⟨_, hp.trans (if_neg hidx)⟩⟩
    · exact Or.inl (processEncryptedDeal_error g v e rnd d hd fun val h => hsh ⟨val, h⟩)

theorem processEncryptedDeal_cases (g : G) (v : Verifier F G) (e : EncDeal F G) (rnd : Nat)
    (hv : v.agg = none) (hidx : v.index < v.vs.length) :
    (∃ err, processEncryptedDeal g v e rnd = (v, .error err)) ∨
    ∃ d val st, decryptDeal g v e = .ok d ∧ d.share = some ⟨(v.index : Int), some val⟩ ∧
      (st = true ↔ Consistent g v.dealer v.vs d) ∧
      processEncryptedDeal g v e rnd = (answered v d st rnd, .ok (signedResp v d st rnd)) :=
  (processEncryptedDeal_outcome g v e rnd hv).imp_right
    fun ⟨d, val, st, hd, hsh, hst, hin, _⟩ => ⟨d, val, st, hd, hsh, hst, hin hidx⟩

theorem processEncryptedDeal_ok {g : G} {v v' : Verifier F G} {e : EncDeal F G} {rnd : Nat} {r : Response F G}
    (hv : v.agg = none) (hp : processEncryptedDeal g v e rnd = (v', .ok r)) :
    ∃ d val st, decryptDeal g v e = .ok d ∧ d.share = some ⟨(v.index : Int), some val⟩ ∧
      (st = true ↔ Consistent g v.dealer v.vs d) ∧ v' = answered v d st rnd ∧ r = signedResp v d st rnd := by
  rcases processEncryptedDeal_outcome g v e rnd hv with ⟨err, h⟩ | ⟨d, val, st, hd, hsh, hst, hin, hout⟩
  · rw [h] at hp; cases hp
  · by_cases hidx : v.index < v.vs.length
    · rw [hin hidx] at hp; cases hp
      exact ⟨d, val, st, hd, hsh, hst, rfl, rfl⟩
    · obtain ⟨w, h⟩ := hout hidx
      rw [h] at hp; cases hp

theorem process_fresh (g : G) (v : Verifier F G) (e : EncDeal F G) (rnd : Nat) (d : Deal F G)
    (hv : v.agg = none) (hidx : v.index < v.vs.length) (hd : decryptDeal g v e = .ok d) :
    (d.share = none → processEncryptedDeal g v e rnd = (v, .error .noShare)) ∧
    (∀ sh, d.share = some sh → sh.v = none → processEncryptedDeal g v e rnd = (v, .error .noShare)) ∧
    (∀ sh, d.share = some sh → sh.v ≠ none → sh.i ≠ (v.index : Int) →
      processEncryptedDeal g v e rnd = (v, .error .index)) ∧
    (∀ sh, d.share = some sh → sh.v ≠ none → sh.i = (v.index : Int) →
      ∃ v' r, processEncryptedDeal g v e rnd = (v', .ok r) ∧ r.index = v.index ∧
        r.sid = Sid.h v.dealer v.vs d.commits d.t ∧
        r.sig = .sign v.long r.sid v.index r.status rnd ∧
        (r.status = true ↔ Consistent g v.dealer v.vs d)) := by
  refine ⟨?_, ?_, ?_, ?_⟩
  · intro h; simp [processEncryptedDeal, hd, h]
  · intro sh h hn; simp [processEncryptedDeal, hd, h, hn]
  · intro sh h hn hne
    have : sh.v.isNone = false := by cases hsv : sh.v <;> simp_all
    simp [processEncryptedDeal, hd, h, this, hne]
  · rintro ⟨i, _ | val⟩ h hn heq
    · exact absurd rfl hn
    · subst heq
      obtain ⟨st, hst, hp⟩ := processEncryptedDeal_fresh g v e rnd d val hv hd h
      exact ⟨_, _, hp.trans (if_pos hidx), rfl, rfl, rfl, hst⟩

theorem sealDeal_eq_some {g : G} {long eph : F} {L : List G} {i rnd : Nat} {pt : Plain F G} {e0 : EncDeal F G}
    (h : sealDeal g long L i eph rnd pt = some e0) :
    ∃ vpub, L[i]? = some vpub ∧ e0 =
      { dh := .canon (eph • g), sig := .sign long (.canon (eph • g)) rnd, nonce := List.replicate nonceSize 0,
        cipher := .seal ⟨eph • vpub, ⟨long • g, L⟩⟩ (List.replicate nonceSize 0) ⟨long • g, L⟩ pt } := by
  unfold sealDeal at h
  rcases hL : L[i]? with _ | vpub
  · simp [hL] at h
  · simp only [hL, Option.some.injEq] at h
    exact ⟨vpub, rfl, h.symm⟩

theorem decrypt_addressee (g : G) (dlong eph : F) (L : List G) (i rnd : Nat) (d0 : Deal F G)
    (e0 : EncDeal F G) (h0 : sealDeal g dlong L i eph rnd (.deal d0) = some e0)
    (v : Verifier F G) (hdl : v.dealer = dlong • g) (hl : v.vs = L) (hk : L[i]? = some (v.long • g)) :
    decryptDeal g v e0 = .ok d0 := by
  obtain ⟨vpub, hL, rfl⟩ := sealDeal_eq_some h0
  cases hk.symm.trans hL
  refine (decryptDeal_ok_iff g v _ d0).2 ⟨⟨dlong, rnd, rfl, hdl.symm⟩, eph • g, rfl, by simp [nonceSize], ?_⟩
  simp [Verifier.ctx, hdl, hl, smul_comm v.long eph g]

end Dos.Vss
