/-
Composition helper: NATURALITY of the byte-level model of `tbls.Recover` (`Model/Tbls.lean`) in the
point type.  If `φ : P → P'` is injective and respects `0 + •`, and the codecs correspond
(`decode' = map φ ∘ decode`, `encode' ∘ φ = encode`), then `recover` over `P'` at `φ hm` returns exactly
what `recover` over `P` returns at `hm` — for every public polynomial, entry list, `t`, `n`.
This is what transports the theorems proved for an abstract module (C02/C03) to a concrete point type
that is not itself a Mathlib `Module` (the driver's `G1.Pt`): the map to use goes FROM the module TO the
concrete type (every group element has a representative there, `Proofs/ComposeTblsG1Module.lean`), so it
is total and no set of "valid" concrete values has to be carried through the inductions.
-/
import DosModel.Model.Tbls
import Mathlib.Data.List.Basic

set_option linter.unusedSectionVars false

namespace Dos.Compose.Natural
open Dos Dos.Share Dos.Tbls

variable {S : Type} [Add S] [Sub S] [Mul S] [Neg S] [Zero S] [One S] [Inv S] [IntCast S] [DecidableEq S]
variable {P : Type} [Add P] [Zero P] [SMul S P] [DecidableEq P]
variable {P' : Type} [Add P'] [Zero P'] [SMul S P'] [DecidableEq P']

/-- `φ` is an injective homomorphism for `0 + •` -/
structure Hom (S : Type) {P P' : Type} [Add P] [Zero P] [SMul S P] [Add P'] [Zero P'] [SMul S P']
    (φ : P → P') : Prop where
  f0 : φ 0 = 0
  fadd : ∀ a b, φ (a + b) = φ a + φ b
  fsmul : ∀ (k : S) a, φ (k • a) = k • φ a
  inj : Function.Injective φ

/-- the two codecs correspond -/
structure CodecHom (φ : P → P') (cd : Codec P) (cd' : Codec P') : Prop where
  dec : ∀ b, cd'.decode b = (cd.decode b).map φ
  enc : ∀ a, cd'.encode (φ a) = cd.encode a

def mapSh (φ : P → P') (s : PubShare P) : PubShare P' := ⟨s.I, s.V.map φ⟩
def mapNode (φ : P → P') (nd : Node S P) : Node S P' := ⟨nd.pos, nd.x, φ nd.v⟩
def mapOut (φ : P → P') : Out P → Out P'
  | .ok v => .ok (φ v)
  | .err e => .err e
  | .panic s => .panic s

variable {φ : P → P'}

theorem blsVerifyR_nat (h : Hom S φ) {cd : Codec P} {cd' : Codec P'} (hc : CodecHom φ cd cd')
    (x : S) (hm : P) (sv : Bytes) :
    blsVerifyR cd' x (φ hm) sv = blsVerifyR cd x hm sv := by
  unfold blsVerifyR
  rw [hc.dec]
  cases cd.decode sv with
  | none => rfl
  | some s => simp only [Option.map_some, ← h.fsmul, h.inj.eq_iff]

theorem blsVerify_nat (h : Hom S φ) {cd : Codec P} {cd' : Codec P'} (hc : CodecHom φ cd cd')
    (x : S) (hm : P) (sv : Bytes) :
    blsVerify cd' x (φ hm) sv = blsVerify cd x hm sv := by
  unfold blsVerify
  rw [blsVerifyR_nat h hc x hm sv]

theorem collect_nat (h : Hom S φ) {cd : Codec P} {cd' : Codec P'} (hc : CodecHom φ cd cd')
    (pub : List S) (hm : P) (t n : Nat) :
    ∀ (l : List Bytes) (seen : List Nat) (acc : List (PubShare P)),
      collect cd' pub (φ hm) t n l seen (acc.map (mapSh φ))
          = (collect cd pub hm t n l seen acc).map (List.map (mapSh φ)) := by
  intro l
  induction l with
  | nil => exact fun seen acc => rfl
  | cons sig rest ih =>
    intro seen acc
    unfold collect
    cases sigIndex sig with
    | none => exact ih seen acc
    | some i =>
      simp only
      -- the guards one by one: `split_ifs` over both sides at once is three times as dear to check
      by_cases hskip : i ∈ seen ∨ n ≤ i
      · rw [if_pos hskip, if_pos hskip]; exact ih seen acc
      · rw [if_neg hskip, if_neg hskip, blsVerify_nat h hc]
        by_cases hver : blsVerify cd (priEval pub (i : Int)) hm (sigValue sig) = false
        · rw [if_pos hver, if_pos hver]; exact ih seen acc
        · rw [if_neg hver, if_neg hver, hc.dec]
          cases cd.decode (sigValue sig) with
          | none => rfl
          | some pt =>
            have hmap : acc.map (mapSh φ) ++ [(⟨(i : Int), some (φ pt)⟩ : PubShare P')]
                = (acc ++ [(⟨(i : Int), some pt⟩ : PubShare P)]).map (mapSh φ) := by
              simp [mapSh]
            simp only [Option.map_some, hmap, List.length_map]
            by_cases hfull : (acc ++ [(⟨(i : Int), some pt⟩ : PubShare P)]).length ≥ t
            · rw [if_pos hfull, if_pos hfull]; rfl
            · rw [if_neg hfull, if_neg hfull]; exact ih (i :: seen) _

theorem usablePub_nat (n : Nat) (s : Option (PubShare P)) :
    usablePub n (s.map (mapSh φ)) = (usablePub n s).map (fun iv => (iv.1, φ iv.2)) := by
  cases s with
  | none => rfl
  | some sh =>
    obtain ⟨i, v⟩ := sh
    cases v with
    | none => rfl
    | some v =>
      simp only [Option.map_some, mapSh, usablePub]
      split <;> rfl

theorem xCommitAux_nat (n : Nat) : ∀ (l : List (Option (PubShare P))) (pos : Nat) (seen : List Int),
    xCommitAux S n pos seen (l.map (Option.map (mapSh φ)))
      = (xCommitAux S n pos seen l).map (mapNode φ) := by
  intro l
  induction l with
  | nil => intro pos seen; rfl
  | cons s rest ih =>
    intro pos seen
    simp only [List.map_cons, xCommitAux]
    rw [usablePub_nat]
    cases hu : usablePub n s with
    | none => simp only [Option.map_none]; exact ih _ _
    | some iv =>
      obtain ⟨i, v⟩ := iv
      simp only [Option.map_some]
      by_cases hs : i ∈ seen
      · simp only [hs, if_true]; exact ih _ _
      · simp only [hs, if_false, List.map_cons, ih]
        rfl

theorem numDen_nat (xs : List (Node S P)) (i : Node S P) (num0 : S) :
    numDen (xs.map (mapNode φ)) (mapNode φ i) num0 = numDen xs i num0 := by
  unfold numDen
  rw [List.foldl_map]
  rfl

theorem commitStep_nat (h : Hom S φ) (dp : Bool) (X : List (Node S P)) (acc : Out P) (y : Node S P) :
    commitStep dp (X.map (mapNode φ)) (mapOut φ acc) (mapNode φ y)
        = mapOut φ (commitStep dp X acc y) := by
  cases acc with
  | ok a =>
    simp only [commitStep, mapOut]
    rw [numDen_nat]
    cases divOut dp (numDen X y (1 : S)).1 (numDen X y (1 : S)).2 with
    | ok d => simp only [mapNode, h.fadd, h.fsmul]
    | err e => rfl
    | panic s => rfl
  | err e => rfl
  | panic s => rfl

theorem recoverCommit_nat (h : Hom S φ) (dp : Bool) (shares : List (Option (PubShare P))) (t n : Nat) :
    recoverCommit (S := S) dp (shares.map (Option.map (mapSh φ))) t n
      = mapOut φ (recoverCommit (S := S) dp shares t n) := by
  unfold recoverCommit
  simp only
  rw [xCommitAux_nat, List.length_map]
  split_ifs
  · rfl
  · rw [List.foldl_map, ← h.f0]
    exact List.foldl_hom (mapOut φ) (init := .ok 0) (g₁ := commitStep dp _)
      (fun acc y => commitStep_nat h dp _ acc y)

/-- **naturality of `tbls.Recover`** -/
theorem recover_nat (h : Hom S φ) {cd : Codec P} {cd' : Codec P'} (hc : CodecHom φ cd cd')
    (pub : List S) (hm : P) (sigs : List Bytes) (t n : Nat) :
    recover cd' pub (φ hm) sigs t n = recover cd pub hm sigs t n := by
  unfold recover
  split_ifs
  · rfl
  have e := collect_nat h hc pub hm t n (uniq sigs) [] []
  rw [List.map_nil] at e
  rw [e]
  cases collect cd pub hm t n (uniq sigs) [] [] with
  | none => rfl
  | some shares =>
    simp only [Option.map_some]
    rw [show (shares.map (mapSh φ)).map some = (shares.map some).map (Option.map (mapSh φ)) by
      simp [List.map_map, Function.comp_def], recoverCommit_nat h]
    cases recoverCommit (S := S) true (shares.map some) t n with
    | ok c => simp only [mapOut, hc.enc]
    | err e => rfl
    | panic s => rfl

end Dos.Compose.Natural
