/-
Liveness of honest key generation: every event at a member machine (its start, the arrival of a
genuine public key / deal / response) preserves the member invariant; a member that was started and
has received every message at least once is done.
-/
import DosModel.Proofs.DkgLiveLocal

set_option linter.unusedSectionVars false

namespace Dos.Dkg
open Dos Dos.Vss

variable {F G : Type} [Field F] [AddCommGroup G] [Module F G] [DecidableEq F] [DecidableEq G]

/-- the member invariant between events -/
def LocalInv (c : Cfg F G) (ephs : List (List F)) (i : Nat) (m : Member F G) (st : Bool) (sp sd : List Nat)
    (sr : List (Nat × Nat)) : Prop :=
  LocalPre c ephs i m st sp sd sr ∧ Quiescent m

/-- finishing an event: `advance` with its four units of fuel, then the invariant and quiescence -/
theorem finish_event (c : Cfg F G) (ephs : List (List F)) (hw : WellFormed c ephs) (i : Nat) (hi : i < c.n)
    (m : Member F G) (st : Bool) (sp sd : List Nat) (sr : List (Nat × Nat))
    (h : LocalPre c ephs i m st sp sd sr) :
    LocalInv c ephs i (Member.advance c.g 4 m) st sp sd sr :=
  have ⟨h1, h2⟩ := advance_local c ephs hw i hi st sp sd sr 4 m h
  ⟨h1, h2 (by omega)⟩

theorem recvPk_eq (g : G) (m : Member F G) (x : PkMsg G) :
    m.recvPk g x = Member.advance g 4 { m with pkP := (handlePeerMsg dupPk m.pkP x).1,
                                               pkBox := orElse m.pkBox (handlePeerMsg dupPk m.pkP x).2 } := rfl
theorem recvDeal_eq (g : G) (m : Member F G) (x : DkgDeal F G) :
    m.recvDeal g x = Member.advance g 4 { m with dlP := (handlePeerMsg dupDeal m.dlP x).1,
                                                 dlBox := orElse m.dlBox (handlePeerMsg dupDeal m.dlP x).2 } := rfl
theorem recvResp_eq (g : G) (m : Member F G) (x : DkgResp F G) :
    m.recvResp g x = Member.advance g 4 { m with rsP := (handlePeerMsg dupResp m.rsP x).1,
                                                 rsBox := orElse m.rsBox (handlePeerMsg dupResp m.rsP x).2 } := rfl

theorem step_pk (c : Cfg F G) (ephs : List (List F)) (hw : WellFormed c ephs) (i : Nat) (hi : i < c.n)
    (m : Member F G) (st : Bool) (sp sd : List Nat) (sr : List (Nat × Nat))
    (h : LocalInv c ephs i m st sp sd sr) (x : PkMsg G) (hx : GPk c i x) :
    LocalInv c ephs i (m.recvPk c.g x) st (keyPk x :: sp) sd sr := by
  rw [recvPk_eq]
  exact finish_event c ephs hw i hi _ _ _ _ _ { h.1 with
    ppk := h.1.ppk.msg (fun _ _ _ _ => rfl) ((mem_others c.n i _).2 ⟨hx.1, hx.2.1⟩) hx }

theorem step_dl (c : Cfg F G) (ephs : List (List F)) (hw : WellFormed c ephs) (i : Nat) (hi : i < c.n)
    (m : Member F G) (st : Bool) (sp sd : List Nat) (sr : List (Nat × Nat))
    (h : LocalInv c ephs i m st sp sd sr) (x : DkgDeal F G) (hx : GDl c i x) :
    LocalInv c ephs i (m.recvDeal c.g x) st sp (keyDl x :: sd) sr := by
  have hlt : x.index < c.n := by obtain ⟨_, _, _, h1, _⟩ := hx.1; exact h1
  rw [recvDeal_eq]
  exact finish_event c ephs hw i hi _ _ _ _ _ { h.1 with
    pdl := h.1.pdl.msg (fun _ _ _ _ => rfl) ((mem_others c.n i _).2 ⟨hlt, hx.2⟩) hx }

theorem step_rs (c : Cfg F G) (ephs : List (List F)) (hw : WellFormed c ephs) (i : Nat) (hi : i < c.n)
    (m : Member F G) (st : Bool) (sp sd : List Nat) (sr : List (Nat × Nat))
    (h : LocalInv c ephs i m st sp sd sr) (x : DkgResp F G) (hx : GRs c i x) :
    LocalInv c ephs i (m.recvResp c.g x) st sp sd (keyRs x :: sr) := by
  rw [recvResp_eq]
  exact finish_event c ephs hw i hi _ _ _ _ _ { h.1 with
    prs := h.1.prs.msg (fun a b ha hb => dupResp_eq c i a b ha hb) hx.key hx }

/-- a whole `Responses` message -/
theorem step_rss (c : Cfg F G) (ephs : List (List F)) (hw : WellFormed c ephs) (i : Nat) (hi : i < c.n) :
    ∀ (xs : List (DkgResp F G)) (m : Member F G) (st : Bool) (sp sd : List Nat) (sr : List (Nat × Nat)),
      LocalInv c ephs i m st sp sd sr → (∀ x ∈ xs, GRs c i x) →
      LocalInv c ephs i (m.recvResps c.g xs) st sp sd ((xs.map keyRs).reverse ++ sr) := by
  intro xs
  induction xs with
  | nil => intro m st sp sd sr h _; simpa [Member.recvResps] using h
  | cons x xs ih =>
    intro m st sp sd sr h hx
    have h1 := step_rs c ephs hw i hi m st sp sd sr h x (hx x (by simp))
    have h2 := ih (m.recvResp c.g x) st sp sd (keyRs x :: sr) h1 (fun y hy => hx y (by simp [hy]))
    simpa [Member.recvResps, List.reverse_cons, List.append_assoc] using h2

def afterStart (m : Member F G) (p0 : Pair (PkMsg G)) (p1 : Pair (DkgDeal F G)) (p2 : Pair (DkgResp F G))
    (b0 : Option (List (PkMsg G))) (b1 : Option (List (DkgDeal F G))) (b2 : Option (List (DkgResp F G)))
    (pk : PkMsg G) : Member F G :=
  { m with pkP := p0, dlP := p1, rsP := p2, pkBox := b0, dlBox := b1, rsBox := b2, stage := .waitPk, sent := m.sent ++ [Sent.pk pk] }

theorem start_eq (g : G) (m : Member F G) (h : m.stage = .idle) :
    Member.start g m = Member.advance g 4 (afterStart m (handleRequest m.pkP (m.n - 1)).1 (handleRequest m.dlP (m.n - 1)).1
      (handleRequest m.rsP ((m.n - 1) * (m.n - 1))).1 (handleRequest m.pkP (m.n - 1)).2 (handleRequest m.dlP (m.n - 1)).2
      (handleRequest m.rsP ((m.n - 1) * (m.n - 1))).2 ⟨m.index, some (m.long • g), m.index⟩) := by
  unfold Member.start
  simp only [h]
  rfl

theorem start_noop (g : G) (m : Member F G) (h : m.stage ≠ .idle) : Member.start g m = m := by
  unfold Member.start
  cases hs : m.stage <;> simp_all

/-- `Grouping`: each of the three requests asks for as many messages as its pair has keys -/
theorem step_start (c : Cfg F G) (ephs : List (List F)) (hw : WellFormed c ephs) (i : Nat) (hi : i < c.n)
    (m : Member F G) (st : Bool) (sp sd : List Nat) (sr : List (Nat × Nat))
    (h : LocalInv c ephs i m st sp sd sr) : LocalInv c ephs i (Member.start c.g m) true sp sd sr := by
  by_cases hidle : m.stage = .idle
  · obtain ⟨h, _⟩ := h
    obtain rfl : st = false := h.hst.2 hidle
    have hppk := h.ppk; have hpdl := h.pdl; have hprs := h.prs
    have hsent := h.hsent
    rw [hidle] at hppk hpdl hprs hsent
    have s0 := hppk.reg; have s1 := hpdl.reg; have s2 := hprs.reg
    rw [length_others c.n i hi] at s0 s1
    rw [length_respKeys c.n i hi] at s2
    rw [start_eq c.g m hidle, h.hn]
    refine finish_event c ephs hw i hi _ _ _ _ _ ⟨h.hn, h.hidx, h.hlong, h.hf, h.hephs, s0, s1, s2, by simp [afterStart],
      trivial, ?_⟩
    have hpk : (⟨m.index, some (m.long • c.g), m.index⟩ : PkMsg G) = c.pkMsg i := by rw [h.hidx, h.hlong]; rfl
    exact hsent.snoc _ (fun s hs => by rw [List.mem_singleton.1 hs]; exact hpk) (fun _ => by rw [hpk]; exact List.mem_singleton_self _)
      (fun h1 => by cases h1) (fun h2 => by cases h2)
  · rw [start_noop c.g m hidle]
    obtain rfl : st = true := by
      cases st
      · exact absurd (h.1.hst.1 rfl) hidle
      · rfl
    exact h

/-- a started member is never stuck in front of a complete set of messages, and has not failed -/
theorem local_rank (c : Cfg F G) (ephs : List (List F)) (i : Nat)
    (m : Member F G) (sp sd : List Nat) (sr : List (Nat × Nat)) (h : LocalInv c ephs i m true sp sd sr) :
    (stageRank m.stage = 1 → ¬ ∀ j ∈ others c.n i, j ∈ sp) ∧ (stageRank m.stage = 2 → ¬ ∀ j ∈ others c.n i, j ∈ sd) ∧
    (stageRank m.stage = 3 → ¬ ∀ p ∈ respKeys c.n i, p ∈ sr) ∧ 1 ≤ stageRank m.stage ∧ stageRank m.stage ≤ 4 := by
  obtain ⟨h, hq⟩ := h
  refine ⟨fun hr hall => ?_, fun hr hall => ?_, fun hr hall => ?_, ?_, h.rank_le⟩
  · have := h.ppk; rw [hr] at this
    have := this.fired_of_all (nodup_others c.n i) hall
    rw [hq.1 hr] at this; cases this
  · have := h.pdl; rw [hr] at this
    have := this.fired_of_all (nodup_others c.n i) hall
    rw [hq.2.1 hr] at this; cases this
  · have := h.prs; rw [hr] at this
    have := this.fired_of_all (nodup_respKeys c.n i) hall
    rw [hq.2.2 hr] at this; cases this
  · refine Nat.pos_of_ne_zero (fun h0 => ?_)
    have := h.hst.2 (stageRank_eq_zero.1 h0); cases this

/-- **a member that was started and has received every message at least once is done** -/
theorem local_done (c : Cfg F G) (ephs : List (List F)) (i : Nat)
    (m : Member F G) (sp sd : List Nat) (sr : List (Nat × Nat)) (h : LocalInv c ephs i m true sp sd sr)
    (hp : ∀ j ∈ others c.n i, j ∈ sp) (hd : ∀ j ∈ others c.n i, j ∈ sd) (hr : ∀ p ∈ respKeys c.n i, p ∈ sr) :
    ∃ d ks, m.stage = .done d ks := by
  obtain ⟨h1, h2, h3, h4, h5⟩ := local_rank c ephs i m sp sd sr h
  have a1 : stageRank m.stage ≠ 1 := fun h => h1 h hp
  have a2 : stageRank m.stage ≠ 2 := fun h => h2 h hd
  have a3 : stageRank m.stage ≠ 3 := fun h => h3 h hr
  exact stageRank_eq_four (by omega)

end Dos.Dkg
