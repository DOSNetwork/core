/-
C14: wait groups.  For a wait group that passes W5 the counter always equals the number of
goroutines that still owe their `wgDone` (`wg_counts_debt`), so it never goes negative (`wg_safe`).
-/
import DosModel.Proofs.PipeSafe

namespace Dos.Pipe
variable {p : Pipeline}

/-- 1 if the goroutine still owes a `wgDone w` in this control state -/
def owe (gr : Goroutine) (w : Nat) (st : GSt) : Nat := if labelAt (owes gr w) (some st) then 1 else 0

theorem owe_at (gr : Goroutine) (w : Nat) (pc : Pc) :
    owe gr w (GSt.at pc) = if mark (owes gr w) pc then 1 else 0 := rfl
theorem owe_idle (gr : Goroutine) (w : Nat) : owe gr w GSt.idle = owe gr w (GSt.at 0) := rfl
theorem owe_done (gr : Goroutine) (w : Nat) : owe gr w GSt.done = 0 := rfl
theorem owe_at_true {gr : Goroutine} {w : Nat} {pc : Pc} (h : mark (owes gr w) pc = true) :
    owe gr w (GSt.at pc) = 1 := by rw [owe_at, h]; rfl
theorem owe_at_false {gr : Goroutine} {w : Nat} {pc : Pc} (h : mark (owes gr w) pc = false) :
    owe gr w (GSt.at pc) = 0 := by rw [owe_at, h]; rfl
theorem owe_at_congr {gr : Goroutine} {w : Nat} {pc n : Pc} (h : mark (owes gr w) n = mark (owes gr w) pc) :
    owe gr w (GSt.at n) = owe gr w (GSt.at pc) := by rw [owe_at, owe_at, h]

/-- total debt of the goroutines `grs` in control states `sts` -/
def debt (w : Nat) : List Goroutine → List GSt → Nat
  | gr :: grs, st :: sts => owe gr w st + debt w grs sts
  | _, _ => 0

theorem debt_set (w : Nat) : ∀ (grs : List Goroutine) (sts : List GSt) (i : Nat) (gr : Goroutine) (st st' : GSt),
    grs[i]? = some gr → sts[i]? = some st →
    debt w grs (sts.set i st') + owe gr w st = debt w grs sts + owe gr w st' := by
  intro grs
  induction grs with
  | nil => intro sts i gr st st' h; simp at h
  | cons g0 grs ih =>
    intro sts i gr st st' hg hs
    cases sts with
    | nil => simp at hs
    | cons s0 sts =>
      cases i with
      | zero =>
        simp only [List.getElem?_cons_zero, Option.some.injEq] at hg hs
        subst hg; subst hs
        simp only [List.set_cons_zero, debt]
        omega
      | succ i =>
        simp only [List.getElem?_cons_succ] at hg hs
        simp only [List.set_cons_succ, debt]
        have := ih sts i gr st st' hg hs
        omega

theorem debt_ge (w : Nat) (grs : List Goroutine) (sts : List GSt) (i : Nat) (gr : Goroutine) (st : GSt)
    (hg : grs[i]? = some gr) (hs : sts[i]? = some st) : owe gr w st ≤ debt w grs sts := by
  have := debt_set w grs sts i gr st GSt.done hg hs
  rw [owe_done] at this
  omega

theorem debt_zero (w : Nat) : ∀ (grs : List Goroutine) (sts : List GSt),
    (∀ (i : Nat) (gr : Goroutine) (st : GSt), grs[i]? = some gr → sts[i]? = some st → owe gr w st = 0) →
    debt w grs sts = 0 := by
  intro grs
  induction grs with
  | nil => intro sts _; cases sts <;> rfl
  | cons g0 grs ih =>
    intro sts h
    cases sts with
    | nil => rfl
    | cons s0 sts =>
      simp only [debt]
      have h0 := h 0 g0 s0 (by simp) (by simp)
      have := ih sts (fun i gr st hg hs => h (i + 1) gr st (by simpa using hg) (by simpa using hs))
      omega

theorem owesOk_parts {gr : Goroutine} {w : Nat} (h : owesOk gr w = true) {pc : Pc} {nd : Node}
    (hn : gr.nodes[pc]? = some nd) :
    (nd.isExit = true → mark (owes gr w) pc = false) ∧
    (nd.isDone w = true → mark (owes gr w) pc = true ∧ ∀ j ∈ nd.succs, mark (owes gr w) j = false) ∧
    (nd.isDone w = false → ∀ j ∈ nd.succs, mark (owes gr w) j = mark (owes gr w) pc) := by
  unfold owesOk at h
  have := zipIdx_all h hn
  simp only [Bool.and_eq_true, Bool.or_eq_true, Bool.not_eq_true'] at this
  obtain ⟨h1, h2⟩ := this
  refine ⟨?_, ?_, ?_⟩
  · intro he
    rcases h1 with h1 | h1
    · rw [he] at h1; cases h1
    · exact h1
  · intro hd
    rw [if_pos hd] at h2
    simp only [Bool.and_eq_true, List.all_eq_true, Bool.not_eq_true'] at h2
    exact h2
  · intro hd
    rw [if_neg (by simp [hd])] at h2
    simp only [List.all_eq_true, beq_iff_eq] at h2
    exact h2

/-- the debt is conserved along every edge except a `wgDone w` edge, which pays it -/
theorem owe_edge {gr : Goroutine} {w : Nat} (h : owesOk gr w = true) {pc : Pc} {nd : Node}
    (hn : gr.nodes[pc]? = some nd) {l : Lab} {n : Pc} (hed : (l, n) ∈ nd.edges) :
    owe gr w (GSt.at pc) = owe gr w (GSt.at n) + if l = .wgDone w then 1 else 0 := by
  have hok := owesOk_parts h hn
  have hsucc := mem_succs_of_edge hed
  cases hd : nd.isDone w with
  | true =>
    have hl := lab_of_isDone hd hed
    rw [if_pos hl, owe_at_true (hok.2.1 hd).1, owe_at_false ((hok.2.1 hd).2 n hsucc)]
  | false =>
    have hl : l ≠ .wgDone w := by
      intro hl; subst hl
      rw [isDone_of_edge hed] at hd; cases hd
    rw [if_neg hl, owe_at_congr (hok.2.2 hd n hsucc), Nat.add_zero]

/-- all the facts about wait group `w` that the rules check -/
structure WgOk (p : Pipeline) (w : Nat) : Prop where
  owes : ∀ gr ∈ p.gs, owesOk gr w = true
  init : ∃ x, p.wgs[w]? = some x ∧ x.init = (p.gs.filter (fun gr => owesAtEntry gr w)).length

theorem wgOk_of_W5w {w : Nat} (h : W5w p w = true) : WgOk p w := by
  unfold W5w at h
  simp only [Bool.and_eq_true, List.all_eq_true] at h
  refine ⟨h.1, ?_⟩
  have h2 := h.2
  split at h2
  · rename_i x hx
    exact ⟨x, hx, by simpa using h2⟩
  · cases h2

theorem debt_init (w : Nat) : ∀ (grs : List Goroutine),
    debt w grs (grs.map (fun g => if g.static then GSt.at 0 else GSt.idle)) =
      (grs.filter (fun gr => owesAtEntry gr w)).length := by
  intro grs
  induction grs with
  | nil => rfl
  | cons g grs ih =>
    simp only [List.map_cons, debt, List.filter_cons, ih]
    have : owe g w (if g.static then GSt.at 0 else GSt.idle) = if owesAtEntry g w then 1 else 0 := by
      cases g.static <;> rfl
    rw [this]
    split <;> simp <;> omega

theorem init_wg (p : Pipeline) (w : Nat) : (init p).wg w = match p.wgs[w]? with | some x => x.init | none => 0 := by
  unfold init State.wg
  simp only [List.getElem?_map]
  cases p.wgs[w]? <;> rfl

theorem act_gs (s : State) (l : Lab) (g : Gi) (n : Pc) :
    ((effect s l).setG g (.at n)).gs = ((effect s l).gs).set g (.at n) := rfl

theorem effect_debt (w : Nat) (s : State) (l : Lab) (hlen : s.gs.length = p.gs.length) :
    debt w p.gs (effect s l).gs = debt w p.gs s.gs := by
  rcases effect_gs_cases s l with h | ⟨g, _, hidle, h⟩ <;> rw [h]
  have hlt : g < p.gs.length := by rw [← hlen]; exact (List.getElem?_eq_some_iff.mp hidle).1
  have := debt_set w p.gs s.gs g p.gs[g] GSt.idle (GSt.at 0) (List.getElem?_eq_getElem hlt) hidle
  have e : owe p.gs[g] w GSt.idle = owe p.gs[g] w (GSt.at 0) := owe_idle _ w
  omega

theorem wg_counts_debt {w : Nat} (hw : WgOk p w) :
    ∀ s, Reach p s → s.gs.length = p.gs.length ∧ s.wg w = debt w p.gs s.gs := by
  apply reach_inv
  · obtain ⟨x, hx, hxi⟩ := hw.init
    refine ⟨by simp [init], ?_⟩
    rw [init_wg, hx]
    simp only [init]
    rw [debt_init, hxi]
  · intro s e s' _ ih hst
    obtain ⟨hlen, hcnt⟩ := ih
    cases hst with
    | env k hk hd => exact ⟨by simpa using hlen, by simpa using hcnt⟩
    | act g pc nd l n hat hnd hed hgd hdf =>
      refine ⟨by simp [effect_gs_length, hlen], ?_⟩
      obtain ⟨gr, hg, hn⟩ := node_some hnd
      have hedge := owe_edge (hw.owes gr (List.mem_of_getElem? hg)) hn hed
      have hat2 := effect_get_at l hat
      have hset := debt_set w p.gs (effect s l).gs g gr (GSt.at pc) (GSt.at n) hg hat2
      rw [effect_debt w s l hlen] at hset
      simp only [State.setG_wg, State.setG_gs]
      rw [effect_wg]
      by_cases hl : l = .wgDone w
      · subst hl
        have hpos : 0 < s.wg w := by simpa [guard] using hgd
        rw [if_pos rfl] at hedge ⊢
        omega
      · rw [if_neg hl] at hedge ⊢
        omega
    | sync g pc nd n g' pc' nd' n' c hne hat hnd hed hat' hnd' hed' hcap hcl =>
      refine ⟨by simp [hlen], ?_⟩
      obtain ⟨gr, hg, hn⟩ := node_some hnd
      obtain ⟨gr', hg', hn'⟩ := node_some hnd'
      have h1 := owe_edge (hw.owes gr (List.mem_of_getElem? hg)) hn hed
      have h2 := owe_edge (hw.owes gr' (List.mem_of_getElem? hg')) hn' hed'
      rw [if_neg (by simp)] at h1 h2
      have hat2 : (s.setG g (GSt.at n)).gs[g']? = some (GSt.at pc') := by
        rw [State.setG_get_ne hne]; exact hat'
      have hs1 := debt_set w p.gs s.gs g gr (GSt.at pc) (GSt.at n) hg hat
      have hs2 := debt_set w p.gs (s.setG g (GSt.at n)).gs g' gr' (GSt.at pc') (GSt.at n') hg' hat2
      simp only [State.setG_wg, State.setG_gs] at hs2 ⊢
      omega
    | exit g pc hat hnd =>
      refine ⟨by simp [hlen], ?_⟩
      obtain ⟨gr, hg, hn⟩ := node_some hnd
      have hok := owesOk_parts (hw.owes gr (List.mem_of_getElem? hg)) hn
      have h1 : owe gr w (GSt.at pc) = 0 := owe_at_false (hok.1 (by simp [Node.isExit]))
      have h2 : owe gr w GSt.done = 0 := owe_done gr w
      have hs1 := debt_set w p.gs s.gs g gr (GSt.at pc) GSt.done hg hat
      simp only [State.setG_wg, State.setG_gs]
      omega

theorem wg_zero_mono {w : Nat} {s s' : State} {e : Ev} (hst : Step p s e (.run s'))
    (h : s.wg w = 0) : s'.wg w = 0 := by
  rw [(step_rest hst).wg, effect_wg, h]; split <;> rfl

/-- a wait group that passes W5 never goes negative -/
theorem wg_safe {w : Nat} (h : W5w p w = true) : ¬ CrashReachable p (.wgNegative w) := by
  have hw := wgOk_of_W5w h
  rintro ⟨s, e, g, pc, hr, hst⟩
  cases hst with
  | crash g pc nd l n k hat hnd hed hk =>
    obtain ⟨hl, h0⟩ := crashOf_wg hk
    subst hl
    obtain ⟨hlen, hcnt⟩ := wg_counts_debt hw s hr
    obtain ⟨gr, hg, hn⟩ := node_some hnd
    have h1 := owe_edge (hw.owes gr (List.mem_of_getElem? hg)) hn hed
    rw [if_pos rfl] at h1
    have := debt_ge w p.gs s.gs g gr (GSt.at pc) hg hat
    omega

end Dos.Pipe
