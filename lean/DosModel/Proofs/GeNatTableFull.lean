/-
C20 — the WHOLE precomputed table `base` of group/edwards25519/const.go:  all 32 × 8 entries

      base[i][j] = (j+1)·256^i·B        as (y+x, y−x, 2dxy), every limb within the 1 × bound.

The checker `chkTab` of Proofs/GeNatTable.lean, evaluated by the kernel (256 doublings,
224 additions and 256 × 3 congruences on naturals modulo 2^255 − 19), and its soundness theorem.
-/
import DosModel.Proofs.GeNatTable

set_option exponentiation.threshold 600

namespace Dos.Ge
open Dos Dos.Ed25519 Dos.FeProg Dos.FeOps Dos.GeProg Dos.Ed25519Prime Dos.Edwards

theorem full_chk : chkTab Dos.Ed.base Gen.Ed25519GeTable.c_base = true := by decide +kernel

theorem baseTable_ok : BaseTableOK basePt := baseTable_of_chk full_chk

theorem baseTable_sample_ok : ∀ i j, i < 32 → j < 8 → (i = 0 ∨ i = 1 ∨ i = 31 ∨ j = 0) →
    GoodPre (preOf ((Gen.Ed25519GeTable.c_base.getD i []).getD j [])) (((j + 1) * 256 ^ i) • basePt) :=
  fun i j hi hj _ => baseTable_ok i j hi hj

theorem baseTable_row (i : Nat) (hi : i < 32) : ∀ j, j < 8 →
    GoodPre (preOf ((Gen.Ed25519GeTable.c_base.getD i []).getD j [])) ((j + 1) • ((256 ^ i) • basePt)) := by
  intro j hj
  rw [← mul_nsmul']
  exact baseTable_ok i j hi hj

end Dos.Ge

#print axioms Dos.Ge.baseTable_ok
#print axioms Dos.Ge.baseTable_sample_ok
