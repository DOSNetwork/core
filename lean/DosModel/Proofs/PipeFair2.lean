/-
C14 fairness: the core lemma.  A goroutine `g` whose escape edges are enabled at every
position from `T` on (context 0 done, lower-ranked pipeline goroutines returned) cannot, in a fair
run, stay for ever inside the scope of a distance labeling without reaching a target node.

Proof idea: `g` is continuously enabled (`escape_step`), so by weak fairness it moves infinitely
often; among the finitely many nodes it leaves infinitely often take one, `pc`, of least distance;
its distance-decreasing escape edge `(l, n)` is taken infinitely often (by the `cancel` / `timer` /
`data` clause of `Fair`, or because it is the only edge, or — closed branch of a `range` — because a
closed channel cannot be drained infinitely often); then `n` is left infinitely often too, with a
smaller distance.
-/
import DosModel.Proofs.PipeFair1

namespace Dos.Pipe

/-- the kinds of escape edges -/
theorem esc_class {p : Pipeline} {g : Gi} {nd : Node} {l : Lab} {n : Pc} (h : (l, n) ∈ escEdges p g nd) :
    l = .ctx 0 ∨ l = .tick ∨
    (∃ c a, nd = .sel [.recv c a n] ∧ l = .recvCl c ∧ rangeOk p g c = true) ∨
    l = .tau ∨ nd.edges = [(l, n)] := by
  rcases mem_escEdges_cases h with ⟨alts, rfl⟩ | ⟨ns, rfl, rfl⟩ | ⟨c, rfl, rfl⟩ | ⟨w, rfl, rfl⟩ | ⟨w, rfl, rfl⟩ |
      ⟨g', rfl, rfl⟩ | ⟨k, rfl, rfl⟩
  · rcases mem_escEdges_sel h with ⟨rfl, _⟩ | ⟨rfl, _⟩ | ⟨c, a, rfl, rfl, hr⟩
    · exact Or.inl rfl
    · exact Or.inr (Or.inl rfl)
    · exact Or.inr (Or.inr (Or.inl ⟨c, a, rfl, rfl, hr⟩))
  · exact Or.inr (Or.inr (Or.inr (Or.inl rfl)))
  all_goals exact Or.inr (Or.inr (Or.inr (Or.inr rfl)))

variable {p : Pipeline}

/-- a move away from a node with a single quiet edge is a move along that edge -/
theorem single_takes {r : Run p} {g : Gi} {pc : Pc} {nd : Node} {l : Lab} {n : Pc}
    (hnd : p.node g pc = some nd) (hed : nd.edges = [(l, n)]) (hq : l.quiet = true) {i : Nat}
    (hm : r.movesFrom g pc i) : r.takes g pc l n i := by
  obtain ⟨hat, e, he, hmv⟩ := hm
  rcases move_cases (r.step_of_ev he) hat hnd hmv with ⟨l', n', hmem, hgs, ht⟩ | ⟨hex, _⟩
  · rw [hed] at hmem
    simp only [List.mem_singleton, Prod.mk.injEq] at hmem
    obtain ⟨rfl, rfl⟩ := hmem
    cases ht with
    | act => exact ⟨hat, he, hgs⟩
    | send => cases hq
    | recv => cases hq
  · subst hex; simp [Node.edges] at hed

/-- a goroutine that leaves the head of a `range` over a closed channel infinitely often leaves it
    infinitely often through the closed branch -/
theorem range_takes {r : Run p} {g : Gi} {pc : Pc} {c : Ch} {a b : Pc}
    (hnd : p.node g pc = some (.sel [.recv c a b])) {T : Nat}
    (hcl : ∀ i, T ≤ i → (r.st i).closed c = true) (hinf : InfOften (r.movesFrom g pc)) :
    InfOften (r.takes g pc (.recvCl c) b) := by
  apply Classical.byContradiction
  intro hno
  obtain ⟨T1, hT1⟩ := not_infOften hno
  apply no_infinite_descent (fun i => (r.st i).len c) (max T T1)
  · intro i hi
    rcases r.step_cases i with ⟨e, _, hst⟩ | ⟨_, heq⟩
    · exact (len_closed_step hst (hcl i (by omega))).1
    · rw [heq]; exact Nat.le_refl _
  · intro T'
    obtain ⟨i, hi, hm⟩ := hinf (max T' (max T T1))
    refine ⟨i, by omega, ?_⟩
    obtain ⟨hat, e, he, hmv⟩ := hm
    have hst := r.step_of_ev he
    rcases move_cases hst hat hnd hmv with ⟨l', n', hmem, hgs, ht⟩ | ⟨hex, _⟩
    · simp only [Node.edges, Alt.edges, List.flatMap_cons, List.flatMap_nil, List.append_nil,
        List.mem_cons, Prod.mk.injEq, List.not_mem_nil, or_false] at hmem
      rcases hmem with ⟨rfl, _⟩ | ⟨rfl, rfl⟩
      · -- a receive: alone it shortens the buffer; a rendezvous needs the channel open
        cases ht with
        | act => exact (len_closed_step hst (hcl i (by omega))).2 g rfl
        | recv _ hopen => rw [hcl i (by omega)] at hopen; cases hopen
      · cases ht
        exact absurd ⟨hat, he, hgs⟩ (hT1 i (by omega))
    · cases hex

/-- taking an edge to `n` infinitely often, and moving infinitely often: leaving `n` infinitely often -/
theorem takes_then_leaves {r : Run p} {g : Gi} {pc : Pc} {l : Lab} {n : Pc}
    (ht : InfOften (r.takes g pc l n)) (hm : InfOften (r.movesAt g)) : InfOften (r.movesFrom g n) := by
  intro T
  obtain ⟨i, hi, _, _, hgs⟩ := ht T
  obtain ⟨j, hj, hmj⟩ := hm (i + 1)
  obtain ⟨j', h1, _, h3⟩ := r.next_move hgs hj hmj
  exact ⟨j', by omega, h3⟩

/-- what the core lemma assumes about `g` at every position from `T` on -/
structure EscHyp (p : Pipeline) (r : Run p) (g : Gi) (gr : Goroutine) (tgt : Node → Bool)
    (scope : Nat → Bool) (T : Nat) : Prop where
  hg : p.gs[g]? = some gr
  pos : ∀ i, T ≤ i → ∃ pc nd, (r.st i).gs[g]? = some (.at pc) ∧ gr.nodes[pc]? = some nd ∧
    scope pc = true ∧ tgt nd = false ∧ nodeLive p g nd = true
  cancelled : ∀ i, T ≤ i → (r.st i).ctxDone 0 = true
  lower : ∀ i, T ≤ i → ∀ g' gr', p.gs[g']? = some gr' → gr'.static = true → gr'.daemon = false →
    rankOf p g' < rankOf p g → (r.st i).gs[g']? = some .done

section core
variable {r : Run p} {g : Gi} {gr : Goroutine} {tgt : Node → Bool} {scope : Nat → Bool} {T : Nat}
  {dl : List Nat}

theorem EscHyp.liveAt (H : EscHyp p r g gr tgt scope T) {i : Nat} (hi : T ≤ i) {pc : Pc} {nd : Node}
    (hat : (r.st i).gs[g]? = some (.at pc)) (hn : gr.nodes[pc]? = some nd) (hl : nodeLive p g nd = true) :
    LiveAt p (r.st i) g gr pc nd :=
  ⟨r.reach i, H.cancelled i hi, H.hg, hn, hat, H.lower i hi, hl⟩

theorem esc_enabled (h0 : W0 p = true) (hsafe : NoCrash p) (H : EscHyp p r g gr tgt scope T)
    (hd : distOk (escEdges p g) gr.nodes tgt scope dl = true) :
    ∀ i, T ≤ i → Enabled p (r.st i) g := by
  intro i hi
  obtain ⟨pc, nd, hat, hn, hs, ht, hl⟩ := H.pos i hi
  obtain ⟨l, n, he, _⟩ := distOk_edge hd hn hs ht
  rcases escape_step h0 hsafe (H.liveAt hi hat hn hl) he with hstep | ⟨c, n', _, _, _, hstep⟩
  · exact ⟨_, _, hstep, by simp [Ev.moves]⟩
  · exact ⟨_, _, hstep, by simp [Ev.moves]⟩

theorem esc_moves (h0 : W0 p = true) (hsafe : NoCrash p) (H : EscHyp p r g gr tgt scope T)
    (hd : distOk (escEdges p g) gr.nodes tgt scope dl = true) (hw : WeakFairG r g) :
    InfOften (r.movesAt g) := by
  intro T'
  obtain ⟨i, hi, hm⟩ := hw (max T T') (fun i hi => esc_enabled h0 hsafe H hd i (by omega))
  exact ⟨i, by omega, hm⟩

/-- from a node left infinitely often, a node of smaller distance is left infinitely often -/
theorem esc_descends (h0 : W0 p = true) (hsafe : NoCrash p) (hf : Fair r)
    (H : EscHyp p r g gr tgt scope T)
    (hd : distOk (escEdges p g) gr.nodes tgt scope dl = true) {pc : Pc}
    (hinf : InfOften (r.movesFrom g pc)) :
    ∃ n, distAt dl n < distAt dl pc ∧ InfOften (r.movesFrom g n) := by
  have hmoves := esc_moves h0 hsafe H hd (hf.weak g)
  obtain ⟨i0, hi0, hat0, _⟩ := hinf T
  obtain ⟨pc', nd, hat, hn, hs, ht, hl⟩ := H.pos i0 hi0
  rw [hat0] at hat
  simp only [Option.some.injEq, GSt.at.injEq] at hat
  subst hat
  obtain ⟨l, n, he, hlt⟩ := distOk_edge hd hn hs ht
  have hnd := node_of H.hg hn
  have hedge := esc_sub_edges he
  refine ⟨n, hlt, ?_⟩
  rcases esc_class he with hl0 | hl0 | ⟨c, a, hsel, hl0, hrange⟩ | hl0 | hsingle
  · -- the context alternative
    subst hl0
    refine takes_then_leaves (pc := pc) (l := .ctx 0) ?_ hmoves
    apply hf.cancel g pc 0 n nd hnd hedge
    exact (hinf.and_eventually ⟨T, fun i hi => H.cancelled i hi⟩).mono
      (fun i h => ⟨h.1, by simpa [guard] using h.2⟩)
  · -- a timer alternative
    subst hl0
    refine takes_then_leaves (pc := pc) (l := .tick) ?_ hmoves
    apply hf.timer g pc n nd hnd hedge
    exact hinf.mono (fun i h => ⟨h, by simp [guard]⟩)
  · -- the closed branch of a range
    subst hl0; subst hsel
    refine takes_then_leaves (pc := pc) (l := .recvCl c) ?_ hmoves
    obtain ⟨hc, grh, hgh, hst, hdm, hrk, hcl⟩ := rangeOk_parts hrange
    have hin : c < p.chans.length := by
      have := (W0_edge h0 H.hg hn hedge).1
      simpa [Lab.inRange] using this
    exact range_takes hnd
      (fun i hi => closer_closed hgh hcl hin (r.st i) (r.reach i) (Or.inl (H.lower i hi hc grh hgh hst hdm hrk)))
      hinf
  · -- an internal choice
    subst hl0
    refine takes_then_leaves (pc := pc) (l := .tau) ?_ hmoves
    apply hf.data g pc n nd hnd hedge
    exact hinf.mono (fun i h => ⟨h, by simp [guard]⟩)
  · -- the only edge
    refine takes_then_leaves (pc := pc) (l := l) ?_ hmoves
    exact hinf.mono (fun i h => single_takes hnd hsingle (esc_quiet he) h)

/-- **the core lemma**: the situation of `EscHyp` cannot last for ever in a fair run -/
theorem fair_escape (h0 : W0 p = true) (hsafe : NoCrash p) (hf : Fair r)
    (H : EscHyp p r g gr tgt scope T)
    (hd : distOk (escEdges p g) gr.nodes tgt scope dl = true) : False := by
  have hmoves := esc_moves h0 hsafe H hd (hf.weak g)
  -- some node is left infinitely often
  have hsome : ∃ pc, InfOften (r.movesFrom g pc) := by
    have : InfOften (fun i => ∃ k, k < gr.nodes.length ∧ r.movesFrom g k i) := by
      intro T'
      obtain ⟨i, hi, hm⟩ := hmoves (max T T')
      obtain ⟨pc, nd, hat, hn, _⟩ := H.pos i (by omega)
      exact ⟨i, by omega, pc, (List.getElem?_eq_some_iff.mp hn).1, hat, hm⟩
    obtain ⟨k, _, hk⟩ := infOften_pigeon gr.nodes.length this
    exact ⟨k, hk⟩
  obtain ⟨pc, hinf, hmin⟩ := exists_min_of (fun pc => InfOften (r.movesFrom g pc)) (distAt dl) hsome
  obtain ⟨n, hlt, hn⟩ := esc_descends h0 hsafe hf H hd hinf
  have := hmin n hn
  omega

end core

end Dos.Pipe
