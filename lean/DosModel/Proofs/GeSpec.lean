/-
C20 — the translated group methods of ge.go compute the twisted Edwards group law.

`E25519`   : the curve −x² + y² = 1 + d x² y² over F = ZMod (2^255 − 19), with d and sqrt(−1) the values of the limb
             constants `d`, `sqrtM1` of const.go (regenerated), d not a square, −1 = sqrtM1².
`GoodExt p P`, `GoodProj`, `GoodCompl`, `GoodCached`, `GoodPre`: a limb structure is within the limb bounds that
             occur (extended: X within 2 ×, the rest 1 ×; completed 3 ×; cached 3,3,1,1; precomputed 1 ×) and
             represents the curve point P.  X of an extended or projective element is allowed 2 × because FromBytes
             leaves `p.X` as the digits to which feIsNegative (feToBytes) normalises its argument in place (`mut_R`,
             Proofs/GeDec.lean).
For every translated method: if the arguments are good, no fe operation inside is used outside its proved
preconditions (multiplier analysis `absBody`, decided by the kernel on the regenerated body) and the result is good
for the sum / difference / double / same point (field run of the SAME body + the formulas of
Proofs/EdwardsFormulas.lean).
-/
import Mathlib.Tactic.FieldSimp
import Mathlib.Tactic.LinearCombination
import DosModel.Proofs.GeRefine
import DosModel.Proofs.GeRunAttr
import DosModel.Proofs.EdwardsAssoc
import DosModel.Proofs.EdwardsFormulas

set_option exponentiation.threshold 600

namespace Dos.Ge
open Dos Dos.Ed25519 Dos.FeProg Dos.FeOps Dos.GeProg Dos.Ed25519Prime Dos.Edwards Dos.Gen.Ed25519Ge

def E25519 : Params F :=
  { d := ((Dos.Ed.d : ℕ) : F), i := ((Dos.Ed.sqrtM1 : ℕ) : F), i_sq := sqrtM1_sq, d_nonsq := d_not_square,
    two_ne := two_ne_zero' }

abbrev Pt := Point E25519

theorem val_of_modP {l : L10} {n : ℕ} (h : ModP (feVal l) (n : Int)) : val l = ((n : ℕ) : F) := by
  unfold val
  rw [ModP.cast h]; simp

theorem c_d_val : val c_d = E25519.d := val_of_modP (by unfold ModP; decide +kernel)
theorem c_sqrtM1_val : val c_sqrtM1 = E25519.i := val_of_modP (by unfold ModP; decide +kernel)
theorem c_d2_val : val c_d2 = 2 * E25519.d := by
  have h : ModP (feVal c_d2) (2 * (Dos.Ed.d : Int)) := by unfold ModP; decide +kernel
  unfold val
  rw [ModP.cast h]
  simp [E25519]

theorem c_d_R : R 1 c_d E25519.d := ⟨by decide, c_d_val⟩
theorem c_d2_R : R 1 c_d2 (2 * E25519.d) := ⟨by decide, c_d2_val⟩
theorem c_sqrtM1_R : R 1 c_sqrtM1 E25519.i := ⟨by decide, c_sqrtM1_val⟩

/-- the constants d, 2d, sqrt(−1) as field registers -/
def constsF : List F := [E25519.d, 2 * E25519.d, E25519.i]

theorem regRel_nil : RegRel [] [] [] := ⟨rfl, rfl, fun i k h => by simp at h⟩

theorem regRel_cons {m : Mult} {l : L10} {x : F} {M : List Mult} {L : List L10} {X : List F}
    (h0 : ∀ k, m = some k → R k l x) (h : RegRel M L X) : RegRel (m :: M) (l :: L) (x :: X) := by
  obtain ⟨h1, h2, h3⟩ := h
  refine ⟨by simp [h1], by simp [h2], ?_⟩
  intro i k hk
  cases i with
  | zero => exact h0 k (by simpa using hk)
  | succ i => simpa using h3 i k (by simpa using hk)

theorem regRel_some {k : Nat} {l : L10} {x : F} {M : List Mult} {L : List L10} {X : List F}
    (h0 : R k l x) (h : RegRel M L X) : RegRel (some k :: M) (l :: L) (x :: X) :=
  regRel_cons (fun k' hk => by cases Option.some.inj hk; exact h0) h

theorem regRel_none {l : L10} {x : F} {M : List Mult} {L : List L10} {X : List F}
    (h : RegRel M L X) : RegRel (none :: M) (l :: L) (x :: X) :=
  regRel_cons (fun k' hk => by cases hk) h

theorem regRel_consts : RegRel [some 1, some 1, some 1] consts constsF :=
  regRel_some c_d_R (regRel_some c_d2_R (regRel_some c_sqrtM1_R regRel_nil))

theorem RegRel.append {M1 M2 : List Mult} {L1 L2 : List L10} {X1 X2 : List F} (h1 : RegRel M1 L1 X1)
    (h2 : RegRel M2 L2 X2) : RegRel (M1 ++ M2) (L1 ++ L2) (X1 ++ X2) := by
  induction M1 generalizing L1 X1 with
  | nil =>
    obtain ⟨a, b, _⟩ := h1
    have : L1 = [] := List.length_eq_zero_iff.1 (by simpa using a)
    have : X1 = [] := List.length_eq_zero_iff.1 (by simpa using b)
    subst_vars
    simpa using h2
  | cons m M ih =>
    obtain ⟨a, b, c⟩ := h1
    cases L1 with
    | nil => simp at a
    | cons l L =>
      cases X1 with
      | nil => simp at b
      | cons x X =>
        have ht : RegRel M L X := ⟨by simpa using a, by simpa using b, fun i k hk => by simpa using c (i + 1) k (by simpa using hk)⟩
        exact regRel_cons (fun k hk => by simpa using c 0 k (by simpa using hk)) (ih ht)

/-- value relation with the value itself -/
theorem R_val {k : Nat} {l : L10} (h : Bounded (k : Int) l) : R k l (val l) := ⟨h, rfl⟩

structure GoodExt (p : Ext) (P : Pt) : Prop where
  bX : Bounded 2 p.X
  bY : Bounded 1 p.Y
  bZ : Bounded 1 p.Z
  bT : Bounded 1 p.T
  z_ne : val p.Z ≠ 0
  xy : val p.X * val p.Y = val p.Z * val p.T
  hx : val p.X / val p.Z = P.x
  hy : val p.Y / val p.Z = P.y

structure GoodProj (p : Proj) (P : Pt) : Prop where
  bX : Bounded 2 p.X
  bY : Bounded 1 p.Y
  bZ : Bounded 1 p.Z
  z_ne : val p.Z ≠ 0
  hx : val p.X / val p.Z = P.x
  hy : val p.Y / val p.Z = P.y

structure GoodCompl (c : Compl) (P : Pt) : Prop where
  bX : Bounded 3 c.X
  bY : Bounded 3 c.Y
  bZ : Bounded 3 c.Z
  bT : Bounded 3 c.T
  z_ne : val c.Z ≠ 0
  t_ne : val c.T ≠ 0
  hx : val c.X / val c.Z = P.x
  hy : val c.Y / val c.T = P.y

/-- cached (Y+X, Y−X, Z, 2dT) of an extended representation (X:Y:Z:T) of P -/
structure GoodCached (q : Cached) (P : Pt) : Prop where
  bP : Bounded 3 q.yPlusX
  bM : Bounded 3 q.yMinusX
  bZ : Bounded 1 q.Z
  bT : Bounded 1 q.T2d
  rep : ∃ X Y T : F, val q.yPlusX = Y + X ∧ val q.yMinusX = Y - X ∧ val q.T2d = T * (2 * E25519.d)
    ∧ val q.Z ≠ 0 ∧ X * Y = val q.Z * T ∧ X / val q.Z = P.x ∧ Y / val q.Z = P.y

/-- precomputed (y+x, y−x, 2dxy) of the affine point P -/
structure GoodPre (q : Pre) (P : Pt) : Prop where
  bP : Bounded 1 q.yPlusX
  bM : Bounded 1 q.yMinusX
  bD : Bounded 1 q.xy2d
  hp : val q.yPlusX = P.y + P.x
  hm : val q.yMinusX = P.y - P.x
  hd : val q.xy2d = 2 * E25519.d * P.x * P.y

/-- the documented content of the table `base`: entry (i, j) is (j + 1)·256^i times the base point -/
def BaseTableOK (basePt : Pt) : Prop :=
  ∀ i j, i < 32 → j < 8 →
    GoodPre (preOf ((Gen.Ed25519GeTable.c_base.getD i []).getD j [])) (((j + 1) * 256 ^ i) • basePt)

attribute [ge_run] runBody step addr seqBases fieldAlg constsF List.foldl_cons List.foldl_nil List.cons_append
  List.nil_append List.replicate_succ List.replicate_zero List.getD_cons_zero List.getD_cons_succ List.set_cons_zero
  List.set_cons_succ Nat.zero_add Nat.add_zero Nat.reduceAdd

/-- `body_refines` with the field run evaluated by the caller: `simp only [ge_run, f]` (followed by `rfl` when `X1`
is still to be determined); left to the unifier, the evaluation is slow to check. -/
theorem body_refines_run {bases : List Nat} {b : Int} (hb : b = 0 ∨ b = 1) (body : List GStmt) {M M' : List Mult}
    {L : List L10} {X X1 : List F} (hrel : RegRel M L X) (habs : absBody bases body M = some M')
    (hrun : runBody fieldAlg 0 bases b body X = X1) : RegRel M' (runBody limbAlg zero10 bases b body L) X1 :=
  hrun ▸ body_refines hb body hrel habs

/-- a translated method called as `Ge.call` does: objects in sequence, locals zero, constants last.  Callers give `M1`,
the multipliers `absBody` returns, as a literal: `habs` is then a closed equation for `decide`, and the entries of the
output registers are the bounds the result is known within. -/
theorem call_refines (f : GeFn) (objs : List (List L10)) (nLoc : Nat) (b : Int) (hb : b = 0 ∨ b = 1)
    {M0 M1 : List Mult} {X0 X1 : List F} (hrel : RegRel M0 objs.flatten X0)
    (habs : absBody (seqBases f.objs 0) f.body (M0 ++ List.replicate nLoc (some 1) ++ [some 1, some 1, some 1]) = some M1)
    (hrun : runBody fieldAlg 0 (seqBases f.objs 0) b f.body (X0 ++ List.replicate nLoc 0 ++ constsF) = X1) :
    RegRel M1 (call f objs nLoc b) X1 := by
  have hz : ∀ n : Nat, RegRel (List.replicate n (some 1)) (List.replicate n z10) (List.replicate n (0 : F)) := by
    intro n
    induction n with
    | zero => exact regRel_nil
    | succ n ih => exact regRel_some zero10_R ih
  exact body_refines_run hb f.body (RegRel.append (RegRel.append hrel (hz nLoc)) regRel_consts) habs hrun

theorem projRel {p : Proj} {P : Pt} (hp : GoodProj p P) :
    RegRel [some 2, some 1, some 1] p.regs [val p.X, val p.Y, val p.Z] :=
  regRel_some (R_val hp.bX) (regRel_some (R_val hp.bY) (regRel_some (R_val hp.bZ) regRel_nil))

theorem extRel {p : Ext} {P : Pt} (hp : GoodExt p P) :
    RegRel [some 2, some 1, some 1, some 1] p.regs [val p.X, val p.Y, val p.Z, val p.T] :=
  regRel_some (R_val hp.bX) (regRel_some (R_val hp.bY) (regRel_some (R_val hp.bZ) (regRel_some (R_val hp.bT) regRel_nil)))

theorem complRel {c : Compl} {P : Pt} (hc : GoodCompl c P) :
    RegRel [some 3, some 3, some 3, some 3] c.regs [val c.X, val c.Y, val c.Z, val c.T] :=
  regRel_some (R_val hc.bX) (regRel_some (R_val hc.bY) (regRel_some (R_val hc.bZ) (regRel_some (R_val hc.bT) regRel_nil)))

theorem cachedRel {q : Cached} {Q : Pt} (hq : GoodCached q Q) :
    RegRel [some 3, some 3, some 1, some 1] q.regs [val q.yPlusX, val q.yMinusX, val q.Z, val q.T2d] :=
  regRel_some (R_val hq.bP) (regRel_some (R_val hq.bM) (regRel_some (R_val hq.bZ) (regRel_some (R_val hq.bT) regRel_nil)))

theorem preRel {q : Pre} {Q : Pt} (hq : GoodPre q Q) :
    RegRel [some 1, some 1, some 1] q.regs [val q.yPlusX, val q.yMinusX, val q.xy2d] :=
  regRel_some (R_val hq.bP) (regRel_some (R_val hq.bM) (regRel_some (R_val hq.bD) regRel_nil))

/-- an output object: nothing is known of its registers before the call -/
theorem junk4Rel (a b c d : F) : RegRel [none, none, none, none] junk4 [a, b, c, d] :=
  regRel_none (regRel_none (regRel_none (regRel_none regRel_nil)))
theorem junk3Rel (a b c : F) : RegRel [none, none, none] junk3 [a, b, c] :=
  regRel_none (regRel_none (regRel_none regRel_nil))

theorem proj3_good {r : List L10} {o : Nat} {P : Pt} {x y z : F} (hX : R 2 (r.getD o zero10) x)
    (hY : R 1 (r.getD (o + 1) zero10) y) (hZ : R 1 (r.getD (o + 2) zero10) z)
    (h : z ≠ 0 ∧ x / z = P.x ∧ y / z = P.y) : GoodProj (proj3 r o) P := by
  obtain ⟨bX, rfl⟩ := hX
  obtain ⟨bY, rfl⟩ := hY
  obtain ⟨bZ, rfl⟩ := hZ
  exact ⟨bX, bY, bZ, h.1, h.2.1, h.2.2⟩

theorem ext4_good {r : List L10} {o : Nat} {P : Pt} {x y z t : F} (hX : R 2 (r.getD o zero10) x)
    (hY : R 1 (r.getD (o + 1) zero10) y) (hZ : R 1 (r.getD (o + 2) zero10) z) (hT : R 1 (r.getD (o + 3) zero10) t)
    (h : z ≠ 0 ∧ x / z = P.x ∧ y / z = P.y ∧ x * y = z * t) : GoodExt (ext4 r o) P := by
  obtain ⟨bX, rfl⟩ := hX
  obtain ⟨bY, rfl⟩ := hY
  obtain ⟨bZ, rfl⟩ := hZ
  obtain ⟨bT, rfl⟩ := hT
  exact ⟨bX, bY, bZ, bT, h.1, h.2.2.2, h.2.1, h.2.2.1⟩

theorem compl4_good {r : List L10} {o : Nat} {P : Pt} {x y z t : F} (hX : R 3 (r.getD o zero10) x)
    (hY : R 3 (r.getD (o + 1) zero10) y) (hZ : R 3 (r.getD (o + 2) zero10) z) (hT : R 3 (r.getD (o + 3) zero10) t)
    (h : z ≠ 0 ∧ t ≠ 0 ∧ x / z = P.x ∧ y / t = P.y) : GoodCompl (compl4 r o) P := by
  obtain ⟨bX, rfl⟩ := hX
  obtain ⟨bY, rfl⟩ := hY
  obtain ⟨bZ, rfl⟩ := hZ
  obtain ⟨bT, rfl⟩ := hT
  exact ⟨bX, bY, bZ, bT, h.1, h.2.1, h.2.2.1, h.2.2.2⟩

/-- what a good cached element holds, without the extended representation it was made from -/
theorem GoodCached.affine {q : Cached} {Q : Pt} (hq : GoodCached q Q) :
    val q.Z ≠ 0 ∧ val q.yPlusX = (Q.y + Q.x) * val q.Z ∧ val q.yMinusX = (Q.y - Q.x) * val q.Z
      ∧ val q.T2d = 2 * E25519.d * Q.x * Q.y * val q.Z := by
  obtain ⟨X, Y, T, e1, e2, e3, hz, hxy, hx, hy⟩ := hq.rep
  obtain ⟨f1, f2, f3⟩ := cached_of_extended E25519.d hz hx hy hxy
  exact ⟨hz, e1.trans f1, e2.trans f2, e3.trans f3⟩

theorem cached4_good {r : List L10} {o : Nat} {Q : Pt} {p m z t : F} (hP : R 3 (r.getD o zero10) p)
    (hM : R 3 (r.getD (o + 1) zero10) m) (hZ : R 1 (r.getD (o + 2) zero10) z) (hT : R 1 (r.getD (o + 3) zero10) t)
    (h : z ≠ 0 ∧ p = (Q.y + Q.x) * z ∧ m = (Q.y - Q.x) * z ∧ t = 2 * E25519.d * Q.x * Q.y * z) :
    GoodCached (cached4 r o) Q := by
  obtain ⟨bP, rfl⟩ := hP
  obtain ⟨bM, rfl⟩ := hM
  obtain ⟨bZ, rfl⟩ := hZ
  obtain ⟨bT, rfl⟩ := hT
  obtain ⟨hz, e1, e2, e3⟩ := h
  -- X·Y = Z·T for the representation X = x·Z, Y = y·Z, T = x·y·Z
  have hxy : ∀ a b c : F, a * c * (b * c) = c * (a * b * c) := by
    intros
    ring
  exact ⟨bP, bM, bZ, bT,
    Q.x * val (r.getD (o + 2) zero10), Q.y * val (r.getD (o + 2) zero10), Q.x * Q.y * val (r.getD (o + 2) zero10),
    e1.trans (by ring), e2.trans (by ring), e3.trans (by ring), hz, hxy _ _ _,
    mul_div_cancel_right₀ _ hz, mul_div_cancel_right₀ _ hz⟩

theorem pre3_good {r : List L10} {o : Nat} {Q : Pt} {p m t : F} (hP : R 1 (r.getD o zero10) p)
    (hM : R 1 (r.getD (o + 1) zero10) m) (hT : R 1 (r.getD (o + 2) zero10) t)
    (h : p = Q.y + Q.x ∧ m = Q.y - Q.x ∧ t = 2 * E25519.d * Q.x * Q.y) : GoodPre (pre3 r o) Q := by
  obtain ⟨bP, rfl⟩ := hP
  obtain ⟨bM, rfl⟩ := hM
  obtain ⟨bT, rfl⟩ := hT
  exact ⟨bP, bM, bT, h.1, h.2.1, h.2.2⟩

end Dos.Ge
