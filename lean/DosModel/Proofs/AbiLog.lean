/-
Helper lemmas for the ABI layer: event logs (`decodeLog` after `encodeLog`, when it panics, what it rejects).
-/
import DosModel.Proofs.AbiDecode
import DosModel.Proofs.AbiLayout

namespace Dos.Abi
open Dos Dos.ReqLoop Dos.CodecBytes

theorem wtArgs_select (p : Input → Bool) : ∀ (is : List Input) (vs : List AbiVal),
    wtArgs (is.map (·.ty)) vs = true → wtArgs ((is.filter p).map (·.ty)) (selectVals p is vs) = true := by
  intro is
  induction is with
  | nil => intro vs _; cases vs <;> simp [selectVals, wtArgs]
  | cons i is ih =>
    intro vs h
    cases vs with
    | nil => simp [wtArgs] at h
    | cons v vs =>
      simp only [List.map_cons, wtArgs, Bool.and_eq_true] at h
      by_cases hp : p i = true
      · simp only [selectVals, hp, if_true, List.filter_cons_of_pos hp, List.map_cons, wtArgs, Bool.and_eq_true]
        exact ⟨h.1, ih vs h.2⟩
      · have hp' : p i = false := by simpa using hp
        simp only [selectVals, hp', Bool.false_eq_true, if_false, List.filter_cons_of_neg hp]
        exact ih vs h.2

theorem tysWf_filter (p : Input → Bool) (is : List Input) (h : is.all Input.wf = true) :
    tysWf ((is.filter p).map (·.ty)) = true := by
  simp only [tysWf, List.all_map, List.all_eq_true, List.mem_filter] at h ⊢
  intro i hi
  have := h i hi.1
  simp only [Input.wf, Bool.and_eq_true] at this
  exact this.1

theorem mergeVals_select : ∀ (is : List Input) (vs : List AbiVal), is.length = vs.length →
    mergeVals is ((selectVals (fun i => !i.indexed) is vs).map some) (selectVals (·.indexed) is vs) = vs.map some := by
  intro is
  induction is with
  | nil => intro vs h; cases vs <;> simp_all [mergeVals]
  | cons i is ih =>
    intro vs h
    cases vs with
    | nil => simp at h
    | cons v vs =>
      simp only [List.length_cons, Nat.add_right_cancel_iff] at h
      by_cases hi : i.indexed = true
      · simp only [selectVals, hi, if_true, Bool.not_true, Bool.false_eq_true, if_false, mergeVals, List.map_cons,
          ih vs h]
      · have hi' : i.indexed = false := by simpa using hi
        simp only [selectVals, hi', Bool.not_false, if_true, Bool.false_eq_true, if_false, mergeVals, List.map_cons,
          ih vs h]

theorem wtArgs_length : ∀ (tys : List AbiType) (vs : List AbiVal), wtArgs tys vs = true → tys.length = vs.length := by
  intro tys
  induction tys with
  | nil => intro vs h; cases vs <;> simp_all [wtArgs]
  | cons t ts ih =>
    intro vs h
    cases vs with
    | nil => simp [wtArgs] at h
    | cons v vs =>
      simp only [wtArgs, Bool.and_eq_true] at h
      simp [ih vs h.2]

theorem decTopics_select : ∀ (is : List Input) (vs : List AbiVal), is.all Input.wf = true →
    wtArgs (is.map (·.ty)) vs = true →
    decTopics (is.filter (·.indexed)) ((selectVals (·.indexed) is vs).map topicOf) = .ok (selectVals (·.indexed) is vs) := by
  intro is
  induction is with
  | nil => intro vs _ _; cases vs <;> simp [selectVals, decTopics]
  | cons i is ih =>
    intro vs hw h
    cases vs with
    | nil => simp [wtArgs] at h
    | cons v vs =>
      simp only [List.map_cons, wtArgs, Bool.and_eq_true] at h
      simp only [List.all_cons, Bool.and_eq_true] at hw
      by_cases hi : i.indexed = true
      · simp only [selectVals, hi, if_true, List.filter_cons_of_pos hi, List.map_cons, decTopics]
        have hwf := hw.1
        simp only [Input.wf, hi, Bool.not_true, Bool.false_or, Bool.and_eq_true] at hwf
        -- the input is a word type
        obtain ⟨hty, hel⟩ := hwf
        cases hti : i.ty with
        | elem e =>
          rw [hti] at h hty
          cases v <;> simp [AbiVal.wt] at h
          rename_i ev
          simp only [AbiType.wf] at hty
          have hlen := encEVal_length hty h.1
          have hword : wordAt (encEVal ev) 0 = .ok (encEVal ev) :=
            wordAt_eq (rest := []) (by simp) hlen
          simp only [decTopic, hti, topicOf, hword, decElem_encEVal hty h.1, ih vs hw.2 h.2, bind, Except.bind, pure,
            Except.pure]
        | sarray | darray | bytes | string => simp [hti, AbiType.isElem] at hel
      · have hi' : i.indexed = false := by simpa using hi
        simp only [selectVals, hi', Bool.false_eq_true, if_false, List.filter_cons_of_neg hi]
        exact ih vs hw.2 h.2

theorem encodeRaw_nil_left (vs : List AbiVal) : encodeRaw [] vs = [] := by
  cases vs <;> simp [encodeRaw, encGo]

theorem encodeRaw_ne_nil {tys : List AbiType} {vs : List AbiVal} (hw : tysWf tys = true) (hv : wtArgs tys vs = true)
    (hne : tys ≠ []) : (encodeRaw tys vs).isEmpty = false := by
  cases tys with
  | nil => exact absurd rfl hne
  | cons t ts =>
    have h1 := encGo_fst_length (t :: ts) vs (headLen (t :: ts)) hw hv
    simp only [tysWf, List.all_cons, Bool.and_eq_true] at hw
    have h2 := headSize_pos t hw.1
    have h1' : (encGo (headLen (t :: ts)) (t :: ts) vs).1.length = t.headSize + headLen ts := by
      rw [h1, headLen_cons]
    have : 0 < (encodeRaw (t :: ts) vs).length := by
      simp only [encodeRaw, List.length_append]; omega
    cases hx : encodeRaw (t :: ts) vs with
    | nil => rw [hx] at this; simp at this
    | cons a b => rfl

theorem decodeLog_encodeLog (id : Bytes) (s : EventSpec) (vs : List AbiVal) (hw : s.wf = true)
    (hv : wtArgs s.types vs = true) (hB : (encodeLog id s vs).data.length < 2 ^ 63) :
    decodeLog id s (encodeLog id s vs) = .ok (vs.map some) := by
  have hv' : wtArgs (s.inputs.map (·.ty)) vs = true := hv
  have hwf : s.inputs.all Input.wf = true := hw
  have hlen : s.inputs.length = vs.length := by
    have := wtArgs_length _ _ hv'
    simpa using this
  have hni_w := tysWf_filter (fun i => !i.indexed) s.inputs hwf
  have hni_v := wtArgs_select (fun i => !i.indexed) s.inputs vs hv'
  have htop := decTopics_select s.inputs vs hwf hv'
  have hmerge := mergeVals_select s.inputs vs hlen
  simp only [decodeLog, encodeLog, EventSpec.nonIndexed, EventSpec.indexed, ne_eq, not_true_eq_false, if_false]
  by_cases hne : s.inputs.filter (fun i => !i.indexed) = []
  · -- no data at all
    have hsel : selectVals (fun i => !i.indexed) s.inputs vs = [] := by
      have := wtArgs_length _ _ hni_v
      rw [hne] at this
      simpa using this.symm
    simp only [hne, List.map_nil, encodeRaw_nil_left, List.isEmpty_nil, if_true, htop, bind, Except.bind, pure,
      Except.pure]
    rw [hsel] at hmerge
    simp only [List.map_nil] at hmerge
    rw [hmerge]
  · have hne' : (s.inputs.filter (fun i => !i.indexed)).map (·.ty) ≠ [] := by simpa using hne
    have hdata := encodeRaw_ne_nil hni_w hni_v hne'
    have hdec := decode_encode _ _ hni_w hni_v (by simpa [encodeLog, EventSpec.nonIndexed] using hB)
    have hsel : (selectVals (fun i => !i.indexed) s.inputs vs).isEmpty = false := by
      have := wtArgs_length _ _ hni_v
      cases hx : selectVals (fun i => !i.indexed) s.inputs vs with
      | nil =>
        rw [hx] at this
        have h0 : (s.inputs.filter (fun i => !i.indexed)).length = 0 := by simpa using this
        exact absurd (List.eq_nil_of_length_eq_zero h0) hne
      | cons a b => rfl
    simp only [hdata, Bool.false_eq_true, if_false, hdec, hsel, Bool.false_and, htop, bind, Except.bind, pure, Except.pure]
    exact congrArg Except.ok hmerge

/-! ### what `UnpackLog` does with logs that no contract emitted -/

theorem decTopic_noPanic {i : Input} (hw : i.wf = true) (t : Bytes) : NoPanic (decTopic i t) := by
  simp only [decTopic]
  cases hti : i.ty with
  | elem e =>
    simp only [Input.wf, hti, Bool.and_eq_true, AbiType.wf] at hw
    exact (wordAt_sat t 0).bind fun _ hl => (decElem_sat hw.1 hl).bind fun _ _ => trivial
  | sarray | darray | bytes | string => trivial

theorem decTopics_noPanic : ∀ (is : List Input) (ts : List Bytes), is.all Input.wf = true → NoPanic (decTopics is ts)
  | [], [], _ => trivial
  | [], _ :: _, _ => trivial
  | _ :: _, [], _ => trivial
  | i :: is, t :: ts, hw => by
    simp only [List.all_cons, Bool.and_eq_true] at hw
    exact (decTopic_noPanic hw.1 t).bind fun _ _ => (decTopics_noPanic is ts hw.2).bind fun _ _ => trivial

theorem all_wf_filter (p : Input → Bool) (is : List Input) (h : is.all Input.wf = true) :
    (is.filter p).all Input.wf = true := by
  simp only [List.all_eq_true, List.mem_filter] at h ⊢
  intro i hi; exact h i hi.1

theorem decodeLog_noPanic_of_topic (id : Bytes) (s : EventSpec) (hw : s.wf = true) (t0 : Bytes) (rest : List Bytes)
    (data : Bytes) : NoPanic (decodeLog id s { topics := t0 :: rest, data := data }) := by
  have hwf : s.inputs.all Input.wf = true := hw
  simp only [decodeLog]
  split
  · trivial
  · refine Sat.bind (Q := fun _ => True) ?_ fun _ _ =>
      (decTopics_noPanic _ rest (all_wf_filter _ s.inputs hwf)).bind fun _ _ => trivial
    split
    · trivial
    · refine (decGo_sat _ 0 data (tysWf_filter _ s.inputs hwf)).bind fun _ _ => ?_
      split <;> trivial

theorem mergeVals_none : ∀ (is : List Input), is.filter (·.indexed) = [] →
    mergeVals is ((is.filter (fun i => !i.indexed)).map (fun _ => none)) [] = is.map (fun _ => none) := by
  intro is
  induction is with
  | nil => intro _; simp [mergeVals]
  | cons i is ih =>
    intro h
    by_cases hi : i.indexed = true
    · simp [List.filter_cons_of_pos hi] at h
    · have hi' : i.indexed = false := by simpa using hi
      rw [List.filter_cons_of_neg hi] at h
      have hf : (i :: is).filter (fun i => !i.indexed) = i :: is.filter (fun i => !i.indexed) := by
        simp [hi']
      rw [hf]
      simp only [List.map_cons, mergeVals, hi', Bool.false_eq_true, if_false, ih h]

end Dos.Abi
