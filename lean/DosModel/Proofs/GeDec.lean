/-
C20 — point DECOMPRESSION: the executable model `Ge.extFromBytes` of `(*extendedGroupElement).FromBytes` (ge.go) is
cut into its stages (head = feFromBytes + segment A, middle = the two `feIsNonZero` tests with segments B, C, tail =
`feIsNegative`, segment D, segment E) and every stage is related to arithmetic in F by the generic refinement theorem
`body_refines_run` (multiplier analysis decided by the kernel on the regenerated segment, field run evaluated with the
power `powF` kept folded).  `feIsNonZero` / `feIsNegative` normalise their argument in place: the register keeps its
field value, its limbs become digits (2 × bound) — `mut_R`.
`extFromBytes_char` characterises the whole model in terms of the field: with y = the encoded y, u = y² − 1,
v = d y² + 1, c = cand u v,
  * if v c² = u or v c² = −u the model returns limbs (X ≤ 2 ×, Y, Z, T ≤ 1 ×) standing for (x', y, 1, x' y) with
    v x'² = u and (x' ≠ 0 → parity of x' = bit 255);
  * otherwise it returns `none`.
-/
import DosModel.Proofs.GeEnc

set_option exponentiation.threshold 600

namespace Dos.Ge
open Dos Dos.Ed25519 Dos.FeProg Dos.FeOps Dos.GeProg Dos.Ed25519Prime Dos.Edwards Dos.Gen.Ed25519Ge

theorem val_mod (l l' : L10) (h : feVal l' = feVal l % pI) : val l' = val l := by
  unfold val
  rw [h, pI_eq]
  exact ZMod.intCast_mod _ _

/-- the register left behind by feToBytes (feIsNonZero, feIsNegative): same field value, digits -/
theorem mut_R {k : Nat} {l : L10} {x : F} (h : R k l x) (hk : k ≤ 3) : R 2 (FeOps.feToBytes l).2 x := by
  obtain ⟨_, hb, hv⟩ := feToBytes_spec l (h.mono hk).1
  exact ⟨hb, (val_mod _ _ hv).trans h.2⟩

theorem val_eq_zero_iff (l : L10) : feVal l % pI = 0 ↔ val l = 0 := by
  unfold val
  rw [ZMod.intCast_zmod_eq_zero_iff_dvd, pI_eq]
  exact (Int.dvd_iff_emod_eq_zero ..).symm

theorem nonZero_R {k : Nat} {l : L10} {x : F} (h : R k l x) (hk : k ≤ 3) :
    (FeOps.feIsNonZero l).1 = (if x = 0 then 0 else 1) ∧ R 2 (FeOps.feIsNonZero l).2 x := by
  obtain ⟨h1, h2⟩ := feIsNonZero_spec l (h.mono hk).1
  refine ⟨?_, by rw [h2]; exact mut_R h hk⟩
  rw [h1, ← h.2]
  by_cases hz : feVal l % pI = 0
  · rw [if_pos hz, if_pos ((val_eq_zero_iff l).1 hz)]
  · rw [if_neg hz, if_neg (fun h0 => hz ((val_eq_zero_iff l).2 h0))]

theorem negative_R {k : Nat} {l : L10} {x : F} (h : R k l x) (hk : k ≤ 3) :
    (FeOps.feIsNegative l).1.toNat = x.val % 2 ∧ R 2 (FeOps.feIsNegative l).2 x := by
  obtain ⟨h1, h2⟩ := feIsNegative_spec l (h.mono hk).1
  refine ⟨?_, by rw [h2]; exact mut_R h hk⟩
  rw [h1, ← h.2, val_val]

theorem sign_bit (s : Bytes) (hs : s.length = 32) : ((s.getD 31 0) >>> 7).toNat = leNat s / 2 ^ 255 := by
  have h := leNat_lt s
  rw [hs] at h
  have e7 : (7 : UInt8).toNat % 8 = 7 := by decide
  have h1 : leNat s / 256 ^ 31 < 256 := Nat.div_lt_of_lt_mul (by rw [← Nat.pow_succ]; exact h)
  rw [UInt8.toNat_shiftRight, Nat.shiftRight_eq_div_pow, getD_toNat, e7, Nat.mod_eq_of_lt h1, Nat.div_div_eq_div_mul]
  rfl

theorem sign_le (s : Bytes) (hs : s.length = 32) : leNat s / 2 ^ 255 ≤ 1 := by
  have := leNat_lt s
  rw [hs] at this
  have e : (256 : Nat) ^ 32 = 2 ^ 255 * 2 := by norm_num
  rw [e] at this
  have := (Nat.div_lt_iff_lt_mul (by positivity)).2 this
  omega

/-- the register layout of all five segments of FromBytes -/
@[ge_run] theorem fbBases_eq : fbBases = [0, 4, 5, 6, 7, 8, 9, 10, 11] := rfl

/-- register file before segment A: p uninitialised (zero), `feFromBytes(&p.Y, s)`, locals zero, constants -/
def fbRegs0 (s : Bytes) : List L10 :=
  [z10, FeOps.feFromBytes s, z10, z10, z10, z10, z10, z10, z10, c_d, c_d2, c_sqrtM1]

/-- the two `feIsNonZero(&check)` tests with segments B and C -/
def fbMid (r : List L10) : Option (List L10) :=
  let nz := FeOps.feIsNonZero (r.getD 8 z10)
  let r := r.set 8 nz.2
  if nz.1 = 1 then
    let r := fbRun extended_FromBytes_B r
    let nz2 := FeOps.feIsNonZero (r.getD 8 z10)
    let r := r.set 8 nz2.2
    if nz2.1 = 1 then none else some (fbRun extended_FromBytes_C r)
  else some r

/-- `feIsNegative(&p.X)`, the conditional segment D, segment E -/
def fbTail (s : Bytes) (r : List L10) : Ext :=
  let ng := FeOps.feIsNegative (r.getD 0 z10)
  let r := r.set 0 ng.2
  let r := if ng.1 ≠ ((s.getD 31 0) >>> 7) then fbRun extended_FromBytes_D r else r
  ext4 (fbRun extended_FromBytes_E r) 0

theorem extFromBytes_len {s : Bytes} (h : s.length ≠ 32) : extFromBytes s = none := by
  unfold extFromBytes
  rw [if_pos h]

/-- the model, staged (the same computation) -/
theorem extFromBytes_staged (s : Bytes) (hs : s.length = 32) :
    extFromBytes s = (fbMid (fbRun extended_FromBytes_A (fbRegs0 s))).map (fbTail s) := by
  have hc : addr fbBases extended_FromBytes_check = 8 := by decide
  have hx : addr fbBases extended_FromBytes_x = 0 := by decide
  have hy : addr fbBases extended_FromBytes_y = 1 := by decide
  have hr : (junk4 ++ List.replicate 5 z10 ++ consts).set 1 (FeOps.feFromBytes s) = fbRegs0 s := rfl
  unfold extFromBytes
  rw [if_neg (by simp [hs])]
  simp only [hc, hx, hy, hr]
  generalize fbRun extended_FromBytes_A (fbRegs0 s) = r
  unfold fbMid
  simp only
  split_ifs <;> simp [fbTail]

/-- multipliers after segment A -/
def fbMA : List Mult :=
  [some 1, some 1, some 1, some 1, some 2, some 2, some 1, some 1, some 3, some 1, some 1, some 1]

/-- multipliers after the middle stage (both accepted paths): `check` (register 8) is left as digits by feIsNonZero -/
def fbMT : List Mult :=
  [some 1, some 1, some 1, some 1, some 2, some 2, some 1, some 1, some 2, some 1, some 1, some 1]

theorem regs0_rel (s : Bytes) (hs : s.length = 32) :
    RegRel [some 1, some 1, some 1, some 1, some 1, some 1, some 1, some 1, some 1, some 1, some 1, some 1]
      (fbRegs0 s) [0, (((leNat s % 2 ^ 255 : ℕ) : ℕ) : F), 0, 0, 0, 0, 0, 0, 0, E25519.d, 2 * E25519.d, E25519.i] := by
  obtain ⟨hb, hv⟩ := feFromBytes_spec s hs
  have hy : R 1 (FeOps.feFromBytes s) (((leNat s % 2 ^ 255 : ℕ) : ℕ) : F) := ⟨hb, val_of_modP hv⟩
  have z := zero10_R
  exact regRel_some z (regRel_some hy (regRel_some z (regRel_some z (regRel_some z (regRel_some z (regRel_some z
    (regRel_some z (regRel_some z regRel_consts))))))))

/-- segment A on the field: u = y² − 1, v = d y² + 1, w = v³, x = (u v⁷)^((p−5)/8) v³ u in ref10's order -/
theorem segA_run (y d d2 i : F) :
    let u := y * y - 1
    let v := y * y * d + 1
    let w := v * v * v
    let x := powF (w * w * v * u) * w * u
    runBody fieldAlg 0 fbBases 0 extended_FromBytes_A.body [0, y, 0, 0, 0, 0, 0, 0, 0, d, d2, i] =
      [x, y, 1, 0, u, v, w, x * x * v, x * x * v - u, d, d2, i] := by
  simp only [ge_run, extended_FromBytes_A]

/-- ref10's evaluation order of the candidate root -/
theorem cand_eval (u v : F) : powF (v * v * v * (v * v * v) * v * u) * (v * v * v) * u = cand u v := by
  unfold powF cand
  have e : v * v * v * (v * v * v) * v * u = u * v ^ 7 := by ring
  rw [e]
  generalize (u * v ^ 7) ^ ((Dos.Ed.p - 5) / 8) = w
  ring

/-- **head**: after `feFromBytes` and segment A the registers hold y, Z = 1, u = y² − 1, v = d y² + 1,
X = the candidate root, vxx = X² v, check = vxx − u -/
theorem head_spec (s : Bytes) (hs : s.length = 32) :
    ∃ u v v3 : F, u = (((leNat s % 2 ^ 255 : ℕ) : ℕ) : F) ^ 2 - 1 ∧
      v = E25519.d * (((leNat s % 2 ^ 255 : ℕ) : ℕ) : F) ^ 2 + 1 ∧
      RegRel fbMA (fbRun extended_FromBytes_A (fbRegs0 s))
        [cand u v, (((leNat s % 2 ^ 255 : ℕ) : ℕ) : F), 1, 0, u, v, v3, v * (cand u v) ^ 2,
          v * (cand u v) ^ 2 - u, E25519.d, 2 * E25519.d, E25519.i] := by
  generalize hy : (((leNat s % 2 ^ 255 : ℕ) : ℕ) : F) = y
  have h0 := regs0_rel s hs
  rw [hy] at h0
  have h1 := body_refines_run (b := 0) (Or.inl rfl) extended_FromBytes_A.body h0 (bases := fbBases) (M' := fbMA)
    (by decide) (segA_run y E25519.d (2 * E25519.d) E25519.i)
  refine ⟨y * y - 1, y * y * E25519.d + 1, (y * y * E25519.d + 1) * (y * y * E25519.d + 1) * (y * y * E25519.d + 1),
    by ring, by ring, ?_⟩
  have hc := cand_eval (y * y - 1) (y * y * E25519.d + 1)
  generalize cand (y * y - 1) (y * y * E25519.d + 1) = c at hc ⊢
  have hvxx : (y * y * E25519.d + 1) * c ^ 2 = c * c * (y * y * E25519.d + 1) := by ring
  rw [hvxx, ← hc]
  exact h1

theorem fbMid_eq (r : List L10) :
    fbMid r =
      if (FeOps.feIsNonZero (r.getD 8 z10)).1 = 1 then
        if (FeOps.feIsNonZero ((fbRun extended_FromBytes_B (r.set 8 (FeOps.feIsNonZero (r.getD 8 z10)).2)).getD 8 z10)).1 = 1
        then none
        else some (fbRun extended_FromBytes_C
          ((fbRun extended_FromBytes_B (r.set 8 (FeOps.feIsNonZero (r.getD 8 z10)).2)).set 8
            (FeOps.feIsNonZero ((fbRun extended_FromBytes_B (r.set 8 (FeOps.feIsNonZero (r.getD 8 z10)).2)).getD 8 z10)).2))
      else some (r.set 8 (FeOps.feIsNonZero (r.getD 8 z10)).2) := rfl

/-- **middle**: check = vxx − u is tested; if non-zero, check = vxx + u is tested and X is multiplied by sqrt(−1) -/
theorem mid_spec {r : List L10} {x y z t u v w q d d2 i : F}
    (h : RegRel fbMA r [x, y, z, t, u, v, w, q, q - u, d, d2, i]) :
    (q - u = 0 → ∃ r', fbMid r = some r' ∧ RegRel fbMT r' [x, y, z, t, u, v, w, q, q - u, d, d2, i]) ∧
    (q - u ≠ 0 → q + u = 0 → ∃ r', fbMid r = some r' ∧ RegRel fbMT r' [x * i, y, z, t, u, v, w, q, q + u, d, d2, i]) ∧
    (q - u ≠ 0 → q + u ≠ 0 → fbMid r = none) := by
  have h8 : R 3 (r.getD 8 z10) (q - u) := h.2.2 8 3 rfl
  obtain ⟨n1, m1⟩ := nonZero_R h8 (le_refl 3)
  have hset : RegRel fbMT (r.set 8 (FeOps.feIsNonZero (r.getD 8 z10)).2) [x, y, z, t, u, v, w, q, q - u, d, d2, i] :=
    h.set 8 (by decide) m1
  rw [fbMid_eq, n1]
  by_cases h0 : q - u = 0
  · refine ⟨fun _ => ?_, fun hn => absurd h0 hn, fun hn => absurd h0 hn⟩
    rw [if_pos h0, if_neg (by decide)]
    exact ⟨_, rfl, hset⟩
  · rw [if_neg h0, if_pos rfl]
    have hB' : RegRel fbMA (fbRun extended_FromBytes_B (r.set 8 (FeOps.feIsNonZero (r.getD 8 z10)).2))
        [x, y, z, t, u, v, w, q, q + u, d, d2, i] :=
      body_refines_run (Or.inl rfl) extended_FromBytes_B.body hset (by decide)
        (by simp only [ge_run, extended_FromBytes_B])
    generalize fbRun extended_FromBytes_B (r.set 8 (FeOps.feIsNonZero (r.getD 8 z10)).2) = rB at hB' ⊢
    have h8' : R 3 (rB.getD 8 z10) (q + u) := hB'.2.2 8 3 rfl
    obtain ⟨n2, m2⟩ := nonZero_R h8' (le_refl 3)
    have hset2 : RegRel fbMT (rB.set 8 (FeOps.feIsNonZero (rB.getD 8 z10)).2) [x, y, z, t, u, v, w, q, q + u, d, d2, i] :=
      hB'.set 8 (by decide) m2
    rw [n2]
    by_cases h1 : q + u = 0
    · refine ⟨fun hn => absurd hn h0, fun _ _ => ?_, fun _ hn => absurd h1 hn⟩
      rw [if_pos h1, if_neg (by decide)]
      exact ⟨_, rfl, body_refines_run (Or.inl rfl) extended_FromBytes_C.body hset2 (by decide)
        (by simp only [ge_run, extended_FromBytes_C])⟩
    · refine ⟨fun hn => absurd hn h0, fun _ hn => absurd hn h1, fun _ _ => ?_⟩
      rw [if_neg h1, if_pos rfl]

/-- multipliers after `feIsNegative(&p.X)` (and after segments D, E): X (register 0) is left as digits -/
def fbMN : List Mult :=
  [some 2, some 1, some 1, some 1, some 2, some 2, some 1, some 1, some 2, some 1, some 1, some 1]

theorem neg_parity (x : F) (b : Nat) (hb : b ≤ 1) (hne : x.val % 2 ≠ b) (hx : -x ≠ 0) : (-x).val % 2 = b := by
  have := val_neg_parity x (fun h => hx (by rw [h, neg_zero]))
  omega

theorem fbTail_eq (s : Bytes) (r : List L10) :
    fbTail s r = ext4 (fbRun extended_FromBytes_E
      (if (FeOps.feIsNegative (r.getD 0 z10)).1 ≠ ((s.getD 31 0) >>> 7)
        then fbRun extended_FromBytes_D (r.set 0 (FeOps.feIsNegative (r.getD 0 z10)).2)
        else r.set 0 (FeOps.feIsNegative (r.getD 0 z10)).2)) 0 := rfl

/-- **tail**: the sign of X is made to agree with bit 255 of the input, T = X Y -/
theorem tail_spec (s : Bytes) (hs : s.length = 32) {r : List L10} {x y z t u v w q c d d2 i : F}
    (h : RegRel fbMT r [x, y, z, t, u, v, w, q, c, d, d2, i]) :
    ∃ x' : F, (x' = x ∨ x' = -x) ∧ (x' ≠ 0 → x'.val % 2 = leNat s / 2 ^ 255) ∧
      R 2 (fbTail s r).X x' ∧ R 1 (fbTail s r).Y y ∧ R 1 (fbTail s r).Z z ∧ R 1 (fbTail s r).T (x' * y) := by
  have h0 : R 1 (r.getD 0 z10) x := h.2.2 0 1 rfl
  obtain ⟨n1, m1⟩ := negative_R h0 (by omega)
  have hset : RegRel fbMN (r.set 0 (FeOps.feIsNegative (r.getD 0 z10)).2) [x, y, z, t, u, v, w, q, c, d, d2, i] :=
    h.set 0 (by decide) m1
  -- whichever branch: some x' with the right sign in register X
  have key : ∃ x' : F, (x' = x ∨ x' = -x) ∧ (x' ≠ 0 → x'.val % 2 = leNat s / 2 ^ 255) ∧
      RegRel fbMN (if (FeOps.feIsNegative (r.getD 0 z10)).1 ≠ ((s.getD 31 0) >>> 7)
        then fbRun extended_FromBytes_D (r.set 0 (FeOps.feIsNegative (r.getD 0 z10)).2)
        else r.set 0 (FeOps.feIsNegative (r.getD 0 z10)).2) [x', y, z, t, u, v, w, q, c, d, d2, i] := by
    by_cases hne : (FeOps.feIsNegative (r.getD 0 z10)).1 ≠ ((s.getD 31 0) >>> 7)
    · rw [if_pos hne]
      refine ⟨-x, Or.inr rfl, ?_, body_refines_run (Or.inl rfl) extended_FromBytes_D.body hset (by decide)
        (by simp only [ge_run, extended_FromBytes_D])⟩
      intro hx
      apply neg_parity x _ (sign_le s hs) _ hx
      intro hp
      apply hne
      apply UInt8.toNat_inj.1
      rw [n1, sign_bit s hs, hp]
    · rw [if_neg hne]
      refine ⟨x, Or.inl rfl, ?_, hset⟩
      intro _
      have := not_not.1 hne
      rw [← n1, this, sign_bit s hs]
  obtain ⟨x', hx1, hx2, hrel⟩ := key
  refine ⟨x', hx1, hx2, ?_⟩
  rw [fbTail_eq]
  generalize (if (FeOps.feIsNegative (r.getD 0 z10)).1 ≠ ((s.getD 31 0) >>> 7)
        then fbRun extended_FromBytes_D (r.set 0 (FeOps.feIsNegative (r.getD 0 z10)).2)
        else r.set 0 (FeOps.feIsNegative (r.getD 0 z10)).2) = r1 at hrel ⊢
  have hE' : RegRel fbMN (fbRun extended_FromBytes_E r1) [x', y, z, x' * y, u, v, w, q, c, d, d2, i] :=
    body_refines_run (Or.inl rfl) extended_FromBytes_E.body hrel (by decide)
      (by simp only [ge_run, extended_FromBytes_E])
  exact ⟨hE'.get 0 rfl rfl, hE'.get 1 rfl rfl, hE'.get 2 rfl rfl, hE'.get 3 rfl rfl⟩

/-- **characterisation of `extFromBytes` in the field** -/
theorem extFromBytes_char (s : Bytes) (hs : s.length = 32) :
    ∃ u v : F, u = (((leNat s % 2 ^ 255 : ℕ) : ℕ) : F) ^ 2 - 1 ∧ v = E25519.d * (((leNat s % 2 ^ 255 : ℕ) : ℕ) : F) ^ 2 + 1 ∧
      ((v * (cand u v) ^ 2 = u ∨ v * (cand u v) ^ 2 = -u) →
        ∃ (e : Ext) (x' : F), extFromBytes s = some e ∧ v * x' ^ 2 = u ∧ (x' ≠ 0 → x'.val % 2 = leNat s / 2 ^ 255) ∧
          R 2 e.X x' ∧ R 1 e.Y (((leNat s % 2 ^ 255 : ℕ) : ℕ) : F) ∧ R 1 e.Z 1 ∧
          R 1 e.T (x' * (((leNat s % 2 ^ 255 : ℕ) : ℕ) : F))) ∧
      (¬ (v * (cand u v) ^ 2 = u ∨ v * (cand u v) ^ 2 = -u) → extFromBytes s = none) := by
  obtain ⟨u, v, v3, hu, hv, hrel⟩ := head_spec s hs
  have hv0 : v ≠ 0 := by rw [hv]; exact E25519.v_ne _
  refine ⟨u, v, hu, hv, ?_⟩
  generalize (((leNat s % 2 ^ 255 : ℕ) : ℕ) : F) = y at hrel ⊢
  rw [extFromBytes_staged s hs]
  obtain ⟨m1, m2, m3⟩ := mid_spec hrel
  have tl : ∀ {r' : List L10} {x1 c1 : F}, v * x1 ^ 2 = u →
      fbMid (fbRun extended_FromBytes_A (fbRegs0 s)) = some r' →
      RegRel fbMT r' [x1, y, 1, 0, u, v, v3, v * cand u v ^ 2, c1, E25519.d, 2 * E25519.d, E25519.i] →
      ∃ (e : Ext) (x' : F), (fbMid (fbRun extended_FromBytes_A (fbRegs0 s))).map (fbTail s) = some e ∧ v * x' ^ 2 = u ∧
        (x' ≠ 0 → x'.val % 2 = leNat s / 2 ^ 255) ∧ R 2 e.X x' ∧ R 1 e.Y y ∧ R 1 e.Z 1 ∧ R 1 e.T (x' * y) := by
    intro r' x1 c1 hx1 hm hr
    obtain ⟨x', hx', hpar, rX, rY, rZ, rT⟩ := tail_spec s hs hr
    refine ⟨fbTail s r', x', by rw [hm]; rfl, ?_, hpar, rX, rY, rZ, rT⟩
    rcases hx' with e | e <;> rw [e]
    · exact hx1
    · rw [neg_sq]; exact hx1
  constructor
  · intro hsq
    by_cases h0 : v * cand u v ^ 2 - u = 0
    · obtain ⟨r', hm, hr⟩ := m1 h0
      exact tl (sub_eq_zero.1 h0) hm hr
    · have h1 : v * cand u v ^ 2 + u = 0 := by
        rcases hsq with e | e
        · exact absurd (sub_eq_zero.2 e) h0
        · rw [e]; ring
      obtain ⟨r', hm, hr⟩ := m2 h0 h1
      exact tl (sqrt_fix u v hv0 (eq_neg_of_add_eq_zero_left h1)) hm hr
  · intro hn
    have h0 : v * cand u v ^ 2 - u ≠ 0 := fun h => hn (Or.inl (sub_eq_zero.1 h))
    have h1 : v * cand u v ^ 2 + u ≠ 0 := fun h => hn (Or.inr (eq_neg_of_add_eq_zero_left h))
    rw [m3 h0 h1]
    rfl

end Dos.Ge
