/-
Helper lemmas about `Model/Codec.lean`: `readCoords` never panics on a long enough buffer and
returns the big-endian words; encode-then-read gives the coordinates back.  At the end the facts about
`Model/Bn256.lean` the decoder characterisations need: `(0, 0)` lies neither on the curve nor on the twist
(so the all-zero words can stand for the identity), `smul k O = O`.  Core Lean only.
-/
import DosModel.Model.Codec
import DosModel.Proofs.CodecBytes

namespace Dos.Codec
open Dos Dos.Bn256 Dos.CodecBytes

theorem p_lt : p < 256 ^ 32 := by decide
theorem r_lt : r < 256 ^ 32 := by decide
theorem r_lt_p : r < p := by decide
theorem p_pos : 0 < p := by decide

theorem be32_length (n : Nat) : (be32 n).length = 32 := natBE_length 32 n

theorem beNat_be32 (n : Nat) (h : n < p) : beNat (be32 n) = n :=
  beNat_natBE 32 n (Nat.lt_trans h p_lt)

/-- the words `readCoords n` returns -/
def wordsOf : Nat → Bytes → List Nat
  | 0, _ => []
  | n + 1, buf => beNat (buf.take 32) :: wordsOf n (buf.drop 32)

theorem wordsOf_length (n : Nat) (buf : Bytes) : (wordsOf n buf).length = n := by
  induction n generalizing buf with
  | zero => rfl
  | succ n ih => simp [wordsOf, ih]

theorem readCoords_ok (n : Nat) (buf : Bytes) (h : 32 * n ≤ buf.length) :
    readCoords n buf = .ok (wordsOf n buf) := by
  induction n generalizing buf with
  | zero => rfl
  | succ n ih =>
    have h1 : 32 ≤ buf.length := by omega
    have h2 : 32 * n ≤ (buf.drop 32).length := by simp; omega
    simp [readCoords, gfpUnmarshal, sliceFrom, h1, ih _ h2, wordsOf]

/-- whatever the buffer, `readCoords` returns a value or panics — it never returns an error -/
theorem readCoords_not_err (n : Nat) (buf : Bytes) (e : DecErr) : readCoords n buf ≠ .err e := by
  induction n generalizing buf e with
  | zero => simp [readCoords]
  | succ n ih =>
    unfold readCoords gfpUnmarshal sliceFrom
    by_cases h1 : 32 ≤ buf.length
    · simp only [h1, if_true]
      cases hr : readCoords n (List.drop 32 buf) with
      | ok cs => simp
      | err e' => exact absurd hr (ih _ e')
      | panic s => simp
    · simp [h1]

/-- reading back what `be32` wrote gives the numbers, whatever follows them -/
theorem wordsOf_be32 (cs : List Nat) (tail : Bytes) (h : ∀ c ∈ cs, c < 256 ^ 32) :
    wordsOf cs.length ((cs.map be32).flatten ++ tail) = cs := by
  induction cs with
  | nil => rfl
  | cons c cs ih =>
    have hl := be32_length c
    simp only [List.map_cons, List.flatten_cons, List.length_cons, wordsOf, List.append_assoc]
    rw [List.take_append_of_le_length (by omega), List.take_of_length_le (by omega),
      List.drop_append_of_le_length (by omega), List.drop_of_length_le (by omega),
      show beNat (be32 c) = c from beNat_natBE 32 c (h c (by simp)), List.nil_append,
      ih (fun c hc => h c (by simp [hc]))]

theorem wordsOf_encode (cs : List Nat) (tail : Bytes) (h : ∀ c ∈ cs, c < p) :
    wordsOf cs.length ((cs.map be32).flatten ++ tail) = cs :=
  wordsOf_be32 cs tail fun c hc => Nat.lt_trans (h c hc) p_lt

theorem flatten_be32_length (cs : List Nat) : ((cs.map be32).flatten).length = 32 * cs.length := by
  induction cs with
  | nil => rfl
  | cons c cs ih => simp [be32_length, ih]; omega

/-- decoding writes back exactly the bytes it read: `be32` of the words of `buf` is the prefix of `buf` -/
theorem encode_wordsOf (n : Nat) (buf : Bytes) (h : 32 * n ≤ buf.length) :
    ((wordsOf n buf).map be32).flatten = buf.take (32 * n) := by
  induction n generalizing buf with
  | zero => simp [wordsOf]
  | succ n ih =>
    have h2 : 32 * n ≤ (buf.drop 32).length := by simp; omega
    have hl : (buf.take 32).length = 32 := by simp; omega
    simp only [wordsOf, List.map_cons, List.flatten_cons, ih _ h2]
    have : be32 (beNat (buf.take 32)) = buf.take 32 := by
      have := natBE_beNat (buf.take 32)
      rw [hl] at this; exact this
    rw [this, List.take_drop]
    have e : 32 * (n + 1) = 32 + 32 * n := by omega
    rw [e]
    conv => rhs; rw [← List.take_append_drop 32 (buf.take (32 + 32 * n))]
    rw [List.take_take]
    have : min 32 (32 + 32 * n) = 32 := by omega
    rw [this]

theorem wordsOf_lt (n : Nat) (buf : Bytes) (h : 32 * n ≤ buf.length) :
    ∀ c ∈ wordsOf n buf, c < 256 ^ 32 := by
  induction n generalizing buf with
  | zero => simp [wordsOf]
  | succ n ih =>
    have h2 : 32 * n ≤ (buf.drop 32).length := by simp; omega
    intro c hc
    simp only [wordsOf, List.mem_cons] at hc
    rcases hc with rfl | hc
    · have := beNat_lt (buf.take 32)
      have hl : (buf.take 32).length = 32 := by simp; omega
      rwa [hl] at this
    · exact ih _ h2 c hc

theorem wordsOf_append (n : Nat) (buf tail : Bytes) (h : 32 * n ≤ buf.length) :
    wordsOf n (buf ++ tail) = wordsOf n buf := by
  induction n generalizing buf with
  | zero => rfl
  | succ n ih =>
    have h2 : 32 * n ≤ (buf.drop 32).length := by simp; omega
    simp only [wordsOf]
    rw [List.take_append_of_le_length (by omega), List.drop_append_of_le_length (by omega), ih _ h2]

theorem decodePubKey_long (enc : Bytes) (h : 129 ≤ enc.length) :
    decodePubKey enc = .ok (wordsOf 4 (enc.drop 1)) := by
  have h' : ¬ enc.length < 32 * 4 + 1 := by omega
  have h1 : (1 ≤ 33 ∧ 33 ≤ enc.length) := by omega
  have h2 : (33 ≤ 65 ∧ 65 ≤ enc.length) := by omega
  have h3 : (65 ≤ 97 ∧ 97 ≤ enc.length) := by omega
  have h4 : (97 ≤ 129 ∧ 129 ≤ enc.length) := by omega
  simp [decodePubKey, h', sliceRange, h1, h2, h3, h4, wordsOf, List.drop_drop]

theorem zero_not_on_curve : G1.onCurve (.aff 0 0) = false := by decide

theorem zero_not_on_twist : G2.onCurve (.aff ⟨0, 0⟩ ⟨0, 0⟩) = false := by decide

theorem g2_smulAux_inf (fuel k : Nat) : G2.smulAux .inf fuel k = .inf := by
  induction fuel generalizing k with
  | zero => rfl
  | succ fuel ih =>
    unfold G2.smulAux
    split
    · rfl
    · simp only [ih, G2.double]
      split <;> rfl

theorem g2_smul_inf (k : Nat) : G2.smul k .inf = .inf := g2_smulAux_inf k k

theorem g1_smulAux_inf (fuel k : Nat) : G1.smulAux .inf fuel k = .inf := by
  induction fuel generalizing k with
  | zero => rfl
  | succ fuel ih =>
    unfold G1.smulAux
    split
    · rfl
    · simp only [ih, G1.double]
      split <;> rfl

theorem g1_smul_inf (k : Nat) : G1.smul k .inf = .inf := g1_smulAux_inf k k

end Dos.Codec
