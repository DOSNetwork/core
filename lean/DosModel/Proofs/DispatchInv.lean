import DosModel.Proofs.Dispatch

/-! System invariant of the request/reply model (`Core`, `Inv`) and the updates of one request that keep it. -/
namespace Dos.Dispatch
open Dos

structure Core (s : Sys) : Prop where
  req    : ∀ i, RInv (s.reqs i)
  absent : ∀ i, s.n ≤ i → s.reqs i = {}
  bound  : ∀ i k, (s.reqs i).nonce = some k → k < s.conn.next
  uniq   : ∀ i j k, (s.reqs i).nonce = some k → (s.reqs j).nonce = some k → i = j

structure Inv (s : Sys) : Prop where
  core : Core s
  pend : ∀ k i, (k, i) ∈ s.conn.pending →
           k < s.conn.next ∧ (s.reqs i).nonce = some k ∧ (s.reqs i).rtype = .send ∧
           preTable (s.reqs i).stage = false ∧ (s.reqs i).onceT = false

/-- a table entry `(k, i)`: request `i` has nonce `k`, is send-type and has been taken by dispatch -/
theorem Inv.pend_nonce {s : Sys} (hs : Inv s) {k i : Nat} (h : (k, i) ∈ s.conn.pending) : (s.reqs i).nonce = some k :=
  (hs.pend k i h).2.1
theorem Inv.pend_send {s : Sys} (hs : Inv s) {k i : Nat} (h : (k, i) ∈ s.conn.pending) : (s.reqs i).rtype = .send :=
  (hs.pend k i h).2.2.1
theorem Inv.pend_taken {s : Sys} (hs : Inv s) {k i : Nat} (h : (k, i) ∈ s.conn.pending) :
    preTable (s.reqs i).stage = false :=
  (hs.pend k i h).2.2.2.1

theorem Core.lt_of_stage {s : Sys} (hc : Core s) {i : Nat} (h : (s.reqs i).stage ≠ .absent) : i < s.n := by
  apply Nat.lt_of_not_le; intro hle; rw [hc.absent i hle] at h; exact h rfl

theorem Core.lt_of_ctx {s : Sys} (hc : Core s) {i : Nat} (h : (s.reqs i).ctxDone = true) : i < s.n := by
  apply Nat.lt_of_not_le; intro hle; rw [hc.absent i hle] at h; simp at h

theorem Inv.init : Inv init := by
  refine ⟨⟨?_, ?_, ?_, ?_⟩, ?_⟩
  · intro i; exact RInv.default
  · intro i _; rfl
  · intro i k h; simp [Dispatch.init] at h
  · intro i j k h; simp [Dispatch.init] at h
  · intro k i h; simp [Dispatch.init] at h

theorem stage_change {r : Req} (hr : RInv r) (st : Stage)
    (hal : ∀ h, allowed r.stage r.rtype h = true → allowed st r.rtype h = true)
    (hp : preTable st = true → preTable r.stage = true) : RInv { r with stage := st } := by
  constructor
  · exact hr.count
  · exact hr.vals
  · exact hr.wctx
  · intro h hh
    have : r.once h = true := by cases h <;> exact hh
    exact hal h (hr.flags h this)
  · intro h; exact hr.nonce (hp h)

theorem ctx_change {r : Req} (hr : RInv r) : RInv { r with ctxDone := true } := by
  constructor
  · exact hr.count
  · exact hr.vals
  · intro _; rfl
  · intro h hh
    have : r.once h = true := by cases h <;> exact hh
    exact hr.flags h this
  · exact hr.nonce

theorem waiter_ctx {r : Req} (hr : RInv r) (hc : r.ctxDone = true) (hw : r.waiter = .waiting) :
    RInv { r with waiter := .ctxErr } := by
  constructor
  · exact hr.count
  · have := hr.vals; rw [hw] at this; exact this
  · intro _; exact hc
  · intro h hh
    have : r.once h = true := by cases h <;> exact hh
    exact hr.flags h this
  · exact hr.nonce

@[simp] theorem upd_reqs_same (s : Sys) (i : Nat) (f : Req → Req) : (s.upd i f).reqs i = f (s.reqs i) := by
  simp [Sys.upd]
theorem upd_reqs_other (s : Sys) (i j : Nat) (f : Req → Req) (h : j ≠ i) : (s.upd i f).reqs j = s.reqs j := by
  simp [Sys.upd, h]
@[simp] theorem upd_conn (s : Sys) (i : Nat) (f : Req → Req) : (s.upd i f).conn = s.conn := rfl
@[simp] theorem upd_n (s : Sys) (i : Nat) (f : Req → Req) : (s.upd i f).n = s.n := rfl
@[simp] theorem upd_feed (s : Sys) (i : Nat) (f : Req → Req) : (s.upd i f).feed = s.feed := rfl
@[simp] theorem upd_wire (s : Sys) (i : Nat) (f : Req → Req) : (s.upd i f).wire = s.wire := rfl

/-- frame lemma: an update of an existing request that keeps its nonce -/
theorem Core.upd {s : Sys} (hs : Core s) (i : Nat) (f : Req → Req)
    (hinv : RInv (f (s.reqs i)))
    (hnon : (f (s.reqs i)).nonce = (s.reqs i).nonce)
    (hlt : i < s.n) : Core (s.upd i f) := by
  have hnonce : ∀ j, ((s.upd i f).reqs j).nonce = (s.reqs j).nonce := by
    intro j; by_cases hj : j = i
    · subst hj; simpa using hnon
    · rw [upd_reqs_other _ _ _ _ hj]
  constructor
  · intro j; by_cases hj : j = i
    · subst hj; simpa using hinv
    · rw [upd_reqs_other _ _ _ _ hj]; exact hs.req j
  · intro j hj
    have hji : j ≠ i := by intro e; subst e; exact absurd hlt (Nat.not_lt.mpr hj)
    rw [upd_reqs_other _ _ _ _ hji]; exact hs.absent j hj
  · intro j k h; rw [hnonce] at h; exact hs.bound j k h
  · intro j j' k h h'; rw [hnonce] at h h'; exact hs.uniq j j' k h h'

/-- … and also its type, its side of the table boundary and the table copy's Once -/
theorem Inv.upd {s : Sys} (hs : Inv s) (i : Nat) (f : Req → Req)
    (hinv : RInv (f (s.reqs i)))
    (hnon : (f (s.reqs i)).nonce = (s.reqs i).nonce)
    (hty : (f (s.reqs i)).rtype = (s.reqs i).rtype)
    (hside : preTable (f (s.reqs i)).stage = preTable (s.reqs i).stage)
    (honce : (f (s.reqs i)).onceT = (s.reqs i).onceT)
    (hlt : i < s.n) : Inv (s.upd i f) := by
  refine ⟨hs.core.upd i f hinv hnon hlt, ?_⟩
  intro k j hkj
  have := hs.pend k j hkj
  by_cases hj : j = i
  · subst hj; simp only [upd_reqs_same, upd_conn, hnon, hty, hside, honce]; exact this
  · rw [upd_reqs_other _ _ _ _ hj]; exact this

/-- completion through the dispatch table of a registered request -/
theorem Core.completeTable {s : Sys} (hs : Core s) (i : Nat) (v : Res) (w : Bool) (pre : Req → Req)
    (hpre : ∀ r, RInv r → RInv (pre r))
    (hpn : ∀ r, (pre r).nonce = r.nonce) (hpt : ∀ r, (pre r).rtype = r.rtype)
    (hps : ∀ r, (pre r).stage = r.stage)
    (ht : (s.reqs i).rtype = .send) (hst : preTable (s.reqs i).stage = false) :
    Core (s.upd i (fun r => (pre r).complete .table v w)) := by
  have hne : (s.reqs i).stage ≠ .absent := by
    intro e; rw [e] at hst; simp [preTable] at hst
  apply hs.upd i _ _ _ (hs.lt_of_stage hne)
  · apply complete_inv (hpre _ (hs.req i))
    rw [hps, hpt, ht]; exact allowed_table hst
  · simp [hpn]

/-- `complete` is idempotent per holder (that is what the Once gives) -/
theorem complete_idem (r : Req) (h : Holder) (v : Res) (w : Bool) :
    (r.complete h v w).complete h v w = r.complete h v w := by
  have : (r.complete h v w).once h = true := by rw [complete_once]; simp
  unfold Req.complete at this ⊢
  simp only [this, if_true]

theorem failAll_reqs (win : List Nat) : ∀ (p : List (Nat × Nat)) (s : Sys) (j : Nat),
    (failAll win p s).reqs j =
      if (p.map Prod.snd).contains j then (s.reqs j).complete .table .errClosed (win.contains j)
      else s.reqs j := by
  intro p
  induction p with
  | nil => intro s j; simp [failAll]
  | cons e rest ih =>
    intro s j
    obtain ⟨k, i⟩ := e
    simp only [failAll, ih, List.map_cons, List.contains_cons]
    by_cases hj : j = i
    · subst hj
      simp only [upd_reqs_same, BEq.rfl, Bool.true_or, if_true]
      split
      · exact complete_idem _ _ _ _
      · rfl
    · rw [upd_reqs_other _ _ _ _ hj]
      have : (j == i) = false := by simpa using hj
      rw [this, Bool.false_or]

theorem failAll_frame (win : List Nat) : ∀ (p : List (Nat × Nat)) (s : Sys),
    (failAll win p s).conn = s.conn ∧ (failAll win p s).n = s.n ∧
    (failAll win p s).feed = s.feed ∧ (failAll win p s).wire = s.wire := by
  intro p
  induction p with
  | nil => intro s; exact ⟨rfl, rfl, rfl, rfl⟩
  | cons e rest ih =>
    intro s; obtain ⟨k, i⟩ := e
    simp only [failAll]
    have := ih (s.upd i (fun r => r.complete .table .errClosed (win.contains i)))
    exact this

theorem failAll_core (win : List Nat) : ∀ (p : List (Nat × Nat)) (s : Sys), Core s →
    (∀ k i, (k, i) ∈ p → (s.reqs i).rtype = .send ∧ preTable (s.reqs i).stage = false) →
    Core (failAll win p s) := by
  intro p
  induction p with
  | nil => intro s hs _; exact hs
  | cons e rest ih =>
    intro s hs hp
    obtain ⟨k, i⟩ := e
    have hi := hp k i (by simp)
    have hs1 := hs.completeTable i .errClosed (win.contains i) id (fun _ h => h) (fun _ => rfl)
      (fun _ => rfl) (fun _ => rfl) hi.1 hi.2
    simp only [id] at hs1
    simp only [failAll]
    apply ih _ hs1
    intro k' i' h'
    have := hp k' i' (by simp [h'])
    by_cases hj : i' = i
    · subst hj; simpa using this
    · rw [upd_reqs_other _ _ _ _ hj]; exact this

theorem lookup_mem {p : List (Nat × Nat)} {k i : Nat} (h : lookup p k = some i) : (k, i) ∈ p := by
  unfold lookup at h
  split at h
  · rename_i e he
    have hm := List.mem_of_find?_eq_some he
    have hk := List.find?_some he
    simp at hk h
    cases e; simp_all
  · simp at h

theorem mem_erase {p : List (Nat × Nat)} {k k' i : Nat} (h : (k', i) ∈ erase p k) : (k', i) ∈ p := by
  unfold erase at h
  exact (List.mem_filter.mp h).1

end Dos.Dispatch
