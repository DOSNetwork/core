/-
Bridge between the executable scalar type `Zq q` (core Lean, used by the drivers) and
Mathlib's `ZMod q`: for a prime `q` the operations the driver runs ARE field operations,
i.e. `Zq q` is a field (and, as a module over itself, the discrete-log representation of a
cyclic group of order `q`).  Every theorem of `Props/C09.lean`, `C02.lean`, `C03.lean`,
stated for an arbitrary field and module, therefore applies to the driver's own instance.
-/
import Mathlib.Algebra.Field.ZMod
import Mathlib.Algebra.Field.TransferInstance
import Mathlib.FieldTheory.Finite.Basic
import DosModel.Model.ShareZq
import DosModel.Proofs.ZModFacts

namespace Dos.Zq
variable {q : Nat}

theorem powModAux_eq (b q : Nat) : ∀ fuel e, e < 2 ^ fuel → powModAux b q fuel e = b ^ e % q := by
  intro fuel
  induction fuel with
  | zero => intro e he; have : e = 0 := by simpa using he
            subst this; simp [powModAux]
  | succ fuel ih =>
    intro e he
    unfold powModAux
    by_cases h : e = 0
    · simp [h]
    · simp only [h, if_false]
      have hlt : e / 2 < 2 ^ fuel := by
        rw [Nat.div_lt_iff_lt_mul (by decide)]; rw [pow_succ] at he; exact he
      rw [ih _ hlt]
      have hsq : b ^ (e / 2) % q * (b ^ (e / 2) % q) % q = b ^ (2 * (e / 2)) % q := by
        rw [← Nat.mul_mod, two_mul, pow_add]
      rw [hsq]
      by_cases hodd : e % 2 = 1
      · simp only [hodd, if_true]
        conv_rhs => rw [← Nat.div_add_mod e 2, hodd, pow_succ]
        rw [Nat.mul_mod, Nat.mod_mod, ← Nat.mul_mod]
      · have h0 : e % 2 = 0 := by omega
        simp only [h0, Nat.zero_ne_one, if_false]
        conv_rhs => rw [← Nat.div_add_mod e 2, h0, Nat.add_zero]

theorem powMod_eq (b e q : Nat) : powMod b e q = b ^ e % q :=
  powModAux_eq b q _ e Nat.lt_log2_self

/-- the value of a `Zq` as an element of `ZMod q` -/
def toZMod (a : Zq q) : ZMod q := (a.val : ZMod q)

theorem toZMod_injective : Function.Injective (toZMod (q := q)) := by
  intro a b h
  have := (ZModFacts.natCast_inj a.lt b.lt).1 h
  cases a; cases b; simp_all

section
set_option linter.unusedSectionVars false
variable [NeZero q]

/-- `Zq q ≃ ZMod q` -/
def equiv : Zq q ≃ ZMod q where
  toFun := toZMod
  invFun z := ⟨z.val, ZMod.val_lt z⟩
  left_inv a := by
    apply toZMod_injective
    simp [toZMod]
  right_inv z := by simp [toZMod]

@[simp] theorem equiv_apply (a : Zq q) : equiv a = (a.val : ZMod q) := rfl

theorem toZMod_zero : toZMod (0 : Zq q) = 0 := by
  show ((0 % q : Nat) : ZMod q) = 0
  simp
theorem toZMod_one : toZMod (1 : Zq q) = 1 := by
  show ((1 % q : Nat) : ZMod q) = 1
  rw [ZMod.natCast_mod]; simp
theorem toZMod_add (a b : Zq q) : toZMod (a + b) = toZMod a + toZMod b := by
  show (((a.val + b.val) % q : Nat) : ZMod q) = _
  rw [ZMod.natCast_mod]; simp [toZMod]
theorem toZMod_mul (a b : Zq q) : toZMod (a * b) = toZMod a * toZMod b := by
  show (((a.val * b.val) % q : Nat) : ZMod q) = _
  rw [ZMod.natCast_mod]; simp [toZMod]
theorem toZMod_neg (a : Zq q) : toZMod (-a) = -toZMod a := by
  show (((q - a.val) % q : Nat) : ZMod q) = _
  rw [ZMod.natCast_mod, Nat.cast_sub (Nat.le_of_lt a.lt)]; simp [toZMod]
theorem toZMod_sub (a b : Zq q) : toZMod (a - b) = toZMod a - toZMod b := by
  show (((a.val + (q - b.val)) % q : Nat) : ZMod q) = _
  rw [ZMod.natCast_mod, Nat.cast_add, Nat.cast_sub (Nat.le_of_lt b.lt)]; simp [toZMod, sub_eq_add_neg]
theorem toZMod_natCast (n : Nat) : toZMod ((n : Zq q)) = n := by
  show ((n % q : Nat) : ZMod q) = _
  rw [ZMod.natCast_mod]
theorem toZMod_intCast (z : Int) : toZMod ((z : Zq q)) = z := by
  show (((z % (q : Int)).toNat % q : Nat) : ZMod q) = _
  rw [ZMod.natCast_mod]
  have hq : (0 : Int) < q := by exact_mod_cast Nat.pos_of_ne_zero (NeZero.ne q)
  have h0 : 0 ≤ z % (q : Int) := Int.emod_nonneg _ (ne_of_gt hq)
  have h1 : (((z % (q : Int)).toNat : Nat) : ZMod q) = (((z % (q : Int)).toNat : Int) : ZMod q) :=
    (Int.cast_natCast _).symm
  rw [h1, Int.toNat_of_nonneg h0, ZMod.intCast_mod]

end

section
variable [Fact q.Prime]

instance instNeZeroOfPrime : NeZero q := ⟨(Fact.out : q.Prime).ne_zero⟩

theorem toZMod_inv (a : Zq q) : toZMod a⁻¹ = (toZMod a)⁻¹ := by
  show toZMod (if a.val = 0 then a else ⟨powMod a.val (q - 2) q % q, _⟩) = _
  by_cases h : a.val = 0
  · simp [h, toZMod]
  · simp only [h, if_false]
    show (((powMod a.val (q - 2) q % q : Nat)) : ZMod q) = _
    rw [ZMod.natCast_mod, powMod_eq, ZMod.natCast_mod, Nat.cast_pow]
    exact ZModFacts.pow_sub_two_of_ne_zero (ZModFacts.natCast_ne_zero (Nat.pos_of_ne_zero h) a.lt)

/-- `Zq q` is a field for a prime `q`, with exactly the operations the driver executes
(`+ * - ⁻¹ 0 1`, number and integer literals); the remaining structure (`/`, powers, rational
scalars) is transported from `ZMod q`. -/
instance instField : Field (Zq q) := by
  letI : Div (Zq q) := (equiv (q := q)).div
  letI : Pow (Zq q) ℕ := (equiv (q := q)).pow ℕ
  letI : Pow (Zq q) ℤ := (equiv (q := q)).pow ℤ
  letI : SMul ℕ (Zq q) := (equiv (q := q)).smul ℕ
  letI : SMul ℤ (Zq q) := (equiv (q := q)).smul ℤ
  letI : SMul ℚ≥0 (Zq q) := (equiv (q := q)).smul ℚ≥0
  letI : SMul ℚ (Zq q) := (equiv (q := q)).smul ℚ
  letI : NNRatCast (Zq q) := (equiv (q := q)).nnratCast
  letI : RatCast (Zq q) := (equiv (q := q)).ratCast
  exact toZMod_injective.field toZMod toZMod_zero toZMod_one toZMod_add toZMod_mul toZMod_neg
    toZMod_sub toZMod_inv
    (fun _ _ => (equiv (q := q)).apply_symm_apply _)
    (fun _ _ => (equiv (q := q)).apply_symm_apply _)
    (fun _ _ => (equiv (q := q)).apply_symm_apply _)
    (fun _ _ => (equiv (q := q)).apply_symm_apply _)
    (fun _ _ => (equiv (q := q)).apply_symm_apply _)
    (fun _ _ => (equiv (q := q)).apply_symm_apply _)
    (fun _ _ => (equiv (q := q)).apply_symm_apply _)
    toZMod_natCast toZMod_intCast
    (fun _ => (equiv (q := q)).apply_symm_apply _)
    (fun _ => (equiv (q := q)).apply_symm_apply _)

/-- the instances the model functions pick up from `Field (Zq q)` are the executable ones -/
example : (instField (q := q)).toInv = (inferInstance : Inv (Zq q)) := rfl
example (a b : Zq q) : a * b = (⟨(a.val * b.val) % q, Nat.mod_lt _ a.pos⟩ : Zq q) := rfl
/-- the discrete-log module: `s • p = s * p` -/
example (s p : Zq q) : s • p = s * p := rfl

/-- in the discrete-log representation no non-zero scalar annihilates a non-zero point -/
theorem smul_eq_zero_imp {b : Zq q} (hb : b ≠ 0) (c : Zq q) (h : c • b = 0) : c = 0 :=
  (mul_eq_zero.1 (show c * b = 0 from h)).resolve_right hb

/-- distinct share indices below the group order give distinct evaluation points -/
theorem intCast_injOn (n : Nat) (hn : n ≤ q) (a b : Int) (ha : 0 ≤ a ∧ a < n) (hb : 0 ≤ b ∧ b < n)
    (h : ((a : Int) : Zq q) = ((b : Int) : Zq q)) : a = b := by
  have h' := congrArg toZMod h
  rw [toZMod_intCast, toZMod_intCast, ZMod.intCast_eq_intCast_iff] at h'
  have h2 : a % (q : Int) = b % (q : Int) := h'
  have hq : (n : Int) ≤ q := by exact_mod_cast hn
  rwa [Int.emod_eq_of_lt ha.1 (by omega), Int.emod_eq_of_lt hb.1 (by omega)] at h2

/-- `1, …, n` are non-zero modulo a prime `q > n` -/
theorem natCast_ne_zero (k : Nat) (hk : 0 < k) (hkq : k < q) : ((k : Nat) : Zq q) ≠ 0 := fun h0 =>
  ZModFacts.natCast_ne_zero hk hkq (by rw [← toZMod_natCast, h0, toZMod_zero])

end
end Dos.Zq
