import DosModel.Model.P2PSym

/-! The receive path of the symbolic channel: `recvFrame_cases` is the one case analysis of `recvFrame`; what a
delivered frame was (`recvFrame_deliver`, `recvFrame_pack_deliver`), that whatever a man in the middle makes himself
is an error outcome (`forged_is_error`), and the connection as a whole (`foldl_out`, `recvAll_honest`,
`recvAll_no_stall`). -/
namespace Dos.P2PSym
open Dos

/-- every way a frame can go through the receive path: delivered (then it was sealed under the session key
and signed under the handshake key, of a known type, well-formed), skipped, an error (a framing error only
for a break in the framing), or the nil dereference when `Anything` is not checked -/
inductive RecvCase (c : Conn) (f : Frame) : Prop
  | deliver (p : Pkg) (a : Any) (hf : f = .sealed c.k (.pkg p)) (ha : p.any = some a)
      (hs : p.sig = .good c.pk a.value) (hk : c.known a.typ = true) (hw : a.wf = true)
      (h : recvFrame c f =
        .deliver { typ := a.typ, value := a.value, sender := p.sender, nonce := p.nonce, reply := p.reply })
  | skip (h : recvFrame c f = .skip)
  | err (e : Err) (h : recvFrame c f = .err e) (hfr : e = .framing → f = .broken)
  | panic (hc : c.checkAny = false) (s : String) (h : recvFrame c f = .panic s)

theorem recvFrame_cases (c : Conn) (f : Frame) : RecvCase c f := by
  cases f with
  | broken => exact .err _ rfl fun _ => rfl
  | raw n => exact .err _ rfl nofun
  | sealed k' pt =>
    by_cases hk : k' = c.k
    · subst hk
      cases pt with
      | empty => exact .skip (by simp [recvFrame])
      | junk n => exact .err .proto (by simp [recvFrame]) nofun
      | pkg p =>
        cases ha : p.any with
        | none =>
          cases hc : c.checkAny
          · exact .panic hc "decodeBytes: pa.GetAnything().Value" (by simp [recvFrame, ha, hc])
          · exact .err .noAny (by simp [recvFrame, ha, hc]) nofun
        | some a =>
          by_cases hs : p.sig = .good c.pk a.value
          · cases hkn : c.known a.typ
            · exact .err .unmarshal (by simp [recvFrame, ha, hs, hkn]) nofun
            · cases hw : a.wf
              · exact .err .unmarshal (by simp [recvFrame, ha, hs, hw]) nofun
              · exact .deliver p a rfl ha hs hkn hw (by simp [recvFrame, ha, hs, hkn, hw])
          · exact .err .sig (by simp [recvFrame, ha, hs]) nofun
    · exact .err .openFail (by simp [recvFrame, hk]) nofun

theorem recvFrame_deliver (c : Conn) (f : Frame) (d : Delivery) :
    recvFrame c f = .deliver d ↔
      ∃ p a, f = .sealed c.k (.pkg p) ∧ p.any = some a ∧ p.sig = .good c.pk a.value ∧
        c.known a.typ = true ∧ a.wf = true ∧
        d = { typ := a.typ, value := a.value, sender := p.sender, nonce := p.nonce, reply := p.reply } := by
  constructor
  · intro h
    cases recvFrame_cases c f with
    | deliver p a hf ha hs hk hw hr => rw [hr] at h; cases h; exact ⟨p, a, hf, ha, hs, hk, hw, rfl⟩
    | skip hr | err _ hr _ | panic _ _ hr => rw [hr] at h; cases h
  · rintro ⟨p, a, rfl, ha, hs, hk, hw, rfl⟩
    simp [recvFrame, ha, hs, hk, hw]

theorem recvFrame_no_panic (c : Conn) (hc : c.checkAny = true) (f : Frame) (site : String) :
    recvFrame c f ≠ .panic site := by
  intro h
  cases recvFrame_cases c f with
  | panic hf => rw [hc] at hf; cases hf
  | deliver _ _ _ _ _ _ _ hr | skip hr | err _ hr _ => rw [hr] at h; cases h

theorem recvFrame_framing (c : Conn) (f : Frame) (h : recvFrame c f = .err .framing) : f = .broken := by
  cases recvFrame_cases c f with
  | err e hr he => rw [hr] at h; cases h; exact he rfl
  | deliver _ _ _ _ _ _ _ hr | skip hr | panic _ _ hr => rw [hr] at h; cases h

theorem recvFrame_pack (c : Conn) (sender : Bytes) (m : Msg) (nonce : Nat) (reply : Bool)
    (hk : c.known m.typ = true) :
    recvFrame c (pack c.pk c.k sender m nonce reply) = .deliver (delivered sender m nonce reply) := by
  rw [recvFrame_deliver]
  exact ⟨_, _, rfl, rfl, rfl, hk, rfl, rfl⟩

theorem sig_of_pack {sk k k' : Nat} {sender : Bytes} {m : Msg} {nonce : Nat} {reply : Bool} {q : Pkg}
    (h : pack sk k sender m nonce reply = .sealed k' (.pkg q)) : q.sig = .good sk m.value := by
  cases h; rfl

/-- a packed frame that is delivered was sealed under the receiver's session key and signed with the key the
receiver verifies under, and is delivered as what was packed -/
theorem recvFrame_pack_deliver {c : Conn} {sk k : Nat} {sender : Bytes} {m : Msg} {nonce : Nat} {reply : Bool}
    {d : Delivery} (h : recvFrame c (pack sk k sender m nonce reply) = .deliver d) :
    k = c.k ∧ sk = c.pk ∧ d = delivered sender m nonce reply := by
  obtain ⟨p, a, hf, ha, hs, _, _, rfl⟩ := (recvFrame_deliver ..).mp h
  simp only [pack, Frame.sealed.injEq, Plain.pkg.injEq] at hf
  obtain ⟨hk, rfl⟩ := hf
  cases ha
  exact ⟨hk, (Sig.good.inj hs).1, rfl⟩

/-- the deliveries of an outcome: one or none -/
def Outcome.dl : Outcome → List Delivery
  | .deliver d => [d]
  | _ => []

theorem rstep_stopped (c : Conn) {st : RState} (h : st.stalled = true ∨ st.crashed = true) (f : Frame) :
    rstep c st f = st := if_pos h

/-- what one frame does to a pipeline that is running: it appends the frame's delivery, crashes on a panic, and
stalls on damaged framing or — with nobody draining `errc` — on the second error -/
theorem rstep_run (c : Conn) {st : RState} (h1 : st.stalled = false) (h2 : st.crashed = false) (f : Frame) :
    (rstep c st f).out = st.out ++ (recvFrame c f).dl ∧
    ((rstep c st f).crashed = true ↔ ∃ s, recvFrame c f = .panic s) ∧
    ((rstep c st f).stalled = true ↔
      ∃ e, recvFrame c f = .err e ∧ (e = .framing ∨ st.errs ≠ 0 ∧ c.drains = false)) := by
  unfold rstep
  rw [if_neg (by simp [h1, h2])]
  cases recvFrame c f with
  | deliver d => simp [Outcome.dl, h1, h2]
  | skip => simp [Outcome.dl, h1, h2]
  | panic s => simp [Outcome.dl, h1]
  | err e =>
    dsimp only
    by_cases he : e = .framing
    · simp [Outcome.dl, he, h2]
    · by_cases hd : st.errs = 0 ∨ c.drains = true
      · rw [if_neg he, if_pos hd]
        rcases hd with hd | hd <;> simp [Outcome.dl, he, hd, h1, h2]
      · rw [if_neg he, if_neg hd]
        simp only [not_or, Bool.not_eq_true] at hd
        simp [Outcome.dl, hd, h2]

theorem rstep_out (c : Conn) (st : RState) (f : Frame) :
    (rstep c st f).out = st.out ∨ ∃ d, recvFrame c f = .deliver d ∧ (rstep c st f).out = st.out ++ [d] := by
  by_cases hs : st.stalled = true ∨ st.crashed = true
  · exact .inl (by rw [rstep_stopped c hs])
  · simp only [not_or, Bool.not_eq_true] at hs
    have h := (rstep_run c hs.1 hs.2 f).1
    cases hr : recvFrame c f with
    | deliver d => exact .inr ⟨d, rfl, by rw [h, hr]; rfl⟩
    | skip | panic _ | err _ => exact .inl (by rw [h, hr]; exact List.append_nil _)

theorem rstep_mem {c : Conn} {st : RState} {f : Frame} {d : Delivery} (h : d ∈ (rstep c st f).out) :
    d ∈ st.out ∨ recvFrame c f = .deliver d := by
  rcases rstep_out c st f with e | ⟨d', hd', e⟩ <;> rw [e] at h
  · exact .inl h
  · rcases List.mem_append.mp h with h | h
    · exact .inl h
    · cases List.mem_singleton.mp h; exact .inr hd'

theorem foldl_out (c : Conn) : ∀ (fs : List Frame) (st : RState) (d : Delivery),
    d ∈ (fs.foldl (rstep c) st).out → d ∈ st.out ∨ ∃ f ∈ fs, recvFrame c f = .deliver d := by
  intro fs
  induction fs with
  | nil => intro st d h; exact .inl h
  | cons f fs ih =>
    intro st d h
    rcases ih _ d h with h1 | ⟨g, hg, hd⟩
    · exact (rstep_mem h1).imp_right fun h2 => ⟨f, List.mem_cons_self, h2⟩
    · exact .inr ⟨g, List.mem_cons_of_mem _ hg, hd⟩

theorem foldl_not_crashed (c : Conn) : ∀ (fs : List Frame) (st : RState),
    (∀ f ∈ fs, ∀ s, recvFrame c f ≠ .panic s) → st.crashed = false → (fs.foldl (rstep c) st).crashed = false := by
  intro fs
  induction fs with
  | nil => exact fun _ _ h => h
  | cons f fs ih =>
    intro st hp h
    refine ih _ (fun g hg => hp g (List.mem_cons_of_mem _ hg)) ?_
    cases hs : st.stalled
    · exact Bool.eq_false_iff.mpr fun hcr =>
        let ⟨s, hs'⟩ := (rstep_run c hs h f).2.1.mp hcr
        hp f List.mem_cons_self s hs'
    · rw [rstep_stopped c (.inl hs)]; exact h

/-- elements that `f` drops anyway may be filtered out first -/
theorem filterMap_filter_of_none {α β : Type} (f : α → Option β) (p : α → Bool) :
    ∀ l : List α, (∀ x ∈ l, p x = false → f x = none) → l.filterMap f = (l.filter p).filterMap f := by
  intro l
  induction l with
  | nil => intro _; rfl
  | cons x l ih =>
    intro h
    have ih' := ih fun y hy => h y (List.mem_cons_of_mem _ hy)
    rw [List.filterMap_cons, List.filter_cons]
    cases hp : p x
    · rw [h x List.mem_cons_self hp, if_neg Bool.false_ne_true]; exact ih'
    · rw [if_pos rfl, List.filterMap_cons, ih']

/-- a frame this endpoint packed itself, sent back to it: it opens (same key, same nonce) but the
payload signature is its OWN, and it is verified under the REMOTE endpoint's handshake key -/
theorem recvFrame_reflected (c : Conn) (hne : c.self ≠ c.pk) (sender : Bytes) (m : Msg) (nonce : Nat)
    (reply : Bool) : recvFrame c (pack c.self c.k sender m nonce reply) = .err .sig := by
  have : Sig.good c.self m.value ≠ Sig.good c.pk m.value := by
    intro h; injection h with h _; exact hne h
  simp [recvFrame, pack, this]

/-- the frames this endpoint sent on the connection were packed by it, with its own key -/
def OwnPacked (c : Conn) (own : List Frame) : Prop :=
  ∀ f ∈ own, ∃ sender m nonce reply, f = pack c.self c.k sender m nonce reply

/-- a frame the man in the middle made himself, or bounced back, is an error: a byte string that is no Seal
output, a frame sealed under another key, damaged framing, a reflected frame (rejected by the signature check) -/
theorem forged_is_error (c : Conn) (hne : c.self ≠ c.pk) (sent own : List Frame)
    (hown : OwnPacked c own) (f : Frame) (hd : Derivable c.k sent own f) (hn : f ∉ sent) :
    ∃ e, recvFrame c f = .err e := by
  cases hd with
  | copy hm => exact absurd hm hn
  | reflect hm =>
    obtain ⟨sender, m, nonce, reply, rfl⟩ := hown f hm
    exact ⟨.sig, recvFrame_reflected c hne sender m nonce reply⟩
  | raw n => exact ⟨.openFail, rfl⟩
  | broken => exact ⟨.framing, rfl⟩
  | otherKey hk => exact ⟨.openFail, by simp [recvFrame, hk]⟩

theorem forged_not_delivered (c : Conn) (hne : c.self ≠ c.pk) (sent own : List Frame)
    (hown : OwnPacked c own) (f : Frame) (hd : Derivable c.k sent own f)
    (hn : f ∉ sent) : ∀ d, recvFrame c f ≠ .deliver d := by
  obtain ⟨e, he⟩ := forged_is_error c hne sent own hown f hd hn
  rw [he]; nofun

theorem recvAll_honest (c : Conn) (sender : Bytes) :
    ∀ (ms : List (Msg × Nat × Bool)) (st : RState), st.stalled = false → st.crashed = false →
      (∀ m ∈ ms, c.known m.1.typ = true) →
      (ms.map fun m => pack c.pk c.k sender m.1 m.2.1 m.2.2).foldl (rstep c) st =
        { st with out := st.out ++ ms.map fun m => delivered sender m.1 m.2.1 m.2.2 } := by
  intro ms
  induction ms with
  | nil => intro st _ _ _; simp
  | cons m ms ih =>
    intro st hs hc hk
    simp only [List.map_cons, List.foldl_cons]
    have h1 : rstep c st (pack c.pk c.k sender m.1 m.2.1 m.2.2) =
        { st with out := st.out ++ [delivered sender m.1 m.2.1 m.2.2] } := by
      unfold rstep
      simp [hs, hc, recvFrame_pack c sender m.1 m.2.1 m.2.2 (hk m (by simp))]
    rw [h1]
    have := ih { st with out := st.out ++ [delivered sender m.1 m.2.1 m.2.2] } hs hc
      (fun x hx => hk x (by simp [hx]))
    rw [this]
    simp

/-- with the error channel drained, only damage to the framing (or a crash) stops a connection:
as long as no frame is `broken` and none panics, the receiver never stalls and delivers exactly
the deliverable frames, in order -/
theorem recvAll_no_stall (c : Conn) (hd : c.drains = true) :
    ∀ (fs : List Frame) (st : RState), st.stalled = false → st.crashed = false →
      (∀ f ∈ fs, recvFrame c f ≠ .err .framing ∧ ∀ s, recvFrame c f ≠ .panic s) →
      (fs.foldl (rstep c) st).stalled = false ∧ (fs.foldl (rstep c) st).crashed = false ∧
      (fs.foldl (rstep c) st).out = st.out ++ fs.filterMap (fun f =>
        match recvFrame c f with
        | .deliver d => some d
        | _ => none) := by
  intro fs
  induction fs with
  | nil => intro st h1 h2 _; simp [h1, h2]
  | cons f fs ih =>
    intro st h1 h2 hf
    have hf0 := hf f (by simp)
    simp only [List.foldl_cons]
    obtain ⟨ho, hc, hs⟩ := rstep_run c h1 h2 f
    have hstep : (rstep c st f).stalled = false ∧ (rstep c st f).crashed = false := by
      refine ⟨Bool.eq_false_iff.mpr fun h => ?_, Bool.eq_false_iff.mpr fun h => ?_⟩
      · obtain ⟨e, he, hfr | ⟨_, hnd⟩⟩ := hs.mp h
        · exact hf0.1 (hfr ▸ he)
        · rw [hd] at hnd; cases hnd
      · obtain ⟨s, hp⟩ := hc.mp h
        exact hf0.2 s hp
    obtain ⟨a, b, c'⟩ := ih (rstep c st f) hstep.1 hstep.2 (fun g hg => hf g (by simp [hg]))
    refine ⟨a, b, ?_⟩
    rw [c', ho]
    cases hr : recvFrame c f <;> simp [Outcome.dl, hr]

end Dos.P2PSym
