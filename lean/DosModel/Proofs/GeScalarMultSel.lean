/-
C20 — table selection of ge.go: cached / precomputed Zero, Neg, CMove (per-method specs in the style of
Proofs/GeSpec2.lean: multiplier analysis decided on the regenerated body, limb run vs field run of the SAME body),
the bit tricks `equal`, `negative`, `absOf` (Go's `bAbs`), and `selectCached` / `selectPreComputed`: for a digit b ∈ [−8, 8] the
constant-time selection returns (a representation of) b • A.
-/
import Mathlib.Algebra.Order.Group.Abs
import Mathlib.Algebra.Order.Ring.Abs
import Mathlib.Algebra.Order.Ring.Int
import DosModel.Proofs.GeSpec2

set_option exponentiation.threshold 600

namespace Dos.Ge
open Dos Dos.Ed25519 Dos.FeProg Dos.FeOps Dos.GeProg Dos.Ed25519Prime Dos.Edwards Dos.Gen.Ed25519Ge

theorem cachedZero_spec : GoodCached cachedZero (0 : Pt) := by
  have h := call_refines cached_Zero [junk4] 0 0 (Or.inl rfl) (junk4Rel 0 0 0 0)
    (M1 := [some 1, some 1, some 1, some 1, some 1, some 1, some 1]) (by decide)
    (by simp only [ge_run, cached_Zero]; rfl)
  exact cached4_good ((h.get 0 rfl rfl).mono (by decide)) ((h.get 1 rfl rfl).mono (by decide)) (h.get 2 rfl rfl) (h.get 3 rfl rfl)
    ⟨one_ne_zero, by simp, by simp, by simp⟩

theorem cachedNeg_spec {t : Cached} {P : Pt} (ht : GoodCached t P) : GoodCached (cachedNeg t) (-P) := by
  have h := call_refines cached_Neg [junk4, t.regs] 0 0 (Or.inl rfl) (RegRel.append (junk4Rel 0 0 0 0) (cachedRel ht))
    (M1 := [some 3, some 3, some 1, some 1, some 3, some 3, some 1, some 1, some 1, some 1, some 1]) (by decide)
    (by simp only [ge_run, cached_Neg]; rfl)
  obtain ⟨hz, e1, e2, e3⟩ := ht.affine
  exact cached4_good (h.get 0 rfl rfl) (h.get 1 rfl rfl) (h.get 2 rfl rfl) (h.get 3 rfl rfl)
    ⟨hz, by rw [e2, neg_x, neg_y]; ring, by rw [e1, neg_x, neg_y]; ring, by rw [e3, neg_x, neg_y]; ring⟩

theorem cachedCMove_spec {r u : Cached} {P Q : Pt} (hr : GoodCached r P) (hu : GoodCached u Q) {b : Int}
    (hb : b = 0 ∨ b = 1) : GoodCached (cachedCMove r u b) (if b = 1 then Q else P) := by
  have h := call_refines cached_CMove [r.regs, u.regs] 0 b hb (RegRel.append (cachedRel hr) (cachedRel hu))
    (M1 := [some 3, some 3, some 1, some 1, some 3, some 3, some 1, some 1, some 1, some 1, some 1]) (by decide)
    (by simp only [ge_run, cached_CMove]; rfl)
  by_cases h1 : b = 1
  · simp only [if_pos h1] at h ⊢
    exact cached4_good (h.get 0 rfl rfl) (h.get 1 rfl rfl) (h.get 2 rfl rfl) (h.get 3 rfl rfl) hu.affine
  · simp only [if_neg h1] at h ⊢
    exact cached4_good (h.get 0 rfl rfl) (h.get 1 rfl rfl) (h.get 2 rfl rfl) (h.get 3 rfl rfl) hr.affine

theorem preZero_spec : GoodPre preZero (0 : Pt) := by
  have h := call_refines precomp_Zero [junk3] 0 0 (Or.inl rfl) (junk3Rel 0 0 0)
    (M1 := [some 1, some 1, some 1, some 1, some 1, some 1]) (by decide) (by simp only [ge_run, precomp_Zero]; rfl)
  exact pre3_good (h.get 0 rfl rfl) (h.get 1 rfl rfl) (h.get 2 rfl rfl) ⟨by simp, by simp, by simp⟩

theorem preNeg_spec {t : Pre} {P : Pt} (ht : GoodPre t P) : GoodPre (preNeg t) (-P) := by
  have h := call_refines precomp_Neg [junk3, t.regs] 0 0 (Or.inl rfl) (RegRel.append (junk3Rel 0 0 0) (preRel ht))
    (M1 := [some 1, some 1, some 1, some 1, some 1, some 1, some 1, some 1, some 1]) (by decide)
    (by simp only [ge_run, precomp_Neg]; rfl)
  exact pre3_good (h.get 0 rfl rfl) (h.get 1 rfl rfl) (h.get 2 rfl rfl)
    ⟨by rw [ht.hm, neg_x, neg_y]; ring, by rw [ht.hp, neg_x, neg_y]; ring, by rw [ht.hd, neg_x, neg_y]; ring⟩

theorem preCMove_spec {r u : Pre} {P Q : Pt} (hr : GoodPre r P) (hu : GoodPre u Q) {b : Int}
    (hb : b = 0 ∨ b = 1) : GoodPre (preCMove r u b) (if b = 1 then Q else P) := by
  have h := call_refines precomp_CMove [r.regs, u.regs] 0 b hb (RegRel.append (preRel hr) (preRel hu))
    (M1 := [some 1, some 1, some 1, some 1, some 1, some 1, some 1, some 1, some 1]) (by decide)
    (by simp only [ge_run, precomp_CMove]; rfl)
  by_cases h1 : b = 1
  · simp only [if_pos h1] at h ⊢
    exact pre3_good (h.get 0 rfl rfl) (h.get 1 rfl rfl) (h.get 2 rfl rfl) ⟨hu.hp, hu.hm, hu.hd⟩
  · simp only [if_neg h1] at h ⊢
    exact pre3_good (h.get 0 rfl rfl) (h.get 1 rfl rfl) (h.get 2 rfl rfl) ⟨hr.hp, hr.hm, hr.hd⟩

theorem u32_inj {b c : Int} (hb : I32 b) (hc : I32 c) (h : u32 b = u32 c) : b = c := by
  rw [← s32_u32 b hb, ← s32_u32 c hc, h]

theorem nat_eq_of_xor_eq_zero {x y : Nat} (h : x ^^^ y = 0) : x = y := by
  have h1 : x ^^^ (x ^^^ y) = y := by rw [← Nat.xor_assoc, Nat.xor_self, Nat.zero_xor]
  rw [h, Nat.xor_zero] at h1
  exact h1

/-- `equal(b, c)` = 1 if b = c, else 0 — for all NON-NEGATIVE int32 (the code calls it on 0 ≤ bAbs ≤ 8 and 1 … 8).
(For operands of different sign `b ^ c` has its top bit set and the Go function returns 1: e.g. equal(−1, 0) = 1.) -/
theorem equal_spec31 (b c : Int) (hb : 0 ≤ b ∧ b ≤ 2147483647) (hc : 0 ≤ c ∧ c ≤ 2147483647) :
    equal b c = if b = c then 1 else 0 := by
  unfold equal xor32
  have hb' : u32 b < 2147483648 := by unfold u32; omega
  have hc' : u32 c < 2147483648 := by unfold u32; omega
  have hx : u32 b ^^^ u32 c < 2147483648 := Nat.xor_lt_two_pow (n := 31) hb' hc'
  simp only [u32_s32 _ (by omega : u32 b ^^^ u32 c < 4294967296)]
  by_cases h : b = c
  · subst h
    rw [Nat.xor_self, if_pos rfl]
    rfl
  · rw [if_neg h]
    have hne : u32 b ^^^ u32 c ≠ 0 := by
      intro h0
      exact h (u32_inj (by unfold I32; omega) (by unfold I32; omega) (nat_eq_of_xor_eq_zero h0))
    have : ((u32 b ^^^ u32 c) + 4294967295) % 4294967296 / 2147483648 = 0 := by omega
    rw [this]
    rfl

/-- the Go `equal` is NOT equality on operands of different sign -/
theorem equal_mixed_sign : equal (-1) 0 = 1 := by decide

theorem shrI_31 (b : Int) (h : I32 b) : shrI b 31 = if b < 0 then -1 else 0 := by
  unfold shrI I32 at *
  rw [Int.shiftRight_eq_div_pow]
  split <;> omega

theorem negative_spec (b : Int) (h : -2147483648 ≤ b ∧ b ≤ 2147483647) : negative b = if b < 0 then 1 else 0 := by
  unfold negative
  rw [shrI_31 b h]
  split
  · decide
  · decide

/-- `bAbs := b − (((−bNegative) & b) << 1)` is |b| — for all int32 in the unbounded model of `<<` -/
theorem absOf_spec32 (b : Int) (h : I32 b) : absOf b = |b| := by
  unfold absOf
  rw [negative_spec b h]
  unfold and32 shl
  by_cases hneg : b < 0
  · rw [if_pos hneg]
    have h1 : u32 (-1) = 4294967295 := by decide
    rw [h1, mask32 (u32_lt b), s32_u32 b h, abs_of_neg hneg]
    ring
  · rw [if_neg hneg]
    have h0 : u32 (-0) = 0 := by decide
    have hs : s32 0 = 0 := by decide
    rw [h0, Nat.zero_and, hs, abs_of_nonneg (by omega)]
    ring

/-- the digit as sign and magnitude -/
theorem digit_cases (b : Int) (hb : -8 ≤ b ∧ b ≤ 8) :
    ∃ m : Nat, m ≤ 8 ∧ absOf b = (m : Int) ∧ ((b < 0 ∧ b = -(m : Int)) ∨ (¬ b < 0 ∧ b = (m : Int))) := by
  refine ⟨b.natAbs, by omega, ?_, by omega⟩
  rw [absOf_spec32 b (by unfold I32; omega)]
  exact Int.abs_eq_natAbs b

/-- a loop `for k := 0; k < n; k++` with an invariant indexed by the number of rounds done -/
theorem foldl_range_inv {α : Type} (f : α → Nat → α) (Inv : Nat → α → Prop) (init : α) (n : Nat) (h0 : Inv 0 init)
    (hs : ∀ k t, k < n → Inv k t → Inv (k + 1) (f t k)) : Inv n ((List.range n).foldl f init) := by
  induction n with
  | zero => exact h0
  | succ n ih =>
    rw [List.range_succ, List.foldl_append]
    simp only [List.foldl_cons, List.foldl_nil]
    exact hs n _ (by omega) (ih (fun k t hk => hs k t (by omega)))

/-! Constant-time selection from a table [1A, …, 8A], for any representation `Good` of curve points with a zero, a
conditional move and a negation (cached and precomputed elements below). -/
section Select
variable {α : Type} {Good : α → Pt → Prop} {cmove : α → α → Int → α} {neg : α → α} {zero : α} {entry : Nat → α} {A : Pt}

/-- the selection loop: after the first `n` table entries the accumulator is m • A if 1 ≤ m ≤ n, the identity
otherwise (m = bAbs) -/
theorem select_loop (hzero : Good zero 0)
    (hcmove : ∀ {r u : α} {P Q : Pt}, Good r P → Good u Q → ∀ {b : Int}, b = 0 ∨ b = 1 →
      Good (cmove r u b) (if b = 1 then Q else P))
    (h : ∀ i, i < 8 → Good (entry i) ((i + 1) • A)) (m : Nat) (hm8 : m ≤ 8) :
    Good ((List.range 8).foldl (fun c i => cmove c (entry i) (equal (m : Int) (i + 1))) zero) (m • A) := by
  have key := foldl_range_inv (fun c i => cmove c (entry i) (equal (m : Int) (i + 1)))
    (fun n c => Good c (if m ≤ n then m • A else 0)) zero 8
    (by
      show Good zero (if m ≤ 0 then m • A else 0)
      split_ifs with h0
      · rw [Nat.le_zero.1 h0, zero_smul]; exact hzero
      · exact hzero)
    (fun n c hn ih => by
      have he := equal_spec31 (m : Int) ((n : Int) + 1) (by omega) (by omega)
      have := hcmove ih (h n hn) (b := equal (m : Int) ((n : Int) + 1)) (by rw [he]; split <;> simp)
      have e : (if m ≤ n + 1 then m • A else 0)
          = if equal (m : Int) ((n : Int) + 1) = 1 then (n + 1) • A else if m ≤ n then m • A else 0 := by
        rw [he]
        by_cases hmn : m = n + 1
        · subst hmn; simp
        · have e1 : ¬ (m : Int) = (n : Int) + 1 := by omega
          have e2 : m ≤ n + 1 ↔ m ≤ n := by omega
          simp [e1, e2]
      show Good _ (if m ≤ n + 1 then m • A else 0)
      rw [e]
      exact this)
  rwa [if_pos hm8] at key

/-- for a digit b ∈ [−8, 8]: select |b| • A, then negate if b < 0 -/
theorem select_spec (hzero : Good zero 0)
    (hcmove : ∀ {r u : α} {P Q : Pt}, Good r P → Good u Q → ∀ {b : Int}, b = 0 ∨ b = 1 →
      Good (cmove r u b) (if b = 1 then Q else P))
    (hneg : ∀ {t : α} {P : Pt}, Good t P → Good (neg t) (-P))
    (h : ∀ i, i < 8 → Good (entry i) ((i + 1) • A)) (b : Int) (hb : -8 ≤ b ∧ b ≤ 8) :
    Good (cmove ((List.range 8).foldl (fun c i => cmove c (entry i) (equal (absOf b) (i + 1))) zero)
      (neg ((List.range 8).foldl (fun c i => cmove c (entry i) (equal (absOf b) (i + 1))) zero)) (negative b)) (b • A) := by
  obtain ⟨m, hm8, habs, hsign⟩ := digit_cases b hb
  rw [habs, negative_spec b (by omega)]
  have hc := select_loop hzero hcmove h m hm8
  rcases hsign with ⟨hneg', e⟩ | ⟨hneg', e⟩
  · have := hcmove hc (hneg hc) (b := 1) (Or.inr rfl)
    rw [if_pos rfl] at this
    rw [if_pos hneg', e, neg_smul, natCast_zsmul]
    exact this
  · have := hcmove hc (hneg hc) (b := 0) (Or.inl rfl)
    rw [if_neg (by decide)] at this
    rw [if_neg hneg', e, natCast_zsmul]
    exact this

end Select

/-- **selectCached**: for a digit b ∈ [−8, 8] and the table [1A, …, 8A] the result represents b • A -/
theorem selectCached_spec (ai : List Cached) (A : Pt) (hai : ai.length = 8)
    (h : ∀ i, i < 8 → GoodCached (ai.getD i default) ((i + 1) • A)) (b : Int) (hb : -8 ≤ b ∧ b ≤ 8) :
    GoodCached (selectCached ai b) (b • A) := by
  have _ := hai
  exact select_spec cachedZero_spec cachedCMove_spec cachedNeg_spec h b hb

/-- **selectPreComputed**: for a digit b ∈ [−8, 8] and a table row [1Q, …, 8Q] the result represents b • Q -/
theorem selectPreComputed_spec (pos : Nat) (Q : Pt)
    (hrow : ∀ j, j < 8 → GoodPre (preOf ((Gen.Ed25519GeTable.c_base.getD pos []).getD j [])) ((j + 1) • Q))
    (b : Int) (hb : -8 ≤ b ∧ b ≤ 8) : GoodPre (selectPreComputed pos b) (b • Q) :=
  select_spec preZero_spec preCMove_spec preNeg_spec hrow b hb

end Dos.Ge
