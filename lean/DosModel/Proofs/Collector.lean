/-
Lemmas about the share collector (`Model/Collector.lean`) for C13.  Core Lean only.

The loop body `step` is described once, component by component (`arrive_*`, `deliv_*`, `step_reg_some`,
`step_done`, `step_reg_eq`, `step_buf`); the theorems about whole schedules are inductions over the
event list that use only these.
-/
import DosModel.Model.Collector

namespace Dos.Collector
open Dos

/-- projection of a list of sends on one instance: `deliveries es h` is `deliv (outputs es) h` (`deliveries_eq`) -/
def deliv (o : List (Nat × Share)) (h : Nat) : List Share :=
  (o.filter (fun p => p.1 == h)).map (·.2)

theorem deliv_append (a b : List (Nat × Share)) (h : Nat) :
    deliv (a ++ b) h = deliv a h ++ deliv b h := by
  simp [deliv]

@[simp] theorem deliv_nil (h : Nat) : deliv [] h = [] := rfl

theorem deliv_map (l : List Share) (h0 h : Nat) :
    deliv (l.map (fun s => (h0, s))) h = if h0 = h then l else [] := by
  by_cases hh : h0 = h <;> simp [deliv, List.filter_map, Function.comp_def, hh]

theorem deliv_eq_nil {o : List (Nat × Share)} {h : Nat} (hn : ∀ p ∈ o, p.1 ≠ h) : deliv o h = [] := by
  simpa [deliv] using hn

theorem deliveries_eq (es : List Ev) (h : Nat) : deliveries es h = deliv (run init es).2 h := rfl

theorem run_cons (st : St) (e : Ev) (es : List Ev) :
    run st (e :: es) = ((run (step st e).1 es).1, (step st e).2 ++ (run (step st e).1 es).2) := by
  simp [run]

theorem run_append (st : St) (a b : List Ev) :
    run st (a ++ b) = ((run (run st a).1 b).1, (run st a).2 ++ (run (run st a).1 b).2) := by
  induction a generalizing st with
  | nil => simp [run]
  | cons e a ih => simp [run_cons, ih, List.append_assoc]

/-- the share of an arrival -/
def Ev.share? : Ev → Option Share
  | .arrive s => some s
  | _ => none

theorem arrivalsFor_eq (r : Rid) (es : List Ev) :
    arrivalsFor r es = (es.filterMap Ev.share?).filter (fun s => s.rid = r) := by
  induction es with
  | nil => rfl
  | cons e es ih =>
    cases e <;> simp only [arrivalsFor, List.filterMap_cons, Ev.share?, ih]
    rw [List.filter_cons]; simp only [decide_eq_true_eq]

theorem arrivalsFor_append (r : Rid) (a b : List Ev) :
    arrivalsFor r (a ++ b) = arrivalsFor r a ++ arrivalsFor r b := by
  simp only [arrivalsFor_eq, List.filterMap_append, List.filter_append]

theorem arrivalsFor_cons (r : Rid) (e : Ev) (es : List Ev) :
    arrivalsFor r (e :: es) = arrivalsFor r [e] ++ arrivalsFor r es :=
  arrivalsFor_append r [e] es

theorem mem_arrivalsFor {r : Rid} {s : Share} {es : List Ev} :
    s ∈ arrivalsFor r es ↔ Ev.arrive s ∈ es ∧ s.rid = r := by
  simp only [arrivalsFor_eq, List.mem_filter, List.mem_filterMap, decide_eq_true_eq]
  refine and_congr_left fun _ => ⟨?_, fun h => ⟨_, h, rfl⟩⟩
  rintro ⟨e, he, hs⟩
  cases e <;> simp only [Ev.share?, Option.some.injEq, reduceCtorEq] at hs
  exact hs ▸ he

/-! ### the loop body, one component at a time -/

theorem step_arrive_done {st : St} {s : Share} {h0 : Nat} (hr : st.reg s.rid = some h0)
    (hd : st.done h0 = true) : step st (.arrive s) = (st, []) := by simp [step, hr, hd]

theorem step_arrive_live {st : St} {s : Share} {h0 : Nat} (hr : st.reg s.rid = some h0)
    (hd : ¬ st.done h0 = true) : step st (.arrive s) = (st, [(h0, s)]) := by simp [step, hr, hd]

theorem step_arrive_none {st : St} {s : Share} (hr : st.reg s.rid = none) :
    step st (.arrive s) = ({ st with buf := upd st.buf s.rid (st.buf s.rid ++ [s]) }, []) := by
  simp [step, hr]

theorem arrive_reg (st : St) (s : Share) : (step st (.arrive s)).1.reg = st.reg := by
  simp only [step]; split
  · split <;> rfl
  · rfl

theorem arrive_done (st : St) (s : Share) : (step st (.arrive s)).1.done = st.done := by
  simp only [step]; split
  · split <;> rfl
  · rfl

theorem arrive_buf (st : St) (s : Share) (r : Rid) : (step st (.arrive s)).1.buf r =
    if st.reg s.rid = none ∧ r = s.rid then st.buf r ++ [s] else st.buf r := by
  cases hr : st.reg s.rid with
  | none => rw [step_arrive_none hr]; by_cases hrr : r = s.rid <;> simp [upd, hrr]
  | some h0 => by_cases hd : st.done h0 = true <;> simp [step, hr, hd]

theorem deliv_arrive (st : St) (s : Share) (h : Nat) : deliv (step st (.arrive s)).2 h =
    if st.reg s.rid = some h ∧ st.done h = false then [s] else [] := by
  cases hr : st.reg s.rid with
  | none => simp [step, hr]
  | some h0 =>
    by_cases hd : st.done h0 = true
    · rw [step_arrive_done hr hd, deliv_nil, if_neg]; rintro ⟨h1, h2⟩; cases h1; simp [hd] at h2
    · rw [step_arrive_live hr hd]
      by_cases hh : h0 = h
      · subst hh; simp [deliv, hd]
      · simp [deliv, hh]

theorem deliv_register (st : St) (h0 : Nat) (r : Rid) (h : Nat) :
    deliv (step st (.register h0 r)).2 h = if h0 = h ∧ st.done h0 = false then st.buf r else [] := by
  by_cases hd : st.done h0 = true <;> simp [step, hd, deliv_map]

theorem step_reg_some {st : St} {e : Ev} {r : Rid} {h : Nat} (hr : (step st e).1.reg r = some h) :
    st.reg r = some h ∨ e = .register h r := by
  cases e with
  | arrive s => rw [arrive_reg] at hr; exact Or.inl hr
  | register h0 r0 =>
    simp only [step, upd] at hr
    split at hr
    · cases hr; subst r; exact Or.inr rfl
    · exact Or.inl hr
  | watchdog =>
    simp only [step] at hr
    split at hr
    · cases hr
    · exact Or.inl hr
  | _ => exact Or.inl hr

theorem step_done (st : St) (e : Ev) (h : Nat) :
    (step st e).1.done h = true ↔ st.done h = true ∨ e = .cancel h := by
  cases e with
  | arrive s => simp [arrive_done]
  | cancel h0 =>
    by_cases hh : h = h0
    · simp [step, hh]
    · simpa [step, hh] using fun c => absurd c.symm hh
  | _ => simp [step]

theorem step_done_false {st : St} {e : Ev} {h : Nat} (hd : st.done h = false) (he : e ≠ .cancel h) :
    (step st e).1.done h = false := by
  cases hc : (step st e).1.done h with
  | false => rfl
  | true => exact ((step_done st e h).1 hc).elim (by simp [hd]) (absurd · he)

theorem step_reg_eq {st : St} {e : Ev} {r : Rid} (he : ∀ h, e ≠ .register h r) (hg : gone st r = false) :
    (step st e).1.reg r = st.reg r := by
  cases e with
  | arrive s => rw [arrive_reg]
  | register h0 r0 =>
    have : r ≠ r0 := fun c => he h0 (c ▸ rfl)
    simp [step, upd, this]
  | watchdog => simp [step, hg]
  | _ => rfl

theorem step_buf {st : St} {e : Ev} {r : Rid} (he : ∀ h, e ≠ .register h r) (hr : st.reg r = none) :
    (step st e).1.buf r = st.buf r ++ arrivalsFor r [e] := by
  cases e with
  | arrive s =>
    rw [arrive_buf]
    by_cases hs : s.rid = r
    · subst hs; simp [arrivalsFor, hr]
    · simp only [arrivalsFor, hs, if_false, List.append_nil, ite_eq_right_iff]
      exact fun c => absurd c.2.symm hs
  | register h0 r0 =>
    have : r ≠ r0 := fun c => he h0 (c ▸ rfl)
    simp [step, upd, this, arrivalsFor]
  | watchdog => simp [step, gone, hr, arrivalsFor]
  | _ => simp [step, arrivalsFor]

/-- what every reachable state satisfies (`good_run`) -/
structure Good (st : St) : Prop where
  regEmpty : ∀ r, st.reg r ≠ none → st.buf r = []
  keyed : ∀ r s, s ∈ st.buf r → s.rid = r

theorem good_init : Good init := ⟨fun _ _ => rfl, fun _ _ h => by simp [init] at h⟩

theorem good_step (st : St) (e : Ev) (g : Good st) : Good (step st e).1 := by
  cases e with
  | arrive s =>
    refine ⟨fun r hne => ?_, fun r x hx => ?_⟩
    · rw [arrive_reg] at hne
      rw [arrive_buf, if_neg (fun c : st.reg s.rid = none ∧ r = s.rid => hne (c.2 ▸ c.1))]
      exact g.regEmpty r hne
    · rw [arrive_buf] at hx
      split at hx
      · rename_i c
        rcases List.mem_append.1 hx with hx | hx
        · exact g.keyed r x hx
        · rw [List.mem_singleton.1 hx, c.2]
      · exact g.keyed r x hx
  | register h r' =>
    refine ⟨fun r hne => ?_, fun r x hx => ?_⟩ <;> by_cases hrr : r = r'
    · simp [step, upd, hrr]
    · simp only [step, upd, hrr, if_false] at hne ⊢; exact g.regEmpty r hne
    · simp [step, upd, hrr] at hx
    · simp only [step, upd, hrr, if_false] at hx; exact g.keyed r x hx
  | watchdog =>
    refine ⟨fun r hne => ?_, fun r x hx => ?_⟩ <;> by_cases hg : gone st r = true
    · simp [step, hg]
    · simp only [step, hg] at hne ⊢; exact g.regEmpty r hne
    · simp [step, hg] at hx
    · simp only [step, hg] at hx; exact g.keyed r x hx
  | _ => exact ⟨g.regEmpty, g.keyed⟩

theorem good_run (es : List Ev) : ∀ st, Good st → Good (run st es).1 := by
  induction es with
  | nil => intro st g; exact g
  | cons e es ih => intro st g; rw [run_cons]; exact ih _ (good_step st e g)

/-! ### what a whole schedule does to `done` and `reg` -/

theorem run_done (es : List Ev) (h : Nat) : ∀ st,
    (run st es).1.done h = true ↔ st.done h = true ∨ Ev.cancel h ∈ es := by
  induction es with
  | nil => intro st; simp [run]
  | cons e es ih => intro st; rw [run_cons, ih, step_done, List.mem_cons, or_assoc, eq_comm (a := Ev.cancel h)]

theorem run_reg_some (es : List Ev) {r : Rid} {h : Nat} : ∀ st, (run st es).1.reg r = some h →
    st.reg r = some h ∨ Ev.register h r ∈ es := by
  induction es with
  | nil => intro st hr; exact Or.inl hr
  | cons e es ih =>
    intro st hr
    rw [run_cons] at hr
    rcases ih _ hr with h1 | h1
    · exact (step_reg_some h1).imp_right (fun c => by simp [c])
    · exact Or.inr (List.mem_cons_of_mem _ h1)

/-! ### every send goes to an instance that registered under the share's request id -/

theorem step_out_mem {st : St} (g : Good st) {e : Ev} {p : Nat × Share} (hp : p ∈ (step st e).2) :
    st.done p.1 = false ∧ (st.reg p.2.rid = some p.1 ∨ e = .register p.1 p.2.rid) := by
  cases e with
  | arrive s =>
    cases hr : st.reg s.rid with
    | none => simp [step, hr] at hp
    | some h0 =>
      by_cases hd : st.done h0 = true
      · simp [step, hr, hd] at hp
      · rw [step_arrive_live hr hd, List.mem_singleton] at hp; subst hp; exact ⟨by simpa using hd, Or.inl hr⟩
  | register h0 r0 =>
    by_cases hd : st.done h0 = true
    · simp [step, hd] at hp
    · simp only [step, hd, Bool.false_eq_true, if_false, List.mem_map] at hp
      obtain ⟨s, hs, rfl⟩ := hp
      exact ⟨by simpa using hd, Or.inr (by rw [g.keyed _ _ hs])⟩
  | _ => simp [step] at hp

/-- … and whose context was live from the start -/
theorem run_out_mem (es : List Ev) : ∀ st, Good st → ∀ p ∈ (run st es).2,
    st.done p.1 = false ∧ (st.reg p.2.rid = some p.1 ∨ Ev.register p.1 p.2.rid ∈ es) := by
  induction es with
  | nil => intro st _ p hp; simp [run] at hp
  | cons e es ih =>
    intro st g p hp
    rw [run_cons, List.mem_append] at hp
    rcases hp with hp | hp
    · exact (step_out_mem g hp).imp_right (Or.imp_right fun c => by simp [c])
    · obtain ⟨hd, h⟩ := ih _ (good_step st e g) p hp
      refine ⟨Bool.eq_false_iff.2 fun c => by simp [(step_done st e p.1).2 (Or.inl c)] at hd, ?_⟩
      rcases h with h | h
      · exact (step_reg_some h).imp_right (fun c => by simp [c])
      · exact Or.inr (List.mem_cons_of_mem _ h)

/-! ### never duplicated, never reordered, never invented -/

/-- what one step sends under request id `r`, followed by the buffer of `r` it leaves, is taken in order
from the buffer it found and the arrival it consumed -/
theorem step_sublist (r : Rid) {st : St} (g : Good st) (e : Ev) :
    (((step st e).2.map (·.2)).filter (fun s => s.rid = r) ++ (step st e).1.buf r).Sublist
      (st.buf r ++ arrivalsFor r [e]) := by
  cases e with
  | arrive s =>
    cases hr : st.reg s.rid with
    | none =>
      rw [step_arrive_none hr]
      by_cases hs : s.rid = r
      · subst hs; simp [arrivalsFor, upd]
      · simp [arrivalsFor, upd, hs, show ¬ r = s.rid from fun c => hs c.symm]
    | some h0 =>
      by_cases hd : st.done h0 = true
      · rw [step_arrive_done hr hd]; simp
      · rw [step_arrive_live hr hd]
        by_cases hs : s.rid = r
        · subst hs; simp [arrivalsFor, g.regEmpty s.rid (by simp [hr])]
        · simp [arrivalsFor, hs]
  | register h0 r0 =>
    by_cases hrr : r = r0
    · subst hrr
      by_cases hd : st.done h0 = true
      · simp [step, hd, upd, arrivalsFor]
      · have : (st.buf r).filter (fun s => s.rid = r) = st.buf r :=
          List.filter_eq_self.2 (fun a ha => by simp [g.keyed _ _ ha])
        simp [step, hd, upd, arrivalsFor, Function.comp_def, this]
    · have : (st.buf r0).filter (fun s => s.rid = r) = [] :=
        List.filter_eq_nil_iff.2 (fun a ha => by simpa [g.keyed _ _ ha] using fun c => hrr c.symm)
      by_cases hd : st.done h0 = true <;> simp [step, hd, upd, hrr, arrivalsFor, Function.comp_def, this]
  | watchdog => by_cases hg : gone st r = true <;> simp [step, hg, arrivalsFor]
  | _ => simp [step, arrivalsFor]

theorem run_sublist (r : Rid) (es : List Ev) : ∀ st, Good st →
    (((run st es).2.map (·.2)).filter (fun s => s.rid = r) ++ (run st es).1.buf r).Sublist
      (st.buf r ++ arrivalsFor r es) := by
  induction es with
  | nil => intro st _; simp [run, arrivalsFor]
  | cons e es ih =>
    intro st g
    -- this step's sends, then (`ih`) the later sends and the final buffer; then `step_sublist`
    simp only [run_cons, List.map_append, List.filter_append, List.append_assoc]
    rw [arrivalsFor_cons, ← List.append_assoc (st.buf r)]
    exact ((List.Sublist.refl _).append (ih _ (good_step st e g))).trans
      (by rw [← List.append_assoc]; exact (step_sublist r g e).append (List.Sublist.refl _))

theorem buf_sublist (r : Rid) (es : List Ev) (st : St) (g : Good st) :
    ((run st es).1.buf r).Sublist (st.buf r ++ arrivalsFor r es) :=
  (List.sublist_append_right _ _).trans (run_sublist r es st g)

/-! ### what one instance receives: nothing before it registers, every arrival for its id afterwards -/

/-- events that neither register request id `r`, nor register instance `h`, nor cancel `h` -/
def Quiet (h : Nat) (r : Rid) (es : List Ev) : Prop :=
  (∀ h' r', Ev.register h' r' ∈ es → r' ≠ r ∧ h' ≠ h) ∧ Ev.cancel h ∉ es

theorem quiet_cons {h : Nat} {r : Rid} {e : Ev} {es : List Ev} (q : Quiet h r (e :: es)) :
    Quiet h r es :=
  ⟨fun h' r' hm => q.1 h' r' (List.mem_cons_of_mem _ hm), fun hm => q.2 (List.mem_cons_of_mem _ hm)⟩

theorem buffered (r : Rid) (es : List Ev) : ∀ st, st.reg r = none →
    (∀ h' r', Ev.register h' r' ∈ es → r' ≠ r) →
    (run st es).1.reg r = none ∧ (run st es).1.buf r = st.buf r ++ arrivalsFor r es := by
  induction es with
  | nil => intro st h1 _; simp [run, arrivalsFor, h1]
  | cons e es ih =>
    intro st h1 hno
    have he : ∀ h, e ≠ .register h r := fun h c => hno h r (by simp [c]) rfl
    have := ih (step st e).1 (by rw [step_reg_eq he (by simp [gone, h1]), h1])
      (fun h' r' hm => hno h' r' (List.mem_cons_of_mem _ hm))
    rw [run_cons, arrivalsFor_cons, ← List.append_assoc, ← step_buf he h1]
    exact this

/-- an instance that neither registers nor is cancelled in `es` stays unregistered, live, and receives nothing -/
theorem fresh_phase (h : Nat) (es : List Ev) (st : St) (g : Good st) (h1 : ∀ r', st.reg r' ≠ some h)
    (h2 : st.done h = false) (h3 : ∀ r', Ev.register h r' ∉ es) (h4 : Ev.cancel h ∉ es) :
    (∀ r', (run st es).1.reg r' ≠ some h) ∧ (run st es).1.done h = false ∧ deliv (run st es).2 h = [] :=
  ⟨fun r' c => (run_reg_some es st c).elim (h1 r') (h3 r'),
    Bool.eq_false_iff.2 fun c => ((run_done es h st).1 c).elim (by simp [h2]) h4,
    deliv_eq_nil fun p hp c => (run_out_mem es st g p hp).2.elim (c ▸ h1 _) (c ▸ h3 _)⟩

theorem phase_after (h : Nat) (r : Rid) (es : List Ev) : ∀ st,
    st.reg r = some h → (∀ r', st.reg r' = some h → r' = r) → st.done h = false → Quiet h r es →
    deliv (run st es).2 h = arrivalsFor r es := by
  induction es with
  | nil => intro st _ _ _ _; simp [run, arrivalsFor]
  | cons e es ih =>
    intro st h1 h2 h3 q
    have he : ∀ h' r', e = .register h' r' → r' ≠ r ∧ h' ≠ h := fun h' r' c =>
      q.1 h' r' (by simp [c])
    have ho : deliv (step st e).2 h = arrivalsFor r [e] := by
      cases e with
      | arrive s =>
        rw [deliv_arrive]
        by_cases hs : s.rid = r
        · simp [arrivalsFor, hs, h1, h3]
        · simp [arrivalsFor, hs, show ¬ st.reg s.rid = some h from fun c => hs (h2 s.rid c)]
      | register h0 r0 => rw [deliv_register, if_neg (fun c => (he h0 r0 rfl).2 (And.left c))]; rfl
      | _ => rfl
    have := ih (step st e).1
      (by rw [step_reg_eq (fun h' c => (he h' r c).1 rfl) (by simp [gone, h1, h3]), h1])
      (fun r' c => (step_reg_some c).elim (h2 r') (fun c' => absurd rfl (he h r' c').2))
      (step_done_false h3 (fun c => q.2 (by simp [c]))) (quiet_cons q)
    rw [run_cons, deliv_append, ho, this, ← arrivalsFor_cons]

/-- an instance new at its registration for `r` and undisturbed afterwards receives the buffer of `r` at
that moment, then every later arrival for `r` -/
theorem registered_served (es₁ es₂ : List Ev) (h : Nat) (r : Rid)
    (hfresh : ∀ r', Ev.register h r' ∉ es₁) (hcan : Ev.cancel h ∉ es₁) (hq : Quiet h r es₂) :
    deliveries (es₁ ++ Ev.register h r :: es₂) h = (run init es₁).1.buf r ++ arrivalsFor r es₂ := by
  obtain ⟨f1, f2, f3⟩ := fresh_phase h es₁ init good_init (fun _ => by simp [init]) rfl hfresh hcan
  rw [deliveries_eq, run_append, run_cons]
  simp only [deliv_append, f3, List.nil_append, deliv_register, f2, and_self, if_true]
  rw [phase_after h r es₂ _ (by simp [step, upd])
    (fun r' c => (step_reg_some c).elim (fun c' => absurd c' (f1 r')) (fun c' => by cases c'; rfl))
    (step_done_false f2 (by simp)) hq]

/-! ### a cancelled instance receives nothing more, and the others do not notice -/

theorem done_receives_nothing (h : Nat) (es : List Ev) (st : St) (g : Good st) (hd : st.done h = true) :
    deliv (run st es).2 h = [] :=
  deliv_eq_nil fun p hp c => by simpa [c, hd] using (run_out_mem es st g p hp).1

/-- simulation between the run with and the run without the cancellation of `h`;
`R` = the request ids instance `h` uses; `h'` never uses one of them -/
structure Rel (R : Rid → Prop) (h h' : Nat) (s1 s2 : St) : Prop where
  doneEq : ∀ x, x ≠ h → s1.done x = s2.done x
  same : ∀ r, ¬ R r → s1.reg r = s2.reg r ∧ s1.buf r = s2.buf r
  notH : ∀ r, ¬ R r → s1.reg r ≠ some h
  notH' : ∀ r, R r → s1.reg r ≠ some h' ∧ s2.reg r ≠ some h'

theorem Rel.gone_eq {R : Rid → Prop} {h h' : Nat} {s1 s2 : St} (rel : Rel R h h' s1 s2) {r : Rid}
    (hr : ¬ R r) : gone s1 r = gone s2 r := by
  unfold gone
  rw [← (rel.same r hr).1]
  cases h1 : s1.reg r with
  | none => rfl
  | some h0 => exact rel.doneEq h0 (fun c => rel.notH r hr (c ▸ h1))

theorem rel_step {R : Rid → Prop} {h h' : Nat} {e : Ev} (hR : ∀ r, e = .register h r → R r)
    (hR' : ∀ r, e = .register h' r → ¬ R r) {s1 s2 : St} (rel : Rel R h h' s1 s2) :
    Rel R h h' (step s1 e).1 (step s2 e).1 ∧ deliv (step s1 e).2 h' = deliv (step s2 e).2 h' := by
  refine ⟨⟨fun x hx => ?_, fun r hr => ?_, fun r hr c => ?_, fun r hr => ⟨fun c => ?_, fun c => ?_⟩⟩, ?_⟩
  · exact Bool.eq_iff_iff.2 (by rw [step_done, step_done, rel.doneEq x hx])
  · -- a request id outside `R` is treated alike in both runs
    have hs := rel.same r hr
    cases e with
    | arrive s =>
      simp only [arrive_reg, arrive_buf]
      refine ⟨hs.1, ?_⟩
      by_cases hrs : r = s.rid
      · rw [← hrs, hs.1, hs.2]
      · simp [hrs, hs.2]
    | register h0 r0 =>
      by_cases hrr : r = r0
      · -- the id being registered: both runs set the same entries
        simp only [step, upd, hrr, if_true, and_self]
      · -- another id: untouched
        simp only [step, upd, hrr, if_false]
        exact hs
    | watchdog => simp only [step, rel.gone_eq hr, hs.1, hs.2, and_self]
    | _ => exact hs
  -- a new registration of `h` is for an id in `R`, one of `h'` for an id outside
  · exact (step_reg_some c).elim (rel.notH r hr) (fun c' => hr (hR r c'))
  · exact (step_reg_some c).elim (rel.notH' r hr).1 (fun c' => hR' r c' hr)
  · exact (step_reg_some c).elim (rel.notH' r hr).2 (fun c' => hR' r c' hr)
  · cases e with
    | arrive s =>
      simp only [deliv_arrive]
      by_cases hRr : R s.rid
      · rw [if_neg (fun c => (rel.notH' _ hRr).1 c.1), if_neg (fun c => (rel.notH' _ hRr).2 c.1)]
      · by_cases hreg : s1.reg s.rid = some h'
        · rw [← (rel.same _ hRr).1, rel.doneEq h' (fun c => rel.notH _ hRr (c ▸ hreg))]
        · rw [if_neg (fun c => hreg c.1), if_neg (fun c => hreg ((rel.same _ hRr).1 ▸ c.1))]
    | register h0 r0 =>
      simp only [deliv_register]
      by_cases hh : h0 = h'
      · have hRr : ¬ R r0 := hR' r0 (by rw [hh])
        rw [(rel.same r0 hRr).2, rel.doneEq h0 (fun c => hRr (hR r0 (by rw [c])))]
      · simp [hh]
    | _ => rfl

theorem rel_run (R : Rid → Prop) (h h' : Nat) (es : List Ev)
    (hR : ∀ r, Ev.register h r ∈ es → R r) (hR' : ∀ r, Ev.register h' r ∈ es → ¬ R r) :
    ∀ s1 s2, Rel R h h' s1 s2 →
      Rel R h h' (run s1 es).1 (run s2 es).1 ∧ deliv (run s1 es).2 h' = deliv (run s2 es).2 h' := by
  induction es with
  | nil => intro s1 s2 rel; exact ⟨rel, rfl⟩
  | cons e es ih =>
    intro s1 s2 rel
    have hs := rel_step (e := e) (fun r c => hR r (by simp [c])) (fun r c => hR' r (by simp [c])) rel
    have := ih (fun r hm => hR r (List.mem_cons_of_mem _ hm)) (fun r hm => hR' r (List.mem_cons_of_mem _ hm))
      _ _ hs.1
    rw [run_cons, run_cons]
    simp only [deliv_append]
    exact ⟨this.1, by rw [hs.2, this.2]⟩

theorem rel_refl_of (R : Rid → Prop) (h h' : Nat) (st : St)
    (n1 : ∀ r, ¬ R r → st.reg r ≠ some h) (n2 : ∀ r, R r → st.reg r ≠ some h') : Rel R h h' st st :=
  ⟨fun _ _ => rfl, fun _ _ => ⟨rfl, rfl⟩, n1, fun r hr => ⟨n2 r hr, n2 r hr⟩⟩

/-- the cancellation of `h` – at any point of a schedule – is invisible to an instance `h'` that shares no
request id with `h` (`R` separates the ids they register) -/
theorem cancel_invisible (R : Rid → Prop) (h h' : Nat) (es₁ es₂ : List Ev)
    (hR : ∀ r, Ev.register h r ∈ es₁ ++ es₂ → R r) (hR' : ∀ r, Ev.register h' r ∈ es₁ ++ es₂ → ¬ R r)
    (st : St) (rel : Rel R h h' st st) :
    deliv (run st (es₁ ++ Ev.cancel h :: es₂)).2 h' = deliv (run st (es₁ ++ es₂)).2 h' := by
  obtain ⟨rel1, _⟩ := rel_run R h h' es₁ (fun r hm => hR r (List.mem_append_left _ hm))
    (fun r hm => hR' r (List.mem_append_left _ hm)) st st rel
  -- the cancellation itself only ends the context of `h`
  have rel2 : Rel R h h' (step (run st es₁).1 (.cancel h)).1 (run st es₁).1 :=
    ⟨fun x hx => by simp [step, hx], fun _ _ => ⟨rfl, rfl⟩, rel1.notH,
      fun r hr => ⟨(rel1.notH' r hr).1, (rel1.notH' r hr).1⟩⟩
  obtain ⟨_, e2⟩ := rel_run R h h' es₂ (fun r hm => hR r (List.mem_append_right _ hm))
    (fun r hm => hR' r (List.mem_append_right _ hm)) _ _ rel2
  rw [run_append, run_cons, run_append]
  simp only [deliv_append]
  rw [e2]; rfl   -- the cancel step itself sends nothing

/-! ### blocking semantics (finding F20) -/

theorem toEvs_append (a b : List EvB) : toEvs (a ++ b) = toEvs a ++ toEvs b := by
  induction a with
  | nil => rfl
  | cons e a ih => cases e <;> simp [toEvs, ih]

/-- without `finish` marks nothing blocks either way: the stages are all receiving -/
theorem stuck_of_no_fin (drain : Bool) (sb : StB) (hf : ∀ h, sb.fin h = false) (h : Nat) :
    stuck drain sb h = false := by simp [stuck, hf]

@[simp] theorem stuck_drain (sb : StB) (h : Nat) : stuck true sb h = false := by simp [stuck]

/-- one blocking step is one `step`, unless the loop waits in a send – which needs a stage that returned
without a drain -/
theorem stepB_ev (drain : Bool) (sb : StB) (e : Ev) :
    stepB drain sb (.ev e) = .ok { sb with st := (step sb.st e).1 } (step sb.st e).2 ∨
      (drain = false ∧ ∃ h s, stepB drain sb (.ev e) = .blocked h s) := by
  have hs : ∀ h, stuck drain sb h = true → drain = false := fun h c => by
    cases drain
    · rfl
    · simp at c
  cases e with
  | arrive s =>
    simp only [stepB]
    split
    · split
      · rename_i h _ c; exact Or.inr ⟨hs h c, h, s, rfl⟩
      · exact Or.inl rfl
    · exact Or.inl rfl
  | register h r =>
    simp only [stepB]
    split
    · split
      · rename_i s _ _ c; exact Or.inr ⟨hs h c, h, s, rfl⟩
      · exact Or.inl rfl
    · exact Or.inl rfl
  | _ => exact Or.inl rfl

/-- whatever the variant: a run either waits for ever in a send (only without the drain), or performs
exactly the sends of `run` on the loop's own events -/
theorem runB_sends (drain : Bool) (es : List EvB) : ∀ sb : StB,
    (drain = false ∧ ∃ h s, runB drain sb es = .blocked h s) ∨
      ∃ sb', runB drain sb es = .ok sb' (run sb.st (toEvs es)).2 ∧ sb'.st = (run sb.st (toEvs es)).1 := by
  induction es with
  | nil => intro sb; exact Or.inr ⟨sb, rfl, rfl⟩
  | cons e es ih =>
    intro sb
    cases e with
    | finish h =>
      rcases ih { sb with fin := fun x => if x = h then true else sb.fin x } with
        ⟨hd, h0, s0, hb⟩ | ⟨sb2, h3, h4⟩
      · exact Or.inl ⟨hd, h0, s0, by simp only [runB, stepB, hb]⟩
      · exact Or.inr ⟨sb2, by simp only [runB, stepB, h3, toEvs, List.nil_append], h4⟩
    | ev e0 =>
      rcases stepB_ev drain sb e0 with h1 | ⟨hd, h0, s0, hb⟩
      · rcases ih { sb with st := (step sb.st e0).1 } with ⟨hd, h0, s0, hb⟩ | ⟨sb2, h3, h4⟩
        · exact Or.inl ⟨hd, h0, s0, by simp only [runB, h1, hb]⟩
        · exact Or.inr ⟨sb2, by simp only [runB, h1, h3, toEvs, run_cons], by rw [h4, toEvs, run_cons]⟩
      · exact Or.inl ⟨hd, h0, s0, by simp only [runB, hb]⟩

/-- with the drain every run gets through -/
theorem runB_drain (es : List EvB) (sb : StB) : ∃ sb', runB true sb es = .ok sb' (run sb.st (toEvs es)).2 :=
  have ⟨sb', h, _⟩ := (runB_sends true es sb).resolve_left (fun c => by cases c.1)
  ⟨sb', h⟩

theorem runB_drain_sends (es : List EvB) : (runB true initB es).sends = outputs (toEvs es) := by
  obtain ⟨sb', h⟩ := runB_drain es initB
  rw [h]; rfl

/-- a completion mark changes no send of the draining loop (`toEvs` drops it) -/
theorem finish_invisible (es₁ es₂ : List EvB) (h : Nat) :
    (runB true initB (es₁ ++ EvB.finish h :: es₂)).sends = (runB true initB (es₁ ++ es₂)).sends := by
  rw [runB_drain_sends, runB_drain_sends, toEvs_append, toEvs_append]; rfl

end Dos.Collector
