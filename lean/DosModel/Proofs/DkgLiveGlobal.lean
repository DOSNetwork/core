/-
Liveness of honest key generation, group level (C04.5): every run of the event system
`Model/DkgNet.lean` keeps the member invariant of every member (all messages in flight are
genuine), and a complete run ends with every member done.
-/
import DosModel.Proofs.DkgLiveEvents

set_option linter.unusedSectionVars false

namespace Dos.Dkg
open Dos Dos.Vss

variable {F G : Type} [Field F] [AddCommGroup G] [Module F G] [DecidableEq F] [DecidableEq G]

def pkSel : Sent F G → Option (PkMsg G)
  | .pk x => some x
  | _ => none

theorem sentPk_eq (m : Member F G) : sentPk m = m.sent.findSome? pkSel := by
  unfold sentPk; congr

theorem findPk_deals (l : List (Nat × DkgDeal F G)) (tail : List (Sent F G)) :
    (l.map (fun x => Sent.deal x.1 x.2) ++ tail).findSome? (pkSel (F := F) (G := G)) = tail.findSome? pkSel := by
  induction l with
  | nil => simp
  | cons a l ih => simp [List.findSome?_cons, pkSel, ih]

/-- **what a member has sent**: only genuine messages, and all those of the stages it has passed -/
theorem local_sent (c : Cfg F G) (ephs : List (List F)) (i : Nat) (m : Member F G) (st : Bool) (sp sd : List Nat)
    (sr : List (Nat × Nat)) (h : LocalInv c ephs i m st sp sd sr) :
    (∀ x, sentPk m = some x → x = c.pkMsg i) ∧ (1 ≤ stageRank m.stage → (sentPk m).isSome = true) ∧
    (∀ t x, sentDeal m t = some x → x = c.dealMsg ephs i t) ∧
    (2 ≤ stageRank m.stage → ∀ t ∈ others c.n i, (sentDeal m t).isSome = true) ∧
    (∀ xs, sentResps m = some xs → GoodResps c i xs) ∧ (3 ≤ stageRank m.stage → (sentResps m).isSome = true) := by
  have hs := h.1.hsent
  refine ⟨fun x hx => ?_, fun hr => ?_, fun t x hx => ?_, fun hr t ht => ?_, fun xs hx => ?_, fun hr => ?_⟩
  · obtain ⟨s, hm, he⟩ := List.exists_of_findSome?_eq_some hx
    have hg := hs.genuine s hm
    cases s <;> simp only [reduceCtorEq, Option.some.injEq] at he
    exact he ▸ hg
  · exact List.findSome?_isSome_iff.2 ⟨_, hs.pk hr, rfl⟩
  · obtain ⟨s, hm, he⟩ := List.exists_of_findSome?_eq_some hx
    have hg := hs.genuine s hm
    cases s <;> simp only [reduceCtorEq, ite_eq_iff, Option.some.injEq, and_false, or_false] at he
    obtain ⟨rfl, rfl⟩ := he
    exact hg
  · exact List.findSome?_isSome_iff.2 ⟨_, hs.deals hr t ht, by simp⟩
  · obtain ⟨s, hm, he⟩ := List.exists_of_findSome?_eq_some hx
    have hg := hs.genuine s hm
    cases s <;> simp only [reduceCtorEq, Option.some.injEq] at he
    exact he ▸ hg
  · obtain ⟨rs, hrs⟩ := hs.resps hr
    exact List.findSome?_isSome_iff.2 ⟨_, hrs, rfl⟩

def Ev.target : Ev → Nat
  | .start i => i | .pk _ i => i | .deal _ i => i | .resps _ i => i

/-- the effective delivery `e` as it shows in the inputs of the member it was aimed at -/
def Ev.seenBy (n : Nat) (st : Bool) (sp sd : List Nat) (sr : List (Nat × Nat)) : Ev → Prop
  | .start _ => st = true
  | .pk j _ => j ∈ sp
  | .deal j _ => j ∈ sd
  | .resps k _ => ∀ j ∈ others n k, (j, k) ∈ sr

theorem Ev.seenBy_mono {n : Nat} {st st' : Bool} {sp sp' sd sd' : List Nat} {sr sr' : List (Nat × Nat)}
    (hst : st = true → st' = true) (hsp : ∀ x ∈ sp, x ∈ sp') (hsd : ∀ x ∈ sd, x ∈ sd') (hsr : ∀ x ∈ sr, x ∈ sr') :
    ∀ e : Ev, e.seenBy n st sp sd sr → e.seenBy n st' sp' sd' sr'
  | .start _, h => hst h
  | .pk j _, h => hsp j h
  | .deal j _, h => hsd j h
  | .resps _ _, h => fun j hj => hsr _ (h j hj)

/-- what the log of effective deliveries says about member `i`'s inputs -/
def Linked (c : Cfg F G) (i : Nat) (dl : List Ev) (st : Bool) (sp sd : List Nat) (sr : List (Nat × Nat)) : Prop :=
  ∀ e ∈ dl, e.target = i → e.seenBy c.n st sp sd sr

theorem Linked.snoc {c : Cfg F G} {i : Nat} {dl : List Ev} {st st' : Bool} {sp sp' sd sd' : List Nat}
    {sr sr' : List (Nat × Nat)} (h : Linked c i dl st sp sd sr) (e : Ev)
    (hmono : ∀ e' : Ev, e'.seenBy c.n st sp sd sr → e'.seenBy c.n st' sp' sd' sr')
    (hnew : e.target = i → e.seenBy c.n st' sp' sd' sr') : Linked c i (dl ++ [e]) st' sp' sd' sr' := by
  intro e' he' ht
  rcases List.mem_append.1 he' with he' | he'
  · exact hmono e' (h e' he' ht)
  · rw [List.mem_singleton.1 he'] at ht ⊢; exact hnew ht

def SysInv (c : Cfg F G) (ephs : List (List F)) (s : Sys F G) : Prop :=
  s.ms.length = c.n ∧ ∀ i, i < c.n → ∃ m st sp sd sr, s.ms[i]? = some m ∧ LocalInv c ephs i m st sp sd sr ∧
    Linked c i s.delivered st sp sd sr

/-- updating member `e.target` by the event `e` -/
theorem sysInv_upd (c : Cfg F G) (ephs : List (List F)) (s : Sys F G) (hs : SysInv c ephs s) (e : Ev)
    (f : Member F G → Member F G)
    (hnew : e.target < c.n → ∀ m st sp sd sr, LocalInv c ephs e.target m st sp sd sr →
      ∃ st' sp' sd' sr', LocalInv c ephs e.target (f m) st' sp' sd' sr' ∧
        (∀ e' : Ev, e'.seenBy c.n st sp sd sr → e'.seenBy c.n st' sp' sd' sr') ∧ e.seenBy c.n st' sp' sd' sr') :
    SysInv c ephs (s.upd e.target f e) := by
  obtain ⟨hlen, hmem⟩ := hs
  refine ⟨by simp [Sys.upd, hlen], ?_⟩
  intro k hk
  obtain ⟨m, st, sp, sd, sr, hm, hinv, hlink⟩ := hmem k hk
  by_cases hke : e.target = k
  · subst hke
    obtain ⟨st', sp', sd', sr', h1, h2, h3⟩ := hnew hk m st sp sd sr hinv
    exact ⟨f m, st', sp', sd', sr', by simp [Sys.upd, hm], h1, hlink.snoc e h2 (fun _ => h3)⟩
  · refine ⟨m, st, sp, sd, sr, ?_, hinv, hlink.snoc e (fun _ h => h) (fun h => absurd h hke)⟩
    simp only [Sys.upd, List.getElem?_modify]
    simp [hke, hm]

/-- the delivery `e` of something (`sel`) that member `j` has sent -/
theorem sysInv_deliver (c : Cfg F G) (ephs : List (List F)) (s : Sys F G) (hs : SysInv c ephs s) (e : Ev) (j : Nat)
    {X : Type} (sel : Member F G → Option X) (f : X → Member F G → Member F G) (x : X)
    (hx : (s.ms[j]?).bind sel = some x)
    (hnew : ∀ mj stj spj sdj srj, j < c.n → LocalInv c ephs j mj stj spj sdj srj → sel mj = some x →
      e.target < c.n → ∀ m st sp sd sr, LocalInv c ephs e.target m st sp sd sr →
      ∃ st' sp' sd' sr', LocalInv c ephs e.target (f x m) st' sp' sd' sr' ∧
        (∀ e' : Ev, e'.seenBy c.n st sp sd sr → e'.seenBy c.n st' sp' sd' sr') ∧ e.seenBy c.n st' sp' sd' sr') :
    SysInv c ephs (s.upd e.target (f x) e) := by
  obtain ⟨mj, hmj, hsel⟩ := Option.bind_eq_some_iff.1 hx
  have hjn : j < c.n := by
    rw [← hs.1]
    exact Nat.lt_of_not_le (fun hl => by rw [List.getElem?_eq_none hl] at hmj; cases hmj)
  obtain ⟨mj', stj, spj, sdj, srj, hmj', hinvj, _⟩ := hs.2 j hjn
  rw [hmj] at hmj'; injection hmj' with hmj'; subst hmj'
  exact sysInv_upd c ephs s hs e (f x) (hnew mj stj spj sdj srj hjn hinvj hsel)

theorem sysInv_init (c : Cfg F G) (ephs : List (List F)) : SysInv c ephs (initSys c ephs) := by
  refine ⟨by simp [initSys], fun i hi => ?_⟩
  refine ⟨Member.init c.n i (c.longs.getD i 0) (c.polys.getD i []) (ephs.getD i []), false, [], [], [],
    by simp [initSys, hi], ⟨?_, fun _ => rfl, fun _ => rfl, fun _ => rfl⟩, fun e he => by cases he⟩
  exact ⟨rfl, rfl, rfl, rfl, rfl, PairInv.init, PairInv.init, PairInv.init, ⟨fun _ => rfl, fun _ => rfl⟩, trivial,
    fun _ h => (nomatch h), fun h => (nomatch h), fun h => (nomatch h), fun h => (nomatch h)⟩

/-- **every event keeps the invariant of every member**: what is delivered is what an honest member sent, hence
genuine -/
theorem sysInv_step (c : Cfg F G) (ephs : List (List F)) (hw : WellFormed c ephs) (s : Sys F G) (hs : SysInv c ephs s)
    (e : Ev) : SysInv c ephs (stepEv c.g s e) := by
  cases e with
  | start i =>
    refine sysInv_upd c ephs s hs (.start i) (Member.start c.g) (fun hi m st sp sd sr hinv => ?_)
    exact ⟨true, sp, sd, sr, step_start c ephs hw i hi m st sp sd sr hinv,
      Ev.seenBy_mono (fun _ => rfl) (fun _ h => h) (fun _ h => h) (fun _ h => h), rfl⟩
  | pk j i =>
    -- the two `split`s: a message to oneself, then one that does not exist yet – nothing happens in either
    -- case; what is left has `hji : ¬ j = i` and `hx : (s.ms[j]?).bind sentPk = some x` (same in the next two cases)
    simp only [stepEv]
    split
    · exact hs
    split
    · rename_i hji _ x hx
      refine sysInv_deliver c ephs s hs (.pk j i) j sentPk (fun x m => m.loopPk c.g j x) x hx ?_
      intro mj stj spj sdj srj hjn hinvj hx hi m st sp sd sr hinv
      cases (local_sent c ephs j mj stj spj sdj srj hinvj).1 x hx
      exact ⟨st, j :: sp, sd, sr, step_pk c ephs hw i hi m st sp sd sr hinv _ ⟨hjn, hji, rfl⟩,
        Ev.seenBy_mono (fun h => h) (fun _ => List.mem_cons_of_mem _) (fun _ h => h) (fun _ h => h), List.mem_cons_self ..⟩
    · exact hs
  | deal j i =>
    simp only [stepEv]
    split
    · exact hs
    split
    · rename_i hji _ x hx
      refine sysInv_deliver c ephs s hs (.deal j i) j (fun m => sentDeal m i) (fun x m => m.recvDeal c.g x) x hx ?_
      intro mj stj spj sdj srj hjn hinvj hx hi m st sp sd sr hinv
      cases (local_sent c ephs j mj stj spj sdj srj hinvj).2.2.1 i x hx
      obtain ⟨e, he⟩ := sealDeal_some c.g (c.longs.getD j 0) c.pubs i (by rw [c.pubs_length]; exact hi)
        ((ephs.getD j []).getD i 0) 0 (.deal (c.deal j i))
      exact ⟨st, sp, j :: sd, sr, step_dl c ephs hw i hi m st sp sd sr hinv _ ⟨⟨_, 0, e, hjn, he, he⟩, hji⟩,
        Ev.seenBy_mono (fun h => h) (fun _ h => h) (fun _ => List.mem_cons_of_mem _) (fun _ h => h), List.mem_cons_self ..⟩
    · exact hs
  | resps k i =>
    simp only [stepEv]
    split
    · exact hs
    split
    · rename_i hki _ xs hx
      refine sysInv_deliver c ephs s hs (.resps k i) k sentResps (fun xs m => m.recvResps c.g xs) xs hx ?_
      intro mk stk spk sdk srk hkn hinvk hx hi m st sp sd sr hinv
      obtain ⟨js, hjs, rfl⟩ := (local_sent c ephs k mk stk spk sdk srk hinvk).2.2.2.2.1 xs hx
      refine ⟨st, sp, sd, _, step_rss c ephs hw i hi _ m st sp sd sr hinv ?_,
        Ev.seenBy_mono (fun h => h) (fun _ h => h) (fun _ h => h) (fun _ => List.mem_append_right _), ?_⟩
      · intro x hx'
        obtain ⟨j, hj, rfl⟩ := List.mem_map.1 hx'
        have hjo := (mem_others c.n k j).1 ((hjs j).1 hj)
        exact ⟨j, k, 0, hjo.1, hkn, hki, fun he => hjo.2 he.symm, rfl⟩
      · intro j hj
        apply List.mem_append_left
        rw [List.mem_reverse, List.map_map]
        exact List.mem_map.2 ⟨j, (hjs j).2 hj, rfl⟩
    · exact hs

theorem sysInv_run (c : Cfg F G) (ephs : List (List F)) (hw : WellFormed c ephs) (evs : List Ev) :
    SysInv c ephs (runEvents c ephs evs) := by
  unfold runEvents
  have : ∀ (evs : List Ev) (s : Sys F G), SysInv c ephs s → SysInv c ephs (evs.foldl (stepEv c.g) s) := by
    intro evs
    induction evs with
    | nil => intro s h; exact h
    | cons e es ih => intro s h; exact ih _ (sysInv_step c ephs hw s h e)
  exact this evs _ (sysInv_init c ephs)

/-- **C04.5** (`Props.C04.complete_delivery_finishes`): in every run of the member machines of a well-formed honest
group in which every member is started and every message that is sent is delivered to every other
member at least once – in any order, with any start skew, any number of re-deliveries – every member
finishes. -/
theorem complete_finishes (c : Cfg F G) (ephs : List (List F)) (hw : WellFormed c ephs) (evs : List Ev)
    (hcomp : Complete c.n (runEvents c ephs evs)) :
    ∀ i, i < c.n → ∃ m d ks, (runEvents c ephs evs).ms[i]? = some m ∧ m.stage = .done d ks := by
  have hinv := sysInv_run c ephs hw evs
  generalize runEvents c ephs evs = s at hcomp hinv
  obtain ⟨hstart, hdeliv⟩ := hcomp
  choose m st sp sd sr hm hloc hlink using hinv.2
  -- everybody was started
  have hst : ∀ i (hi : i < c.n), st i hi = true := fun i hi => hlink i hi (.start i) (hstart i hi) rfl
  have hloc' : ∀ i (hi : i < c.n), LocalInv c ephs i (m i hi) true (sp i hi) (sd i hi) (sr i hi) := by
    intro i hi; have := hloc i hi; rw [hst i hi] at this; exact this
  have hsent := fun j (hjn : j < c.n) => local_sent c ephs j (m j hjn) true (sp j hjn) (sd j hjn) (sr j hjn) (hloc' j hjn)
  have hrank := fun i (hi : i < c.n) => local_rank c ephs i (m i hi) _ _ _ (hloc' i hi)
  -- hence everybody has everybody's public key
  have hsp : ∀ i (hi : i < c.n), ∀ j ∈ others c.n i, j ∈ sp i hi := by
    intro i hi j hj
    obtain ⟨hjn, hji⟩ := (mem_others c.n i j).1 hj
    exact hlink i hi (.pk j i) ((hdeliv i j (m j hjn) hi hjn (Ne.symm hji) (hm j hjn)).1
      ((hsent j hjn).2.1 (hrank j hjn).2.2.2.1)) rfl
  -- hence everybody has dealt, and everybody has everybody's deal
  have hr2 : ∀ i (hi : i < c.n), 2 ≤ stageRank (m i hi).stage := by
    intro i hi
    obtain ⟨h1, _, _, h4, _⟩ := hrank i hi
    have : stageRank (m i hi).stage ≠ 1 := fun h => h1 h (hsp i hi)
    omega
  have hsd : ∀ i (hi : i < c.n), ∀ j ∈ others c.n i, j ∈ sd i hi := by
    intro i hi j hj
    obtain ⟨hjn, hji⟩ := (mem_others c.n i j).1 hj
    exact hlink i hi (.deal j i) ((hdeliv i j (m j hjn) hi hjn (Ne.symm hji) (hm j hjn)).2.1
      ((hsent j hjn).2.2.2.1 (hr2 j hjn) i ((mem_others c.n j i).2 ⟨hi, Ne.symm hji⟩))) rfl
  -- hence everybody has answered, and everybody has everybody's responses
  have hr3 : ∀ i (hi : i < c.n), 3 ≤ stageRank (m i hi).stage := by
    intro i hi
    obtain ⟨_, h2, _, _, _⟩ := hrank i hi
    have : stageRank (m i hi).stage ≠ 2 := fun h => h2 h (hsd i hi)
    have := hr2 i hi
    omega
  have hsr : ∀ i (hi : i < c.n), ∀ p ∈ respKeys c.n i, p ∈ sr i hi := by
    intro i hi p hp
    obtain ⟨hk, hki, hj, hjk⟩ := (mem_respKeys c.n i p).1 hp
    exact hlink i hi (.resps p.2 i) ((hdeliv i p.2 (m p.2 hk) hi hk (Ne.symm hki) (hm p.2 hk)).2.2
      ((hsent p.2 hk).2.2.2.2.2 (hr3 p.2 hk))) rfl p.1 ((mem_others c.n p.2 p.1).2 ⟨hj, hjk⟩)
  intro i hi
  obtain ⟨d, ks, hdone⟩ := local_done c ephs i (m i hi) _ _ _ (hloc' i hi) (hsp i hi) (hsd i hi) (hsr i hi)
  exact ⟨m i hi, d, ks, hm i hi, hdone⟩

/-- **the event system only produces `HonestReach` states**: after ANY schedule (complete or not), the
generator a member of a well-formed honest group carries is a state in the sense of `HonestReach`,
no member has failed, and a member in stage `done` holds the key share `DistKeyShare()` returned on
that generator – the finishers of `runEvents` are finishers in the sense of the C04 theorems. -/
theorem runEvents_sound (c : Cfg F G) (ephs : List (List F)) (hw : WellFormed c ephs) (evs : List Ev)
    (i : Nat) (m : Member F G) (hm : (runEvents c ephs evs).ms[i]? = some m) :
    i < c.n ∧ (∀ why, m.stage ≠ .failed why) ∧
    (∀ d, m.stage = .waitDeals d → HonestReach c i d) ∧ (∀ d, m.stage = .waitResps d → HonestReach c i d) ∧
    (∀ d ks, m.stage = .done d ks → HonestReach c i d ∧ distKeyShare d = .ok ks) := by
  have hinv := sysInv_run c ephs hw evs
  have hi : i < c.n := by
    rw [← hinv.1]
    exact Nat.lt_of_not_le (fun h => by rw [List.getElem?_eq_none h] at hm; cases hm)
  obtain ⟨m', st, sp, sd, sr, hm', ⟨hloc, _⟩, _⟩ := hinv.2 i hi
  rw [hm] at hm'; injection hm' with hm'; subst hm'
  have hstage := hloc.hstage
  refine ⟨hi, fun why hs => ?_, fun d hs => ?_, fun d hs => ?_, fun d ks hs => ?_⟩ <;> rw [hs] at hstage
  · exact hstage
  · exact hstage.2
  · exact hstage.2
  · exact hstage

end Dos.Dkg
