/-
C20 — the guard of `point.Mul` (fix /repo ec5317f): a scalar with a[31] > 127 (outside the contract of the
ref10 window recoding; only `scalar.UnmarshalBinary` makes one) is reduced modulo ℓ by the translated `scReduce`
on a ‖ 0³² before the multiplication.  With it `P.Mul(s, nil)` is (leNat s)•B for EVERY 32-byte scalar, and
`P.Mul(s, A)` is (leNat s)•A for every point A of the prime-order subgroup ((leNat s mod ℓ)•A in general).
Without the guard the top digit of the recoding exceeds 8, `selectCached`/`selectPreComputed` return the identity for
it, and the result is not a multiple determined by the scalar's value (F21).
-/
import DosModel.Proofs.Schnorr
import DosModel.Proofs.GeEnc
import DosModel.Proofs.GeScalarMultBase
import DosModel.Proofs.Ed25519RangesReduce

set_option exponentiation.threshold 600

namespace Dos.Ge
open Dos Dos.Ed25519 Dos.FeProg Dos.FeOps Dos.GeProg Dos.Ed25519Prime Dos.Edwards Dos.Gen.Ed25519Sc

theorem scReduce_length (s : Bytes) : (scReduce shrI s).length = 32 := by
  rw [scReduce_eq_app, scReduce_store_eq]; rfl

/-- the scalar handed to the window recoding: 32 bytes, top byte ≤ 127, the same value modulo ℓ — and the same bytes
when the caller's scalar was within the contract -/
theorem mulScalar_spec (a : Bytes) (hlen : a.length = 32) :
    (mulScalar a).length = 32 ∧ ((mulScalar a).getD 31 0).toNat ≤ 127 ∧ leNat (mulScalar a) % ell = leNat a % ell
    ∧ ((a.getD 31 0).toNat ≤ 127 → mulScalar a = a)
    ∧ (127 < (a.getD 31 0).toNat → leNat (mulScalar a) = leNat a % ell) := by
  by_cases h : (a.getD 31 0).toNat ≤ 127
  · rw [mulScalar_of_le a h]
    exact ⟨hlen, h, rfl, fun _ => rfl, fun h' => absurd h' (by omega)⟩
  · have hm : mulScalar a = scReduce shrI (a ++ List.replicate 32 0) := by
      unfold mulScalar; rw [if_pos (by omega)]
    have hl64 : (a ++ List.replicate 32 (0 : UInt8)).length = 64 := by simp [hlen]
    have hv : leNat (scReduce shrI (a ++ List.replicate 32 0)) = leNat a % ell := by
      have h1 := scReduce_full (a ++ List.replicate 32 0) hl64
      have h0 : leNat (List.replicate 32 (0 : UInt8)) = 0 := by decide
      rw [leNat_append, h0, Nat.mul_zero, Nat.add_zero] at h1
      exact_mod_cast h1
    have hlt : leNat a % ell < 2 ^ 255 := by
      have : leNat a % ell < ell := Nat.mod_lt _ (by decide)
      have : ell < 2 ^ 255 := by decide
      omega
    rw [hm]
    refine ⟨scReduce_length _, top_byte_of_lt _ (by rw [hv]; exact hlt), ?_, fun h' => absurd h' h,
      fun _ => hv⟩
    rw [hv, Nat.mod_mod]

/-- **`P.Mul(s, A)` for every 32-byte scalar** (code of /repo ec5317f), for any point B the table `base` is a table of:
the base-point form is (leNat s)•B; the general form is
(leNat s)•A whenever ℓ•A = 0, and (leNat (mulScalar s))•A — the value reduced modulo ℓ when a[31] > 127 — always -/
theorem ptMul_spec_any {B : Pt} (htab : BaseTableOK B) (hord : ell • B = 0) (a : Bytes)
    (hlen : a.length = 32) :
    GoodExt (ptMul a none) (leNat a • B)
    ∧ (∀ (q : Ext) (Q : Pt), GoodExt q Q → GoodExt (ptMul a (some q)) (leNat (mulScalar a) • Q))
    ∧ (∀ (q : Ext) (Q : Pt), GoodExt q Q → ell • Q = 0 → GoodExt (ptMul a (some q)) (leNat a • Q)) := by
  obtain ⟨hl, h31, hmod, _, _⟩ := mulScalar_spec a hlen
  have key : ∀ Q : Pt, ell • Q = 0 → leNat (mulScalar a) • Q = leNat a • Q :=
    fun Q hQ => Schnorr.nsmul_congr_mod Q hQ _ _ hmod
  refine ⟨?_, ?_, ?_⟩
  · have := geScalarMultBase_spec htab (mulScalar a) hl h31
    rw [key B hord] at this
    exact this
  · intro q Q hq
    exact geScalarMult_spec (mulScalar a) hl h31 hq
  · intro q Q hq hQ
    have := geScalarMult_spec (mulScalar a) hl h31 hq
    rw [key Q hQ] at this
    exact this

end Dos.Ge
