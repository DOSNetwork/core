import DosModel.Model.ConnTableCfg

namespace Dos.ConnTable

/-- the configuration computed from the regenerated facts is `Cfg.good`. Evaluated here once: string matching on
the extractor's normal forms is dear in the kernel, and concrete runs under `Cfg.code` rewrite with this first. -/
theorem Cfg.code_eq_good : Cfg.code = Cfg.good := by decide +kernel

end Dos.ConnTable
