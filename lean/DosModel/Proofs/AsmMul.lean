/-
C10 / E2 — the interpreted assembly of gfpMul (regenerated listing, BOTH code paths) equals
the limb models `mulLimbsMULQ` / `mulLimbsMULX` of Proofs/AsmMulLimbs.lean for EVERY machine
state: any registers, flags, frame junk, memory, aliasing of c / a / b, any values of the
package variables p2 and np. As for gfpAdd/Sub/Neg the proof is definitional unfolding checked
by the kernel (`kernel_rfl`, Proofs/KernelRfl.lean). The same device shows that these flat limb
models are the compositions of macro blocks of Proofs/MontMulStruct.lean (`mulLimbsMULQ_eq`,
`mulLimbsMULX_eq`).
-/
import DosModel.Proofs.AsmField
import DosModel.Proofs.AsmMulLimbs
import DosModel.Proofs.MontMulStruct

namespace Dos.Asm
open Dos.Mont Dos.Gen.Bn256Asm

theorem gfpMul_interp_mulq (pf nf : Nat → Nat) (s : State) (junk : Nat) :
    (call { p2 := pf, np := nf, hasBMI2 := false } gfpMul s junk).final = some (s.alias,
        store4 (s.alias .c)
          (mulLimbsMULQ ⟨pf 0, pf 1, pf 2, pf 3⟩ ⟨nf 0, nf 1, nf 2, nf 3⟩
            (load4 s.mem (s.alias .a)) (load4 s.mem (s.alias .b))) s.mem) := by
  kernel_rfl

theorem gfpMul_interp_mulx (pf nf : Nat → Nat) (s : State) (junk : Nat) :
    (call { p2 := pf, np := nf, hasBMI2 := true } gfpMul s junk).final = some (s.alias,
        store4 (s.alias .c)
          (mulLimbsMULX ⟨pf 0, pf 1, pf 2, pf 3⟩ ⟨nf 0, nf 1, nf 2, nf 3⟩
            (load4 s.mem (s.alias .a)) (load4 s.mem (s.alias .b))) s.mem) := by
  kernel_rfl

end Dos.Asm

namespace Dos.Mont

theorem mulLimbsMULQ_eq (p np a b : L4) : mulLimbsMULQ p np a b = mulStruct mul8 redM p np a b := by
  kernel_rfl

theorem mulLimbsMULX_eq (p np a b : L4) : mulLimbsMULX p np a b = mulStruct mulx8 redMX p np a b := by
  kernel_rfl

end Dos.Mont
