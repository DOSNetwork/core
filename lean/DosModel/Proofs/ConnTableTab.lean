import DosModel.Proofs.ConnTableOwn

/-! The table invariant, for the configuration the code has (`Cfg.good`): what an entry of either
table points to, that an entry whose connection has ended has its removal on the way (no stale
entry), and where a reported removal comes from.  It is a predicate about ONE node, over the fields it reads
(`NodeTab`); what can happen to a node — a report comes in, a removal is taken, an entry is registered, the connections
move on — is a lemma each, and an event is a composition of these. -/

namespace Dos.ConnTable
open Dos

theorem mem_eraseIdx_of_ne {α : Type} {l : List α} {k : Nat} {x y : α} (hx : x ∈ l) (hk : l[k]? = some y) (hne : x ≠ y) :
    x ∈ l.eraseIdx k := by
  rw [List.mem_eraseIdx_iff_getElem?]
  obtain ⟨i, hi⟩ := List.getElem?_of_mem hx
  refine ⟨i, ?_, hi⟩
  intro hik; subst hik; rw [hk] at hi; simp only [Option.some.injEq] at hi; exact hne hi.symm

/-- what node `n`'s tables (`out` callHandler's, `inb` receiveHandler's) and the removals reported to it and not yet
taken (`rm`) say about the connections.  `…Entry`: an entry points to a connection between this node and that peer;
`…Removal`: once `client.run` has returned there, the removal of the entry is among those reported; `removalFrom`: a
reported removal names the peer of one of this node's connections. -/
structure NodeTab (nconn : Nat) (conns : Nat → Conn) (n : Nat) (out inb : Nat → Option Nat) (rm : List (Bool × Nat)) :
    Prop where
  outEntry : ∀ k c, out k = some c → c < nconn ∧ (conns c).d = n ∧ (conns c).a = k ∧ (conns c).ann = k
  outRemoval : ∀ k c, out k = some c → (conns c).retD = true → (true, k) ∈ rm
  inbEntry : ∀ k c, inb k = some c → c < nconn ∧ (conns c).a = n ∧ (conns c).d = k ∧ (conns c).regA = true
  inbRemoval : ∀ k c, inb k = some c → (conns c).retA = true → (false, k) ∈ rm
  removalFrom : ∀ t id, (t, id) ∈ rm → ∃ c, c < nconn ∧
        ((t = true ∧ (conns c).d = n ∧ (conns c).ann = id) ∨ (t = false ∧ (conns c).a = n ∧ (conns c).d = id))

/-- stated over the components it reads: an event that leaves them alone keeps it by definition -/
def TabInv (s : Net) : Prop := ∀ n, NodeTab s.nconn s.conns n (s.nodes n).out (s.nodes n).inb (s.nodes n).rm

namespace NodeTab
variable {N N' : Nat} {cs cs' : Nat → Conn} {n : Nat} {out inb : Nat → Option Nat} {rm : List (Bool × Nat)}

theorem empty : NodeTab N cs n (fun _ => none) (fun _ => none) [] := ⟨nofun, nofun, nofun, nofun, nofun⟩

/-- the connections move on: those there stay what they are, and where `client.run` returns for a connection in a
table, the report is in `rm` -/
theorem conns (h : NodeTab N cs n out inb rm) (hN : N ≤ N') (hid : ∀ c, c < N → SameId (cs c) (cs' c))
    (hD : ∀ k c, out k = some c → (cs' c).retD = true → (cs c).retD = true ∨ (true, k) ∈ rm)
    (hA : ∀ k c, inb k = some c → (cs' c).retA = true → (cs c).retA = true ∨ (false, k) ∈ rm) :
    NodeTab N' cs' n out inb rm where
  outEntry k c hk := by
    obtain ⟨h1, h2⟩ := h.outEntry k c hk
    obtain ⟨ed, ea, eann, _⟩ := hid c h1
    exact ⟨Nat.lt_of_lt_of_le h1 hN, by rw [ed, ea, eann]; exact h2⟩
  outRemoval k c hk hr := (hD k c hk hr).elim (h.outRemoval k c hk) id
  inbEntry k c hk := by
    obtain ⟨h1, h2⟩ := h.inbEntry k c hk
    obtain ⟨ed, ea, _, ereg⟩ := hid c h1
    exact ⟨Nat.lt_of_lt_of_le h1 hN, by rw [ed, ea, ereg]; exact h2⟩
  inbRemoval k c hk hr := (hA k c hk hr).elim (h.inbRemoval k c hk) id
  removalFrom t id hm := by
    obtain ⟨c, hc, hx⟩ := h.removalFrom t id hm
    obtain ⟨ed, ea, eann, _⟩ := hid c hc
    exact ⟨c, Nat.lt_of_lt_of_le hc hN, by rw [ed, ea, eann]; exact hx⟩

/-- a removal is reported by one of this node's connections -/
theorem report (h : NodeTab N cs n out inb rm) {t : Bool} {id c : Nat} (hc : c < N)
    (hx : (t = true ∧ (cs c).d = n ∧ (cs c).ann = id) ∨ (t = false ∧ (cs c).a = n ∧ (cs c).d = id)) :
    NodeTab N cs n out inb (rm ++ [(t, id)]) :=
  { h with
    outRemoval := fun k c hk hr => List.mem_append_left _ (h.outRemoval k c hk hr)
    inbRemoval := fun k c hk hr => List.mem_append_left _ (h.inbRemoval k c hk hr)
    removalFrom := fun t' id' hm => (List.mem_append.mp hm).elim (h.removalFrom t' id') fun hm => by
      cases List.mem_singleton.mp hm; exact ⟨c, hc, hx⟩ }

/-- entries and taken removals go; the removal of an entry that stays must stay with it -/
theorem shrink {out' inb' : Nat → Option Nat} {rm' : List (Bool × Nat)} (h : NodeTab N cs n out inb rm)
    (ho : ∀ k c, out' k = some c → out k = some c) (hi : ∀ k c, inb' k = some c → inb k = some c)
    (hr : ∀ x, x ∈ rm' → x ∈ rm)
    (hro : ∀ k c, out' k = some c → (true, k) ∈ rm → (true, k) ∈ rm')
    (hri : ∀ k c, inb' k = some c → (false, k) ∈ rm → (false, k) ∈ rm') : NodeTab N cs n out' inb' rm' where
  outEntry k c hk := h.outEntry k c (ho k c hk)
  outRemoval k c hk hret := hro k c hk (h.outRemoval k c (ho k c hk) hret)
  inbEntry k c hk := h.inbEntry k c (hi k c hk)
  inbRemoval k c hk hret := hri k c hk (h.inbRemoval k c (hi k c hk) hret)
  removalFrom t id hm := h.removalFrom t id (hr _ hm)

/-- a reported removal is taken: the entry under its id goes with it; every other entry keeps its removal -/
theorem take (h : NodeTab N cs n out inb rm) {k id : Nat} (isCall : Bool) (hk : rm[k]? = some (isCall, id)) :
    NodeTab N cs n (if isCall then setTab out id none else out) (if isCall then inb else setTab inb id none)
      (rm.eraseIdx k) := by
  cases isCall
  · exact h.shrink (fun _ _ h => h) (fun _ _ h => (setTab_none_sub _ _ _ _ h).1) (fun _ => List.mem_of_mem_eraseIdx)
      (fun _ _ _ hm => mem_eraseIdx_of_ne hm hk nofun)
      (fun _ _ h hm => mem_eraseIdx_of_ne hm hk (by simp [(setTab_none_sub _ _ _ _ h).2]))
  · exact h.shrink (fun _ _ h => (setTab_none_sub _ _ _ _ h).1) (fun _ _ h => h) (fun _ => List.mem_of_mem_eraseIdx)
      (fun _ _ h hm => mem_eraseIdx_of_ne hm hk (by simp [(setTab_none_sub _ _ _ _ h).2]))
      (fun _ _ _ hm => mem_eraseIdx_of_ne hm hk nofun)

/-- a connection this node dialled, still running, is registered -/
theorem setOut (h : NodeTab N cs n out inb rm) {k c : Nat}
    (hc : c < N ∧ (cs c).d = n ∧ (cs c).a = k ∧ (cs c).ann = k) (hr : (cs c).retD = false) :
    NodeTab N cs n (setTab out k (some c)) inb rm :=
  { h with
    outEntry := fun k' c' hk => by
      simp only [setTab] at hk; split at hk
      · rename_i e; cases hk; exact e ▸ hc
      · exact h.outEntry k' c' hk
    outRemoval := fun k' c' hk hret => by
      simp only [setTab] at hk; split at hk
      · cases hk; exact absurd (hr.symm.trans hret) nofun
      · exact h.outRemoval k' c' hk hret }

/-- … and one it accepted -/
theorem setInb (h : NodeTab N cs n out inb rm) {k c : Nat}
    (hc : c < N ∧ (cs c).a = n ∧ (cs c).d = k ∧ (cs c).regA = true) (hr : (cs c).retA = false) :
    NodeTab N cs n out (setTab inb k (some c)) rm :=
  { h with
    inbEntry := fun k' c' hk => by
      simp only [setTab] at hk; split at hk
      · rename_i e; cases hk; exact e ▸ hc
      · exact h.inbEntry k' c' hk
    inbRemoval := fun k' c' hk hret => by
      simp only [setTab] at hk; split at hk
      · cases hk; exact absurd (hr.symm.trans hret) nofun
      · exact h.inbRemoval k' c' hk hret }

end NodeTab

theorem TabInv.init (ideal : Nat → Bool) : TabInv (init ideal) := fun _ => .empty

theorem TabInv.setNode {s : Net} (hT : TabInv s) (n : Nat) (f : Node → Node)
    (h : NodeTab s.nconn s.conns n (f (s.nodes n)).out (f (s.nodes n)).inb (f (s.nodes n)).rm) :
    TabInv (s.setNode n f) :=
  setNode_forall (P := fun m nd => NodeTab s.nconn s.conns m nd.out nd.inb nd.rm) hT n f h

/-- a change of one connection record: it stays what it is, and if `client.run` returns at one of its ends the
report is at that end's node -/
theorem TabInv.setConn {s : Net} (hT : TabInv s) (c : Nat) (f : Conn → Conn)
    (hid : SameId (s.conns c) (f (s.conns c)))
    (hD : (f (s.conns c)).retD = true → (s.conns c).retD = true ∨ (true, (s.conns c).ann) ∈ (s.nodes (s.conns c).d).rm)
    (hA : (f (s.conns c)).retA = true → (s.conns c).retA = true ∨ (false, (s.conns c).d) ∈ (s.nodes (s.conns c).a).rm) :
    TabInv (s.setConn c f) := fun n => by
  refine (hT n).conns (Nat.le_refl _)
    (fun e _ => setConn_forall (P := fun e y => SameId (s.conns e) y) (fun _ => .rfl _) c f hid e)
    (fun k e hk => ?_) (fun k e hk => ?_) <;> rw [setConn_conns] <;> split
  · rename_i he; subst he
    obtain ⟨_, h2, _, h4⟩ := (hT n).outEntry k e hk
    rw [h2, h4] at hD; exact hD
  · exact .inl
  · rename_i he; subst he
    obtain ⟨_, h2, h3, _⟩ := (hT n).inbEntry k e hk
    rw [h2, h3] at hA; exact hA
  · exact .inl

/-- callHandler keeps a dialled connection only if the peer announced the dialled id -/
theorem announced_eq_dialled {x b : Nat} (h : (Cfg.good.idMatch && x != b) = false) : x = b := by
  simpa [Cfg.good] using h

theorem reportD_good (x : Conn) : reportD Cfg.good x = (true, x.ann) := rfl
theorem reportA_good (x : Conn) : reportA Cfg.good x = (false, x.d) := rfl

/-- `client.run` returns at the dialling end: the report goes to the node, then the flag goes up -/
theorem TabInv.retAtD {s : Net} (hT : TabInv s) (c : Nat) (hc : c < s.nconn) : TabInv (retAtD Cfg.good s c) := by
  cases h : (s.conns c).retD
  case true => rw [retAtD_idle _ s c h]; exact hT
  rw [retAtD_fire _ s c h]
  have h1 := hT.setNode (s.conns c).d (fun n => { n with rm := n.rm ++ [reportD Cfg.good (s.conns c)] })
    ((hT _).report hc (.inl ⟨rfl, rfl, rfl⟩))
  exact h1.setConn c (fun x => { x with retD := true }) ⟨rfl, rfl, rfl, rfl⟩ (fun _ => .inr mem_report) .inl

theorem TabInv.retAtA {s : Net} (hT : TabInv s) (c : Nat) (hc : c < s.nconn) : TabInv (retAtA Cfg.good s c) := by
  by_cases hact : (s.conns c).retA = false ∧ (s.conns c).regA = true
  case neg => rw [retAtA_idle _ s c hact]; exact hT
  rw [retAtA_fire _ s c hact.1 hact.2]
  have h1 := hT.setNode (s.conns c).a (fun n => { n with rm := n.rm ++ [reportA Cfg.good (s.conns c)] })
    ((hT _).report hc (.inr ⟨rfl, rfl, rfl⟩))
  exact h1.setConn c (fun x => { x with retA := true }) ⟨rfl, rfl, rfl, rfl⟩ .inl (fun _ => .inr mem_report)

theorem TabInv.hand {s : Net} (hT : TabInv s) (i c : Nat) : TabInv (hand Cfg.good s i c) := by
  cases hcl : (s.conns c).clD
  · rw [hand_open _ s i c hcl]; exact hT.setConn c (handF Cfg.good s i c) ⟨rfl, rfl, rfl, rfl⟩ .inl .inl
  · rw [hand_closed _ s i c hcl]; exact hT

/-- no entry points to the new connection -/
theorem TabInv.pushConn {s : Net} (hT : TabInv s) (x : Conn) : TabInv (pushConn s x) := fun n =>
  (hT n).conns (Nat.le_succ _) (fun _ hc => pushConn_old s x hc ▸ .rfl _)
    (fun k c hk hr => .inl (pushConn_old s x ((hT n).outEntry k c hk).1 ▸ hr))
    (fun k c hk hr => .inl (pushConn_old s x ((hT n).inbEntry k c hk).1 ▸ hr))

theorem TabInv.openConn {s : Net} (hT : TabInv s) (a x : Nat) : TabInv (openConn Cfg.good s a x x) := by
  rw [openConn_eq]
  have h1 := hT.pushConn (mkConn Cfg.good s a x x)
  have hnew := pushConn_new s (mkConn Cfg.good s a x x)
  have h2 : ∀ t : Net, TabInv t → t.nconn = s.nconn + 1 → t.conns s.nconn = mkConn Cfg.good s a x x →
      TabInv (t.setNode a fun n => { n with out := setTab n.out x (some s.nconn) }) := fun t ht hn hc =>
    ht.setNode a _ ((ht a).setOut (by rw [hn, hc]; exact ⟨Nat.lt_succ_self _, rfl, rfl, rfl⟩) (by rw [hc]; rfl))
  split
  · exact h2 _ h1 rfl hnew
  · rename_i hg
    refine h2 _ (h1.setNode x _ ((h1 x).setInb ?_ (by rw [hnew]; rfl))) rfl hnew
    rw [hnew]; exact ⟨Nat.lt_succ_self _, rfl, rfl, by simp [mkConn, (Bool.or_eq_false_iff.mp (Bool.eq_false_iff.mpr hg)).2]⟩

theorem Effect.tabInv {s t : Net} {e : Ev} (h : Effect Cfg.good s e t) (hT : TabInv s) : TabInv t := by
  induction h with
  | init => exact hT
  | newReq _ _ _ ih | errs _ _ _ ih | got _ _ _ _ _ _ _ _ ih => exact ih
  | hand i c _ _ _ _ ih => exact ih.hand i c
  | openConn a b x _ _ hx _ ih => exact announced_eq_dialled hx ▸ ih.openConn a x
  | retAtD c hc _ ih => exact ih.retAtD c hc
  | retAtA c hc _ ih => exact ih.retAtA c hc
  | conn c f q _ ih =>
    exact ih.setConn c f ⟨q.d, q.a, q.ann, q.regA⟩ (fun h => .inl (q.retD ▸ h)) (fun h => .inl (q.retA ▸ h))
  | deliver n _ _ _ _ ih | answer n _ _ ih => exact ih.setNode n _ (ih n)
  | reply b c' hd _ _ ih => exact ih.setConn c' _ ⟨rfl, rfl, rfl, rfl⟩ .inl .inl
  | @procRm n k isCall id _ hk =>
    refine hT.setNode n _ ?_
    cases isCall <;> exact (hT n).take _ hk
  | disconnect a b _ =>
    exact hT.setNode a _ ((hT a).shrink (fun _ _ h => (setTab_none_sub _ _ _ _ h).1) (fun _ _ h => h) (fun _ h => h)
      (fun _ _ _ h => h) (fun _ _ _ h => h))
  | reset n _ =>
    intro m
    show NodeTab _ _ m ((step Cfg.good s (.reset n)).nodes m).out _ _
    rw [reset_nodes]; split
    · exact .empty
    · -- an entry of another node is no connection that node `n` dialled / accepted
      rename_i hm
      exact (hT m).conns (Nat.le_refl _) (fun c _ => reset_sameId _ s n c)
        (fun k c hk hr => .inl (((reset_ret _ s n c).1 hr).resolve_right fun hd =>
          hm (((hT m).outEntry k c hk).2.1.symm.trans hd)))
        (fun k c hk hr => .inl (((reset_ret _ s n c).2 hr).resolve_right fun ha =>
          hm (((hT m).inbEntry k c hk).2.1.symm.trans ha)))

theorem run_tabInv {s : Net} (hT : TabInv s) (evs : List Ev) : TabInv (run Cfg.good s evs) :=
  run_induction _ (fun t e => (step_effect _ t e).tabInv) hT evs

theorem ite_inb_inb (P : Prop) [Decidable P] (n : Node) (t : Nat → Option Nat) :
    (if P then { n with inb := t } else n).inb = if P then t else n.inb := by split <;> rfl
theorem ite_out_inb (P : Prop) [Decidable P] (n : Node) (t : Nat → Option Nat) :
    (if P then { n with out := t } else n).inb = n.inb := by split <;> rfl

theorem openConn_good_out (s : Net) (a b x m : Nat) :
    ((openConn Cfg.good s a b x).nodes m).out = if m = a then setTab (s.nodes m).out b (some s.nconn) else (s.nodes m).out := by
  rw [openConn_nodes]; dsimp only; split <;> split <;> rfl

theorem openConn_good_inb (s : Net) (a b x m : Nat) :
    ((openConn Cfg.good s a b x).nodes m).inb =
      if m = b ∧ (s.ideal b || refused Cfg.good s a b) = false then setTab (s.nodes m).inb a (some s.nconn)
      else (s.nodes m).inb := by
  rw [openConn_nodes]; dsimp only; split <;> split <;> rfl

end Dos.ConnTable
