/-
C06 helpers: what `Sign` and the key derivation emit for EVERY scalar — 0, values ≥ r included.
`pubkey_valid`: x·g₂ is a valid G2 element for every x (from `G2.valid g₂` and closure under `smul`,
`Proofs/ComposeBn256Group.lean`); `marshalG1_words`, `marshalG2_words`: the words ANY valid G1 / G2 element
is encoded as.
-/
import DosModel.Proofs.BlsEval
import DosModel.Proofs.Bn256ConcCurve

namespace Dos.Bls
open Dos Dos.Bn256 Dos.Codec Dos.CodecBytes Dos.Compose

theorem pubkey_valid (x : Nat) : G2.valid (G2.smul x g2gen) = true := (valid2_smul x g2gen g2gen_valid).1

theorem be32_zero : be32 0 = List.replicate 32 0 := natBE_zero 32

theorem marshalG1_words (S : G1) (hv : G1.valid S = true) :
    ∃ wx wy, wx < p ∧ wy < p ∧ marshalG1 S = be32 wx ++ be32 wy ∧
      ((S = .inf ∧ wx = 0 ∧ wy = 0) ∨ (S = .aff wx wy ∧ G1.onCurve (.aff wx wy) = true)) := by
  cases S with
  | inf =>
    refine ⟨0, 0, by decide, by decide, ?_, .inl ⟨rfl, rfl, rfl⟩⟩
    rw [be32_zero]; rfl
  | aff x y =>
    simp only [G1.valid, Bool.and_eq_true, decide_eq_true_eq] at hv
    exact ⟨x, y, hv.1.1, hv.1.2, rfl, .inr ⟨rfl, hv.2⟩⟩

theorem marshalG2_words (X : G2) (hv : G2.valid X = true) :
    (X = .inf ∧ marshalG2 X = [0]) ∨
    ∃ a b c d, a < p ∧ b < p ∧ c < p ∧ d < p ∧ X = .aff ⟨a, b⟩ ⟨c, d⟩ ∧
      marshalG2 X = [1] ++ be32 a ++ be32 b ++ be32 c ++ be32 d ∧ (marshalG2 X).length = 129 ∧
      G2.onCurve X = true := by
  cases X with
  | inf => exact .inl ⟨rfl, rfl⟩
  | aff x y =>
    have hl := marshalG2_length_aff x y
    simp only [G2.valid, Bool.and_eq_true, decide_eq_true_eq] at hv
    obtain ⟨⟨⟨⟨⟨h1, h2⟩, h3⟩, h4⟩, h5⟩, _⟩ := hv
    exact .inr ⟨x.im, x.re, y.im, y.re, h1, h2, h3, h4, rfl, rfl, hl, h5⟩

end Dos.Bls
