import DosModel.Proofs.ConnTable

/-! The nonce invariant of the connection-table model: every nonce names one request, and every
table entry / frame in flight / message held by an application that carries a nonce carries the
request that nonce was given to.  It does not depend on how the tables are keyed.  The clauses about one connection
record are a predicate over the fields they read (`ConnInv`), so an update of any other field keeps them by
definition. -/
namespace Dos.ConnTable
open Dos

/-- the pair travels with the request its nonce was given to -/
def Carried (reqs : Nat → Req) (e : Nonce × Nat) : Prop := (reqs e.2).nonce = some e.1

/-- the table and the queues of connection `c`: `pend` also remembers that the request was registered here -/
structure ConnInv (reqs : Nat → Req) (c : Nat) (pend reqQ repQ : List (Nonce × Nat)) : Prop where
  pend : ∀ e, e ∈ pend → Carried reqs e ∧ (reqs e.2).conn = some c
  reqQ : ∀ e, e ∈ reqQ → Carried reqs e
  repQ : ∀ e, e ∈ repQ → Carried reqs e

/-- `sp`: a nonce of connection `c` lies in `c`'s own space, below `c`'s counter; `uniq`: it names one request;
`conn`, `held`: wherever a nonce travels, the request it was given to travels with it; `outLt`: table entries are
connections that exist. -/
structure Inv (s : Net) : Prop where
  reqLt : ∀ i ν, (s.reqs i).nonce = some ν → i < s.nreq
  sp    : ∀ i ν, (s.reqs i).nonce = some ν → ∃ c, c < s.nconn ∧ ν.space = c + 1 ∧ ν.idx < (s.conns c).next
  uniq  : ∀ i j ν, (s.reqs i).nonce = some ν → (s.reqs j).nonce = some ν → i = j
  conn  : ∀ c, ConnInv s.reqs c (s.conns c).pend (s.conns c).reqQ (s.conns c).repQ
  held  : ∀ n h, h ∈ (s.nodes n).held → Carried s.reqs (h.nonce, h.g)
  outLt : ∀ n k c, (s.nodes n).out k = some c → c < s.nconn

theorem Inv.init (ideal : Nat → Bool) : Inv (init ideal) :=
  ⟨nofun, nofun, nofun, fun _ => ⟨nofun, nofun, nofun⟩, nofun, nofun⟩

/-- a change of one connection record: the counter does not go back, and what is in its table and queues is carried -/
theorem Inv.setConn {s : Net} (hI : Inv s) (c : Nat) (f : Conn → Conn)
    (hn : (s.conns c).next ≤ (f (s.conns c)).next)
    (h : ConnInv s.reqs c (f (s.conns c)).pend (f (s.conns c)).reqQ (f (s.conns c)).repQ) : Inv (s.setConn c f) :=
  { hI with
    sp := fun i ν hi => by
      obtain ⟨e, he, hs, hx⟩ := hI.sp i ν hi
      exact ⟨e, he, hs, Nat.lt_of_lt_of_le hx
        (setConn_forall (P := fun e y => (s.conns e).next ≤ y.next) (fun _ => Nat.le_refl _) c f hn e)⟩
    conn := setConn_forall (P := fun e y => ConnInv s.reqs e y.pend y.reqQ y.repQ) hI.conn c f h }

/-- a change of one node: what the application holds is carried, table entries are connections that exist -/
theorem Inv.setNode {s : Net} (hI : Inv s) (n : Nat) (f : Node → Node)
    (hh : ∀ h, h ∈ (f (s.nodes n)).held → Carried s.reqs (h.nonce, h.g))
    (ho : ∀ k c, (f (s.nodes n)).out k = some c → c < s.nconn) : Inv (s.setNode n f) :=
  { hI with
    held := setNode_forall (P := fun _ nd => ∀ h, h ∈ nd.held → Carried s.reqs (h.nonce, h.g)) hI.held n f hh
    outLt := setNode_forall (P := fun _ nd => ∀ k c, nd.out k = some c → c < s.nconn) hI.outLt n f ho }

/-- `retAtD` / `retAtA` touch no nonce, queue, table or counter -/
theorem Inv.retAtD (cfg : Cfg) {s : Net} (hI : Inv s) (c : Nat) : Inv (retAtD cfg s c) := by
  cases h : (s.conns c).retD
  case true => rw [retAtD_idle _ s c h]; exact hI
  rw [retAtD_fire _ s c h]
  exact (hI.setConn c _ (Nat.le_refl _) (hI.conn c)).setNode _ _ (hI.held _) (hI.outLt _)

theorem Inv.retAtA (cfg : Cfg) {s : Net} (hI : Inv s) (c : Nat) : Inv (retAtA cfg s c) := by
  by_cases hact : (s.conns c).retA = false ∧ (s.conns c).regA = true
  case neg => rw [retAtA_idle _ s c hact]; exact hI
  rw [retAtA_fire _ s c hact.1 hact.2]
  exact (hI.setConn c _ (Nat.le_refl _) (hI.conn c)).setNode _ _ (hI.held _) (hI.outLt _)

/-- the requests change, but no nonce and no registration does -/
theorem Inv.setReqs {s : Net} (hI : Inv s) (rq : Nat → Req)
    (h : ∀ i, (rq i).nonce = (s.reqs i).nonce ∧ (rq i).conn = (s.reqs i).conn) : Inv { s with reqs := rq } where
  reqLt i ν hi := hI.reqLt i ν ((h i).1 ▸ hi)
  sp i ν hi := hI.sp i ν ((h i).1 ▸ hi)
  uniq i j ν hi hj := hI.uniq i j ν ((h i).1 ▸ hi) ((h j).1 ▸ hj)
  conn c := ⟨fun e he => ⟨(h e.2).1.trans ((hI.conn c).pend e he).1, (h e.2).2.trans ((hI.conn c).pend e he).2⟩,
    fun e he => (h e.2).1.trans ((hI.conn c).reqQ e he), fun e he => (h e.2).1.trans ((hI.conn c).repQ e he)⟩
  held n x hx := (h x.g).1.trans (hI.held n x hx)
  outLt := hI.outLt


theorem Inv.setOut {s : Net} (hI : Inv s) (i : Nat) (o : Outcome) : Inv (s.setReq i fun r => { r with out := o }) :=
  hI.setReqs _ fun j => by dsimp only; split <;> exact ⟨rfl, rfl⟩

/-- the requests change, but what was carried still is, with its registration -/
theorem ConnInv.mono {reqs reqs' : Nat → Req} {c : Nat} {p q r : List (Nonce × Nat)} (h : ConnInv reqs c p q r)
    (hext : ∀ e, Carried reqs e → Carried reqs' e ∧ (reqs' e.2).conn = (reqs e.2).conn) : ConnInv reqs' c p q r :=
  ⟨fun e he => ⟨(hext e (h.pend e he).1).1, (hext e (h.pend e he).1).2.trans (h.pend e he).2⟩,
    fun e he => (hext e (h.reqQ e he)).1, fun e he => (hext e (h.repQ e he)).1⟩

theorem Inv.newReq {s : Net} (hI : Inv s) (a b : Nat) : Inv (newReq s a b) := by
  -- request number `s.nreq` has no nonce yet, so nothing that is carried refers to it
  have hext : ∀ e, Carried s.reqs e → Carried (ConnTable.newReq s a b).reqs e ∧
      ((ConnTable.newReq s a b).reqs e.2).conn = (s.reqs e.2).conn := fun e he => by
    rw [Carried, newReq_reqs, if_neg (Nat.ne_of_lt (hI.reqLt _ _ he))]; exact ⟨he, rfl⟩
  have hreq : ∀ i ν, ((ConnTable.newReq s a b).reqs i).nonce = some ν → (s.reqs i).nonce = some ν := fun i ν h => by
    rw [newReq_reqs] at h; split at h
    · cases h
    · exact h
  exact ⟨fun i ν hi => Nat.lt_succ_of_lt (hI.reqLt i ν (hreq i ν hi)), fun i ν hi => hI.sp i ν (hreq i ν hi),
    fun i j ν hi hj => hI.uniq i j ν (hreq i ν hi) (hreq j ν hj), fun c => (hI.conn c).mono hext,
    fun n x hx => (hext _ (hI.held n x hx)).1, hI.outLt⟩

/-- the new connection's table and queues are empty -/
theorem Inv.pushConn {s : Net} (hI : Inv s) (x : Conn) (hp : x.pend = []) (hq : x.reqQ = []) (hr : x.repQ = []) :
    Inv (pushConn s x) :=
  { hI with
    sp := fun i ν hi => by
      obtain ⟨c, hc, hs, hx⟩ := hI.sp i ν hi
      exact ⟨c, Nat.lt_succ_of_lt hc, hs, by rw [pushConn_old s x hc]; exact hx⟩
    conn := fun c => by
      show ConnInv _ c (if c = s.nconn then x else s.conns c).pend (if c = s.nconn then x else s.conns c).reqQ
        (if c = s.nconn then x else s.conns c).repQ
      split
      · rw [hp, hq, hr]; exact ⟨nofun, nofun, nofun⟩
      · exact hI.conn c
    outLt := fun n k c h => Nat.lt_succ_of_lt (hI.outLt n k c h) }

theorem Inv.openConn (cfg : Cfg) {s : Net} (hI : Inv s) (a b x : Nat) : Inv (openConn cfg s a b x) := by
  rw [openConn_eq]
  have h1 := hI.pushConn (mkConn cfg s a b x) rfl rfl rfl
  have h2 : ∀ t : Net, Inv t → t.nconn = s.nconn + 1 → ∀ (n k : Nat) (inb : Bool),
      Inv (t.setNode n fun nd => if inb then { nd with inb := setTab nd.inb k (some s.nconn) }
        else { nd with out := setTab nd.out k (some s.nconn) }) := fun t ht hn n k inb =>
    ht.setNode n _ (by cases inb <;> exact ht.held n) (by
      cases inb
      · intro k' c h
        simp only [Bool.false_eq_true, if_false, setTab] at h; split at h
        · cases h; rw [hn]; exact Nat.lt_succ_self _
        · exact ht.outLt n k' c h
      · exact ht.outLt n)
  split
  · exact h2 _ h1 rfl a _ false
  · exact h2 _ (h2 _ h1 rfl b _ true) rfl a _ false


/-- dispatch registers request `i`, which has no nonce yet, on connection `c`: the nonce it gets is the counter's
value in `c`'s own space, so nobody has it -/
theorem Inv.hand (cfg : Cfg) (hnb : cfg.nonceBase = true) {s : Net} (hI : Inv s) (i c : Nat)
    (hc : c < s.nconn) (hi : i < s.nreq) (hn : (s.reqs i).nonce = none) : Inv (hand cfg s i c) := by
  cases hcl : (s.conns c).clD
  case true => rw [hand_closed cfg s i c hcl]; exact hI
  have hsp : (nonceFor cfg s c).space = c + 1 ∧ (nonceFor cfg s c).idx = (s.conns c).next := by
    simp [nonceFor, spaceOf, hnb]
  have hfresh : ∀ j, (s.reqs j).nonce ≠ some (nonceFor cfg s c) := by
    intro j hj
    obtain ⟨c', _, hs, hx⟩ := hI.sp j _ hj
    have : c' = c := by omega
    subst this; omega
  -- afterwards request `i` has the new nonce and every other request is as it was …
  have hR : ∀ j ν, ((ConnTable.hand cfg s i c).reqs j).nonce = some ν →
      (j = i ∧ ν = nonceFor cfg s c) ∨ (s.reqs j).nonce = some ν := by
    intro j ν h; by_cases hj : j = i
    · subst hj; rw [hand_reqs_self _ _ _ _ hcl] at h; exact .inl ⟨rfl, (Option.some.inj h).symm⟩
    · rw [hand_reqs_ne _ _ _ _ _ hj] at h; exact .inr h
  -- … in particular every request that had a nonce
  have hext : ∀ e, Carried s.reqs e → Carried (ConnTable.hand cfg s i c).reqs e ∧
      ((ConnTable.hand cfg s i c).reqs e.2).conn = (s.reqs e.2).conn := fun e he => by
    rw [Carried, hand_reqs_ne _ _ _ _ _ fun h => by rw [Carried, h, hn] at he; cases he]; exact ⟨he, rfl⟩
  have hnew : Carried (ConnTable.hand cfg s i c).reqs (nonceFor cfg s c, i) ∧
      ((ConnTable.hand cfg s i c).reqs i).conn = some c := by
    rw [Carried, hand_reqs_self _ _ _ _ hcl]; exact ⟨rfl, rfl⟩
  refine ⟨fun j ν h => ?_, fun j ν h => ?_, fun j k ν hj hk => ?_, fun e => ?_, fun n x hx => ?_, ?_⟩
  · rw [hand_nreq]; exact (hR j ν h).elim (fun e => e.1 ▸ hi) (hI.reqLt j ν)
  · rw [hand_nconn]
    rcases hR j ν h with ⟨_, rfl⟩ | h
    · exact ⟨c, hc, hsp.1, by rw [hand_conns_self _ _ _ _ hcl, handF_next, hsp.2]; exact Nat.lt_succ_self _⟩
    · obtain ⟨c', hc', hs, hx⟩ := hI.sp j ν h
      refine ⟨c', hc', hs, ?_⟩
      by_cases hcc : c' = c
      · subst hcc; rw [hand_conns_self _ _ _ _ hcl, handF_next]; exact Nat.lt_succ_of_lt hx
      · rw [hand_conns_ne _ _ _ _ _ hcc]; exact hx
  · rcases hR j ν hj with ⟨rfl, rfl⟩ | h1 <;> rcases hR k _ hk with ⟨rfl, hν⟩ | h2
    · rfl
    · exact absurd h2 (hfresh k)
    · exact absurd (hν ▸ h1) (hfresh j)
    · exact hI.uniq j k ν h1 h2
  · have old := (hI.conn e).mono hext
    by_cases he : e = c
    · subst he; rw [hand_conns_self _ _ _ _ hcl]
      refine ⟨fun x hx => (List.mem_cons.mp hx).elim (fun h => h ▸ hnew) (old.pend x), fun x hx => ?_, old.repQ⟩
      rw [handF_reqQ] at hx; split at hx
      · exact (List.mem_append.mp hx).elim (old.reqQ x) fun h => List.mem_singleton.mp h ▸ hnew.1
      · exact old.reqQ x hx
    · rw [hand_conns_ne _ _ _ _ _ he]; exact old
  · rw [hand_nodes] at hx; exact (hext _ (hI.held n x hx)).1
  · rw [hand_nodes, hand_nconn]; exact hI.outLt

theorem setTab_none_sub (t : Nat → Option Nat) (id k c : Nat) (h : setTab t id none k = some c) : t k = some c ∧ k ≠ id := by
  simp only [setTab] at h; split at h
  · cases h
  · exact ⟨h, ‹_›⟩

theorem Effect.inv {cfg : Cfg} (hnb : cfg.nonceBase = true) {s t : Net} {e : Ev} (h : Effect cfg s e t) (hI : Inv s) :
    Inv t := by
  induction h with
  | init => exact hI
  | newReq a b _ ih => exact ih.newReq a b
  | errs rq hrq _ ih =>
    exact ih.setReqs rq fun j => (hrq j).elim (fun h => h ▸ ⟨rfl, rfl⟩) (fun h => h.2 ▸ ⟨rfl, rfl⟩)
  | got _ _ _ _ _ _ _ _ ih => exact ih.setOut _ _
  | hand i c hi hn hc _ ih => exact ih.hand cfg hnb i c (hc.elim id fun ⟨a, b, h⟩ => ih.outLt a b c h) hi.2 hn
  | openConn a b x _ _ _ _ ih => exact ih.openConn cfg a b x
  | retAtD c _ _ ih => exact ih.retAtD cfg c
  | retAtA c _ _ ih => exact ih.retAtA cfg c
  | conn c f q _ ih =>
    exact ih.setConn c f (Nat.le_of_eq q.next.symm) ⟨fun e h => (ih.conn c).pend e (q.pend e h),
      fun e h => (ih.conn c).reqQ e (q.reqQ e h), fun e h => (ih.conn c).repQ e (q.repQ e h)⟩
  | deliver n hd hq _ _ ih =>
    -- the frame reaches the application
    obtain ⟨c, hq⟩ := hq
    exact ih.setNode n _ (fun x hx => (List.mem_append.mp hx).elim (ih.held n x) fun hx =>
      List.mem_singleton.mp hx ▸ (ih.conn c).reqQ _ hq) (ih.outLt n)
  | answer b k _ ih => exact ih.setNode b _ (fun x hx => ih.held b x (List.mem_of_mem_eraseIdx hx)) (ih.outLt b)
  | reply b c' hd hm _ ih =>
    -- the reply to a held message is put in flight
    exact ih.setConn c' _ (Nat.le_refl _) { ih.conn c' with
      repQ := fun e he => (List.mem_append.mp he).elim ((ih.conn c').repQ e) fun he =>
        List.mem_singleton.mp he ▸ ih.held b hd hm }
  | @procRm n _ _ _ _ _ =>
    refine hI.setNode n _ (by split <;> exact hI.held n) fun k' c' h => hI.outLt n k' c' ?_
    split at h
    · exact (setTab_none_sub _ _ _ _ h).1
    · exact h
  | disconnect a b _ => exact hI.setNode a _ (hI.held a) fun k c h => hI.outLt a k c (setTab_none_sub _ _ _ _ h).1
  | reset n _ =>
    -- requests keep nonce and registration; tables, queues and the restarted node's state only lose entries
    have hrq : ∀ i, ((step cfg s (.reset n)).reqs i).nonce = (s.reqs i).nonce ∧
        ((step cfg s (.reset n)).reqs i).conn = (s.reqs i).conn := fun i => by rw [reset_reqs]; split <;> exact ⟨rfl, rfl⟩
    have h1 := hI.setReqs _ hrq
    refine ⟨h1.reqLt, fun i ν hi => ?_, h1.uniq, fun c => ?_, fun m x hx => ?_, fun m k c h => ?_⟩
    · obtain ⟨c, hc, hs, hx⟩ := h1.sp i ν hi
      exact ⟨c, hc, hs, by rw [reset_conns]; split <;> exact hx⟩
    · rw [reset_conns]; split
      · exact ⟨fun e he => by dsimp only at he; split at he; cases he; exact (h1.conn c).pend e he, nofun, nofun⟩
      · exact h1.conn c
    · rw [reset_nodes] at hx; split at hx
      · cases hx
      · exact h1.held m x hx
    · rw [reset_nodes] at h; split at h
      · cases h
      · exact hI.outLt m k c h

theorem run_inv (cfg : Cfg) (hnb : cfg.nonceBase = true) {s : Net} (hI : Inv s) (evs : List Ev) : Inv (run cfg s evs) :=
  run_induction cfg (fun t e => (step_effect cfg t e).inv hnb) hI evs

end Dos.ConnTable
