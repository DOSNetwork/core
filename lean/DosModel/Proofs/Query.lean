/-
For C01 and C07: the invariants of the recovery stage (`recoverStage`: safety, liveness under the
C02 / C03 contracts), the content as a function of the request, the two kinds of run of
`handleQuery` – who reports, and what –, a group of members as C01's liveness clause sees it
(`GroupRun`, `LivePremise`), the reading of `handleQuery`'s regenerated wiring data (`pipelineFrom`),
and the stage under a cut input (the deadline).
-/
import DosModel.Model.Query
import DosModel.Proofs.Collector
import DosModel.Proofs.Content
import Mathlib.Data.List.Perm.Subperm
import Mathlib.Data.List.Nodup

namespace Dos.Query
open Dos

/-! ### `sliceUniqMap`'s in-place compaction keeps the set of entries and the length -/

theorem mem_dedupAux (x : Bytes) : ∀ (l seen : List Bytes), x ∈ dedupAux seen l ↔ x ∈ l ∧ x ∉ seen := by
  intro l
  induction l with
  | nil => intro seen; simp [dedupAux]
  | cons y l ih =>
    intro seen
    by_cases hy : y ∈ seen
    · simp only [dedupAux, hy, if_true, ih, List.mem_cons]
      exact ⟨fun h => ⟨Or.inr h.1, h.2⟩, fun h => ⟨h.1.resolve_left (fun c => h.2 (c ▸ hy)), h.2⟩⟩
    · simp only [dedupAux, hy, if_false, List.mem_cons, ih, not_or]
      by_cases hxy : x = y
      · subst hxy; simp [hy]
      · simp [hxy]

theorem mem_dedup (x : Bytes) (l : List Bytes) : x ∈ dedup l ↔ x ∈ l := by
  simp [dedup, mem_dedupAux]

theorem dedupAux_length_le : ∀ (l seen : List Bytes), (dedupAux seen l).length ≤ l.length := by
  intro l
  induction l with
  | nil => intro seen; simp [dedupAux]
  | cons y l ih =>
    intro seen
    by_cases hy : y ∈ seen
    · simp only [dedupAux, hy, if_true, List.length_cons]; have := ih seen; omega
    · simp only [dedupAux, hy, if_false, List.length_cons]; have := ih (y :: seen); omega

theorem mem_uniqCompact (x : Bytes) (l : List Bytes) : x ∈ uniqCompact l ↔ x ∈ l := by
  unfold uniqCompact
  rw [List.mem_append]
  constructor
  · rintro (h | h)
    · exact (mem_dedup x l).mp h
    · exact List.mem_of_mem_drop h
  · intro h; exact Or.inl ((mem_dedup x l).mpr h)

theorem uniqCompact_length (l : List Bytes) : (uniqCompact l).length = l.length := by
  unfold uniqCompact
  have := dedupAux_length_le l []
  simp only [List.length_append, List.length_drop, dedup]
  omega

/-! ### the guards and the verdict -/

theorem accepts_spec {st : StageSt} {m : Option Msg} {msg : Msg} {sg c : Bytes} {own : Nat × Bytes}
    (h : accepts st m = some (msg, sg, c, own)) :
    m = some msg ∧ msg.sig = some sg ∧ msg.content = some c ∧ msg.index = own.1 ∧ c = own.2 ∧
      (st.own = some own ∨ (st.own = none ∧ own = (msg.index, c))) := by
  unfold accepts at h
  cases m with
  | none => simp at h
  | some m0 =>
    simp only at h
    cases hs : m0.sig with
    | none => simp [hs] at h
    | some sg0 =>
      cases hc : m0.content with
      | none => simp [hs, hc] at h
      | some c0 =>
        simp only [hs, hc] at h
        cases ho : st.own with
        | none =>
          simp only [ho] at h
          split at h
          · simp at h
          · simp only [Option.some.injEq, Prod.mk.injEq] at h
            obtain ⟨rfl, rfl, rfl, rfl⟩ := h
            exact ⟨rfl, hs, hc, rfl, rfl, Or.inr ⟨rfl, rfl⟩⟩
        | some o =>
          simp only [ho] at h
          split at h
          · simp at h
          · rename_i hne
            simp only [Option.some.injEq, Prod.mk.injEq] at h
            obtain ⟨rfl, rfl, rfl, rfl⟩ := h
            have : ¬ (m0.index ≠ o.1) ∧ ¬ (c0 ≠ o.2) := by
              constructor
              · intro hh; exact hne (Or.inl hh)
              · intro hh; exact hne (Or.inr hh)
            exact ⟨rfl, hs, hc, by simpa using this.1, by simpa using this.2, Or.inl rfl⟩

/-- a well-formed message with the stage's own Index and Content is accepted -/
theorem accepts_of_match {st : StageSt} {ix : Nat} {c : Bytes} (ho : st.own = some (ix, c))
    (rid sg : Bytes) :
    accepts st (some { index := ix, rid := rid, content := some c, sig := some sg }) =
      some ({ index := ix, rid := rid, content := some c, sig := some sg }, sg, c, (ix, c)) := by
  simp [accepts, ho]

/-- the first share through an empty stage is accepted and fixes `own` -/
theorem accepts_init (ix : Nat) (rid c sg : Bytes) :
    accepts StageSt.init (some { index := ix, rid := rid, content := some c, sig := some sg }) =
      some ({ index := ix, rid := rid, content := some c, sig := some sg }, sg, c, (ix, c)) := by
  simp [accepts, StageSt.init]

theorem verdict_report_iff {C : Crypto} {t a : Nat} {c : Bytes} {l : List Bytes} {sig : Bytes} :
    verdict C t a c l = .report sig ↔
      t ≤ l.length ∧ C.recover c l = .ok sig ∧ C.verify c sig = true ∧ a ≤ c.length := by
  constructor
  · -- a report: enough shares, recovered, verified, long enough — every other branch gives another verdict
    intro h
    unfold verdict at h
    by_cases ht : t ≤ l.length
    · simp only [ht, if_true] at h
      cases hr : C.recover c l with
      | panic => simp [hr] at h
      | err => simp [hr] at h
      | ok s =>
        simp only [hr] at h
        by_cases hv : C.verify c s = true
        · simp only [hv, if_true] at h
          by_cases hl : c.length < a
          · -- content shorter than the suffix: `fail`
            simp [hl] at h
          · simp only [hl, if_false, Verdict.report.injEq] at h
            subst h; exact ⟨ht, rfl, hv, by omega⟩
        · -- recovered signature does not verify: `fail`
          simp [hv] at h
    · -- too few shares: `wait`
      simp [ht] at h
  · rintro ⟨ht, hr, hv, ha⟩
    unfold verdict
    have : ¬ c.length < a := by omega
    simp [ht, hr, hv, this]

theorem verdict_panic {C : Crypto} {t a : Nat} {c : Bytes} {l : List Bytes}
    (h : verdict C t a c l = .panic) : C.recover c l = .panic := by
  unfold verdict at h
  split at h
  · split at h
    · assumption
    · cases h
    · split at h
      · split at h <;> cases h
      · cases h
  · cases h

theorem verdict_wait {C : Crypto} {t a : Nat} {c : Bytes} {l : List Bytes}
    (h : verdict C t a c l = .wait) : ¬ t ≤ l.length := by
  unfold verdict at h
  split at h
  · split at h
    · cases h
    · cases h
    · split at h
      · split at h <;> cases h
      · cases h
  · assumption

theorem stageStep_accepted (C : Crypto) (t a : Nat) {st : StageSt} {m : Option Msg} {msg : Msg}
    {sg c : Bytes} {own : Nat × Bytes} (hs : st.stop = none) (hacc : accepts st m = some (msg, sg, c, own)) :
    stageStep C t a st m =
      match verdict C t a c (st.shares ++ [sg]) with
      | .wait => { st with own := some own, shares := st.shares ++ [sg] }
      | .fail => { st with own := some own, shares := uniqCompact (st.shares ++ [sg]) }
      | .panic => { st with own := some own, shares := uniqCompact (st.shares ++ [sg]), stop := some .panicRecover }
      | .report sig =>
        { shares := uniqCompact (st.shares ++ [sg]), own := some own,
          out := st.out ++ [{ index := msg.index, rid := msg.rid, result := c.take (c.length - a), sig := sig }],
          stop := some .reported } := by
  unfold stageStep
  simp only [hs, hacc]
  generalize verdict C t a c (st.shares ++ [sg]) = v
  cases v <;> rfl

theorem stageStep_stopped (C : Crypto) (t a : Nat) (st : StageSt) (m : Option Msg) (x : Stop)
    (h : st.stop = some x) : stageStep C t a st m = st := by
  simp [stageStep, h]

/-- what one message can do to the stage: nothing (it has returned, or a guard skipped the message); be
collected (nothing is reported, an `own` that is set stays); or complete the one report, which carries the
message's Index and RequestId and is verified under the message's Content – the stage's `own` -/
inductive Move (C : Crypto) (a : Nat) (st : StageSt) (m : Option Msg) (st' : StageSt) : Prop
  | skip (h : st' = st)
  | collect (hs : st.stop = none) (hout : st'.out = st.out) (hown : ∀ o, st.own = some o → st'.own = some o)
  | report {msg : Msg} {c sig : Bytes} (hs : st.stop = none) (hm : m = some msg)
      (hold : ∀ o, st.own = some o → o = (msg.index, c)) (hown : st'.own = some (msg.index, c))
      (hv : C.verify c sig = true) (ha : a ≤ c.length) (hstop : st'.stop = some .reported)
      (hout : st'.out = st.out ++ [{ index := msg.index, rid := msg.rid, result := c.take (c.length - a), sig := sig }])

theorem stageStep_move (C : Crypto) (t a : Nat) (st : StageSt) (m : Option Msg) :
    Move C a st m (stageStep C t a st m) := by
  cases hs : st.stop with
  | some x => exact .skip (stageStep_stopped C t a st m x hs)
  | none =>
    cases hacc : accepts st m with
    | none => exact .skip (by simp [stageStep, hs, hacc])
    | some q =>
      obtain ⟨msg, sg, c, own⟩ := q
      obtain ⟨hm, _, _, hix, hc, ho⟩ := accepts_spec hacc
      obtain rfl : own = (msg.index, c) := Prod.ext hix.symm hc.symm
      -- an `own` that was set is the accepted message's
      have hold : ∀ o, st.own = some o → o = (msg.index, c) := fun o h => by
        rcases ho with h1 | ⟨h1, _⟩ <;> rw [h] at h1
        · exact Option.some.inj h1
        · cases h1
      rw [stageStep_accepted C t a hs hacc]
      cases hv : verdict C t a c (st.shares ++ [sg]) with
      | report sig =>
        obtain ⟨_, _, hver, hlen⟩ := verdict_report_iff.1 hv
        exact .report hs hm hold rfl hver hlen rfl rfl
      | _ => exact .collect hs rfl fun o h => hold o h ▸ rfl

/-! ### safety invariants of the stage -/

/-- at most one report; none while running; every report verified under the stage's own content -/
structure Safe (C : Crypto) (a : Nat) (st : StageSt) : Prop where
  outLe : st.out.length ≤ 1
  running : st.stop = none → st.out = []
  reports : ∀ r ∈ st.out, ∃ c, st.own = some (r.index, c) ∧ C.verify c r.sig = true ∧
      a ≤ c.length ∧ r.result = c.take (c.length - a)

theorem safe_init (C : Crypto) (a : Nat) : Safe C a StageSt.init :=
  ⟨by simp [StageSt.init], fun _ => rfl, by simp [StageSt.init]⟩

theorem safe_step (C : Crypto) (t a : Nat) (st : StageSt) (m : Option Msg) (h : Safe C a st) :
    Safe C a (stageStep C t a st m) := by
  cases stageStep_move C t a st m with
  | skip e => rw [e]; exact h
  | collect hs hout _ =>
    have := h.running hs
    exact ⟨by simp [hout, this], fun _ => by rw [hout, this], by simp [hout, this]⟩
  | report hs _ _ hown hv ha hstop hout =>
    rw [h.running hs, List.nil_append] at hout
    refine ⟨by simp [hout], fun hh => by simp [hstop] at hh, fun r hr => ?_⟩
    rw [hout, List.mem_singleton] at hr
    subst hr
    exact ⟨_, hown, hv, ha, rfl⟩

theorem safe_fold (C : Crypto) (t a : Nat) (ms : List (Option Msg)) :
    ∀ st, Safe C a st → Safe C a (ms.foldl (stageStep C t a) st) :=
  fun _ h => List.foldlRecOn ms _ h (fun b hb m _ => safe_step C t a b m hb)

theorem safe_stage (C : Crypto) (t a : Nat) (ms : List (Option Msg)) : Safe C a (recoverStage C t a ms) :=
  safe_fold C t a ms _ (safe_init C a)

theorem own_step (C : Crypto) (t a : Nat) (st : StageSt) (m : Option Msg) (o : Nat × Bytes)
    (h : st.own = some o) : (stageStep C t a st m).own = some o := by
  cases stageStep_move C t a st m with
  | skip e => rw [e]; exact h
  | collect _ _ hown => exact hown o h
  | report _ _ hold hown => rw [hown, hold o h]

theorem own_fold (C : Crypto) (t a : Nat) (ms : List (Option Msg)) (o : Nat × Bytes) :
    ∀ st, st.own = some o → (ms.foldl (stageStep C t a) st).own = some o :=
  fun _ h => List.foldlRecOn (motive := fun s => s.own = some o) ms _ h
    (fun b hb m _ => own_step C t a b m o hb)

/-- the RequestId of a report is the RequestId of one of the processed messages -/
theorem rid_step (C : Crypto) (t a : Nat) (st : StageSt) (m : Option Msg) :
    ∀ r ∈ (stageStep C t a st m).out, r ∈ st.out ∨ ∃ msg, m = some msg ∧ r.rid = msg.rid := by
  intro r hr
  cases stageStep_move C t a st m with
  | skip e => exact Or.inl (e ▸ hr)
  | collect _ hout _ => exact Or.inl (hout ▸ hr)
  | report _ hm _ _ _ _ _ hout =>
    rcases List.mem_append.1 (hout ▸ hr) with hr | hr
    · exact Or.inl hr
    · exact Or.inr ⟨_, hm, by rw [List.mem_singleton.1 hr]⟩

theorem rid_fold (C : Crypto) (t a : Nat) (ms : List (Option Msg)) :
    ∀ st, ∀ r ∈ (ms.foldl (stageStep C t a) st).out,
      r ∈ st.out ∨ ∃ msg, some msg ∈ ms ∧ r.rid = msg.rid :=
  fun st => List.foldlRecOn (motive := fun s => ∀ r ∈ s.out, r ∈ st.out ∨ ∃ msg, some msg ∈ ms ∧ r.rid = msg.rid)
    ms _ (fun _ hr => Or.inl hr) (fun b hb m hm r hr =>
      (rid_step C t a b m r hr).elim (hb r) (fun ⟨msg, he, hrid⟩ => Or.inr ⟨msg, he ▸ hm, hrid⟩))

theorem first_own (C : Crypto) (t a : Nat) (ix : Nat) (rid c sg : Bytes) :
    (stageStep C t a StageSt.init (some { index := ix, rid := rid, content := some c, sig := some sg })).own
      = some (ix, c) := by
  rw [stageStep_accepted C t a rfl (accepts_init ix rid c sg)]
  split <;> rfl

theorem stage_own (C : Crypto) (t a ix : Nat) (rid c sg : Bytes) (fc : List (Option Msg)) :
    (recoverStage C t a (some ⟨ix, rid, some c, some sg⟩ :: fc)).own = some (ix, c) :=
  own_fold C t a fc (ix, c) _ (first_own C t a ix rid c sg)

/-! ### liveness of the stage under the C02 / C03 contracts -/

/-- `l` holds valid shares on `c` of at least `t` distinct members -/
def Enough (Valid : Nat → Bytes → Bytes → Prop) (c : Bytes) (t : Nat) (l : List Bytes) : Prop :=
  ∃ gs : List (Nat × Bytes), (gs.map (·.1)).Nodup ∧ t ≤ gs.length ∧ ∀ p ∈ gs, Valid p.1 c p.2 ∧ p.2 ∈ l

theorem enough_of_mem_iff {Valid : Nat → Bytes → Bytes → Prop} {c : Bytes} {t : Nat} {l l' : List Bytes}
    (h : ∀ x, x ∈ l ↔ x ∈ l') (e : Enough Valid c t l) : Enough Valid c t l' := by
  obtain ⟨gs, h1, h2, h3⟩ := e
  exact ⟨gs, h1, h2, fun p hp => ⟨(h3 p hp).1, (h _).mp (h3 p hp).2⟩⟩

/-- the running-state invariant used for liveness; `done` = messages processed so far.  While the stage runs,
every share on its own content that was processed is in `shares`, and `shares` is NOT yet both enough
(valid shares of `t` distinct members, what `recover` needs) and `t` long (what `verdict` tests before it calls
`recover`: a count of byte strings, duplicates included) – else the last step would have reported. -/
structure Live (Valid : Nat → Bytes → Bytes → Prop) (ix : Nat) (c0 : Bytes) (t : Nat)
    (done : List (Option Msg)) (st : StageSt) : Prop where
  noPanic : st.stop ≠ some .panicRecover
  reported : st.stop = some .reported → st.out.length = 1
  running : st.stop = none → st.out = [] ∧ st.own = some (ix, c0) ∧
    (∀ rid sg, some ({ index := ix, rid := rid, content := some c0, sig := some sg } : Msg) ∈ done → sg ∈ st.shares) ∧
    ¬ (Enough Valid c0 t st.shares ∧ t ≤ st.shares.length)

/-- an accepted share on the stage's own content keeps the invariant, provided every share that must have
been collected by then is in the new share list – `hmem` speaks of every list with the MEMBERS of
`shares ++ [sg]`, because a waiting step keeps that list and a failing one keeps its compaction `uniqCompact` -/
theorem live_accept {Valid : Nat → Bytes → Bytes → Prop} (C : Crypto) (t a ix : Nat) (c0 : Bytes)
    (ha : a ≤ c0.length)
    (hrec : ∀ l, Enough Valid c0 t l → ∃ sig, C.recover c0 l = .ok sig ∧ C.verify c0 sig = true)
    (htot : ∀ l, C.recover c0 l ≠ .panic)
    (done : List (Option Msg)) {st : StageSt} {m : Option Msg} {msg : Msg} {sg : Bytes}
    (hstop : st.stop = none) (hout : st.out = []) (hacc : accepts st m = some (msg, sg, c0, (ix, c0)))
    (hmem : ∀ l : List Bytes, (∀ x, x ∈ l ↔ x ∈ st.shares ++ [sg]) → ∀ rid sg',
      some ({ index := ix, rid := rid, content := some c0, sig := some sg' } : Msg) ∈ done → sg' ∈ l) :
    Live Valid ix c0 t done (stageStep C t a st m) := by
  rw [stageStep_accepted C t a hstop hacc]
  split
  · rename_i hv
    exact ⟨by simp [hstop], fun hh => (by rw [hstop] at hh; cases hh),
      fun _ => ⟨hout, rfl, hmem _ (fun _ => Iff.rfl), fun hh => verdict_wait hv hh.2⟩⟩
  · -- fail: not enough valid shares yet (else recovery would have succeeded)
    rename_i hv
    refine ⟨by simp [hstop], fun hh => (by rw [hstop] at hh; cases hh),
      fun _ => ⟨hout, rfl, hmem _ (fun x => mem_uniqCompact x _), ?_⟩⟩
    rintro ⟨hen, hlen⟩
    rw [uniqCompact_length] at hlen
    obtain ⟨sig, h1, h2⟩ := hrec _ (enough_of_mem_iff (fun x => mem_uniqCompact x (st.shares ++ [sg])) hen)
    rw [verdict_report_iff.2 ⟨hlen, h1, h2, ha⟩] at hv
    cases hv
  · -- panic: excluded by the contract
    rename_i hv
    exact absurd (verdict_panic hv) (htot _)
  · exact ⟨by simp, fun _ => by simp [hout], fun hh => by simp at hh⟩

theorem live_step {Valid : Nat → Bytes → Bytes → Prop} (C : Crypto) (t a ix : Nat) (c0 : Bytes)
    (ha : a ≤ c0.length)
    (hrec : ∀ l, Enough Valid c0 t l → ∃ sig, C.recover c0 l = .ok sig ∧ C.verify c0 sig = true)
    (htot : ∀ l, C.recover c0 l ≠ .panic)
    (done : List (Option Msg)) (st : StageSt) (m : Option Msg)
    (h : Live Valid ix c0 t done st) : Live Valid ix c0 t (done ++ [m]) (stageStep C t a st m) := by
  cases hstop : st.stop with
  | some x =>
    rw [stageStep_stopped C t a st m x hstop]
    exact ⟨h.noPanic, h.reported, fun hh => by rw [hstop] at hh; cases hh⟩
  | none =>
    obtain ⟨hout, hown, hmem, hnot⟩ := h.running hstop
    cases hacc : accepts st m with
    | none =>
      -- skipped: then it is not one of the messages that must be collected
      have : stageStep C t a st m = st := by simp [stageStep, hstop, hacc]
      rw [this]
      refine ⟨h.noPanic, h.reported, fun _ => ⟨hout, hown, fun rid sg hin => ?_, hnot⟩⟩
      rcases List.mem_append.1 hin with hin | hin
      · exact hmem rid sg hin
      · rw [← List.mem_singleton.1 hin, accepts_of_match hown rid sg] at hacc
        cases hacc
    | some q =>
      obtain ⟨msg, sg, c, own⟩ := q
      obtain ⟨hm, hsig, _, _, hc, hown'⟩ := accepts_spec hacc
      have hown2 : own = (ix, c0) := by
        rcases hown' with h1 | ⟨h1, _⟩ <;> rw [hown] at h1
        · exact (Option.some.inj h1).symm
        · cases h1
      subst hown2
      have hc0 : c = c0 := hc
      subst hc0
      refine live_accept C t a ix c ha hrec htot _ hstop hout hacc fun l hl rid sg' hin => ?_
      rw [hl, List.mem_append]
      rcases List.mem_append.1 hin with hin | hin
      · exact Or.inl (hmem rid sg' hin)
      · rw [List.mem_singleton, hm] at hin
        have : msg.sig = some sg' := by rw [← Option.some.inj hin]
        rw [hsig] at this
        simp [Option.some.inj this]

theorem live_fold {Valid : Nat → Bytes → Bytes → Prop} (C : Crypto) (t a ix : Nat) (c0 : Bytes)
    (ha : a ≤ c0.length)
    (hrec : ∀ l, Enough Valid c0 t l → ∃ sig, C.recover c0 l = .ok sig ∧ C.verify c0 sig = true)
    (htot : ∀ l, C.recover c0 l ≠ .panic) (ms : List (Option Msg)) :
    ∀ (done : List (Option Msg)) (st : StageSt), Live Valid ix c0 t done st →
      Live Valid ix c0 t (done ++ ms) (ms.foldl (stageStep C t a) st) := by
  induction ms with
  | nil => intro done st h; simpa using h
  | cons m ms ih =>
    intro done st h
    have := ih (done ++ [m]) _ (live_step C t a ix c0 ha hrec htot done st m h)
    simpa [List.append_assoc] using this

theorem live_first {Valid : Nat → Bytes → Bytes → Prop} (C : Crypto) (t a ix : Nat) (c0 rid0 s0 : Bytes)
    (ha : a ≤ c0.length)
    (hrec : ∀ l, Enough Valid c0 t l → ∃ sig, C.recover c0 l = .ok sig ∧ C.verify c0 sig = true)
    (htot : ∀ l, C.recover c0 l ≠ .panic) :
    Live Valid ix c0 t [some { index := ix, rid := rid0, content := some c0, sig := some s0 }]
      (stageStep C t a StageSt.init (some { index := ix, rid := rid0, content := some c0, sig := some s0 })) := by
  refine live_accept C t a ix c0 ha hrec htot _ rfl rfl (accepts_init ix rid0 c0 s0) fun l hl rid sg hin => ?_
  simp only [List.mem_singleton, Option.some.injEq, Msg.mk.injEq] at hin
  rw [hl]; simp [hin.2.2.2]

/-- **the stage reports**: its own share first, and among what follows well-formed messages with valid
shares on `c0` of at least `t` distinct members (distinct byte strings) – then, whatever else arrives,
the stage ends having reported exactly once -/
theorem stage_reports {Valid : Nat → Bytes → Bytes → Prop} (C : Crypto) (t a ix : Nat) (c0 rid0 s0 : Bytes)
    (ha : a ≤ c0.length)
    (hrec : ∀ l, Enough Valid c0 t l → ∃ sig, C.recover c0 l = .ok sig ∧ C.verify c0 sig = true)
    (htot : ∀ l, C.recover c0 l ≠ .panic) (fc : List (Option Msg))
    (gs : List (Nat × Bytes)) (hidx : (gs.map (·.1)).Nodup) (hbytes : (gs.map (·.2)).Nodup)
    (ht : t ≤ gs.length)
    (hgood : ∀ q ∈ gs, Valid q.1 c0 q.2 ∧ ∃ rid, some (⟨ix, rid, some c0, some q.2⟩ : Msg) ∈
        some ⟨ix, rid0, some c0, some s0⟩ :: fc) :
    (recoverStage C t a (some ⟨ix, rid0, some c0, some s0⟩ :: fc)).stop = some .reported ∧
    (recoverStage C t a (some ⟨ix, rid0, some c0, some s0⟩ :: fc)).out.length = 1 := by
  have hlive : Live Valid ix c0 t _ (recoverStage C t a (some ⟨ix, rid0, some c0, some s0⟩ :: fc)) :=
    live_fold C t a ix c0 ha hrec htot fc [_] _ (live_first C t a ix c0 rid0 s0 ha hrec htot)
  generalize recoverStage C t a (some ⟨ix, rid0, some c0, some s0⟩ :: fc) = S at hlive ⊢
  suffices h : S.stop = some .reported from ⟨h, hlive.reported h⟩
  cases hstop : S.stop with
  | some s =>
    cases s with
    | reported => rfl
    | panicRecover => exact absurd hstop hlive.noPanic
  | none =>
    -- still running: all good shares are in, distinct, so there are `t` of them and they are enough
    obtain ⟨_, _, hmem, hnot⟩ := hlive.running hstop
    have hall : ∀ q ∈ gs, q.2 ∈ S.shares := fun q hq =>
      let ⟨_, rid, hin⟩ := hgood q hq
      hmem rid q.2 hin
    refine absurd ⟨⟨gs, hidx, ht, fun q hq => ⟨(hgood q hq).1, hall q hq⟩⟩, ?_⟩ hnot
    have := (List.subperm_of_subset hbytes (fun x hx => by
      obtain ⟨q, hq, rfl⟩ := List.mem_map.1 hx
      exact hall q hq)).length_le
    rw [List.length_map] at this
    exact ht.trans this

/-! ### the content as a function of the request; what the collector delivers -/

/-- the result part of the signed content – what the request's kind prescribes – before the submitter
address is appended -/
def resultFor (padSize : Nat) (r : Request) : Option Bytes :=
  match r.kind with
  | .sys => some (Dos.natBE padSize r.last)
  | .user => some (Dos.natBytes r.rid ++ Dos.natBytes r.last ++ Dos.natBytes r.seed)
  | .url => r.parsed

/-- every content stage appends the submitter address to the result -/
theorem contentFor_eq (padSize : Nat) (r : Request) (addr : Bytes) :
    contentFor padSize r addr = (resultFor padSize r).map (· ++ addr) := by
  unfold contentFor resultFor
  cases r.kind with
  | sys => simp only [Content.sysContent_eq, Option.map_some]
  | user => simp [Content.userContent, Content.userContentRaw]
  | url => rfl

theorem contentFor_shape {padSize : Nat} {r : Request} {addr c : Bytes}
    (h : contentFor padSize r addr = some c) : ∃ d, c = d ++ addr := by
  rw [contentFor_eq] at h
  obtain ⟨d, _, rfl⟩ := Option.map_eq_some_iff.1 h
  exact ⟨d, rfl⟩

theorem arrivalsFor_of_mem {r : Collector.Rid} {s : Collector.Share} :
    ∀ es : List Collector.Ev, Collector.Ev.arrive s ∈ es → s.rid = r → s ∈ Collector.arrivalsFor r es :=
  fun _ h hr => Collector.mem_arrivalsFor.2 ⟨h, hr⟩

/-- what the collector hands to instance `h` arrived as a peer message under a request id `h` registered for -/
theorem delivered_origin (es : List Collector.Ev) (h : Nat) (s : Collector.Share)
    (hs : s ∈ Collector.deliveries es h) :
    Collector.Ev.arrive s ∈ es ∧ Collector.Ev.register h s.rid ∈ es := by
  simp only [Collector.deliveries, List.mem_map, List.mem_filter, beq_iff_eq] at hs
  obtain ⟨⟨h0, s0⟩, ⟨hp, rfl⟩, rfl⟩ := hs
  have hsub := (List.sublist_append_left _ _).trans (Collector.run_sublist s0.rid es _ Collector.good_init)
  exact ⟨(Collector.mem_arrivalsFor.1 (hsub.subset
      (List.mem_filter.2 ⟨List.mem_map.2 ⟨_, hp, rfl⟩, by simp⟩))).1,
    (Collector.run_out_mem es _ Collector.good_init _ hp).2.resolve_left (by simp [Collector.init])⟩

/-! ### the two kinds of run of `handleQuery` -/

/-- the selected submitter with its content computed registers and runs the recovery stage on its own
share followed by what the collector delivers -/
theorem handleQuery_submitter {C : Crypto} {p a : Nat} {mb : Member} {r : Request} {c : Bytes}
    (hs : Content.submitter mb.ids r.last = some mb.me) (hc : contentFor p r mb.me = some c)
    (fc : List (Option Msg)) :
    handleQuery C p a mb r fc =
      { sent := [], registered := true,
        reports := (recoverStage C (Content.threshold mb.ids.length) a
          (some ⟨r.kind.ptype, r.ridBytes, some c, some (mb.signOwn c)⟩ :: fc)).out.take 1,
        stop := if (recoverStage C (Content.threshold mb.ids.length) a
          (some ⟨r.kind.ptype, r.ridBytes, some c, some (mb.signOwn c)⟩ :: fc)).stop = some .panicRecover
          then .panicRecover else .none } := by
  simp [handleQuery, hs, hc]

theorem handleQuery_cases (C : Crypto) (p a : Nat) (mb : Member) (r : Request) :
    (∀ fc, (handleQuery C p a mb r fc).reports = [] ∧ (handleQuery C p a mb r fc).registered = false) ∨
    ∃ c, Content.submitter mb.ids r.last = some mb.me ∧ contentFor p r mb.me = some c := by
  unfold handleQuery
  cases hs : Content.submitter mb.ids r.last with
  | none => exact Or.inl fun _ => ⟨rfl, rfl⟩
  | some sub =>
    by_cases hme : mb.me = sub
    · subst hme
      cases hc : contentFor p r mb.me with
      | none => exact Or.inl fun _ => by simp [hc]
      | some c => exact Or.inr ⟨c, rfl, rfl⟩
    · exact Or.inl fun _ => by simp [hme]

/-- whoever reports is the selected submitter, computed a content `c0` itself, and reports `c0` minus its
last `a` bytes with a signature that verifies on `c0`, under the request's own type -/
theorem report_of_content {C : Crypto} {p a : Nat} {mb : Member} {r : Request} {fc : List (Option Msg)}
    {rep : Report} (hrep : rep ∈ (handleQuery C p a mb r fc).reports) :
    Content.submitter mb.ids r.last = some mb.me ∧ ∃ c0, contentFor p r mb.me = some c0 ∧
      C.verify c0 rep.sig = true ∧ a ≤ c0.length ∧ rep.result = c0.take (c0.length - a) ∧
      rep.index = r.kind.ptype := by
  rcases handleQuery_cases C p a mb r with h0 | ⟨c0, hs, hc0⟩
  · rw [(h0 fc).1] at hrep; cases hrep
  · rw [handleQuery_submitter hs hc0] at hrep
    -- the stage verified the report under its own content, fixed by its own share: `c0`
    obtain ⟨c, hc, hver, hal, hres⟩ := (safe_stage C _ a _).reports rep (List.mem_of_mem_take hrep)
    rw [stage_own, Option.some.injEq, Prod.mk.injEq] at hc
    obtain ⟨hix, rfl⟩ := hc
    exact ⟨hs, c0, hc0, hver, hal, hres, hix.symm⟩

/-- … in terms of the request: what is reported is the result its kind prescribes, and the signature
verifies on that result followed by the reporter's own address -/
theorem report_result {C : Crypto} {p a : Nat} {mb : Member} {r : Request} {fc : List (Option Msg)}
    {rep : Report} (hlen : mb.me.length = a) (hrep : rep ∈ (handleQuery C p a mb r fc).reports) :
    Content.submitter mb.ids r.last = some mb.me ∧ resultFor p r = some rep.result ∧
      C.verify (rep.result ++ mb.me) rep.sig = true ∧ rep.index = r.kind.ptype := by
  obtain ⟨hs, c0, hc0, hver, _, hres, hix⟩ := report_of_content hrep
  rw [contentFor_eq] at hc0
  obtain ⟨d, hd, rfl⟩ := Option.map_eq_some_iff.1 hc0
  have : rep.result = d := by rw [hres]; simp [hlen]
  subst this
  exact ⟨hs, hd, hver, hix⟩

/-- a member that is not the submitter never reports, registers nothing, and hands exactly one
message to `p.Request`, addressed to the submitter: its own share, or nothing (`none`) when its
content stage failed -/
theorem nonsubmitter_out (C : Crypto) (p a : Nat) (mb : Member) (r : Request) (fc : List (Option Msg))
    (sub : Bytes) (hs : Content.submitter mb.ids r.last = some sub) (hne : mb.me ≠ sub) :
    (handleQuery C p a mb r fc).reports = [] ∧ (handleQuery C p a mb r fc).registered = false ∧
    (handleQuery C p a mb r fc).sent = [(sub, (contentFor p r sub).map (fun c =>
      { index := r.kind.ptype, rid := r.ridBytes, content := some c, sig := some (mb.signOwn c) }))] := by
  unfold handleQuery
  simp [hs, hne]

/-- since /repo 7f58072: a member whose content stage produced nothing reports nothing and does not
register for the peers' shares – whatever the peers send (only the selected submitter's own content matters:
nobody else registers or reports anyway) -/
theorem silent_without_content (C : Crypto) (p a : Nat) (mb : Member) (r : Request) (fc : List (Option Msg))
    (h0 : Content.submitter mb.ids r.last = some mb.me → contentFor p r mb.me = none) :
    (handleQuery C p a mb r fc).reports = [] ∧ (handleQuery C p a mb r fc).registered = false := by
  rcases handleQuery_cases C p a mb r with h | ⟨c, hs, hc⟩
  · exact h fc
  · rw [h0 hs] at hc; cases hc

theorem reporter_is_submitter (C : Crypto) (p a : Nat) (mb : Member) (r : Request) (fc : List (Option Msg))
    (rep : Report) (hrep : rep ∈ (handleQuery C p a mb r fc).reports) :
    Content.submitter mb.ids r.last = some mb.me ∧ ∃ c0, contentFor p r mb.me = some c0 := by
  obtain ⟨hs, c0, hc0, _⟩ := report_of_content hrep
  exact ⟨hs, c0, hc0⟩

/-- for system randomness – any pad size, any address length – the verified string is the padded last
randomness followed by the reporter's id -/
theorem report_sys {C : Crypto} {p a : Nat} {mb : Member} {r : Request} {fc : List (Option Msg)}
    {rep : Report} (hk : r.kind = .sys) (hlen : mb.me.length = a)
    (hrep : rep ∈ (handleQuery C p a mb r fc).reports) :
    C.verify (Dos.natBE p r.last ++ mb.me) rep.sig = true := by
  obtain ⟨_, hd, hver, _⟩ := report_result hlen hrep
  simp only [resultFor, hk, Option.some.injEq] at hd
  rw [hd]; exact hver

/-! ### the group seen from outside (liveness at group level) -/

/-- one request at a whole group: `honest` members run `handleQuery`, the others are Byzantine (silent
or arbitrary); what reaches each honest member's stage is `fcOf` – up to the network and the adversary. -/
structure GroupRun where
  C : Crypto
  p : Nat
  a : Nat
  ids : List Bytes
  r : Request
  signOf : Nat → Bytes → Bytes
  honest : List Nat
  fcOf : Nat → List (Option Msg)

def GroupRun.member (g : GroupRun) (i : Nat) : Member :=
  { ids := g.ids, me := g.ids.getD i [], signOwn := g.signOf i }

def GroupRun.out (g : GroupRun) (i : Nat) : NodeOut :=
  handleQuery g.C g.p g.a (g.member i) g.r (g.fcOf i)

/-- the premise of the property's liveness clause: at least a threshold of members are honest, hold
valid key shares (distinct signatures), every member can compute the request's content, the C02/C03
contracts hold, and every honest member CAN REACH THE SELECTED SUBMITTER: if that member is honest,
whatever an honest member sends to it is among the messages that reach its stage. -/
structure LivePremise (Valid : Nat → Bytes → Bytes → Prop) (g : GroupRun) : Prop where
  nodup : g.honest.Nodup
  inGroup : ∀ i ∈ g.honest, i < g.ids.length
  enough : Content.threshold g.ids.length ≤ g.honest.length
  idsNodup : g.ids.Nodup
  idsLen : ∀ id ∈ g.ids, id.length = g.a
  hrec : ∀ c l, Enough Valid c (Content.threshold g.ids.length) l →
    ∃ sig, g.C.recover c l = .ok sig ∧ g.C.verify c sig = true
  htot : ∀ c l, g.C.recover c l ≠ .panic
  content : ∀ addr, (contentFor g.p g.r addr).isSome = true
  valid : ∀ i ∈ g.honest, ∀ c, Valid i c (g.signOf i c)
  distinct : ∀ i ∈ g.honest, ∀ j ∈ g.honest, ∀ c, g.signOf i c = g.signOf j c → i = j
  reach : ∀ s, Content.submitterIdx g.r.last g.ids.length = some s → s ∈ g.honest →
    ∀ j ∈ g.honest, j ≠ s → ∀ m, (g.out j).sent = [(g.ids.getD s [], some m)] → some m ∈ g.fcOf s

/-- the group of three of Props/C01.lean with member 1 – the selected submitter for
`lastRand = 7` – SILENT: members 0 and 2 are honest (t = 2), hold valid shares, reach everybody; the
crypto is the most permissive one (everything recovers and verifies), so every contract holds. -/
def silentSub : GroupRun :=
  { C := { recover := fun _ _ => .ok [1], verify := fun _ _ => true }, p := 32, a := 20,
    ids := [List.replicate 20 0xA1, List.replicate 20 0xB2, List.replicate 20 0xC3],
    r := { kind := .sys, rid := 7, last := 7, seed := 0, parsed := none },
    signOf := fun i _ => [UInt8.ofNat i], honest := [0, 2], fcOf := fun _ => [] }


/-! ### the stage wiring of `handleQuery` as data (regenerated: `Gen.QueryLoopFacts.handleQueryWiring`) -/

/-- one stage call: (switch case label or "", callee, results, arguments) -/
abbrev Wire := String × String × List String × List String

/-- the stage calls that take channel `c` as an argument -/
def consumers (ws : List Wire) (c : String) : List Wire := ws.filter (fun w => w.2.2.2.contains c)

/-- follow the data from channel `c`: the callees that consume it, then the first result of (the first
of) them, and so on – the pipeline order DERIVED from which call reads which call's result -/
def pipelineFrom (ws : List Wire) : Nat → String → List (List String)
  | 0, _ => []
  | fuel + 1, c =>
    match consumers ws c with
    | [] => []
    | w :: rest =>
      ((w :: rest).map (·.2.1)) ::
        (match w.2.2.1 with
         | o :: _ => pipelineFrom ws fuel o
         | [] => [])

/-! ### the deadline: a stage that has returned is frozen -/

theorem fold_stopped (C : Crypto) (t a : Nat) (ms : List (Option Msg)) : ∀ (st : StageSt) (x : Stop),
    st.stop = some x → ms.foldl (stageStep C t a) st = st :=
  fun st x h => List.foldlRecOn (motive := (· = st)) ms _ rfl
    (fun _ hb m _ => hb ▸ stageStep_stopped C t a st m x h)

/-- cutting the input of the stage (the deadline fires, the collector stops delivering) can only SUPPRESS
the report: if the stage emitted on the prefix, the whole run is that very state -/
theorem stage_prefix (C : Crypto) (t a : Nat) (ms₁ ms₂ : List (Option Msg))
    (h : (recoverStage C t a ms₁).out ≠ []) :
    recoverStage C t a (ms₁ ++ ms₂) = recoverStage C t a ms₁ := by
  have hs := safe_stage C t a ms₁
  unfold recoverStage at *
  rw [List.foldl_append]
  cases hstop : (ms₁.foldl (stageStep C t a) StageSt.init).stop with
  | none => exact absurd (hs.running hstop) h
  | some x => exact fold_stopped C t a ms₂ _ x hstop

end Dos.Query
