/-
C14: soundness of the rules of `Model/PipeStay.lean`.

* `not_gone`     : a goroutine passing `stayOkM` for (`c`, `k`) has, in every reachable state, returned
                   only if `c` is closed or context `k` is done.
* `drain_takes`  : while such a goroutine is in its drain phase (`drainOkM`) on the unbuffered `c`, a
                   weakly fair sender standing at a send on `c` moves (or `c` gets closed / the
                   context ends): it is never left waiting for a receiver that is gone.
-/
import DosModel.Proofs.PipeFair4
import DosModel.Proofs.PipeFairDemo
import DosModel.Model.PipeStay

namespace Dos.Pipe
variable {p : Pipeline}

theorem leaves_guard {s : State} {c : Ch} {k : Nat} {l : Lab} (hl : Lab.leaves c k l = true)
    (hg : guard p s l = true) : s.closed c = true ∨ s.ctxDone k = true := by
  simp only [Lab.leaves, Bool.or_eq_true, beq_iff_eq] at hl
  rcases hl with rfl | rfl
  · left
    simp only [guard, Bool.and_eq_true] at hg
    exact hg.1
  · right
    simpa [guard] using hg

theorem not_leaves_send (c : Ch) (k : Nat) (c' : Ch) : Lab.leaves c k (.send c') = false := by
  simp [Lab.leaves]

theorem not_leaves_recvOk (c : Ch) (k : Nat) (c' : Ch) : Lab.leaves c k (.recvOk c') = false := by
  simp [Lab.leaves]

/-- no exit node carries the labeling, and it is closed under the edges other than `recvCl c` / `ctx k` -/
def Phase (gr : Goroutine) (c : Ch) (k : Nat) (m : List Bool) : Prop :=
  ∀ pc nd, gr.nodes[pc]? = some nd → mark m pc = true →
      nd ≠ .exit ∧ ∀ e ∈ nd.edges, e.1.leaves c k = true ∨ mark m e.2 = true

/-- a step from a node of such a labeling leads to a node of the labeling, unless `c` is closed or
    context `k` done -/
theorem phase_step {g : Gi} {gr : Goroutine} {c : Ch} {k : Nat} {m : List Bool} (hg : p.gs[g]? = some gr)
    (hphase : Phase gr c k m)
    {s s' : State} {e : Ev} (hst : Step p s e (.run s')) {pc : Pc} (hat : s.gs[g]? = some (.at pc))
    (hm : mark m pc = true) :
    (∃ pc', s'.gs[g]? = some (.at pc') ∧ mark m pc' = true) ∨ s.closed c = true ∨ s.ctxDone k = true := by
  cases step_moves hst g with
  | stays _ hsame => exact Or.inl ⟨pc, by rw [hsame]; exact hat, hm⟩
  | edge pc' nd l n hat' hnd hed hat2 ht =>
    rw [hat] at hat'; cases hat'
    rcases (hphase pc nd (node_of_gs hg hnd) hm).2 (l, n) hed with hl | hmn
    · -- a leaving edge is not taken in a rendezvous, so its guard holds
      cases ht with
      | act hgd => exact Or.inr (leaves_guard hl hgd)
      | send => rw [not_leaves_send] at hl; cases hl
      | recv => rw [not_leaves_recvOk] at hl; cases hl
    · exact Or.inl ⟨n, hat2, hmn⟩
  | spawned _ hi => rw [hat] at hi; cases hi
  | exits pc' _ hat' hnd =>
    rw [hat] at hat'; cases hat'
    exact absurd rfl (hphase pc _ (node_of_gs hg hnd) hm).1

theorem phase_of_stayOk {gr : Goroutine} {c : Ch} {k : Nat} {m : List Bool} (hok : stayOkM gr c k m = true) :
    mark m 0 = true ∧ Phase gr c k m := by
  unfold stayOkM at hok
  rw [Bool.and_eq_true] at hok
  refine ⟨hok.1, fun pc nd hn hm => ?_⟩
  have hx := zipIdx_all hok.2 hn
  simp only [hm, Bool.not_true, Bool.false_or, Bool.and_eq_true, List.all_eq_true,
    Bool.or_eq_true, Bool.not_eq_true'] at hx
  exact ⟨fun h => (by rw [h] at hx; cases hx.1), hx.2⟩

/-- a goroutine that passes the rule has, in a reachable state, returned only if `c` is closed or
    context `k` is done (inside the proof, `at_inv`: it stands at a node of the labeling unless so) -/
theorem not_gone {g : Gi} {gr : Goroutine} {c : Ch} {k : Nat} {m : List Bool}
    (hg : p.gs[g]? = some gr) (hok : stayOkM gr c k m = true) {s : State} (hr : Reach p s)
    (hd : s.gs[g]? = some .done) : s.closed c = true ∨ s.ctxDone k = true := by
  obtain ⟨h0, hphase⟩ := phase_of_stayOk hok
  have hmono : ∀ s e s', Step p s e (.run s') → s.closed c = true ∨ s.ctxDone k = true →
      s'.closed c = true ∨ s'.ctxDone k = true :=
    fun s e s' hst h => h.imp (closed_mono hst) (ctxDone_mono hst k)
  refine (at_inv hg (J := fun pc s => mark m pc = true ∨ s.closed c = true ∨ s.ctxDone k = true)
    (D := fun s => s.closed c = true ∨ s.ctxDone k = true) (fun _ => Or.inl h0)
    (fun pc s e s' hst hJ => hJ.imp id (hmono s e s' hst)) ?_ ?_ hmono s hr).2 hd
  · intro s e s' pc nd l n _ hst hat _ _ hat2 _ hJ
    rcases hJ with hm | h
    · rcases phase_step hg hphase hst hat hm with ⟨pc', hat', hm'⟩ | h
      · rw [hat2] at hat'; cases hat'; exact Or.inl hm'
      · exact Or.inr (hmono s e s' hst h)
    · exact Or.inr (hmono s e s' hst h)
  · intro s e s' pc hst hn hJ
    rcases hJ with hm | h
    · exact absurd rfl (hphase pc _ hn hm).1
    · exact hmono s e s' hst h

theorem mark_lt {m : List Bool} {i : Nat} (h : mark m i = true) : i < m.length := by
  unfold mark at h
  cases hh : m[i]? with
  | none => rw [hh] at h; cases h
  | some b => exact (List.getElem?_eq_some_iff.mp hh).1

/-- one step of the run keeps the goroutine inside its drain phase unless `c` is closed or the
    context is done at that position -/
theorem drain_step {g : Gi} {gr : Goroutine} {c : Ch} {k : Nat} {m : List Bool}
    (hg : p.gs[g]? = some gr) (hok : drainOkM gr c k m = true) {s s' : State} {e : Ev}
    (hst : Step p s e (.run s')) {pc : Pc} (hat : s.gs[g]? = some (.at pc)) (hm : mark m pc = true)
    (hcl : s.closed c = false) (hcx : s.ctxDone k = false) :
    ∃ pc', s'.gs[g]? = some (.at pc') ∧ mark m pc' = true := by
  have hphase : Phase gr c k m := by
    intro pc nd hn hm
    have hx := zipIdx_all (by unfold drainOkM at hok; exact hok) hn
    simp only [hm, Bool.not_true, Bool.false_or, Bool.and_eq_true, List.all_eq_true,
      Bool.or_eq_true, List.any_eq_true] at hx
    refine ⟨fun h => ?_, hx.2⟩
    obtain ⟨e', he', _⟩ := hx.1
    simp [h, Node.edges] at he'
  rcases phase_step hg hphase hst hat hm with h | h | h
  · exact h
  · rw [hcl] at h; cases h
  · rw [hcx] at h; cases h

/-- along a run the goroutine stays in its drain phase as long as `c` is open and the context live -/
theorem drain_phase_stays {g : Gi} {gr : Goroutine} {c : Ch} {k : Nat} {m : List Bool}
    (hg : p.gs[g]? = some gr) (hok : drainOkM gr c k m = true) (r : Run p) {T : Nat} {pc : Pc}
    (hat : (r.st T).gs[g]? = some (.at pc)) (hm : mark m pc = true) :
    ∀ d, (∀ j, T ≤ j → j < T + d → (r.st j).closed c = false ∧ (r.st j).ctxDone k = false) →
      ∃ pc', (r.st (T + d)).gs[g]? = some (.at pc') ∧ mark m pc' = true := by
  intro d
  induction d with
  | zero => intro _; exact ⟨pc, hat, hm⟩
  | succ d ih =>
    intro hopen
    obtain ⟨pc', hat', hm'⟩ := ih (fun j h1 h2 => hopen j h1 (by omega))
    have ho := hopen (T + d) (by omega) (by omega)
    rcases r.step_cases (T + d) with ⟨e, _, hst⟩ | ⟨_, heq⟩
    · exact drain_step hg hok hst hat' hm' ho.1 ho.2
    · have e : T + (d + 1) = T + d + 1 := by omega
      rw [e, heq]; exact ⟨pc', hat', hm'⟩

/-- **the late item is taken.**  `g` is in its drain phase on the unbuffered channel `c` at position
`T`; another goroutine `g'`, weakly fair, stands at a `select` with a send on `c`.  Then `g'` moves (its
item is received, or it leaves through another alternative), or `c` is closed, or context `k` is done:
the sender is not left waiting for a receiver that has gone away. -/
theorem drain_takes (hsafe : NoCrash p) {g : Gi} {gr : Goroutine} {c : Ch} {k : Nat} {m : List Bool}
    (hg : p.gs[g]? = some gr) (hok : drainOkM gr c k m = true) (hlen : m.length ≤ gr.nodes.length)
    (hcap : p.cap c = 0) (r : Run p) {g' : Gi} (hne : g ≠ g') (hw : WeakFairG r g') {T : Nat}
    {pc pc' n : Pc} {nd' : Node} (hat : (r.st T).gs[g]? = some (.at pc)) (hm : mark m pc = true)
    (hat' : (r.st T).gs[g']? = some (.at pc')) (hnd' : p.node g' pc' = some nd')
    (hed' : (Lab.send c, n) ∈ nd'.edges) :
    ∃ i, T ≤ i ∧ (r.movesAt g' i ∨ (r.st i).closed c = true ∨ (r.st i).ctxDone k = true) := by
  apply Classical.byContradiction
  intro hno
  have hopen : ∀ j, T ≤ j → (r.st j).closed c = false ∧ (r.st j).ctxDone k = false := by
    intro j hj
    constructor
    · cases h : (r.st j).closed c with
      | false => rfl
      | true => exact absurd ⟨j, hj, Or.inr (Or.inl h)⟩ hno
    · cases h : (r.st j).ctxDone k with
      | false => rfl
      | true => exact absurd ⟨j, hj, Or.inr (Or.inr h)⟩ hno
  obtain ⟨i, hi, hmv⟩ := send_moves hsafe hw hat' hnd' hed' (by
    intro i hi _
    obtain ⟨d, rfl⟩ := Nat.exists_eq_add_of_le hi
    obtain ⟨pci, hati, hmi⟩ := drain_phase_stays hg hok r hat hm d (fun j h1 _ => hopen j h1)
    have hlt : pci < gr.nodes.length := Nat.lt_of_lt_of_le (mark_lt hmi) hlen
    have hn : gr.nodes[pci]? = some gr.nodes[pci] := List.getElem?_eq_getElem hlt
    have hx := zipIdx_all (by unfold drainOkM at hok; exact hok) hn
    simp only [hmi, Bool.not_true, Bool.false_or, Bool.and_eq_true, List.any_eq_true, beq_iff_eq] at hx
    obtain ⟨⟨l, n'⟩, he, hl⟩ := hx.1
    simp only at hl
    subst hl
    refine Or.inr ⟨hcap, g, pci, gr.nodes[pci], n', hne, hati, ?_, he⟩
    unfold Pipeline.node
    rw [hg]
    exact hn)
  exact hno ⟨i, hi, Or.inl hmv⟩

theorem drainStep_length (gr : Goroutine) (c : Ch) (k : Nat) (m : List Bool) :
    (drainStep gr c k m).length = gr.nodes.length := by
  simp [drainStep]

theorem iter_length {f : List Bool → List Bool} {N : Nat} (hf : ∀ m, (f m).length = N) :
    ∀ n (m : List Bool), m.length = N → (iter f n m).length = N := by
  intro n
  induction n with
  | zero => intro m h; exact h
  | succ n ih => intro m _; exact ih (f m) (hf m)

theorem drainD_length (gr : Goroutine) (c : Ch) (k : Nat) : (drainD gr c k).length = gr.nodes.length := by
  unfold drainD
  exact iter_length (drainStep_length gr c k) _ _ (by simp)

/-- the goroutine and the channel that `keepsReceiving` found by their names -/
theorem keepsReceiving_parts {gname cname : String} {k : Nat} (h : keepsReceiving p gname cname k = true) :
    ∃ (g : Gi) (gr : Goroutine) (c : Ch), p.gs[g]? = some gr ∧ gr.name = gname ∧ p.cname c = cname ∧
      gr.hasRecv c = true ∧ staysUntil gr c k = true ∧ drainsUntil gr c k = true := by
  unfold keepsReceiving at h
  split at h
  · rename_i g c hgs hcs
    split at h
    · rename_i gr hg
      simp only [Bool.and_eq_true] at h
      refine ⟨g, gr, c, hg, ?_, ?_, h.1.1.1, h.1.1.2, h.1.2⟩
      · obtain ⟨gr', hg', hn⟩ := mem_gsWhere.mp (hgs ▸ List.mem_singleton_self g)
        rw [hg] at hg'; cases hg'
        simpa using hn
      · have hc := hcs ▸ List.mem_singleton_self c
        rw [List.mem_filterMap] at hc
        obtain ⟨⟨ch, i⟩, hm, hx⟩ := hc
        split at hx
        · rename_i hname
          cases hx
          have hch : p.chans[i]? = some ch := by simpa using List.mem_zipIdx_iff_getElem?.mp hm
          simpa [Pipeline.cname, hch] using hname
        · cases hx
    · cases h
  · cases h

namespace Demo

/-- a sender of one item on the unbuffered channel 0, and a drain loop on it -/
def drain : Pipeline where
  name := "demo.drain"
  nctx := 1
  chans := [⟨"c", 0, false⟩]
  wgs := []
  gs := [
    { name := "sender", nodes := [.sel [.send 0 1, .ctx 0 1], .exit] },
    { name := "drainer", nodes := [.sel [.recv 0 0 1, .ctx 0 1], .exit] }]
  rank := [0, 0]

theorem drain_wf : W0 drain = true ∧ SafeOk drain = true ∧ LiveOk drain = true := by decide +kernel

/-- the item is handed over, the sender returns, the deadline fires, the drain loop ends -/
def drainTrace : List Ev := [.sync 0 1 0, .exit 0, .env 0, .act 1 (.ctx 0), .exit 1]

theorem drainTrace_ok : traceOk drain drainTrace = true := by decide +kernel

def drainRun : Run drain := Run.ofTrace drain drainTrace drainTrace_ok

theorem drainRun_fair : Fair drainRun := ofTrace_fair drain drainTrace drainTrace_ok (by decide +kernel)

end Demo

end Dos.Pipe
