/-
C10 layer 4 — the field property of the tower transported to the IMPLEMENTED representation: on reduced
Montgomery values (`F6 = Fp6 GFp`, `F12 = Fp12 GFp`, the types the driver runs and compares with
gfp6.go / gfp12.go) `Invert` keeps everything reduced, commutes with Montgomery decoding, and returns the
inverse of EVERY non-zero element. Route as in Proofs/Bn256FinalExpConcrete.lean: naturality of the
transcribed methods along "forget reducedness" and "decode" (both injective), and the field theorems over
ZMod p of Proofs/Bn256TowerField{6,12}.lean.
-/
import DosModel.Proofs.Bn256TowerField12
import DosModel.Proofs.Bn256FinalExpConcrete

namespace Dos.Bn256
namespace TowerField

/-! ### gfP6 -/
abbrev val6 : Fp6 GFpR → F6 := Fp6.map valF
abbrev dec6R : Fp6 GFpR → Fp6 (ZMod p) := Fp6.map decR
/-- Montgomery decoding of a gfP6 value -/
def dec6 (a : F6) : Fp6 (ZMod p) := Fp6.map dec a

theorem val_lift6 (a : F6) (h : Red6 a) : val6 (lift6R a h) = a := rfl
theorem dec6_val (x : Fp6 GFpR) : dec6 (val6 x) = dec6R x := rfl
theorem red6_val (x : Fp6 GFpR) : Red6 (val6 x) :=
  ⟨⟨x.x.x.2, x.x.y.2⟩, ⟨x.y.x.2, x.y.y.2⟩, ⟨x.z.x.2, x.z.y.2⟩⟩

theorem dec6_inj (x y : F6) (hx : Red6 x) (hy : Red6 y) (h : dec6 x = dec6 y) : x = y := by
  have ex : x = val6 (lift6R x hx) := rfl
  have ey : y = val6 (lift6R y hy) := rfl
  rw [ex, ey] at h ⊢
  rw [dec6_val, dec6_val] at h
  rw [Fp6.map_inj decHom h]

theorem mul6_dec (x y : F6) (hx : Red6 x) (hy : Red6 y) :
    Red6 (Fp6.mul x y) ∧ dec6 (Fp6.mul x y) = dec6 x * dec6 y := by
  have ex : x = val6 (lift6R x hx) := rfl
  have ey : y = val6 (lift6R y hy) := rfl
  rw [ex, ey, ← Fp6.map_mul' valHom]
  refine ⟨red6_val _, ?_⟩
  rw [dec6_val, dec6_val, dec6_val]
  exact Fp6.map_mul' decHom _ _

theorem invert6_dec (x : F6) (hx : Red6 x) :
    Red6 (Fp6.invert x) ∧ dec6 (Fp6.invert x) = Fp6.invert (dec6 x) := by
  have ex : x = val6 (lift6R x hx) := rfl
  rw [ex, ← Fp6.map_invert valHom]
  refine ⟨red6_val _, ?_⟩
  rw [dec6_val, dec6_val]
  exact Fp6.map_invert decHom _

theorem one6_dec : Red6 (Fp6.one : F6) ∧ dec6 (Fp6.one : F6) = 1 := by
  have e : (Fp6.one : F6) = val6 (Fp6.one : Fp6 GFpR) := (Fp6.map_one' valHom).symm
  rw [e]
  exact ⟨red6_val _, by rw [dec6_val]; exact Fp6.map_one' decHom⟩

theorem zero6_dec : Red6 (Fp6.zero : F6) ∧ dec6 (Fp6.zero : F6) = 0 := by
  have e : (Fp6.zero : F6) = val6 (Fp6.zero : Fp6 GFpR) := (Fp6.map_zero' valHom).symm
  rw [e]
  exact ⟨red6_val _, by rw [dec6_val]; exact Fp6.map_zero' decHom⟩

/-- **gfP6.Invert, implemented**: on a reduced non-zero Montgomery value the result is reduced and is the inverse -/
theorem fp6_invert_concrete (x : F6) (hx : Red6 x) (h0 : x ≠ Fp6.zero) :
    Red6 (Fp6.invert x) ∧ Fp6.mul x (Fp6.invert x) = Fp6.one ∧ dec6 (Fp6.invert x) = (dec6 x)⁻¹ := by
  obtain ⟨ri, di⟩ := invert6_dec x hx
  obtain ⟨rm, dm⟩ := mul6_dec x _ hx ri
  have hne : dec6 x ≠ 0 := by
    intro h
    exact h0 (dec6_inj _ _ hx zero6_dec.1 (h.trans zero6_dec.2.symm))
  refine ⟨ri, ?_, di⟩
  apply dec6_inj _ _ rm one6_dec.1
  rw [dm, di, one6_dec.2]
  exact fp6_invert_all _ hne

/-! ### gfP12 -/
theorem invert12_dec (x : F12) (hx : Red12 x) :
    Red12 (Fp12.invert x) ∧ dec12 (Fp12.invert x) = Fp12.invert (dec12 x) :=
  dec_of_natural (fun y => (Fp12.map_invert valHom y).symm) (Fp12.map_invert decHom) x hx

theorem map12_zero {K L : Type} [Add K] [Sub K] [Neg K] [Mul K] [Zero K] [One K] [Inv K] [Sq K] [DecidableEq K]
    [Add L] [Sub L] [Neg L] [Mul L] [Zero L] [One L] [Inv L] [Sq L] [DecidableEq L] {f : K → L} (h : OpsHom f) :
    Fp12.map f (Fp12.zero : Fp12 K) = Fp12.zero := by
  simp only [Fp12.map, Fp12.zero, Fp6.map_zero' h]

theorem zero12_dec : Red12 (Fp12.zero : F12) ∧ dec12 (Fp12.zero : F12) = 0 := by
  have e : (Fp12.zero : F12) = val12 (Fp12.zero : Fp12 GFpR) := (map12_zero valHom).symm
  rw [e]
  exact ⟨red12_val _, by rw [dec12_val]; exact map12_zero decHom⟩

theorem dec12_ne_zero (x : F12) (hx : Red12 x) (h0 : x ≠ Fp12.zero) : dec12 x ≠ 0 :=
  fun h => h0 (dec12_inj _ _ hx zero12_dec.1 (h.trans zero12_dec.2.symm))

/-- **gfP12.Invert, implemented**: on a reduced non-zero Montgomery value the result is reduced and is the inverse -/
theorem fp12_invert_concrete (x : F12) (hx : Red12 x) (h0 : x ≠ Fp12.zero) :
    Red12 (Fp12.invert x) ∧ Fp12.mul x (Fp12.invert x) = Fp12.one ∧ dec12 (Fp12.invert x) = (dec12 x)⁻¹ := by
  obtain ⟨ri, di⟩ := invert12_dec x hx
  obtain ⟨rm, dm⟩ := mul_dec x _ hx ri
  refine ⟨ri, ?_, di⟩
  apply dec12_inj _ _ rm one_dec.1
  rw [dm, di, one_dec.2]
  exact fp12_invert_all _ (dec12_ne_zero x hx h0)

end TowerField
end Dos.Bn256
