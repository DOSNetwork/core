/-
C20 — the loads of scalar.go: `2097151 & load3(a[:])`, `2097151 & (load4(a[2:]) >> 5)`, … , `load4(a[28:]) >> 7`
cut a 32-byte string into 12 limbs (radix 2^21, the last one 25 bits) with the same little-endian value.
-/
import DosModel.Proofs.Ed25519Bits
import DosModel.Proofs.Ed25519Pack

set_option exponentiation.threshold 600

namespace Dos.Ed25519
open Dos Dos.Gen.Ed25519Sc

/-- the twelve load expressions of scMulAdd / scAdd / scSub / scMul for one 32-byte operand -/
def unpack12 (shr : Shr) (a : Bytes) : List Int :=
  [band 2097151 (load3 (sl a 0)), band 2097151 (shr (load4 (sl a 2)) 5), band 2097151 (shr (load3 (sl a 5)) 2),
   band 2097151 (shr (load4 (sl a 7)) 7), band 2097151 (shr (load4 (sl a 10)) 4), band 2097151 (shr (load3 (sl a 13)) 1),
   band 2097151 (shr (load4 (sl a 15)) 6), band 2097151 (shr (load3 (sl a 18)) 3), band 2097151 (load3 (sl a 21)),
   band 2097151 (shr (load4 (sl a 23)) 5), band 2097151 (shr (load3 (sl a 26)) 2), shr (load4 (sl a 28)) 7]

/-- value of a list of 12 limbs -/
def value12L : List Int → Int
  | [a0, a1, a2, a3, a4, a5, a6, a7, a8, a9, a10, a11] => value12 a0 a1 a2 a3 a4 a5 a6 a7 a8 a9 a10 a11
  | _ => 0

/-- **load**: the 12 limbs of a 32-byte string have its little-endian value, because limb i is the field (21 i, 21) of
that value, the last one the field (231, 25) -/
theorem unpack12_value (a : Bytes) (h : a.length = 32) : value12L (unpack12 shrI a) = (leNat a : Int) := by
  simp (disch := omega) only [unpack12, load3_sl, load4_sl, shrI_bitfield, band_bitfield 2097151 21 rfl,
    Nat.reduceMul, Nat.reduceAdd, Nat.reduceSub, value12L, value12]
  have hn := leNat_lt a
  rw [h] at hn
  have hs := congrArg (Nat.cast (R := Int))
    (fieldSum_self (leNat a) [21, 21, 21, 21, 21, 21, 21, 21, 21, 21, 21, 25] hn)
  simp only [fieldSum, Nat.reduceAdd, Nat.pow_zero, Nat.mul_one, Nat.zero_add] at hs
  simp only [Nat.cast_add, Nat.cast_mul, Nat.cast_pow, Nat.cast_ofNat] at hs
  exact hs

end Dos.Ed25519
