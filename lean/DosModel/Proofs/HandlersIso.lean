/-
C12 — sessions do not interfere in the session layer of pdkg.Loop (the maps are keyed by session id):
whatever is sent about other sessions, the events of session s' are answered exactly as if they were alone.
-/
import DosModel.Proofs.HandlersDkg

namespace Dos.Handlers

/-- **isolation**: an event that does not concern `s'` does not change what `s'` sees -/
theorem view_step_ne (s : Sess) (s' : String) (e : SessEv) (inv : SessInv s) (h : touches s' e = false) :
    view s' (sessStep Cfg.all s e).1 = view s' s := (sessStep_inv s e inv).2.2 s' h

/-- an event of `s'` itself is answered as a function of the view alone (given the invariant, which
excludes the double close) -/
theorem step_eq_vstep (s : Sess) (s' : String) (e : SessEv) (inv : SessInv s)
    (h : touches s' e = true) (hx : ∀ d, e ≠ .expire d) : Sim s' s (vstep (view s' s) e) (sessStep Cfg.all s e) := by
  cases e with
  | expire d => exact absurd rfl (hx d)
  | msg sid it =>
    obtain rfl : sid = s' := by simpa [touches] using h
    simp only [sessStep, inv.alive, if_true]
    exact handlePeerMsg_sim inv sid it
  | req sid num =>
    obtain rfl : sid = s' := by simpa [touches] using h
    simp only [sessStep, inv.alive, if_true]
    exact handleRequest_sim inv sid num

/-- **sessions are independent**: in ANY event list (junk of other sessions, their registrations,
expiry sweeps that do not report `s'` done), the events of `s'` get the outputs they would get alone -/
theorem outsFor_eq_vrun (s' : String) (evs : List SessEv) (hx : ∀ e ∈ evs, ∀ d, e = .expire d → d.contains s' = false) :
    ∀ s, SessInv s → outsFor s' evs (sessRun Cfg.all s evs).2 = vrun (view s' s) (evs.filter (touches s')) := by
  induction evs with
  | nil => intro s inv; simp [outsFor, vrun]
  | cons e r ih =>
    intro s inv
    have hr : ∀ e ∈ r, ∀ d, e = .expire d → d.contains s' = false := fun e he => hx e (List.mem_cons_of_mem _ he)
    have hinv : SessInv (sessStep Cfg.all s e).1 := (sessStep_inv s e inv).1
    simp only [sessRun, outsFor]
    by_cases ht : touches s' e = true
    · have hne : ∀ d, e ≠ .expire d := by
        intro d he; have := hx e (by simp) d he; subst he; simp [touches] at ht; simp [ht] at this
      have st := step_eq_vstep s s' e inv ht hne
      simp only [ht, if_true, List.filter_cons_of_pos, vrun]
      rw [ih hr _ hinv, st.out, st.own]
    · have hf : touches s' e = false := by simpa using ht
      simp only [hf, Bool.false_eq_true, if_false]
      rw [List.filter_cons_of_neg (by simpa using ht), ih hr _ hinv, view_step_ne s s' e inv hf]

theorem isDup_pks (j : Nat) : isDup ((List.range j).map Item.pk) (.pk j) = false := by
  simp only [isDup, List.any_eq_false]
  intro x hx
  obtain ⟨i, hi, rfl⟩ := List.mem_map.mp hx
  have : i < j := List.mem_range.mp hi
  simp; omega

theorem getLast?_cons_ne {α : Type} (a : α) (l : List α) (h : l ≠ []) : (a :: l).getLast? = l.getLast? := by
  cases l with
  | nil => exact absurd rfl h
  | cons b r => rfl

theorem vrun_pks (s' : String) (n : Nat) : ∀ m j, j + m = n → 0 < m →
    (vrun ⟨(List.range j).map Item.pk, some n⟩ ((List.range' j m).map (fun i => SessEv.msg s' (.pk i)))).getLast?
      = some (.ok s!"fire {n}") := by
  intro m
  induction m with
  | zero => intro j _ h; omega
  | succ m ih =>
    intro j hj _
    have hcur : (List.range j).map Item.pk ++ [Item.pk j] = (List.range (j + 1)).map Item.pk := by
      simp [List.range_succ]
    have hlen : (((List.range (j + 1)).map Item.pk).length : Int) = ((j + 1 : Nat) : Int) := by simp
    simp only [List.range', List.map_cons, vrun, vstep, isDup_pks, Bool.false_eq_true, if_false, hcur, hlen]
    by_cases hm : m = 0
    · subst hm
      have e : ((j + 1 : Nat) : Int) = (n : Int) := by omega
      have e2 : j + 1 = n := by omega
      simp [vrun, e2]
    · have e : ¬ (((j + 1 : Nat) : Int) = (n : Int)) := by omega
      simp only [e, if_false]
      have hne : vrun ⟨(List.range (j + 1)).map Item.pk, some (n : Int)⟩
          ((List.range' (j + 1) m).map (fun i => SessEv.msg s' (.pk i))) ≠ [] := by
        cases m with
        | zero => exact absurd rfl hm
        | succ m' => simp [List.range', vrun]
      rw [getLast?_cons_ne _ _ hne]
      exact ih (j + 1) (by omega) (by omega)

/-- a complete honest exchange, answered alone: it ends with the hand-over of all `n` messages -/
theorem vrun_honest (s' : String) (n : Nat) (hn : 0 < n) :
    (vrun ⟨[], none⟩ (honestRun s' n)).getLast? = some (.ok s!"fire {n}") := by
  have e : ¬ (((([] : List Item).length : Nat) : Int) = (n : Int)) := by simp; omega
  simp only [honestRun, vrun, vstep, e, if_false]
  have h := vrun_pks s' n n 0 (by omega) hn
  have hne : vrun ⟨[], some (n : Int)⟩ ((List.range n).map (fun i => SessEv.msg s' (.pk i))) ≠ [] := by
    cases n with
    | zero => omega
    | succ k => simp [List.range_succ_eq_map, vrun]
  rw [getLast?_cons_ne _ _ hne]
  simpa [List.range_eq_range'] using h

end Dos.Handlers
