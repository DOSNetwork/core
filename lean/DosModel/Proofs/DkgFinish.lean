/-
What a successful `DistKeyShare()` returns, in terms of the deals stored in the slots: the
commitment vector is the coefficient-wise sum of the stored commitment vectors (all of one
length), the share is the sum of the stored share values.  Hence, whenever every stored deal is
consistent (`share_on_poly_of_consistent`: the pipeline invariant with "all own responses are
approvals", `Piped`, gives that through `Piped.slot`, and so does the library invariant), the share lies on the returned public
polynomial; and two generators holding the same commitments in every slot return the same one.
-/
import DosModel.Proofs.DkgScript

set_option linter.unusedSectionVars false

namespace Dos.Dkg
open Dos Dos.Vss

variable {F G : Type} [Field F] [AddCommGroup G] [Module F G] [DecidableEq F] [DecidableEq G]

/-- the deal stored in slot `j` -/
def dealAt (d : Gen F G) (j : Nat) : Option (Deal F G) :=
  ((getVerifier d j).bind (·.agg)).bind (·.deal)

def valOf (dl : Deal F G) : F :=
  match dl.share with
  | some ⟨_, some v⟩ => v
  | _ => 0

def valAt (d : Gen F G) (j : Nat) : F := match dealAt d j with | some dl => valOf dl | none => 0
def commitsAt (d : Gen F G) (j : Nat) : List G := match dealAt d j with | some dl => dl.commits | none => []

/-- how `DistKeyShare` accumulates `pub` -/
def accPub : Option (List G) → List (List G) → Option (List G)
  | acc, [] => acc
  | none, c :: cs => accPub (some c) cs
  | some p, c :: cs => accPub (some (List.zipWith (· + ·) p c)) cs

theorem accPub_none (cs : List (List G)) (h : cs ≠ []) : accPub none cs = some (vecSum cs) := by
  cases cs with
  | nil => exact absurd rfl h
  | cons c rest =>
    simp only [accPub, vecSum]
    clear h
    induction rest generalizing c with
    | nil => rfl
    | cons x xs ih => simp only [accPub, List.foldl_cons]; exact ih _

theorem dealOut_some {v : Verifier F G} {dl : Deal F G} (h : v.dealOut = some (some dl)) :
    ∃ a, v.agg = some a ∧ a.deal = some dl ∧ a.certified = true ∧ v.approved = true := by
  unfold Verifier.dealOut at h
  rcases ha : v.agg with _ | a
  · simp [ha] at h
  · simp only [ha, Option.some.injEq] at h
    split at h
    · rename_i hc
      simp only [Bool.and_eq_true] at hc
      exact ⟨a, rfl, h, hc.2.2, hc.2.1⟩
    · cases h

/-- fix 5814a9f: `Deal()` hands out a deal only if the verifier itself approved it -/
theorem dealOut_some_approved {v : Verifier F G} {dl : Deal F G} (h : v.dealOut = some (some dl)) :
    v.approved = true :=
  let ⟨_, _, _, _, hap⟩ := dealOut_some h
  hap

/-- fix 5814a9f: a certified verifier approved its deal -/
theorem dealCertified_approved {v : Verifier F G} (h : v.dealCertified = true) : v.approved = true := by
  unfold Verifier.dealCertified at h
  simp only [Bool.and_eq_true] at h
  exact h.1

theorem dealAt_eq {d : Gen F G} {j : Nat} {v : Verifier F G} {a : Agg F G} {dl : Deal F G}
    (hv : getVerifier d j = some v) (hagg : v.agg = some a) (hdeal : a.deal = some dl) : dealAt d j = some dl := by
  simp [dealAt, hv, hagg, hdeal]

theorem accPub_cons (pub : Option (List G)) (c : List G) (cs : List (List G)) :
    accPub pub (c :: cs) = accPub (accPub pub [c]) cs := by
  cases pub <;> rfl

/-- one step of the fold of `DistKeyShare`: the slot hands out a certified deal with a share value whose
commitments have the length of the accumulated polynomial -/
theorem keyShareFold_cons {d : Gen F G} {j : Nat} {js : List Nat} {sh : F} {pub : Option (List G)}
    {res : F × Option (List G)} (h : keyShareFold d (j :: js) sh pub = .ok res) :
    ∃ v a dl i val, getVerifier d j = some v ∧ v.agg = some a ∧ a.deal = some dl ∧ a.certified = true ∧
      dl.share = some ⟨i, some val⟩ ∧ (∀ p, pub = some p → p.length = dl.commits.length) ∧
      keyShareFold d js (sh + val) (accPub pub [dl.commits]) = .ok res := by
  unfold keyShareFold at h
  rcases hv : getVerifier d j with _ | v
  · simp [hv] at h
  · rcases hdo : v.dealOut with _ | _ | dl
    · simp [hv, hdo] at h
    · simp [hv, hdo] at h
    · obtain ⟨a, hagg, hdeal, hcert, _⟩ := dealOut_some hdo
      rcases hshare : dl.share with _ | ⟨i, _ | val⟩
      · simp [hv, hdo, hshare] at h
      · simp [hv, hdo, hshare] at h
      · refine ⟨v, a, dl, i, val, rfl, hagg, hdeal, hcert, hshare, ?_⟩
        simp only [hv, hdo, hshare] at h
        rcases pub with _ | p
        · exact ⟨by rintro _ ⟨⟩, h⟩
        · by_cases hlen : p.length = dl.commits.length
          · simp only [pubAdd, hlen, ne_eq, not_true_eq_false, if_false] at h
            exact ⟨by rintro _ ⟨⟩; exact hlen, h⟩
          · simp [pubAdd, hlen] at h

/-- the fold of `DistKeyShare` over a list of slots: every commitment vector has the length of the result -/
theorem keyShareFold_spec (d : Gen F G) : ∀ (js : List Nat) (sh : F) (pub : Option (List G)) (sh' : F)
    (pub' : Option (List G)), keyShareFold d js sh pub = .ok (sh', pub') →
    (∀ j ∈ js, ∃ v a dl i val, getVerifier d j = some v ∧ v.agg = some a ∧ a.deal = some dl ∧ a.certified = true ∧
        dl.share = some ⟨i, some val⟩) ∧
    sh' = sh + (js.map (valAt d)).sum ∧ pub' = accPub pub (js.map (commitsAt d)) ∧
    ∀ p', pub' = some p' → (∀ p, pub = some p → p.length = p'.length) ∧
      ∀ j ∈ js, (commitsAt d j).length = p'.length := by
  intro js
  induction js with
  | nil =>
    intro sh pub sh' pub' h
    cases h
    exact ⟨fun _ h => (nomatch h), by simp, rfl,
      fun p' hp' => ⟨fun p hp => by cases hp'.symm.trans hp; rfl, fun _ h => (nomatch h)⟩⟩
  | cons j js ih =>
    intro sh pub sh' pub' h
    obtain ⟨v, a, dl, i, val, hv, hagg, hdeal, hcert, hshare, hlen, h'⟩ := keyShareFold_cons h
    obtain ⟨i1, i2, i3, i4⟩ := ih _ _ sh' pub' h'
    have hda := dealAt_eq hv hagg hdeal
    have hval : valAt d j = val := by simp only [valAt, hda, valOf, hshare]
    have hcom : commitsAt d j = dl.commits := by simp only [commitsAt, hda]
    refine ⟨?_, by rw [i2, List.map_cons, List.sum_cons, hval, add_assoc],
      by rw [i3, List.map_cons, hcom]; exact (accPub_cons _ _ _).symm, fun p' hp' => ?_⟩
    · intro k hk
      rcases List.mem_cons.1 hk with rfl | hk
      · exact ⟨v, a, dl, i, val, hv, hagg, hdeal, hcert, hshare⟩
      · exact i1 k hk
    · obtain ⟨l1, l2⟩ := i4 p' hp'
      -- the accumulator after this step has the length of this slot's commitments
      have hq : dl.commits.length = p'.length ∧ ∀ p, pub = some p → p.length = p'.length := by
        rcases pub with _ | p
        · exact ⟨l1 _ rfl, by rintro _ ⟨⟩⟩
        · have := l1 _ rfl
          rw [List.length_zipWith, hlen p rfl, Nat.min_self] at this
          exact ⟨this, by rintro _ ⟨⟩; exact (hlen p rfl).trans this⟩
      refine ⟨hq.2, fun k hk => ?_⟩
      rcases List.mem_cons.1 hk with rfl | hk
      · rw [hcom]; exact hq.1
      · exact l2 k hk

theorem qual_all (d : Gen F G) (hlen : d.verifiers.length = d.participants.length) (h : certified d = true) :
    qual d = List.range d.participants.length ∧
    ∀ j, j < d.participants.length → ∃ v, getVerifier d j = some v ∧ v.dealCertified = true := by
  unfold certified at h
  simp only [decide_eq_true_eq] at h
  unfold qual at h ⊢
  rw [hlen] at h ⊢
  generalize hp : (fun j => match getVerifier d j with | some v => v.dealCertified | none => false) = p at h ⊢
  have hle := List.length_filter_le p (List.range d.participants.length)
  have heq : (List.filter p (List.range d.participants.length)).length = (List.range d.participants.length).length := by
    rw [List.length_range] at hle ⊢; omega
  have hall := List.length_filter_eq_length_iff.1 heq
  refine ⟨List.filter_eq_self.2 hall, ?_⟩
  intro j hj
  have := hall j (List.mem_range.2 hj)
  rw [← hp] at this
  rcases hv : getVerifier d j with _ | v
  · simp [hv] at this
  · simp only [hv] at this; exact ⟨v, rfl, this⟩

theorem distKeyShare_spec (d : Gen F G) (ks : KeyShare F G) (hlen : d.verifiers.length = d.participants.length)
    (h : distKeyShare d = .ok ks) :
    let n := d.participants.length
    0 < n ∧
    (∀ j, j < n → ∃ v a dl i val, getVerifier d j = some v ∧ v.agg = some a ∧ a.deal = some dl ∧
        a.certified = true ∧ dl.share = some ⟨i, some val⟩) ∧
    ks.commits = vecSum ((List.range n).map (commitsAt d)) ∧
    (∀ j, j < n → (commitsAt d j).length = ks.commits.length) ∧
    ks.shareV = ((List.range n).map (valAt d)).sum ∧ ks.shareI = d.index ∧ ks.priPoly = d.dealer.f := by
  intro n
  unfold distKeyShare at h
  split at h
  · cases h
  · rename_i hc
    rw [(qual_all d hlen (by simpa using hc)).1] at h
    -- the fold ended in an error, in a panic, or without a polynomial: `h` is impossible
    split at h
    · cases h
    · cases h
    · cases h
    · rename_i sh commits hf
      cases h
      obtain ⟨i1, i2, i3, i4⟩ := keyShareFold_spec d _ 0 none sh (some commits) hf
      have hn : 0 < n := by
        rcases Nat.eq_zero_or_pos n with h0 | h0
        · rw [show d.participants.length = 0 from h0] at i3; cases i3
        · exact h0
      rw [accPub_none _ (by simp only [ne_eq, List.map_eq_nil_iff, List.range_eq_nil]; exact Nat.ne_of_gt hn)] at i3
      exact ⟨hn, fun j hj => i1 j (List.mem_range.2 hj), Option.some.inj i3,
        fun j hj => (i4 _ rfl).2 j (List.mem_range.2 hj), by rw [i2, zero_add], rfl, rfl⟩

/-- **the share `DistKeyShare()` returns lies on the public polynomial it returns** as soon as every slot
stores a deal that is consistent and carries a share for this member's index: the sum of the shares
checks against the sum of the commitment vectors. -/
theorem share_on_poly_of_consistent (g : G) (d : Gen F G) (ks : KeyShare F G)
    (hlen : d.verifiers.length = d.participants.length) (h : distKeyShare d = .ok ks)
    (hc : ∀ j, j < d.participants.length → ∃ v a dl val, getVerifier d j = some v ∧ v.agg = some a ∧
      a.deal = some dl ∧ Consistent g v.dealer d.participants dl ∧ dl.share = some ⟨(d.index : Int), some val⟩) :
    ks.shareV • g = pubEval (S := F) ks.commits (d.index : Int) := by
  obtain ⟨_, _, hcom, hlens, hsh, _, _⟩ := distKeyShare_spec d ks hlen h
  rw [hsh, hcom]
  have := sum_share_on_sum_commits g ks.commits.length
    ((List.range d.participants.length).map (fun j => (valAt d j, commitsAt d j))) (d.index : Int)
    (by intro x hx; obtain ⟨j, hj, rfl⟩ := List.mem_map.1 hx; exact hlens j (List.mem_range.1 hj))
    (by
      intro x hx; obtain ⟨j, hj, rfl⟩ := List.mem_map.1 hx
      obtain ⟨v, a, dl, val, hv, hagg, hdeal, hcons, hshare⟩ := hc j (List.mem_range.1 hj)
      simp only [valAt, commitsAt, dealAt_eq hv hagg hdeal, valOf, hshare]
      exact ((consistent_iff_of_share hshare).1 hcons).2.2.2.2)
  simpa [List.map_map, Function.comp_def] using this

/-- a generator of the pipeline from `Deals()` on: the invariant holds and every own response is an approval -/
structure Piped (g : G) (d : Gen F G) : Prop where
  good : GoodGen g d
  appr : AllApproved d

/-- **every aggregator of the pipeline** stores a deal that is consistent and addressed to this member; the
session id the slot compares responses with is the identifier of that deal's dealer, list, commitments and
threshold, and the own response, an approval, carries it -/
theorem Piped.slot {g : G} {d : Gen F G} (h : Piped g d) {j : Nat} {v : Verifier F G} {a : Agg F G}
    (hv : getVerifier d j = some v) (hagg : v.agg = some a) :
    d.participants[j]? = some v.dealer ∧ ∃ dl val r, a.deal = some dl ∧ Consistent g v.dealer d.participants dl ∧
      dl.share = some ⟨(d.index : Int), some val⟩ ∧ a.sid = Sid.h v.dealer d.participants dl.commits dl.t ∧
      getResponse a d.index = some r ∧ r.status = true ∧ r.sid = a.sid := by
  have hgv := h.good.good j v hv
  obtain ⟨r, hr, _, _, himp⟩ := (hgv.hagg a hagg).ownResp
  have hs := h.appr j v a r hv hagg hr
  obtain ⟨dl, val, h1, h2, h3, hcons, hsh⟩ := himp hs
  have hsid : a.sid = Sid.h v.dealer d.participants dl.commits dl.t := by
    obtain ⟨_, _, _, _, hsid, _⟩ := hcons; rw [h2, ← hsid]
  exact ⟨hgv.hdealer, dl, val, r, h1, hcons, hsh, hsid, hr, hs, h3.trans hsid.symm⟩

/-- a generator of the pipeline on which `DistKeyShare()` succeeded -/
structure Finished (g : G) (d : Gen F G) (ks : KeyShare F G) : Prop extends Piped g d where
  out : distKeyShare d = .ok ks

/-- every slot of a finished generator is taken and has a certified aggregator (to which `Piped.slot` applies) -/
theorem Finished.slot {g : G} {d : Gen F G} {ks : KeyShare F G} (h : Finished g d ks) {j : Nat}
    (hj : j < d.participants.length) : ∃ v a, getVerifier d j = some v ∧ v.agg = some a ∧ a.certified = true := by
  obtain ⟨v, a, _, _, _, hv, hagg, _, hcert, _⟩ := (distKeyShare_spec d ks h.good.len h.out).2.1 j hj
  exact ⟨v, a, hv, hagg, hcert⟩

theorem Finished.share {g : G} {d : Gen F G} {ks : KeyShare F G} (h : Finished g d ks) :
    ks.shareV • g = pubEval (S := F) ks.commits (d.index : Int) ∧ ks.shareI = d.index := by
  refine ⟨share_on_poly_of_consistent g d ks h.good.len h.out fun j hj => ?_,
    (distKeyShare_spec d ks h.good.len h.out).2.2.2.2.2.1⟩
  obtain ⟨v, a, hv, hagg, _⟩ := h.slot hj
  obtain ⟨_, dl, val, _, hdl, hcons, hsh, _⟩ := h.toPiped.slot hv hagg
  exact ⟨v, a, dl, val, hv, hagg, hdl, hcons, hsh⟩

/-- two finished generators with the same member list that hold the same commitments in every slot
return the same public polynomial -/
theorem commits_eq_of_slots (d d' : Gen F G) (ks ks' : KeyShare F G)
    (hlen : d.verifiers.length = d.participants.length) (hlen' : d'.verifiers.length = d'.participants.length)
    (h : distKeyShare d = .ok ks) (h' : distKeyShare d' = .ok ks') (hp : d'.participants = d.participants)
    (hall : ∀ j, j < d.participants.length → commitsAt d' j = commitsAt d j) : ks'.commits = ks.commits := by
  rw [(distKeyShare_spec d ks hlen h).2.2.1, (distKeyShare_spec d' ks' hlen' h').2.2.1, hp]
  exact congrArg vecSum (List.map_congr_left fun j hj => hall j (List.mem_range.1 hj))

end Dos.Dkg
