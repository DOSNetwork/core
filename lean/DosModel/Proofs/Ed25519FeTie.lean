/-
C20 — the program DATA of Gen/Ed25519Fe.lean (on which the interval analysis runs) denotes exactly the
FUNCTIONS of the same file (on which `ring` works): for feMul, feSquare, feSquare2, feFromBytes, feToBytes

  init  : `toL10 (initW id f_prog x) = f_init x`
  blocks: block by block, `toL10 (blockW id n b ρ) = f_b<k> (toL10 ρ)`
  out   : `outW id f_prog ρ = f_out (toL10 ρ)`
  whole : `runW id f_prog x = f_out (runBlocks f_blocks (f_init x))`,  `toL10 (limbsW id f_prog x) = runBlocks …`

Every leaf is `Eq.refl`, checked by the kernel (evaluation of the interpreter on a symbolic environment).
No block count, constant or index is written here.
-/
import Batteries.Data.List.Basic
import DosModel.Proofs.Ed25519RangesTie
import DosModel.Proofs.FeProg
import DosModel.Gen.Ed25519Fe

namespace Dos.FeProg
open Dos Dos.Ed25519 Dos.IntervalProg Dos.FeProg.FeProg Dos.Gen.Ed25519Fe List

/-- the generated block functions of a field routine applied in source order (for the scalar routines:
`Ed25519.runBlocks`, Model/Ed25519Scalar.lean) -/
def runBlocks (bs : List (L10 → L10)) (s : L10) : L10 := bs.foldl (fun st f => f st) s

/-- a block function and a block program agree -/
def BlockTie (nC : Nat) (g : L10 → L10) (b : Prog) : Prop :=
  ∀ ρ : Env, toL10 (blockW id nC b ρ) = g (toL10 ρ)

theorem blocks_tie {nC : Nat} {fs : List (L10 → L10)} {bs : List Prog} (h : Forall₂ (BlockTie nC) fs bs) :
    ∀ ρ : Env, toL10 (blocksW id nC bs ρ) = runBlocks fs (toL10 ρ) := by
  induction h with
  | nil => intro ρ; rfl
  | @cons g b fs bs hgb _ ih =>
    intro ρ
    have e1 : blocksW id nC (b :: bs) ρ = blocksW id nC bs (blockW id nC b ρ) := rfl
    have e2 : runBlocks (g :: fs) (toL10 ρ) = runBlocks fs (g (toL10 ρ)) := rfl
    rw [e1, e2, ih, hgb ρ]

theorem toL10_slice (ρ : Env) : toL10 (slice 0 10 ρ) = toL10 ρ := by
  unfold toL10 slice
  simp [List.getD]

/-- the three ties of one routine give the tie of the whole -/
theorem whole_tie {p : FeProg} {finit : List Int → L10} {fblocks : List (L10 → L10)} {fout : L10 → List Int}
    (hi : ∀ x, toL10 (initW id p x) = finit x) (hb : Forall₂ (BlockTie p.nCarry) fblocks p.blocks)
    (ho : ∀ ρ, outW id p ρ = fout (toL10 ρ)) (x : List Int) :
    toL10 (limbsW id p x) = runBlocks fblocks (finit x)
    ∧ runW id p x = fout (runBlocks fblocks (finit x)) := by
  have h1 : toL10 (limbsW id p x) = runBlocks fblocks (finit x) := by
    unfold limbsW
    rw [toL10_slice, blocks_tie hb, hi]
  refine ⟨h1, ?_⟩
  unfold runW
  rw [ho, h1]

theorem feMul_tie_init (x : List Int) : toL10 (initW id feMul_prog x) = feMul_init x := by kernel_rfl
theorem feMul_tie_blocks : Forall₂ (BlockTie feMul_prog.nCarry) feMul_blocks feMul_prog.blocks := by
  simp only [feMul_blocks, feMul_prog]
  tie_blocks
theorem feMul_tie_out (ρ : Env) : outW id feMul_prog ρ = feMul_out (toL10 ρ) := by kernel_rfl
theorem feMul_tie (x : List Int) : toL10 (limbsW id feMul_prog x) = runBlocks feMul_blocks (feMul_init x)
    ∧ runW id feMul_prog x = feMul_out (runBlocks feMul_blocks (feMul_init x)) :=
  whole_tie feMul_tie_init feMul_tie_blocks feMul_tie_out x

/-! the carry blocks of feSquare and feSquare2 are, in both translations, the very terms emitted for feMul -/
theorem feSquare_tie_init (x : List Int) : toL10 (initW id feSquare_prog x) = feSquare_init x := by kernel_rfl
theorem feSquare_tie_blocks : Forall₂ (BlockTie feSquare_prog.nCarry) feSquare_blocks feSquare_prog.blocks :=
  show Forall₂ (BlockTie feMul_prog.nCarry) feMul_blocks feMul_prog.blocks from feMul_tie_blocks
theorem feSquare_tie_out (ρ : Env) : outW id feSquare_prog ρ = feSquare_out (toL10 ρ) := by kernel_rfl
theorem feSquare_tie (x : List Int) : toL10 (limbsW id feSquare_prog x) = runBlocks feSquare_blocks (feSquare_init x)
    ∧ runW id feSquare_prog x = feSquare_out (runBlocks feSquare_blocks (feSquare_init x)) :=
  whole_tie feSquare_tie_init feSquare_tie_blocks feSquare_tie_out x

theorem feSquare2_tie_init (x : List Int) : toL10 (initW id feSquare2_prog x) = feSquare2_init x := by kernel_rfl
theorem feSquare2_tie_blocks : Forall₂ (BlockTie feSquare2_prog.nCarry) feSquare2_blocks feSquare2_prog.blocks :=
  show Forall₂ (BlockTie feMul_prog.nCarry) feMul_blocks feMul_prog.blocks from feMul_tie_blocks
theorem feSquare2_tie_out (ρ : Env) : outW id feSquare2_prog ρ = feSquare2_out (toL10 ρ) := by kernel_rfl
theorem feSquare2_tie (x : List Int) : toL10 (limbsW id feSquare2_prog x) = runBlocks feSquare2_blocks (feSquare2_init x)
    ∧ runW id feSquare2_prog x = feSquare2_out (runBlocks feSquare2_blocks (feSquare2_init x)) :=
  whole_tie feSquare2_tie_init feSquare2_tie_blocks feSquare2_tie_out x

theorem feFromBytes_tie_init (x : List Int) : toL10 (initW id feFromBytes_prog x) = feFromBytes_init x := by kernel_rfl
theorem feFromBytes_tie_blocks : Forall₂ (BlockTie feFromBytes_prog.nCarry) feFromBytes_blocks feFromBytes_prog.blocks := by
  simp only [feFromBytes_blocks, feFromBytes_prog]
  tie_blocks
theorem feFromBytes_tie_out (ρ : Env) : outW id feFromBytes_prog ρ = feFromBytes_out (toL10 ρ) := by kernel_rfl
theorem feFromBytes_tie (x : List Int) : toL10 (limbsW id feFromBytes_prog x) = runBlocks feFromBytes_blocks (feFromBytes_init x)
    ∧ runW id feFromBytes_prog x = feFromBytes_out (runBlocks feFromBytes_blocks (feFromBytes_init x)) :=
  whole_tie feFromBytes_tie_init feFromBytes_tie_blocks feFromBytes_tie_out x

theorem feToBytes_tie_init (x : List Int) : toL10 (initW id feToBytes_prog x) = feToBytes_init x := by kernel_rfl
theorem feToBytes_tie_blocks : Forall₂ (BlockTie feToBytes_prog.nCarry) feToBytes_blocks feToBytes_prog.blocks := by
  simp only [feToBytes_blocks, feToBytes_prog]
  tie_blocks
theorem feToBytes_tie_out (ρ : Env) : outW id feToBytes_prog ρ = feToBytes_out (toL10 ρ) := by kernel_rfl
theorem feToBytes_tie (x : List Int) : toL10 (limbsW id feToBytes_prog x) = runBlocks feToBytes_blocks (feToBytes_init x)
    ∧ runW id feToBytes_prog x = feToBytes_out (runBlocks feToBytes_blocks (feToBytes_init x)) :=
  whole_tie feToBytes_tie_init feToBytes_tie_blocks feToBytes_tie_out x

end Dos.FeProg
