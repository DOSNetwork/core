/-
C10 — the pairing code run on plain residues. The translated code is polymorphic in the base type, so it can be
instantiated at `NFp`: numbers below p with `+ − ·` followed by one `%` (no REDC, no limb carries). `res`
(Montgomery decoding, then the representative below p) preserves every operation on reduced values and is
injective there (`resHom`), so an equation between values the implemented functions take at reduced constants
holds as soon as it holds between the residues (`val12_eq_of_res`), and the kernel evaluates the latter several
times faster than the Montgomery side.
-/
import DosModel.Proofs.Bn256FinalExpConcrete

namespace Dos.Bn256

/-- representatives below p -/
def NFp : Type := Nat

namespace NFp
instance : DecidableEq NFp := inferInstanceAs (DecidableEq Nat)
-- `Nat.add`, `Nat.mod` … rather than the notation: the kernel then meets its built-in operations at once
instance : Add NFp := ⟨fun a b => Nat.mod (Nat.add a b) Gen.Bn256.P⟩
instance : Sub NFp := ⟨fun a b => Nat.mod (Nat.add a (Nat.sub Gen.Bn256.P b)) Gen.Bn256.P⟩
instance : Neg NFp := ⟨fun a => Nat.mod (Nat.sub Gen.Bn256.P a) Gen.Bn256.P⟩
instance : Mul NFp := ⟨fun a b => Nat.mod (Nat.mul a b) Gen.Bn256.P⟩
instance : Zero NFp := ⟨(0 : Nat)⟩
instance : One NFp := ⟨(1 : Nat)⟩
instance : Sq NFp := ⟨fun a => a * a⟩
/-- a^(p−2), square-and-multiply over the 254 bits of p − 2 -/
instance : Inv NFp :=
  ⟨fun a => (List.range 254).reverse.foldl
    (fun s i => if (Gen.Bn256.P - 2).testBit i then s * s * a else s * s) 1⟩
end NFp

/-- the representative of a field element -/
def ofZ (x : ZMod p) : NFp := x.val

theorem ofZ_mul (a b : ZMod p) : ofZ (a * b) = ofZ a * ofZ b := by
  show (a * b).val = a.val * b.val % Gen.Bn256.P
  rw [← p_eq_P, ZMod.val_mul]

theorem ofZ_inv (a : ZMod p) : ofZ a⁻¹ = (ofZ a)⁻¹ := by
  have h := Scalar.sqmul_fold a (p - 2) 254 1
  rw [one_pow, one_mul, Nat.mod_eq_of_lt (by decide), ZModFacts.pow_sub_two (by decide)] at h
  show _ = List.foldl (fun s i => if (Gen.Bn256.P - 2).testBit i then s * s * ofZ a else s * s) 1 _
  rw [← p_eq_P, ← h]
  refine (List.foldl_hom ofZ fun s i => ?_).symm
  split <;> simp only [ofZ_mul]

theorem ofZHom : OpsHom ofZ where
  map_add a b := by
    show (a + b).val = (a.val + b.val) % Gen.Bn256.P
    rw [← p_eq_P, ZMod.val_add]
  map_sub a b := by
    show (a - b).val = (a.val + (Gen.Bn256.P - b.val)) % Gen.Bn256.P
    rw [← p_eq_P, sub_eq_add_neg, ZMod.val_add, ZMod.neg_val', Nat.add_mod_mod]
  map_neg a := by
    show (-a).val = (Gen.Bn256.P - a.val) % Gen.Bn256.P
    rw [← p_eq_P, ZMod.neg_val']
  map_mul := ofZ_mul
  map_zero := ZMod.val_zero
  map_one := ZMod.val_one p
  map_inv := ofZ_inv
  map_sq a := ofZ_mul a a
  inj := ZMod.val_injective p

/-- the residue a Montgomery value stands for -/
def res (x : GFp) : NFp := Nat.mod (Nat.mul x.v GFp.rN1.v) Gen.Bn256.P

theorem ofZ_dec (x : GFp) : ofZ (dec x) = res x := by
  show ((x.v : ZMod p) * (GFp.rN1.v : ZMod p)).val = x.v * GFp.rN1.v % Gen.Bn256.P
  rw [← Nat.cast_mul, ZMod.val_natCast, p_eq_P]

def resR (x : GFpR) : NFp := res x.1

theorem resHom : OpsHom resR := by
  have e : resR = fun x => ofZ (decR x) := funext fun x => (ofZ_dec x.1).symm
  rw [e]
  exact ofZHom.comp decHom

/-- an equation between reduced gfP12 values follows from the equation between their residues -/
theorem val12_eq_of_res {x y : Fp12 GFpR} (h : Fp12.map resR x = Fp12.map resR y) : val12 x = val12 y :=
  congrArg val12 (Fp12.map_inj resHom h)

theorem val12_ne_of_res {x y : Fp12 GFpR} (h : Fp12.map resR x ≠ Fp12.map resR y) : val12 x ≠ val12 y :=
  fun e => h (congrArg _ (Fp12.map_inj valHom e))

/-- the generators as reduced values -/
def twistGenR : Jac (Fp2 GFpR) := Jac.lift2 twistGen twistGen_reduced
def curveGenR : Jac GFpR := Jac.lift curveGen curveGen_reduced
def gfP12GenR : Fp12 GFpR := lift12R gfP12Gen gfP12Gen_reduced

theorem twistGenR_val : Jac.map val2 twistGenR = twistGen := rfl
theorem curveGenR_val : Jac.map valF curveGenR = curveGen := rfl
theorem gfP12GenR_val : val12 gfP12GenR = gfP12Gen := rfl

/-! the operations that the kernel-evaluated statements (Props/C10Consts, C10Pairing, C10PairingTests, C10GT) are built
from, at values of reduced operands: read right to left they pull `val` out of a closed term -/
theorem twistMul_val (q : Jac (Fp2 GFpR)) (k : Nat) :
    Jac.twistMul (Jac.map val2 q) k = Jac.map val2 (Jac.twistMul q k) :=
  (Jac.map_twistMul (Fp2.mapHom valHom) q k).symm
theorem curveMul_val (q : Jac GFpR) (k : Nat) :
    Jac.curveMul (Jac.map valF q) k = Jac.map valF (Jac.curveMul q k) :=
  (Jac.map_curveMul valHom q k).symm
theorem twistNeg_val (q : Jac (Fp2 GFpR)) : twistNeg (Jac.map val2 q) = Jac.map val2 (Jac.neg q q.t) :=
  (Jac.map_neg (Fp2.mapHom valHom) q q.t).symm
theorem curveNeg_val (q : Jac GFpR) : curveNeg (Jac.map valF q) = Jac.map valF (Jac.neg q 0) :=
  (Jac.map_neg valHom q 0).symm
theorem exp_val (x : Fp12 GFpR) (k : Nat) : Fp12.exp (val12 x) k = val12 (Fp12.exp x k) :=
  (Fp12.map_exp valHom x k).symm
theorem conjugate_val (x : Fp12 GFpR) : Fp12.conjugate (val12 x) = val12 (Fp12.conjugate x) :=
  (Fp12.map_conjugate valHom x).symm
theorem mul_val (x y : Fp12 GFpR) : Fp12.mul (val12 x) (val12 y) = val12 (Fp12.mul x y) :=
  (Fp12.map_mul' valHom x y).symm
theorem one_val : (Fp12.one : F12) = val12 Fp12.one := (Fp12.map_one' valHom).symm

end Dos.Bn256
