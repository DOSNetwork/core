import DosModel.Proofs.DispatchInv

/-! Every event preserves the invariant. -/
namespace Dos.Dispatch
open Dos

theorem allFalse_of_pre {r : Req} (hr : RInv r) (hpre : ∀ h, allowed r.stage r.rtype h = false) :
    ∀ h, r.once h = false := by
  intro h
  cases hh : r.once h
  · rfl
  · have := hr.flags h hh; rw [hpre h] at this; simp at this

/-- a request none of whose copies has fired may go to any stage, with any nonce past the table boundary -/
theorem RInv.restage {r : Req} (hr : RInv r) (hflag : ∀ h, r.once h = false) (st : Stage) (nn : Option Nat)
    (hn : preTable st = true → nn = none) : RInv { r with stage := st, nonce := nn } :=
  ⟨hr.count, hr.vals, hr.wctx,
    fun h hh => absurd ((show r.once h = true by cases h <;> exact hh).symm.trans (hflag h)) nofun, hn⟩

theorem complete_onceT (r : Req) (h : Holder) (v : Res) (w : Bool) (hne : h ≠ .table) :
    (r.complete h v w).onceT = r.onceT := by
  have := complete_once r h v w .table
  simp only [Req.once] at this
  rw [this]; simp [hne]

/-- a change of the connection record that keeps the counter and only drops table entries, or of `feed` / `wire` -/
theorem Inv.frame {s s' : Sys} (hs : Inv s) (hr : s'.reqs = s.reqs) (hn : s'.n = s.n)
    (hx : s'.conn.next = s.conn.next) (hp : ∀ e, e ∈ s'.conn.pending → e ∈ s.conn.pending) : Inv s' := by
  obtain ⟨n, reqs, conn, _, _⟩ := s'
  cases hr; cases hn
  refine ⟨⟨hs.core.req, hs.core.absent, fun i k h => ?_, hs.core.uniq⟩, fun k i h => ?_⟩
  · show k < conn.next; rw [hx]; exact hs.core.bound i k h
  · show k < conn.next ∧ _; rw [hx]; exact hs.pend k i (hp _ h)

/-- moving a request from a stage that allows no completion at all to another pre-table stage -/
theorem Inv.move {s : Sys} (hs : Inv s) (i : Nat) {st0 : Stage} (st : Stage) (hst : (s.reqs i).stage = st0)
    (hpre : ∀ t h, allowed st0 t h = false) (hp0 : preTable st0 = true) (hp : preTable st = true)
    (hex : st0 ≠ .absent) :
    Inv (s.upd i (fun r => { r with stage := st })) := by
  subst hst
  apply hs.upd i _ _ rfl rfl _ rfl (hs.core.lt_of_stage hex)
  · apply stage_change (hs.core.req i)
    · intro h hh; rw [hpre] at hh; cases hh
    · intro _; exact hp0
  · show preTable st = preTable (s.reqs i).stage
    rw [hp0, hp]

/-- move to a stage and complete on a holder other than the table -/
theorem Inv.moveComplete {s : Sys} (hs : Inv s) (i : Nat) (st : Stage) (h : Holder) (v : Res) (w : Bool)
    (hstage : ∀ h', allowed (s.reqs i).stage (s.reqs i).rtype h' = true → allowed st (s.reqs i).rtype h' = true)
    (hal : allowed st (s.reqs i).rtype h = true)
    (hside : preTable (s.reqs i).stage = preTable st)
    (hne : h ≠ .table)
    (hex : (s.reqs i).stage ≠ .absent) :
    Inv (s.upd i (fun r => ({ r with stage := st }).complete h v w)) := by
  apply hs.upd i _ _ _ _ _ _ (hs.core.lt_of_stage hex)
  · apply complete_inv
    · apply stage_change (hs.core.req i)
      · exact hstage
      · intro hp; rw [hside]; exact hp
    · exact hal
  · simp
  · simp
  · simp [hside]
  · rw [complete_onceT _ _ _ _ hne]

/-- dispatch takes a send-type request from peerSend: nonce `next`, table entry -/
theorem Inv.register {s : Sys} (hs : Inv s) (i : Nat) (st : Stage)
    (hst : (s.reqs i).stage = .queued) (hty : (s.reqs i).rtype = .send) (hpt : preTable st = false) :
    Inv { s.upd i (fun r => { r with stage := st, nonce := some s.conn.next }) with
          conn := { s.conn with next := s.conn.next + 1, pending := (s.conn.next, i) :: s.conn.pending } } := by
  have hc := hs.core
  have hflag := allFalse_of_pre (hc.req i) (by intro h; rw [hst]; cases h <;> rfl)
  have hR : RInv { s.reqs i with stage := st, nonce := some s.conn.next } :=
    (hc.req i).restage hflag st _ (by rw [hpt]; nofun)
  have hreq : ∀ j, ({ s.upd i (fun r => { r with stage := st, nonce := some s.conn.next }) with
          conn := { s.conn with next := s.conn.next + 1, pending := (s.conn.next, i) :: s.conn.pending } } : Sys).reqs j
      = if j = i then { s.reqs j with stage := st, nonce := some s.conn.next } else s.reqs j := fun _ => rfl
  refine ⟨⟨?_, ?_, ?_, ?_⟩, ?_⟩
  · intro j; rw [hreq]; split
    · rename_i hj; subst hj; exact hR
    · exact hc.req j
  · intro j hj; rw [hreq]
    have : j ≠ i := by
      intro e; subst e
      have := hc.absent _ hj; rw [this] at hst; simp at hst
    simp only [this, if_false]; exact hc.absent j hj
  · intro j k h
    rw [hreq] at h
    show k < s.conn.next + 1
    split at h
    · injection h with h; omega
    · exact Nat.lt_succ_of_lt (hc.bound j k h)
  · intro j j' k h h'
    rw [hreq] at h h'
    split at h <;> split at h'
    · rename_i a b; rw [a, b]
    · injection h with h; subst h
      have := hc.bound j' _ h'; omega
    · injection h' with h'; subst h'
      have := hc.bound j _ h; omega
    · exact hc.uniq j j' k h h'
  · intro k j hkj
    change (k, j) ∈ (s.conn.next, i) :: s.conn.pending at hkj
    rw [hreq]
    show k < s.conn.next + 1 ∧ _
    rcases List.mem_cons.mp hkj with h | h
    · injection h with hk hj; subst hk; subst hj
      simp only [if_true]
      exact ⟨Nat.lt_succ_self _, by simp, hty, hpt, hflag .table⟩
    · have hp := hs.pend k j h
      have hj : j ≠ i := by
        intro e; subst e
        have := hs.pend_taken h; rw [hst] at this; simp [preTable] at this
      simp only [hj, if_false]
      exact ⟨Nat.lt_succ_of_lt hp.1, hp.2.1, hp.2.2.1, hp.2.2.2⟩

/-- dispatch takes a reply-type request from peerSend: forwarded, not registered -/
theorem Inv.forwardReply {s : Sys} (hs : Inv s) (i : Nat) (st : Stage)
    (hst : (s.reqs i).stage = .queued) (hpt : preTable st = false) :
    Inv (s.upd i (fun r => { r with stage := st })) := by
  have hc := hs.core
  have hflag := allFalse_of_pre (hc.req i) (by intro h; rw [hst]; cases h <;> rfl)
  have hnotpend : ∀ k, (k, i) ∉ s.conn.pending := by
    intro k hk
    have := hs.pend_taken hk; rw [hst] at this; simp [preTable] at this
  have hR : RInv { s.reqs i with stage := st } := (hc.req i).restage hflag st _ (by rw [hpt]; nofun)
  refine ⟨hc.upd i _ hR rfl (hc.lt_of_stage (by rw [hst]; simp)), ?_⟩
  intro k j hkj
  have hp := hs.pend k j hkj
  have hj : j ≠ i := by intro e; subst e; exact hnotpend k hkj
  rw [upd_reqs_other _ _ _ _ hj]; exact hp

theorem step_inv {s : Sys} (hs : Inv s) (e : Ev) : Inv (step s e) := by
  have hc := hs.core
  -- branches of `Model/Dispatch.step`, numbered in the order it lists them (the numbers left out: the guard fails):
  -- 1 create; 2 toHandler; 4 handlerFail; 6 toSendG; 8 sendGDrop; 10 sendGErr; 12 enqueue; dsend: 14 send-type
  -- (registered), 15 reply-type; 17 pack; reply: 21 registered but the request's context is done, 22 completes it
  -- (19 dispatch stopped, 20 unknown nonce); 24 recv; 26 cancel; 27 waiterCtx; 29 close; 31 idle; 32 ctxDone
  fun_cases step s e
  case case1 t a =>
    -- request number `s.n` comes into being: nothing refers to it yet
    have hnew : s.reqs s.n = {} := hc.absent s.n (Nat.le_refl _)
    have hc1 : Core { s with n := s.n + 1 } :=
      ⟨hc.req, fun i hi => hc.absent i (Nat.le_of_succ_le hi), hc.bound, hc.uniq⟩
    refine ⟨hc1.upd s.n (fun _ => { rtype := t, arg := a, stage := .created }) ?_ (by rw [hnew]) (Nat.lt_succ_self _), ?_⟩
    · constructor <;> simp [preTable]
      intro h; cases h <;> simp [Req.once]
    · intro k i hki
      have h := hs.pend k i hki
      have hne : i ≠ s.n := by
        intro e; subst e; exact absurd (hnew ▸ hs.pend_taken hki) (by decide)
      show _ ∧ (if i = s.n then _ else _ : Req).nonce = _ ∧ (if i = s.n then _ else _ : Req).rtype = _ ∧
        preTable (if i = s.n then _ else _ : Req).stage = _ ∧ (if i = s.n then _ else _ : Req).onceT = _
      simp only [hne, if_false]; exact h
  case case2 i hst => exact hs.move i (st0 := .created) .calling hst (fun _ _ => rfl) rfl rfl nofun
  case case4 i win hst =>
    exact hs.moveComplete i .failed .handler _ _
      (by intro h hh; rw [hst] at hh; cases hh)
      (by cases (s.reqs i).rtype <;> rfl) (by rw [hst]; rfl) nofun (by rw [hst]; nofun)
  case case6 i hst => exact hs.move i (st0 := .calling) .sendG hst (fun _ _ => rfl) rfl rfl nofun
  case case8 i hst => exact hs.move i .dropped hst.1 (fun _ _ => rfl) rfl rfl nofun
  case case10 i win hst =>
    exact hs.moveComplete i .sendErr .sendG _ _
      (by intro h hh; rw [hst.1] at hh; cases hh)
      (by cases (s.reqs i).rtype <;> rfl) (by rw [hst.1]; rfl) nofun (by rw [hst.1]; nofun)
  case case12 i hst => exact hs.move i (st0 := .sendG) .queued hst (fun _ _ => rfl) rfl rfl nofun
  case case14 i fwd hg st hty _ => exact hs.register i _ hg.1 hty (by cases fwd <;> rfl)
  case case15 i fwd hg st hty => exact hs.forwardReply i _ hg.1 (by cases fwd <;> rfl)
  case case17 i win hst r s1 nn =>
    have hne : (s.reqs i).stage ≠ .absent := by rw [hst]; nofun
    have key : Inv (match (s.reqs i).rtype with
        | .reply => s.upd i (fun r => ({ r with stage := .packed }).complete .pack .nilOk win)
        | .send => s.upd i (fun r => { r with stage := .packed })) := by
      split
      · rename_i hty
        exact hs.moveComplete i .packed .pack _ _
          (by intro h hh; rw [hst, hty] at hh; cases hh)
          (by rw [hty]; rfl) (by rw [hst]; rfl) nofun hne
      · rename_i hty
        apply hs.upd i _ _ rfl rfl _ rfl (hc.lt_of_stage hne)
        · apply stage_change (hc.req i)
          · intro h hh; rw [hst, hty] at hh; rw [hty]
            cases h <;> first | rfl | cases hh
          · nofun
        · rw [hst]; rfl
    exact key.frame rfl rfl rfl fun _ h => h
  case case21 k m race win _ i hl s1 _ => exact hs.frame rfl rfl rfl fun _ h => mem_erase h
  case case22 k m race win _ i hl s1 _ =>
    have hmem := lookup_mem hl
    have hs1 : Inv { s with conn := { s.conn with pending := erase s.conn.pending k } } :=
      hs.frame rfl rfl rfl fun _ h => mem_erase h
    refine ⟨hs1.core.completeTable i (.msg m) win (fun r => if race = true then { r with ctxDone := true } else r)
      (by intro r hr; split; exact ctx_change hr; exact hr)
      (by intro r; split <;> rfl) (by intro r; split <;> rfl) (by intro r; split <;> rfl)
      (hs.pend_send hmem) (hs.pend_taken hmem), ?_⟩
    intro k' j hkj
    have hpj := hs1.pend k' j hkj
    have hk' : k' ≠ k := by simpa using (List.mem_filter.mp (show (k', j) ∈ erase s.conn.pending k from hkj)).2
    have hj : j ≠ i := by
      intro e; subst e
      exact hk' (Option.some.inj ((hs1.pend_nonce hkj).symm.trans (hs.pend_nonce hmem)))
    rw [upd_reqs_other _ _ _ _ hj]; exact hpj
  case case24 | case29 | case31 => exact hs.frame rfl rfl rfl fun _ h => h
  case case26 i hst => exact hs.upd i _ (ctx_change (hc.req i)) rfl rfl rfl rfl (hc.lt_of_stage hst)
  case case27 i hg => exact hs.upd i _ (waiter_ctx (hc.req i) hg.2 hg.1) rfl rfl rfl rfl (hc.lt_of_ctx hg.2)
  case case32 win _ s1 =>
    have hI := failAll_core win s.conn.pending s hc (fun _ _ hki => ⟨hs.pend_send hki, hs.pend_taken hki⟩)
    exact ⟨⟨hI.req, hI.absent, hI.bound, hI.uniq⟩, nofun⟩
  all_goals exact hs

/-- a property of history and state that each event keeps in states satisfying the invariant holds after every history -/
theorem run_induction {P : List Ev → Sys → Prop}
    (hstep : ∀ hist s e, Inv s → P hist s → P (hist ++ [e]) (step s e)) :
    ∀ (evs hist : List Ev) (s : Sys), Inv s → P hist s → P (hist ++ evs) (run s evs) := by
  intro evs
  induction evs with
  | nil => intro hist s _ hp; rw [List.append_nil]; exact hp
  | cons e es ih =>
    intro hist s hs hp
    have := ih (hist ++ [e]) (step s e) (step_inv hs e) (hstep hist s e hs hp)
    rwa [List.append_assoc] at this

theorem run_inv (evs : List Ev) (s : Sys) (h : Inv s) : Inv (run s evs) :=
  run_induction (P := fun _ t => Inv t) (fun _ _ e hs _ => step_inv hs e) evs [] s h h

theorem run_append (s : Sys) (a b : List Ev) : run s (a ++ b) = run (run s a) b := by
  simp [run, List.foldl_append]

end Dos.Dispatch
