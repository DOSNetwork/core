/-
C20 — from the interval analysis to the ranges of the RESULT of the ref10 scalar routines.

The abstract interpreter (kernel-evaluated, `rangeCheck f_prog lens = true`) gives, for every input:
no int64 overflow in loads, limb definitions and all carry/fold blocks, and BEFORE THE LAST TWO BLOCKS (fold of
s12, last carry pass) the state `t` has 21-bit digits s0 … s11, s12 ∈ {-1, 0} and s13 … s23 = 0 (`PreTail`).
Intervals alone cannot show that the final top limb s11 is non-negative (they give s11 ∈ [-1, 2^21]); that follows
from the VALUE:  the last two blocks map the value V = D + s12·2^252 (0 ≤ D < 2^252) to exactly V - s12·ℓ
(`htail`, by `ring` on the generated blocks), which is D (s12 = 0) or D + (ℓ - 2^252) (s12 = -1), hence in [0, ℓ);
the final limbs 0 … 10 are 21-bit digits, so s11 = ⌊V'/2^231⌋ ∈ [0, 2^21] (`final_range`).
So the result is FULLY REDUCED (< ℓ), 0 ≤ s11 ≤ 2^21 < 2^25, and the byte packing does not overflow either.
-/
import DosModel.Proofs.IntervalProg
import DosModel.Proofs.Ed25519RangesTie
import DosModel.Proofs.Ed25519Bytes

set_option exponentiation.threshold 600

namespace Dos.Ed25519
open Dos Dos.IntervalProg Dos.IntervalProg.ScProg Dos.Gen.Ed25519Sc Dos.Gen.Ed25519ScProg List

/-! ### generic facts about the analysis report -/

theorem In.set_right {ρ : Env} {A : List Itv} (h : In ρ A) :
    ∀ (i : Nat) (j : Itv), Itv.mem (ρ.getD i 0) j → In ρ (A.set i j) := by
  induction h with
  | nil => intro i j _; simp
  | cons hab hl ih =>
    intro i j hm
    cases i with
    | zero => exact Forall₂.cons (by simpa using hm) hl
    | succ i => exact Forall₂.cons hab (ih i j (by simpa using hm))

theorem within_sound {ρ : Env} {A B : List Itv} {n : Nat} (h : In ρ A) (hw : within n A B = true) :
    ∀ i, i < n → Itv.mem (ρ.getD i 0) (B.getD i (0, 0)) := by
  intro i hi
  unfold within at hw
  rw [List.all_eq_true] at hw
  have hs := hw i (List.mem_range.mpr hi)
  unfold Itv.sub at hs
  rw [Bool.and_eq_true, decide_eq_true_eq, decide_eq_true_eq] at hs
  have hm := h.getD i
  exact ⟨Int.le_trans hs.1 hm.1, Int.le_trans hm.2 hs.2⟩

/-- what `analyse` establishes, for every content of the input arrays -/
theorem analyse_sound {p : ScProg} (arrs : List Bytes) {r : Report}
    (h : analyse p (arrs.map List.length) = some r) :
    SafeProg (enter p.raw.length p.nLoad (p.rawVals arrs)) p.loads
    ∧ In (loadW id p (p.rawVals arrs)) r.L
    ∧ SafeProg (enter p.nLoad p.nInit (loadW id p (p.rawVals arrs))) p.init
    ∧ SafeBlocks p.nCarry p.blocks (initW id p (loadW id p (p.rawVals arrs)))
    ∧ In (blocksW id p.nCarry (p.blocks.take (p.blocks.length - 2)) (initW id p (loadW id p (p.rawVals arrs)))) r.M
    ∧ limbsW id p (loadW id p (p.rawVals arrs))
        = blocksW id p.nCarry (p.blocks.drop (p.blocks.length - 2))
            (blocksW id p.nCarry (p.blocks.take (p.blocks.length - 2)) (initW id p (loadW id p (p.rawVals arrs))))
    ∧ In (limbsW id p (loadW id p (p.rawVals arrs))) r.F := by
  unfold analyse at h
  split at h
  · cases h
  · rename_i L hL
    split at h
    · cases h
    · rename_i I hI
      split at h
      · cases h
      · rename_i M hM
        split at h
        · cases h
        · rename_i F hF
          cases Option.some.inj h
          obtain ⟨s1, i1⟩ := absLoadsOf_sound arrs hL
          obtain ⟨s2, i2⟩ := absInit_sound i1 hI
          obtain ⟨s3, i3⟩ := absBlocks_sound _ i2 hM
          obtain ⟨s4, i4⟩ := absBlocks_sound _ i3 hF
          have e : limbsW id p (loadW id p (p.rawVals arrs))
              = blocksW id p.nCarry (p.blocks.drop (p.blocks.length - 2))
                  (blocksW id p.nCarry (p.blocks.take (p.blocks.length - 2)) (initW id p (loadW id p (p.rawVals arrs)))) := by
            rw [← blocksW_append, List.take_append_drop]; rfl
          refine ⟨s1, i1, s2, ?_, i3, e, ?_⟩
          · have := (safeBlocks_append (p.blocks.take (p.blocks.length - 2)) (p.blocks.drop (p.blocks.length - 2)) _).mpr ⟨s3, s4⟩
            rwa [List.take_append_drop] at this
          · rw [e]; exact i4

/-! ### the state before the last two blocks, and the value argument -/

/-- s0 … s11 are 21-bit digits, s12 ∈ {-1, 0}, s13 … s23 vanish -/
def PreTail (t : L24) : Prop :=
  (0 ≤ t.s0 ∧ t.s0 ≤ 2097151) ∧ (0 ≤ t.s1 ∧ t.s1 ≤ 2097151) ∧ (0 ≤ t.s2 ∧ t.s2 ≤ 2097151) ∧ (0 ≤ t.s3 ∧ t.s3 ≤ 2097151) ∧ (0 ≤ t.s4 ∧ t.s4 ≤ 2097151) ∧ (0 ≤ t.s5 ∧ t.s5 ≤ 2097151) ∧ (0 ≤ t.s6 ∧ t.s6 ≤ 2097151) ∧ (0 ≤ t.s7 ∧ t.s7 ≤ 2097151) ∧ (0 ≤ t.s8 ∧ t.s8 ≤ 2097151) ∧ (0 ≤ t.s9 ∧ t.s9 ≤ 2097151) ∧ (0 ≤ t.s10 ∧ t.s10 ≤ 2097151) ∧ (0 ≤ t.s11 ∧ t.s11 ≤ 2097151) ∧ (-1 ≤ t.s12 ∧ t.s12 ≤ 0) ∧ t.s13 = 0 ∧ t.s14 = 0 ∧ t.s15 = 0 ∧ t.s16 = 0 ∧ t.s17 = 0 ∧ t.s18 = 0 ∧ t.s19 = 0 ∧ t.s20 = 0 ∧ t.s21 = 0 ∧ t.s22 = 0 ∧ t.s23 = 0

theorem preTail_of {m : Env} {M : List Itv} (hin : In m M) (hw : within 24 M tailPre = true) : PreTail (toL24 m) := by
  have h := within_sound hin hw
  exact ⟨h 0 (by decide), h 1 (by decide), h 2 (by decide), h 3 (by decide), h 4 (by decide), h 5 (by decide), h 6 (by decide), h 7 (by decide), h 8 (by decide), h 9 (by decide), h 10 (by decide), h 11 (by decide), h 12 (by decide), Int.le_antisymm (h 13 (by decide)).2 (h 13 (by decide)).1, Int.le_antisymm (h 14 (by decide)).2 (h 14 (by decide)).1, Int.le_antisymm (h 15 (by decide)).2 (h 15 (by decide)).1, Int.le_antisymm (h 16 (by decide)).2 (h 16 (by decide)).1, Int.le_antisymm (h 17 (by decide)).2 (h 17 (by decide)).1, Int.le_antisymm (h 18 (by decide)).2 (h 18 (by decide)).1, Int.le_antisymm (h 19 (by decide)).2 (h 19 (by decide)).1, Int.le_antisymm (h 20 (by decide)).2 (h 20 (by decide)).1, Int.le_antisymm (h 21 (by decide)).2 (h 21 (by decide)).1, Int.le_antisymm (h 22 (by decide)).2 (h 22 (by decide)).1, Int.le_antisymm (h 23 (by decide)).2 (h 23 (by decide)).1⟩

theorem ell_int : (ell : Int) = 7237005577332262213973186563042994240857116359379907606001950938285454250989 := by
  decide

theorem digits12_bound (x0 x1 x2 x3 x4 x5 x6 x7 x8 x9 x10 x11 : Int) (h0 : 0 ≤ x0 ∧ x0 ≤ 2097151) (h1 : 0 ≤ x1 ∧ x1 ≤ 2097151) (h2 : 0 ≤ x2 ∧ x2 ≤ 2097151) (h3 : 0 ≤ x3 ∧ x3 ≤ 2097151) (h4 : 0 ≤ x4 ∧ x4 ≤ 2097151) (h5 : 0 ≤ x5 ∧ x5 ≤ 2097151) (h6 : 0 ≤ x6 ∧ x6 ≤ 2097151) (h7 : 0 ≤ x7 ∧ x7 ≤ 2097151) (h8 : 0 ≤ x8 ∧ x8 ≤ 2097151) (h9 : 0 ≤ x9 ∧ x9 ≤ 2097151) (h10 : 0 ≤ x10 ∧ x10 ≤ 2097151) (h11 : 0 ≤ x11 ∧ x11 ≤ 2097151) :
    0 ≤ value12 x0 x1 x2 x3 x4 x5 x6 x7 x8 x9 x10 x11
    ∧ value12 x0 x1 x2 x3 x4 x5 x6 x7 x8 x9 x10 x11 ≤ 7237005577332262213973186563042994240829374041602535252466099000494570602495 := by
  simp only [value12]
  omega

/-- value of the limbs 0 … 10 -/
def low11 (x0 x1 x2 x3 x4 x5 x6 x7 x8 x9 x10 : Int) : Int :=
  x0 + x1 * 2 ^ 21 + x2 * 2 ^ 42 + x3 * 2 ^ 63 + x4 * 2 ^ 84 + x5 * 2 ^ 105
  + x6 * 2 ^ 126 + x7 * 2 ^ 147 + x8 * 2 ^ 168 + x9 * 2 ^ 189 + x10 * 2 ^ 210

theorem digits11_bound (x0 x1 x2 x3 x4 x5 x6 x7 x8 x9 x10 : Int) (h0 : 0 ≤ x0 ∧ x0 < 2097152) (h1 : 0 ≤ x1 ∧ x1 < 2097152) (h2 : 0 ≤ x2 ∧ x2 < 2097152) (h3 : 0 ≤ x3 ∧ x3 < 2097152) (h4 : 0 ≤ x4 ∧ x4 < 2097152) (h5 : 0 ≤ x5 ∧ x5 < 2097152) (h6 : 0 ≤ x6 ∧ x6 < 2097152) (h7 : 0 ≤ x7 ∧ x7 < 2097152) (h8 : 0 ≤ x8 ∧ x8 < 2097152) (h9 : 0 ≤ x9 ∧ x9 < 2097152) (h10 : 0 ≤ x10 ∧ x10 < 2097152) :
    0 ≤ low11 x0 x1 x2 x3 x4 x5 x6 x7 x8 x9 x10
    ∧ low11 x0 x1 x2 x3 x4 x5 x6 x7 x8 x9 x10 ≤ 3450873173395281893717377931138512726225554486085193277581262111899647 := by
  simp only [low11]
  omega

/-- **the value argument**: from `PreTail` before the last two blocks, the exact value they produce, and the digit
shape of the result: the result is in [0, ℓ) and its top limb in [0, 2^21] -/
theorem final_range (t r : L24) (ht : PreTail t) (hv : value r = value t - t.s12 * (ell : Int))
    (hd : Digits11 r) (hz : HiZero r) :
    0 ≤ r.s11 ∧ r.s11 ≤ 2097152 ∧ 0 ≤ value r ∧ value r < (ell : Int) := by
  obtain ⟨h0, h1, h2, h3, h4, h5, h6, h7, h8, h9, h10, h11, h12, z13, z14, z15, z16, z17, z18, z19, z20, z21, z22, z23⟩ := ht
  have hD := digits12_bound t.s0 t.s1 t.s2 t.s3 t.s4 t.s5 t.s6 t.s7 t.s8 t.s9 t.s10 t.s11 h0 h1 h2 h3 h4 h5 h6 h7 h8 h9 h10 h11
  have hvt : value t = value12 t.s0 t.s1 t.s2 t.s3 t.s4 t.s5 t.s6 t.s7 t.s8 t.s9 t.s10 t.s11 + t.s12 * 2 ^ 252 := by
    simp only [value, value12, z13, z14, z15, z16, z17, z18, z19, z20, z21, z22, z23]
    ring
  have hvr := value_of_hiZero r hz
  obtain ⟨d0, d1, d2, d3, d4, d5, d6, d7, d8, d9, d10⟩ := hd
  have hlow := digits11_bound r.s0 r.s1 r.s2 r.s3 r.s4 r.s5 r.s6 r.s7 r.s8 r.s9 r.s10 d0 d1 d2 d3 d4 d5 d6 d7 d8 d9 d10
  have hsplit : value12 r.s0 r.s1 r.s2 r.s3 r.s4 r.s5 r.s6 r.s7 r.s8 r.s9 r.s10 r.s11
      = low11 r.s0 r.s1 r.s2 r.s3 r.s4 r.s5 r.s6 r.s7 r.s8 r.s9 r.s10 + r.s11 * 2 ^ 231 := by
    simp only [value12, low11]
  rw [hvt] at hv
  rw [hvr, hsplit] at hv
  rw [hvr, hsplit, ell_int]
  rw [ell_int] at hv
  generalize value12 t.s0 t.s1 t.s2 t.s3 t.s4 t.s5 t.s6 t.s7 t.s8 t.s9 t.s10 t.s11 = D at *
  generalize low11 r.s0 r.s1 r.s2 r.s3 r.s4 r.s5 r.s6 r.s7 r.s8 r.s9 r.s10 = lo at *
  omega

/-! ### one routine: everything the check gives -/

/-- For a routine whose data `p` is tied block by block to the generated block functions `fs`, whose last two
blocks change the value by exactly `-s12·ℓ`, and whose result has digit shape: if the kernel-evaluated
`rangeCheck` succeeds for the lengths of the input arrays, then nothing overflows anywhere (`SafeFrom`), the result
is in [0, ℓ) and its top limb in [0, 2^21]. -/
theorem routine_ranges {p : ScProg} {fs : List (Shr → L24 → L24)}
    (htie : Forall₂ (BlockTie p.nCarry) fs p.blocks)
    (htail : ∀ st : L24, value (runBlocks shrI (fs.drop (fs.length - 2)) st) = value st - st.s12 * (ell : Int))
    (arrs : List Bytes) (hchk : rangeCheck p (arrs.map List.length) = true)
    (hd : Digits11 (toL24 (limbsW id p (loadW id p (p.rawVals arrs)))))
    (hz : HiZero (toL24 (limbsW id p (loadW id p (p.rawVals arrs))))) :
    p.SafeFrom (p.rawVals arrs)
    ∧ 0 ≤ (toL24 (limbsW id p (loadW id p (p.rawVals arrs)))).s11
    ∧ (toL24 (limbsW id p (loadW id p (p.rawVals arrs)))).s11 ≤ 2097152
    ∧ 0 ≤ value (toL24 (limbsW id p (loadW id p (p.rawVals arrs))))
    ∧ value (toL24 (limbsW id p (loadW id p (p.rawVals arrs)))) < (ell : Int) := by
  unfold rangeCheck at hchk
  split at hchk
  · cases hchk
  · rename_i r hr
    rw [Bool.and_eq_true] at hchk
    obtain ⟨hw, hst⟩ := hchk
    obtain ⟨s1, _, s2, s3, iM, e, iF⟩ := analyse_sound arrs hr
    have hpre := preTail_of iM hw
    have hlen : fs.length = p.blocks.length := htie.length_eq
    have hval : toL24 (limbsW id p (loadW id p (p.rawVals arrs)))
        = runBlocks shrI (fs.drop (fs.length - 2))
            (toL24 (blocksW id p.nCarry (p.blocks.take (p.blocks.length - 2)) (initW id p (loadW id p (p.rawVals arrs))))) := by
      rw [e, hlen]
      exact blocks_tie (forall₂_drop _ htie) _
    have hv := htail (toL24 (blocksW id p.nCarry (p.blocks.take (p.blocks.length - 2)) (initW id p (loadW id p (p.rawVals arrs)))))
    rw [← hval] at hv
    obtain ⟨r0, r1, r2, r3⟩ := final_range _ _ hpre hv hd hz
    refine ⟨⟨s1, s2, s3, ?_⟩, r0, r1, r2, r3⟩
    -- the packing ORs shifted limbs, which the analysis bounds for non-negative operands only: the interval of s11
    -- alone starts at -1, so its lower end is replaced by the 0 that the value argument has just given
    have iF' : In (limbsW id p (loadW id p (p.rawVals arrs))) (finalItv r.F) := by
      unfold finalItv
      apply In.set_right iF
      exact ⟨r0, (iF.getD 11).2⟩
    exact absStore_sound iF' hst

end Dos.Ed25519
