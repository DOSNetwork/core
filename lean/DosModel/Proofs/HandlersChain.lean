/-
C12 — helper lemmas for the chain-event half (`Model/HandlersChain.lean`). Core Lean only.
-/
import DosModel.Model.HandlersChain
import DosModel.Proofs.Handlers

namespace Dos.Handlers
open Dos

@[simp] theorem all_bootReq : Cfg.all.bootReq = true := rfl
@[simp] theorem all_secNil : Cfg.all.secNil = true := rfl
@[simp] theorem all_feCast : Cfg.all.feCast = true := rfl
@[simp] theorem all_evFlow : Cfg.all.evFlow = true := rfl
@[simp] theorem all_groupInfoIds' : Cfg.all.groupInfoIds = true := rfl
@[simp] theorem all_crRand' : Cfg.all.crRand = true := rfl

/-- the loop is alive and its `randSeed` is a number -/
def EvInv (st : EvSt) : Prop := st.alive = true ∧ st.seed.isSome = true

theorem translate_wf (ev : RawEv) (p : Payload) (h : translate Cfg.all ev = some p) : p.wf = true := by
  cases ev <;> simp [translate] at h <;> subst h <;> simp [Payload.wf]

theorem isMember_all (st : EvSt) (gid : BigF) : ∃ b, isMember Cfg.all st gid = .ok b := by
  unfold isMember
  cases findGroup gid st.groups with
  | none => exact ⟨false, rfl⟩
  | some g => cases g.hasSec <;> simp

theorem choseSubmitter_pos (r k : Nat) (hk : k ≠ 0) : ∃ i, choseSubmitter Cfg.all r k = .ok i := by
  simp [choseSubmitter, hk]

theorem handleQueryPre_eq (rid last : Nat) (seed : Option BigF) (hs : seed ≠ some none) (nids : Nat) (hn : nids ≠ 0) (kind : String) :
    handleQueryPre Cfg.all (some rid) (some last) seed nids kind = .ok ("query " ++ kind) := by
  obtain ⟨i, hi⟩ := choseSubmitter_pos last nids hn
  unfold handleQueryPre
  cases seed with
  | none => simp [hi]
  | some s => cases s with
    | none => exact absurd rfl hs
    | some v => simp [hi]

theorem queryEvent_total (st : EvSt) (inv : EvInv st) (rid last : Nat) (seed : Option BigF) (hs : seed ≠ some none) (gid : BigF) (kind : String) :
    EvInv (queryEvent Cfg.all st (some rid) (some last) seed gid kind).1 ∧
    (queryEvent Cfg.all st (some rid) (some last) seed gid kind).2.isPanic = false ∧
    (queryEvent Cfg.all st (some rid) (some last) seed gid kind).1.nWs = st.nWs := by
  unfold queryEvent
  obtain ⟨b, hb⟩ := isMember_all { st with seed := some last } gid
  simp only [hb]
  cases b with
  | false => exact ⟨⟨inv.1, rfl⟩, rfl, rfl⟩
  | true =>
    simp only [all_groupInfoIds', Bool.true_and]
    by_cases hn : ((findGroup gid st.groups).map (·.nids)).getD 0 = 0
    · simp [hn]; exact ⟨inv.1, rfl⟩
    · simp only [hn, decide_false, Bool.false_eq_true, if_false]
      rw [handleQueryPre_eq rid last seed hs _ hn kind]
      exact ⟨⟨inv.1, rfl⟩, rfl, rfl⟩

theorem handleCR_eq (seed start cdur rdur : Nat) : handleCR Cfg.all (some seed) (some start) (some cdur) (some rdur) = .ok "cr" := by
  unfold handleCR handleCRSeed
  simp only [all_crRand', Bool.true_and, Int.ofNat_eq_natCast]
  by_cases h : ((seed : Int) < 1) <;> simp [h]

/-- one delivered payload without nil fields: no panic site, the loop stays alive with a numeric seed -/
theorem payloadStep_total (me : Nat) (st : EvSt) (inv : EvInv st) (p : Payload) (hw : p.wf = true) :
    EvInv (payloadStep Cfg.all me st p).1 ∧ (payloadStep Cfg.all me st p).2.isPanic = false ∧
    (payloadStep Cfg.all me st p).1.nWs = st.nWs := by
  cases p with
  | grouping gid ids =>
    simp only [payloadStep]
    cases hm : ids.contains me with
    | true =>
      simp only [Bool.not_true, Bool.false_eq_true, if_false]
      cases findGroup gid st.groups with
      | none => exact ⟨inv, rfl, rfl⟩
      | some g => exact ⟨inv, rfl, rfl⟩
    | false => simp only [Bool.not_false, if_true]; exact ⟨inv, rfl, trivial⟩
  | dissolve gid =>
    simp only [payloadStep]
    obtain ⟨b, hb⟩ := isMember_all st gid
    rw [hb]; cases b <;> exact ⟨inv, rfl, rfl⟩
  | keyAccepted gid =>
    simp only [payloadStep]
    obtain ⟨b, hb⟩ := isMember_all st gid
    rw [hb]; cases b <;> exact ⟨inv, rfl, rfl⟩
  | updateRandom last gid =>
    cases last with
    | none => simp [Payload.wf] at hw
    | some l => exact queryEvent_total st inv l l none (by simp) gid "sys"
  | userRandom rid last seed gid =>
    cases rid with
    | none => simp [Payload.wf] at hw
    | some r => cases last with
      | none => simp [Payload.wf] at hw
      | some l => cases seed with
        | none => simp [Payload.wf] at hw
        | some s => exact queryEvent_total st inv r l (some (some s)) (by simp) gid "user"
  | url qid rand gid =>
    cases qid with
    | none => simp [Payload.wf] at hw
    | some q => cases rand with
      | none => simp [Payload.wf] at hw
      | some r => exact queryEvent_total st inv q r none (by simp) gid "url"
  | startCR cid start cdur rdur =>
    cases start with
    | none => simp [Payload.wf] at hw
    | some s => cases cdur with
      | none => simp [Payload.wf] at hw
      | some cd => cases rdur with
        | none => simp [Payload.wf] at hw
        | some rd =>
          obtain ⟨sd, hsd⟩ := Option.isSome_iff_exists.mp inv.2
          simp only [payloadStep, hsd]
          rw [handleCR_eq]
          exact ⟨inv, rfl, rfl⟩
  | other => exact ⟨inv, rfl, rfl⟩

theorem chainStep_total (me : Nat) (st : EvSt) (inv : EvInv st) (i : ChainIn) (hi : i.fromChain st.nWs = true) :
    EvInv (chainStep Cfg.all me st i).1 ∧ (chainStep Cfg.all me st i).2.isPanic = false ∧
    (chainStep Cfg.all me st i).1.nWs = st.nWs := by
  cases i with
  | junk =>
    simp only [chainStep, inv.1, Bool.not_true, Bool.false_eq_true, if_false, all_feCast, if_true]
    exact ⟨inv, rfl, trivial⟩
  | log ev removed ident =>
    have ha : (!st.alive) = false := by rw [inv.1]; rfl
    simp only [chainStep, ha, Bool.false_eq_true, if_false]
    cases ht : translate Cfg.all ev with
    | none => exact ⟨inv, rfl, rfl⟩
    | some p =>
      cases removed with
      | true => exact ⟨inv, rfl, rfl⟩
      | false =>
        cases hv : st.visited.contains ident with
        | true => simp only [Bool.false_eq_true, if_false, if_true]; exact ⟨inv, rfl, trivial⟩
        | false =>
          simp only [Bool.false_eq_true, if_false]
          exact payloadStep_total me { st with visited := ident :: st.visited } inv p (translate_wf ev p ht)
  | direct p =>
    simp only [chainStep, inv.1, Bool.not_true, Bool.false_eq_true, if_false]
    exact payloadStep_total me st inv p (by simpa [ChainIn.fromChain] using hi)
  | errv e =>
    cases e with
    | plain =>
      simp only [chainStep, inv.1, Bool.not_true, Bool.false_eq_true, if_false]
      exact ⟨inv, rfl, trivial⟩
    | onchain idx =>
      have : idx < st.nWs := by simpa [ChainIn.fromChain] using hi
      simp only [chainStep, inv.1, Bool.not_true, Bool.false_eq_true, if_false, this, if_true]
      exact ⟨inv, rfl, trivial⟩
  | keygenDone gid =>
    have ha : (!st.alive) = false := by rw [inv.1]; rfl
    simp only [chainStep, ha, Bool.false_eq_true, if_false]
    exact ⟨inv, rfl, trivial⟩

theorem chainRun_total (me : Nat) (ins : List ChainIn) (st : EvSt) (inv : EvInv st) (hi : ∀ i ∈ ins, i.fromChain st.nWs = true) :
    EvInv (chainRun Cfg.all me st ins).1 ∧ (∀ o ∈ (chainRun Cfg.all me st ins).2, o.isPanic = false) := by
  rw [chainRun_eq]
  have := runLoop_inv _ (fun s => EvInv s ∧ s.nWs = st.nWs) (·.isPanic = false) ins
    (fun s i hm h =>
      have st1 := chainStep_total me s h.1 i (h.2 ▸ hi i hm)
      ⟨⟨st1.1, st1.2.2.trans h.2⟩, st1.2.1⟩) st ⟨inv, rfl⟩
  exact ⟨this.1.1, this.2⟩

/-- the next request for a group whose key the node holds is served: a submitter is chosen and the query pipeline starts -/
theorem serves_query (me : Nat) (st : EvSt) (inv : EvInv st) (g q r ident : Nat) (rec : GroupRec)
    (hg : findGroup (some g) st.groups = some rec) (hsec : rec.hasSec = true) (hn : rec.nids ≠ 0)
    (hfresh : st.visited.contains ident = false) :
    (chainStep Cfg.all me st (.log (.url q r g) false ident)).2 = .ok "query url" := by
  unfold chainStep
  simp only [inv.1, Bool.not_true, Bool.false_eq_true, if_false, translate, all_evFlow, if_true, hfresh, payloadStep]
  unfold queryEvent isMember
  simp only [hg, hsec, if_true, all_groupInfoIds', Bool.true_and, Option.map_some, Option.getD_some, hn, decide_false,
    Bool.false_eq_true, if_false]
  rw [handleQueryPre_eq q r none (by simp) _ hn "url"]
  rfl

/-- the next grouping event that names this node and a group id not in the table starts a key generation -/
theorem serves_grouping (me : Nat) (st : EvSt) (inv : EvInv st) (g ident : Nat) (ids : List Nat)
    (hme : ids.contains me = true) (hnew : findGroup (some g) st.groups = none) (hfresh : st.visited.contains ident = false) :
    (chainStep Cfg.all me st (.log (.grouping g ids) false ident)).2 = .ok s!"grouping {ids.length}" := by
  unfold chainStep
  simp only [inv.1, Bool.not_true, Bool.false_eq_true, if_false, translate, all_evFlow, if_true, hfresh, payloadStep, hme, hnew]

theorem getBootIps_total (u f : Bool) (k : Nat) : (getBootIps Cfg.all u f k).isPanic = false := by
  unfold getBootIps
  cases u <;> cases f <;> simp [Out.isPanic]

end Dos.Handlers
