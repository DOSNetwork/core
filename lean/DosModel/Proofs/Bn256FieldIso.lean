/-
C10 — gfP with the operations the assembly computes IS the prime field: `dec x = x · R⁻¹` maps
reduced limb values to `ZMod p` (a field, `Dos.Prime.P_prime`) bijectively and carries gfpAdd,
gfpSub, gfpNeg, gfpMul, newGFp(1), gfP{0} to +, −, unary −, ·, 1, 0 (and gfP.Invert to ⁻¹: Proofs/MontInvert.lean).
Together with the theorems about the transcribed tower / curve code over ANY field this is the
algebraic content of "the Go code computes in F_p, F_p², …, E(F_p), E'(F_p²)".
-/
import Mathlib.Data.ZMod.Basic
import Mathlib.FieldTheory.Finite.Basic
import DosModel.Proofs.MontRedc
import DosModel.Model.Bn256Field
import DosModel.Proofs.Bn256Prime
import DosModel.Proofs.Bn256Tower2
import DosModel.Proofs.ZModFacts
import Mathlib.NumberTheory.LegendreSymbol.Basic

namespace Dos.Bn256
open Dos.Mont

theorem p_eq_P : p = Gen.Bn256.P := by decide
theorem p_prime : Nat.Prime p := p_eq_P ▸ Dos.Prime.P_prime
instance : Fact (Nat.Prime p) := ⟨p_prime⟩

/-- Montgomery decoding into the prime field -/
def dec (x : GFp) : ZMod p := (x.v : ZMod p) * (GFp.rN1.v : ZMod p)

theorem R_rinv : ((R : ℕ) : ZMod p) * (GFp.rN1.v : ZMod p) = 1 := by
  have h : R * GFp.rN1.v ≡ 1 [MOD p] := by decide
  have := (ZMod.natCast_eq_natCast_iff _ _ _).mpr h
  simpa using this

theorem rinv_ne_zero : (GFp.rN1.v : ZMod p) ≠ 0 := by
  intro h; have := R_rinv; rw [h, mul_zero] at this; exact zero_ne_one this

theorem dec_injective (a b : GFp) (ha : a.v < p) (hb : b.v < p) (h : dec a = dec b) : a = b := by
  have h2 := (ZModFacts.natCast_inj ha hb).1 (mul_right_cancel₀ rinv_ne_zero h)
  cases a; cases b; simp_all

theorem dec_add (a b : GFp) (ha : a.v < p) (hb : b.v < p) :
    (a + b).v < p ∧ dec (a + b) = dec a + dec b := by
  have hpR : p < R := by decide
  have e : (a + b).v = (a.v + b.v) % p := addM_correct p a.v b.v hpR ha hb
  refine ⟨by rw [e]; exact Nat.mod_lt _ p_prime.pos, ?_⟩
  simp only [dec, e, ZMod.natCast_mod, Nat.cast_add]; ring

theorem dec_sub (a b : GFp) (ha : a.v < p) (hb : b.v < p) :
    (a - b).v < p ∧ dec (a - b) = dec a - dec b := by
  have hpR : p < R := by decide
  have e : (a - b).v = (a.v + (p - b.v)) % p := subM_correct p a.v b.v hpR ha hb
  refine ⟨by rw [e]; exact Nat.mod_lt _ p_prime.pos, ?_⟩
  simp only [dec, e, ZMod.natCast_mod, Nat.cast_add, Nat.cast_sub (Nat.le_of_lt hb), ZMod.natCast_self]; ring

theorem dec_neg (a : GFp) (ha : a.v < p) : (-a).v < p ∧ dec (-a) = -dec a := by
  have hpR : p < R := by decide
  have e : (-a).v = (p - a.v) % p := negM_correct p a.v hpR ha
  refine ⟨by rw [e]; exact Nat.mod_lt _ p_prime.pos, ?_⟩
  simp only [dec, e, ZMod.natCast_mod, Nat.cast_sub (Nat.le_of_lt ha), ZMod.natCast_self]; ring

theorem dec_mul (a b : GFp) (ha : a.v < p) (hb : b.v < p) :
    (a * b).v < p ∧ dec (a * b) = dec a * dec b := by
  have hnp : (np * p + 1) % R = 0 := by decide
  have hpR : p < R := by decide
  have hr : R * GFp.rN1.v ≡ 1 [MOD p] := by decide
  obtain ⟨h1, h2⟩ := mulM_red p np hnp hpR GFp.rN1.v hr a.v b.v ha hb
  refine ⟨h1, ?_⟩
  have := (ZMod.natCast_eq_natCast_iff _ _ _).mpr h2
  simp only [dec]
  push_cast at this
  exact this

theorem dec_zero : dec 0 = 0 := by simp [dec, show (0 : GFp).v = 0 from rfl]

/-- a Montgomery value decodes to the number n as soon as x·R⁻¹ ≡ n (mod p) — a `decide` for a literal -/
theorem dec_eq_natCast (x : GFp) (n : Nat) (h : x.v * GFp.rN1.v ≡ n [MOD p]) : dec x = n := by
  simpa [dec] using (ZMod.natCast_eq_natCast_iff _ _ _).mpr h

theorem dec_one : (1 : GFp).v < p ∧ dec 1 = 1 :=
  ⟨by decide, by simpa using dec_eq_natCast 1 1 (by decide)⟩

/-- p ≡ 3 (mod 4): −1 is not a square in the base field, so gfP2 = F_p[i]/(i²+1) is a field -/
theorem p_mod_four : p % 4 = 3 := by decide

theorem fp2_norm_ne_zero (a : Fp2 (ZMod p)) (ha : a ≠ 0) : a.x * a.x + a.y * a.y ≠ 0 := by
  intro h
  by_cases hy : a.y = 0
  · have hx : a.x = 0 := by
      rw [hy, mul_zero, add_zero] at h
      exact mul_self_eq_zero.mp h
    apply ha
    exact Fp2.ext' hx hy
  · have hxy : a.x ^ 2 = -a.y ^ 2 := by rw [pow_two, pow_two]; exact eq_neg_of_add_eq_zero_left h
    exact ZMod.mod_four_ne_three_of_sq_eq_neg_sq' hy hxy p_mod_four

/-- over the base field of bn256, gfP2.Invert inverts EVERY non-zero element -/
theorem fp2_invert_all (a : Fp2 (ZMod p)) (ha : a ≠ 0) : a * Fp2.invert a = 1 :=
  Fp2.mul_invert a (fp2_norm_ne_zero a ha)

end Dos.Bn256
