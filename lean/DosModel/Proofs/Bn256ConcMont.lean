/-
Montgomery reduction on numbers (`Model/Bn256.lean` `redc`, what `gfpMul` computes) is `Mont.redc`
of Model/Mont.lean at the constants of the code, so `Mont.redc_correct` applies: the result is
always below p, and every coordinate `MarshalBinary` emits (a `montDecode` output) is canonical.
-/
import DosModel.Model.Codec
import DosModel.Proofs.Codec
import DosModel.Proofs.MontRedc

namespace Dos.Bn256
open Dos Dos.Codec Dos.CodecBytes

theorem p_lt_R : p < R := by decide

/-- `np` is the negated inverse of p modulo 2^256 -/
theorem np_spec : (np * p + 1) % Mont.R = 0 := by decide

/-- `redc T < p` for EVERY `T < R·p` — in particular for `T = a·b` with `a < 2^256` arbitrary
(unreduced limbs) and `b < p`, and for `T = a·1` (`montDecode`) -/
theorem redc_lt (T : Nat) (h : T < R * p) : redc T < p := (Mont.redc_correct p np T np_spec h).1

/-- every limb quadruple (any number below 2^256) decodes to a canonical coordinate -/
theorem montDecode_lt (a : Nat) (h : a < R) : montDecode a < p :=
  redc_lt _ (Nat.mul_lt_mul_of_lt_of_le h Dos.Codec.p_pos Dos.Codec.p_pos)

/-- what `UnmarshalBinary` stores (`montEncode` of any 256-bit number read) is a reduced limb value -/
theorem montEncode_lt (x : Nat) (h : x < R) : montEncode x < p :=
  redc_lt _ (Nat.mul_lt_mul_of_lt_of_le h (by decide : r2 ≤ p) Dos.Codec.p_pos)

end Dos.Bn256
