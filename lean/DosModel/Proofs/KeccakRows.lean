/-
`KeccakNat.round` takes the packed state apart into 25 lanes five times a round (θ three times, ρπ, χ) and packs them
again, and that is what the kernel spends a hash on.  θ and χ do the same thing in every row, so `roundRows` does them
on the five 320-bit rows at once, with a handful of operations on the whole number, and ρπ with the lane numbers worked
out: the same function (`round_eq_rows`) at a quarter of the kernel's work.  Theorems that have the kernel hash
something rewrite `keccak256` to `keccak256Rows` (or `keccakF` to `keccakFRows`) first.  Core Lean only.
-/
import DosModel.Model.KeccakNat

namespace Dos.KeccakNat
open Dos

/-! ### lanes of bitwise combinations, shifts by whole lanes and truncations -/

theorem testBit_lane (s i j : Nat) : (lane s i).testBit j = (decide (j < 64) && s.testBit (64 * i + j)) := by
  rw [lane, m64, Nat.testBit_mod_two_pow, Nat.testBit_shiftRight]

theorem lane_lt (s i : Nat) : lane s i < 2 ^ 64 := Nat.mod_lt _ (by decide)

theorem lane_xor (a b i : Nat) : lane (a ^^^ b) i = lane a i ^^^ lane b i := by
  simp only [lane, m64, Nat.shiftRight_xor_distrib, Nat.xor_mod_two_pow]

theorem lane_and (a b i : Nat) : lane (a &&& b) i = lane a i &&& lane b i := by
  simp only [lane, m64, Nat.shiftRight_and_distrib, Nat.and_mod_two_pow]

theorem lane_or (a b i : Nat) : lane (a ||| b) i = lane a i ||| lane b i := by
  simp only [lane, m64, Nat.shiftRight_or_distrib, Nat.or_mod_two_pow]

theorem lane_shr (s k i : Nat) : lane (s >>> (64 * k)) i = lane s (i + k) := by
  simp only [lane, ← Nat.shiftRight_add, Nat.mul_add, Nat.add_comm]

theorem lane_shl (s k i : Nat) : lane (s <<< (64 * k)) i = if k ≤ i then lane s (i - k) else 0 := by
  apply Nat.eq_of_testBit_eq
  intro j
  by_cases hj : j < 64
  · split
    · next h =>
      have : 64 * i + j ≥ 64 * k := by omega
      simp [testBit_lane, Nat.testBit_shiftLeft, this, show 64 * i + j - 64 * k = 64 * (i - k) + j by omega]
    · next h =>
      have : ¬ 64 * i + j ≥ 64 * k := by omega
      simp [testBit_lane, Nat.testBit_shiftLeft, this]
  · split <;> simp [testBit_lane, hj]

/-- the lowest `n` lanes -/
def low (n s : Nat) : Nat := s % 2 ^ (64 * n)

theorem low_lt (n s : Nat) : low n s < 2 ^ (64 * n) := Nat.mod_lt _ (Nat.pow_pos (by decide))

theorem lane_low (n s i : Nat) : lane (low n s) i = if i < n then lane s i else 0 := by
  apply Nat.eq_of_testBit_eq
  intro j
  by_cases hj : j < 64
  · split
    · next h =>
      have : 64 * i + j < 64 * n := by omega
      simp [low, testBit_lane, Nat.testBit_mod_two_pow, this]
    · next h =>
      have : ¬ 64 * i + j < 64 * n := by omega
      simp [low, testBit_lane, Nat.testBit_mod_two_pow, this]
  · split <;> simp [testBit_lane, hj]

theorem lane_eq_zero {d n j : Nat} (hd : d < 2 ^ (64 * n)) (hj : n ≤ j) : lane d j = 0 := by
  have := lane_low n d j
  rwa [low, Nat.mod_eq_of_lt hd, if_neg (by omega)] at this

/-- a number of `n` lanes is the packing of its lanes -/
theorem eq_pack_range : ∀ (n : Nat) (f : Nat → Nat) (X : Nat), X < 2 ^ (64 * n) → (∀ i, i < n → lane X i = f i) →
    X = pack ((List.range n).map f)
  | 0, f, X, hX, _ => by
    have : X = 0 := by simpa using hX
    subst this; rfl
  | n + 1, f, X, hX, h => by
    rw [Nat.mul_succ, Nat.pow_add, Nat.mul_comm] at hX
    have ih := eq_pack_range n (f ∘ Nat.succ) (X >>> 64)
      (by rw [Nat.shiftRight_eq_div_pow]; exact Nat.div_lt_of_lt_mul hX)
      (fun i hi => (lane_shr X 1 i).trans (h (i + 1) (by omega)))
    rw [List.range_succ_eq_map, List.map_cons, List.map_map, pack, ← ih, ← h 0 (by omega), lane, m64,
      Nat.shiftRight_eq_div_pow X 64]
    exact (Nat.mod_add_div X (2 ^ 64)).symm

theorem pack_lt : ∀ (l : List Nat) (n : Nat), l.length = n → (∀ v ∈ l, v < 2 ^ 64) → pack l < 2 ^ (64 * n)
  | [], _, rfl, _ => by decide
  | v :: l, _, rfl, h => by
    have hv := h v List.mem_cons_self
    have ih := pack_lt l _ rfl fun w hw => h w (List.mem_cons_of_mem _ hw)
    rw [pack, m64, List.length_cons, Nat.mul_succ, Nat.pow_add, Nat.mul_comm (2 ^ (64 * l.length))]
    calc v + 2 ^ 64 * pack l < 2 ^ 64 + 2 ^ 64 * pack l := by omega
      _ = 2 ^ 64 * (pack l + 1) := by rw [Nat.mul_succ, Nat.add_comm]
      _ ≤ _ := Nat.mul_le_mul_left _ ih

theorem rotl64_lt {v : Nat} (hv : v < 2 ^ 64) (r : Nat) : rotl64 v r < 2 ^ 64 := by
  unfold rotl64
  split
  · exact hv
  · exact Nat.or_lt_two_pow (Nat.mod_lt _ (by decide)) (Nat.lt_of_le_of_lt (Nat.shiftRight_le _ _) hv)

/-! ### the round on rows -/

/-- the row `d` (five lanes) in each of the first `n` rows -/
def repRows : Nat → Nat → Nat
  | 0, _ => 0
  | n + 1, d => repRows n d ||| d <<< (64 * (5 * n))

theorem lane_repRows {d : Nat} (hd : d < 2 ^ (64 * 5)) : ∀ (n i : Nat),
    lane (repRows n d) i = if i < 5 * n then lane d (i % 5) else 0
  | 0, i => by simp [repRows, lane, m64]
  | n + 1, i => by
    rw [repRows, lane_or, lane_shl, lane_repRows hd n i]
    by_cases h1 : i < 5 * n
    · rw [if_pos h1, if_neg (by omega), if_pos (by omega), Nat.or_zero]
    · rw [if_neg h1, if_pos (by omega), Nat.zero_or]
      by_cases h2 : i < 5 * (n + 1)
      · rw [if_pos h2]; congr 1; omega
      · rw [if_neg h2, lane_eq_zero hd (by omega)]

/-- every row rotated by `k` lanes: lane `(x, y)` of the result is lane `((x + k) mod 5, y)` of `b`.  Shifted down by `k`
lanes, the lanes `x < 5 - k` of each row are in place (first mask); the others come from the same row shifted up by
`5 - k` lanes (second mask). -/
def rowRot (k b : Nat) : Nat :=
  ((b >>> (64 * k)) &&& repRows 5 (2 ^ (64 * (5 - k)) - 1)) |||
  ((b <<< (64 * (5 - k))) &&& repRows 5 ((2 ^ (64 * k) - 1) <<< (64 * (5 - k))))

theorem lane_rowRot_masks : ∀ k, k < 5 → ∀ i, i < 25 →
    lane (repRows 5 (2 ^ (64 * (5 - k)) - 1)) i = (if i % 5 + k < 5 then 2 ^ 64 - 1 else 0) ∧
    lane (repRows 5 ((2 ^ (64 * k) - 1) <<< (64 * (5 - k)))) i = (if i % 5 + k < 5 then 0 else 2 ^ 64 - 1) := by
  decide +kernel

theorem lane_rowRot (k b i : Nat) (hk : k < 5) (hi : i < 25) :
    lane (rowRot k b) i = lane b ((i % 5 + k) % 5 + 5 * (i / 5)) := by
  obtain ⟨h1, h2⟩ := lane_rowRot_masks k hk i hi
  rw [rowRot, lane_or, lane_and, lane_and, h1, h2, lane_shr, lane_shl]
  by_cases h : i % 5 + k < 5
  · rw [if_pos h, if_pos h, Nat.and_zero, Nat.or_zero, Nat.and_two_pow_sub_one_of_lt_two_pow (lane_lt _ _)]
    congr 1; omega
  · rw [if_neg h, if_neg h, Nat.and_zero, Nat.zero_or, if_pos (by omega),
      Nat.and_two_pow_sub_one_of_lt_two_pow (lane_lt _ _)]
    congr 1; omega

theorem lane_ones : ∀ i, i < 25 → lane (2 ^ (64 * 25) - 1) i = 2 ^ 64 - 1 := by decide +kernel

/-- ρ and π with the lane numbers and rotation offsets worked out -/
def rhoPi (a : Nat) : Nat := pack [
    rotl64 (lane a 0) 0, rotl64 (lane a 6) 44, rotl64 (lane a 12) 43, rotl64 (lane a 18) 21, rotl64 (lane a 24) 14,
    rotl64 (lane a 3) 28, rotl64 (lane a 9) 20, rotl64 (lane a 10) 3, rotl64 (lane a 16) 45, rotl64 (lane a 22) 61,
    rotl64 (lane a 1) 1, rotl64 (lane a 7) 6, rotl64 (lane a 13) 25, rotl64 (lane a 19) 8, rotl64 (lane a 20) 18,
    rotl64 (lane a 4) 27, rotl64 (lane a 5) 36, rotl64 (lane a 11) 10, rotl64 (lane a 17) 15, rotl64 (lane a 23) 56,
    rotl64 (lane a 2) 62, rotl64 (lane a 8) 55, rotl64 (lane a 14) 39, rotl64 (lane a 15) 41, rotl64 (lane a 21) 2]

def roundRows (s rc : Nat) : Nat :=
  -- θ: the column parities are the xor of the five rows; `d` has five lanes only and is taken lane by lane
  let c : Nat := low 5 (s ^^^ s >>> (64 * 5) ^^^ s >>> (64 * 10) ^^^ s >>> (64 * 15) ^^^ s >>> (64 * 20))
  let d : Nat := pack [lane c 4 ^^^ rotl64 (lane c 1) 1, lane c 0 ^^^ rotl64 (lane c 2) 1, lane c 1 ^^^ rotl64 (lane c 3) 1,
    lane c 2 ^^^ rotl64 (lane c 4) 1, lane c 3 ^^^ rotl64 (lane c 0) 1]
  let b : Nat := rhoPi (low 25 (s ^^^ repRows 5 d))
  -- χ on all rows, then ι
  low 25 (b ^^^ ((rowRot 1 b ^^^ (2 ^ (64 * 25) - 1)) &&& rowRot 2 b)) ^^^ rc

theorem roundRows_eq (s rc : Nat) : roundRows s rc = round s rc := by
  unfold roundRows round
  extract_lets c d b c' d' a1' b' a2'
  have hc : c = c' := eq_pack_range 5 _ c (low_lt 5 _) fun x hx => by
    rw [lane_low, if_pos hx, lane_xor, lane_xor, lane_xor, lane_xor, lane_shr, lane_shr, lane_shr, lane_shr]
  have hd : d = d' := by simp only [d, hc]; rfl
  have hlt : d < 2 ^ (64 * 5) := hd ▸ pack_lt _ 5 rfl fun v hv => by
    obtain ⟨x, _, rfl⟩ := List.mem_map.1 hv
    exact Nat.xor_lt_two_pow (lane_lt _ _) (rotl64_lt (lane_lt _ _) 1)
  have ha1 : low 25 (s ^^^ repRows 5 d) = a1' := eq_pack_range 25 _ _ (low_lt 25 _) fun i hi => by
    rw [lane_low, if_pos hi, lane_xor, lane_repRows hlt, if_pos hi, hd]
  have hb : b = b' := by simp only [b, ha1]; rfl
  have ha2 : low 25 (b ^^^ ((rowRot 1 b ^^^ (2 ^ (64 * 25) - 1)) &&& rowRot 2 b)) = a2' :=
    eq_pack_range 25 _ _ (low_lt 25 _) fun i hi => by
      rw [lane_low, if_pos hi, lane_xor, lane_and, lane_xor, lane_rowRot 1 b i (by decide) hi,
        lane_rowRot 2 b i (by decide) hi, lane_ones i hi, hb]
      rfl
  rw [ha2]

theorem round_eq_rows : round = roundRows := funext fun s => funext fun rc => (roundRows_eq s rc).symm

/-! ### the hash with that round -/

/-- `absorb` with the permutation as a parameter -/
def absorbWith (F : Nat → Nat) : Nat → Nat → Bytes → Nat
  | 0, st, m => F (st ^^^ leNat (pad (m.take (rate - 1))))
  | fuel + 1, st, m =>
    if m.length < rate then F (st ^^^ leNat (pad m))
    else absorbWith F fuel (F (st ^^^ leNat (m.take rate))) (m.drop rate)

theorem absorb_eq_with : ∀ (fuel st : Nat) (m : Bytes), absorb fuel st m = absorbWith keccakF fuel st m
  | 0, _, _ => rfl
  | fuel + 1, st, m => by rw [absorb, absorbWith, absorb_eq_with fuel]

def keccakFRows (s : Nat) : Nat := roundConstants.foldl roundRows s

theorem keccakF_eq_rows : keccakF = keccakFRows := by
  funext s
  rw [keccakF, round_eq_rows, keccakFRows]

/-- `keccak256` with the rounds computed on rows: what the kernel is asked to evaluate -/
def keccak256Rows (msg : Bytes) : Bytes :=
  leBytes 32 (absorbWith keccakFRows (msg.length / rate) 0 msg % 2 ^ 256)

theorem keccak256_eq_rows : keccak256 = keccak256Rows := by
  funext msg
  rw [keccak256, absorb_eq_with, keccakF_eq_rows, keccak256Rows]

end Dos.KeccakNat
