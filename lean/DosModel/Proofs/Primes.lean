/-
Kernel-checked primality of
  p = 21888242871839275222246405745257275088696311157297823662689037894645226208583  (alt_bn128 base field)
  r = 21888242871839275222246405745257275088548364400416034343698204186575808495617  (alt_bn128 group order)
  ℓ = 2^252 + 27742317777372353535851937790883648493                                 (ed25519 group order)
  2^255 - 19                                    (ed25519 base field; the theorem is in `Proofs/Ed25519Prime.lean`)
by one table of Pratt certificates and one run of its checker (`Proofs/PrimesCore.lean`).  A row
`(q, a, [(f₁,e₁),…])` claims `∏ fᵢ^eᵢ = q-1`, `a^(q-1) ≡ 1` and `a^((q-1)/fᵢ) ≢ 1 (mod q)`; `certOk` evaluates these
by verified digit-wise exponentiation and wants every `fᵢ` to be the `q` of an earlier row or to pass
`smallPrime`; `certOk_sound` (through `lucas_primality`) then makes every `q` of the table prime.
The rows are printed by `primes_gen.py` (same directory: sympy's factorisations, least primitive roots).  None
of that is trusted: `table_ok` has the kernel evaluate the whole check.
No compiled/native evaluation: the axioms are propext, Classical.choice, Quot.sound only (see the
`#print axioms` at the end).
-/
import DosModel.Proofs.PrimesCore

namespace Dos.Primes

/-- the primes `≥ 2^20` of the four certificate trees, factors before the primes that need them -/
def table : List (ℕ × ℕ × List (ℕ × ℕ)) := [
  (405928799, 22, [(2, 1), (11, 1), (3691, 1), (4999, 1)]),
  (11465965001, 3, [(2, 3), (5, 4), (7, 1), (327599, 1)]),
  (1853641, 17, [(2, 3), (3, 2), (5, 1), (19, 1), (271, 1)]),
  (4562087, 5, [(2, 1), (17, 1), (109, 1), (1231, 1)]),
  (173171039, 13, [(2, 1), (73, 1), (89, 1), (13327, 1)]),
  (1263766531, 10, [(2, 1), (3, 1), (5, 1), (13, 1), (911, 1), (3557, 1)]),
  (35385462869, 2, [(2, 2), (7, 1), (1263766531, 1)]),
  (2480874801745591, 6, [(2, 1), (3, 2), (5, 1), (19, 1), (41, 1), (35385462869, 1)]),
  (13427688667394608761327070753331941386769, 17, [(2, 4), (3, 1), (7, 1), (11, 1), (1853641, 1), (4562087, 1), (173171039, 1), (2480874801745591, 1)]),
  (21888242871839275222246405745257275088696311157297823662689037894645226208583, 3, [(2, 1), (3, 2), (13, 1), (29, 1), (67, 1), (229, 1), (311, 1), (983, 1), (11003, 1), (405928799, 1), (11465965001, 1), (13427688667394608761327070753331941386769, 1)]),
  (12048837557, 2, [(2, 2), (7, 2), (661, 1), (93001, 1)]),
  (5156902474397, 2, [(2, 2), (107, 1), (12048837557, 1)]),
  (1670836401704629, 2, [(2, 2), (3, 4), (5156902474397, 1)]),
  (1593227, 2, [(2, 1), (19, 1), (41927, 1)]),
  (639533339, 2, [(2, 1), (229, 1), (853, 1), (1637, 1)]),
  (65865678001877903, 5, [(2, 1), (83, 1), (379, 1), (1637, 1), (639533339, 1)]),
  (13818364434197438864469338081, 3, [(2, 5), (5, 1), (823, 1), (1593227, 1), (65865678001877903, 1)]),
  (21888242871839275222246405745257275088548364400416034343698204186575808495617, 5, [(2, 28), (3, 2), (13, 1), (29, 1), (983, 1), (11003, 1), (237073, 1), (405928799, 1), (1670836401704629, 1), (13818364434197438864469338081, 1)]),
  (14741173, 2, [(2, 2), (3, 2), (409477, 1)]),
  (58964693, 2, [(2, 2), (14741173, 1)]),
  (3044861653679985063343, 5, [(2, 1), (3, 1), (11, 1), (30703, 1), (82163, 1), (132667, 1), (137849, 1)]),
  (198211423230930754013084525763697, 5, [(2, 4), (3, 1), (23, 1), (58964693, 1), (3044861653679985063343, 1)]),
  (292386187, 2, [(2, 1), (3, 4), (307, 1), (5879, 1)]),
  (213441916511, 13, [(2, 1), (5, 1), (73, 1), (292386187, 1)]),
  (1224481, 13, [(2, 5), (3, 1), (5, 1), (2551, 1)]),
  (1257559732178653, 2, [(2, 2), (3, 1), (7, 1), (23, 1), (531581, 1), (1224481, 1)]),
  (4434155615661930479, 17, [(2, 1), (41, 1), (43, 1), (1257559732178653, 1)]),
  (172054593956031949258510691, 2, [(2, 1), (5, 1), (1361, 1), (2851, 1), (4434155615661930479, 1)]),
  (19757330305831588566944191468367130476339, 2, [(2, 1), (269, 1), (213441916511, 1), (172054593956031949258510691, 1)]),
  (276602624281642239937218680557139826668747, 2, [(2, 1), (7, 1), (19757330305831588566944191468367130476339, 1)]),
  (7237005577332262213973186563042994240857116359379907606001950938285454250989, 2, [(2, 2), (3, 1), (11, 1), (198211423230930754013084525763697, 1), (276602624281642239937218680557139826668747, 1)]),
  (1923133, 2, [(2, 2), (3, 1), (43, 1), (3727, 1)]),
  (31757755568855353, 10, [(2, 3), (3, 1), (31, 1), (107, 1), (223, 1), (4153, 1), (430751, 1)]),
  (2773320623, 5, [(2, 1), (2437, 1), (569003, 1)]),
  (72106336199, 7, [(2, 1), (13, 1), (2773320623, 1)]),
  (8574133, 2, [(2, 2), (3, 1), (7, 1), (103, 1), (991, 1)]),
  (1919519569386763, 2, [(2, 1), (3, 1), (7, 1), (19, 1), (47, 2), (127, 1), (8574133, 1)]),
  (75445702479781427272750846543864801, 7, [(2, 5), (3, 2), (5, 2), (75707, 1), (72106336199, 1), (1919519569386763, 1)]),
  (74058212732561358302231226437062788676166966415465897661863160754340907, 2, [(2, 1), (3, 1), (353, 1), (57467, 1), (132049, 1), (1923133, 1), (31757755568855353, 1), (75445702479781427272750846543864801, 1)]),
  (57896044618658097711785492504343953926634992332820282019728792003956564819949, 2, [(2, 2), (3, 1), (65147, 1), (74058212732561358302231226437062788676166966415465897661863160754340907, 1)])]

theorem table_ok : certOk [] table = true := by decide +kernel

theorem table_prime {q : ℕ} (h : q ∈ table.map (·.1)) : q.Prime :=
  certOk_sound table_ok (fun _ h => by cases h) q h

/-! ### the moduli -/

/-- the alt_bn128 base-field modulus `p` is prime -/
theorem bn256_p_prime :
    Nat.Prime 21888242871839275222246405745257275088696311157297823662689037894645226208583 :=
  table_prime (by decide +kernel)

/-- the alt_bn128 group order `r` is prime -/
theorem bn256_r_prime :
    Nat.Prime 21888242871839275222246405745257275088548364400416034343698204186575808495617 :=
  table_prime (by decide +kernel)

/-- `ℓ` as a literal -/
theorem prime_7237005577332262213973186563042994240857116359379907606001950938285454250989 :
    Nat.Prime 7237005577332262213973186563042994240857116359379907606001950938285454250989 :=
  table_prime (by decide +kernel)

/-- the ed25519 group order `ℓ = 2^252 + 27742317777372353535851937790883648493` is prime -/
theorem ed25519_l_prime : Nat.Prime (2 ^ 252 + 27742317777372353535851937790883648493) :=
  prime_7237005577332262213973186563042994240857116359379907606001950938285454250989

instance fact_bn256_p :
    Fact (Nat.Prime 21888242871839275222246405745257275088696311157297823662689037894645226208583) :=
  ⟨bn256_p_prime⟩

instance fact_bn256_r :
    Fact (Nat.Prime 21888242871839275222246405745257275088548364400416034343698204186575808495617) :=
  ⟨bn256_r_prime⟩

instance fact_ed25519_l : Fact (Nat.Prime (2 ^ 252 + 27742317777372353535851937790883648493)) :=
  ⟨ed25519_l_prime⟩

/-- the literal form of `ℓ` -/
instance fact_ed25519_l_lit :
    Fact (Nat.Prime 7237005577332262213973186563042994240857116359379907606001950938285454250989) :=
  ⟨prime_7237005577332262213973186563042994240857116359379907606001950938285454250989⟩

end Dos.Primes

/-! ### non-vacuity / audit: the instances resolve, the axioms are the three allowed ones -/

example : Fact (Nat.Prime 21888242871839275222246405745257275088696311157297823662689037894645226208583) :=
  inferInstance
example : Fact (Nat.Prime 21888242871839275222246405745257275088548364400416034343698204186575808495617) :=
  inferInstance
example : Fact (Nat.Prime (2 ^ 252 + 27742317777372353535851937790883648493)) := inferInstance

#print axioms Dos.Primes.bn256_p_prime
#print axioms Dos.Primes.bn256_r_prime
#print axioms Dos.Primes.ed25519_l_prime
