/-
C14: the rules on the REGENERATED query and key-generation pipelines, evaluated by the kernel once
for Props/C14.lean, Props/C14Grouping.lean (W0–W7) and Props/C14Fair.lean, Props/C14FairGrouping.lean
(the collector check): both are dominated by the labelings of the collector loop (the 157-node
`pdkg.Loop` with its three reply channels), which the kernel computes once when the two facts are
one statement.
-/
import DosModel.Proofs.PipeEval
import DosModel.Gen.PipeIR
import DosModel.Gen.PipeKnown

namespace Dos.Pipe
variable {p : Pipeline}

theorem collectorsCheck_parts {k : Nat} (h : collectorsCheck p k = true) :
    (handoffs p).length = k ∧ CollectorsOk p = true := by
  unfold collectorsCheck at h
  simp only [Bool.and_eq_true, beq_iff_eq] at h
  exact ⟨h.1, h.2⟩

/-- no violation of W0–W7 beyond the recorded ones; `pdkg.Loop` is handed three reply channels (the
    three `askMembers` of a session) and passes `CollectorOk` for each; W6 as one check.  The rules
    are unfolded down to their labelings of `pdkg.Loop`, which are evaluated on bit masks
    (Proofs/PipeEval.lean). -/
theorem grouping_rules : subsetOf (violations Gen.Pipes.grouping) Gen.PipeKnown.sites = true ∧
    collectorsCheck Gen.Pipes.grouping 3 = true ∧ W6 Gen.Pipes.grouping = true := by
  simp only [violations, w1Violations, W1c, discC_eq, discCr, ownDOk, ownD, w7Violations, W7c,
    collectorCloses, w4Violations, W4g, collectorsCheck, handoffs, CollectorOk, ownFwdOk, ownLiveOk,
    distTo_eq, mark_closeUnder]
  decide +kernel

/-- the same for the query pipelines: `queryLoop` is handed the reply channel of `dispatchSign`.
    Their goroutines are small: the rules are evaluated as they stand. -/
theorem query_sys_rules : subsetOf (violations Gen.Pipes.query_sys) Gen.PipeKnown.sites = true ∧
    collectorsCheck Gen.Pipes.query_sys 1 = true := by decide +kernel

theorem query_user_rules : subsetOf (violations Gen.Pipes.query_user) Gen.PipeKnown.sites = true ∧
    collectorsCheck Gen.Pipes.query_user 1 = true := by decide +kernel

theorem query_url_rules : subsetOf (violations Gen.Pipes.query_url) Gen.PipeKnown.sites = true ∧
    collectorsCheck Gen.Pipes.query_url 1 = true := by decide +kernel

theorem query_rules (p : Pipeline) (hp : p ∈ [Gen.Pipes.query_sys, Gen.Pipes.query_user, Gen.Pipes.query_url]) :
    subsetOf (violations p) Gen.PipeKnown.sites = true ∧ collectorsCheck p 1 = true := by
  simp only [List.mem_cons, List.mem_nil_iff, or_false] at hp
  rcases hp with rfl | rfl | rfl
  · exact query_sys_rules
  · exact query_user_rules
  · exact query_url_rules

theorem grouping_collectors_check : collectorsCheck Gen.Pipes.grouping 3 = true := grouping_rules.2.1

end Dos.Pipe
