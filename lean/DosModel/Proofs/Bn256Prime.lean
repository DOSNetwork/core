/-
C10 — the base-field prime P and the group order r of alt_bn128 (regenerated literals `Gen.Bn256.P`,
`Gen.Bn256.Order`) ARE prime: the Pratt certificates of Proofs/Primes.lean are about the same two numbers.
-/
import DosModel.Proofs.Primes
import DosModel.Gen.Bn256Consts

namespace Dos.Prime

/-- the base-field modulus of bn256 is prime -/
theorem P_prime : Nat.Prime Dos.Gen.Bn256.P := Dos.Primes.bn256_p_prime
/-- the group order of bn256 is prime -/
theorem Order_prime : Nat.Prime Dos.Gen.Bn256.Order := Dos.Primes.bn256_r_prime

end Dos.Prime
