/-
C20 — the executable limb operations REFINE arithmetic in the field F = ZMod (2^255 − 19), and so does
every translated group method, generically:

  `R k l x`        : limb vector `l` is within k × the ref10 bound and stands for the field element `x`
  `mul_R … cmove_R`: one lemma per fe operation (from Proofs/Ed25519FeSpec.lean)
  `runChain_R`     : feInvert / fePow22523 (square-and-multiply chains) compute `x ^ e`, with the exponent `e`
                     obtained by running the regenerated chain on exponents (`decide +kernel`):
                     e = p − 2 resp. (p − 5)/8
  `body_refines`   : if the multiplier analysis `absBody` accepts a translated method body, then running it on limbs
                     (Go semantics) and running it on field elements keep all registers related — for ANY
                     binding of objects to registers (aliasing included)
-/
import Mathlib.Data.ZMod.Basic
import Mathlib.Tactic.Ring
import DosModel.Model.Ed25519Ge
import DosModel.Proofs.Ed25519FeSpec
import DosModel.Proofs.Ed25519Prime

set_option exponentiation.threshold 600

namespace Dos.GeProg
open Dos Dos.Ed25519 Dos.FeProg Dos.FeOps Dos.Ed25519Prime

/-- the field element a limb vector stands for -/
def val (l : L10) : F := ((feVal l : Int) : F)

theorem pI_eq : pI = ((Dos.Ed.p : ℕ) : Int) := by decide

theorem ModP.cast {a b : Int} (h : ModP a b) : ((a : Int) : F) = ((b : Int) : F) := by
  unfold ModP at h
  rw [pI_eq] at h
  exact (ZMod.intCast_eq_intCast_iff_dvd_sub _ _ _).2 (by
    have := Int.dvd_of_emod_eq_zero h
    have e : b - a = -(a - b) := by ring
    rw [e]; exact (Int.dvd_neg).2 this)

/-- `l` is within `k` × the bound and has the value `x` -/
def R (k : Nat) (l : L10) (x : F) : Prop := Bounded (k : Int) l ∧ val l = x

theorem Bounded.mono {a b : Int} {l : L10} (h : Bounded a l) (hab : a ≤ b) : Bounded b l := by
  unfold Bounded evenB oddB at *
  omega

theorem R.mono {a b : Nat} {l : L10} {x : F} (h : R a l x) (hab : a ≤ b) : R b l x :=
  ⟨Bounded.mono h.1 (by exact_mod_cast hab), h.2⟩

theorem mul_R {a b : Nat} {l m : L10} {x y : F} (h1 : R a l x) (h2 : R b m y) (ha : a ≤ 3) (hb : b ≤ 3) :
    R 1 (feMul l m) (x * y) := by
  obtain ⟨_, hb1, hv⟩ := feMul_spec l m (h1.mono ha).1 (h2.mono hb).1
  refine ⟨hb1, ?_⟩
  unfold val
  rw [ModP.cast hv, Int.cast_mul]
  exact congr (congrArg _ h1.2) h2.2

theorem sq_R {a : Nat} {l : L10} {x : F} (h1 : R a l x) (ha : a ≤ 3) : R 1 (feSquare l) (x * x) := by
  obtain ⟨_, hb1, hv⟩ := feSquare_spec l (h1.mono ha).1
  refine ⟨hb1, ?_⟩
  unfold val
  rw [ModP.cast hv, Int.cast_mul]
  exact congr (congrArg _ h1.2) h1.2

theorem sq2_R {a : Nat} {l : L10} {x : F} (h1 : R a l x) (ha : a ≤ 3) : R 1 (feSquare2 l) (2 * (x * x)) := by
  obtain ⟨_, hb1, hv⟩ := feSquare2_spec l (h1.mono ha).1
  refine ⟨hb1, ?_⟩
  unfold val
  rw [ModP.cast hv]
  push_cast
  rw [show ((feVal l : Int) : F) = x from h1.2]

theorem add_R {a b : Nat} {l m : L10} {x y : F} (h1 : R a l x) (h2 : R b m y) (hab : a + b ≤ 3) :
    R (a + b) (feAdd l m) (x + y) := by
  -- 58: up to that multiplier a bounded limb vector consists of int32 values (`Bounded.i32`)
  obtain ⟨_, hb1, hv⟩ := feAdd_spec a b l m h1.1 h2.1 (by exact_mod_cast (by omega : a + b ≤ 58)) (by positivity) (by positivity)
  refine ⟨by exact_mod_cast hb1, ?_⟩
  unfold val
  rw [hv, Int.cast_add]
  exact congr (congrArg _ h1.2) h2.2

theorem sub_R {a b : Nat} {l m : L10} {x y : F} (h1 : R a l x) (h2 : R b m y) (hab : a + b ≤ 3) :
    R (a + b) (feSub l m) (x - y) := by
  obtain ⟨_, hb1, hv⟩ := feSub_spec a b l m h1.1 h2.1 (by exact_mod_cast (by omega : a + b ≤ 58)) (by positivity) (by positivity)
  refine ⟨by exact_mod_cast hb1, ?_⟩
  unfold val
  rw [hv, Int.cast_sub]
  exact congr (congrArg _ h1.2) h2.2

theorem neg_R {a : Nat} {l : L10} {x : F} (h1 : R a l x) (ha : a ≤ 3) : R a (feNeg l) (-x) := by
  obtain ⟨_, hb1, hv⟩ := feNeg_spec a l h1.1 (by exact_mod_cast (by omega : a ≤ 58))
  refine ⟨hb1, ?_⟩
  unfold val
  rw [hv, Int.cast_neg]
  exact congrArg _ h1.2

theorem zero_R : R 1 feZero 0 := by
  rw [feZero_spec]
  refine ⟨by decide, ?_⟩
  unfold val
  rw [feVal_zero]; simp

theorem zero10_R : R 1 zero10 0 := by
  have := zero_R
  rwa [feZero_spec] at this

theorem one_R : R 1 feOne 1 := by
  rw [feOne_spec]
  refine ⟨by decide, ?_⟩
  unfold val
  rw [feVal_one]; simp

theorem u32_s32 (n : Nat) (h : n < 4294967296) : u32 (s32 n) = n := by
  unfold u32 s32
  split <;> omega

theorem s32_u32 (x : Int) (h : I32 x) : s32 (u32 x) = x := by
  unfold u32 s32 I32 at *
  split <;> omega

theorem u32_lt (x : Int) : u32 x < 4294967296 := by unfold u32; omega

/-- `0xffffffff & n` on a 32-bit pattern -/
theorem mask32 {n : Nat} (h : n < 4294967296) : 4294967295 &&& n = n := by
  rw [Nat.and_comm, show (4294967295 : Nat) = 2 ^ 32 - 1 by decide, Nat.and_two_pow_sub_one_eq_mod]
  exact Nat.mod_eq_of_lt h

theorem cmove_elem_zero (f g : Int) (hf : I32 f) : Gen.Ed25519Fe.feCMove_elem f g 0 = f := by
  unfold Gen.Ed25519Fe.feCMove_elem
  simp only [Int.neg_zero]
  have h0 : u32 0 = 0 := by decide
  unfold and32 xor32
  rw [h0, Nat.zero_and]
  have hs : s32 0 = 0 := by decide
  rw [hs, h0, Nat.xor_zero]
  exact s32_u32 f hf

theorem cmove_elem_one (f g : Int) (hg : I32 g) : Gen.Ed25519Fe.feCMove_elem f g 1 = g := by
  unfold Gen.Ed25519Fe.feCMove_elem
  have h1 : u32 (-1) = 4294967295 := by decide
  unfold and32 xor32
  show s32 (u32 f ^^^ u32 (s32 (u32 (-1) &&& u32 (s32 (u32 f ^^^ u32 g))))) = g
  rw [h1]
  have hx : u32 f ^^^ u32 g < 4294967296 := Nat.xor_lt_two_pow (n := 32) (u32_lt f) (u32_lt g)
  rw [u32_s32 _ hx]
  rw [mask32 hx, u32_s32 _ hx, ← Nat.xor_assoc, Nat.xor_self, Nat.zero_xor]
  exact s32_u32 g hg

theorem cmove_R {a b : Nat} {l m : L10} {x y : F} (h1 : R a l x) (h2 : R b m y) (ha : a ≤ 3) (hb : b ≤ 3)
    (c : Int) (hc : c = 0 ∨ c = 1) :
    R (max a b) (feCMove l m c) (if c = 1 then y else x) := by
  have i1 := h1.1.i32 (by exact_mod_cast (by omega : a ≤ 58))
  have i2 := h2.1.i32 (by exact_mod_cast (by omega : b ≤ 58))
  rcases hc with rfl | rfl
  · have e : feCMove l m 0 = l := by
      unfold feCMove
      obtain ⟨a0, a1, a2, a3, a4, a5, a6, a7, a8, a9⟩ := i1
      rw [cmove_elem_zero _ _ a0, cmove_elem_zero _ _ a1, cmove_elem_zero _ _ a2, cmove_elem_zero _ _ a3,
        cmove_elem_zero _ _ a4, cmove_elem_zero _ _ a5, cmove_elem_zero _ _ a6, cmove_elem_zero _ _ a7,
        cmove_elem_zero _ _ a8, cmove_elem_zero _ _ a9]
    rw [e]
    simp only [zero_ne_one, if_false]
    exact h1.mono (le_max_left a b)
  · have e : feCMove l m 1 = m := by
      unfold feCMove
      obtain ⟨a0, a1, a2, a3, a4, a5, a6, a7, a8, a9⟩ := i2
      rw [cmove_elem_one _ _ a0, cmove_elem_one _ _ a1, cmove_elem_one _ _ a2, cmove_elem_one _ _ a3,
        cmove_elem_one _ _ a4, cmove_elem_one _ _ a5, cmove_elem_one _ _ a6, cmove_elem_one _ _ a7,
        cmove_elem_one _ _ a8, cmove_elem_one _ _ a9]
    rw [e]
    simp only [if_true]
    exact h2.mono (le_max_right a b)

/-- a relation between two register files that a squaring and a multiplication into any register keep is kept
by every chain -/
theorem chainRun_lift {α β : Type} {m : α → α → α} {s : α → α} {d : α} {m' : β → β → β} {s' : β → β} {d' : β}
    (Rel : List α → List β → Prop)
    (hsq : ∀ L X dst src, Rel L X → Rel (L.set dst (s (L.getD src d))) (X.set dst (s' (X.getD src d'))))
    (hmul : ∀ L X dst a b, Rel L X →
      Rel (L.set dst (m (L.getD a d) (L.getD b d))) (X.set dst (m' (X.getD a d') (X.getD b d'))))
    (ops : List ChainOp) : ∀ {L : List α} {X : List β}, Rel L X → Rel (chainRun m s d ops L) (chainRun m' s' d' ops X) := by
  unfold chainRun
  induction ops with
  | nil => exact fun h => h
  | cons op ops ih =>
    intro L X h
    simp only [List.foldl_cons]
    apply ih
    cases op with
    | sq dst src => exact hsq L X dst src h
    | mul dst a b => exact hmul L X dst a b h
    | sqLoop n dst src =>
      show Rel ((List.range n).foldl (fun r _ => r.set dst (s (r.getD src d))) L)
        ((List.range n).foldl (fun r _ => r.set dst (s' (r.getD src d'))) X)
      generalize List.range n = is
      induction is generalizing L X with
      | nil => exact h
      | cons i is ih' => exact ih' (hsq L X dst src h)

/-- all registers except the input register 1 are within 1 × (they are zero or results of feMul/feSquare);
`PowRel` alone knows 3 × only, and the result of a chain is claimed within 1 × -/
def Tight (L : List L10) : Prop := ∀ i, i ≠ 1 → Bounded 1 (L.getD i zero10)

theorem Tight.set {L : List L10} (h : Tight L) (dst : Nat) {v : L10} (hv : Bounded 1 v) : Tight (L.set dst v) := by
  intro i hi
  by_cases hd : dst = i ∧ dst < L.length
  · rw [← hd.1, IntervalProg.getD_set_self _ _ _ _ hd.2]; exact hv
  · by_cases he : dst = i
    · rw [List.set_eq_of_length_le (by omega)]; exact h i hi
    · rw [IntervalProg.getD_set_ne _ _ _ _ _ he]; exact h i hi

/-- exponents: `none` = a register that does not hold a power of the input -/
def expMul : Option Nat → Option Nat → Option Nat
  | some a, some b => some (a + b)
  | _, _ => none
def expSq : Option Nat → Option Nat
  | some a => some (2 * a)
  | none => none

/-- a chain run on limbs against its run on exponents: every register is within 3 × and, where the exponent run
knows an exponent `n`, stands for `x ^ n` -/
def PowRel (x : F) (L : List L10) (E : List (Option Nat)) : Prop :=
  List.Forall₂ (fun l o => (∃ k : Nat, k ≤ 3 ∧ Bounded (k : Int) l) ∧ ∀ n, o = some n → val l = x ^ n) L E

theorem PowRel.getD {x : F} {L : List L10} {E : List (Option Nat)} (h : PowRel x L E) (i : Nat) :
    (∃ k : Nat, k ≤ 3 ∧ Bounded (k : Int) (L.getD i zero10)) ∧
      ∀ n, E.getD i none = some n → val (L.getD i zero10) = x ^ n :=
  IntervalProg.forall₂_getD h ⟨⟨1, by omega, zero10_R.1⟩, fun n hn => by cases hn⟩ i

theorem chainRun_pow (x : F) (ops : List ChainOp) {L : List L10} {E : List (Option Nat)} (h : PowRel x L E)
    (ht : Tight L) :
    PowRel x (chainRun feMul feSquare zero10 ops L) (chainRun expMul expSq none ops E)
      ∧ Tight (chainRun feMul feSquare zero10 ops L) :=
  chainRun_lift (fun L E => PowRel x L E ∧ Tight L)
    (fun L E dst src ⟨h, ht⟩ => by
      obtain ⟨⟨k, hk, hb⟩, hv⟩ := h.getD src
      have r := sq_R ⟨hb, rfl⟩ hk
      refine ⟨IntervalProg.forall₂_set h ⟨⟨1, by omega, r.1⟩, fun n hn => ?_⟩ dst, ht.set dst r.1⟩
      cases ho : E.getD src none with
      | none => rw [ho] at hn; cases hn
      | some a =>
        rw [ho] at hn
        cases Option.some.inj hn
        rw [r.2, hv a ho, two_mul, pow_add])
    (fun L E dst a b ⟨h, ht⟩ => by
      obtain ⟨⟨k, hk, hb⟩, hv⟩ := h.getD a
      obtain ⟨⟨k', hk', hb'⟩, hv'⟩ := h.getD b
      have r := mul_R ⟨hb, rfl⟩ ⟨hb', rfl⟩ hk hk'
      refine ⟨IntervalProg.forall₂_set h ⟨⟨1, by omega, r.1⟩, fun n hn => ?_⟩ dst, ht.set dst r.1⟩
      cases ha : E.getD a none with
      | none => simp only [ha, expMul] at hn; cases hn
      | some u =>
        cases hb2 : E.getD b none with
        | none => simp only [ha, hb2, expMul] at hn; cases hn
        | some v =>
          simp only [ha, hb2, expMul] at hn
          cases Option.some.inj hn
          rw [r.2, hv u ha, hv' v hb2, pow_add])
    ops ⟨h, ht⟩

/-- exponent computed by a chain with `nregs` registers -/
def chainExp (nregs : Nat) (ops : List ChainOp) : Option Nat :=
  (chainRun expMul expSq none ops ((List.replicate nregs none).set 1 (some 1))).getD 0 none

/-- **a chain computes the power given by its exponent run**, within 1 × -/
theorem runChain_R (nregs : Nat) (ops : List ChainOp) (e : Nat) (he : chainExp nregs ops = some e)
    {a : Nat} {z : L10} {x : F} (h : R a z x) (ha : a ≤ 3) : R 1 (runChain nregs ops z) (x ^ e) := by
  have h0 : PowRel x ((List.replicate nregs zero10).set 1 z) ((List.replicate nregs none).set 1 (some 1)) :=
    IntervalProg.forall₂_set
      (IntervalProg.forall₂_replicate ⟨⟨1, by omega, zero10_R.1⟩, fun n hn => by cases hn⟩ nregs)
      ⟨⟨a, ha, h.1⟩, fun n hn => by cases Option.some.inj hn; rw [h.2, pow_one]⟩ 1
  have t0 : Tight ((List.replicate nregs zero10).set 1 z) := by
    intro i hi
    rw [IntervalProg.getD_set_ne _ _ _ _ _ (Ne.symm hi)]
    have : (List.replicate nregs zero10).getD i zero10 = zero10 := by
      simp only [List.getD, List.getElem?_replicate]
      split <;> rfl
    rw [this]
    exact zero10_R.1
  obtain ⟨h1, t1⟩ := chainRun_pow x ops h0 t0
  exact ⟨t1 0 (by omega), (h1.getD 0).2 e he⟩

theorem feInvert_exp : chainExp Gen.Ed25519Fe.feInvert_nregs Gen.Ed25519Fe.feInvert_chain = some (Dos.Ed.p - 2) := by
  decide +kernel

theorem fePow22523_exp :
    chainExp Gen.Ed25519Fe.fePow22523_nregs Gen.Ed25519Fe.fePow22523_chain = some ((Dos.Ed.p - 5) / 8) := by
  decide +kernel

/-- the field semantics of feInvert and fePow22523 (`feInvert_exp`, `fePow22523_exp`) -/
def invF (x : F) : F := x ^ (Dos.Ed.p - 2)
def powF (x : F) : F := x ^ ((Dos.Ed.p - 5) / 8)

theorem invert_R {a : Nat} {z : L10} {x : F} (h : R a z x) (ha : a ≤ 3) : R 1 (feInvert z) (invF x) :=
  runChain_R _ _ _ feInvert_exp h ha

theorem pow22523_R {a : Nat} {z : L10} {x : F} (h : R a z x) (ha : a ≤ 3) : R 1 (fePow22523 z) (powF x) :=
  runChain_R _ _ _ fePow22523_exp h ha

/-- the field semantics of the fe operations -/
def fieldAlg : FeAlg F :=
  { mul := fun x y => x * y, sq := fun x => x * x, sq2 := fun x => 2 * (x * x), add := fun x y => x + y,
    sub := fun x y => x - y, neg := fun x => -x, zero := 0, one := 1, invert := invF,
    pow22523 := powF, cmove := fun f g b => if b = 1 then g else f }

/-- every register whose multiplier is known holds a limb vector within that bound standing for the field register -/
def RegRel (M : List Mult) (L : List L10) (X : List F) : Prop :=
  L.length = M.length ∧ X.length = M.length ∧
    ∀ i k, M.getD i none = some k → R k (L.getD i zero10) (X.getD i 0)

/-- register `i` of related files; `hx` by `rfl` on a literal `X` yields the entry itself -/
theorem RegRel.get {M : List Mult} {L : List L10} {X : List F} (h : RegRel M L X) (i : Nat) {k : Nat} {x : F}
    (hk : M.getD i none = some k) (hx : X[i]? = some x) : R k (L.getD i zero10) x := by
  have e : X.getD i 0 = x := by rw [List.getD_eq_getElem?_getD, hx]; rfl
  exact e ▸ h.2.2 i k hk

theorem RegRel.set {M : List Mult} {L : List L10} {X : List F} (h : RegRel M L X) (d : Nat) (hd : d < M.length)
    {k : Nat} {l : L10} {x : F} (hr : R k l x) : RegRel (M.set d (some k)) (L.set d l) (X.set d x) := by
  obtain ⟨h1, h2, h3⟩ := h
  refine ⟨by simp [h1], by simp [h2], ?_⟩
  intro i k' hk'
  by_cases hi : d = i
  · subst hi
    rw [IntervalProg.getD_set_self _ _ _ _ hd] at hk'
    cases Option.some.inj hk'
    rw [IntervalProg.getD_set_self _ _ _ _ (by omega), IntervalProg.getD_set_self _ _ _ _ (by omega)]
    exact hr
  · rw [IntervalProg.getD_set_ne _ _ _ _ _ hi] at hk'
    rw [IntervalProg.getD_set_ne _ _ _ _ _ hi, IntervalProg.getD_set_ne _ _ _ _ _ hi]
    exact h3 i k' hk'

theorem step_refines {bases : List Nat} {b : Int} (hb : b = 0 ∨ b = 1) {M M' : List Mult} {L : List L10} {X : List F}
    (s : GStmt) (h : RegRel M L X) (ha : absStep bases M s = some M') :
    RegRel M' (step limbAlg zero10 bases b L s) (step fieldAlg 0 bases b X s) := by
  unfold absStep at ha
  simp only at ha
  split at ha
  · rename_i hd
    have get := h.2.2
    unfold step
    simp only
    -- one goal per constructor of `FeOp`, in the order of its declaration
    cases hop : s.op <;> simp only [hop] at ha ⊢ <;> (try simp only [limbAlg, fieldAlg])
    · -- mul
      split at ha
      · rename_i a c ha' hc'
        split at ha
        · rename_i hac
          cases Option.some.inj ha
          exact h.set _ hd (mul_R (get _ _ ha') (get _ _ hc') hac.1 hac.2)
        · cases ha
      · cases ha
    · -- sq
      split at ha
      · rename_i a ha'
        split at ha
        · rename_i hac
          cases Option.some.inj ha
          exact h.set _ hd (sq_R (get _ _ ha') hac)
        · cases ha
      · cases ha
    · -- sq2
      split at ha
      · rename_i a ha'
        split at ha
        · rename_i hac
          cases Option.some.inj ha
          exact h.set _ hd (sq2_R (get _ _ ha') hac)
        · cases ha
      · cases ha
    · -- add
      split at ha
      · rename_i a c ha' hc'
        split at ha
        · rename_i hac
          cases Option.some.inj ha
          exact h.set _ hd (add_R (get _ _ ha') (get _ _ hc') hac)
        · cases ha
      · cases ha
    · -- sub
      split at ha
      · rename_i a c ha' hc'
        split at ha
        · rename_i hac
          cases Option.some.inj ha
          exact h.set _ hd (sub_R (get _ _ ha') (get _ _ hc') hac)
        · cases ha
      · cases ha
    · -- neg
      split at ha
      · rename_i a ha'
        split at ha
        · rename_i hac
          cases Option.some.inj ha
          exact h.set _ hd (neg_R (get _ _ ha') hac)
        · cases ha
      · cases ha
    · -- copy
      split at ha
      · rename_i a ha'
        cases Option.some.inj ha
        exact h.set _ hd (get _ _ ha')
      · cases ha
    · -- zero
      cases Option.some.inj ha
      exact h.set _ hd zero_R
    · -- one
      cases Option.some.inj ha
      exact h.set _ hd one_R
    · -- invert
      split at ha
      · rename_i a ha'
        split at ha
        · rename_i hac
          cases Option.some.inj ha
          exact h.set _ hd (invert_R (get _ _ ha') hac)
        · cases ha
      · cases ha
    · -- pow22523
      split at ha
      · rename_i a ha'
        split at ha
        · rename_i hac
          cases Option.some.inj ha
          exact h.set _ hd (pow22523_R (get _ _ ha') hac)
        · cases ha
      · cases ha
    · -- cmove
      split at ha
      · rename_i a c ha' hc'
        split at ha
        · rename_i hac
          cases Option.some.inj ha
          exact h.set _ hd (cmove_R (get _ _ ha') (get _ _ hc') hac.1 hac.2 b hb)
        · cases ha
      · cases ha
  · cases ha

/-- **a translated method run on limbs refines its run on field elements** -/
theorem body_refines {bases : List Nat} {b : Int} (hb : b = 0 ∨ b = 1) : ∀ (body : List GStmt) {M M' : List Mult}
    {L : List L10} {X : List F}, RegRel M L X → absBody bases body M = some M' →
    RegRel M' (runBody limbAlg zero10 bases b body L) (runBody fieldAlg 0 bases b body X) := by
  intro body
  induction body with
  | nil =>
    intro M M' L X h ha
    cases Option.some.inj ha
    exact h
  | cons s ss ih =>
    intro M M' L X h ha
    simp only [absBody] at ha
    cases h1 : absStep bases M s with
    | none => simp [h1] at ha
    | some M1 =>
      simp only [h1] at ha
      exact ih (step_refines hb s h h1) ha

end Dos.GeProg
