/-
Liveness of honest key generation, stage level: the exact shape of an honest member's
`DistKeyGenerator` while it processes genuine deals and genuine responses – which slots exist and
which responses each holds – so that every genuine message that has not been processed yet is
processed WITHOUT error, and once every deal and every response has been processed
`DistKeyShare()` succeeds.
-/
import DosModel.Proofs.DkgLive

set_option linter.unusedSectionVars false

namespace Dos.Dkg
open Dos Dos.Vss

variable {F G : Type} [Field F] [AddCommGroup G] [Module F G] [DecidableEq F] [DecidableEq G]

def Cfg.t (c : Cfg F G) : Nat := c.n / 2 + 1

/-- session id of dealer `j`'s honest dealing -/
def Cfg.sid (c : Cfg F G) (j : Nat) : Sid G :=
  .h ((c.longs.getD j 0) • c.g) c.pubs (commit c.g (c.polys.getD j [])) c.t

/-- dealer `j`'s genuine plaintext deal for member `i` -/
def Cfg.deal (c : Cfg F G) (j i : Nat) : Deal F G :=
  honestDeal c.g (c.longs.getD j 0) c.pubs (c.polys.getD j []) i

/-- member `k`'s genuine (approving) response about dealer `j`; `rnd` is the randomness of its Schnorr signature -/
def Cfg.resp (c : Cfg F G) (j k rnd : Nat) : Response F G :=
  { sid := c.sid j, index := k, status := true, sig := .sign (c.longs.getD k 0) (c.sid j) k true rnd }

/-- an aggregator of the honest run: session id, member list, threshold of dealer `j`, no
bad-dealer flag, and approvals exactly in the slots `R` -/
structure HAgg (c : Cfg F G) (j : Nat) (R : Nat → Prop) (a : Agg F G) : Prop where
  hvs : a.vs = c.pubs
  hsid : a.sid = c.sid j
  ht : a.t = c.t
  hbad : a.badDealer = false
  hlen : a.responses.length = c.n
  hin : ∀ k, R k → ∃ r, getResponse a k = some r ∧ r.status = true
  hout : ∀ k, ¬ R k → getResponse a k = none

/-- the verifier member `i` keeps for dealer `j` in the honest run -/
structure HSlot (c : Cfg F G) (i j : Nat) (R : Nat → Prop) (v : Verifier F G) : Prop where
  hagg : ∃ a, v.agg = some a ∧ HAgg c j R a ∧ a.deal = some (c.deal j i)
  happ : v.approved = true

/-- the generator of member `i` in the honest run: slots exactly for the dealers in `D`, slot `j`
holding approvals exactly from `R j`; the own dealer's aggregator holding approvals from `RD` -/
structure HState (c : Cfg F G) (i : Nat) (D : Nat → Prop) (R : Nat → Nat → Prop) (RD : Nat → Prop)
    (d : Gen F G) : Prop where
  hpart : d.participants = c.pubs
  hidx : d.index = i
  hlong : d.long = c.longs.getD i 0
  hlen : d.verifiers.length = c.n
  hfind : findIndex (d.long • c.g) d.participants 0 = some i
  hslot : ∀ j, D j → ∃ v, getVerifier d j = some v ∧ HSlot c i j (R j) v
  hnone : ∀ j, ¬ D j → getVerifier d j = none
  hdealer : HAgg c i RD d.dealer.agg

theorem HAgg.congr {c : Cfg F G} {j : Nat} {R R' : Nat → Prop} {a : Agg F G} (h : ∀ k, R k ↔ R' k)
    (ha : HAgg c j R a) : HAgg c j R' a :=
  { ha with hin := fun k hk => ha.hin k ((h k).2 hk), hout := fun k hk => ha.hout k (fun h' => hk ((h k).1 h')) }

theorem HSlot.congr {c : Cfg F G} {i j : Nat} {R R' : Nat → Prop} {v : Verifier F G} (h : ∀ k, R k ↔ R' k)
    (hs : HSlot c i j R v) : HSlot c i j R' v :=
  { hs with hagg := have ⟨a, h1, h2, h3⟩ := hs.hagg; ⟨a, h1, h2.congr h, h3⟩ }

theorem HState.congr {c : Cfg F G} {i : Nat} {D D' : Nat → Prop} {R R' : Nat → Nat → Prop} {RD RD' : Nat → Prop}
    {d : Gen F G} (hD : ∀ x, D x ↔ D' x) (hR : ∀ x y, D x → (R x y ↔ R' x y)) (hRD : ∀ y, RD y ↔ RD' y)
    (h : HState c i D R RD d) : HState c i D' R' RD' d :=
  { h with
    hslot := fun j hj =>
      have hDj := (hD j).2 hj
      have ⟨v, hv, hs⟩ := h.hslot j hDj
      ⟨v, hv, hs.congr (fun k => hR j k hDj)⟩
    hnone := fun j hj => h.hnone j (fun h' => hj ((hD j).1 h'))
    hdealer := h.hdealer.congr hRD }

/-- storing the verifier `w` for dealer `j` -/
theorem HState.setSlot {c : Cfg F G} {i : Nat} {D D' : Nat → Prop} {R R' : Nat → Nat → Prop} {RD : Nat → Prop}
    {d : Gen F G} (hd : HState c i D R RD d) {j : Nat} (hj : j < c.n) {w : Verifier F G} (hw : HSlot c i j (R' j) w)
    (hD : ∀ x, D' x ↔ D x ∨ x = j) (hR : ∀ x y, x ≠ j → (R' x y ↔ R x y)) :
    HState c i D' R' RD (setVerifier d j w) := by
  have hjv : j < d.verifiers.length := by rw [hd.hlen]; exact hj
  refine ⟨hd.hpart, hd.hidx, hd.hlong, by simp [setVerifier, hd.hlen], hd.hfind, ?_, ?_, hd.hdealer⟩
  · intro x hx
    rw [getVerifier_set d j x w hjv]
    by_cases hjx : j = x
    · subst hjx; exact ⟨w, if_pos rfl, hw⟩
    · rw [if_neg hjx]
      obtain ⟨v, hv, hs⟩ := hd.hslot x (((hD x).1 hx).resolve_right (fun h => hjx h.symm))
      exact ⟨v, hv, hs.congr (fun y => (hR x y (fun h => hjx h.symm)).symm)⟩
  · intro x hx
    have hjx : j ≠ x := fun h => hx ((hD x).2 (Or.inr h.symm))
    rw [getVerifier_set d j x w hjv, if_neg hjx]
    exact hd.hnone x (fun h => hx ((hD x).2 (Or.inl h)))

theorem HState.setDealer {c : Cfg F G} {i : Nat} {D : Nat → Prop} {R : Nat → Nat → Prop} {RD RD' : Nat → Prop}
    {d : Gen F G} (hd : HState c i D R RD d) (dl : Dealer F G) (h : HAgg c i RD' dl.agg) :
    HState c i D R RD' { d with dealer := dl } :=
  ⟨hd.hpart, hd.hidx, hd.hlong, hd.hlen, hd.hfind, hd.hslot, hd.hnone, h⟩

theorem Cfg.pubs_get (c : Cfg F G) (j : Nat) (hj : j < c.n) : c.pubs[j]? = some ((c.longs.getD j 0) • c.g) := by
  have hj' : j < c.longs.length := hj
  simp [Cfg.pubs, List.getD_eq_getElem?_getD, List.getElem?_eq_getElem hj']

theorem Cfg.pubs_length (c : Cfg F G) : c.pubs.length = c.n := by simp [Cfg.pubs, Cfg.n]

theorem validT_t (c : Cfg F G) (h3 : 3 ≤ c.n) : validT c.t c.pubs.length = true := by
  have h2 : c.t = c.n / 2 + 1 := rfl
  rw [c.pubs_length, h2]
  simp only [validT, Bool.and_eq_true, decide_eq_true_eq]
  omega

theorem getD_eq_getElem {α : Type} (l : List α) (a : α) {j : Nat} (hj : j < l.length) : l.getD j a = l[j] := by
  simp [List.getD_eq_getElem?_getD, List.getElem?_eq_getElem hj]

theorem WellFormed.poly_length {c : Cfg F G} {ephs : List (List F)} (hw : WellFormed c ephs) {j : Nat} (hj : j < c.n) :
    (c.polys.getD j []).length = c.t := by
  have hj' : j < c.polys.length := by rw [hw.polys_len]; exact hj
  rw [getD_eq_getElem _ _ hj']; exact hw.poly_len _ (List.getElem_mem hj')

/-- an approval for an empty slot is accepted -/
theorem HAgg.add {c : Cfg F G} {j : Nat} {R : Nat → Prop} {a : Agg F G} (ha : HAgg c j R a) (r : Response F G)
    (hk : r.index < c.n) (hs : r.status = true) (hn : ¬ R r.index) :
    ∃ a', addResponse a r = .ok a' ∧ HAgg c j (fun x => R x ∨ x = r.index) a' ∧ a'.deal = a.deal := by
  have hkl : r.index < a.responses.length := by rw [ha.hlen]; exact hk
  refine ⟨{ a with responses := a.responses.set r.index (some r) }, ?_,
    ⟨ha.hvs, ha.hsid, ha.ht, ha.hbad, by simp [ha.hlen], ?_, ?_⟩, rfl⟩
  · have h1 : ¬ (r.index ≥ a.vs.length) := by rw [ha.hvs, c.pubs_length]; omega
    simp only [addResponse, h1, if_false, hasResponse, ha.hout _ hn, Option.isSome_none, Bool.false_eq_true]
  · intro x hx
    rw [getResponse_set a r.index x r hkl]
    by_cases hkx : r.index = x
    · rw [if_pos hkx]; exact ⟨r, rfl, hs⟩
    · rw [if_neg hkx]; exact ha.hin x (hx.resolve_right (fun h => hkx h.symm))
  · intro x hx
    rw [getResponse_set a r.index x r hkl, if_neg (fun h => hx (Or.inr h.symm))]
    exact ha.hout x (fun h => hx (Or.inl h))

/-- a genuine response verifies in an honest aggregator of its dealer and lands in its empty slot -/
theorem verifyResponse_genuine (c : Cfg F G) (j k rnd : Nat) (R : Nat → Prop) (a : Agg F G)
    (ha : HAgg c j R a) (hk : k < c.n) (hnk : ¬ R k) :
    ∃ a', verifyResponse c.g a (c.resp j k rnd) = .ok a' ∧ HAgg c j (fun x => R x ∨ x = k) a' ∧
      a'.deal = a.deal := by
  obtain ⟨a', hadd, h⟩ := ha.add (c.resp j k rnd) hk rfl hnk
  refine ⟨a', ?_, h⟩
  have hpub : a.vs[(c.resp j k rnd).index]? = some ((c.longs.getD k 0) • c.g) := by
    rw [ha.hvs]; exact c.pubs_get k hk
  have hsig : verifyRespSig c.g ((c.longs.getD k 0) • c.g) (c.resp j k rnd) = true := by
    simp [verifyRespSig, Cfg.resp]
  have h0 : ¬ ((c.resp j k rnd).sid ≠ a.sid) := by simp [Cfg.resp, ha.hsid]
  simp only [verifyResponse, h0, if_false, hpub, hsig, Bool.true_eq_false]
  exact hadd

/-- an honest dealer's deal is consistent -/
theorem consistent_genuine (c : Cfg F G) (ephs : List (List F)) (hw : WellFormed c ephs) (j i : Nat)
    (hj : j < c.n) (hi : i < c.n) :
    Consistent c.g ((c.longs.getD j 0) • c.g) c.pubs (c.deal j i) ∧ (c.deal j i).sid = c.sid j ∧
    (c.deal j i).t = c.t ∧ (c.deal j i).share = some ⟨(i : Int), some (priEval (c.polys.getD j []) (i : Int))⟩ := by
  have hfl := hw.poly_length hj
  have hsid : (c.deal j i).sid = c.sid j := by simp only [Cfg.deal, Cfg.sid, honestDeal, hfl]
  have ht : (c.deal j i).t = c.t := by simp only [Cfg.deal, honestDeal, hfl]
  refine ⟨⟨(i : Int), priEval (c.polys.getD j []) (i : Int), rfl, ?_, ?_, by omega, ?_, ?_⟩, hsid, ht, rfl⟩
  · rw [ht]; exact validT_t c hw.three
  · simp only [Cfg.deal, honestDeal, hfl]
  · rw [c.pubs_length]; exact_mod_cast hi
  · simp only [Cfg.deal, honestDeal]; rw [pubEval_commit]

/-- `ProcessEncryptedDeal` of the genuine deal of dealer `j` by member `i`'s fresh verifier: the deal opens, is
consistent, and is answered by the genuine approval -/
theorem processEncryptedDeal_genuine (c : Cfg F G) (ephs : List (List F)) (hw : WellFormed c ephs) (j i : Nat) (hj : j < c.n) (hi : i < c.n)
    (eph : F) (rnd : Nat) (e : EncDeal F G)
    (hseal : sealDeal c.g (c.longs.getD j 0) c.pubs i eph rnd (.deal (c.deal j i)) = some e)
    (v : Verifier F G) (hv : v.agg = none) (hvd : v.dealer = (c.longs.getD j 0) • c.g) (hvv : v.vs = c.pubs)
    (hvl : v.long = c.longs.getD i 0) (hvi : v.index = i) :
    processEncryptedDeal c.g v e 0 = (answered v (c.deal j i) true 0, .ok (c.resp j i 0)) ∧
      HAgg c j (fun x => x = i) (answeredAgg v (c.deal j i) true 0) := by
  have hidx : v.index < v.vs.length := by rw [hvi, hvv, c.pubs_length]; exact hi
  have hdec : decryptDeal c.g v e = .ok (c.deal j i) :=
    decrypt_addressee c.g _ eph c.pubs i rnd _ e hseal v hvd hvv (by rw [hvl]; exact c.pubs_get i hi)
  obtain ⟨hcons, hsid, ht, hshare⟩ := consistent_genuine c ephs hw j i hj hi
  obtain ⟨st, hst, hpe⟩ := processEncryptedDeal_fresh c.g v e 0 (c.deal j i) _ hv hdec (by rw [hvi]; exact hshare)
  obtain rfl : st = true := hst.2 (by rw [hvd, hvv]; exact hcons)
  have hr : signedResp v (c.deal j i) true 0 = c.resp j i 0 := by
    obtain ⟨_, _, _, _, hh, _⟩ := hcons
    simp only [signedResp, Cfg.resp, hvd, hvv, hh, hsid, hvi, hvl]
  have hget := getResponse_answered v (c.deal j i) true 0 hidx
  rw [hvi, hr] at hget
  rw [if_pos hidx, hr] at hpe
  refine ⟨hpe, hvv, hsid, ht, rfl, by simp [answeredAgg, hvv, c.pubs_length], fun k hk => ?_, fun k hk => ?_⟩
  · exact ⟨_, by rw [hget, if_pos hk.symm], rfl⟩
  · rw [hget, if_neg (Ne.symm hk)]

/-- the dealer's unsigned auto-approval on top of the own approval: for the own deal the slot is taken,
`addResponse` refuses and nothing changes -/
theorem HSlot.unsafeSet {c : Cfg F G} {i j : Nat} (hj : j < c.n) {v : Verifier F G} (hs : HSlot c i j (fun x => x = i) v) :
    HSlot c i j (fun x => x = i ∨ x = j) (v.unsafeSetResponse j true) := by
  obtain ⟨a, hv, ha, hdeal⟩ := hs.hagg
  unfold Verifier.unsafeSetResponse
  by_cases hji : j = i
  · obtain ⟨r, hr, _⟩ := ha.hin j hji
    have h1 : ¬ (j ≥ a.vs.length) := by rw [ha.hvs, c.pubs_length]; omega
    simp only [hv, addResponse, h1, if_false, hasResponse, hr, Option.isSome_some, if_true]
    exact hs.congr (fun k => ⟨Or.inl, fun h => h.elim id (fun h => h.trans hji)⟩)
  · obtain ⟨a', hadd, ha', hdeal'⟩ := ha.add { sid := a.sid, index := j, status := true, sig := .junk 0 } hj rfl hji
    simp only [hv, hadd]
    exact ⟨⟨a', rfl, ha', hdeal'.trans hdeal⟩, hs.happ⟩

/-- **a genuine deal that has not been processed yet is processed without error and approved**; the slot it
fills holds the own approval and the dealer's -/
theorem processDeal_genuine_ok (c : Cfg F G) (ephs : List (List F)) (hw : WellFormed c ephs) (i : Nat) (hi : i < c.n)
    (D : Nat → Prop) (R : Nat → Nat → Prop) (RD : Nat → Prop) (d : Gen F G) (hd : HState c i D R RD d)
    (j : Nat) (hj : j < c.n) (hnD : ¬ D j) (hR : ∀ y, R j y ↔ y = i ∨ y = j) (eph : F) (rnd : Nat) (e : EncDeal F G)
    (hseal : sealDeal c.g (c.longs.getD j 0) c.pubs i eph rnd (.deal (c.deal j i)) = some e) :
    (processDeal c.g d ⟨j, some e⟩).2 = .ok ⟨j, some (c.resp j i 0)⟩ ∧
    HState c i (fun x => D x ∨ x = j) R RD (processDeal c.g d ⟨j, some e⟩).1 := by
  have hpub : d.participants[j]? = some ((c.longs.getD j 0) • c.g) := by rw [hd.hpart]; exact c.pubs_get j hj
  have hnv : newVerifier c.g d.long ((c.longs.getD j 0) • c.g) d.participants =
      .ok (slotVerifier c.g d ((c.longs.getD j 0) • c.g) i) := by
    simp [newVerifier, hd.hfind, slotVerifier]
  obtain ⟨hpe, hagg⟩ := processEncryptedDeal_genuine c ephs hw j i hj hi eph rnd e hseal
    (slotVerifier c.g d ((c.longs.getD j 0) • c.g) i) rfl rfl hd.hpart hd.hlong rfl
  have hres : processDeal c.g d ⟨j, some e⟩ = (setVerifier d j
      ((answered (slotVerifier c.g d ((c.longs.getD j 0) • c.g) i) (c.deal j i) true 0).unsafeSetResponse j true),
      .ok ⟨j, some (c.resp j i 0)⟩) := by
    simp only [processDeal, hpub, hd.hnone j hnD, Option.isSome_none, Bool.false_eq_true, if_false, hnv, hpe]
  rw [hres]
  have hslot : HSlot c i j (fun x => x = i) (answered (slotVerifier c.g d ((c.longs.getD j 0) • c.g) i) (c.deal j i) true 0) :=
    ⟨⟨_, rfl, hagg, rfl⟩, rfl⟩
  exact ⟨rfl, hd.setSlot hj ((hslot.unsafeSet hj).congr (fun y => (hR y).symm)) (fun _ => Iff.rfl) (fun _ _ _ => Iff.rfl)⟩

/-- **a genuine response that has not been processed yet is processed without error**, provided its
dealer's deal has been processed; a response about the own deal also goes to the own dealer's aggregator -/
theorem processResponse_genuine_ok (c : Cfg F G) (i : Nat) (D : Nat → Prop) (R : Nat → Nat → Prop) (RD : Nat → Prop)
    (d : Gen F G) (hd : HState c i D R RD d) (j k rnd : Nat) (hj : j < c.n) (hk : k < c.n) (hD : D j)
    (hnR : ¬ R j k) (hnRD : j = i → ¬ RD k) :
    (∃ x, (processResponse c.g d ⟨j, some (c.resp j k rnd)⟩).2 = .ok x) ∧
    HState c i D (fun x y => R x y ∨ (x = j ∧ y = k)) (fun y => RD y ∨ (i = j ∧ y = k))
      (processResponse c.g d ⟨j, some (c.resp j k rnd)⟩).1 := by
  obtain ⟨v, hv, hs⟩ := hd.hslot j hD
  obtain ⟨a, hagg, hha, hdeal⟩ := hs.hagg
  obtain ⟨a', hvr, hha', hdeal'⟩ := verifyResponse_genuine c j k rnd (R j) a hha hk hnR
  have hslot' : HSlot c i j (fun y => R j y ∨ (j = j ∧ y = k)) ({ v with agg := some a' } : Verifier F G) :=
    ⟨⟨a', rfl, hha'.congr (fun y => or_congr_right (by simp)), hdeal'.trans hdeal⟩, hs.happ⟩
  have hset := hd.setSlot (D' := D) (R' := fun x y => R x y ∨ (x = j ∧ y = k)) hj hslot'
    (fun x => ⟨Or.inl, fun h => h.elim id (fun h => h ▸ hD)⟩)
    (fun x y hne => ⟨fun h => h.elim id (fun h => absurd h.1 hne), Or.inl⟩)
  have hstep : processResponse c.g d ⟨j, some (c.resp j k rnd)⟩ =
      (if j ≠ d.index then (setVerifier d j { v with agg := some a' }, .ok none)
       else ownResponse c.g (setVerifier d j { v with agg := some a' }) { v with agg := some a' } a' (c.resp j k rnd)) := by
    simp only [processResponse, hv, hagg, hvr]
  rw [hstep, hd.hidx]
  by_cases hji : j = i
  · rw [if_neg (not_not.2 hji)]
    obtain ⟨da', hdvr, hdha', _⟩ := verifyResponse_genuine c i k rnd RD d.dealer.agg hd.hdealer hk (hnRD hji)
    have hdp : dealerProcessResponse c.g (setVerifier d j { v with agg := some a' }).dealer (c.resp j k rnd) =
        ({ d.dealer with agg := da' }, .ok none) := by
      subst hji
      have h1 : (setVerifier d j { v with agg := some a' }).dealer = d.dealer := rfl
      simp only [h1, dealerProcessResponse, hdvr]
      rfl
    simp only [ownResponse, hdp]
    exact ⟨⟨_, rfl⟩, hset.setDealer _ (hdha'.congr (fun y => or_congr_right (by simp [hji])))⟩
  · rw [if_pos hji]
    have hij : ¬ i = j := fun h => hji h.symm
    exact ⟨⟨_, rfl⟩, hset.setDealer d.dealer (hd.hdealer.congr (fun y => by simp [hij]))⟩

/-- an honest aggregator that holds an approval from every member is certified -/
theorem hagg_full_certified (c : Cfg F G) (hn : c.t ≤ c.n) (j : Nat) (R : Nat → Prop) (a : Agg F G)
    (ha : HAgg c j R a) (hall : ∀ k, k < c.n → R k) : a.certified = true ∧ enoughApprovals a = true := by
  have hstatus : ∀ x ∈ a.responses, ∃ r, x = some r ∧ r.status = true := by
    intro x hx
    obtain ⟨k, hk, hxk⟩ := List.getElem_of_mem hx
    obtain ⟨r, hr, hs⟩ := ha.hin k (hall k (by rw [← ha.hlen]; exact hk))
    unfold getResponse at hr
    rw [List.getElem?_eq_getElem hk, hxk] at hr
    simp only [Option.join_some] at hr
    exact ⟨r, hr, hs⟩
  have hen : enoughApprovals a = true := by
    unfold enoughApprovals
    simp only [decide_eq_true_eq, ge_iff_le]
    apply le_of_le_of_eq (b := a.responses.length)
    · rw [ha.hlen, ha.ht]; exact hn
    · symm
      apply congrArg
      apply List.filter_eq_self.2
      intro x hx
      obtain ⟨r, rfl, hs⟩ := hstatus x hx
      simpa using hs
  refine ⟨?_, hen⟩
  unfold Agg.certified
  simp only [Bool.and_eq_true, List.all_eq_true, List.mem_range, ha.hbad, Bool.not_false, and_true, hen]
  intro k hk
  rw [ha.hvs, c.pubs_length] at hk
  obtain ⟨r, hr, _⟩ := ha.hin k (hall k hk)
  simp [hasResponse, hr]

/-- the fold of `DistKeyShare` succeeds on slots that are certified, store a deal with a share value
and commitment vectors of one length -/
theorem keyShareFold_succeeds (d : Gen F G) (L : Nat) : ∀ (js : List Nat) (sh : F) (pub : Option (List G)),
    (∀ p, pub = some p → p.length = L) →
    (∀ j ∈ js, ∃ v dl i val, getVerifier d j = some v ∧ v.dealOut = some (some dl) ∧
      dl.share = some ⟨i, some val⟩ ∧ dl.commits.length = L) →
    ∃ sh' pub', keyShareFold d js sh pub = .ok (sh', pub') ∧ (pub.isSome = true ∨ js ≠ [] → pub'.isSome = true) := by
  intro js
  induction js with
  | nil => intro sh pub _ _; exact ⟨sh, pub, rfl, fun h => h.elim id (absurd rfl)⟩
  | cons j js ih =>
    intro sh pub hp hjs
    obtain ⟨v, dl, i, val, hv, hdo, hsh, hlen⟩ := hjs j (by simp)
    have hrest : ∀ j' ∈ js, _ := fun j' hj' => hjs j' (by simp [hj'])
    unfold keyShareFold
    simp only [hv, hdo, hsh]
    rcases pub with _ | p
    · obtain ⟨sh', pub', h1, h3⟩ := ih (sh + val) (some dl.commits) (fun q hq => by injection hq with hq; rw [← hq, hlen]) hrest
      exact ⟨sh', pub', h1, fun _ => h3 (Or.inl rfl)⟩
    · have hpl : p.length = dl.commits.length := by rw [hp p rfl, hlen]
      have hadd : pubAdd p dl.commits = .ok (List.zipWith (· + ·) p dl.commits) := by simp [pubAdd, hpl]
      simp only [hadd]
      obtain ⟨sh', pub', h1, h3⟩ := ih (sh + val) (some (List.zipWith (· + ·) p dl.commits))
        (fun q hq => by injection hq with hq; rw [← hq]; simp [hpl, hlen]) hrest
      exact ⟨sh', pub', h1, fun _ => h3 (Or.inl rfl)⟩

/-- **once every deal and every response has been processed, `DistKeyShare()` succeeds** -/
theorem distKeyShare_full (c : Cfg F G) (ephs : List (List F)) (hw : WellFormed c ephs) (i : Nat)
    (D : Nat → Prop) (R : Nat → Nat → Prop) (RD : Nat → Prop) (d : Gen F G) (hd : HState c i D R RD d)
    (hD : ∀ j, j < c.n → D j) (hR : ∀ j k, j < c.n → k < c.n → R j k) :
    ∃ ks, distKeyShare d = .ok ks := by
  have hn : c.t ≤ c.n := by have := hw.three; simp only [Cfg.t]; omega
  have hslots : ∀ j, j < c.n → ∃ v, getVerifier d j = some v ∧ v.dealCertified = true ∧
      v.dealOut = some (some (c.deal j i)) := by
    intro j hj
    obtain ⟨v, hv, hs⟩ := hd.hslot j (hD j hj)
    obtain ⟨a, hagg, hha, hdeal⟩ := hs.hagg
    obtain ⟨hc, he⟩ := hagg_full_certified c hn j (R j) a hha (fun k hk => hR j k hj hk)
    refine ⟨v, hv, by simp [Verifier.dealCertified, hagg, hc, hs.happ], ?_⟩
    simp [Verifier.dealOut, hagg, hc, he, hdeal, hs.happ]
  have hqual : qual d = List.range c.n := by
    unfold qual
    rw [hd.hlen]
    refine List.filter_eq_self.2 (fun j hj => ?_)
    obtain ⟨v, hv, hc, _⟩ := hslots j (List.mem_range.1 hj)
    simp only [hv, hc]
  have hcert : certified d = true := by
    simp only [certified, hqual, List.length_range, hd.hpart, c.pubs_length, ge_iff_le, Nat.le_refl, decide_true]
  obtain ⟨sh', pub', hf, hne⟩ := keyShareFold_succeeds d c.t (List.range c.n) 0 none (fun p hp => by cases hp) (by
    intro j hj
    have hjn := List.mem_range.1 hj
    obtain ⟨v, hv, _, hdo⟩ := hslots j hjn
    refine ⟨v, c.deal j i, _, _, hv, hdo, rfl, ?_⟩
    simp only [Cfg.deal, honestDeal, commit, List.length_map]
    exact hw.poly_length hjn)
  have hsome : pub'.isSome = true := hne (Or.inr (fun he => by
    have h2 := congrArg List.length he
    rw [List.length_range, List.length_nil] at h2
    have := hw.three; omega))
  obtain ⟨commits, hcm⟩ := Option.isSome_iff_exists.1 hsome
  refine ⟨{ commits := commits, shareI := d.index, shareV := sh', priPoly := d.dealer.f }, ?_⟩
  unfold distKeyShare
  simp only [hcert, Bool.true_eq_false, if_false, hqual, hf, hcm]

end Dos.Dkg
