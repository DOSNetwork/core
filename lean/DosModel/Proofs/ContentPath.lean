/-
For Props/C07.lean: the document bound of `dataFetch` and the reports of a group run.
-/
import DosModel.Proofs.Query
import DosModel.Model.ContentPath

namespace Dos.ContentPath
open Dos Dos.Content

theorem dataFetch_some {m : Nat} {tr : Option Bytes} {d : Bytes} (h : dataFetch m tr = some d) :
    tr = some d ∧ d.length ≤ m := by
  unfold dataFetch at h
  cases tr with
  | none => simp at h
  | some body =>
    simp only at h
    by_cases hb : m < body.length
    · simp [hb] at h
    · simp only [hb, if_false, Option.some.injEq] at h
      subst h
      exact ⟨rfl, Nat.le_of_not_lt hb⟩

theorem dataFetch_len (m : Nat) (body : Bytes) :
    (dataFetch m (some body)).map List.length = fetchLen m body.length := by
  unfold dataFetch fetchLen
  by_cases hb : m < body.length <;> simp [hb]

/-- every report in a group run is a report of `handleQuery` at the member it is attributed to, with
SOME list of messages from the collector -/
theorem groupRun_reports (C : Query.Crypto) (p a : Nat) (ids : List Bytes) (signOf : Nat → Bytes → Bytes)
    (f : Fields) (parsedAt : Nat → Option Bytes) (order : List Nat) (extra : List (Option Query.Msg))
    (o : GroupOut) (ho : groupRun C p a ids signOf f parsedAt order extra = some o)
    (i : Nat) (rep : Query.Report) (h : (i, rep) ∈ o.reports) :
    ∃ fc, rep ∈ (Query.handleQuery C p a { ids := ids, me := ids.getD i [], signOwn := signOf i }
      (requestAt f parsedAt i) fc).reports := by
  unfold groupRun at ho
  cases hs : submitterIdx f.last ids.length with
  | none => simp [hs] at ho
  | some subI =>
    simp only [hs, Option.some.injEq] at ho
    subst ho
    simp only [List.mem_append, List.mem_flatMap, List.mem_map, Prod.mk.injEq, Prod.exists] at h
    rcases h with ⟨j, out, hmem, r, hr, hj, hrr⟩ | ⟨r, hr, hi, hrr⟩
    · obtain ⟨k, _, hk, hout⟩ := hmem
      subst hout; subst hj; subst hrr; subst hk
      exact ⟨[], hr⟩
    · subst hi; subst hrr
      exact ⟨_, hr⟩

end Dos.ContentPath
