/-
C20 — the parts of the translated scalar code that need the REAL shift (`shrI` = floor division):
  * the shape of a result: limbs 0…10 proper 21-bit digits (`Digits11`), limbs 12…23 zero (`HiZero`);
  * the byte packing `out[0] = byte(s0 >> 0) … out[31] = byte(s11 >> 17)` writes the little-endian
    bytes of Σ sᵢ·2^(21 i) when limbs 0…10 are 21-bit digits and 0 ≤ s11 < 2^25 (`pack_value`).
That the results of the five routines have this shape and this top limb: Ed25519Bytes, Ed25519Ranges.
-/
import DosModel.Proofs.Ed25519Sc
import DosModel.Proofs.Ed25519Bits

set_option exponentiation.threshold 600

namespace Dos.Ed25519
open Dos Dos.Gen.Ed25519Sc

/-- limbs 0…10 are proper 21-bit digits -/
def Digits11 (s : L24) : Prop :=
  (0 ≤ s.s0 ∧ s.s0 < 2097152) ∧ (0 ≤ s.s1 ∧ s.s1 < 2097152) ∧ (0 ≤ s.s2 ∧ s.s2 < 2097152) ∧ (0 ≤ s.s3 ∧ s.s3 < 2097152)
  ∧ (0 ≤ s.s4 ∧ s.s4 < 2097152) ∧ (0 ≤ s.s5 ∧ s.s5 < 2097152) ∧ (0 ≤ s.s6 ∧ s.s6 < 2097152) ∧ (0 ≤ s.s7 ∧ s.s7 < 2097152)
  ∧ (0 ≤ s.s8 ∧ s.s8 < 2097152) ∧ (0 ≤ s.s9 ∧ s.s9 < 2097152) ∧ (0 ≤ s.s10 ∧ s.s10 < 2097152)

/-- limbs 12…23 are zero -/
def HiZero (s : L24) : Prop :=
  s.s12 = 0 ∧ s.s13 = 0 ∧ s.s14 = 0 ∧ s.s15 = 0 ∧ s.s16 = 0 ∧ s.s17 = 0 ∧ s.s18 = 0 ∧ s.s19 = 0
  ∧ s.s20 = 0 ∧ s.s21 = 0 ∧ s.s22 = 0 ∧ s.s23 = 0

theorem value_of_hiZero (s : L24) (h : HiZero s) :
    value s = value12 s.s0 s.s1 s.s2 s.s3 s.s4 s.s5 s.s6 s.s7 s.s8 s.s9 s.s10 s.s11 := by
  obtain ⟨h12, h13, h14, h15, h16, h17, h18, h19, h20, h21, h22, h23⟩ := h
  simp only [value, value12, h12, h13, h14, h15, h16, h17, h18, h19, h20, h21, h22, h23]
  ring

theorem runBlocks_last (shr : Shr) (bs : List (Shr → L24 → L24)) (h : bs ≠ []) (s : L24) :
    runBlocks shr bs s = (bs.getLast h) shr (runBlocks shr bs.dropLast s) := by
  have e := List.dropLast_concat_getLast h
  have : runBlocks shr (bs.dropLast ++ [bs.getLast h]) s = (bs.getLast h) shr (runBlocks shr bs.dropLast s) := by
    simp [runBlocks, List.foldl_append]
  rw [e] at this
  exact this

/-- the packing of scalar.go, low 21 bytes: limbs 0…7 -/
def packLo (shr : Shr) (s0 s1 s2 s3 s4 s5 s6 s7 : Int) : Bytes :=
  [byte (shr s0 0), byte (shr s0 8), byte (bor (shr s0 16) (shl s1 5)), byte (shr s1 3), byte (shr s1 11),
   byte (bor (shr s1 19) (shl s2 2)), byte (shr s2 6), byte (bor (shr s2 14) (shl s3 7)), byte (shr s3 1),
   byte (shr s3 9), byte (bor (shr s3 17) (shl s4 4)), byte (shr s4 4), byte (shr s4 12),
   byte (bor (shr s4 20) (shl s5 1)), byte (shr s5 7), byte (bor (shr s5 15) (shl s6 6)), byte (shr s6 2),
   byte (shr s6 10), byte (bor (shr s6 18) (shl s7 3)), byte (shr s7 5), byte (shr s7 13)]

/-- high 11 bytes: limbs 8…11 -/
def packHi (shr : Shr) (s8 s9 s10 s11 : Int) : Bytes :=
  [byte (shr s8 0), byte (shr s8 8), byte (bor (shr s8 16) (shl s9 5)), byte (shr s9 3), byte (shr s9 11),
   byte (bor (shr s9 19) (shl s10 2)), byte (shr s10 6), byte (bor (shr s10 14) (shl s11 7)), byte (shr s11 1),
   byte (shr s11 9), byte (shr s11 17)]

theorem pack_eq (shr : Shr) (s : L24) :
    packLo shr s.s0 s.s1 s.s2 s.s3 s.s4 s.s5 s.s6 s.s7 ++ packHi shr s.s8 s.s9 s.s10 s.s11
      = packBytes shr [(21, s.s0), (21, s.s1), (21, s.s2), (21, s.s3), (21, s.s4), (21, s.s5), (21, s.s6), (21, s.s7),
          (21, s.s8), (21, s.s9), (21, s.s10), (25, s.s11)] 0 32 :=
  rfl

/-- the packed bytes spell the value of the 12 limbs -/
theorem pack_value (s : L24) (hd : Digits11 s) (h11 : 0 ≤ s.s11 ∧ s.s11 < 33554432) :
    (leNat (packLo shrI s.s0 s.s1 s.s2 s.s3 s.s4 s.s5 s.s6 s.s7 ++ packHi shrI s.s8 s.s9 s.s10 s.s11) : Int)
      = value12 s.s0 s.s1 s.s2 s.s3 s.s4 s.s5 s.s6 s.s7 s.s8 s.s9 s.s10 s.s11 := by
  rw [pack_eq, leNat_packBytes _ ?_ 32 (by simp [bitsL])]
  · simp only [valL, value12]
    ring
  · simp only [Digits11] at hd
    simp only [DigitsL, List.mem_cons, List.not_mem_nil, or_false, forall_eq_or_imp, forall_eq]
    omega

end Dos.Ed25519
