/-
Liveness of honest key generation, batch level: `getAndProcessDeals` on a batch of genuine deals of
distinct dealers hands on with an approval for each; `getAndProcessResponses` on a batch of genuine
responses with distinct (dealer, responder) keys reports no error.  Every step is a step of `HonestReach`.
-/
import DosModel.Proofs.DkgLiveStage

set_option linter.unusedSectionVars false

namespace Dos.Dkg
open Dos Dos.Vss

variable {F G : Type} [Field F] [AddCommGroup G] [Module F G] [DecidableEq F] [DecidableEq G]

/-- the approvals every slot holds before any `Responses` message: the own one and the dealer's -/
def baseResps (i : Nat) (x y : Nat) : Prop := y = i ∨ y = x

/-- a genuine deal message of dealer `m.index` for member `i` -/
def GenuineDealFor (c : Cfg F G) (i : Nat) (m : DkgDeal F G) : Prop :=
  ∃ (eph : F) (rnd : Nat) (e : EncDeal F G), m.index < c.n ∧ m.deal = some e ∧
    sealDeal c.g (c.longs.getD m.index 0) c.pubs i eph rnd (.deal (c.deal m.index i)) = some e

/-- a genuine deal as member `i` receives it is a genuine deal in the sense of `HonestReach` -/
theorem genuineFor_genuine (c : Cfg F G) (ephs : List (List F)) (hw : WellFormed c ephs) (i : Nat) (m : DkgDeal F G)
    (h : GenuineDealFor c i m) : GenuineDeal c m := by
  obtain ⟨eph, rnd, e, hlt, hd, hs⟩ := h
  have hl : m.index < c.longs.length := hlt
  have hp : m.index < c.polys.length := by rw [hw.polys_len]; exact hlt
  refine ⟨m.index, i, c.longs.getD m.index 0, eph, c.polys.getD m.index [], rnd, by simp [List.getD_eq_getElem?_getD, hl],
    by simp [List.getD_eq_getElem?_getD, hp], ?_⟩
  rcases m with ⟨idx, dl⟩
  simp only at hd hs ⊢
  rw [hd, ← hs]; rfl

theorem runDeals_cons_ok (g : G) (d : Gen F G) (m : DkgDeal F G) (ms : List (DkgDeal F G)) (acc : List (DkgResp F G))
    (j : Nat) (r : Response F G) (h : (processDeal g d m).2 = .ok ⟨j, some r⟩) (hs : r.status = true) :
    runDeals g d (m :: ms) acc = runDeals g (processDeal g d m).1 ms (acc ++ [⟨j, some r⟩]) := by
  rw [runDeals]
  revert h
  rcases processDeal g d m with ⟨d1, res⟩
  rintro rfl
  simp only [hs, if_true]

theorem runResps_cons_ok (g : G) (d : Gen F G) (m : DkgResp F G) (ms : List (DkgResp F G))
    (x : Option (DkgJust F G)) (h : (processResponse g d m).2 = .ok x) :
    runResps g d (m :: ms) = runResps g (processResponse g d m).1 ms := by
  rw [runResps]
  revert h
  rcases processResponse g d m with ⟨d1, res⟩
  rintro rfl
  rfl

/-- **`getAndProcessDeals` on genuine deals of new, distinct dealers** -/
theorem runDeals_genuine (c : Cfg F G) (ephs : List (List F)) (hw : WellFormed c ephs) (i : Nat) (hi : i < c.n)
    (RD : Nat → Prop) :
    ∀ (batch : List (DkgDeal F G)) (D : Nat → Prop) (d : Gen F G) (acc : List (DkgResp F G)),
      HState c i D (baseResps i) RD d → HonestReach c i d →
      (∀ m ∈ batch, GenuineDealFor c i m) → (batch.map (·.index)).Nodup → (∀ m ∈ batch, ¬ D m.index) →
      ∃ d', runDeals c.g d batch acc =
          (d', some (acc ++ batch.map (fun m => ⟨m.index, some (c.resp m.index i 0)⟩))) ∧
        HState c i (fun x => D x ∨ x ∈ batch.map (·.index)) (baseResps i) RD d' ∧ HonestReach c i d' := by
  intro batch
  induction batch with
  | nil =>
    intro D d acc hd hr _ _ _
    exact ⟨d, by simp [runDeals], hd.congr (fun _ => by simp) (fun _ _ _ => Iff.rfl) (fun _ => Iff.rfl), hr⟩
  | cons m ms ih =>
    intro D d acc hd hr hgen hnd hnew
    obtain ⟨eph, rnd, e, hjn, hme, hseal⟩ := hgen m (by simp)
    have hm : m = ⟨m.index, some e⟩ := by cases m; exact congrArg _ hme
    obtain ⟨hres, hst⟩ := processDeal_genuine_ok c ephs hw i hi D (baseResps i) RD d hd m.index hjn
      (hnew m (by simp)) (fun _ => Iff.rfl) eph rnd e hseal
    rw [← hm] at hres hst
    obtain ⟨hnotin, hnd'⟩ := List.nodup_cons.1 hnd
    obtain ⟨d', hrun, hfin, hr'⟩ := ih _ (processDeal c.g d m).1 (acc ++ [⟨m.index, some (c.resp m.index i 0)⟩]) hst
      (hr.deal d m (genuineFor_genuine c ephs hw i m (hgen m (by simp)))) (fun x hx => hgen x (by simp [hx])) hnd'
      (fun x hx h => h.elim (hnew x (by simp [hx])) (fun he => hnotin (List.mem_map.2 ⟨x, hx, he⟩)))
    refine ⟨d', ?_, hfin.congr (fun x => by simp only [List.map_cons, List.mem_cons, or_assoc])
      (fun _ _ _ => Iff.rfl) (fun _ => Iff.rfl), hr'⟩
    rw [runDeals_cons_ok c.g d m ms acc m.index (c.resp m.index i 0) hres rfl, hrun, List.append_assoc]
    rfl

/-- (dealer, responder) of a response message; the `0` for a message without a response is never looked at:
every statement about `keyRs` is about genuine messages (`GRs`), which carry one -/
def keyRs (m : DkgResp F G) : Nat × Nat := (m.index, (m.resp.map (·.index)).getD 0)

/-- **`getAndProcessResponses` on genuine responses with new, distinct (dealer, responder) keys** -/
theorem runResps_genuine (c : Cfg F G) (i : Nat) (D : Nat → Prop) :
    ∀ (batch : List (DkgResp F G)) (R : Nat → Nat → Prop) (RD : Nat → Prop) (d : Gen F G),
      HState c i D R RD d → HonestReach c i d → (∀ m ∈ batch, ∃ j k rnd, m = ⟨j, some (c.resp j k rnd)⟩) →
      (batch.map keyRs).Nodup →
      (∀ p ∈ batch.map keyRs, p.1 < c.n ∧ p.2 < c.n ∧ D p.1 ∧ ¬ R p.1 p.2 ∧ (p.1 = i → ¬ RD p.2)) →
      ∃ d', runResps c.g d batch = (d', true) ∧ HonestReach c i d' ∧
        HState c i D (fun x y => R x y ∨ (x, y) ∈ batch.map keyRs) (fun y => RD y ∨ (i, y) ∈ batch.map keyRs) d' := by
  intro batch
  induction batch with
  | nil =>
    intro R RD d hd hr _ _ _
    exact ⟨d, by simp [runResps], hr, hd.congr (fun _ => Iff.rfl) (fun _ _ _ => by simp) (fun _ => by simp)⟩
  | cons m ms ih =>
    intro R RD d hd hr hgen hnd hnew
    obtain ⟨j, k, rnd, hm⟩ := hgen m (by simp)
    have hkey : keyRs m = (j, k) := by rw [hm]; rfl
    rw [List.map_cons, hkey] at hnd hnew
    obtain ⟨h1, h2, h3, h4, h5⟩ := hnew (j, k) (by simp)
    obtain ⟨⟨x, hok⟩, hst⟩ := processResponse_genuine_ok c i D R RD d hd j k rnd h1 h2 h3 h4 h5
    rw [← hm] at hok hst
    obtain ⟨hnotin, hnd'⟩ := List.nodup_cons.1 hnd
    obtain ⟨d', hrun, hr', hfin⟩ := ih _ _ (processResponse c.g d m).1 hst (hr.resp d m) (fun x hx => hgen x (by simp [hx])) hnd' (by
      intro q hq
      obtain ⟨q1, q2, q3, q4, q5⟩ := hnew q (List.mem_cons_of_mem _ hq)
      have hne : ¬ (q.1 = j ∧ q.2 = k) := fun h =>
        hnotin ((Prod.ext h.1 h.2 : q = (j, k)) ▸ hq)
      exact ⟨q1, q2, q3, fun h => h.elim q4 hne, fun hqi h => h.elim (q5 hqi) (fun h => hne ⟨hqi.trans h.1, h.2⟩)⟩)
    refine ⟨d', ?_, hr', hfin.congr (fun _ => Iff.rfl)
      (fun x y _ => by simp only [List.map_cons, hkey, List.mem_cons, Prod.mk.injEq, or_assoc])
      (fun y => by simp only [List.map_cons, hkey, List.mem_cons, Prod.mk.injEq, or_assoc])⟩
    rw [runResps_cons_ok c.g d m ms x hok]
    exact hrun

end Dos.Dkg
