/-
Helper lemmas for C06: `PairingCheck` computes the product of the pairings (skipping identity
pairs is harmless because e(O, ·) = e(·, O) = 1), for ANY operations that implement a bilinear map.

The operations act on representation types `P1 P2 PT` (Jacobian/affine points, Miller-loop values)
that need not be groups themselves and may contain junk values; `IsPairing` therefore speaks about
*valid* representations (`V1 V2 VT`) and their denotations `ι1 : P1 → A1`, `ι2 : P2 → A2` in additive
commutative groups, `fe : PT → T` in a commutative group.  The fully abstract reading is
`V = fun _ => True`, `ι = id`.
-/
import Mathlib.Algebra.Group.Basic
import Mathlib.Algebra.Group.TypeTags.Basic
import Mathlib.Algebra.Group.Int.Defs
import DosModel.Model.Bls

namespace Dos.Bls
open Dos Dos.Codec

variable {P1 P2 PT A1 A2 T : Type}

/-- The operations `PairingCheck` calls implement, on valid representations, a bilinear map
`e : A1 × A2 → T`.  `fe` = "final exponentiation" read as a map from Miller-loop values to the
target group; `miller` is only constrained on valid non-identity arguments (the code never calls it
on an identity). -/
structure IsPairing [AddCommGroup A1] [AddCommGroup A2] [CommGroup T]
    (o : PairingOps P1 P2 PT) (V1 : P1 → Prop) (V2 : P2 → Prop) (VT : PT → Prop)
    (ι1 : P1 → A1) (ι2 : P2 → A2) (e : A1 → A2 → T) (fe : PT → T) : Prop where
  inf1 : ∀ a, V1 a → (o.isInf1 a = true ↔ ι1 a = 0)
  inf2 : ∀ b, V2 b → (o.isInf2 b = true ↔ ι2 b = 0)
  one_valid : VT o.one
  fe_one : fe o.one = 1
  mul_valid : ∀ x y, VT x → VT y → VT (o.mul x y)
  fe_mul : ∀ x y, VT x → VT y → fe (o.mul x y) = fe x * fe y
  miller_valid : ∀ a b, V1 a → V2 b → VT (o.miller b a)
  fe_miller : ∀ a b, V1 a → V2 b → ι1 a ≠ 0 → ι2 b ≠ 0 → fe (o.miller b a) = e (ι1 a) (ι2 b)
  final : ∀ x, VT x → (o.finalIsOne x = true ↔ fe x = 1)
  add_left : ∀ a a' b, e (a + a') b = e a b * e a' b
  add_right : ∀ a b b', e a (b + b') = e a b * e a b'

section
variable [AddCommGroup A1] [AddCommGroup A2] [CommGroup T]
variable {o : PairingOps P1 P2 PT} {V1 : P1 → Prop} {V2 : P2 → Prop} {VT : PT → Prop}
variable {ι1 : P1 → A1} {ι2 : P2 → A2} {e : A1 → A2 → T} {fe : PT → T}

theorem IsPairing.zero_left (h : IsPairing o V1 V2 VT ι1 ι2 e fe) (b : A2) : e 0 b = 1 := by
  have := h.add_left 0 0 b
  rw [add_zero] at this
  exact (mul_eq_left.mp this.symm)

theorem IsPairing.zero_right (h : IsPairing o V1 V2 VT ι1 ι2 e fe) (a : A1) : e a 0 = 1 := by
  have := h.add_right a 0 0
  rw [add_zero] at this
  exact (mul_eq_left.mp this.symm)

theorem IsPairing.neg_left (h : IsPairing o V1 V2 VT ι1 ι2 e fe) (a : A1) (b : A2) :
    e (-a) b = (e a b)⁻¹ := by
  have := h.add_left a (-a) b
  rw [add_neg_cancel, h.zero_left] at this
  exact (eq_inv_of_mul_eq_one_right this.symm)

theorem IsPairing.nsmul_left (h : IsPairing o V1 V2 VT ι1 ι2 e fe) (n : Nat) (a : A1) (b : A2) :
    e (n • a) b = e a b ^ n := by
  induction n with
  | zero => simp [h.zero_left]
  | succ n ih => rw [succ_nsmul, h.add_left, ih, pow_succ]

theorem IsPairing.nsmul_right (h : IsPairing o V1 V2 VT ι1 ι2 e fe) (n : Nat) (a : A1) (b : A2) :
    e a (n • b) = e a b ^ n := by
  induction n with
  | zero => simp [h.zero_right]
  | succ n ih => rw [succ_nsmul, h.add_right, ih, pow_succ]

/-- the product ∏ e(aᵢ, bᵢ) over the pairs `PairingCheck` is given -/
def pairProd (e : A1 → A2 → T) (ι1 : P1 → A1) (ι2 : P2 → A2) : List P1 → List P2 → T
  | a :: as, b :: bs => e (ι1 a) (ι2 b) * pairProd e ι1 ι2 as bs
  | _, _ => 1

/-- one turn of the loop multiplies the accumulator's value by `e(a, b)`, skipped pairs included -/
theorem IsPairing.step (h : IsPairing o V1 V2 VT ι1 ι2 e fe) {a : P1} {b : P2} {acc : PT}
    (ha : V1 a) (hb : V2 b) (hacc : VT acc) :
    VT (if o.isInf1 a || o.isInf2 b then acc else o.mul acc (o.miller b a)) ∧
    fe (if o.isInf1 a || o.isInf2 b then acc else o.mul acc (o.miller b a)) = fe acc * e (ι1 a) (ι2 b) := by
  split
  · rename_i hi
    refine ⟨hacc, ?_⟩
    rcases Bool.or_eq_true_iff.1 hi with h1 | h1
    · rw [(h.inf1 a ha).1 h1, h.zero_left, mul_one]
    · rw [(h.inf2 b hb).1 h1, h.zero_right, mul_one]
  · rename_i hi
    rw [Bool.or_eq_true_iff, not_or, h.inf1 a ha, h.inf2 b hb] at hi
    have hm := h.miller_valid a b ha hb
    exact ⟨h.mul_valid _ _ hacc hm, by rw [h.fe_mul _ _ hacc hm, h.fe_miller a b ha hb hi.1 hi.2]⟩

/-- with a `b` for every `a` the loop ends, its value multiplied by the product over the pairs; surplus `b`s
are never read (`pairProd` stops with the shorter list) -/
theorem pairingAcc_spec (h : IsPairing o V1 V2 VT ι1 ι2 e fe) :
    ∀ (as : List P1) (bs : List P2) (acc : PT), as.length ≤ bs.length →
      (∀ a ∈ as, V1 a) → (∀ b ∈ bs, V2 b) → VT acc →
      ∃ acc', pairingAcc o as bs acc = some acc' ∧ VT acc' ∧
        fe acc' = fe acc * pairProd e ι1 ι2 as bs
  | [], _, acc, _, _, _, hacc => ⟨acc, rfl, hacc, by simp [pairProd]⟩
  | a :: as, [], _, hl, _, _, _ => by simp at hl
  | a :: as, b :: bs, acc, hl, hA, hB, hacc => by
    obtain ⟨hv, hf⟩ := h.step (hA a List.mem_cons_self) (hB b List.mem_cons_self) hacc
    obtain ⟨acc', h1, hv', h2⟩ := pairingAcc_spec h as bs _ (by simpa using hl)
      (fun x hx => hA x (List.mem_cons_of_mem _ hx)) (fun x hx => hB x (List.mem_cons_of_mem _ hx)) hv
    refine ⟨acc', ?_, hv', by rw [h2, hf, pairProd, mul_assoc]⟩
    rw [← h1, pairingAcc]
    split <;> rfl

omit [AddCommGroup A1] [AddCommGroup A2] [CommGroup T] in
/-- `b[i]` past the end of `b`: the index panic of the Go loop -/
theorem pairingAcc_short (o : PairingOps P1 P2 PT) :
    ∀ (as : List P1) (bs : List P2) (acc : PT), bs.length < as.length → pairingAcc o as bs acc = none := by
  intro as
  induction as with
  | nil => intro bs acc hl; simp at hl
  | cons a as ih =>
    intro bs acc hl
    cases bs with
    | nil => rfl
    | cons b bs =>
      have hl' : bs.length < as.length := by simpa using hl
      simp only [pairingAcc]
      split <;> exact ih _ _ hl'

theorem pairingCheck_spec (h : IsPairing o V1 V2 VT ι1 ι2 e fe) (as : List P1) (bs : List P2)
    (hl : as.length ≤ bs.length) (hA : ∀ a ∈ as, V1 a) (hB : ∀ b ∈ bs, V2 b) :
    ∃ b, pairingCheck o as bs = .ok b ∧ (b = true ↔ pairProd e ι1 ι2 as bs = 1) := by
  obtain ⟨acc', h1, hv, h2⟩ := pairingAcc_spec h as bs o.one hl hA hB h.one_valid
  refine ⟨o.finalIsOne acc', by simp [pairingCheck, h1], ?_⟩
  rw [h.final _ hv, h2, h.fe_one, one_mul]

end

theorem hashToPoint_eq (o : BlsOps P1 P2 PT) (msg : Bytes) :
    hashToPoint o msg = o.baseMul1 (o.hashScalar msg) := rfl

/-! ### a small instance (P1 = P2 = ℤ, e(a,b) = a·b in (ℤ,+)) used for executable examples of
`pairingCheck` / `verify`; its toy `marshal1`/`unmarshal1` round-trip only on 0..255 -/

def intOps : BlsOps Int Int Int where
  isInf1 := fun a => a == 0
  isInf2 := fun b => b == 0
  miller := fun b a => a * b
  one := 0
  mul := fun x y => x + y
  finalIsOne := fun x => x == 0
  hashScalar := fun m => m.length + 1
  baseMul1 := fun k => (k : Int)
  mul1 := fun k a => (k : Int) * a
  neg1 := fun a => -a
  base2 := 1
  unmarshal1 := fun b => match b with
    | [] => .err .short
    | x :: _ => .ok (x.toNat : Int)
  marshal1 := fun a => [UInt8.ofNat a.toNat]

theorem intOps_isPairing :
    IsPairing (T := Multiplicative Int) intOps.toPairingOps (fun _ => True) (fun _ => True) (fun _ => True)
      id id (fun a b => Multiplicative.ofAdd (a * b)) (fun x => Multiplicative.ofAdd x) where
  inf1 := by intro a _; simp [intOps]
  inf2 := by intro b _; simp [intOps]
  one_valid := trivial
  fe_one := rfl
  mul_valid := by intros; trivial
  fe_mul := by intro x y _ _; rfl
  miller_valid := by intros; trivial
  fe_miller := by intro a b _ _ _ _; rfl
  final := by
    intro x _
    simp only [intOps, beq_iff_eq]
    exact ofAdd_eq_one.symm
  add_left := by intro a a' b; show Multiplicative.ofAdd _ = Multiplicative.ofAdd (_ + _); rw [Int.add_mul]; rfl
  add_right := by intro a b b'; show Multiplicative.ofAdd _ = Multiplicative.ofAdd (_ + _); rw [Int.mul_add]; rfl

end Dos.Bls
