/-
Helper lemmas for the history semantics of `Model/BlsHist.lean` (C06): an implementation whose every
call returns the one-shot outcome of the values at call time — whatever hidden state it keeps — produces
the pointwise outcome list; the model (`pureImpl`) is such an implementation; histories compose and calls
leave the caller's memory alone.  Also: `memoImpl`, the model of an implementation that REMEMBERS THE
CALLER'S SLICE of the last message together with its hash point (a hash memo keyed by the slice header),
used in `Props/C06Hist.lean` to show that the history semantics does distinguish such an implementation.
-/
import DosModel.Model.BlsHist
import DosModel.Proofs.Bls

namespace Dos.BlsHist
open Dos Dos.Codec Dos.Bls

variable {P1 P2 PT : Type}

theorem runWith_pointwise {σ : Type} (o : BlsOps P1 P2 PT) (k : KeyOps P2) (I : Impl σ P2)
    (hI : ∀ s st c, (I.call s st c).1 = evalCall o k st c) :
    ∀ (steps : List (Step P2)) (s : σ) (st : Store P2),
      runWith I s st steps = (argsAt o k st steps).map (outcomeOf o k) := by
  intro steps
  induction steps with
  | nil => intro s st; rfl
  | cons x rest ih =>
    intro s st
    cases x with
    | upd m => simp only [runWith, argsAt]; exact ih s _
    | call c dst =>
      simp only [runWith, argsAt, List.map_cons]
      rw [hI s st c, ih]
      congr 1

theorem runHist_pointwise (o : BlsOps P1 P2 PT) (k : KeyOps P2) (st : Store P2) (steps : List (Step P2)) :
    runHist o k st steps = (argsAt o k st steps).map (outcomeOf o k) :=
  runWith_pointwise o k (pureImpl o k) (fun _ _ _ => rfl) steps () st

theorem runHist_append (o : BlsOps P1 P2 PT) (k : KeyOps P2) :
    ∀ (pre post : List (Step P2)) (st : Store P2),
      runHist o k st (pre ++ post) = runHist o k st pre ++ runHist o k (storeAfter o k st pre) post := by
  intro pre
  induction pre with
  | nil => intro post st; rfl
  | cons x rest ih =>
    intro post st
    cases x with
    | upd m =>
      simp only [List.cons_append, runHist, runWith, storeAfter]
      exact ih post _
    | call c dst =>
      simp only [List.cons_append, runHist, runWith, storeAfter, pureImpl]
      exact congrArg _ (ih post _)

theorem capture_none (st : Store P2) (out : Outcome) : capture st out none = st := by
  cases out <;> rfl

theorem runHist_call_none (o : BlsOps P1 P2 PT) (k : KeyOps P2) (st : Store P2) (c : Call)
    (post : List (Step P2)) :
    runHist o k st (.call c none :: post) = evalCall o k st c :: runHist o k st post := by
  simp only [runHist, runWith, pureImpl, capture_none]

theorem storeAfter_append (o : BlsOps P1 P2 PT) (k : KeyOps P2) :
    ∀ (pre post : List (Step P2)) (st : Store P2),
      storeAfter o k st (pre ++ post) = storeAfter o k (storeAfter o k st pre) post := by
  intro pre
  induction pre with
  | nil => intro post st; rfl
  | cons x rest ih =>
    intro post st
    cases x <;> simp only [List.cons_append, storeAfter] <;> exact ih post _

/-! ### the caller's memory: what a refill does (`write` then `read`), on well-formed stores -/

/-- every slice variable lies inside its backing array -/
def Store.WF (st : Store P2) : Prop :=
  ∀ b s, st.bufs.lookup b = some s →
    ∃ a, st.arrays[s.arr]? = some a ∧ s.off + s.cap ≤ a.length ∧ s.len ≤ s.cap

theorem Store.WF_empty : ({} : Store P2).WF := by
  intro b s h; simp [List.lookup] at h

theorem overwrite_length (a : Bytes) (off : Nat) (bs : Bytes) (h : off + bs.length ≤ a.length) :
    (overwrite a off bs).length = a.length := by
  simp only [overwrite, List.length_append, List.length_take, List.length_drop]
  omega

theorem overwrite_read (a : Bytes) (off : Nat) (bs : Bytes) (h : off + bs.length ≤ a.length) :
    ((overwrite a off bs).drop off).take bs.length = bs := by
  have h1 : (a.take off).length = off := by rw [List.length_take]; omega
  unfold overwrite
  rw [List.append_assoc, List.drop_append_of_le_length (by omega)]
  have : (a.take off).drop off = [] := by
    apply List.drop_of_length_le; omega
  rw [this, List.nil_append, List.take_append_of_le_length (by omega), List.take_of_length_le (by omega)]

theorem lookup_cons_self {α : Type} (b : Nat) (v : α) (l : List (Nat × α)) :
    List.lookup b ((b, v) :: l) = some v := by
  simp [List.lookup]

/-- **a refilled buffer reads back what was written** (in place or freshly allocated) -/
theorem read_write (st : Store P2) (hwf : st.WF) (b : Nat) (bytes : Bytes) :
    (st.apply (.write b bytes)).read b = some bytes := by
  have halloc : ∀ cap, (st.alloc b cap bytes).read b = some bytes := by
    intro cap
    simp only [Store.read, Store.alloc, lookup_cons_self, readSlice]
    rw [List.getElem?_append_right (Nat.le_refl _)]
    simp
  cases hb : st.bufs.lookup b with
  | none => simp only [Store.apply, hb]; exact halloc 0
  | some s =>
    obtain ⟨a, ha, hlen, _⟩ := hwf b s hb
    simp only [Store.apply, hb]
    split
    · rename_i hfit
      simp only [ha]
      simp only [Store.read, lookup_cons_self, readSlice]
      have hidx : s.arr < st.arrays.length := by
        rcases List.getElem?_eq_some_iff.mp ha with ⟨h, _⟩; exact h
      rw [List.getElem?_set_self hidx]
      simp only
      rw [overwrite_read a s.off bytes (by omega)]
    · exact halloc 0

/-! ### an implementation with hidden state that aliases the caller's memory -/

/-- `Verify` with the hash point handed in -/
def verifyHM (o : BlsOps P1 P2 PT) (X : P2) (HM : P1) (sig : Bytes) : Verdict :=
  match o.unmarshal1 sig with
  | .err e => .rejectParse e
  | .panic s => .panic s
  | .ok s =>
    match pairingCheck o.toPairingOps [o.neg1 s, HM] [o.base2, X] with
    | .ok true => .accept
    | .ok false => .rejectPairing
    | .err _ => .panic "unreachable"
    | .panic st => .panic st

theorem verify_eq_verifyHM (o : BlsOps P1 P2 PT) (X : P2) (msg sig : Bytes) :
    verify o X msg sig = verifyHM o X (hashToPoint o msg) sig := rfl

/-- a one-entry hash memo whose key is THE CALLER'S SLICE (header), not a copy of its bytes: a hit is
"the remembered slice now reads the same bytes as the message" -/
def memoImpl (o : BlsOps P1 P2 PT) (k : KeyOps P2) : Impl (Option (Slice × P1)) P2 where
  init := none
  call := fun s st c =>
    match c with
    | .verify kk m sg =>
      match st.keys.lookup kk, st.bufs.lookup m, st.read m, st.read sg with
      | some X, some sl, some msg, some sig =>
        let hit : Option P1 :=
          match s with
          | some (sl0, pt) => if readSlice st.arrays sl0 = some msg then some pt else none
          | none => none
        match hit with
        | some pt => (.verdict (verifyHM o X pt sig), s)
        | none =>
          let pt := hashToPoint o msg
          (.verdict (verifyHM o X pt sig), some (sl, pt))
      | _, _, _, _ => (.badRef, s)
    | c => (evalCall o k st c, s)

/-- toy instance whose hash depends on the message CONTENT (ℤ, e(a,b) = a·b) -/
def toyOps : BlsOps Int Int Int :=
  { intOps with hashScalar := fun m => m.foldl (fun a b => a + b.toNat) 0 + 1 }

def toyKeyOps : KeyOps Int := ⟨0, fun a b => a + b, fun k a => (k : Int) * a⟩

end Dos.BlsHist
