/-
C20 — per-method specifications of the translated group code (definitions: Proofs/GeSpec.lean):
completed.Add / Sub / MixedAdd / MixedSub, projective.Double, the conversions, Neg (also with the receiver aliasing
the argument), Zero, and the composites of point.go: Add, Sub, Neg, Null, extended.Double.
Each proof: `call_refines` relates the limb run to the field run of the SAME body (multiplier analysis decided by
the kernel, field run evaluated by `ge_run`), and the field registers are matched with the hypotheses of a formula
of Proofs/EdwardsFormulas.lean: `rfl` where the body computes an intermediate value as the formula writes it, `by ring`
for D = 2·(Z1·Z2), which the code forms as a sum t + t.
-/
import DosModel.Proofs.GeSpec

set_option exponentiation.threshold 600

namespace Dos.Ge
open Dos Dos.Ed25519 Dos.FeProg Dos.FeOps Dos.GeProg Dos.Ed25519Prime Dos.Edwards Dos.Gen.Ed25519Ge

theorem b1 {l : L10} {x : F} (h : R 1 l x) : Bounded 1 l := h.1

theorem complAdd_spec {p : Ext} {q : Cached} {P Q : Pt} (hp : GoodExt p P) (hq : GoodCached q Q) :
    GoodCompl (complAdd p q) (P + Q) := by
  have h := call_refines completed_Add [junk4, p.regs, q.regs] 1 0 (Or.inl rfl)
    (RegRel.append (junk4Rel 0 0 0 0) (RegRel.append (extRel hp) (cachedRel hq)))
    (M1 := [some 2, some 2, some 3, some 3, some 2, some 1, some 1, some 1, some 3, some 3, some 1, some 1,
      some 2, some 1, some 1, some 1]) (by decide) (by simp only [ge_run, completed_Add]; rfl)
  obtain ⟨hz, e1, e2, e3⟩ := hq.affine
  exact compl4_good ((h.get 0 rfl rfl).mono (by decide)) ((h.get 1 rfl rfl).mono (by decide)) (h.get 2 rfl rfl) (h.get 3 rfl rfl)
    (add_formula P Q hp.z_ne hp.hx hp.hy hp.xy hz e1 e2 e3 rfl rfl rfl (by ring) rfl rfl rfl rfl)

theorem complSub_spec {p : Ext} {q : Cached} {P Q : Pt} (hp : GoodExt p P) (hq : GoodCached q Q) :
    GoodCompl (complSub p q) (P + -Q) := by
  have h := call_refines completed_Sub [junk4, p.regs, q.regs] 1 0 (Or.inl rfl)
    (RegRel.append (junk4Rel 0 0 0 0) (RegRel.append (extRel hp) (cachedRel hq)))
    (M1 := [some 2, some 2, some 3, some 3, some 2, some 1, some 1, some 1, some 3, some 3, some 1, some 1,
      some 2, some 1, some 1, some 1]) (by decide) (by simp only [ge_run, completed_Sub]; rfl)
  obtain ⟨hz, e1, e2, e3⟩ := hq.affine
  exact compl4_good ((h.get 0 rfl rfl).mono (by decide)) ((h.get 1 rfl rfl).mono (by decide)) (h.get 2 rfl rfl) (h.get 3 rfl rfl)
    (sub_formula P Q hp.z_ne hp.hx hp.hy hp.xy hz e1 e2 e3 rfl rfl rfl (by ring) rfl rfl rfl rfl)

/-- a precomputed element is a cached one with Z = 1 -/
theorem GoodPre.affine {q : Pre} {Q : Pt} (hq : GoodPre q Q) :
    (1 : F) ≠ 0 ∧ val q.yPlusX = (Q.y + Q.x) * 1 ∧ val q.yMinusX = (Q.y - Q.x) * 1
      ∧ val q.xy2d = 2 * E25519.d * Q.x * Q.y * 1 :=
  ⟨one_ne_zero, hq.hp.trans (mul_one _).symm, hq.hm.trans (mul_one _).symm, hq.hd.trans (mul_one _).symm⟩

theorem complMixedAdd_spec {p : Ext} {q : Pre} {P Q : Pt} (hp : GoodExt p P) (hq : GoodPre q Q) :
    GoodCompl (complMixedAdd p q) (P + Q) := by
  have h := call_refines completed_MixedAdd [junk4, p.regs, q.regs] 1 0 (Or.inl rfl)
    (RegRel.append (junk4Rel 0 0 0 0) (RegRel.append (extRel hp) (preRel hq)))
    (M1 := [some 2, some 2, some 3, some 3, some 2, some 1, some 1, some 1, some 1, some 1, some 1,
      some 2, some 1, some 1, some 1]) (by decide) (by simp only [ge_run, completed_MixedAdd]; rfl)
  obtain ⟨hz, e1, e2, e3⟩ := hq.affine
  exact compl4_good ((h.get 0 rfl rfl).mono (by decide)) ((h.get 1 rfl rfl).mono (by decide)) (h.get 2 rfl rfl) (h.get 3 rfl rfl)
    (add_formula P Q hp.z_ne hp.hx hp.hy hp.xy hz e1 e2 e3 rfl rfl rfl (by ring) rfl rfl rfl rfl)

theorem complMixedSub_spec {p : Ext} {q : Pre} {P Q : Pt} (hp : GoodExt p P) (hq : GoodPre q Q) :
    GoodCompl (complMixedSub p q) (P + -Q) := by
  have h := call_refines completed_MixedSub [junk4, p.regs, q.regs] 1 0 (Or.inl rfl)
    (RegRel.append (junk4Rel 0 0 0 0) (RegRel.append (extRel hp) (preRel hq)))
    (M1 := [some 2, some 2, some 3, some 3, some 2, some 1, some 1, some 1, some 1, some 1, some 1,
      some 2, some 1, some 1, some 1]) (by decide) (by simp only [ge_run, completed_MixedSub]; rfl)
  obtain ⟨hz, e1, e2, e3⟩ := hq.affine
  exact compl4_good ((h.get 0 rfl rfl).mono (by decide)) ((h.get 1 rfl rfl).mono (by decide)) (h.get 2 rfl rfl) (h.get 3 rfl rfl)
    (sub_formula P Q hp.z_ne hp.hx hp.hy hp.xy hz e1 e2 e3 rfl rfl rfl (by ring) rfl rfl rfl rfl)

theorem projDouble_spec {p : Proj} {P : Pt} (hp : GoodProj p P) : GoodCompl (projDouble p) (P + P) := by
  have h := call_refines projective_Double [p.regs, junk4] 1 0 (Or.inl rfl)
    (RegRel.append (projRel hp) (junk4Rel 0 0 0 0))
    (M1 := [some 2, some 1, some 1, some 3, some 2, some 2, some 3, some 1, some 1, some 1, some 1]) (by decide)
    (by simp only [ge_run, projective_Double]; rfl)
  exact compl4_good (h.get 3 rfl rfl) ((h.get 4 rfl rfl).mono (by decide)) ((h.get 5 rfl rfl).mono (by decide)) (h.get 6 rfl rfl)
    (dbl_formula P hp.z_ne hp.hx hp.hy rfl rfl rfl rfl rfl rfl rfl rfl)

theorem extToCached_spec {p : Ext} {P : Pt} (hp : GoodExt p P) : GoodCached (extToCached p) P := by
  have h := call_refines extended_ToCached [p.regs, junk4] 0 0 (Or.inl rfl)
    (RegRel.append (extRel hp) (junk4Rel 0 0 0 0))
    (M1 := [some 2, some 1, some 1, some 1, some 3, some 3, some 1, some 1, some 1, some 1, some 1]) (by decide)
    (by simp only [ge_run, extended_ToCached]; rfl)
  exact cached4_good (h.get 4 rfl rfl) (h.get 5 rfl rfl) (h.get 6 rfl rfl) (h.get 7 rfl rfl)
    ⟨hp.z_ne, cached_of_extended E25519.d hp.z_ne hp.hx hp.hy hp.xy⟩

theorem extToProj_spec {p : Ext} {P : Pt} (hp : GoodExt p P) : GoodProj (extToProj p) P := by
  have h := call_refines extended_ToProjective [p.regs, junk3] 0 0 (Or.inl rfl)
    (RegRel.append (extRel hp) (junk3Rel 0 0 0))
    (M1 := [some 2, some 1, some 1, some 1, some 2, some 1, some 1, some 1, some 1, some 1]) (by decide)
    (by simp only [ge_run, extended_ToProjective]; rfl)
  exact proj3_good (h.get 4 rfl rfl) (h.get 5 rfl rfl) (h.get 6 rfl rfl) ⟨hp.z_ne, hp.hx, hp.hy⟩

theorem complToProj_spec {c : Compl} {P : Pt} (hc : GoodCompl c P) : GoodProj (complToProj c) P := by
  have h := call_refines completed_ToProjective [c.regs, junk3] 0 0 (Or.inl rfl)
    (RegRel.append (complRel hc) (junk3Rel 0 0 0))
    (M1 := [some 3, some 3, some 3, some 3, some 1, some 1, some 1, some 1, some 1, some 1]) (by decide)
    (by simp only [ge_run, completed_ToProjective]; rfl)
  exact proj3_good ((h.get 4 rfl rfl).mono (by decide)) (h.get 5 rfl rfl) (h.get 6 rfl rfl)
    (completed_toProjective hc.z_ne hc.t_ne hc.hx hc.hy)

theorem complToExt_spec {c : Compl} {P : Pt} (hc : GoodCompl c P) : GoodExt (complToExt c) P := by
  have h := call_refines completed_ToExtended [c.regs, junk4] 0 0 (Or.inl rfl)
    (RegRel.append (complRel hc) (junk4Rel 0 0 0 0))
    (M1 := [some 3, some 3, some 3, some 3, some 1, some 1, some 1, some 1, some 1, some 1, some 1]) (by decide)
    (by simp only [ge_run, completed_ToExtended]; rfl)
  exact ext4_good ((h.get 4 rfl rfl).mono (by decide)) (h.get 5 rfl rfl) (h.get 6 rfl rfl) (h.get 7 rfl rfl)
    (completed_toExtended hc.z_ne hc.t_ne hc.hx hc.hy)

theorem neg_rep {X Y Z T : F} {P : Pt} (hz : Z ≠ 0) (hx : X / Z = P.x) (hy : Y / Z = P.y) (hxy : X * Y = Z * T) :
    Z ≠ 0 ∧ (-X) / Z = (-P).x ∧ Y / Z = (-P).y ∧ (-X) * Y = Z * (-T) :=
  ⟨hz, by rw [neg_div, hx]; rfl, hy, by linear_combination -hxy⟩

theorem extNeg_spec {s : Ext} {P : Pt} (hs : GoodExt s P) : GoodExt (extNeg s) (-P) := by
  have h := call_refines extended_Neg [junk4, s.regs] 0 0 (Or.inl rfl)
    (RegRel.append (junk4Rel 0 0 0 0) (extRel hs))
    (M1 := [some 2, some 1, some 1, some 1, some 2, some 1, some 1, some 1, some 1, some 1, some 1]) (by decide)
    (by simp only [ge_run, extended_Neg]; rfl)
  exact ext4_good (h.get 0 rfl rfl) (h.get 1 rfl rfl) (h.get 2 rfl rfl) (h.get 3 rfl rfl) (neg_rep hs.z_ne hs.hx hs.hy hs.xy)

/-- `p.Neg(p)`: receiver and argument share their registers — same result -/
theorem extNegInPlace_spec {p : Ext} {P : Pt} (hp : GoodExt p P) : GoodExt (extNegInPlace p) (-P) := by
  have h := body_refines_run (b := 0) (bases := [0, 0, 4, 5, 6]) (Or.inl rfl) extended_Neg.body
    (RegRel.append (extRel hp) regRel_consts)
    (M' := [some 2, some 1, some 1, some 1, some 1, some 1, some 1]) (by decide)
    (by simp only [ge_run, extended_Neg]; rfl)
  exact ext4_good (h.get 0 rfl rfl) (h.get 1 rfl rfl) (h.get 2 rfl rfl) (h.get 3 rfl rfl) (neg_rep hp.z_ne hp.hx hp.hy hp.xy)

theorem extZero_spec : GoodExt extZero (0 : Pt) := by
  have h := call_refines extended_Zero [junk4] 0 0 (Or.inl rfl) (junk4Rel 0 0 0 0)
    (M1 := [some 1, some 1, some 1, some 1, some 1, some 1, some 1]) (by decide)
    (by simp only [ge_run, extended_Zero]; rfl)
  exact ext4_good ((h.get 0 rfl rfl).mono (by decide)) (h.get 1 rfl rfl) (h.get 2 rfl rfl) (h.get 3 rfl rfl)
    ⟨one_ne_zero, zero_div 1, div_one 1, by ring⟩

/-- **point.Add**: `E2.ToCached(&t2); r.Add(&E1, &t2); r.ToExtended(&P)` is the group addition -/
theorem ptAdd_spec {p q : Ext} {P Q : Pt} (hp : GoodExt p P) (hq : GoodExt q Q) : GoodExt (ptAdd p q) (P + Q) :=
  complToExt_spec (complAdd_spec hp (extToCached_spec hq))

theorem ptSub_spec {p q : Ext} {P Q : Pt} (hp : GoodExt p P) (hq : GoodExt q Q) : GoodExt (ptSub p q) (P + -Q) :=
  complToExt_spec (complSub_spec hp (extToCached_spec hq))

theorem ptNeg_spec {p : Ext} {P : Pt} (hp : GoodExt p P) : GoodExt (ptNeg p) (-P) := extNeg_spec hp

theorem ptNull_spec : GoodExt ptNull (0 : Pt) := extZero_spec

/-- extended.Double: `p.ToProjective(&q); q.Double(r)` -/
theorem extDouble_spec {p : Ext} {P : Pt} (hp : GoodExt p P) : GoodCompl (extDouble p) (P + P) :=
  projDouble_spec (extToProj_spec hp)

end Dos.Ge
