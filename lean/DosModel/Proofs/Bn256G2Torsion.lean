/-
C10 — the G2 generator of the code is a VALID point of E'(F_p²) : y² = x³ + b', b' = 3/ξ (helper lemmas for
Props/C10G2.lean). The regenerated literals are reduced (`twistB_reduced`, `twistGen_xy_reduced`), so they are
values of `Fp2 GFpR` (`lift2R`); the curve equation and ξ·b' = 3 are evaluated by the kernel there (closed
terms only) and carried to `Fp2 (ZMod p)` by applying `Fp2.map decR` to both sides and rewriting with the
decoding homomorphism `decHom`, as in `frobConstsFp_good`.
Nonsingularity on y² = x³ + b' (a = 0, characteristic ≠ 2) follows from y ≠ 0, and y ≠ 0 after decoding
follows from y ≠ 0 in Montgomery form because decoding is injective on reduced values.
Also the two torsion evaluations r·G1 = O, r·G2 = O (`curveGen_torsion`, `twistGen_torsion`), each used by
Props/C10Consts.lean and by the group-law files. These two are evaluated by the kernel on the residues
(Proofs/Bn256Residue.lean): `resR` commutes with the scalar multiplication (`Jac.map_curveMul resHom`,
`Jac.map_twistMul`) and is injective, which gives z = 0 for the reduced generators `curveGenR`, `twistGenR`,
and `curveMul_val`, `twistMul_val` carry that to the generators of the code.
-/
import DosModel.Proofs.Bn256Residue

namespace Dos.Bn256
open Dos.Mont WeierstrassCurve WeierstrassCurve.Affine

/-- the twist coefficient of the code, decoded into F_p² -/
def twistBFp : Fp2 (ZMod p) := Fp2.map dec twistB

theorem twistB_reduced : Red2 twistB := by unfold Red2; decide

theorem twistGen_xy_reduced : Red2 twistGen.x ∧ Red2 twistGen.y := by unfold Red2; decide

/-- r·G1 is the identity: curvePoint.Mul by `Order` ends with z = 0 (evaluated on the residues) -/
theorem curveGen_torsion : (Jac.curveMul curveGen Gen.Bn256.Order).z = 0 := by
  have h0 : (Jac.curveMul (Jac.map resR curveGenR) Gen.Bn256.Order).z = resR 0 := by decide +kernel
  have hR : (Jac.curveMul curveGenR Gen.Bn256.Order).z = 0 :=
    resHom.inj (((Jac.map_z resR _).symm.trans (congrArg Jac.z (Jac.map_curveMul resHom curveGenR _))).trans h0)
  rw [← curveGenR_val, curveMul_val, Jac.map_z, hR]; rfl

/-- r·G2 is the identity: twistPoint.Mul by `Order` ends with z = 0 (evaluated on the residues) -/
theorem twistGen_torsion : (Jac.twistMul twistGen Gen.Bn256.Order).z = Fp2.zero := by
  rw [← twistGenR_val, twistMul_val, ← Fp2.map_zero' valHom]
  refine congrArg val2 (Fp2.map_inj resHom ?_)
  show (Jac.map (Fp2.map resR) (Jac.twistMul twistGenR Gen.Bn256.Order)).z = _
  rw [Jac.map_twistMul (Fp2.mapHom resHom), Fp2.map_zero' resHom]
  decide +kernel

/-- decoding of a reduced gfP2 value through its lift -/
theorem dec_lift2R (a : F2) (h : Red2 a) : Fp2.map decR (lift2R a h) = Fp2.map dec a := rfl

theorem val_lift2R (a : F2) (h : Red2 a) : Fp2.map valF (lift2R a h) = a := rfl

/-- decoding is injective on reduced gfP2 values; in particular a reduced non-zero value decodes to a
non-zero element of F_p² -/
theorem dec2_ne_zero (a : F2) (h : Red2 a) (ha : a ≠ Fp2.zero) : Fp2.map dec a ≠ (0 : Fp2 (ZMod p)) := by
  intro h0
  apply ha
  have e : Fp2.map decR (lift2R a h) = Fp2.map decR (Fp2.zero : Fp2 GFpR) := by
    rw [dec_lift2R, Fp2.map_zero' decHom]; exact h0
  have := congrArg (Fp2.map valF) (Fp2.map_inj decHom e)
  rw [val_lift2R, Fp2.map_zero' valHom] at this
  exact this

/-- **the curve equation of the G2 generator in F_p²** (decoded coordinates, field operations of
`instFieldFp2`, which ARE the transcribed gfP2 functions) -/
theorem twistGen_equation_Fp2 :
    Fp2.map dec twistGen.y * Fp2.map dec twistGen.y =
      Fp2.map dec twistGen.x * Fp2.map dec twistGen.x * Fp2.map dec twistGen.x + twistBFp := by
  have R : Fp2.square (lift2R twistGen.y twistGen_xy_reduced.2) =
      Fp2.add (Fp2.mul (Fp2.square (lift2R twistGen.x twistGen_xy_reduced.1)) (lift2R twistGen.x twistGen_xy_reduced.1))
        (lift2R twistB twistB_reduced) := by decide +kernel
  have D := congrArg (Fp2.map decR) R
  rw [Fp2.map_square decHom, Fp2.map_add' decHom, Fp2.map_mul' decHom, Fp2.map_square decHom] at D
  have D' : Fp2.square (Fp2.map dec twistGen.y) =
      Fp2.add (Fp2.mul (Fp2.square (Fp2.map dec twistGen.x)) (Fp2.map dec twistGen.x)) (Fp2.map dec twistB) := D
  rwa [Fp2.square_eq, Fp2.square_eq, Fp2.mul_eq, Fp2.add_eq] at D'

/-- **b' = 3/ξ**: the decoded twist coefficient times ξ = i + 9 is 3 -/
theorem twistBFp_xi : (Fp2.xi : Fp2 (ZMod p)) * twistBFp = Fp2.ofBase 3 := by
  have R : Fp2.mul xiR (lift2R twistB twistB_reduced) = (⟨0, ⟨GFp.newGFp 3, by decide⟩⟩ : Fp2 GFpR) := by
    decide +kernel
  have D := congrArg (Fp2.map decR) R
  rw [Fp2.map_mul' decHom, dec_xiR, dec_lift2R, Fp2.mul_eq] at D
  rw [show twistBFp = Fp2.map dec twistB from rfl, D]
  have d3 : dec (GFp.newGFp 3) = 3 := dec_eq_natCast _ 3 (by decide)
  show (⟨dec 0, dec (GFp.newGFp 3)⟩ : Fp2 (ZMod p)) = ⟨0, 3⟩
  rw [dec_zero, d3]

theorem xi_ne_zero_Fp2 : (Fp2.xi : Fp2 (ZMod p)) ≠ 0 := by
  intro h
  have : (Fp2.xi : Fp2 (ZMod p)).x = (0 : Fp2 (ZMod p)).x := congrArg Fp2.x h
  exact one_ne_zero this

theorem twistBFp_eq : twistBFp = Fp2.ofBase 3 / (Fp2.xi : Fp2 (ZMod p)) := by
  rw [eq_div_iff xi_ne_zero_Fp2, mul_comm]; exact twistBFp_xi

/-- the decoded generator has z = 1, hence its affine image is (x, y) -/
theorem twistGen_dec_z : (Jac.decJ2 twistGen).z = 1 := by
  show Fp2.map dec twistGen.z = 1
  rw [show twistGen.z = Fp2.one by decide]
  show (⟨dec 0, dec 1⟩ : Fp2 (ZMod p)) = ⟨0, 1⟩
  rw [dec_zero, dec_one.2]

/-- **the G2 generator is a valid (finite, nonsingular) point of E'(F_p²) : y² = x³ + b'** -/
theorem twistGen_valid : Valid twistBFp (Jac.decJ2 twistGen) := by
  have hy : twistGen.y ≠ Fp2.zero := by decide
  right
  have hx' : Jac.ax (Jac.decJ2 twistGen) = Fp2.map dec twistGen.x := by
    show (Jac.decJ2 twistGen).x / (Jac.decJ2 twistGen).z ^ 2 = _
    rw [twistGen_dec_z, one_pow, div_one]; rfl
  have hy' : Jac.ay (Jac.decJ2 twistGen) = Fp2.map dec twistGen.y := by
    show (Jac.decJ2 twistGen).y / (Jac.decJ2 twistGen).z ^ 3 = _
    rw [twistGen_dec_z, one_pow, div_one]; rfl
  rw [hx', hy']
  exact shortW_nonsingular_of_y_ne_zero two_ne_zero_Fp2 _ _ _ twistGen_equation_Fp2
    (dec2_ne_zero _ twistGen_xy_reduced.2 hy)

end Dos.Bn256
