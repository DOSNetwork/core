/-
ONE G1 codec: `pointG1.UnmarshalBinary / MarshalBinary` of group/bn256/point.go is modelled twice —
`Model/TblsG1.lean` (`G1.decode`, `G1.encode`: what the C02/C03 drivers and `C02ComposeG1` execute) and
`Model/Codec.lean` (`unmarshalG1`, `marshalG1`: C11/C06).  This file joins the copies: the two decoders
accept exactly the same byte strings and return the same point, the two encoders write the same bytes.
Every C11 theorem about `unmarshalG1` (`g1_unmarshal_ok_iff`, `unmarshal_total`, the regenerated code facts
`gen_code_shape` of `Props/C11.lean`) therefore speaks about the decoder C02/C03 run as well.  Core Lean only (both sides are core-only models).
-/
import DosModel.Model.TblsG1
import DosModel.Proofs.CodecChar

namespace Dos.CodecTblsG1
open Dos Dos.Codec

/-- the same point in the other model's type -/
def conv : G1.Pt → Bn256.G1
  | .inf => .inf
  | .aff x y => .aff x y

def back : Bn256.G1 → G1.Pt
  | .inf => .inf
  | .aff x y => .aff x y

theorem back_conv (P : G1.Pt) : back (conv P) = P := by cases P <;> rfl
theorem conv_back (P : Bn256.G1) : conv (back P) = P := by cases P <;> rfl

/-- the two models use the same prime (one regenerated from constants.go by `tblsfacts`, one a literal
pinned to the regenerated `constP` by C11 `gen_sizes_and_moduli`) -/
theorem p_eq : G1.p = Bn256.p := by decide

/-- the curve test is the same function of the two coordinates -/
theorem onCurve_eq (x y : Nat) : G1.onCurve x y = Bn256.G1.onCurve (.aff x y) := by
  simp only [G1.onCurve, Bn256.G1.onCurve, G1.fmul, G1.fadd, Bn256.fsq, Bn256.fmul, Bn256.fadd,
    Bn256.curveB, p_eq]

/-- the outcome of the C11 decoder, forgetting the error kind (what `G1.decode : Option` can express) -/
def outToOption : Out Bn256.G1 → Option Bn256.G1
  | .ok P => some P
  | _ => none

/-- **the decoders agree on every byte string** -/
theorem decode_eq (b : Bytes) : (G1.decode b).map conv = outToOption (unmarshalG1 b) := by
  by_cases hl : b.length < 64
  · rw [unmarshalG1_short b hl]; simp [G1.decode, hl, outToOption]
  · rw [unmarshalG1_long b (by omega)]
    simp only [G1.decode, hl, if_false, g1OfCoords, p_eq]
    split
    · rfl
    · split
      · rfl
      · rw [onCurve_eq]
        split <;> rfl

theorem back_eq_iff (Q : Bn256.G1) (P : G1.Pt) : back Q = P ↔ Q = conv P :=
  ⟨fun h => h ▸ (conv_back Q).symm, fun h => h ▸ back_conv P⟩

/-- iff form: `G1.decode` returns `P` exactly when `unmarshalG1` returns the same point -/
theorem decode_some_iff (b : Bytes) (P : G1.Pt) :
    G1.decode b = some P ↔ unmarshalG1 b = .ok (conv P) := by
  have h := congrArg (Option.map back) (decode_eq b)
  rw [Option.map_map, show back ∘ conv = id from funext back_conv, Option.map_id] at h
  rw [show G1.decode b = _ from h]
  cases unmarshalG1 b <;> simp [outToOption, back_eq_iff]

/-- `G1.decode` fails exactly when `unmarshalG1` answers with an error (it never panics) -/
theorem decode_none_iff (b : Bytes) : G1.decode b = none ↔ ∃ e, unmarshalG1 b = .err e := by
  have h := decode_eq b
  have hp := unmarshalG1_not_panic b
  cases hu : unmarshalG1 b with
  | ok Q =>
    -- a point: `G1.decode b` is `some` by `h`, and no error is answered
    rw [hu] at h
    constructor
    · intro hd; rw [hd] at h; simp [outToOption] at h
    · rintro ⟨e, he⟩; cases he
  | err e =>
    -- an error: `G1.decode b` maps to `none` by `h`
    rw [hu] at h
    constructor
    · intro _; exact ⟨e, rfl⟩
    · intro _
      cases hd : G1.decode b with
      | none => rfl
      | some Q => rw [hd] at h; simp [outToOption] at h
  | panic s =>
    -- excluded by `hp`
    rw [hu] at hp; simp [Out.isPanic] at hp

/-- **the encoders write the same bytes** -/
theorem encode_eq (P : G1.Pt) : G1.encode P = marshalG1 (conv P) := by
  cases P <;> rfl

end Dos.CodecTblsG1
