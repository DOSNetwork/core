/-
C20 — associativity of the a = −1 twisted Edwards addition law (`EdwardsCurve.lean`), for ALL
triples of curve points (the law is complete, so there are no exceptional cases).

After clearing the four inner and two outer denominators (all non-zero by `denom_ne_zero`
applied to P,Q / Q,R / P+Q,R / P,Q+R) the equality of the x-coordinates is a polynomial identity that lies
in the ideal of the three curve equations; the cofactors below were computed by reducing with
d·x²·y² ↦ y² − x² − 1 and are checked by `ring` inside `linear_combination`. The y-coordinates follow from the
x-coordinates by a translation that exchanges the two.

Consequences: `assocLaw E : AssocLaw E` and `instance : AddCommGroup (Point E)`.
-/
import DosModel.Proofs.EdwardsCurve

namespace Dos.Edwards

variable {K : Type*} [Field K]

/-- the x-coordinate of (P+Q)+R = P+(Q+R), denominators cleared -/
theorem assoc_x_poly {d x1 y1 x2 y2 x3 y3 : K} (h1 : OnCurve d x1 y1) (h2 : OnCurve d x2 y2)
    (h3 : OnCurve d x3 y3) :
    (((x1*y2 + y1*x2) * (1 - d*x1*x2*y1*y2) * y3 + (y1*y2 + x1*x2) * (1 + d*x1*x2*y1*y2) * x3)
      * ((1 + d*x2*x3*y2*y3) * (1 - d*x2*x3*y2*y3) + d*x1*y1*(x2*y3 + y2*x3)*(y2*y3 + x2*x3)))
    = (x1*(y2*y3 + x2*x3)*(1 + d*x2*x3*y2*y3) + y1*(x2*y3 + y2*x3)*(1 - d*x2*x3*y2*y3))
      * ((1 + d*x1*x2*y1*y2) * (1 - d*x1*x2*y1*y2) + d*(x1*y2 + y1*x2)*(y1*y2 + x1*x2)*x3*y3) := by
  unfold OnCurve at h1 h2 h3
  linear_combination
    (- d*y1*x2*y2^4*x3^2*y3 - d*y1*x2^2*y2^3*x3 - d*y1*x2^2*y2^3*x3^3 - d*y1*x2^3*y2^2*y3 +
      d*y1*x2^3*y2^2*y3^3 + d*y1*x2^4*y2*x3*y3^2 + d*x1*x2*y2^4*x3*y3^2 - d*x1*x2^2*y2^3*y3 +
      d*x1*x2^2*y2^3*y3^3 - d*x1*x2^3*y2^2*x3 - d*x1*x2^3*y2^2*x3^3 - d*x1*x2^4*y2*x3^2*y3 +
      d^2*y1*x2^3*y2^4*x3^2*y3 + d^2*y1*x2^4*y2^3*x3*y3^2 - d^2*x1*x2^3*y2^4*x3*y3^2 -
      d^2*x1*x2^4*y2^3*x3^2*y3) * h1
    + (y1*y2*x3 - y1*y2*x3*y3^2 + y1*y2*x3^3 + y1*x2*y3 - y1*x2*y3^3 + y1*x2*x3^2*y3 - y1^3*y2*x3 +
      y1^3*y2*x3*y3^2 - y1^3*y2*x3^3 - y1^3*x2*y3 + y1^3*x2*y3^3 - y1^3*x2*x3^2*y3 + x1*y2*y3 -
      x1*y2*y3^3 + x1*y2*x3^2*y3 + x1*x2*x3 - x1*x2*x3*y3^2 + x1*x2*x3^3 - x1*y1^2*y2*y3 +
      x1*y1^2*y2*y3^3 - x1*y1^2*y2*x3^2*y3 - x1*y1^2*x2*x3 + x1*y1^2*x2*x3*y3^2 - x1*y1^2*x2*x3^3
      + x1^2*y1*y2*x3 - x1^2*y1*y2*x3*y3^2 + x1^2*y1*y2*x3^3 + x1^2*y1*x2*y3 - x1^2*y1*x2*y3^3 +
      x1^2*y1*x2*x3^2*y3 + x1^3*y2*y3 - x1^3*y2*y3^3 + x1^3*y2*x3^2*y3 + x1^3*x2*x3 -
      x1^3*x2*x3*y3^2 + x1^3*x2*x3^3 + d*y1*y2*x3^3*y3^2 + d*y1*x2*x3^2*y3^3 -
      d*y1*x2*y2^2*x3^2*y3 - d*y1*x2^2*y2*x3*y3^2 - d*y1^3*y2*x3^3*y3^2 - d*y1^3*x2*x3^2*y3^3 +
      d*y1^3*x2*y2^2*x3^2*y3 + d*y1^3*x2^2*y2*x3*y3^2 + d*x1*y2*x3^2*y3^3 + d*x1*x2*x3^3*y3^2 +
      d*x1*x2*y2^2*x3*y3^2 + d*x1*x2^2*y2*x3^2*y3 - d*x1*y1^2*y2*x3^2*y3^3 -
      d*x1*y1^2*x2*x3^3*y3^2 - d*x1*y1^2*x2*y2^2*x3*y3^2 - d*x1*y1^2*x2^2*y2*x3^2*y3 +
      d*x1^2*y1*y2*x3^3*y3^2 + d*x1^2*y1*x2*x3^2*y3^3 - d*x1^2*y1*x2*y2^2*x3^2*y3 -
      d*x1^2*y1*x2^2*y2*x3*y3^2 + d*x1^3*y2*x3^2*y3^3 + d*x1^3*x2*x3^3*y3^2 +
      d*x1^3*x2*y2^2*x3*y3^2 + d*x1^3*x2^2*y2*x3^2*y3 + d^2*x1*y1^2*x2*y2^2*x3^3*y3^2 -
      d^2*x1*y1^2*x2^2*y2*x3^2*y3^3 - d^2*x1^2*y1*x2*y2^2*x3^2*y3^3 +
      d^2*x1^2*y1*x2^2*y2*x3^3*y3^2) * h2
    + (- y1*y2*x3 + y1*y2^3*x3 - y1*x2*y3 + y1*x2*y2^2*y3 - y1*x2^2*y2*x3 - y1*x2^3*y3 + y1^3*y2*x3
      - y1^3*y2^3*x3 + y1^3*x2*y3 - y1^3*x2*y2^2*y3 + y1^3*x2^2*y2*x3 + y1^3*x2^3*y3 - x1*y2*y3 +
      x1*y2^3*y3 - x1*x2*x3 + x1*x2*y2^2*x3 - x1*x2^2*y2*y3 - x1*x2^3*x3 + x1*y1^2*y2*y3 -
      x1*y1^2*y2^3*y3 + x1*y1^2*x2*x3 - x1*y1^2*x2*y2^2*x3 + x1*y1^2*x2^2*y2*y3 + x1*y1^2*x2^3*x3
      - x1^2*y1*y2*x3 + x1^2*y1*y2^3*x3 - x1^2*y1*x2*y3 + x1^2*y1*x2*y2^2*y3 - x1^2*y1*x2^2*y2*x3
      - x1^2*y1*x2^3*y3 - x1^3*y2*y3 + x1^3*y2^3*y3 - x1^3*x2*x3 + x1^3*x2*y2^2*x3 -
      x1^3*x2^2*y2*y3 - x1^3*x2^3*x3 - d*x1*y1^2*x2*y2^2*x3 + d*x1*y1^2*x2^2*y2*y3 +
      d*x1^2*y1*x2*y2^2*y3 - d*x1^2*y1*x2^2*y2*x3) * h3

/-- the rational-function step for the x-coordinate: all atoms generalized -/
private theorem frac_x {d x1 y1 x3 y3 N1 M1 p m N2 M2 p' m' : K} (hp : p ≠ 0) (hm : m ≠ 0)
    (hp' : p' ≠ 0) (hm' : m' ≠ 0)
    (hL : 1 + d * (N1 / p) * x3 * (M1 / m) * y3 ≠ 0)
    (hR : 1 + d * x1 * (N2 / p') * y1 * (M2 / m') ≠ 0)
    (key : (N1 * m * y3 + M1 * p * x3) * (p' * m' + d * x1 * y1 * N2 * M2)
      = (x1 * M2 * p' + y1 * N2 * m') * (p * m + d * N1 * M1 * x3 * y3)) :
    (N1 / p * y3 + M1 / m * x3) / (1 + d * (N1 / p) * x3 * (M1 / m) * y3)
      = (x1 * (M2 / m') + y1 * (N2 / p')) / (1 + d * x1 * (N2 / p') * y1 * (M2 / m')) := by
  rw [div_eq_div_iff hL hR]
  field_simp
  linear_combination key

variable {E : Params K}

theorem add_assoc_x (P Q R : Point E) : (P + Q + R).x = (P + (Q + R)).x := by
  obtain ⟨hLp, -⟩ := Point.denom_ne_zero (P + Q) R
  obtain ⟨hRp, -⟩ := Point.denom_ne_zero P (Q + R)
  obtain ⟨h12p, h12m⟩ := Point.denom_ne_zero P Q
  obtain ⟨h23p, h23m⟩ := Point.denom_ne_zero Q R
  simp only [add_x, add_y] at hLp hRp ⊢
  exact frac_x h12p h12m h23p h23m hLp hRp (assoc_x_poly P.on Q.on R.on)

/-! The y-coordinate needs no second identity: T = (i, 0) is a curve point (of order 4), adding it exchanges the
coordinates, P + T = (i·y, i·x), and it moves through a sum by a two-line computation; so the y-coordinate of a sum
is, up to the factor i, the x-coordinate of the sum shifted by T. -/

def torsion4 (E : Params K) : Point E := ⟨E.i, 0, by unfold OnCurve; linear_combination -E.i_sq⟩

theorem add_torsion4_x (P : Point E) : (P + torsion4 E).x = E.i * P.y := by
  simp [add_x, torsion4, mul_comm]

theorem add_torsion4_y (P : Point E) : (P + torsion4 E).y = E.i * P.x := by
  simp [add_y, torsion4, mul_comm]

theorem add_add_torsion4 (A B : Point E) : A + B + torsion4 E = A + (B + torsion4 E) := by
  have hp : 1 + E.d * A.x * (E.i * B.y) * A.y * (E.i * B.x) = 1 - E.d * A.x * B.x * A.y * B.y := by
    linear_combination E.d * A.x * B.x * A.y * B.y * E.i_sq
  have hm : 1 - E.d * A.x * (E.i * B.y) * A.y * (E.i * B.x) = 1 + E.d * A.x * B.x * A.y * B.y := by
    linear_combination -(E.d * A.x * B.x * A.y * B.y) * E.i_sq
  ext
  · rw [add_torsion4_x, add_x A, add_torsion4_x, add_torsion4_y, add_y, hp]; ring
  · rw [add_torsion4_y, add_y A, add_torsion4_x, add_torsion4_y, add_x, hm]; ring

theorem add_assoc' (P Q R : Point E) : P + Q + R = P + (Q + R) := by
  have hi : E.i ≠ 0 := fun h => by simpa [h] using E.i_sq
  ext
  · exact add_assoc_x P Q R
  · apply mul_left_cancel₀ hi
    rw [← add_torsion4_x, ← add_torsion4_x, add_add_torsion4, add_assoc_x, ← add_add_torsion4 Q, ← add_add_torsion4 P]

theorem assocLaw (E : Params K) : AssocLaw E := add_assoc'

instance instAddCommGroup : AddCommGroup (Point E) := addCommGroup E (assocLaw E)

example (P Q : Point E) : (instAddCommGroup.toAdd.add P Q) = P + Q := rfl
example (P : Point E) : (instAddCommGroup.toNeg.neg P) = -P := rfl
example : (instAddCommGroup.toZero.zero : Point E) = 0 := rfl

end Dos.Edwards
