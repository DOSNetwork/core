/-
C14 liveness: the running goroutine of least rank has a step that decreases the measure
(`progress`); hence `drain`: from every reachable state in which the pipeline context is done there
is a schedule to a state in which no pipeline goroutine is running.
-/
import DosModel.Proofs.PipeLive3
import DosModel.Model.PipeRun

namespace Dos.Pipe
variable {p : Pipeline}

theorem exists_min_of {α : Type} (P : α → Prop) (f : α → Nat) (h : ∃ x, P x) :
    ∃ x, P x ∧ ∀ y, P y → f x ≤ f y := by
  obtain ⟨x, hx⟩ := h
  generalize hn : f x = n
  induction n using Nat.strongRecOn generalizing x with
  | _ n ih =>
    by_cases h : ∃ y, P y ∧ f y < f x
    · obtain ⟨y, hy, hlt⟩ := h
      exact ih (f y) (by omega) y hy rfl
    · refine ⟨x, hx, fun y hy => ?_⟩
      by_cases hle : f x ≤ f y
      · exact hle
      · exact absurd ⟨y, hy, by omega⟩ h

/-- a static pipeline goroutine that is not running has returned -/
theorem done_of_not_running {s : State} (hr : Reach p s) {g : Gi} {gr : Goroutine}
    (hg : p.gs[g]? = some gr) (hst : gr.static = true) (hdm : gr.daemon = false)
    (hnr : ¬ Running p s g) : s.gs[g]? = some .done := by
  have hlt : g < s.gs.length := by
    rw [(shape s hr).gs]; exact (List.getElem?_eq_some_iff.mp hg).1
  have hsome : s.gs[g]? = some s.gs[g] := by simp [hlt]
  cases hst' : s.gs[g] with
  | idle => rw [hst'] at hsome; exact absurd hsome (static_not_idle hg hst s hr)
  | «at» pc => rw [hst'] at hsome; exact absurd ⟨gr, pc, hg, hdm, hsome⟩ hnr
  | done => rw [hst'] at hsome; exact hsome

/-- the pipeline goroutines of smaller rank than a minimal running one have all exited -/
theorem lower_done {s : State} (hr : Reach p s) {g : Gi}
    (hmin : ∀ g', Running p s g' → rankOf p g ≤ rankOf p g') :
    ∀ g' gr', p.gs[g']? = some gr' → gr'.static = true → gr'.daemon = false →
      rankOf p g' < rankOf p g → s.gs[g']? = some .done :=
  fun g' gr' hg' hst hdm hrk => done_of_not_running hr hg' hst hdm fun hrun => by
    have := hmin g' hrun
    omega

theorem eq_exit_of_isExit {nd : Node} (h : nd.isExit = true) : nd = .exit := by
  cases nd <;> simp [Node.isExit] at h <;> rfl

/-- where the running goroutine of least rank stands after the cancellation -/
theorem liveAt_min (hlive : LiveOk p = true) {s : State} (hr : Reach p s)
    (hc : s.ctxDone 0 = true) {g : Gi} {gr : Goroutine} {pc : Pc} (hg : p.gs[g]? = some gr)
    (hd : gr.daemon = false) (hat : s.gs[g]? = some (.at pc))
    (hmin : ∀ g', Running p s g' → rankOf p g ≤ rankOf p g') :
    ∃ nd, LiveAt p s g gr pc nd ∧ W4g p g gr = true := by
  obtain ⟨h0, hgs⟩ := liveOk_parts hlive
  obtain ⟨hnodes, hw4⟩ := hgs g gr hg hd
  have hpc := at_in_range h0 hg s hr pc hat
  have hn : gr.nodes[pc]? = some gr.nodes[pc] := by simp [hpc]
  exact ⟨_, ⟨hr, hc, hg, hn, hat, lower_done hr hmin, hnodes _ (List.mem_of_getElem? hn)⟩, hw4⟩

/-- after cancellation the running pipeline goroutine of least rank has a step of its own that
decreases the measure: its return, an escape edge towards the exit, or a receive that shortens the
buffer of a closed channel -/
theorem min_running_dec (hlive : LiveOk p = true) (hsafe : NoCrash p) {s : State}
    (hr : Reach p s) (hc : s.ctxDone 0 = true) {g : Gi} (hrun : Running p s g)
    (hmin : ∀ g', Running p s g' → rankOf p g ≤ rankOf p g') :
    (∃ l s1, Step p s (.act g l) (.run s1) ∧ Dec p s s1) ∨ (∃ s1, Step p s (.exit g) (.run s1) ∧ Dec p s s1) := by
  obtain ⟨gr, pc, hg, hd, hat⟩ := hrun
  obtain ⟨nd, L, hw4⟩ := liveAt_min hlive hr hc hg hd hat hmin
  cases hex' : nd.isExit with
  | true =>
    have hn := L.hn
    rw [eq_exit_of_isExit hex'] at hn
    exact Or.inr ⟨_, Step.exit g pc hat (node_of hg hn), exit_dec hg hd hat⟩
  | false =>
    obtain ⟨l, n, he, hlt⟩ := W4g_edge hw4 L.hn hex'
    rcases escape_step (liveOk_parts hlive).1 hsafe L he with hstep | ⟨c, n', _, hpos, _, hstep⟩
    · exact Or.inl ⟨_, _, hstep, moved_dec hg hd hat (esc_quiet he) hlt⟩
    · exact Or.inl ⟨_, _, hstep, recvOk_dec (State.len_pos_lt hpos) hpos⟩

/-- **progress**: while a pipeline goroutine is running after cancellation, some step
decreases the measure -/
theorem progress {p : Pipeline} (hlive : LiveOk p = true) (hsafe : NoCrash p) {s : State}
    (hr : Reach p s) (hc : s.ctxDone 0 = true) (hnq : ¬ Quiet p s) :
    ∃ e s1, Step p s e (.run s1) ∧ Dec p s s1 := by
  have hex : ∃ g, Running p s g := by
    unfold Quiet at hnq
    exact Classical.not_forall_not.mp hnq
  obtain ⟨g, hrun, hmin⟩ := exists_min_of (Running p s) (rankOf p) hex
  rcases min_running_dec hlive hsafe hr hc hrun hmin with ⟨l, s1, hst, hdec⟩ | ⟨s1, hst, hdec⟩
  · exact ⟨_, s1, hst, hdec⟩
  · exact ⟨_, s1, hst, hdec⟩

theorem dec_lex {s s1 : State} (h : Dec p s s1) :
    Prod.Lex (· < ·) (Prod.Lex (· < ·) (· < ·))
      (totalLen s1, idleCount s1, weightSum p s1) (totalLen s, idleCount s, weightSum p s) := by
  rcases h with h | ⟨h1, h | ⟨h2, h3⟩⟩
  · exact Prod.Lex.left _ _ h
  · rw [h1]; exact Prod.Lex.right _ (Prod.Lex.left _ _ h)
  · rw [h1, h2]; exact Prod.Lex.right _ (Prod.Lex.right _ h3)

/-- **drain**: from every reachable state in which the pipeline context is done there is a
schedule to a state in which no pipeline goroutine is running. -/
theorem drain (hlive : LiveOk p = true) (hsafe : NoCrash p) (s : State)
    (hr : Reach p s) (hc : s.ctxDone 0 = true) : ∃ s', Path p s s' ∧ Quiet p s' := by
  by_cases hq : Quiet p s
  · exact ⟨s, Path.refl s, hq⟩
  · have hp := progress hlive hsafe hr hc hq
    obtain ⟨e, s1, hstep, hdec⟩ := hp
    obtain ⟨s', hpath, hq'⟩ := drain hlive hsafe s1 (Reach.step hr hstep) (ctxDone_mono hstep 0 hc)
    exact ⟨s', Path.step hstep hpath, hq'⟩
termination_by (totalLen s, idleCount s, weightSum p s)
decreasing_by exact dec_lex hdec

/-- in a quiet state every channel with a pipeline closer is closed -/
theorem quiet_closed {s : State} (hr : Reach p s) (hq : Quiet p s)
    {h : Gi} {gr : Goroutine} {c : Ch} (hg : p.gs[h]? = some gr) (hst : gr.static = true)
    (hdm : gr.daemon = false) (hcl : closesOnAllPaths gr c = true) (hin : c < p.chans.length) :
    s.closed c = true := by
  exact closer_closed hg hcl hin s hr (Or.inl (done_of_not_running hr hg hst hdm (hq h)))

/-- **not stuck**: after cancellation the running pipeline goroutine of least rank has an
enabled step of its own -/
theorem min_running_steps (hlive : LiveOk p = true) (hsafe : NoCrash p) {s : State}
    (hr : Reach p s) (hc : s.ctxDone 0 = true) {g : Gi} (hrun : Running p s g)
    (hmin : ∀ g', Running p s g' → rankOf p g ≤ rankOf p g') :
    (∃ l s1, Step p s (.act g l) (.run s1)) ∨ (∃ s1, Step p s (.exit g) (.run s1)) :=
  (min_running_dec hlive hsafe hr hc hrun hmin).imp
    (fun ⟨l, s1, hst, _⟩ => ⟨l, s1, hst⟩) (fun ⟨s1, hst, _⟩ => ⟨s1, hst⟩)

end Dos.Pipe
