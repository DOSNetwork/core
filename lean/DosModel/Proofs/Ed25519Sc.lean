/-
C20 — congruence of the TRANSLATED ref10 limb code (Gen/Ed25519Sc.lean, regenerated from
group/edwards25519/scalar.go on every run) with integer arithmetic modulo ℓ.

Every block of every function is shown to change the represented integer Σ sᵢ·2^(21 i) by a
multiple of ℓ only, for ALL limb values and for EVERY function put in the place of `>>`
(so each carry is an arbitrary integer).  The block proofs (`sc_block`, `sc_blocks`) name no number of blocks,
no constant and no limb index: they unfold whatever the extractor produced.
The reduction blocks of scAdd, scSub, scMul and scReduce are those of scMulAdd (`*_blocks_eq`, by `rfl`), so they
are treated once.  One block index IS written here: `scReduce_blocks_eq : scReduce_blocks = scMulAdd_blocks.drop 2`
(scReduce has the reduction without its first two carry passes); so is the multiple `16 * ell` that scSub adds
(`scSub_init_value`).  An altered constant (666643 → 666644), a wrong limb index or a dropped `<< 21` in one copy
of the shared code makes that copy's `*_blocks_eq := rfl` fail first; the same alteration in scMulAdd itself, or
in all copies alike, makes `sc_block` fail.

Absence of int64 overflow and full reduction of the result below ℓ (with the real `>>`): Proofs/Ed25519Ranges*.lean.
-/
import Mathlib.Tactic.Ring
import Mathlib.Tactic.LinearCombination
import DosModel.Gen.Ed25519Sc

set_option exponentiation.threshold 600

namespace Dos.Ed25519
open Dos Dos.Gen.Ed25519Sc

/-- a limb transformation preserves the represented integer modulo ℓ, whatever `>>` computes -/
def Preserves (f : Shr → L24 → L24) : Prop :=
  ∀ (shr : Shr) (s : L24), (ell : Int) ∣ value (f shr s) - value s

open Lean Elab Tactic Meta in
/-- unfold every generated definition (namespace `Dos.Gen.Ed25519Sc`) occurring in the goal -/
elab "unfold_gen" : tactic => withMainContext do
  let t ← getMainTarget
  let ns := t.getUsedConstants.filter (fun n => (`Dos.Gen.Ed25519Sc).isPrefixOf n)
  for n in ns do
    evalTactic (← `(tactic| unfold $(mkIdent n):ident))

/-- the difference of two weighted sums, term by term: a block changes few limbs, all other terms vanish -/
theorem sub_weighted (x0 x1 x2 x3 x4 x5 x6 x7 x8 x9 x10 x11 x12 x13 x14 x15 x16 x17 x18 x19 x20 x21 x22 x23
    y0 y1 y2 y3 y4 y5 y6 y7 y8 y9 y10 y11 y12 y13 y14 y15 y16 y17 y18 y19 y20 y21 y22 y23
    c1 c2 c3 c4 c5 c6 c7 c8 c9 c10 c11 c12 c13 c14 c15 c16 c17 c18 c19 c20 c21 c22 c23 : Int) :
    (x0 + x1 * c1 + x2 * c2 + x3 * c3 + x4 * c4 + x5 * c5 + x6 * c6 + x7 * c7
      + x8 * c8 + x9 * c9 + x10 * c10 + x11 * c11 + x12 * c12 + x13 * c13 + x14 * c14 + x15 * c15
      + x16 * c16 + x17 * c17 + x18 * c18 + x19 * c19 + x20 * c20 + x21 * c21 + x22 * c22 + x23 * c23)
      - (y0 + y1 * c1 + y2 * c2 + y3 * c3 + y4 * c4 + y5 * c5 + y6 * c6 + y7 * c7
      + y8 * c8 + y9 * c9 + y10 * c10 + y11 * c11 + y12 * c12 + y13 * c13 + y14 * c14 + y15 * c15
      + y16 * c16 + y17 * c17 + y18 * c18 + y19 * c19 + y20 * c20 + y21 * c21 + y22 * c22 + y23 * c23)
    = (x0 - y0) + (x1 - y1) * c1 + (x2 - y2) * c2 + (x3 - y3) * c3 + (x4 - y4) * c4 + (x5 - y5) * c5
      + (x6 - y6) * c6 + (x7 - y7) * c7 + (x8 - y8) * c8 + (x9 - y9) * c9 + (x10 - y10) * c10 + (x11 - y11) * c11
      + (x12 - y12) * c12 + (x13 - y13) * c13 + (x14 - y14) * c14 + (x15 - y15) * c15 + (x16 - y16) * c16 + (x17 - y17) * c17
      + (x18 - y18) * c18 + (x19 - y19) * c19 + (x20 - y20) * c20 + (x21 - y21) * c21 + (x22 - y22) * c22 + (x23 - y23) * c23 := by
  ring1

theorem dvd_of_eq_zero {a : Int} (h : a = 0) : (ell : Int) ∣ a := h ▸ Int.dvd_zero _

/-- One block.  A fold block (`s11 += s23 * 666643; …; s23 = 0`) computes no carry, so `shr` does not occur in it
(`clear shr` succeeds): the difference of the two values is a limb times a constant, and the constant is a multiple
of ℓ.  A carry pass leaves the value unchanged, whatever its carries are. -/
macro "sc_block" : tactic => `(tactic| (
  intro shr s
  unfold_gen
  simp only [value]
  rw [sub_weighted]
  first
  | (clear shr; simp only [Int.sub_self, Int.zero_mul, Int.add_zero, Int.zero_add, ell]; ring_nf; omega)
  | (apply dvd_of_eq_zero; simp only [Int.sub_self, Int.zero_mul, Int.add_zero, Int.zero_add, shl]; ring1)))

/-- all blocks of one generated block list -/
macro "sc_blocks" : tactic => `(tactic| (
  unfold_gen
  simp only [List.mem_cons, List.not_mem_nil, or_false, forall_eq_or_imp, forall_eq]
  repeat' apply And.intro
  all_goals sc_block))

theorem runBlocks_preserves (shr : Shr) :
    ∀ (bs : List (Shr → L24 → L24)), (∀ f ∈ bs, Preserves f) → ∀ s : L24,
      (ell : Int) ∣ value (runBlocks shr bs s) - value s := by
  intro bs
  induction bs with
  | nil => intro _ s; simp [runBlocks]
  | cons f fs ih =>
    intro h s
    have h1 := h f (by simp) shr s
    have h2 := ih (fun g hg => h g (by simp [hg])) (f shr s)
    have : runBlocks shr (f :: fs) s = runBlocks shr fs (f shr s) := by simp [runBlocks]
    rw [this]
    have e : value (runBlocks shr fs (f shr s)) - value s
        = (value (runBlocks shr fs (f shr s)) - value (f shr s)) + (value (f shr s) - value s) := by ring
    rw [e]
    exact Int.dvd_add h2 h1

theorem emod_eq_of_dvd_sub {a b : Int} (h : (ell : Int) ∣ a - b) : a % (ell : Int) = b % (ell : Int) :=
  Int.emod_eq_emod_iff_emod_sub_eq_zero.mpr (Int.emod_eq_zero_of_dvd h)

theorem scMulAdd_blocks_preserve : ∀ f ∈ scMulAdd_blocks, Preserves f := by sc_blocks

/-! scalar.go repeats the reduction of scMulAdd verbatim in scAdd, scSub and scMul; scReduce has it without
the first two carry passes.  The extractor emits each copy under its own name: the copies are the same terms. -/

theorem scAdd_blocks_eq : scAdd_blocks = scMulAdd_blocks := rfl
theorem scSub_blocks_eq : scSub_blocks = scMulAdd_blocks := rfl
theorem scMul_blocks_eq : scMul_blocks = scMulAdd_blocks := rfl
theorem scReduce_blocks_eq : scReduce_blocks = scMulAdd_blocks.drop 2 := rfl

theorem scAdd_blocks_preserve : ∀ f ∈ scAdd_blocks, Preserves f := scAdd_blocks_eq ▸ scMulAdd_blocks_preserve
theorem scSub_blocks_preserve : ∀ f ∈ scSub_blocks, Preserves f := scSub_blocks_eq ▸ scMulAdd_blocks_preserve
theorem scMul_blocks_preserve : ∀ f ∈ scMul_blocks, Preserves f := scMul_blocks_eq ▸ scMulAdd_blocks_preserve
theorem scReduce_blocks_preserve : ∀ f ∈ scReduce_blocks, Preserves f := fun f hf =>
  scMulAdd_blocks_preserve f (List.mem_of_mem_drop (scReduce_blocks_eq ▸ hf))

theorem scMulAdd_init_value (a0 a1 a2 a3 a4 a5 a6 a7 a8 a9 a10 a11 b0 b1 b2 b3 b4 b5 b6 b7 b8 b9 b10 b11
    c0 c1 c2 c3 c4 c5 c6 c7 c8 c9 c10 c11 : Int) :
    value (scMulAdd_init a0 a1 a2 a3 a4 a5 a6 a7 a8 a9 a10 a11 b0 b1 b2 b3 b4 b5 b6 b7 b8 b9 b10 b11
      c0 c1 c2 c3 c4 c5 c6 c7 c8 c9 c10 c11)
    = value12 a0 a1 a2 a3 a4 a5 a6 a7 a8 a9 a10 a11 * value12 b0 b1 b2 b3 b4 b5 b6 b7 b8 b9 b10 b11
      + value12 c0 c1 c2 c3 c4 c5 c6 c7 c8 c9 c10 c11 := by
  unfold_gen
  simp only [value, value12]
  ring

theorem scMul_init_value (a0 a1 a2 a3 a4 a5 a6 a7 a8 a9 a10 a11 b0 b1 b2 b3 b4 b5 b6 b7 b8 b9 b10 b11 : Int) :
    value (scMul_init a0 a1 a2 a3 a4 a5 a6 a7 a8 a9 a10 a11 b0 b1 b2 b3 b4 b5 b6 b7 b8 b9 b10 b11)
    = value12 a0 a1 a2 a3 a4 a5 a6 a7 a8 a9 a10 a11 * value12 b0 b1 b2 b3 b4 b5 b6 b7 b8 b9 b10 b11 := by
  unfold_gen
  simp only [value, value12]
  ring

theorem scAdd_init_value (a0 a1 a2 a3 a4 a5 a6 a7 a8 a9 a10 a11 c0 c1 c2 c3 c4 c5 c6 c7 c8 c9 c10 c11 : Int) :
    value (scAdd_init a0 a1 a2 a3 a4 a5 a6 a7 a8 a9 a10 a11 c0 c1 c2 c3 c4 c5 c6 c7 c8 c9 c10 c11)
    = value12 a0 a1 a2 a3 a4 a5 a6 a7 a8 a9 a10 a11 + value12 c0 c1 c2 c3 c4 c5 c6 c7 c8 c9 c10 c11 := by
  unfold_gen
  simp only [value, value12]
  ring

/-- scSub starts from `a - c + 16·ℓ` (the constants 1916624, 863866, … , 16 are the limbs of 16ℓ) -/
theorem scSub_init_value (a0 a1 a2 a3 a4 a5 a6 a7 a8 a9 a10 a11 c0 c1 c2 c3 c4 c5 c6 c7 c8 c9 c10 c11 : Int) :
    value (scSub_init a0 a1 a2 a3 a4 a5 a6 a7 a8 a9 a10 a11 c0 c1 c2 c3 c4 c5 c6 c7 c8 c9 c10 c11)
    = value12 a0 a1 a2 a3 a4 a5 a6 a7 a8 a9 a10 a11 - value12 c0 c1 c2 c3 c4 c5 c6 c7 c8 c9 c10 c11
      + 16 * (ell : Int) := by
  unfold_gen
  simp only [value, value12, ell]
  ring

theorem scReduce_init_value (s0 s1 s2 s3 s4 s5 s6 s7 s8 s9 s10 s11 s12 s13 s14 s15 s16 s17 s18 s19 s20 s21 s22 s23 : Int) :
    scReduce_init s0 s1 s2 s3 s4 s5 s6 s7 s8 s9 s10 s11 s12 s13 s14 s15 s16 s17 s18 s19 s20 s21 s22 s23
    = ⟨s0, s1, s2, s3, s4, s5, s6, s7, s8, s9, s10, s11, s12, s13, s14, s15, s16, s17, s18, s19, s20, s21, s22, s23⟩ := by
  unfold_gen
  rfl

/-! ### the limbs computed by the five functions, modulo ℓ, every carry arbitrary -/

theorem scMulAdd_limbs_value (shr : Shr) (a0 a1 a2 a3 a4 a5 a6 a7 a8 a9 a10 a11 b0 b1 b2 b3 b4 b5 b6 b7 b8 b9 b10 b11
    c0 c1 c2 c3 c4 c5 c6 c7 c8 c9 c10 c11 : Int) :
    value (scMulAdd_limbs shr a0 a1 a2 a3 a4 a5 a6 a7 a8 a9 a10 a11 b0 b1 b2 b3 b4 b5 b6 b7 b8 b9 b10 b11
        c0 c1 c2 c3 c4 c5 c6 c7 c8 c9 c10 c11) % (ell : Int)
    = (value12 a0 a1 a2 a3 a4 a5 a6 a7 a8 a9 a10 a11 * value12 b0 b1 b2 b3 b4 b5 b6 b7 b8 b9 b10 b11
        + value12 c0 c1 c2 c3 c4 c5 c6 c7 c8 c9 c10 c11) % (ell : Int) := by
  rw [← scMulAdd_init_value]
  exact emod_eq_of_dvd_sub (runBlocks_preserves shr _ scMulAdd_blocks_preserve _)

theorem scMul_limbs_value (shr : Shr) (a0 a1 a2 a3 a4 a5 a6 a7 a8 a9 a10 a11 b0 b1 b2 b3 b4 b5 b6 b7 b8 b9 b10 b11 : Int) :
    value (scMul_limbs shr a0 a1 a2 a3 a4 a5 a6 a7 a8 a9 a10 a11 b0 b1 b2 b3 b4 b5 b6 b7 b8 b9 b10 b11) % (ell : Int)
    = (value12 a0 a1 a2 a3 a4 a5 a6 a7 a8 a9 a10 a11 * value12 b0 b1 b2 b3 b4 b5 b6 b7 b8 b9 b10 b11) % (ell : Int) := by
  rw [← scMul_init_value]
  exact emod_eq_of_dvd_sub (runBlocks_preserves shr _ scMul_blocks_preserve _)

theorem scAdd_limbs_value (shr : Shr) (a0 a1 a2 a3 a4 a5 a6 a7 a8 a9 a10 a11 c0 c1 c2 c3 c4 c5 c6 c7 c8 c9 c10 c11 : Int) :
    value (scAdd_limbs shr a0 a1 a2 a3 a4 a5 a6 a7 a8 a9 a10 a11 c0 c1 c2 c3 c4 c5 c6 c7 c8 c9 c10 c11) % (ell : Int)
    = (value12 a0 a1 a2 a3 a4 a5 a6 a7 a8 a9 a10 a11 + value12 c0 c1 c2 c3 c4 c5 c6 c7 c8 c9 c10 c11) % (ell : Int) := by
  rw [← scAdd_init_value]
  exact emod_eq_of_dvd_sub (runBlocks_preserves shr _ scAdd_blocks_preserve _)

/-- the 16·ℓ that scSub starts from drops out -/
theorem scSub_limbs_value (shr : Shr) (a0 a1 a2 a3 a4 a5 a6 a7 a8 a9 a10 a11 c0 c1 c2 c3 c4 c5 c6 c7 c8 c9 c10 c11 : Int) :
    value (scSub_limbs shr a0 a1 a2 a3 a4 a5 a6 a7 a8 a9 a10 a11 c0 c1 c2 c3 c4 c5 c6 c7 c8 c9 c10 c11) % (ell : Int)
    = (value12 a0 a1 a2 a3 a4 a5 a6 a7 a8 a9 a10 a11 - value12 c0 c1 c2 c3 c4 c5 c6 c7 c8 c9 c10 c11) % (ell : Int) := by
  have h := emod_eq_of_dvd_sub (runBlocks_preserves shr _ scSub_blocks_preserve (scSub_init a0 a1 a2 a3 a4 a5 a6 a7 a8 a9 a10 a11 c0 c1 c2 c3 c4 c5 c6 c7 c8 c9 c10 c11))
  rwa [scSub_init_value, Int.add_mul_emod_self_right] at h

theorem scReduce_limbs_value (shr : Shr) (s0 s1 s2 s3 s4 s5 s6 s7 s8 s9 s10 s11 s12 s13 s14 s15 s16 s17 s18 s19 s20 s21 s22 s23 : Int) :
    value (scReduce_limbs shr s0 s1 s2 s3 s4 s5 s6 s7 s8 s9 s10 s11 s12 s13 s14 s15 s16 s17 s18 s19 s20 s21 s22 s23) % (ell : Int)
    = value ⟨s0, s1, s2, s3, s4, s5, s6, s7, s8, s9, s10, s11, s12, s13, s14, s15, s16, s17, s18, s19, s20, s21, s22, s23⟩ % (ell : Int) := by
  rw [← scReduce_init_value]
  exact emod_eq_of_dvd_sub (runBlocks_preserves shr _ scReduce_blocks_preserve _)

end Dos.Ed25519
