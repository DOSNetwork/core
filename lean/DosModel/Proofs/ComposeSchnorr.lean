/-
Composition helper for C20: in a commutative group, a NON-ZERO element killed by the prime ℓ has order
exactly ℓ.  With ℓ prime (`Proofs/Primes.lean`) this turns the hypothesis "B has order exactly ℓ"
(`hord`) of the C20 non-malleability theorems into "B is not the identity" — `ℓ • B = 0` is already
part of `Lawful`.
-/
import Mathlib.GroupTheory.OrderOfElement
import DosModel.Proofs.ComposePrimes
import DosModel.Proofs.Schnorr

namespace Dos.Compose
open Dos Dos.Ed25519

theorem order_exact_of_prime {G : Type} [AddCommGroup G] (q : Nat) (hq : q.Prime) (B : G)
    (hB : B ≠ 0) (hqB : q • B = 0) : ∀ n : ℕ, n • B = 0 → q ∣ n := by
  intro n hn
  have hd : addOrderOf B ∣ q := addOrderOf_dvd_of_nsmul_eq_zero hqB
  rcases (Nat.dvd_prime hq).1 hd with h1 | h1
  · exact absurd (AddMonoid.addOrderOf_eq_one_iff.1 h1) hB
  · rw [← h1]; exact addOrderOf_dvd_of_nsmul_eq_zero hn

theorem order_exact_ell {G : Type} [AddCommGroup G] (B : G) (hB : B ≠ 0) (hl : ell • B = 0) :
    ∀ n : ℕ, n • B = 0 → ell ∣ n :=
  order_exact_of_prime ell ell_prime B hB hl

/-- every multiple `x • B` with `ℓ ∤ x` of such a `B` has order exactly ℓ as well (public keys) -/
theorem order_exact_ell_multiple {G : Type} [AddCommGroup G] (B : G) (hB : B ≠ 0) (hl : ell • B = 0)
    (x : ℕ) (hx : ¬ ell ∣ x) : ∀ n : ℕ, n • (x • B) = 0 → ell ∣ n := by
  apply order_exact_ell
  · intro h0; exact hx (order_exact_ell B hB hl x h0)
  · rw [smul_comm, hl, smul_zero]

end Dos.Compose
