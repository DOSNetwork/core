/-
C10 layer 2 — gfP.Invert (gfp.go): the square-and-multiply loop over the `bits` table, started from rN1 and
fixed up by r3, computes the (p−2)-th power of the decoded value: dec (Invert f) = (dec f)^(p−2) in ZMod p for every
reduced f, where `dec x = x·R⁻¹` (Proofs/Bn256FieldIso.lean) is multiplicative on reduced values. Since p is prime this is
the inverse (Fermat): `dec_inv`. Props/C10.lean states both facts as congruences between numbers; `dec_eq_iff` reads them back.
-/
import DosModel.Proofs.Bn256FieldIso

namespace Dos.Mont

/-- the number a little-endian bit list spells -/
def bitsVal : List Bool → Nat
  | [] => 0
  | b :: bs => (if b then 1 else 0) + 2 * bitsVal bs

end Dos.Mont

namespace Dos.Bn256
open Dos.Mont

theorem GFp.mul_v (a b : GFp) : (a * b).v = mulM p np a.v b.v := rfl

/-- the loop of gfP.Invert multiplies the decoded `sum` by the decoded `power` to the exponent spelled by
the bits, and keeps both reduced -/
theorem invLoopG_dec (bits : List Bool) : ∀ s w : GFp, s.v < p → w.v < p →
    (GFp.invLoopG bits (s, w)).1.v < p ∧ dec (GFp.invLoopG bits (s, w)).1 = dec s * dec w ^ bitsVal bits := by
  induction bits with
  | nil => intro s w hs _; exact ⟨hs, by simp [GFp.invLoopG, bitsVal]⟩
  | cons b bs ih =>
    intro s w hs hw
    obtain ⟨hww, dww⟩ := dec_mul w w hw hw
    obtain ⟨hsw, dsw⟩ := dec_mul s w hs hw
    have hstep : GFp.invLoopG (b :: bs) (s, w) = GFp.invLoopG bs (if b then s * w else s, w * w) := rfl
    rw [hstep]
    cases b with
    | false =>
      obtain ⟨h, e⟩ := ih s (w * w) hs hww
      exact ⟨h, e.trans (by rw [dww, bitsVal]; simp only [Bool.false_eq_true, if_false]; ring)⟩
    | true =>
      obtain ⟨h, e⟩ := ih (s * w) (w * w) hsw hww
      exact ⟨h, e.trans (by rw [dww, dsw, bitsVal]; simp only [if_true]; ring)⟩

/-- gfP.Invert raises the decoded value to the power p − 2 (no primality used) -/
theorem dec_invert (f : GFp) (hf : f.v < p) : (GFp.invert f).v < p ∧ dec (GFp.invert f) = dec f ^ (p - 2) := by
  have hbits : bitsVal (GFp.bitsLE Gen.Bn256.invertBits) = p - 2 := by decide +kernel
  obtain ⟨h1, e⟩ := invLoopG_dec (GFp.bitsLE Gen.Bn256.invertBits) GFp.rN1 f (by decide) hf
  obtain ⟨k1, k2⟩ := dec_mul _ GFp.r3 h1 (by decide)
  -- decode(rN1)·decode(r3) = 1
  have hone : dec GFp.rN1 * dec GFp.r3 = 1 := by
    rw [← (dec_mul _ _ (by decide) (by decide)).2]; exact dec_one.2 ▸ congrArg dec (by decide +kernel)
  exact ⟨k1, by rw [show GFp.invert f = _ * GFp.r3 from rfl, k2, e, hbits, mul_right_comm, hone, one_mul]⟩

theorem dec_inv (a : GFp) (ha : a.v < p) : (a⁻¹).v < p ∧ dec a⁻¹ = (dec a)⁻¹ := by
  obtain ⟨h1, e⟩ := dec_invert a ha
  exact ⟨h1, e.trans (ZModFacts.pow_sub_two (by decide) _)⟩

/-- a decoded equation is a congruence between numbers -/
theorem dec_eq_iff (x : GFp) (n : Nat) : dec x = n ↔ x.v * GFp.rN1.v ≡ n [MOD p] := by
  rw [← ZMod.natCast_eq_natCast_iff, Nat.cast_mul]; rfl

/-- **invert_correct** (no primality needed): decode(Invert f) ≡ decode(f)^(p−2), result reduced -/
theorem invert_pow (f : GFp) (hf : f.v < p) :
    (GFp.invert f).v < p ∧
    (GFp.invert f).v * GFp.rN1.v ≡ (f.v * GFp.rN1.v) ^ (p - 2) [MOD p] := by
  obtain ⟨h, e⟩ := dec_invert f hf
  exact ⟨h, (dec_eq_iff _ _).1 (by rw [e]; simp only [dec, Nat.cast_pow, Nat.cast_mul])⟩

/-- Invert is the field inverse in Montgomery form: decode(Invert f) · decode(f) ≡ 1 for every reduced non-zero f -/
theorem invert_inverse (f : GFp) (hf : f.v < p) (hf0 : f.v ≠ 0) :
    ((GFp.invert f).v * GFp.rN1.v) * (f.v * GFp.rN1.v) ≡ 1 [MOD p] := by
  have h0 : dec f ≠ 0 := fun h => hf0 (congrArg GFp.v (dec_injective f 0 hf (by decide) (h.trans dec_zero.symm)))
  rw [← ZMod.natCast_eq_natCast_iff, Nat.cast_mul, Nat.cast_mul, Nat.cast_mul, Nat.cast_one]
  show dec (GFp.invert f) * dec f = 1
  rw [show GFp.invert f = f⁻¹ from rfl, (dec_inv f hf).2]; exact inv_mul_cancel₀ h0

end Dos.Bn256
