import DosModel.Proofs.DispatchStep

/-! What one event can do to a caller's result; facts about whole histories; and, for the `callHandler` loop of
`Model/Dispatch.lean` section (c), that a history in which nothing stalls the handler hands on every request to an
answering peer (`handed_of_no_stall`). -/
namespace Dos.Dispatch
open Dos

/-- how the caller's outcome can change in one step -/
def WChange (s : Sys) (e : Ev) (i : Nat) (w w' : Waiter) : Prop :=
  w' = w ∨ (w = .waiting ∧ (w' = .ctxErr ∨ ∃ v, w' = .got v ∧
    (∀ m, v = .msg m → ∃ k race win, e = .reply k m race win ∧ lookup s.conn.pending k = some i)))

/-- what one event can do to request `i`: the caller's outcome changes as `WChange` says, and a nonce, once
given, stays -/
def ReqStep (s : Sys) (e : Ev) (i : Nat) (r r' : Req) : Prop :=
  WChange s e i r.waiter r'.waiter ∧ ∀ k, r.nonce = some k → r'.nonce = some k

theorem ReqStep.of_eq {s : Sys} {e : Ev} {i : Nat} {r r' : Req} (hw : r'.waiter = r.waiter) (hn : r'.nonce = r.nonce) :
    ReqStep s e i r r' := ⟨.inl hw, fun _ h => hn ▸ h⟩

theorem ReqStep.complete (s : Sys) (e : Ev) (i : Nat) (r : Req) (h : Holder) (v : Res) (w : Bool)
    (hv : ∀ m, v = .msg m → ∃ k race win, e = .reply k m race win ∧ lookup s.conn.pending k = some i) :
    ReqStep s e i r (r.complete h v w) := by
  refine ⟨?_, fun _ hk => by rw [complete_nonce]; exact hk⟩
  rcases complete_waiter r h v w with h1 | ⟨h1, _, h3⟩
  · exact .inl h1
  · exact .inr ⟨h1, .inr ⟨v, h3, hv⟩⟩

theorem step_req {s : Sys} (hs : Inv s) (e : Ev) (i : Nat) : ReqStep s e i (s.reqs i) ((step s e).reqs i) := by
  have hc := hs.core
  have upd : ∀ (i' : Nat) (f : Req → Req), (∀ r, ReqStep s e i r (f r)) → ReqStep s e i (s.reqs i) ((s.upd i' f).reqs i) := by
    intro i' f hf
    by_cases hj : i = i'
    · subst hj; rw [upd_reqs_same]; exact hf _
    · rw [upd_reqs_other _ _ _ _ hj]; exact .of_eq rfl rfl
  have compl : ∀ (i' : Nat) (st : Stage) (h : Holder) (v : Res) (w : Bool), (∀ m, v ≠ .msg m) →
      ReqStep s e i (s.reqs i) ((s.upd i' (fun r => ({ r with stage := st }).complete h v w)).reqs i) :=
    fun i' st h v w hv => upd i' _ fun r =>
      ReqStep.complete s e i { r with stage := st } h v w (fun m hm => absurd hm (hv m))
  -- one goal per branch of `step`, numbered as in `step_inv` (Proofs/DispatchStep.lean); the branches not named do
  -- not touch the requests
  fun_cases step s e
  case case1 t a =>
    show ReqStep _ _ _ _ (if i = s.n then _ else _ : Req)
    split
    · rename_i hi
      rw [hc.absent i (Nat.le_of_eq hi.symm)]; exact ⟨.inl rfl, nofun⟩
    · exact .of_eq rfl rfl
  case case2 | case6 | case8 | case12 | case15 | case26 => exact upd _ _ fun _ => .of_eq rfl rfl
  case case4 | case10 => exact compl _ _ _ _ _ nofun
  case case14 i' fwd hg st hty src =>
    -- a request still queued has no nonce yet
    have hnone := (hc.req i').nonce (by rw [hg.1]; rfl)
    show ReqStep _ _ _ _ (src.reqs i)
    simp only [src]
    by_cases hj : i = i'
    · subst hj; rw [upd_reqs_same]; exact ⟨.inl rfl, fun k hk => by rw [hnone] at hk; cases hk⟩
    · rw [upd_reqs_other _ _ _ _ hj]; exact .of_eq rfl rfl
  case case17 i' win hst r s1 nn =>
    show ReqStep _ _ _ _ (s1.reqs i)
    simp only [s1]; split
    · exact compl _ _ _ _ _ nofun
    · exact upd i' _ fun _ => .of_eq rfl rfl
  case case22 k m race win _ i0 hl s1 _ =>
    by_cases hj : i = i0
    · subst hj
      show ReqStep _ _ _ _ ((Sys.upd _ i _).reqs i)
      rw [upd_reqs_same]
      have := ReqStep.complete s (.reply k m race win) i
        (if race = true then { s.reqs i with ctxDone := true } else s.reqs i) .table (.msg m) win
        (by intro m' hm'; cases hm'; exact ⟨k, race, win, rfl, hl⟩)
      have hw : (if race = true then { s.reqs i with ctxDone := true } else s.reqs i).waiter = (s.reqs i).waiter ∧
          (if race = true then { s.reqs i with ctxDone := true } else s.reqs i).nonce = (s.reqs i).nonce := by
        split <;> exact ⟨rfl, rfl⟩
      rw [ReqStep, hw.1, hw.2] at this; exact this
    · show ReqStep _ _ _ _ ((Sys.upd _ i0 _).reqs i)
      rw [upd_reqs_other _ _ _ _ hj]; exact .of_eq rfl rfl
  case case27 i' hg =>
    by_cases hj : i = i'
    · subst hj; rw [upd_reqs_same]; exact ⟨.inr ⟨hg.1, .inl rfl⟩, fun _ h => h⟩
    · rw [upd_reqs_other _ _ _ _ hj]; exact .of_eq rfl rfl
  case case32 win _ s1 =>
    show ReqStep _ _ _ _ ((failAll win s.conn.pending s).reqs i)
    rw [failAll_reqs]
    split
    · exact .complete s _ i (s.reqs i) .table .errClosed _ nofun
    · exact .of_eq rfl rfl
  all_goals exact .of_eq rfl rfl

theorem step_nonce_stable {s : Sys} (hs : Inv s) (e : Ev) (i k : Nat) (h : (s.reqs i).nonce = some k) :
    ((step s e).reqs i).nonce = some k := (step_req hs e i).2 k h

theorem run_waiter_stable (evs : List Ev) (s : Sys) (hs : Inv s) (i : Nat) (h : (s.reqs i).waiter ≠ .waiting) :
    ((run s evs).reqs i).waiter = (s.reqs i).waiter :=
  run_induction (P := fun _ t => (t.reqs i).waiter = (s.reqs i).waiter)
    (fun _ _ e ht hp => ((step_req ht e i).1.resolve_right fun h' => h (hp ▸ h'.1)).trans hp) evs [] s hs rfl

theorem run_nonce_stable (evs : List Ev) (s : Sys) (hs : Inv s) (i k : Nat) (h : (s.reqs i).nonce = some k) :
    ((run s evs).reqs i).nonce = some k :=
  run_induction (P := fun _ t => (t.reqs i).nonce = some k) (fun _ _ e ht hp => step_nonce_stable ht e i k hp) evs [] s hs h

/-- every reply value a caller holds was carried by a reply event bearing that caller's nonce -/
def Own (s : Sys) (hist : List Ev) : Prop :=
  ∀ i m, (s.reqs i).waiter = .got (.msg m) →
    ∃ k race win, Ev.reply k m race win ∈ hist ∧ (s.reqs i).nonce = some k

theorem step_own {s : Sys} (hs : Inv s) (hist : List Ev) (ho : Own s hist) (e : Ev) :
    Own (step s e) (hist ++ [e]) := by
  intro i m hw
  rcases (step_req hs e i).1 with h1 | ⟨h1, h2⟩
  · rw [h1] at hw
    obtain ⟨k, race, win, hm, hn⟩ := ho i m hw
    exact ⟨k, race, win, by simp [hm], step_nonce_stable hs e i k hn⟩
  · rcases h2 with h2 | ⟨v, hv, hmsg⟩
    · rw [h2] at hw; simp at hw
    · rw [hv] at hw; injection hw with hw
      obtain ⟨k, race, win, he, hl⟩ := hmsg m hw
      exact ⟨k, race, win, by simp [he], step_nonce_stable hs e i k (hs.pend_nonce (lookup_mem hl))⟩

theorem run_own (evs : List Ev) (s : Sys) (hist : List Ev) (hs : Inv s) (ho : Own s hist) :
    Own (run s evs) (hist ++ evs) :=
  run_induction (P := fun h t => Own t h) (fun h _ e ht ho => step_own ht h ho e) evs hist s hs ho

/-- a registered request whose table copy has not fired has not been completed at all -/
theorem pend_fresh {s : Sys} (hs : Inv s) {k i : Nat} (h : (k, i) ∈ s.conn.pending) :
    (s.reqs i).closes = 0 ∧ ∀ hd, (s.reqs i).once hd = false := by
  obtain ⟨_, _, hty, hpt, hT⟩ := hs.pend k i h
  have hr := hs.core.req i
  have hall : ∀ hd, (s.reqs i).once hd = false := fun hd => by
    cases hh : (s.reqs i).once hd
    · rfl
    · -- past the table boundary only the table copy of a send-type request may have fired
      cases allowed_unique (hty ▸ hr.flags hd hh) (allowed_table hpt)
      exact hh.symm.trans hT
  refine ⟨?_, hall⟩
  have h1 := hall .handler; have h2 := hall .sendG; have h3 := hall .table; have h4 := hall .pack
  simp only [Req.once] at h1 h2 h3 h4
  rw [hr.count, h1, h2, h3, h4]; rfl

/-- completing a registered request through the table: its one and only completion.  A caller whose context
is live takes the value; one whose context has ended either still takes it or keeps what it has. -/
theorem complete_pending {s : Sys} (hs : Inv s) {k i : Nat} (h : (k, i) ∈ s.conn.pending) (v : Res) (w : Bool) :
    ((s.reqs i).complete .table v w).closes = 1 ∧ ((s.reqs i).complete .table v w).onceT = true ∧
    ((s.reqs i).ctxDone = false →
      ((s.reqs i).complete .table v w).waiter = .got v ∧ ((s.reqs i).complete .table v w).vals = [v]) ∧
    ((s.reqs i).ctxDone = true → ((s.reqs i).complete .table v w).ctxDone = true ∧
      (((s.reqs i).complete .table v w).waiter = (s.reqs i).waiter ∨ ((s.reqs i).complete .table v w).waiter = .got v)) := by
  obtain ⟨hcl, hall⟩ := pend_fresh hs h
  have hr := hs.core.req i
  have honce : ((s.reqs i).complete .table v w).once .table = true := by rw [complete_once]; simp
  refine ⟨?_, honce, fun hctx => ?_, fun hctx => ⟨complete_ctx _ _ _ _ hctx, ?_⟩⟩
  · rcases complete_cases (s.reqs i) .table v w with ⟨h1, _⟩ | ⟨_, _, e⟩ | ⟨_, _, e⟩
    · rw [hall] at h1; cases h1
    · rw [e]; exact congrArg (· + 1) hcl
    · rw [e]; exact congrArg (· + 1) hcl
  · -- nobody has returned yet: a caller that has returned has its context done
    have hwait : (s.reqs i).waiter = .waiting := by
      cases hw : (s.reqs i).waiter <;> first | rfl | exact absurd ((hr.wctx (by rw [hw]; nofun)).symm.trans hctx) nofun
    rcases complete_cases (s.reqs i) .table v w with ⟨h1, _⟩ | ⟨_, _, e⟩ | ⟨_, hd, _⟩
    · rw [hall] at h1; cases h1
    · rw [e]; refine ⟨rfl, ?_⟩
      show (s.reqs i).vals ++ [v] = _; rw [hr.vals, hwait]; rfl
    · exact absurd ⟨hwait, .inl hctx⟩ hd
  · rcases complete_waiter (s.reqs i) .table v w with h1 | ⟨_, _, h3⟩
    · exact .inl h1
    · exact .inr h3

theorem lookup_erase (p : List (Nat × Nat)) (k : Nat) : lookup (erase p k) k = none := by
  unfold lookup erase
  rw [List.find?_eq_none.mpr fun x hx => by simpa using (List.mem_filter.mp hx).2]

theorem hstep_call_known (dl db : Bool) (h : Handler) (i p : Nat) (d : Dial) (hw : h.wedged = false)
    (hc : h.clients.contains p = true) : hstep dl db h (.call i p d) = (h, [.handed i p]) := by
  simp only [hstep, hw, hc]; rfl

theorem hstep_call_new (dl db : Bool) (h : Handler) (i p : Nat) (d : Dial) (hw : h.wedged = false)
    (hc : h.clients.contains p = false) :
    hstep dl db h (.call i p d) =
      match d with
      | .ok => ({ h with clients := p :: h.clients }, [.handed i p])
      | .refused => (h, [.failed i])
      | .hsFail => (h, [.failed i])
      | .silent => if dl then (h, [.failed i]) else ({ h with wedged := true }, [])
      | .blackhole => if db then (h, [.failed i]) else ({ h with wedged := true }, []) := by
  simp only [hstep, hw, hc]; rfl

theorem hstep_remove (dl db : Bool) (h : Handler) (p : Nat) (hw : h.wedged = false) :
    (hstep dl db h (.remove p)).1.wedged = false ∧ (hstep dl db h (.remove p)).2 = [] := by
  simp [hstep, hw]

/-- a wedged handler produces nothing any more, whatever is asked of it -/
theorem hrun_wedged (dl db : Bool) (h : Handler) (evs : List HEv) (hw : h.wedged = true) :
    hrun dl db h evs = (h, []) := by
  induction evs with
  | nil => rfl
  | cons e es ih =>
    have he : hstep dl db h e = (h, []) := by
      cases e <;> simp [hstep, hw]
    simp only [hrun, he, ih]; rfl

/-- can this event make the handler enter a dial or a handshake that does not return by itself? -/
def HEv.stalls (dl db : Bool) : HEv → Bool
  | .call _ _ .silent => !dl
  | .call _ _ .blackhole => !db
  | _ => false

theorem stalls_bounded (e : HEv) : e.stalls true true = false := by
  cases e with
  | call _ _ d => cases d <;> rfl
  | _ => rfl

theorem hstep_not_wedged_of (dl db : Bool) (h : Handler) (e : HEv) (hw : h.wedged = false)
    (hs : e.stalls dl db = false) : (hstep dl db h e).1.wedged = false := by
  cases e with
  | call i p d =>
    cases hc : h.clients.contains p
    · rw [hstep_call_new dl db h i p d hw hc]
      -- only a silent / black-holed peer can wedge, and `hs` says the handshake / the dial is bounded then
      cases d with
      | ok | refused | hsFail => exact hw
      | silent | blackhole => simp only [HEv.stalls, Bool.not_eq_false'] at hs; rw [hs]; exact hw
    · rw [hstep_call_known dl db h i p d hw hc]; exact hw
  | remove p => exact (hstep_remove dl db h p hw).1
  | tick => exact hw

/-- as long as nothing in the history can stall the handler, every request to a peer that answers is handed on -/
theorem handed_of_no_stall (dl db : Bool) (h : Handler) (evs : List HEv) (i p : Nat) (hw : h.wedged = false)
    (hns : ∀ e, e ∈ evs → e.stalls dl db = false) (hm : HEv.call i p .ok ∈ evs) :
    HOut.handed i p ∈ (hrun dl db h evs).2 := by
  induction evs generalizing h with
  | nil => cases hm
  | cons e es ih =>
    simp only [hrun]
    rcases List.mem_cons.mp hm with he | he
    · subst he
      refine List.mem_append_left _ ?_
      cases hc : h.clients.contains p
      · rw [hstep_call_new dl db h i p .ok hw hc]; exact List.mem_singleton.mpr rfl
      · rw [hstep_call_known dl db h i p .ok hw hc]; exact List.mem_singleton.mpr rfl
    · exact List.mem_append_right _ (ih _ (hstep_not_wedged_of dl db h e hw (hns e List.mem_cons_self))
        (fun e' he' => hns e' (List.mem_cons_of_mem _ he')) he)

end Dos.Dispatch
