/-
C20 — the program DATA emitted by go/extract/ed25519prog (Gen/Ed25519ScProg.lean) denotes exactly the
FUNCTIONS emitted by go/extract/ed25519sc (Gen/Ed25519Sc.lean), which is what every other C20 theorem is about:

  loads : `loadW id f_prog (rawVals [a, b, c]) = f_load shrI a b c`
  init  : `toL24 (initW id f_prog l) = f_init (l.getD 0 0) …`
  blocks: block by block, `toL24 (blockW id n b ρ) = f_b<k> shrI (toL24 ρ)`      (`Forall₂` over the two lists)
  store : `storeW id f_prog ρ = f_store shrI (toL24 ρ)`
  whole : `runW id f_prog [a, b, c] = f shrI a b c`

Every leaf is `Eq.refl`, checked by the kernel (`kernel_rfl`, Proofs/KernelRfl.lean: evaluation of the interpreter on
a symbolic environment, for which the elaborator's unifier is too slow).  No block count, constant or index is
written here.  So the two independent translations of scalar.go agree, and the interval analysis, which runs on
the data, speaks about the functions.
-/
import Lean.Elab.Tactic
import DosModel.Proofs.KernelRfl
import Batteries.Data.List.Basic
import DosModel.Gen.Ed25519Sc
import DosModel.Gen.Ed25519ScProg

namespace Dos.Ed25519
open Dos Dos.IntervalProg Dos.IntervalProg.ScProg Dos.Gen.Ed25519Sc Dos.Gen.Ed25519ScProg List

/-- limbs s0 … s23 of an environment -/
def toL24 (ρ : Env) : L24 :=
  ⟨ρ.getD 0 0, ρ.getD 1 0, ρ.getD 2 0, ρ.getD 3 0, ρ.getD 4 0, ρ.getD 5 0, ρ.getD 6 0, ρ.getD 7 0,
   ρ.getD 8 0, ρ.getD 9 0, ρ.getD 10 0, ρ.getD 11 0, ρ.getD 12 0, ρ.getD 13 0, ρ.getD 14 0, ρ.getD 15 0,
   ρ.getD 16 0, ρ.getD 17 0, ρ.getD 18 0, ρ.getD 19 0, ρ.getD 20 0, ρ.getD 21 0, ρ.getD 22 0, ρ.getD 23 0⟩

/-- `app36`, `app24`: apply a function of 36 / 24 limb arguments to the entries of a list -/
def app36 {α : Type} (f : Int → Int → Int → Int → Int → Int → Int → Int → Int → Int → Int → Int →
    Int → Int → Int → Int → Int → Int → Int → Int → Int → Int → Int → Int →
    Int → Int → Int → Int → Int → Int → Int → Int → Int → Int → Int → Int → α) (l : List Int) : α :=
  f (l.getD 0 0) (l.getD 1 0) (l.getD 2 0) (l.getD 3 0) (l.getD 4 0) (l.getD 5 0) (l.getD 6 0) (l.getD 7 0) (l.getD 8 0) (l.getD 9 0) (l.getD 10 0) (l.getD 11 0) (l.getD 12 0) (l.getD 13 0) (l.getD 14 0) (l.getD 15 0) (l.getD 16 0) (l.getD 17 0) (l.getD 18 0) (l.getD 19 0) (l.getD 20 0) (l.getD 21 0) (l.getD 22 0) (l.getD 23 0) (l.getD 24 0) (l.getD 25 0) (l.getD 26 0) (l.getD 27 0) (l.getD 28 0) (l.getD 29 0) (l.getD 30 0) (l.getD 31 0) (l.getD 32 0) (l.getD 33 0) (l.getD 34 0) (l.getD 35 0)
def app24 {α : Type} (f : Int → Int → Int → Int → Int → Int → Int → Int → Int → Int → Int → Int →
    Int → Int → Int → Int → Int → Int → Int → Int → Int → Int → Int → Int → α) (l : List Int) : α :=
  f (l.getD 0 0) (l.getD 1 0) (l.getD 2 0) (l.getD 3 0) (l.getD 4 0) (l.getD 5 0) (l.getD 6 0) (l.getD 7 0) (l.getD 8 0) (l.getD 9 0) (l.getD 10 0) (l.getD 11 0) (l.getD 12 0) (l.getD 13 0) (l.getD 14 0) (l.getD 15 0) (l.getD 16 0) (l.getD 17 0) (l.getD 18 0) (l.getD 19 0) (l.getD 20 0) (l.getD 21 0) (l.getD 22 0) (l.getD 23 0)

/-- a block function and a block program agree -/
def BlockTie (nC : Nat) (g : Shr → L24 → L24) (b : Prog) : Prop :=
  ∀ ρ : Env, toL24 (blockW id nC b ρ) = g shrI (toL24 ρ)

theorem blocks_tie {nC : Nat} {fs : List (Shr → L24 → L24)} {bs : List Prog} (h : Forall₂ (BlockTie nC) fs bs) :
    ∀ ρ : Env, toL24 (blocksW id nC bs ρ) = runBlocks shrI fs (toL24 ρ) := by
  induction h with
  | nil => intro ρ; rfl
  | @cons g b fs bs hgb _ ih =>
    intro ρ
    have e1 : blocksW id nC (b :: bs) ρ = blocksW id nC bs (blockW id nC b ρ) := rfl
    have e2 : runBlocks shrI (g :: fs) (toL24 ρ) = runBlocks shrI fs (g shrI (toL24 ρ)) := rfl
    rw [e1, e2, ih, hgb ρ]

/-- all block pairs of two explicit lists, each by kernel evaluation.  It only needs the relation to unfold to a
`∀ ρ, _ = _`, so it serves `BlockTie` here and `FeProg.BlockTie` (Proofs/Ed25519FeTie.lean) alike. -/
macro "tie_blocks" : tactic => `(tactic| (
  repeat (first | exact Forall₂.nil | refine Forall₂.cons (fun ρ => by kernel_rfl) ?_)))

theorem scMulAdd_tie_blocks : Forall₂ (BlockTie scMulAdd_prog.nCarry) scMulAdd_blocks scMulAdd_prog.blocks := by
  simp only [scMulAdd_blocks, scMulAdd_prog, scMulAdd_pblocks]
  tie_blocks

theorem scMulAdd_tie_init (l : List Int) : toL24 (initW id scMulAdd_prog l) = app36 scMulAdd_init l := by
  kernel_rfl

theorem scMulAdd_tie_limbs (l : List Int) : toL24 (limbsW id scMulAdd_prog l) = app36 (scMulAdd_limbs shrI) l := by
  show toL24 (blocksW id scMulAdd_prog.nCarry scMulAdd_prog.blocks (initW id scMulAdd_prog l)) = _
  rw [blocks_tie scMulAdd_tie_blocks, scMulAdd_tie_init]
  rfl

theorem scMulAdd_tie_load (a b c : Bytes) : loadW id scMulAdd_prog (scMulAdd_prog.rawVals [a, b, c]) = scMulAdd_load shrI a b c := by
  kernel_rfl

theorem scMulAdd_tie_store (ρ : Env) : storeW id scMulAdd_prog ρ = scMulAdd_store shrI (toL24 ρ) := by
  kernel_rfl

theorem scMulAdd_eq_app (a b c : Bytes) :
    scMulAdd shrI a b c = scMulAdd_store shrI (app36 (scMulAdd_limbs shrI) (scMulAdd_load shrI a b c)) := by
  kernel_rfl

/-- the emitted data, run in unbounded `Int`, IS the translated function -/
theorem scMulAdd_tie (a b c : Bytes) : runW id scMulAdd_prog [a, b, c] = scMulAdd shrI a b c := by
  show storeW id scMulAdd_prog (limbsW id scMulAdd_prog (loadW id scMulAdd_prog (scMulAdd_prog.rawVals [a, b, c]))) = _
  rw [scMulAdd_tie_store, scMulAdd_tie_limbs, scMulAdd_tie_load, scMulAdd_eq_app]

/-- in both translations the blocks of scAdd (and of scSub, scMul below) are the very terms emitted for scMulAdd -/
theorem scAdd_tie_blocks : Forall₂ (BlockTie scAdd_prog.nCarry) scAdd_blocks scAdd_prog.blocks :=
  show Forall₂ (BlockTie scMulAdd_prog.nCarry) scMulAdd_blocks scMulAdd_prog.blocks from scMulAdd_tie_blocks

theorem scAdd_tie_init (l : List Int) : toL24 (initW id scAdd_prog l) = app24 scAdd_init l := by
  kernel_rfl

theorem scAdd_tie_limbs (l : List Int) : toL24 (limbsW id scAdd_prog l) = app24 (scAdd_limbs shrI) l := by
  show toL24 (blocksW id scAdd_prog.nCarry scAdd_prog.blocks (initW id scAdd_prog l)) = _
  rw [blocks_tie scAdd_tie_blocks, scAdd_tie_init]
  rfl

theorem scAdd_tie_load (a c : Bytes) : loadW id scAdd_prog (scAdd_prog.rawVals [a, c]) = scAdd_load shrI a c := by
  kernel_rfl

theorem scAdd_tie_store (ρ : Env) : storeW id scAdd_prog ρ = scAdd_store shrI (toL24 ρ) := by
  kernel_rfl

theorem scAdd_eq_app (a c : Bytes) :
    scAdd shrI a c = scAdd_store shrI (app24 (scAdd_limbs shrI) (scAdd_load shrI a c)) := by
  kernel_rfl

theorem scAdd_tie (a c : Bytes) : runW id scAdd_prog [a, c] = scAdd shrI a c := by
  show storeW id scAdd_prog (limbsW id scAdd_prog (loadW id scAdd_prog (scAdd_prog.rawVals [a, c]))) = _
  rw [scAdd_tie_store, scAdd_tie_limbs, scAdd_tie_load, scAdd_eq_app]

theorem scSub_tie_blocks : Forall₂ (BlockTie scSub_prog.nCarry) scSub_blocks scSub_prog.blocks :=
  show Forall₂ (BlockTie scMulAdd_prog.nCarry) scMulAdd_blocks scMulAdd_prog.blocks from scMulAdd_tie_blocks

theorem scSub_tie_init (l : List Int) : toL24 (initW id scSub_prog l) = app24 scSub_init l := by
  kernel_rfl

theorem scSub_tie_limbs (l : List Int) : toL24 (limbsW id scSub_prog l) = app24 (scSub_limbs shrI) l := by
  show toL24 (blocksW id scSub_prog.nCarry scSub_prog.blocks (initW id scSub_prog l)) = _
  rw [blocks_tie scSub_tie_blocks, scSub_tie_init]
  rfl

theorem scSub_tie_load (a c : Bytes) : loadW id scSub_prog (scSub_prog.rawVals [a, c]) = scSub_load shrI a c := by
  kernel_rfl

theorem scSub_tie_store (ρ : Env) : storeW id scSub_prog ρ = scSub_store shrI (toL24 ρ) := by
  kernel_rfl

theorem scSub_eq_app (a c : Bytes) :
    scSub shrI a c = scSub_store shrI (app24 (scSub_limbs shrI) (scSub_load shrI a c)) := by
  kernel_rfl

theorem scSub_tie (a c : Bytes) : runW id scSub_prog [a, c] = scSub shrI a c := by
  show storeW id scSub_prog (limbsW id scSub_prog (loadW id scSub_prog (scSub_prog.rawVals [a, c]))) = _
  rw [scSub_tie_store, scSub_tie_limbs, scSub_tie_load, scSub_eq_app]

theorem scMul_tie_blocks : Forall₂ (BlockTie scMul_prog.nCarry) scMul_blocks scMul_prog.blocks :=
  show Forall₂ (BlockTie scMulAdd_prog.nCarry) scMulAdd_blocks scMulAdd_prog.blocks from scMulAdd_tie_blocks

theorem scMul_tie_init (l : List Int) : toL24 (initW id scMul_prog l) = app24 scMul_init l := by
  kernel_rfl

theorem scMul_tie_limbs (l : List Int) : toL24 (limbsW id scMul_prog l) = app24 (scMul_limbs shrI) l := by
  show toL24 (blocksW id scMul_prog.nCarry scMul_prog.blocks (initW id scMul_prog l)) = _
  rw [blocks_tie scMul_tie_blocks, scMul_tie_init]
  rfl

theorem scMul_tie_load (a b : Bytes) : loadW id scMul_prog (scMul_prog.rawVals [a, b]) = scMul_load shrI a b := by
  kernel_rfl

theorem scMul_tie_store (ρ : Env) : storeW id scMul_prog ρ = scMul_store shrI (toL24 ρ) := by
  kernel_rfl

theorem scMul_eq_app (a b : Bytes) :
    scMul shrI a b = scMul_store shrI (app24 (scMul_limbs shrI) (scMul_load shrI a b)) := by
  kernel_rfl

theorem scMul_tie (a b : Bytes) : runW id scMul_prog [a, b] = scMul shrI a b := by
  show storeW id scMul_prog (limbsW id scMul_prog (loadW id scMul_prog (scMul_prog.rawVals [a, b]))) = _
  rw [scMul_tie_store, scMul_tie_limbs, scMul_tie_load, scMul_eq_app]

theorem scReduce_tie_blocks : Forall₂ (BlockTie scReduce_prog.nCarry) scReduce_blocks scReduce_prog.blocks := by
  simp only [scReduce_blocks, scReduce_prog, scReduce_pblocks]
  tie_blocks

theorem scReduce_tie_init (l : List Int) : toL24 (initW id scReduce_prog l) = app24 scReduce_init l := by
  kernel_rfl

theorem scReduce_tie_limbs (l : List Int) : toL24 (limbsW id scReduce_prog l) = app24 (scReduce_limbs shrI) l := by
  show toL24 (blocksW id scReduce_prog.nCarry scReduce_prog.blocks (initW id scReduce_prog l)) = _
  rw [blocks_tie scReduce_tie_blocks, scReduce_tie_init]
  rfl

theorem scReduce_tie_load (s : Bytes) : loadW id scReduce_prog (scReduce_prog.rawVals [s]) = scReduce_load shrI s := by
  kernel_rfl

theorem scReduce_tie_store (ρ : Env) : storeW id scReduce_prog ρ = scReduce_store shrI (toL24 ρ) := by
  kernel_rfl

theorem scReduce_eq_app (s : Bytes) :
    scReduce shrI s = scReduce_store shrI (app24 (scReduce_limbs shrI) (scReduce_load shrI s)) := by
  kernel_rfl

theorem scReduce_tie (s : Bytes) : runW id scReduce_prog [s] = scReduce shrI s := by
  show storeW id scReduce_prog (limbsW id scReduce_prog (loadW id scReduce_prog (scReduce_prog.rawVals [s]))) = _
  rw [scReduce_tie_store, scReduce_tie_limbs, scReduce_tie_load, scReduce_eq_app]

end Dos.Ed25519
