/-
C14 fairness: concrete runs.

* `Run.ofTrace`: the run that performs a finite list of events from the initial state and then
  stutters for ever; it is fair when nothing but environment steps is enabled in its last state.
* `Demo.fanin`: a FROZEN copy of the shape of the regenerated `helper.dosnode.mergeErrors` with one
  upstream stage (upstream stage → fan-in output goroutine → caller, closer goroutine behind a wait
  group).  `Demo.fairRun`: a fair run of it that communicates, is cancelled and terminates.
  `Demo.spin`: the counter-run of design/C14.md — after the cancellation every goroutine that can
  move moves infinitely often and every `select` keeps picking the communication: weakly fair, the
  timer and data clauses hold, nobody ever returns.
* `Demo.handoff` / `Demo.handoffRun`: a creator hands its reply channel to a daemon collector, which
  closes it (collector theorem).  `Demo.lost` / `Demo.lostRun`: a bare send on a channel nobody
  receives from (W6).  `Demo.helperTrace`: a trace of the regenerated `helper.dosnode.mergeErrors`.
-/
import DosModel.Proofs.PipeFair4
import DosModel.Proofs.PipeSucc

namespace Dos.Pipe
variable {p : Pipeline}

def nextBy (p : Pipeline) (s : State) (e : Ev) : Option State :=
  (succs p s).findSome? fun x => if x.1 = e then (match x.2 with | .run s' => some s' | _ => none) else none

theorem nextBy_step {s s' : State} {e : Ev} (h : nextBy p s e = some s') :
    Step p s e (.run s') := by
  unfold nextBy at h
  obtain ⟨x, hx, hm⟩ := List.exists_of_findSome?_eq_some h
  obtain ⟨e', c⟩ := x
  simp only at hm
  split at hm
  · rename_i he
    subst he
    cases c with
    | run t => simp only [Option.some.injEq] at hm; subst hm; exact (mem_succs_iff p s e' _).mp hx
    | crash k g pc => simp at hm
  · cases hm

def traceSt (p : Pipeline) (tr : List Ev) : Nat → State
  | 0 => init p
  | i + 1 => match tr[i]? with
    | some e => match nextBy p (traceSt p tr i) e with
      | some s' => s'
      | none => traceSt p tr i
    | none => traceSt p tr i

def traceOk (p : Pipeline) (tr : List Ev) : Bool :=
  (List.range tr.length).all fun i => match tr[i]? with
    | some e => (nextBy p (traceSt p tr i) e).isSome
    | none => true

/-- perform `tr` from the initial state, then stutter -/
def Run.ofTrace (p : Pipeline) (tr : List Ev) (h : traceOk p tr = true) : Run p where
  st := traceSt p tr
  ev := fun i => tr[i]?
  start := rfl
  step := by
    intro i
    cases htr : tr[i]? with
    | none => show traceSt p tr (i + 1) = traceSt p tr i; rw [traceSt, htr]
    | some e =>
      show Step p (traceSt p tr i) e (.run (traceSt p tr (i + 1)))
      have hi : i < tr.length := (List.getElem?_eq_some_iff.mp htr).1
      unfold traceOk at h
      rw [List.all_eq_true] at h
      have := h i (List.mem_range.mpr hi)
      rw [htr] at this
      simp only at this
      obtain ⟨s', hs'⟩ := Option.isSome_iff_exists.mp this
      rw [traceSt, htr]
      simp only [hs']
      exact nextBy_step hs'

theorem ofTrace_st (p : Pipeline) (tr : List Ev) (h : traceOk p tr = true) :
    (Run.ofTrace p tr h).st = traceSt p tr := rfl

theorem traceSt_after (p : Pipeline) (tr : List Ev) : ∀ d, traceSt p tr (tr.length + d) = traceSt p tr tr.length := by
  intro d
  induction d with
  | zero => rfl
  | succ d ih =>
    have e : tr.length + (d + 1) = tr.length + d + 1 := by omega
    rw [e, traceSt, List.getElem?_eq_none (by omega)]
    exact ih

def Ev.envOnly : Ev → Bool
  | .env _ => true
  | _ => false

theorem enabled_succs {s : State} {g : Gi} (h : Enabled p s g) :
    ∃ x ∈ succs p s, x.1.moves g = true := by
  obtain ⟨e, s', hst, hm⟩ := h
  exact ⟨(e, .run s'), (mem_succs_iff p s e _).mpr hst, hm⟩

theorem not_enabled_of_env_only {s : State} (h : (succs p s).all (fun x => x.1.envOnly) = true)
    (g : Gi) : ¬ Enabled p s g := by
  intro hen
  obtain ⟨x, hx, hm⟩ := enabled_succs hen
  rw [List.all_eq_true] at h
  have := h x hx
  obtain ⟨e, c⟩ := x
  cases e <;> simp [Ev.envOnly] at this
  simp [Ev.moves] at hm

theorem enabled_at {s : State} {g : Gi} (h : Enabled p s g) : ∃ pc, s.gs[g]? = some (.at pc) := by
  obtain ⟨e, s', hst, hm⟩ := h
  cases step_moves hst g with
  | stays h | spawned h => rw [hm] at h; cases h
  | edge pc _ _ _ hat => exact ⟨pc, hat⟩
  | exits pc _ hat => exact ⟨pc, hat⟩

/-- a finite run whose last state enables environment steps only is fair -/
theorem ofTrace_fair (p : Pipeline) (tr : List Ev) (h : traceOk p tr = true)
    (hend : (succs p (traceSt p tr tr.length)).all (fun x => x.1.envOnly) = true) :
    Fair (Run.ofTrace p tr h) := by
  have hev : ∀ i, tr.length ≤ i → (Run.ofTrace p tr h).ev i = none := by
    intro i hi
    show tr[i]? = none
    exact List.getElem?_eq_none hi
  have hnomove : ∀ g, ¬ InfOften (fun i => (Run.ofTrace p tr h).movesAt g i) := by
    intro g hinf
    obtain ⟨i, hi, e, he, _⟩ := hinf tr.length
    rw [hev i hi] at he; cases he
  have hchoice : ∀ g pc l n, ChoiceFair (Run.ofTrace p tr h) g pc l n := by
    intro g pc l n nd _ _ hinf
    exact absurd (hinf.mono (fun i hh => hh.1.2)) (hnomove g)
  refine ⟨?_, fun g pc k n => hchoice g pc _ n, fun g pc n => hchoice g pc _ n, fun g pc n => hchoice g pc _ n⟩
  intro g T hen
  exfalso
  have := hen (tr.length + T) (by omega)
  have hst : (Run.ofTrace p tr h).st (tr.length + T) = traceSt p tr tr.length := traceSt_after p tr T
  rw [hst] at this
  exact not_enabled_of_env_only hend g this

namespace Demo

/-- upstream stage → fan-in output goroutine → caller; closer goroutine behind the wait group.
    Channel 0: the upstream's output (unbuffered), channel 1: the merged output (buffer 1). -/
def fanin : Pipeline where
  name := "demo.fanin"
  nctx := 1
  chans := [⟨"up.out", 0, false⟩, ⟨"merge.out", 1, false⟩]
  wgs := [⟨"merge.wg", 1⟩]
  gs := [
    { name := "upstream",
      nodes := [.sel [.send 0 0, .ctx 0 1], .close 0 2, .exit] },
    { name := "caller",
      nodes := [.sel [.recv 1 0 1, .ctx 0 1], .exit] },
    { name := "merge.output",
      nodes := [.sel [.recv 0 1 4], .sel [.ctx 0 2, .send 1 0], .wgDone 0 3, .exit, .wgDone 0 3] },
    { name := "merge.closer",
      nodes := [.wgWait 0 1, .close 1 2, .exit] }]
  rank := [0, 0, 1, 2]

theorem fanin_wf : W0 fanin = true ∧ SafeOk fanin = true ∧ LiveOk fanin = true := by decide +kernel

/-- one value goes through the pipeline, then the deadline fires and everybody leaves:
    the upstream by its context alternative, the fan-in by the closed range, the closer after the
    wait group, the caller by its context alternative -/
def fairTrace : List Ev :=
  [.sync 0 2 0, .act 2 (.send 1), .act 1 (.recvOk 1), .env 0,
   .act 0 (.ctx 0), .act 0 (.close 0), .exit 0,
   .act 2 (.recvCl 0), .act 2 (.wgDone 0), .exit 2,
   .act 3 (.wgWait 0), .act 3 (.close 1), .exit 3,
   .act 1 (.ctx 0), .exit 1]

theorem fairTrace_ok : traceOk fanin fairTrace = true := by decide +kernel

def fairRun : Run fanin := Run.ofTrace fanin fairTrace fairTrace_ok

theorem fairRun_fair : Fair fairRun := ofTrace_fair fanin fairTrace fairTrace_ok (by decide +kernel)

theorem fairRun_cancelled : (fairRun.st 4).ctxDone 0 = true := by decide +kernel

/-- the run is not trivial: a value is in the merged channel at position 2, the context is done at
    position 4 and not before, the last goroutine returns at position 15 -/
theorem fairRun_nontrivial :
    (fairRun.st 2).len 1 = 1 ∧ (fairRun.st 3).ctxDone 0 = false ∧
    (fairRun.st 14).gs[1]? = some (.at 1) ∧ (fairRun.st 15).gs = [.done, .done, .done, .done] ∧
    (fairRun.st 15).closed 0 = true ∧ (fairRun.st 15).closed 1 = true := by decide +kernel

/-- after the cancellation: everybody at the head of its loop -/
def sA : State := (init fanin).setCtx 0
/-- the upstream has handed a value to the fan-in -/
def sB : State := (sA.setG 0 (.at 0)).setG 2 (.at 1)
/-- the fan-in has put it into the merged channel -/
def sC : State := (effect sB (.send 1)).setG 2 (.at 0)

def spinSt : Nat → State
  | 0 => init fanin
  | 1 => sA
  | 2 => sB
  | 3 => sC
  | i + 4 => spinSt (i + 1)

def spinEv : Nat → Option Ev
  | 0 => some (.env 0)
  | 1 => some (.sync 0 2 0)
  | 2 => some (.act 2 (.send 1))
  | 3 => some (.act 1 (.recvOk 1))
  | i + 4 => spinEv (i + 1)

theorem spin_steps :
    Step fanin (init fanin) (.env 0) (.run sA) ∧ Step fanin sA (.sync 0 2 0) (.run sB) ∧
    Step fanin sB (.act 2 (.send 1)) (.run sC) ∧ Step fanin sC (.act 1 (.recvOk 1)) (.run sA) := by
  refine ⟨?_, ?_, ?_, ?_⟩ <;> rw [← mem_succs_iff] <;> decide +kernel

theorem spin_step : ∀ i, match spinEv i with
    | some e => Step fanin (spinSt i) e (.run (spinSt (i + 1)))
    | none => spinSt (i + 1) = spinSt i
  | 0 => spin_steps.1
  | 1 => spin_steps.2.1
  | 2 => spin_steps.2.2.1
  | 3 => spin_steps.2.2.2
  | i + 4 => spin_step (i + 1)

/-- the deadline fires at once; from then on: upstream → fan-in → merged channel → caller, for ever -/
def spin : Run fanin where
  st := spinSt
  ev := spinEv
  start := rfl
  step := spin_step

theorem spin_st_cases : ∀ i, spin.st i = init fanin ∨ spin.st i = sA ∨ spin.st i = sB ∨ spin.st i = sC
  | 0 => Or.inl rfl
  | 1 => Or.inr (Or.inl rfl)
  | 2 => Or.inr (Or.inr (Or.inl rfl))
  | 3 => Or.inr (Or.inr (Or.inr rfl))
  | i + 4 => spin_st_cases (i + 1)

/-- the cycle has period three (position 0, the cancellation, is not part of it) -/
theorem spin_ev_period (i k : Nat) : spin.ev (i + 1 + 3 * k) = spin.ev (i + 1) := by
  induction k with
  | zero => rfl
  | succ k ih =>
    rw [show i + 1 + 3 * (k + 1) = i + 3 * k + 4 by omega]
    show spinEv (i + 3 * k + 1) = _
    rw [show i + 3 * k + 1 = i + 1 + 3 * k by omega]
    exact ih

/-- the closer goroutine waits for the wait group in every state of the cycle -/
theorem spin_closer_blocked :
    [init fanin, sA, sB, sC].all (fun s => (succs fanin s).all (fun x => !x.1.moves 3)) = true := by
  decide +kernel

theorem spin_weakFair : WeakFair spin := by
  -- positions `1 + 3k` are the rendezvous of 0 and 2, positions `3 + 3k` the receive of 1;
  -- 3 (the closer) is never enabled; there is no goroutine 4, 5, …
  intro (g : Nat) T hen
  by_cases h0 : (g : Nat) = 0
  · subst h0
    exact ⟨0 + 1 + 3 * T, by omega, _, spin_ev_period 0 T, by decide⟩
  by_cases h1 : (g : Nat) = 1
  · subst h1
    exact ⟨2 + 1 + 3 * T, by omega, _, spin_ev_period 2 T, by decide⟩
  by_cases h2 : (g : Nat) = 2
  · subst h2
    exact ⟨0 + 1 + 3 * T, by omega, _, spin_ev_period 0 T, by decide⟩
  exfalso
  have hT := hen T (Nat.le_refl _)
  by_cases h3 : (g : Nat) = 3
  · subst h3
    obtain ⟨x, hx, hm⟩ := enabled_succs hT
    have hall := spin_closer_blocked
    simp only [List.all_cons, List.all_nil, Bool.and_true, Bool.and_eq_true] at hall
    have hs : (succs fanin (spin.st T)).all (fun x => !x.1.moves 3) = true := by
      rcases spin_st_cases T with h | h | h | h <;> rw [h]
      · exact hall.1
      · exact hall.2.1
      · exact hall.2.2.1
      · exact hall.2.2.2
    rw [List.all_eq_true] at hs
    have := hs x hx
    rw [hm] at this; cases this
  · obtain ⟨pc, hat⟩ := enabled_at hT
    have hlen : (spin.st T).gs.length = 4 := by
      rcases spin_st_cases T with h | h | h | h <;> rw [h] <;> decide
    have := (List.getElem?_eq_some_iff.mp hat).1
    rw [hlen] at this
    omega

/-- no node of the demo has a timer alternative or an internal choice -/
theorem fanin_no_tick_tau : fanin.gs.all (fun gr => gr.nodes.all (fun nd =>
    nd.edges.all (fun e => e.1 != .tick && e.1 != .tau))) = true := by decide

theorem spin_choice_vacuous (g : Gi) (pc : Pc) (l : Lab) (n : Pc) (hl : l = .tick ∨ l = .tau) :
    ChoiceFair spin g pc l n := by
  intro nd hnd hed _
  exfalso
  obtain ⟨gr, hg, hn⟩ := node_some hnd
  have h := fanin_no_tick_tau
  rw [List.all_eq_true] at h
  have h1 := h gr (List.mem_of_getElem? hg)
  rw [List.all_eq_true] at h1
  have h2 := h1 nd (List.mem_of_getElem? hn)
  rw [List.all_eq_true] at h2
  have h3 := h2 (l, n) hed
  rcases hl with rfl | rfl <;> simp at h3

/-- the upstream stage is running at every position -/
theorem spin_never_quiet (i : Nat) : ¬ Quiet fanin (spin.st i) := by
  intro hq
  apply hq 0
  refine ⟨_, 0, rfl, rfl, ?_⟩
  rcases spin_st_cases i with h | h | h | h <;> rw [h] <;> decide

theorem spin_cancelled : (spin.st 1).ctxDone 0 = true := by decide

/-- the creator registers its reply channel (0) with the collector over the hand-off channel (1), or
    closes it itself when the deadline wins; the collector closes it when the request's context is
    done (its ticker keeps it turning) -/
def handoff : Pipeline where
  name := "demo.handoff"
  nctx := 1
  chans := [⟨"reply", 0, false⟩, ⟨"register", 1, true⟩]
  wgs := []
  gs := [
    { name := "creator",
      nodes := [.sel [.send 1 1, .ctx 0 2], .exit, .close 0 1] },
    { name := "collector", daemon := true,
      nodes := [.sel [.recv 1 1 0], .sel [.ctx 0 2, .tick 1], .close 0 0] }]
  rank := [0, 0]

theorem handoff_wf : W0 handoff = true ∧ SafeOk handoff = true ∧ LiveOk handoff = true ∧
    handoffs handoff = [(1, 0, 1)] ∧ CollectorsOk handoff = true := by decide +kernel

def handoffTrace : List Ev :=
  [.act 0 (.send 1), .exit 0, .act 1 (.recvOk 1), .act 1 .tick, .env 0, .act 1 (.ctx 0), .act 1 (.close 0)]

theorem handoffTrace_ok : traceOk handoff handoffTrace = true := by decide +kernel

def handoffRun : Run handoff := Run.ofTrace handoff handoffTrace handoffTrace_ok

theorem handoffRun_fair : Fair handoffRun :=
  ofTrace_fair handoff handoffTrace handoffTrace_ok (by decide +kernel)

/-- at position 3 the collector holds the reply channel (node 1 is `ownD`-labelled), the channel is
    open; the context is done at position 5; the channel is closed at position 7 -/
theorem handoffRun_facts :
    (handoffRun.st 3).gs[1]? = some (.at 1) ∧ mark (ownD (handoff.gs[1]!) 0 1) 1 = true ∧
    (handoffRun.st 3).closed 0 = false ∧ (handoffRun.st 5).ctxDone 0 = true ∧
    (handoffRun.st 7).closed 0 = true := by decide +kernel

/-- one stage at a bare send on an unbuffered channel that nobody receives from -/
def lost : Pipeline where
  name := "demo.lost"
  nctx := 1
  chans := [⟨"errc", 0, false⟩]
  wgs := []
  gs := [{ name := "stage", nodes := [.sel [.send 0 1], .exit] }]
  rank := [0]

theorem lost_receiverless : Receiverless lost 0 := by
  intro gr hgr
  simp only [lost, List.mem_singleton] at hgr
  subst hgr
  decide

def lostRun : Run lost := Run.ofTrace lost [] rfl

/-- events of a run of the regenerated `helper.dosnode.mergeErrors` (two upstream stages 0 1, caller 2,
    fan-in goroutines 3 4, closer 5; channels: inputs 0 1, merged 2), used as a non-vacuity example in
    Props/C14Fair.lean -/
def helperTrace : List Ev :=
  [.sync 0 3 0, .act 3 (.send 2), .act 2 (.recvOk 2), .env 0,
   .act 0 (.ctx 0), .act 0 (.close 0), .exit 0, .act 1 (.ctx 0), .act 1 (.close 1), .exit 1,
   .act 3 (.recvCl 0), .act 3 (.wgDone 0), .exit 3, .act 4 (.recvCl 1), .act 4 (.wgDone 0), .exit 4,
   .act 5 (.wgWait 0), .act 5 (.close 2), .exit 5, .act 2 (.recvCl 2), .exit 2]

end Demo

end Dos.Pipe
