/-
C20 — soundness of the interval analysis of a field routine (`FeProg.absRun`, Model/FeProg.lean), proved once for
every routine, on top of Proofs/IntervalProg.lean.  Go's `int32(e)` is written `(e << 32) >> 32` (`n32`) in the int64
expression language: the identity on values, the int32 wrap-around under wrapping int64 arithmetic, overflow-free
exactly on int32s; the carry rule looks through it (`absProg32_sound`).
-/
import DosModel.Proofs.IntervalProg
import DosModel.Model.FeProg

set_option exponentiation.threshold 600

namespace Dos.FeProg
open Dos Dos.Ed25519 Dos.IntervalProg List

/-! ### int32 narrowing -/

theorem n32v_eq (x : Int) : n32v x = x := by
  unfold n32v shl shrI
  rw [Int.shiftRight_eq_div_pow]
  exact Int.mul_ediv_cancel x (by decide)

theorem n32_wrap (x : Int) : shrI (wrap (shl x 32)) 32 = wrap32 x := by
  unfold shl shrI wrap wrap32
  rw [Int.shiftRight_eq_div_pow]
  omega

theorem wrap32_of_I32 {x : Int} (h : I32 x) : wrap32 x = x := by
  unfold wrap32; unfold I32 at h; omega

/-- `n32 e` is safe exactly when `e` is and its value is an int32 -/
theorem n32_safe (ρ : Env) (e : Expr) : (n32 e).Safe ρ ↔ e.Safe ρ ∧ I32 (e.eval ρ) := by
  show ((e.Safe ρ ∧ I64 (Ed25519.shl (e.eval ρ) 32)) ∧ I64 (shrI (id (Ed25519.shl (e.eval ρ) 32)) 32)) ↔ _
  have h2 : shrI (id (Ed25519.shl (e.eval ρ) 32)) 32 = e.eval ρ := n32v_eq _
  rw [h2]
  unfold I64 I32 minI64 maxI64 Ed25519.shl
  constructor
  · rintro ⟨⟨h1, h3⟩, _⟩; exact ⟨h1, by omega⟩
  · rintro ⟨h1, h3⟩; exact ⟨⟨h1, by omega⟩, by omega⟩

theorem unwrap32_eval (ρ : Env) (a : Expr) (k : Nat) : (unwrap32 a k).eval ρ = (Expr.shr a k).eval ρ := by
  unfold unwrap32
  split
  · rename_i e j
    split
    · rename_i hc
      obtain ⟨rfl, rfl⟩ := hc
      exact (n32v_eq (e.eval ρ)).symm
    · rfl
  · rfl

theorem strip32_eval (ρ : Env) : ∀ e : Expr, (strip32 e).eval ρ = e.eval ρ := by
  intro e
  induction e with
  | v i => rfl
  | c n => rfl
  | add a b iha ihb => show id ((strip32 a).eval ρ + (strip32 b).eval ρ) = id (a.eval ρ + b.eval ρ); rw [iha, ihb]
  | sub a b iha ihb => show id ((strip32 a).eval ρ - (strip32 b).eval ρ) = id (a.eval ρ - b.eval ρ); rw [iha, ihb]
  | mul a b iha ihb => show id ((strip32 a).eval ρ * (strip32 b).eval ρ) = id (a.eval ρ * b.eval ρ); rw [iha, ihb]
  | shr a k iha =>
    show (unwrap32 (strip32 a) k).eval ρ = shrI (a.eval ρ) k
    rw [unwrap32_eval]
    show shrI ((strip32 a).eval ρ) k = _
    rw [iha]
  | shl a k iha => show id (Ed25519.shl ((strip32 a).eval ρ) k) = id (Ed25519.shl (a.eval ρ) k); rw [iha]
  | band a b iha ihb =>
    show id (Ed25519.band ((strip32 a).eval ρ) ((strip32 b).eval ρ)) = id (Ed25519.band (a.eval ρ) (b.eval ρ)); rw [iha, ihb]
  | bor a b iha ihb =>
    show id (Ed25519.bor ((strip32 a).eval ρ) ((strip32 b).eval ρ)) = id (Ed25519.bor (a.eval ρ) (b.eval ρ)); rw [iha, ihb]

/-! ### the abstract interpreter with the `n32`-transparent carry rule -/

theorem absStmt32_sound {ρ : Env} {σ σ' : AState} (h : Sound ρ σ) (s : Stmt) (hs : absStmt32 σ s = some σ') :
    s.rhs.Safe ρ ∧ Sound (ρ.set s.dst (s.rhs.eval ρ)) σ' := by
  unfold absStmt32 at hs
  split at hs
  · rename_i hlt
    split at hs
    · rename_i i hi
      cases Option.some.inj hs
      obtain ⟨hsafe, hm, _, _⟩ := absExpr_sound h.1 s.rhs i hi
      have hlen : s.dst < ρ.length := by rw [h.1.length_eq]; exact hlt
      have e := strip32_eval ρ s.rhs
      have hm' : Itv.mem ((strip32 s.rhs).eval ρ) i := by rw [e]; exact hm
      have r := refine_sound h.2 (strip32 s.rhs) i hm'
      rw [e] at r
      have sf := stepFact_sound h.2 ⟨s.dst, strip32 s.rhs⟩ hlen
      simp only [e] at sf
      exact ⟨hsafe, forall₂_set h.1 r s.dst, sf⟩
    · cases hs
  · cases hs

/-- `IntervalProg.absProg_sound` with `absStmt32` for the step -/
theorem absProg32_sound : ∀ (p : Prog) {ρ : Env} {σ σ' : AState}, Sound ρ σ → absProg32 σ p = some σ' →
    SafeProg ρ p ∧ Sound (evalProg ρ p) σ' := by
  intro p
  induction p with
  | nil =>
    intro ρ σ σ' h hp
    cases Option.some.inj hp
    exact ⟨trivial, h⟩
  | cons s p ih =>
    intro ρ σ σ' h hp
    simp only [absProg32] at hp
    cases hs : absStmt32 σ s with
    | none => simp [hs] at hp
    | some σ₁ =>
      simp only [hs] at hp
      obtain ⟨h1, h2⟩ := absStmt32_sound h s hs
      obtain ⟨h3, h4⟩ := ih h2 hp
      exact ⟨⟨h1, h3⟩, h4⟩

theorem slice_slice (n : Nat) (ρ : Env) : slice 0 n (slice 0 n ρ) = slice 0 n ρ := by
  unfold slice
  apply List.map_congr_left
  intro i hi
  have hi' : i < n := List.mem_range.1 hi
  simp [List.getD, List.getElem?_map, List.getElem?_range hi']

-- the structure `FeProg` (Model/FeProg.lean) lives in the namespace `Dos.FeProg`
set_option linter.dupNamespace false

namespace FeProg

/-! The phases of a field routine (Model/FeProg.lean: ten limbs, `absProg32`) repeat those of a scalar routine
(Model/IntervalProg.lean: 24 limbs, `absProg`) as definitions of their own; `absBlock_sound`, `absBlocks_sound` and
`blocksW_wrap_eq` below are the proofs of the same names in Proofs/IntervalProg.lean. -/

theorem absInit_sound {p : FeProg} {inp : Env} {I A : List Itv} (h : In inp I) (hi : absInit p I = some A) :
    SafeProg (enter p.nIn p.nLoc inp) p.init ∧ In (initW id p inp) A := by
  unfold absInit at hi
  split at hi
  · rename_i σ hσ
    cases Option.some.inj hi
    obtain ⟨h1, h2⟩ := absProg32_sound p.init (sound_init (h.enter p.nIn p.nLoc)) hσ
    exact ⟨h1, forall₂_map_left_iff.2 (forall₂_map_right_iff.2 (forall₂_same.2 fun j _ => h2.1.getD j))⟩
  · cases hi

theorem absBlock_sound {nC : Nat} {b : Prog} {ρ : Env} {A A' : List Itv} (h : In ρ A)
    (hb : absBlock nC b A = some A') : SafeProg (enter 10 nC ρ) b ∧ In (blockW id nC b ρ) A' := by
  unfold absBlock at hb
  split at hb
  · rename_i σ hσ
    cases Option.some.inj hb
    obtain ⟨h1, h2⟩ := absProg32_sound b (sound_init (h.enter 10 nC)) hσ
    exact ⟨h1, h2.1⟩
  · cases hb

theorem absBlocks_sound {nC : Nat} : ∀ (bs : List Prog) {ρ : Env} {A A' : List Itv}, In ρ A →
    absBlocks nC bs A = some A' → SafeBlocks nC bs ρ ∧ In (blocksW id nC bs ρ) A' := by
  intro bs
  induction bs with
  | nil =>
    intro ρ A A' h hb
    cases Option.some.inj hb
    exact ⟨trivial, h⟩
  | cons b bs ih =>
    intro ρ A A' h hb
    simp only [absBlocks] at hb
    cases h1 : absBlock nC b A with
    | none => simp [h1] at hb
    | some A₁ =>
      simp only [h1] at hb
      obtain ⟨s1, i1⟩ := absBlock_sound h h1
      obtain ⟨s2, i2⟩ := ih i1 hb
      exact ⟨⟨s1, s2⟩, i2⟩

theorem absOuts_sound {ρ : Env} {A : List Itv} (h : In ρ A) : ∀ (es : List Expr) (O : List Itv),
    absOuts A es = some O → (∀ e ∈ es, e.Safe ρ) ∧ In (es.map (fun e => e.eval ρ)) O := by
  intro es
  induction es with
  | nil =>
    intro O hO
    cases Option.some.inj hO
    exact ⟨(fun _ he => nomatch he), Forall₂.nil⟩
  | cons e es ih =>
    intro O hO
    simp only [absOuts] at hO
    cases h1 : absExpr A e with
    | none => simp [h1] at hO
    | some i =>
      cases h2 : absOuts A es with
      | none => simp [h1, h2] at hO
      | some is =>
        simp only [h1, h2] at hO
        cases Option.some.inj hO
        obtain ⟨s1, m1, _, _⟩ := absExpr_sound h e i h1
        obtain ⟨s2, m2⟩ := ih is h2
        refine ⟨?_, Forall₂.cons m1 m2⟩
        intro e' he'
        rcases List.mem_cons.1 he' with rfl | he'
        · exact s1
        · exact s2 e' he'

theorem absRun_sound {p : FeProg} {inp : Env} {I L O : List Itv} (h : In inp I) (hr : absRun p I = some (L, O)) :
    p.SafeFrom inp ∧ In (limbsW id p inp) L ∧ In (runW id p inp) O := by
  unfold absRun at hr
  split at hr
  · cases hr
  · rename_i A hA
    split at hr
    · cases hr
    · rename_i B hB
      split at hr
      · cases hr
      · rename_i O' hO
        cases Option.some.inj hr
        obtain ⟨s1, i1⟩ := absInit_sound h hA
        obtain ⟨s2, i2⟩ := absBlocks_sound p.blocks i1 hB
        have i3 : In (limbsW id p inp) (aslice 0 10 B) := i2.slice 0 10
        have hs : slice 0 10 (limbsW id p inp) = limbsW id p inp := slice_slice _ _
        obtain ⟨s3, i4⟩ := absOuts_sound (ρ := slice 0 10 (limbsW id p inp)) (by rw [hs]; exact i3) p.out O hO
        exact ⟨⟨s1, s2, s3⟩, i3, i4⟩

/-! ### wrapping semantics -/

theorem blocksW_wrap_eq {nC : Nat} : ∀ (bs : List Prog) (ρ : Env), SafeBlocks nC bs ρ →
    blocksW wrap nC bs ρ = blocksW id nC bs ρ := by
  intro bs
  induction bs with
  | nil => intro ρ _; rfl
  | cons b bs ih =>
    intro ρ h
    obtain ⟨h1, h2⟩ := h
    show blocksW wrap nC bs (blockW wrap nC b ρ) = blocksW id nC bs (blockW id nC b ρ)
    have e : blockW wrap nC b ρ = blockW id nC b ρ := evalProg64_eq b _ h1
    rw [e]
    exact ih _ h2

/-- **no overflow ⇒ Go's wrapping run is the unbounded-`Int` run** -/
theorem runW_wrap_eq {p : FeProg} {inp : Env} (h : p.SafeFrom inp) :
    p.limbsW wrap inp = p.limbsW id inp ∧ p.runW wrap inp = p.runW id inp := by
  obtain ⟨h1, h2, h3⟩ := h
  have e1 : initW wrap p inp = initW id p inp := by
    unfold initW
    rw [evalProg64_eq p.init _ h1]
  have e2 : p.limbsW wrap inp = p.limbsW id inp := by
    unfold limbsW
    rw [e1, blocksW_wrap_eq _ _ h2]
  refine ⟨e2, ?_⟩
  unfold runW outW
  rw [e2]
  apply List.map_congr_left
  intro e he
  exact Expr.eval64_eq _ e (h3 e he)

end FeProg

end Dos.FeProg
