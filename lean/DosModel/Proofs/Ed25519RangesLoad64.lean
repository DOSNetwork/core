/-
C20 — the 64-byte load of scReduce: its 24 load expressions (23 masked 21-bit limbs and
`load4(s[60:]) >> 3`) cut a 64-byte string into limbs with the same little-endian value.
-/
import DosModel.Proofs.Ed25519RangesTie
import DosModel.Proofs.Ed25519Bytes

set_option exponentiation.threshold 600

namespace Dos.Ed25519
open Dos Dos.Gen.Ed25519Sc List

/-- **64-byte load**: the 24 limbs loaded by scReduce have the little-endian value of the input, because limb i is the
field (21 i, 21) of that value, the last one the field (483, 29) -/
theorem scReduce_load_value (s : Bytes) (h : s.length = 64) : value (toL24 (scReduce_load shrI s)) = (leNat s : Int) := by
  simp (disch := omega) only [scReduce_load, load3_sl, load4_sl, shrI_bitfield, band_bitfield 2097151 21 rfl,
    Nat.reduceMul, Nat.reduceAdd, Nat.reduceSub, toL24, List.getD_cons_zero, List.getD_cons_succ, value]
  have hn := leNat_lt s
  rw [h] at hn
  have hs := congrArg (Nat.cast (R := Int)) (fieldSum_self (leNat s)
    [21, 21, 21, 21, 21, 21, 21, 21, 21, 21, 21, 21, 21, 21, 21, 21, 21, 21, 21, 21, 21, 21, 21, 29] hn)
  simp only [fieldSum, Nat.reduceAdd, Nat.pow_zero, Nat.mul_one, Nat.zero_add] at hs
  simp only [Nat.cast_add, Nat.cast_mul, Nat.cast_pow, Nat.cast_ofNat] at hs
  exact hs

end Dos.Ed25519
