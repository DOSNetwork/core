/-
Algebraic core of distributed key generation (C04, C05): evaluation of private and public
polynomials is additive in the coefficient vector, so the sum of the dealers' shares lies on
the sum of the dealers' commitment vectors, and that vector is the commitment of the summed
polynomial.  Any field `F`, any `F`-module `G`.
-/
import DosModel.Proofs.VssSym
import DosModel.Model.Dkg
import Mathlib.Algebra.BigOperators.Group.List.Basic

set_option linter.unusedSectionVars false

namespace Dos.Dkg
open Dos Dos.Vss

variable {F G : Type} [Field F] [AddCommGroup G] [Module F G] [DecidableEq F] [DecidableEq G]

/-- coefficient-wise sum of vectors, the way `DistKeyShare` accumulates `pub` -/
def vecSum {α : Type} [Add α] : List (List α) → List α
  | [] => []
  | x :: rest => rest.foldl (List.zipWith (· + ·)) x

theorem pubEval_zipWith_add (p q : List G) (h : p.length = q.length) (i : Int) :
    pubEval (S := F) (List.zipWith (· + ·) p q) i = pubEval (S := F) p i + pubEval (S := F) q i := by
  induction p generalizing q with
  | nil => cases q <;> simp_all [pubEval_nil]
  | cons a p ih =>
    cases q with
    | nil => simp at h
    | cons b q =>
      simp only [List.length_cons, Nat.add_right_cancel_iff] at h
      simp only [List.zipWith_cons_cons, pubEval_cons, ih q h, smul_add]
      abel

/-- `Share.priEval_zipWith_add` for this area's `Vss.priEval` (same body, other model file); by hand, so
that the DKG proofs need no `Polynomial` -/
theorem priEval_zipWith_add (p q : List F) (h : p.length = q.length) (i : Int) :
    priEval (List.zipWith (· + ·) p q) i = priEval p i + priEval q i := by
  induction p generalizing q with
  | nil => cases q <;> simp_all [priEval_nil]
  | cons a p ih =>
    cases q with
    | nil => simp at h
    | cons b q =>
      simp only [List.length_cons, Nat.add_right_cancel_iff] at h
      simp only [List.zipWith_cons_cons, priEval_cons, ih q h]
      ring

theorem commit_zipWith_add (g : G) (p q : List F) :
    commit g (List.zipWith (· + ·) p q) = List.zipWith (· + ·) (commit g p) (commit g q) := by
  induction p generalizing q with
  | nil => simp [commit]
  | cons a p ih =>
    cases q with
    | nil => simp [commit]
    | cons b q =>
      have := ih q
      simp only [commit] at this ⊢
      simp [this, add_smul]

theorem length_foldl_zipWith {α : Type} [Add α] (L : Nat) (rest : List (List α)) (x : List α)
    (hx : x.length = L) (hr : ∀ y ∈ rest, y.length = L) :
    (rest.foldl (List.zipWith (· + ·)) x).length = L := by
  induction rest generalizing x with
  | nil => simpa using hx
  | cons y rest ih =>
    simp only [List.foldl_cons]
    apply ih
    · simp [hx, hr y (by simp)]
    · intro z hz; exact hr z (by simp [hz])

/-- a map that is additive on vectors of one length is additive on `vecSum` -/
theorem vecSum_hom {α β : Type} [Add α] [AddCommMonoid β] (ev : List α → β) (L : Nat) (h0 : ev [] = 0)
    (hadd : ∀ p q, p.length = L → q.length = L → ev (List.zipWith (· + ·) p q) = ev p + ev q)
    (cs : List (List α)) (hlen : ∀ c ∈ cs, c.length = L) : ev (vecSum cs) = (cs.map ev).sum := by
  cases cs with
  | nil => simpa [vecSum] using h0
  | cons c rest =>
    simp only [vecSum, List.map_cons, List.sum_cons]
    have hc := hlen c (by simp)
    have hr : ∀ y ∈ rest, y.length = L := fun y hy => hlen y (by simp [hy])
    clear hlen
    induction rest generalizing c with
    | nil => simp
    | cons y rest ih =>
      have hy := hr y (by simp)
      simp only [List.foldl_cons, List.map_cons, List.sum_cons]
      rw [ih (List.zipWith (· + ·) c y) (by simp [hc, hy]) (fun z hz => hr z (by simp [hz])), hadd c y hc hy, add_assoc]

theorem commit_foldl (g : G) (rest : List (List F)) (x : List F) :
    commit g (rest.foldl (List.zipWith (· + ·)) x)
      = (rest.map (commit g)).foldl (List.zipWith (· + ·)) (commit g x) := by
  induction rest generalizing x with
  | nil => rfl
  | cons y rest ih => simp only [List.foldl_cons, List.map_cons, ih, commit_zipWith_add]

theorem vecSum_commit (g : G) (fs : List (List F)) :
    vecSum (fs.map (commit g)) = commit g (vecSum fs) := by
  cases fs with
  | nil => rfl
  | cons f rest => simp only [List.map_cons, vecSum, commit_foldl]

theorem pubEval_vecSum (L : Nat) (cs : List (List G)) (h : ∀ c ∈ cs, c.length = L) (i : Int) :
    pubEval (S := F) (vecSum cs) i = (cs.map (fun c => pubEval (S := F) c i)).sum :=
  vecSum_hom (fun c => pubEval (S := F) c i) L rfl (fun p q hp hq => pubEval_zipWith_add p q (hp.trans hq.symm) i) cs h

theorem priEval_vecSum (L : Nat) (fs : List (List F)) (h : ∀ f ∈ fs, f.length = L) (i : Int) :
    priEval (vecSum fs) i = (fs.map (fun f => priEval f i)).sum :=
  vecSum_hom (fun f => priEval f i) L rfl (fun p q hp hq => priEval_zipWith_add p q (hp.trans hq.symm) i) fs h

theorem length_vecSum {α : Type} [Add α] (L : Nat) (xs : List (List α)) (hne : xs ≠ [])
    (h : ∀ x ∈ xs, x.length = L) : (vecSum xs).length = L := by
  cases xs with
  | nil => exact absurd rfl hne
  | cons x rest =>
    exact length_foldl_zipWith L rest x (h x (by simp)) (fun y hy => h y (by simp [hy]))

/-- **the summed share lies on the summed commitments**: if every dealer's share checks against
that dealer's commitments at index `i`, the sum of the shares checks against the
coefficient-wise sum of the commitment vectors (all of one length). -/
theorem sum_share_on_sum_commits (g : G) (L : Nat) (ds : List (F × List G)) (i : Int)
    (hlen : ∀ d ∈ ds, d.2.length = L) (hchk : ∀ d ∈ ds, d.1 • g = pubEval (S := F) d.2 i) :
    (ds.map (·.1)).sum • g = pubEval (S := F) (vecSum (ds.map (·.2))) i := by
  rw [pubEval_vecSum L _ (by intro c hc; obtain ⟨d, hd, rfl⟩ := List.mem_map.1 hc; exact hlen d hd)]
  induction ds with
  | nil => simp
  | cons d ds ih =>
    simp only [List.map_cons, List.sum_cons, add_smul]
    rw [hchk d (by simp), ih (fun x hx => hlen x (by simp [hx])) (fun x hx => hchk x (by simp [hx]))]

end Dos.Dkg
