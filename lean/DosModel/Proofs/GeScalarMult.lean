/-
C20 — `geScalarMult` of ge.go computes k • P in the Edwards curve group.

Window method: table Ai = [1A, …, 8A] (Add, ToExtended, ToCached), signed radix-16 digits e[0..63] ∈ [−8, 8] of the
scalar (Proofs/GeScalarMultRecode.lean), t = 0 + e[63]•A, then for i = 62 … 0: t ← 16·t + e[i]•A (four
ToProjective/Double, ToExtended, selectCached, Add).  Horner: Σ e[i]·16^i = leNat a.
Every step goes through the per-method specifications (Proofs/GeSpec2, GeScalarMultSel), i.e. through the
regenerated method bodies with their limb-bound analysis: no fe operation is used outside its proved precondition
anywhere in the 64 rounds.
-/
import Mathlib.Tactic.Abel
import DosModel.Proofs.GeScalarMultSel
import DosModel.Proofs.GeScalarMultRecode

set_option exponentiation.threshold 600

namespace Dos.Ge
open Dos Dos.Ed25519 Dos.FeProg Dos.FeOps Dos.GeProg Dos.Ed25519Prime Dos.Edwards Dos.Gen.Ed25519Ge

theorem getD_append_left' {α : Type} (l m : List α) (d : α) {i : Nat} (h : i < l.length) :
    (l ++ m).getD i d = l.getD i d := by
  simp [List.getD, List.getElem?_append_left h]

theorem getD_append_right' {α : Type} (l m : List α) (d : α) {i : Nat} (h : l.length ≤ i) :
    (l ++ m).getD i d = m.getD (i - l.length) d := by
  simp [List.getD, List.getElem?_append_right h]

/-- the table of cached multiples built at the head of `geScalarMult` -/
def smTable (A : Ext) : List Cached :=
  (List.range 7).foldl (fun (ai : List Cached) i => ai ++ [extToCached (complToExt (complAdd A (ai.getD i default)))])
    [extToCached A]

/-- **the table**: eight entries, entry i represents (i + 1) • P -/
theorem smTable_spec {A : Ext} {P : Pt} (hA : GoodExt A P) :
    (smTable A).length = 8 ∧ ∀ i, i < 8 → GoodCached ((smTable A).getD i default) ((i + 1) • P) := by
  have key := foldl_range_inv
    (fun (ai : List Cached) i => ai ++ [extToCached (complToExt (complAdd A (ai.getD i default)))])
    (fun n ai => ai.length = n + 1 ∧ ∀ i, i < n + 1 → GoodCached (ai.getD i default) ((i + 1) • P))
    [extToCached A] 7
    ⟨rfl, fun i hi => by
      have : i = 0 := by omega
      subst this
      rw [zero_add, one_smul]
      exact extToCached_spec hA⟩
    (fun k ai _ ⟨hl, hg⟩ => by
      refine ⟨by simp [hl], ?_⟩
      intro i hi
      by_cases hik : i < k + 1
      · rw [getD_append_left' _ _ _ (by omega)]
        exact hg i hik
      · have : i = k + 1 := by omega
        subst this
        rw [getD_append_right' _ _ _ (by omega), hl, Nat.sub_self, List.getD_cons_zero]
        have h1 := extToCached_spec (complToExt_spec (complAdd_spec hA (hg k (by omega))))
        have e : P + (k + 1) • P = (k + 1 + 1) • P := (succ_nsmul' P (k + 1)).symm
        rw [← e]; exact h1)
  exact key

theorem sixteen_zsmul (Q : Pt) :
    (16 : Int) • Q = (Q + Q + (Q + Q) + (Q + Q + (Q + Q))) + (Q + Q + (Q + Q) + (Q + Q + (Q + Q))) := by abel

/-- `t <<= 4`: four ToProjective/Double -/
theorem dbl4_spec {t : Compl} {Q : Pt} (ht : GoodCompl t Q) : GoodCompl (dbl4 t) ((16 : Int) • Q) := by
  have h := projDouble_spec (complToProj_spec (projDouble_spec (complToProj_spec (projDouble_spec (complToProj_spec
    (projDouble_spec (complToProj_spec ht)))))))
  rw [sixteen_zsmul]; exact h

theorem geScalarMult_eq (a : Bytes) (A : Ext) :
    geScalarMult a A = complToExt ((List.range 63).foldl
      (fun t k => complAdd (complToExt (dbl4 t)) (selectCached (smTable A) ((recode (nybbles a)).getD (62 - k) 0)))
      (complAdd extZero (selectCached (smTable A) ((recode (nybbles a)).getD 63 0)))) := rfl

/-- **geScalarMult computes k • P** (precondition of the Go code: a[31] ≤ 127) -/
theorem geScalarMult_spec (a : Bytes) (hlen : a.length = 32) (h31 : (a.getD 31 0).toNat ≤ 127) {A : Ext} {P : Pt}
    (hA : GoodExt A P) : GoodExt (geScalarMult a A) (leNat a • P) := by
  obtain ⟨hl, hr, hv⟩ := recode_spec a hlen h31
  obtain ⟨htl, htab⟩ := smTable_spec hA
  rw [geScalarMult_eq]
  generalize recode (nybbles a) = e at hl hr hv
  have hsel : ∀ i, i < 64 → GoodCached (selectCached (smTable A) (e.getD i 0)) ((e.getD i 0) • P) :=
    fun i hi => selectCached_spec (smTable A) P htl htab _ (hr i hi)
  have key := foldl_range_inv
    (fun t k => complAdd (complToExt (dbl4 t)) (selectCached (smTable A) (e.getD (62 - k) 0)))
    (fun k t => GoodCompl t (digitsVal (e.drop (63 - k)) • P))
    (complAdd extZero (selectCached (smTable A) (e.getD 63 0))) 63
    (by
      have h0 := complAdd_spec extZero_spec (hsel 63 (by omega))
      have e0 : digitsVal (e.drop (63 - 0)) = e.getD 63 0 := by
        rw [Nat.sub_zero, digitsVal_drop e 63 (by omega), List.drop_eq_nil_of_le (by omega)]
        simp [digitsVal]
      rw [e0, ← zero_add (e.getD 63 0 • P)]
      exact h0)
    (fun k t hk ht => by
      have h1 := complAdd_spec (complToExt_spec (dbl4_spec ht)) (hsel (62 - k) (by omega))
      have e1 : digitsVal (e.drop (63 - (k + 1))) = e.getD (62 - k) 0 + 16 * digitsVal (e.drop (63 - k)) := by
        have : 63 - (k + 1) = 62 - k := by omega
        rw [this, digitsVal_drop e (62 - k) (by omega)]
        have : 62 - k + 1 = 63 - k := by omega
        rw [this]
      rw [e1, add_smul, mul_smul, add_comm]
      exact h1)
  have hfin := complToExt_spec key
  have e2 : digitsVal (e.drop (63 - 63)) = (leNat a : Int) := by rw [Nat.sub_self, List.drop_zero, hv]
  rw [e2, natCast_zsmul] at hfin
  exact hfin

end Dos.Ge
