/-
C20 — the Nat-mod-p extended-coordinate arithmetic `Dos.Ed` of Model/Schnorr.lean (the driver's
independent model: `Ed.add` = add-2008-hwcd-3 on naturals modulo 2^255 − 19, `Ed.smul` = double-and-add) computes the
twisted Edwards group law of Proofs/EdwardsCurve.lean / EdwardsAssoc.lean on the curve `E25519`.

`NRep n P`  : the natural-number quadruple `n = (X : Y : Z : T)` represents the curve point `P`
              (Z ≠ 0 in F, X/Z = P.x, Y/Z = P.y, X·Y = Z·T after the casts ℕ → F, and X < p — the one inequality
              `Ed.add` needs for its `Y + p − X`).
`nrep_zero`, `nrep_base`, `nrep_add`, `nrep_smul`.

With these a Boolean computation on naturals that the kernel evaluates (`decide +kernel`) becomes a theorem about
curve points (Proofs/GeNatOrder.lean: ℓ•B = 0; Proofs/GeNatTable*.lean: the precomputed table of const.go).
-/
import Mathlib.Tactic.Ring
import Mathlib.Tactic.LinearCombination
import DosModel.Proofs.GeBase

set_option exponentiation.threshold 600

namespace Dos.Ge
open Dos Dos.Ed25519 Dos.FeProg Dos.FeOps Dos.GeProg Dos.Ed25519Prime Dos.Edwards

theorem p_pos : 0 < Dos.Ed.p := p_prime.pos

theorem cast_modp (a : ℕ) : ((a % Dos.Ed.p : ℕ) : F) = (a : F) := ZMod.natCast_mod a Dos.Ed.p

/-- `a + p − b` is `a − b` in F: for b < p the natural subtraction does not truncate -/
theorem cast_addp_sub_of_lt {a b : ℕ} (h : b < Dos.Ed.p) : ((a + Dos.Ed.p - b : ℕ) : F) = (a : F) - (b : F) := by
  rw [Nat.cast_sub (by omega), Nat.cast_add, ZMod.natCast_self, add_zero]

theorem cast_d : ((Dos.Ed.d : ℕ) : F) = E25519.d := rfl

/-- the quadruple of naturals `n` is an extended representation of the curve point `P` -/
structure NRep (n : Dos.Ed.Pt) (P : Pt) : Prop where
  x_lt : n.X < Dos.Ed.p
  z_ne : ((n.Z : ℕ) : F) ≠ 0
  hx : ((n.X : ℕ) : F) / ((n.Z : ℕ) : F) = P.x
  hy : ((n.Y : ℕ) : F) / ((n.Z : ℕ) : F) = P.y
  xy : ((n.X : ℕ) : F) * ((n.Y : ℕ) : F) = ((n.Z : ℕ) : F) * ((n.T : ℕ) : F)

theorem nrep_zero : NRep Dos.Ed.zero 0 where
  x_lt := p_pos
  z_ne := by show ((1 : ℕ) : F) ≠ 0; simp
  hx := by show ((0 : ℕ) : F) / ((1 : ℕ) : F) = 0; simp
  hy := by show ((1 : ℕ) : F) / ((1 : ℕ) : F) = 1; simp
  xy := by show ((0 : ℕ) : F) * ((1 : ℕ) : F) = ((1 : ℕ) : F) * ((0 : ℕ) : F); simp

theorem base_X : Dos.Ed.base.X = baseX := rfl
theorem base_Y : Dos.Ed.base.Y = baseY := rfl
theorem base_Z : Dos.Ed.base.Z = 1 := rfl
theorem base_T : Dos.Ed.base.T = baseX * baseY % Dos.Ed.p := rfl

theorem nrep_base : NRep Dos.Ed.base basePt where
  x_lt := by rw [base_X]; decide +kernel
  z_ne := by rw [base_Z]; simp
  hx := by rw [base_X, base_Z]; simp [basePt]
  hy := by rw [base_Y, base_Z]; simp [basePt]
  xy := by rw [base_X, base_Y, base_Z, base_T, cast_modp]; simp

/-- the four coordinates of `Ed.add a b`, cast to F, in the shape of `add_formula` / `completed_toExtended` -/
theorem add_casts (a b : Dos.Ed.Pt) (ha : a.X < Dos.Ed.p) (hb : b.X < Dos.Ed.p)
    {X1 Y1 Z1 T1 X2 Y2 Z2 T2 : F}
    (hX1 : ((a.X : ℕ) : F) = X1) (hY1 : ((a.Y : ℕ) : F) = Y1) (hZ1 : ((a.Z : ℕ) : F) = Z1) (hT1 : ((a.T : ℕ) : F) = T1)
    (hX2 : ((b.X : ℕ) : F) = X2) (hY2 : ((b.Y : ℕ) : F) = Y2) (hZ2 : ((b.Z : ℕ) : F) = Z2) (hT2 : ((b.T : ℕ) : F) = T2) :
    let A := (Y1 - X1) * (Y2 - X2)
    let B := (Y1 + X1) * (Y2 + X2)
    let C := T2 * (2 * E25519.d) * T1
    let D := 2 * (Z1 * Z2)
    (((Dos.Ed.add a b).X : ℕ) : F) = (B - A) * (D - C) ∧ (((Dos.Ed.add a b).Y : ℕ) : F) = (B + A) * (D + C)
      ∧ (((Dos.Ed.add a b).Z : ℕ) : F) = (D + C) * (D - C) ∧ (((Dos.Ed.add a b).T : ℕ) : F) = (B - A) * (B + A) := by
  intro A B C D
  have hp := p_pos
  have eA : (((a.Y + Dos.Ed.p - a.X) * (b.Y + Dos.Ed.p - b.X) % Dos.Ed.p : ℕ) : F) = A := by
    rw [cast_modp, Nat.cast_mul, cast_addp_sub_of_lt ha, cast_addp_sub_of_lt hb, hX1, hY1, hX2, hY2]
  have eB : (((a.Y + a.X) * (b.Y + b.X) % Dos.Ed.p : ℕ) : F) = B := by
    rw [cast_modp]; push_cast; rw [hX1, hY1, hX2, hY2]
  have eC : ((a.T * (2 * Dos.Ed.d % Dos.Ed.p) % Dos.Ed.p * b.T % Dos.Ed.p : ℕ) : F) = C := by
    rw [cast_modp, Nat.cast_mul, cast_modp, Nat.cast_mul, cast_modp]; push_cast; rw [hT1, hT2, cast_d]; ring
  have eD : ((a.Z * 2 % Dos.Ed.p * b.Z % Dos.Ed.p : ℕ) : F) = D := by
    rw [cast_modp, Nat.cast_mul, cast_modp]; push_cast; rw [hZ1, hZ2]; ring
  have lA : (a.Y + Dos.Ed.p - a.X) * (b.Y + Dos.Ed.p - b.X) % Dos.Ed.p < Dos.Ed.p := Nat.mod_lt _ hp
  have lC : a.T * (2 * Dos.Ed.d % Dos.Ed.p) % Dos.Ed.p * b.T % Dos.Ed.p < Dos.Ed.p := Nat.mod_lt _ hp
  refine ⟨?_, ?_, ?_, ?_⟩
  · show ((_ % Dos.Ed.p * (_ % Dos.Ed.p) % Dos.Ed.p : ℕ) : F) = _
    rw [cast_modp, Nat.cast_mul, cast_modp, cast_modp, cast_addp_sub_of_lt lA, cast_addp_sub_of_lt lC, eA, eB, eC, eD]
  · show ((_ % Dos.Ed.p * (_ % Dos.Ed.p) % Dos.Ed.p : ℕ) : F) = _
    rw [cast_modp, Nat.cast_mul, cast_modp, cast_modp, Nat.cast_add, Nat.cast_add, eA, eB, eC, eD]; ring
  · show ((_ % Dos.Ed.p * (_ % Dos.Ed.p) % Dos.Ed.p : ℕ) : F) = _
    rw [cast_modp, Nat.cast_mul, cast_modp, cast_modp, cast_addp_sub_of_lt lC, Nat.cast_add, eC, eD]; ring
  · show ((_ % Dos.Ed.p * (_ % Dos.Ed.p) % Dos.Ed.p : ℕ) : F) = _
    rw [cast_modp, Nat.cast_mul, cast_modp, cast_modp, cast_addp_sub_of_lt lA, Nat.cast_add, eA, eB]

theorem nrep_add {a b : Dos.Ed.Pt} {P Q : Pt} (ha : NRep a P) (hb : NRep b Q) : NRep (Dos.Ed.add a b) (P + Q) := by
  obtain ⟨eX, eY, eZ, eT⟩ := add_casts a b ha.x_lt hb.x_lt rfl rfl rfl rfl rfl rfl rfl rfl
  obtain ⟨f1, f2, f3⟩ := cached_of_extended E25519.d hb.z_ne hb.hx hb.hy hb.xy
  obtain ⟨hcZ, hcT, hx, hy⟩ := add_formula P Q ha.z_ne ha.hx ha.hy ha.xy hb.z_ne f1 f2 f3 rfl rfl rfl rfl rfl rfl rfl rfl
  obtain ⟨hz, hx', hy', hxy⟩ := completed_toExtended hcZ hcT hx hy
  exact
    { x_lt := Nat.mod_lt _ p_pos
      z_ne := by rw [eZ]; exact hz
      hx := by rw [eX, eZ]; exact hx'
      hy := by rw [eY, eZ]; exact hy'
      xy := by rw [eX, eY, eZ, eT]; linear_combination hxy }

theorem nrep_smulAux (fuel : ℕ) : ∀ (n : ℕ) (q acc : Dos.Ed.Pt) (Q R : Pt), NRep q Q → NRep acc R →
    NRep (Dos.Ed.smulAux fuel n q acc) (R + (n % 2 ^ fuel) • Q) := by
  induction fuel with
  | zero =>
    intro n q acc Q R _ hacc
    simpa [Dos.Ed.smulAux, Nat.mod_one] using hacc
  | succ f ih =>
    intro n q acc Q R hq hacc
    have hdec : n % 2 ^ (f + 1) = n % 2 + 2 * (n / 2 % 2 ^ f) := by
      rw [pow_succ, mul_comm, Nat.mod_mul]
    have hqq : NRep (Dos.Ed.add q q) (Q + Q) := nrep_add hq hq
    show NRep (Dos.Ed.smulAux f (n / 2) (Dos.Ed.add q q) (if n % 2 = 1 then Dos.Ed.add acc q else acc)) _
    by_cases hodd : n % 2 = 1
    · rw [if_pos hodd]
      have := ih (n / 2) _ _ _ _ hqq (nrep_add hacc hq)
      rw [hdec, hodd, add_nsmul, one_nsmul, mul_nsmul, two_nsmul, ← add_assoc]
      exact this
    · rw [if_neg hodd]
      have h0 : n % 2 = 0 := by omega
      have := ih (n / 2) _ _ _ _ hqq hacc
      rw [hdec, h0, zero_add, mul_nsmul, two_nsmul]
      exact this

theorem nrep_smul (n : ℕ) {a : Dos.Ed.Pt} {P : Pt} (ha : NRep a P) : NRep (Dos.Ed.smul n a) (n • P) := by
  -- `Ed.smul` runs `smulAux` with fuel log2 n + 1, and n < 2 ^ (log2 n + 1)
  have h := nrep_smulAux (n.log2 + 1) n a Dos.Ed.zero P 0 ha nrep_zero
  rw [Nat.mod_eq_of_lt Nat.lt_log2_self, zero_add] at h
  exact h

/-- reading a representation of the identity: X ≡ 0 and Y ≡ Z (mod p) -/
theorem NRep.eq_zero_of {n : Dos.Ed.Pt} {P : Pt} (h : NRep n P) (hX : n.X % Dos.Ed.p = 0)
    (hYZ : n.Y % Dos.Ed.p = n.Z % Dos.Ed.p) : P = 0 := by
  have eX : ((n.X : ℕ) : F) = 0 := (ZMod.natCast_eq_zero_iff _ _).2 (Nat.dvd_of_mod_eq_zero hX)
  have eY : ((n.Y : ℕ) : F) = ((n.Z : ℕ) : F) := natCast_eq_of_mod hYZ
  ext
  · rw [← h.hx, eX, zero_div]; rfl
  · rw [← h.hy, eY, div_self h.z_ne]; rfl

theorem NRep.point_eq {n : Dos.Ed.Pt} {P Q : Pt} (h : NRep n P) (h' : NRep n Q) : P = Q := by
  ext
  · rw [← h.hx, ← h'.hx]
  · rw [← h.hy, ← h'.hy]

end Dos.Ge
