/-
C10 — the final exponentiation and the multi-pairing check (layer 6, algebraic part).
`finalExponentiationG` is optate.go's finalExponentiation transcribed over any base type with the seven
Frobenius constants as a parameter; the driver runs it at the Montgomery gfP with the regenerated constants
(`Bn256.finalExponentiation`, compared with the real code and with a^((p¹²−1)/r) of the big-integer
reference on every run). Here: over EVERY field, if the constants satisfy their six defining relations
(`FrobConsts.Good`), it is multiplicative, so PairingCheck decides "product of the pairings = 1".
Bilinearity of the pairing itself is NOT proved (see meta "partial").
-/
import DosModel.Proofs.Bn256FinalExp
import DosModel.Proofs.Bn256Consts
import DosModel.Proofs.Bn256FinalExpConcrete

namespace Dos.Props.C10FinalExp
open Dos Dos.Bn256

/-- **finalExponentiation is a monoid homomorphism of gfP12** over every field, for every `u`:
f(x·y) = f(x)·f(y) and f(1) = 1 — through Conjugate, Invert (norms and adjugates of the tower), the p- and
p²-Frobenius maps with their constant twists, Exp and the addition chain of the hard part -/
theorem finalExponentiation_multiplicative {K : Type} [Field K] (cs : FrobConsts K) (hg : cs.Good) (u : Nat)
    (x y : Fp12 K) :
    finalExponentiationG cs u (Fp12.mul x y) = Fp12.mul (finalExponentiationG cs u x) (finalExponentiationG cs u y) ∧
    finalExponentiationG cs u Fp12.one = Fp12.one :=
  ⟨finalExp_mul cs hg u x y, finalExp_one cs hg u⟩

/-- **the multi-pairing check decides the product**: with the IMPLEMENTED final exponentiation and ANY Miller
function, `PairingCheck` (skip a pair if either point is the identity; multiply the Miller values; one final
exponentiation; IsOne) is true exactly when the product of the pairings e(pᵢ,qᵢ) is one, where — as in
`optimalAte` — e = 1 on an identity and e = finalExponentiation(miller) otherwise; for every list of pairs -/
theorem pairingCheck_decides_product {K P Q : Type} [Field K] [DecidableEq K] (cs : FrobConsts K) (hg : cs.Good)
    (u : Nat) (infP : P → Bool) (infQ : Q → Bool) (mil : Q → P → Fp12 K) (ps : List (P × Q)) :
    pairingCheckAbs infP infQ mil Fp12.mul Fp12.one (finalExponentiationG cs u)
        (fun t => decide (t = Fp12.one)) ps = true ↔
      (ps.map fun pq => if infP pq.1 || infQ pq.2 then (Fp12.one : Fp12 K)
        else finalExponentiationG cs u (mil pq.2 pq.1)).prod = Fp12.one := by
  have h := Dos.Bn256.pairingCheck_logic infP infQ mil (finalExpHom cs hg u) ps
  rwa [finalExpHom_coe] at h

/-- the regenerated constants satisfy the six relations, in the arithmetic the code uses (Montgomery gfP2 / gfP,
which is F_p² / F_p by `gfP_is_prime_field`): c₁² = c₂, ξ·c₁·c₂ = ξ̄, c₆² = c₁, d₁² = d₂, d₁·d₂ = 1, e₆² = d₁ -/
theorem consts_frobenius_relations :
    Fp2.mul xiToPMinus1Over3 xiToPMinus1Over3 = xiTo2PMinus2Over3 ∧
    Fp2.mul xiM (Fp2.mul xiToPMinus1Over3 xiTo2PMinus2Over3) = Fp2.conjugate xiM ∧
    Fp2.mul xiToPMinus1Over6 xiToPMinus1Over6 = xiToPMinus1Over3 ∧
    xiToPSquaredMinus1Over3 * xiToPSquaredMinus1Over3 = xiTo2PSquaredMinus2Over3 ∧
    xiToPSquaredMinus1Over3 * xiTo2PSquaredMinus2Over3 = GFp.newGFp 1 ∧
    xiToPSquaredMinus1Over6 * xiToPSquaredMinus1Over6 = xiToPSquaredMinus1Over3 := by decide +kernel

/-- the code's concrete functions ARE the generic ones at the regenerated constants (definitional) -/
theorem concrete_is_generic (x : F12) :
    Bn256.finalExponentiation x = finalExponentiationG frobConsts uParam x ∧
    Bn256.Fp12.frobenius x = Fp12.frobeniusG frobConsts x ∧
    Bn256.Fp12.frobeniusP2 x = Fp12.frobeniusP2G frobConsts x := ⟨rfl, rfl, rfl⟩

/-! ### the IMPLEMENTED final exponentiation and check (Montgomery gfP, regenerated constants) -/

/-- **the hypothesis `FrobConsts.Good` holds for the code's constants**: the seven regenerated constants, decoded
from Montgomery form into the field ZMod p, satisfy the six relations (kernel evaluation in Montgomery arithmetic
on reduced values, carried along the decoding homomorphism of `gfP_is_prime_field` lifted to gfP2) -/
theorem frobConsts_of_the_code_are_good : frobConstsFp.Good ∧ frobConstsFp = frobConstsR.map decR ∧
    frobConstsR.map valF = frobConsts := ⟨frobConstsFp_good, rfl, rfl⟩

/-- **the implemented final exponentiation** (the function the driver runs, `Bn256.finalExponentiation`) keeps
reduced gfP12 values reduced, decodes to the generic final exponentiation over ZMod p at the decoded constants
(naturality of the transcribed code along "forget reducedness" and "decode"), and is multiplicative -/
theorem finalExponentiation_implemented (x y : F12) (hx : Red12 x) (hy : Red12 y) :
    Red12 (Bn256.finalExponentiation x) ∧
    dec12 (Bn256.finalExponentiation x) = finalExponentiationG frobConstsFp uParam (dec12 x) ∧
    Bn256.finalExponentiation (Fp12.mul x y) =
      Fp12.mul (Bn256.finalExponentiation x) (Bn256.finalExponentiation y) :=
  ⟨(finalExp_dec x hx).1, (finalExp_dec x hx).2, finalExp_concrete_mul x y hx hy⟩

/-- **the implemented PairingCheck, given reduced Miller values**: whenever the Miller values are reduced gfP12
values (hypothesis `hm` HERE; it is discharged for all reduced input points in Props/C10Miller.lean, where the
unconditional statement is `C10Miller.pairingCheck_implemented` — reducedness carried through the 265-step
translated Miller loop by naturality), `pairingCheck` is true exactly when the product in F_p¹² of the decoded
pairing values `optimalAte(qᵢ, pᵢ)` is one; pairs with an identity contribute one wherever they stand in the list -/
theorem pairingCheck_given_reduced_miller (ps : List (G1J × G2J)) (hm : ∀ pq ∈ ps, Red12 (miller pq.2 pq.1)) :
    pairingCheck ps = true ↔ (ps.map fun pq => dec12 (optimalAte pq.2 pq.1)).prod = 1 :=
  pairingCheck_concrete ps hm

end Dos.Props.C10FinalExp
