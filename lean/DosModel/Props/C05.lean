/-
C05 — Byzantine participants can abort key generation but never corrupt it.

Theorems about the executable models `Model/VssSym.lean`, `Model/Dkg.lean`,
`Model/DkgSession.lean` (symbolic cryptography, DESIGN §4), for every field `F`, `F`-module `G`
with base point `g`, every group size, every member and EVERY sequence of messages a member
receives: the adversary is any function producing the messages – nothing is assumed about
them except, in `safety`, the idealised-cryptography / authenticated-transport facts that the
symbolic term model cannot express by itself and that are therefore explicit hypotheses:

* `AuthResp` (both directions) – a response that verifies under an honest member's key was signed
  by that member (it carries the session id of one of the responses that member holds);
* each of the two honest members lists the other's true key at the other's index: a key is accepted
  for index `k` only from the transport-authenticated group member `k` (`accepted_keys_are_bound`),
  and an honest member announces only its own key under its own index.

Everything else – that both hold the same participant list, that it has no key twice, that each
holds the commitments the other one dealt – is DERIVED (`safety`), or its failure provably aborts
the member (`forged_key_aborts`, `duplicate_key_aborts`).

The model is the tree with `fix:` 386c5d2 (the session id a verifier compares responses with is
bound to the commitments it saw), e9f475e (a PublicKey message is bound to its sender) and babf9f5
(no key under two indices).  Without any one of them `safety` is false: corpus/C05 holds the runs
in which two honest members finish on different keys.
Helper lemmas: `Proofs/DkgStep.lean`, `DkgResp.lean`, `DkgScript.lean`, `DkgFinish.lean`,
`DkgSafety.lean`, `DkgMember.lean`.
The numbers in the docstrings are the three theorems DESIGN §6 C05 lists (1 `inconsistent_never_approved`,
2 `no_approval_no_finish`, 3 `safety`); letters and primes mark the parts into which each is split here.
-/
import DosModel.Gen.VssFacts
import DosModel.Proofs.DkgMember
import DosModel.Model.DkgNet
import Mathlib.Algebra.Order.Field.Rat

set_option linter.unusedSectionVars false

namespace Dos.Props.C05
open Dos Dos.Vss Dos.Dkg

variable {F G : Type} [Field F] [AddCommGroup G] [Module F G] [DecidableEq F] [DecidableEq G]

/-- regenerated fact (`go/extract/vssfacts` → `Gen/VssFacts.lean`, on every check run): the ordered statement
skeletons of the code `Model/VssSym.lean`, `Model/Dkg.lean`, `Model/DkgSession.lean` transcribe for this property –
what a verifier checks before it approves (`ProcessEncryptedDeal`, `VerifyDeal`, `validT`, `sessionID`), the
signature check of `verifyResponse` BEFORE `addResponse`, dkg `ProcessDeal` / `ProcessResponse` / `DistKeyShare`
(the error of `pub.Add` is propagated), the stages `getAndProcessDeals` (`return` after `ErrResponseNoApproval`,
`continue` after a `ProcessDeal` error) and `getAndProcessResponses` (`return` after a `ProcessResponse` error),
the sender binding (`Loop` calls `stampSender` before `handlePeerMsg`; `exchangePub` compares `SenderId` with
`groupIds[Index]`) and the duplicate-key rejection of `genDistKeyGenerator`. A change to any of them must be
re-modelled. -/
theorem c05_code_shape :
    Gen.VssFacts.processEncryptedDeal = [
      "0| func ProcessEncryptedDeal(e *EncryptedDeal) (*Response, error)",
      "1| d, err := v.decryptDeal(e)",
      "1| if err != nil",
      "2| return nil, err",
      "1| if d.SecShare == nil || d.SecShare.V == nil",
      "2| return nil, errors.New(\"vss: deal without a share\")",
      "1| if d.SecShare.I != v.index",
      "2| return nil, errors.New(\"vss: verifier got wrong index from deal\")",
      "1| t := int(d.T)",
      "1| sid, err := sessionID(v.suite, v.dealer, v.verifiers, d.Commitments, t)",
      "1| if err != nil",
      "2| return nil, err",
      "1| if v.aggregator == nil",
      "2| v.aggregator = newAggregator(v.suite, v.dealer, v.verifiers, d.Commitments, t, d.SessionID)",
      "1| r := &Response{ SessionID: sid, Index: uint32(v.index), Status: StatusApproval, }",
      "1| if err = v.VerifyDeal(d, true); err != nil",
      "2| r.Status = StatusComplaint",
      "1| if err == errDealAlreadyProcessed",
      "2| return nil, err",
      "1| if r.Signature, err = schnorr.Sign(v.suite, v.longterm, r.Hash(v.suite)); err != nil",
      "2| return nil, err",
      "1| if err = v.aggregator.addResponse(r); err != nil",
      "2| return nil, err",
      "1| v.approved = r.Status == StatusApproval",
      "1| return r, nil"] ∧
    Gen.VssFacts.verifyDeal = [
      "0| func VerifyDeal(d *Deal, inclusion bool) error",
      "1| if d == nil || d.SecShare == nil || d.SecShare.V == nil",
      "2| return errors.New(\"vss: deal without a share value\")",
      "1| if a.deal != nil && inclusion",
      "2| return errDealAlreadyProcessed",
      "1| if a.deal == nil",
      "2| a.commits = d.Commitments",
      "2| a.sid = d.SessionID",
      "2| a.deal = d",
      "1| if !validT(int(d.T), a.verifiers)",
      "2| return errors.New(\"vss: invalid t received in Deal\")",
      "1| if !bytes.Equal(a.sid, d.SessionID)",
      "2| return errors.New(\"vss: find different sessionIDs from Deal\")",
      "1| sid, err := sessionID(a.suite, a.dealer, a.verifiers, d.Commitments, int(d.T))",
      "1| if err != nil",
      "2| return err",
      "1| if !bytes.Equal(sid, d.SessionID)",
      "2| return errors.New(\"vss: session id of the deal does not match its dealer, verifiers, commitments and threshold\")",
      "1| fi := d.SecShare",
      "1| if fi.I < 0 || fi.I >= len(a.verifiers)",
      "2| return errors.New(\"vss: index out of bounds in Deal\")",
      "1| fig := a.suite.Point().Base().Mul(fi.V, nil)",
      "1| commitPoly := share.NewPubPoly(a.suite, nil, d.Commitments)",
      "1| pubShare := commitPoly.Eval(fi.I)",
      "1| if !fig.Equal(pubShare.V)",
      "2| return errors.New(\"vss: share does not verify against commitments in Deal\")",
      "1| return nil"] ∧
    Gen.VssFacts.validT = [
      "0| func validT(t int, verifiers []kyber.Point) bool",
      "1| return t >= 2 && t <= len(verifiers) && int(uint32(t)) == t"] ∧
    Gen.VssFacts.sessionID = [
      "0| func sessionID(suite suites.Suite, dealer kyber.Point, verifiers, commitments []kyber.Point, t int) ([]byte, error)",
      "1| h := suite.Hash()",
      "1| _, _ = dealer.MarshalTo(h)",
      "1| for _, v := range verifiers",
      "2| _, _ = v.MarshalTo(h)",
      "1| for _, c := range commitments",
      "2| _, _ = c.MarshalTo(h)",
      "1| _ = binary.Write(h, binary.LittleEndian, uint32(t))",
      "1| return h.Sum(nil), nil"] ∧
    Gen.VssFacts.verifyResponse = [
      "0| func verifyResponse(r *Response) error",
      "1| if !bytes.Equal(r.SessionID, a.sid)",
      "2| return errors.New(\"vss: receiving inconsistent sessionID in response\")",
      "1| pub, ok := findPub(a.verifiers, r.Index)",
      "1| if !ok",
      "2| return errors.New(\"vss: index out of bounds in response\")",
      "1| if err := schnorr.Verify(a.suite, pub, r.Hash(a.suite), r.Signature); err != nil",
      "2| return err",
      "1| return a.addResponse(r)"] ∧
    Gen.VssFacts.addResponse = [
      "0| func addResponse(r *Response) error",
      "1| if _, ok := findPub(a.verifiers, r.Index); !ok",
      "2| return errors.New(\"vss: index out of bounds in Complaint\")",
      "1| if _, ok := a.responses[r.Index]; ok",
      "2| return errors.New(\"vss: already existing response from same origin\")",
      "1| a.responses[r.Index] = r",
      "1| return nil"] ∧
    Gen.VssFacts.dkgProcessDeal = [
      "0| func ProcessDeal(dd *Deal) (*Response, error)",
      "1| pub, ok := findPub(d.participants, dd.Index)",
      "1| if !ok",
      "2| return nil, errors.New(\"dkg: dist deal out of bounds index\")",
      "1| if _, ok := d.verifiers[dd.Index]; ok",
      "2| return nil, errors.New(\"dkg: already received dist deal from same index\")",
      "1| ver, err := vss.NewVerifier(d.suite, d.long, pub, d.participants)",
      "1| if err != nil",
      "2| return nil, err",
      "1| d.verifiers[dd.Index] = ver",
      "1| resp, err := ver.ProcessEncryptedDeal(dd.Deal)",
      "1| if err != nil",
      "2| return nil, err",
      "1| d.verifiers[dd.Index].UnsafeSetResponseDKG(dd.Index, vss.StatusApproval)",
      "1| return &Response{ Index: dd.Index, Response: resp, }, nil"] ∧
    Gen.VssFacts.dkgProcessResponse = [
      "0| func ProcessResponse(resp *Response) (*Justification, error)",
      "1| if resp == nil || resp.Response == nil",
      "2| return nil, errors.New(\"dkg: response message without a response\")",
      "1| v, ok := d.verifiers[resp.Index]",
      "1| if !ok",
      "2| return nil, errors.New(\"dkg: complaint received but no deal for it\")",
      "1| if err := v.ProcessResponse(resp.Response); err != nil",
      "2| return nil, err",
      "1| if resp.Index != uint32(d.index)",
      "2| return nil, nil",
      "1| j, err := d.dealer.ProcessResponse(resp.Response)",
      "1| if err != nil",
      "2| return nil, err",
      "1| if j == nil",
      "2| return nil, nil",
      "1| if err := v.ProcessJustification(j); err != nil",
      "2| return nil, err",
      "1| return &Justification{ Index: d.index, Justification: j, }, nil"] ∧
    Gen.VssFacts.distKeyShare = [
      "0| func DistKeyShare() (*DistKeyShare, error)",
      "1| if !d.Certified()",
      "2| return nil, errors.New(\"dkg: distributed key not certified\")",
      "1| sh := d.suite.Scalar().Zero()",
      "1| var pub *share.PubPoly",
      "1| var err error",
      "1| d.qualIter(func(i uint32, v *vss.Verifier) bool {…})",
      "2| func(i uint32, v *vss.Verifier) bool",
      "3| deal := v.Deal()",
      "3| s := deal.SecShare.V",
      "3| sh = sh.Add(sh, s)",
      "3| poly := share.NewPubPoly(d.suite, d.suite.Point().Base(), deal.Commitments)",
      "3| if pub == nil",
      "4| pub = poly",
      "4| return true",
      "3| pub, err = pub.Add(poly)",
      "3| return err == nil",
      "1| if err != nil",
      "2| return nil, err",
      "1| _, commits := pub.Info()",
      "1| return &DistKeyShare{ Commits: commits, Share: &share.PriShare{ I: int(d.index), V: sh, }, PrivatePoly: d.dealer.PrivatePoly().Coefficients(), }, nil"] ∧
    Gen.VssFacts.getAndProcessDeals = [
      "0| func getAndProcessDeals(ctx context.Context, logger log.Logger, dkgc chan *DistKeyGenerator, dealsc chan []interface{}, sessionID string) (dkgOut chan *DistKeyGenerator, out chan interface{}, errc chan error)",
      "1| dkgOut = make(chan *DistKeyGenerator)",
      "1| out = make(chan interface{})",
      "1| errc = make(chan error)",
      "1| go func() {…}()",
      "2| func()",
      "3| var dkg *DistKeyGenerator",
      "3| var ok bool",
      "3| defer close(dkgOut)",
      "3| defer close(out)",
      "3| defer close(errc)",
      "3| select",
      "4| case <-ctx.Done():",
      "4| case dkg, ok = <-dkgc:",
      "5| if !ok",
      "6| return",
      "3| if dkg == nil",
      "4| return",
      "3| select",
      "4| case <-ctx.Done():",
      "4| case deals, ok := <-dealsc:",
      "5| if ok",
      "6| var resps []*Response",
      "6| for _, d := range deals",
      "7| deal, ok := d.(*Deal)",
      "7| if !ok",
      "8| err := &DKGError{err: errors.Errorf(\"Casting Deal failed for GID %s : %w\", sessionID, ErrCasting)}",
      "8| reportErr(ctx, errc, err)",
      "8| return",
      "7| resp, err := dkg.ProcessDeal(deal)",
      "7| if err != nil",
      "8| err = &DKGError{err: errors.Errorf(\"ProcessDeal failed for GID %s : %w\", sessionID, err)}",
      "8| reportErr(ctx, errc, err)",
      "8| continue",
      "7| resp.SessionId = sessionID",
      "7| if vss.StatusApproval != resp.Response.Status",
      "8| err = &DKGError{err: errors.Errorf(\"ProcessDeal failed for GID %s : %w\", sessionID, ErrResponseNoApproval)}",
      "8| reportErr(ctx, errc, err)",
      "8| return",
      "7| resps = append(resps, resp)",
      "6| select",
      "7| case <-ctx.Done():",
      "8| return",
      "7| case out <- &Responses{SessionId: sessionID, Response: resps}:",
      "6| select",
      "7| case <-ctx.Done():",
      "7| case dkgOut <- dkg:",
      "1| return"] ∧
    Gen.VssFacts.getAndProcessResponses = [
      "0| func getAndProcessResponses(ctx context.Context, logger log.Logger, dkgc chan *DistKeyGenerator, respsc chan []interface{}, sessionID string) (out chan *DistKeyGenerator, errc chan error)",
      "1| out = make(chan *DistKeyGenerator)",
      "1| errc = make(chan error)",
      "1| go func() {…}()",
      "2| func()",
      "3| defer close(out)",
      "3| defer close(errc)",
      "3| var dkg *DistKeyGenerator",
      "3| var ok bool",
      "3| select",
      "4| case <-ctx.Done():",
      "4| case dkg, ok = <-dkgc:",
      "5| if !ok",
      "6| return",
      "3| if dkg == nil",
      "4| return",
      "3| select",
      "4| case <-ctx.Done():",
      "4| case resps, ok := <-respsc:",
      "5| if ok",
      "6| for _, r := range resps",
      "7| resp, ok := r.(*Response)",
      "7| if !ok",
      "8| err := &DKGError{err: errors.Errorf(\"getAndProcessResponses failed for GID %s : %w\", sessionID, ErrCasting)}",
      "8| reportErr(ctx, errc, err)",
      "8| return",
      "7| if _, err := dkg.ProcessResponse(resp); err != nil",
      "8| err := &DKGError{err: errors.Errorf(\"ProcessResponse failed for GID %s : %w\", sessionID, err)}",
      "8| reportErr(ctx, errc, err)",
      "8| return",
      "6| select",
      "7| case <-ctx.Done():",
      "7| case out <- dkg:",
      "1| return"] ∧
    Gen.VssFacts.stampSender = [
      "0| func stampSender(content *PublicKey, sender []byte)",
      "1| if content != nil && content.Publickey != nil",
      "2| content.Publickey.SenderId = sender"] ∧
    Gen.VssFacts.loopPeerMsg = [
      "0| func Loop()",
      "1| switch content := msg.Msg.Message.(type)",
      "2| case *PublicKey:",
      "3| err := d.p.Reply(context.Background(), msg.Sender, msg.RequestNonce, content)",
      "3| if err != nil",
      "3| stampSender(content, msg.Sender)",
      "3| handlePeerMsg(sessionPubKeys, sessionReqPubs, d.p, content.SessionId, content)",
      "2| case *Deal:",
      "3| err := d.p.Reply(context.Background(), msg.Sender, msg.RequestNonce, content)",
      "3| if err != nil",
      "3| handlePeerMsg(sessionDeals, sessionReqDeals, d.p, content.SessionId, content)",
      "2| case *Responses:",
      "3| err := d.p.Reply(context.Background(), msg.Sender, msg.RequestNonce, content)",
      "3| if err != nil",
      "3| resps := content.Response",
      "3| for _, resp := range resps",
      "4| handlePeerMsg(sessionResps, sessionReResps, d.p, content.SessionId, resp)"] ∧
    Gen.VssFacts.exchangePub = [
      "0| func exchangePub(ctx context.Context, logger log.Logger, selfPubc chan interface{}, peerPubc chan []interface{}, p p2p.P2PInterface, groupIds [][]byte, sessionID string) (out chan []*PublicKey, errc chan error)",
      "1| out = make(chan []*PublicKey)",
      "1| errc = make(chan error)",
      "1| go func() {…}()",
      "2| func()",
      "3| defer close(out)",
      "3| defer close(errc)",
      "3| var partPubs []*PublicKey",
      "3| select",
      "4| case <-ctx.Done():",
      "5| return",
      "4| case resp, ok := <-selfPubc:",
      "5| if !ok",
      "6| return",
      "5| pubkey, ok := resp.(*PublicKey)",
      "5| if !ok",
      "6| err := &DKGError{err: errors.Errorf(\"casting PublicKey failed for GID %s : %w\", sessionID, ErrCasting)}",
      "6| reportErr(ctx, errc, err)",
      "6| return",
      "5| partPubs = append(partPubs, pubkey)",
      "3| for",
      "4| select",
      "5| case <-ctx.Done():",
      "6| return",
      "5| case resps, ok := <-peerPubc:",
      "6| if !ok",
      "7| return",
      "6| for _, resp := range resps",
      "7| pubkey, ok := resp.(*PublicKey)",
      "7| if !ok",
      "8| err := &DKGError{err: errors.Errorf(\"casting PublicKey failed for GID %s : %w\", sessionID, ErrCasting)}",
      "8| reportErr(ctx, errc, err)",
      "8| return",
      "7| if pubkey == nil || pubkey.Publickey == nil || int(pubkey.Index) >= len(groupIds) || !bytes.Equal(pubkey.Publickey.SenderId, groupIds[pubkey.Index])",
      "8| err := &DKGError{err: errors.Errorf(\"exchangePub failed for GID %s : %w\", sessionID, ErrForeignPubKey)}",
      "8| reportErr(ctx, errc, err)",
      "8| return",
      "7| partPubs = append(partPubs, pubkey)",
      "4| if len(partPubs) == len(groupIds)",
      "5| select",
      "6| case <-ctx.Done():",
      "6| case out <- partPubs:",
      "5| return",
      "1| return"] ∧
    Gen.VssFacts.genDistKeyGenerator = [
      "0| func genDistKeyGenerator(ctx context.Context, logger log.Logger, secrc chan kyber.Scalar, partPubs chan []*PublicKey, numOfPubkeys int, suite suites.Suite, sessionID string) (out chan *DistKeyGenerator, errc chan error)",
      "1| out = make(chan *DistKeyGenerator)",
      "1| errc = make(chan error)",
      "1| go func() {…}()",
      "2| func()",
      "3| defer close(out)",
      "3| defer close(errc)",
      "3| select",
      "4| case <-ctx.Done():",
      "4| case sec, ok := <-secrc:",
      "5| if ok",
      "6| select",
      "7| case <-ctx.Done():",
      "7| case pubs, ok := <-partPubs:",
      "8| if ok",
      "9| pubPoints := make([]kyber.Point, numOfPubkeys)",
      "9| for _, pubkey := range pubs",
      "10| if pubkey == nil || pubkey.Publickey == nil || pubkey.Index >= uint32(len(pubPoints))",
      "11| err := &DKGError{err: errors.Errorf(\"genDistKeyGenerator failed for GID %s : %w\", sessionID, errors.New(\"public key message without key or with index out of range\"))}",
      "11| reportErr(ctx, errc, err)",
      "11| return",
      "10| if pubPoints[pubkey.Index] != nil",
      "11| err := &DKGError{err: errors.Errorf(\"genDistKeyGenerator failed for GID %s : %w\", sessionID, ErrDupPubKeyIndex)}",
      "11| reportErr(ctx, errc, err)",
      "11| return",
      "10| pubPoints[pubkey.Index] = suite.Point()",
      "10| if err := pubPoints[pubkey.Index].UnmarshalBinary(pubkey.Publickey.Binary); err != nil",
      "11| err := &DKGError{err: errors.Errorf(\"UnmarshalBinary failed for GID %s : %w\", sessionID, err)}",
      "11| reportErr(ctx, errc, err)",
      "11| return",
      "10| for k, other := range pubPoints",
      "11| if other != nil && uint32(k) != pubkey.Index && other.Equal(pubPoints[pubkey.Index])",
      "12| err := &DKGError{err: errors.Errorf(\"genDistKeyGenerator failed for GID %s : %w\", sessionID, ErrDupPubKey)}",
      "12| reportErr(ctx, errc, err)",
      "12| return",
      "9| dkg, err := NewDistKeyGenerator(suite, sec, pubPoints, numOfPubkeys/2+1)",
      "9| if err != nil",
      "10| err := &DKGError{err: errors.Errorf(\"NewDistKeyGenerator failed for GID %s : %w\", sessionID, err)}",
      "10| reportErr(ctx, errc, err)",
      "10| return",
      "9| select",
      "10| case <-ctx.Done():",
      "10| case out <- dkg:",
      "9| return",
      "1| return"] ∧
    Gen.VssFacts.verifierDealCertified = [
      "0| func DealCertified() bool",
      "1| return v.approved && v.aggregator.DealCertified()"] ∧
    Gen.VssFacts.aggDealCertified = [
      "0| func DealCertified() bool",
      "1| var verifiersUnstable int",
      "1| if a == nil",
      "2| return false",
      "1| for i := range a.verifiers",
      "2| if _, ok := a.responses[uint32(i)]; !ok",
      "3| verifiersUnstable++",
      "1| tooMuchComplaints := verifiersUnstable > 0 || a.badDealer",
      "1| return a.EnoughApprovals() && !tooMuchComplaints"] ∧
    Gen.VssFacts.enoughApprovals = [
      "0| func EnoughApprovals() bool",
      "1| var app int",
      "1| for _, r := range a.responses",
      "2| if r.Status == StatusApproval",
      "3| app++",
      "1| return app >= a.t"] ∧
    Gen.VssFacts.verifierDeal = [
      "0| func Deal() *Deal",
      "1| if !v.EnoughApprovals() || !v.DealCertified()",
      "2| return nil",
      "1| return v.deal"] ∧
    Gen.VssFacts.verifyJustification = [
      "0| func verifyJustification(j *Justification) error",
      "1| if _, ok := findPub(a.verifiers, j.Index); !ok",
      "2| return errors.New(\"vss: index out of bounds in justification\")",
      "1| r, ok := a.responses[j.Index]",
      "1| if !ok",
      "2| return errors.New(\"vss: no complaints received for this justification\")",
      "1| if r.Status != StatusComplaint",
      "2| return errors.New(\"vss: justification received for an approval\")",
      "1| if err := a.VerifyDeal(j.Deal, false); err != nil",
      "2| a.badDealer = true",
      "2| return err",
      "1| r.Status = StatusApproval",
      "1| return nil"] ∧
    Gen.VssFacts.verifierProcessJustification = [
      "0| func ProcessJustification(dr *Justification) error",
      "1| return v.aggregator.verifyJustification(dr)"] ∧
    Gen.VssFacts.unsafeSetResponseDKG = [
      "0| func UnsafeSetResponseDKG(idx uint32, approval bool)",
      "1| r := &Response{ SessionID: v.aggregator.sid, Index: uint32(idx), Status: approval, }",
      "1| v.aggregator.addResponse(r)"] ∧
    Gen.VssFacts.newAggregator = [
      "0| func newAggregator(suite suites.Suite, dealer kyber.Point, verifiers, commitments []kyber.Point, t int, sid []byte) *aggregator",
      "1| agg := &aggregator{ suite: suite, dealer: dealer, verifiers: verifiers, commits: commitments, t: t, sid: sid, responses: make(map[uint32]*Response), }",
      "1| return agg"] ∧
    Gen.VssFacts.dkgCertified = [
      "0| func Certified() bool",
      "1| return len(d.QUAL()) >= len(d.participants)"] ∧
    Gen.VssFacts.dkgQUAL = [
      "0| func QUAL() []int",
      "1| var good []int",
      "1| d.qualIter(func(i uint32, v *vss.Verifier) bool {…})",
      "2| func(i uint32, v *vss.Verifier) bool",
      "3| good = append(good, int(i))",
      "3| return true",
      "1| return good"] ∧
    Gen.VssFacts.dkgQualIter = [
      "0| func qualIter(fn func(idx uint32, v *vss.Verifier) bool)",
      "1| for i, v := range d.verifiers",
      "2| if v.DealCertified()",
      "3| if !fn(i, v)",
      "4| break"] ∧
    Gen.VssFacts.dkgProcessJustification = [
      "0| func ProcessJustification(j *Justification) error",
      "1| v, ok := d.verifiers[j.Index]",
      "1| if !ok",
      "2| return errors.New(\"dkg: Justification received but no deal for it\")",
      "1| return v.ProcessJustification(j.Justification)"] ∧
    Gen.VssFacts.dkgDeals = [
      "0| func Deals() (map[int]*Deal, error)",
      "1| deals, err := d.dealer.EncryptedDeals()",
      "1| if err != nil",
      "2| return nil, err",
      "1| dd := make(map[int]*Deal)",
      "1| for i := range d.participants",
      "2| distd := &Deal{ Index: d.index, Deal: deals[i], }",
      "2| if i == int(d.index)",
      "3| if _, ok := d.verifiers[d.index]; ok",
      "4| continue",
      "3| if resp, err := d.ProcessDeal(distd); err != nil",
      "4| panic(\"dkg: cannot process own deal: \" + err.Error())",
      "3| else",
      "4| if resp.Response.Status != vss.StatusApproval",
      "5| panic(\"dkg: own deal gave a complaint\")",
      "3| continue",
      "2| dd[i] = distd",
      "1| return dd, nil"] :=
  ⟨rfl, rfl, rfl, rfl, rfl, rfl, rfl, rfl, rfl, rfl, rfl, rfl, rfl, rfl, rfl, rfl, rfl, rfl, rfl, rfl, rfl, rfl, rfl, rfl, rfl, rfl, rfl, rfl⟩


/-- **1. `inconsistent_never_approved`.**  A verifier that has not yet received a deal answers an
encrypted deal with an approval only if the deal it opened has a valid threshold, the session id
of what it carries, the verifier's own index, and a share on the committed polynomial at that
index: `share • g = Σ Cₖ (i+1)ᵏ`. -/
theorem inconsistent_never_approved (g : G) (v v' : Verifier F G) (e : EncDeal F G) (rnd : Nat)
    (r : Response F G) (hv : v.agg = none) (hidx : v.index < v.vs.length)
    (h : processEncryptedDeal g v e rnd = (v', .ok r)) (hs : r.status = true) :
    ∃ d val, decryptDeal g v e = .ok d ∧ validT d.t v.vs.length = true ∧
      d.sid = Sid.h v.dealer v.vs d.commits d.t ∧ d.share = some ⟨(v.index : Int), some val⟩ ∧
      val • g = pubEval (S := F) d.commits (v.index : Int) := by
  obtain ⟨d, val, st, hd, hsh, hiff, _, rfl⟩ := processEncryptedDeal_ok hv h
  obtain ⟨hT, hsid, _, _, hchk⟩ := (consistent_iff_of_share hsh).1 (hiff.1 hs)
  exact ⟨d, val, hd, hT, hsid.symm, hsh, hchk⟩

/-- **2a. `no_approval_no_finish` (stage level).**  `getAndProcessDeals` stops – no `Responses`
message, nothing handed to the next stage – as soon as one processed deal is answered with a
complaint. -/
theorem complaint_stops_pipeline (g : G) (d d1 : Gen F G) (m : DkgDeal F G) (ms : List (DkgDeal F G))
    (acc : List (DkgResp F G)) (resp : DkgResp F G) (r : Response F G)
    (h : processDeal g d m = (d1, .ok resp)) (hr : resp.resp = some r) (hs : r.status = false) :
    runDeals g d (m :: ms) acc = (d1, none) := by
  simp [runDeals, h, hr, hs]

/-- **2b. the member machine then never finishes**: a stopped member stays stopped whatever arrives. -/
theorem failed_absorbing (g : G) (m : Member F G) (why : String) (h : m.stage = .failed why) :
    (Member.start g m).stage = .failed why ∧
    (∀ x, (m.recvPk g x).stage = .failed why) ∧ (∀ x, (m.recvDeal g x).stage = .failed why) ∧
    (∀ x, (m.recvResp g x).stage = .failed why) := by
  have adv : ∀ (m' : Member F G), m'.stage = .failed why → (Member.advance g 4 m').stage = .failed why := by
    intro m' h'; unfold Member.advance; simp [h']
  refine ⟨by simp [Member.start, h], fun x => ?_, fun x => ?_, fun x => ?_⟩
  · unfold Member.recvPk; exact adv _ (by simpa using h)
  · unfold Member.recvDeal; exact adv _ (by simpa using h)
  · unfold Member.recvResp; exact adv _ (by simpa using h)

/-- **2c. `no_approval_no_finish` (state level).**  In EVERY reachable state of a member (`MemberInv`
holds initially and is preserved by every event: `reachable_invariant`), a finished member has, for every
dealer of the group, a stored own response that is an approval, and the stored deal of that dealer
is consistent with its commitments.  Hence a member whose own response to some deal is not an
approval has not finished. -/
theorem finished_approved_all (g : G) (m : Member F G) (d : Gen F G) (ks : KeyShare F G)
    (hm : MemberInv g m) (hst : m.stage = .done d ks) :
    ∀ j, j < d.participants.length → ∃ v a r dl, getVerifier d j = some v ∧ v.agg = some a ∧
      getResponse a d.index = some r ∧ r.status = true ∧ a.deal = some dl ∧
      Consistent g v.dealer d.participants dl := by
  intro j hj
  have h := (memberInv_done hm hst).1
  obtain ⟨v, a, hv, hagg, _⟩ := h.slot hj
  obtain ⟨_, dl, _, r, hdl, hcons, _, _, hr, hs, _⟩ := h.toPiped.slot hv hagg
  exact ⟨v, a, r, dl, hv, hagg, hr, hs, hdl, hcons⟩

/-- reachable states: the invariant holds at the start and after every event, for every message -/
theorem reachable_invariant (g : G) :
    (∀ n index long f ephs, MemberInv g (Member.init (S := F) (P := G) n index long f ephs)) ∧
    (∀ m : Member F G, MemberInv g m → MemberInv g (Member.start g m)) ∧
    (∀ (m : Member F G) x, MemberInv g m → MemberInv g (m.recvPk g x)) ∧
    (∀ (m : Member F G) x, MemberInv g m → MemberInv g (m.recvDeal g x)) ∧
    (∀ (m : Member F G) x, MemberInv g m → MemberInv g (m.recvResp g x)) :=
  -- every event ends in `advance`, which keeps the invariant; what it is handed differs from `m` in the buffers only
  ⟨fun _ _ _ _ _ => trivial,
    fun m hm => by
      unfold Member.start
      split
      · exact advance_inv g 4 _ trivial
      · exact hm,
    fun m x hm => advance_inv g 4 _ (memberInv_congr rfl rfl hm),
    fun m x hm => advance_inv g 4 _ (memberInv_congr rfl rfl hm),
    fun m x hm => advance_inv g 4 _ (memberInv_congr rfl rfl hm)⟩

/-- **3a. `accepted_keys_are_bound`.**  If `exchangePub`/`genDistKeyGenerator` accept a batch of
PublicKey messages – ANY batch – then no key sits at two indices of the participant list, and every
message was sent by the group member whose index it claims and its key is the participant at that
index. -/
theorem accepted_keys_are_bound (g : G) (n : Nat) (long : F) (f : List F) (own : PkMsg G) (batch : List (PkMsg G))
    (d : Gen F G) (h : buildGen g n long f own batch = some d) :
    d.participants.Nodup ∧
    ∀ x ∈ own :: batch, x.sender = x.index ∧ ∃ k, x.key = some k ∧ d.participants[x.index]? = some k :=
  (buildGen_good h).2.2.2.2

/-- **3b. `forged_key_aborts`.**  A member whose key batch contains a message not sent by the member
whose index it claims fails (stage `failed "gen"`): it does not finish. -/
theorem forged_key_aborts (g : G) (fuel : Nat) (m : Member F G) (batch : List (PkMsg G))
    (hs : m.stage = .waitPk) (hb : m.pkBox = some batch) (x : PkMsg G) (hx : x ∈ batch) (hf : x.sender ≠ x.index) :
    (Member.advance g (fuel + 1) m).stage = .failed "gen" := by
  refine advance_gen_failed g fuel m batch hs hb fun d hbg => ?_
  exact hf ((accepted_keys_are_bound g _ _ _ _ _ d hbg).2 x (by simp [hx])).1

/-- **3a′. `stamp_overwrites_claim`.**  The `SenderId` a PublicKey message carries on the wire is an
ordinary field the sending process fills in as it likes; `Loop` overwrites it UNCONDITIONALLY with the
transport-authenticated sender before the message is buffered: the stamped message carries the
transport sender whatever was claimed, and what a member does with a message from transport peer
`sender` does not depend on the claimed value. -/
theorem stamp_overwrites_claim (g : G) (m : Member F G) (sender claimed : Nat) (x : PkMsg G) :
    (stampSender x sender).sender = sender ∧
    stampSender { x with sender := claimed } sender = stampSender x sender ∧
    m.loopPk g sender { x with sender := claimed } = m.loopPk g sender x :=
  ⟨rfl, rfl, rfl⟩

/-- **3a″. a key announced by the wrong member aborts, whatever it claims**: if a member's key batch
contains a message that came through `Loop` from a transport peer other than the member whose index
it claims – with ANY `SenderId` filled in – the member fails. -/
theorem claimed_sender_does_not_help (g : G) (fuel : Nat) (m : Member F G) (batch : List (PkMsg G))
    (hs : m.stage = .waitPk) (hb : m.pkBox = some batch) (x : PkMsg G) (sender claimed : Nat)
    (hx : stampSender { x with sender := claimed } sender ∈ batch) (hf : sender ≠ x.index) :
    (Member.advance g (fuel + 1) m).stage = .failed "gen" :=
  forged_key_aborts g fuel m batch hs hb _ hx hf

/-- **3c. `duplicate_key_aborts`.**  A member whose key batch (with its own key) carries one key under
two indices fails: it does not finish. -/
theorem duplicate_key_aborts (g : G) (fuel : Nat) (m : Member F G) (batch : List (PkMsg G))
    (hs : m.stage = .waitPk) (hb : m.pkBox = some batch) (x y : PkMsg G)
    (hx : x ∈ (⟨m.index, some (m.long • g), m.index⟩ : PkMsg G) :: batch)
    (hy : y ∈ (⟨m.index, some (m.long • g), m.index⟩ : PkMsg G) :: batch)
    (hxy : x.index ≠ y.index) (hk : x.key = y.key) :
    (Member.advance g (fuel + 1) m).stage = .failed "gen" := by
  refine advance_gen_failed g fuel m batch hs hb fun d hbg => ?_
  obtain ⟨hnd, hall⟩ := accepted_keys_are_bound g _ _ _ _ _ d hbg
  obtain ⟨_, k, hk1, hp1⟩ := hall x hx
  obtain ⟨_, k', hk2, hp2⟩ := hall y hy
  rw [hk, hk2] at hk1; cases hk1
  exact hxy ((List.getElem?_inj (List.getElem?_eq_some_iff.1 hp1).1 hnd).1 (hp1.trans hp2.symm))

/-- **3. `safety`.**  Take ANY two member machines `m`, `m'` in ANY reachable states (`MemberInv`:
whatever messages arrived, in whatever order) in which both have finished, with key shares `ks`, `ks'`,
at different indices.  Hypotheses the adversary cannot influence: each lists the other's own key
`long • g` at the other's index (authenticated transport + 3a: an honest member announces only its
own key under its own index, and a key is accepted for an index only from that member) and responses
are unforgeable in both directions (`AuthResp`).  Then both hold the SAME participant list, each holds
the commitments the other one dealt, both output the SAME public polynomial – one group key – and
each one's private share lies on it at its own index. -/
theorem safety (g : G) (m m' : Member F G) (d d' : Gen F G) (ks ks' : KeyShare F G)
    (hm : MemberInv g m) (hm' : MemberInv g m') (hst : m.stage = .done d ks) (hst' : m'.stage = .done d' ks')
    (hne : d'.index ≠ d.index)
    (hpub' : d.participants[d'.index]? = some (d'.long • g)) (hpub : d'.participants[d.index]? = some (d.long • g))
    (hauth : AuthResp g (d'.long • g) d d') (hauth' : AuthResp g (d.long • g) d' d) :
    d'.participants = d.participants ∧ commitsAt d' d'.index = commitsAt d d'.index ∧
    ks'.commits = ks.commits ∧
    ks.shareV • g = pubEval (S := F) ks.commits (d.index : Int) ∧
    ks'.shareV • g = pubEval (S := F) ks'.commits (d'.index : Int) ∧
    ks.shareI = d.index ∧ ks'.shareI = d'.index := by
  obtain ⟨h, hnd⟩ := memberInv_done hm hst
  obtain ⟨h', hnd'⟩ := memberInv_done hm' hst'
  -- equal session ids slot by slot: `d` read the responses of `d'` about every dealing but that of `d'`; about that
  -- one, `d'` read the response of `d`.  Session ids name the list and the commitments (`Finished.agree`).
  obtain ⟨hp, hall, rest⟩ := h.agree h' fun j hj => by
    by_cases hjd : j = d'.index
    · exact hjd ▸ (h'.sameSid_of_auth h.toPiped hnd' hne.symm hpub hauth' hne h'.good.lt).symm
    · exact h.sameSid_of_auth h'.toPiped hnd hne hpub' hauth hjd hj
  exact ⟨hp, hall _ (List.getElem?_eq_some_iff.1 hpub').1, rest⟩

/-- **3′. the agreement step of `safety` on its own**: with the agreement of the two views and of the
commitments of `m'`'s own dealing as hypotheses, one direction of `AuthResp` gives one public polynomial. -/
theorem safety_of_agreeing_views (g : G) (m m' : Member F G) (d d' : Gen F G) (ks ks' : KeyShare F G)
    (hm : MemberInv g m) (hm' : MemberInv g m') (hst : m.stage = .done d ks) (hst' : m'.stage = .done d' ks')
    (hp : d'.participants = d.participants) (hne : d'.index ≠ d.index)
    (pub' : G) (hpub' : d.participants[d'.index]? = some pub')
    (hauth : AuthResp g pub' d d')
    (hdeal : commitsAt d' d'.index = commitsAt d d'.index) :
    ks'.commits = ks.commits := by
  obtain ⟨h, hnd⟩ := memberInv_done hm hst
  obtain ⟨h', _⟩ := memberInv_done hm' hst'
  refine commits_eq_of_slots d d' ks ks' h.good.len h'.good.len h.out h'.out hp fun j hj => ?_
  by_cases hjd : j = d'.index
  · rw [hjd]; exact hdeal
  · exact ((h.sameSid_of_auth h'.toPiped hnd hne hpub' hauth hjd hj).agree h.toPiped h'.toPiped).2.1

/-! ### non-vacuity (ℚ, `g = 1`): three members with keys 5, 7, 9 -/

section Examples
def exL : List ℚ := [5, 7, 9]
/-- member 1's verifier for dealer 0 (key 5), and dealer 0's deal for member 1 with a bad share -/
def exV : Option (Verifier ℚ ℚ) := (newVerifier (1 : ℚ) 7 5 exL).toOption
def exBad : Option (EncDeal ℚ ℚ) :=
  sealDeal (1 : ℚ) 5 exL 1 11 0
    (.deal { (honestDeal (1 : ℚ) (5 : ℚ) exL ([4, 2] : List ℚ) 1 : Deal ℚ ℚ) with share := some ⟨1, some (9 : ℚ)⟩ })
def exGood : Option (EncDeal ℚ ℚ) := sealDeal (1 : ℚ) 5 exL 1 11 0 (.deal (honestDeal (1 : ℚ) 5 exL [4, 2] 1))

-- 1: a good deal is approved (the hypotheses hold), a bad share gets a complaint
example : (do let v ← exV; let e ← exGood; pure ((processEncryptedDeal 1 v e).2.toOption.map (·.status))) = some (some true) := by
  decide +kernel
example : (do let v ← exV; let e ← exBad; pure ((processEncryptedDeal 1 v e).2.toOption.map (·.status))) = some (some false) := by
  decide +kernel

/-- three member machines, started, keys exchanged -/
def exMember (k : Nat) (long : ℚ) (f : List ℚ) : Member ℚ ℚ := Member.init 3 k long f [11 + k, 21 + k, 31 + k]
def exRun : List (Member ℚ ℚ) :=
  let ms := [exMember 0 5 [4, 2], exMember 1 7 [6, 1], exMember 2 9 [3, 8]].map (Member.start (1 : ℚ))
  let pk (k : Nat) (long : ℚ) : PkMsg ℚ := ⟨k, some long, k⟩
  ms.map (fun m => ([pk 0 5, pk 1 7, pk 2 9].filter (fun x => x.index ≠ m.index)).foldl (fun m x => m.recvPk 1 x) m)

-- 2a/2c/3: the machines reach the dealing stage (the invariant's non-trivial branch is inhabited)
example : exRun.map (fun m => match m.stage with | .waitDeals _ => true | _ => false) = [true, true, true] := by
  decide +kernel
-- 3a′: member 0 is sent, by member 2, a key under member 1's index with SenderId pre-filled "1": still fails
example : ([(⟨1, some 99, 1⟩ : PkMsg ℚ), ⟨2, some 9, 0⟩].foldl (fun m x => m.loopPk 1 2 x)
    (Member.start (1 : ℚ) (exMember 0 5 [4, 2]))).stage matches .failed "gen" := by decide +kernel
-- 3b/3c: member 0 is sent, by member 2, a key under member 1's index / member 2 announces member 1's key: member 0 fails
example : ([(⟨1, some 99, 2⟩ : PkMsg ℚ), ⟨2, some 9, 2⟩].foldl (fun m x => m.recvPk 1 x)
    (Member.start (1 : ℚ) (exMember 0 5 [4, 2]))).stage matches .failed "gen" := by decide +kernel
example : ([(⟨1, some 7, 1⟩ : PkMsg ℚ), ⟨2, some 7, 2⟩].foldl (fun m x => m.recvPk 1 x)
    (Member.start (1 : ℚ) (exMember 0 5 [4, 2]))).stage matches .failed "gen" := by decide +kernel
-- 3: a complete run of the three machines: all finish, in states to which `safety` applies, with one key
def exCfg : Cfg ℚ ℚ := { g := 1, longs := [5, 7, 9], polys := [[4, 2], [6, 1], [3, 8]] }
def exSched : List Ev :=
  let pairs := [(0, 1), (0, 2), (1, 0), (1, 2), (2, 0), (2, 1)]
  [.start 0, .start 1, .start 2] ++ pairs.map (fun p => Ev.pk p.1 p.2) ++ pairs.map (fun p => Ev.deal p.1 p.2) ++
    pairs.map (fun p => Ev.resps p.1 p.2)
example : (runEvents exCfg [[11, 12, 13], [21, 22, 23], [31, 32, 33]] exSched).ms.map
    (fun m => match m.stage with | .done _ ks => some ks.commits | _ => none) = [some [13, 11], some [13, 11], some [13, 11]] := by
  decide +kernel
-- 3: … and each finisher lists every member's own key `long • g` at that member's index (hypotheses `hpub`, `hpub'`)
example : (runEvents exCfg [[11, 12, 13], [21, 22, 23], [31, 32, 33]] exSched).ms.map
    (fun m => match m.stage with | .done d _ => some (d.participants, d.index, d.long • (1 : ℚ)) | _ => none) =
    [some ([5, 7, 9], 0, 5), some ([5, 7, 9], 1, 7), some ([5, 7, 9], 2, 9)] := by
  decide +kernel
end Examples

end Dos.Props.C05
