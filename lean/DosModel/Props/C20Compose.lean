/-
C20 composed with Primes — the hypothesis `hord : ∀ n, n • B = 0 → ℓ ∣ n` ("B has order exactly ℓ")
of `verify_nonmalleable_S`, `verify_S_unique`, `altered_S_rejected` and `hordA` of
`altered_message_needs_collision` (`Props/C20.lean`) DISCHARGED: ℓ is prime (`Proofs/Primes.lean`,
`ed25519_l_prime`), `ℓ • B = 0` is part of `Lawful g`, so it is enough that the base point is NOT THE
IDENTITY (`g.base ≠ 0`), resp. that the public key is `x • B` with `ℓ ∤ x`.
Remaining: `Lawful g` (proved of the translated point code in Props/C20Lawful.lean) and, for altered messages, the hash.
-/
import DosModel.Props.C20
import DosModel.Proofs.ComposeSchnorr

namespace Dos.Props.C20Compose
open Dos Dos.Ed25519 Dos.Schnorr Dos.Compose

variable {G : Type} [AddCommGroup G]

/-- ℓ (the constant of `Model/Ed25519Scalar.lean`, pinned to the code by `order_constants`) is prime -/
theorem ell_is_prime : Nat.Prime ell := ell_prime

/-- **`hord` from primality**: in a lawful group whose base point is not the identity, the base point
has order exactly ℓ -/
theorem base_order_exact {g : Grp G} (L : Lawful g) (hB : g.base ≠ 0) :
    ∀ n : ℕ, n • g.base = 0 → ell ∣ n :=
  order_exact_ell g.base hB L.order

/-- **3′ full non-malleability in S**, hypothesis `hord` replaced by `g.base ≠ 0` -/
theorem verify_nonmalleable_S_composed {g : Grp G} (L : Lawful g) (hB : g.base ≠ 0)
    (H : Bytes → Bytes) (A : G) (msg sig sig' : Bytes)
    (h1 : verify g H A msg sig = .ok ()) (h2 : verify g H A msg sig' = .ok ())
    (hR : sig.take 32 = sig'.take 32) : sig = sig' :=
  Props.C20.verify_nonmalleable_S L (base_order_exact L hB) H A msg sig sig' h1 h2 hR

/-- 3″: an accepted S is THE scalar below ℓ satisfying the verification equation -/
theorem verify_S_unique_composed {g : Grp G} (L : Lawful g) (hB : g.base ≠ 0)
    (H : Bytes → Bytes) (A : G) (msg sig : Bytes) (h : verify g H A msg sig = .ok ()) :
    leNat (sig.drop 32) < ell ∧ ∃ R, g.dec (sig.take 32) = some R ∧
      ∀ t : ℕ, t < ell → t • g.base = R + challenge g H A R msg • A → t = leNat (sig.drop 32) :=
  Props.C20.verify_S_unique L (base_order_exact L hB) H A msg sig h

/-- altered S (same R, key, message) is rejected -/
theorem altered_S_rejected_composed {g : Grp G} (L : Lawful g) (hB : g.base ≠ 0)
    (H : Bytes → Bytes) (A : G) (msg sig sig' : Bytes) (h1 : verify g H A msg sig = .ok ())
    (hR : sig.take 32 = sig'.take 32) (hne : sig' ≠ sig) : verify g H A msg sig' ≠ .ok () :=
  Props.C20.altered_S_rejected L (base_order_exact L hB) H A msg sig sig' h1 hR hne

/-- an altered message accepted with the same signature under a public key `A = x•B`, `ℓ ∤ x` (every key
`Sign` can be used with, except the zero key) is a collision of the challenge hash modulo ℓ -/
theorem altered_message_needs_collision_composed {g : Grp G} (L : Lawful g) (hB : g.base ≠ 0)
    (H : Bytes → Bytes) (x : ℕ) (hx : ¬ ell ∣ x) (msg msg' sig : Bytes)
    (h1 : verify g H (g.smul x g.base) msg sig = .ok ())
    (h2 : verify g H (g.smul x g.base) msg' sig = .ok ()) :
    ∃ R, g.dec (sig.take 32) = some R ∧
      challenge g H (g.smul x g.base) R msg = challenge g H (g.smul x g.base) R msg' := by
  refine Props.C20.altered_message_needs_collision L H _ ?_ msg msg' sig h1 h2
  rw [L.smul_eq]
  exact order_exact_ell_multiple g.base hB L.order x hx

/-- a signature made by `Sign` is the ONLY accepted signature with its R part (completeness +
non-malleability, no order hypothesis) -/
theorem signed_unique_for_R {g : Grp G} (L : Lawful g) (hB : g.base ≠ 0) (H : Bytes → Bytes)
    (x k : ℕ) (msg sig' : Bytes) (h : verify g H (g.smul x g.base) msg sig' = .ok ())
    (hR : (sign g H x k msg).take 32 = sig'.take 32) : sign g H x k msg = sig' :=
  verify_nonmalleable_S_composed L hB H _ msg _ sig' (Props.C20.sign_verifies L H x k msg).1 h hR

/-! non-vacuity: the discrete-log group `ZMod ℓ`, `B = 1 ≠ 0` -/

theorem dlog_base_ne_zero : dlogGrp.base ≠ 0 := by
  show (1 : ZMod ell) ≠ 0
  have : Fact (1 < ell) := ⟨by decide⟩
  exact one_ne_zero

example (sig' : Bytes) (h : verify dlogGrp (fun b => b) (dlogGrp.smul 5 dlogGrp.base) [9] sig' = .ok ())
    (hR : (sign dlogGrp (fun b => b) 5 7 [9]).take 32 = sig'.take 32) : sign dlogGrp (fun b => b) 5 7 [9] = sig' :=
  signed_unique_for_R dlogGrp_lawful dlog_base_ne_zero _ 5 7 [9] sig' h hR

example : ∀ n : ℕ, n • dlogGrp.base = 0 → ell ∣ n := base_order_exact dlogGrp_lawful dlog_base_ne_zero

example : ¬ ell ∣ 5 := by decide

end Dos.Props.C20Compose
