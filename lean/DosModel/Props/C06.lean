/-
C06 — BLS verification equals the predicate the EVM bn256 precompiles compute.

Property theorems only (helpers: `Proofs/Bls.lean`, `Proofs/BlsEval.lean`, `Proofs/Bn256ConcMont.lean`,
`Proofs/Bn256ConcRedc.lean`, `Proofs/Bn256ConcCurve.lean`, `Proofs/CodecChar.lean`).

What is proved here, for EVERY instance of the operations that is a bilinear map on valid
representations (abstract `IsPairing`: representation types with validity predicates and denotations
in any groups, any target group; `miller` only constrained off the identity) — and the instance the
correspondence driver evaluates is PROVED to be one (`evalOps_isPairing`, `evalOps_verify_iff`):
  * `verify` accepts ⇔ the signature parses to S and e(−S, g₂)·e(h•g₁, X) = 1   (`verify_is_equation`)
  * `PairingCheck` = "product of pairings is one", its identity-skipping is sound (`pairingCheck_skip_identity`)
  * with non-degeneracy: accept ⇔ S = x•(h•g₁) for X = x•g₂                    (`verify_accepts_iff_valid`)
  * the library's own signatures verify                                          (`sign_verifies`)
and, over the concrete byte-level model: every coordinate `MarshalBinary` emits is a 32-byte
big-endian number below p (for ALL limb values), G2 writes the imaginary part first, and
`decodePubKey` / `Signature.ToBigInt` invert the encodings (errors, never panics, on short input)
(`emitted_coordinates_canonical`, `emitted_layout`, `coordinate_splitters_invert`);
the constants the predicate is built from are the EVM's (`gen_evm_constants`, by `decide` over
facts regenerated from the source at every run).

NOT a theorem (differential only, see meta "partial"): that `miller` + `finalExponentiation` of
optate.go/gfp12.go compute a bilinear non-degenerate map (the optimal ate pairing) — the
correspondence run compares `bls.Verify` with the EVM precompiles 0x07/0x08 and with bn256/google on
every generated case instead; Keccak-256 is not specified in Lean beyond the executable
`Model/Keccak.lean`, which the run compares with the library's hash on every message.
-/
import DosModel.Proofs.Bls
import DosModel.Proofs.BlsEval
import DosModel.Proofs.Bn256ConcMont
import DosModel.Proofs.Bn256ConcRedc
import DosModel.Proofs.Bn256ConcCurve
import DosModel.Proofs.CodecChar
import DosModel.Gen.BlsFacts
import DosModel.Gen.CodecFacts

namespace Dos.Props.C06
open Dos Dos.Bn256 Dos.Codec Dos.CodecBytes Dos.Bls

variable {P1 P2 PT A1 A2 T : Type} [AddCommGroup A1] [AddCommGroup A2] [CommGroup T]

/-! ## 1. `PairingCheck` -/

/-- **`PairingCheck(a, b)` returns true iff ∏ e(aᵢ, bᵢ) = 1**, for any number of pairs of valid
points; skipping the pairs that contain an identity does not change the product.  It panics (index
out of range) iff `b` is shorter than `a`. -/
theorem pairingCheck_skip_identity (o : PairingOps P1 P2 PT) (V1 : P1 → Prop) (V2 : P2 → Prop)
    (VT : PT → Prop) (ι1 : P1 → A1) (ι2 : P2 → A2) (e : A1 → A2 → T) (fe : PT → T)
    (h : IsPairing o V1 V2 VT ι1 ι2 e fe) (as : List P1) (bs : List P2) :
    (as.length ≤ bs.length → (∀ a ∈ as, V1 a) → (∀ b ∈ bs, V2 b) →
      ∃ b, pairingCheck o as bs = .ok b ∧ (b = true ↔ pairProd e ι1 ι2 as bs = 1)) ∧
    (bs.length < as.length → pairingCheck o as bs = .panic "index out of range") := by
  refine ⟨pairingCheck_spec h as bs, ?_⟩
  intro hl
  simp [pairingCheck, pairingAcc_short o as bs o.one hl]

/-- identity pairs contribute 1 -/
theorem pairing_identity_is_one (o : PairingOps P1 P2 PT) (V1 : P1 → Prop) (V2 : P2 → Prop)
    (VT : PT → Prop) (ι1 : P1 → A1) (ι2 : P2 → A2) (e : A1 → A2 → T) (fe : PT → T)
    (h : IsPairing o V1 V2 VT ι1 ι2 e fe) (a : A1) (b : A2) : e 0 b = 1 ∧ e a 0 = 1 :=
  ⟨h.zero_left b, h.zero_right a⟩

example : pairingCheck intOps.toPairingOps [3, 0, -6] [2, 5, 1] = .ok true := by decide
example : pairingCheck intOps.toPairingOps [3, 1] [2] = .panic "index out of range" := by decide
example : ∃ b, pairingCheck intOps.toPairingOps [3, 0, -6] [2, 5, 1] = .ok b ∧
    (b = true ↔ pairProd (fun a b : Int => Multiplicative.ofAdd (a * b)) id id [3, 0, -6] [2, 5, 1] = 1) :=
  (pairingCheck_skip_identity _ _ _ _ _ _ _ _ intOps_isPairing _ _).1 (by simp)
    (fun _ _ => trivial) (fun _ _ => trivial)

/-! ## 2. `bls.Verify` -/

/-- the side conditions under which the operations `bls.go` calls fit an `IsPairing` instance:
parsing returns valid points, the hash point and both keys are valid, negation is the group negation -/
structure VerifyCtx (o : BlsOps P1 P2 PT) (V1 : P1 → Prop) (V2 : P2 → Prop) (ι1 : P1 → A1) : Prop where
  parse_valid : ∀ sig s, o.unmarshal1 sig = .ok s → V1 s
  hash_valid : ∀ msg, V1 (hashToPoint o msg)
  neg : ∀ s, V1 s → V1 (o.neg1 s) ∧ ι1 (o.neg1 s) = -ι1 s
  base2_valid : V2 o.base2

/-- **`Verify` accepts ⇔ the signature parses and e(−S, g₂) · e(h•g₁, X) = 1**, where
`h•g₁ = hashToPoint msg`; identity signature / identity key included (no side condition);
an unparsable signature is rejected with the parse error; `Verify` never panics if parsing does not. -/
theorem verify_is_equation (o : BlsOps P1 P2 PT) (V1 : P1 → Prop) (V2 : P2 → Prop) (VT : PT → Prop)
    (ι1 : P1 → A1) (ι2 : P2 → A2) (e : A1 → A2 → T) (fe : PT → T)
    (h : IsPairing o.toPairingOps V1 V2 VT ι1 ι2 e fe) (c : VerifyCtx o V1 V2 ι1)
    (X : P2) (hX : V2 X) (msg sig : Bytes) :
    (verify o X msg sig = .accept ↔
      ∃ s, o.unmarshal1 sig = .ok s ∧
        e (-ι1 s) (ι2 o.base2) * e (ι1 (hashToPoint o msg)) (ι2 X) = 1) ∧
    (∀ er, o.unmarshal1 sig = .err er → verify o X msg sig = .rejectParse er) ∧
    (∀ s, o.unmarshal1 sig = .ok s →
      verify o X msg sig = .accept ∨ verify o X msg sig = .rejectPairing) := by
  have key : ∀ s, o.unmarshal1 sig = .ok s →
      ∃ b, verify o X msg sig = (if b then .accept else .rejectPairing) ∧
        (b = true ↔ e (-ι1 s) (ι2 o.base2) * e (ι1 (hashToPoint o msg)) (ι2 X) = 1) := by
    intro s hs
    have hsv := c.parse_valid sig s hs
    obtain ⟨b, hb, hiff⟩ := pairingCheck_spec h [o.neg1 s, hashToPoint o msg] [o.base2, X] (by simp)
      (by intro a ha; simp at ha; rcases ha with rfl | rfl
          · exact (c.neg s hsv).1
          · exact c.hash_valid msg)
      (by intro b hb; simp at hb; rcases hb with rfl | rfl
          · exact c.base2_valid
          · exact hX)
    refine ⟨b, ?_, ?_⟩
    · simp only [verify, hs, hb]; cases b <;> rfl
    · rw [hiff]; simp [pairProd, (c.neg s hsv).2]
  cases hs : o.unmarshal1 sig with
  | err er => simp [verify, hs]
  | panic st => simp [verify, hs]
  | ok s =>
    obtain ⟨b, hv, hiff⟩ := key s hs
    rw [hv]
    cases b <;> simp [← hiff]

/-- **Meaning of acceptance** (non-degenerate pairing): for a key denoting x•g₂,
`Verify` accepts exactly the byte strings that parse to a point denoting x•(h•g₁) — the signature
the holder of x produces.  (Non-degeneracy is used as: e(P, g₂) = 1 → P = O.) -/
theorem verify_accepts_iff_valid (o : BlsOps P1 P2 PT) (V1 : P1 → Prop) (V2 : P2 → Prop)
    (VT : PT → Prop) (ι1 : P1 → A1) (ι2 : P2 → A2) (e : A1 → A2 → T) (fe : PT → T)
    (h : IsPairing o.toPairingOps V1 V2 VT ι1 ι2 e fe) (c : VerifyCtx o V1 V2 ι1)
    (hnd : ∀ a, e a (ι2 o.base2) = 1 → a = 0)
    (x : Nat) (X : P2) (hX : V2 X) (hXx : ι2 X = x • ι2 o.base2) (msg sig : Bytes) :
    verify o X msg sig = .accept ↔
      ∃ s, o.unmarshal1 sig = .ok s ∧ ι1 s = x • ι1 (hashToPoint o msg) := by
  rw [(verify_is_equation o V1 V2 VT ι1 ι2 e fe h c X hX msg sig).1]
  constructor
  · rintro ⟨s, hs, heq⟩
    refine ⟨s, hs, ?_⟩
    rw [hXx, h.nsmul_right, ← h.nsmul_left, ← h.add_left] at heq
    have := hnd _ heq
    rw [neg_add_eq_zero] at this
    exact this
  · rintro ⟨s, hs, hs'⟩
    refine ⟨_, hs, ?_⟩
    rw [hXx, hs', h.nsmul_right, ← h.nsmul_left, ← h.add_left, neg_add_cancel, h.zero_left]

/-- the library's own signature verifies under the matching key, provided encode-then-decode is the
identity ON VALID POINTS (what C11 `g1_roundtrip` proves — it is false for junk representations
such as the affine pair (0,0)) and `Mul` is the scalar multiple on valid points -/
theorem sign_verifies (o : BlsOps P1 P2 PT) (V1 : P1 → Prop) (V2 : P2 → Prop)
    (VT : PT → Prop) (ι1 : P1 → A1) (ι2 : P2 → A2) (e : A1 → A2 → T) (fe : PT → T)
    (h : IsPairing o.toPairingOps V1 V2 VT ι1 ι2 e fe) (c : VerifyCtx o V1 V2 ι1)
    (hmul : ∀ k a, V1 a → V1 (o.mul1 k a) ∧ ι1 (o.mul1 k a) = k • ι1 a)
    (hrt : ∀ a, V1 a → o.unmarshal1 (o.marshal1 a) = .ok a)
    (x : Nat) (X : P2) (hX : V2 X) (hXx : ι2 X = x • ι2 o.base2) (msg : Bytes) :
    verify o X msg (sign o x msg) = .accept := by
  rw [(verify_is_equation o V1 V2 VT ι1 ι2 e fe h c X hX msg _).1]
  unfold sign
  have hm := hmul x _ (c.hash_valid msg)
  refine ⟨_, hrt _ hm.1, ?_⟩
  rw [hm.2, hXx, h.nsmul_right, ← h.nsmul_left, ← h.add_left, neg_add_cancel, h.zero_left]

/-! ### the instance the correspondence run evaluates satisfies ALL the hypotheses

`Bls.evalOps` (G1 = concrete affine model with `unmarshalG1`/`marshalG1` of C11, a key = its
discrete log, e(P, x) = x•P) with V1 = VT = `G1.valid`, ι1 = `Compose.pt1` into Mathlib's group
E(F_p): `evalOps_isPairing` and the remaining side conditions (`Proofs/BlsEval.lean`), collected in
`evalOps_ctx` below.  So the three generic theorems above hold, unconditionally, of the function `drv_c06` runs. -/

theorem evalOps_ctx : VerifyCtx evalOps (fun P : G1 => G1.valid P = true) (fun _ : Nat => True)
    Compose.pt1 where
  parse_valid := evalOps_parse_valid
  hash_valid := evalOps_hash_valid
  neg := evalOps_neg
  base2_valid := trivial

/-- **what the driver computes**: for every key x, message and byte string, `verify evalOps` accepts
⇔ the bytes parse (C11 decoder) to exactly the point x•(h•g₁), h = keccak256(msg) mod r.
No hypothesis left: the instance of `verify_accepts_iff_valid` at `evalOps`. -/
theorem evalOps_verify_iff (x : Nat) (msg sig : Bytes) :
    verify evalOps x msg sig = .accept ↔
      ∃ S, unmarshalG1 sig = .ok S ∧ S = G1.smul x (G1.smul (keccakScalar msg) g1gen) := by
  have := verify_accepts_iff_valid evalOps _ _ _ _ _ _ _ evalOps_isPairing evalOps_ctx
    evalOps_nondegenerate x x trivial (evalOps_key x) msg sig
  have hh := evalOps_hash_valid msg
  rw [hashToPoint_evalOps] at hh this
  rw [this]
  constructor
  · rintro ⟨S, hS, hpt⟩
    refine ⟨S, hS, ?_⟩
    apply Compose.pt1_inj (evalOps_parse_valid sig S hS) (valid_smul x _ hh)
    rw [Compose.pt1_smul x _ hh]; exact hpt
  · rintro ⟨S, hS, rfl⟩
    exact ⟨_, hS, Compose.pt1_smul x _ hh⟩

/-- the model's own signatures verify, for every key and message (instance of `sign_verifies`; its
round-trip hypothesis is C11's `g1_roundtrip` on valid points) -/
theorem evalOps_sign_verifies (x : Nat) (msg : Bytes) :
    verify evalOps x msg (sign evalOps x msg) = .accept :=
  sign_verifies evalOps _ _ _ _ _ _ _ evalOps_isPairing evalOps_ctx evalOps_mul evalOps_roundtrip
    x x trivial (evalOps_key x) msg

/-! executable examples on the toy ℤ-instance (e(a,b) = a·b; `intOps_isPairing`) -/
example : verify intOps 7 [1, 2] [21] = .accept := by decide
example : verify intOps 7 [1, 2] [20] = .rejectPairing := by decide
example : verify intOps 7 [1, 2] [] = .rejectParse .short := by decide
example : verify intOps 0 [] [0] = .accept := by decide   -- identity key, identity signature
example : verify evalOps 0 [] (List.replicate 64 0) = .accept :=
  (evalOps_verify_iff 0 [] _).mpr ⟨.inf, by decide, rfl⟩

/-! ## 3. what the library emits is a canonical EVM encoding -/

/-- **Every coordinate `MarshalBinary` writes is a 32-byte big-endian number below p**, whatever
the limbs hold (`redc` output is < p for all inputs below R·p — `redc_lt` of `Proofs/Bn256ConcMont.lean`,
proved on numbers; the limb-level `gfpMul` = `redc` is C10's theorem / correspondence). -/
theorem emitted_coordinates_canonical (a : Nat) (ha : a < 2 ^ 256) :
    (emitCoord a).length = 32 ∧ beNat (emitCoord a) < p ∧ beNat (emitCoord a) = montDecode a ∧
    montDecode a = a * rInv % p := by
  have hlt := montDecode_lt a ha
  refine ⟨be32_length _, ?_, beNat_be32 _ hlt, montDecode_spec a ha⟩
  rw [emitCoord, beNat_be32 _ hlt]; exact hlt

/-- a G1 signature is 64 bytes x‖y, a non-identity G2 key is 129 bytes 0x01‖x.im‖x.re‖y.im‖y.re
(**imaginary part first**: `gfP2{x, y}` is x·i + y and `.x` is written first — pinned to the source
by `gen_code_shape`), all words canonical -/
theorem emitted_layout (xm ym a b c d : Nat)
    (hx : xm < 2 ^ 256) (hy : ym < 2 ^ 256) :
    marshalG1M (some (xm, ym)) = be32 (montDecode xm) ++ be32 (montDecode ym) ∧
    (marshalG1M (some (xm, ym))).length = 64 ∧ montDecode xm < p ∧ montDecode ym < p ∧
    marshalG2M (some (a, b, c, d)) =
      [1] ++ be32 (montDecode a) ++ be32 (montDecode b) ++ be32 (montDecode c) ++ be32 (montDecode d) ∧
    (marshalG2M (some (a, b, c, d))).length = 129 := by
  refine ⟨rfl, by simp [marshalG1M, emitCoord, be32_length], montDecode_lt _ hx, montDecode_lt _ hy,
    rfl, by simp [marshalG2M, emitCoord, be32_length]⟩

/-- `Signature.ToBigInt` returns exactly the two emitted coordinates, and `decodePubKey` the four
coordinates (imaginary, real, imaginary, real) of an emitted non-identity key.  On the 1-byte encoding the
library emits for the IDENTITY key `decodePubKey` answers with an error (the length guard of /repo ae5b22f
in front of the slice expressions), and so for every encoding shorter than 129 bytes; `ToBigInt` of fewer
than 32 bytes is (0, 0) (/repo 6bcc55e); neither function panics on any byte string -/
theorem coordinate_splitters_invert (xm ym a b c d : Nat)
    (hx : xm < 2 ^ 256) (hy : ym < 2 ^ 256)
    (ha : a < 2 ^ 256) (hb : b < 2 ^ 256) (hc : c < 2 ^ 256) (hd : d < 2 ^ 256) :
    sigToBigInt (marshalG1M (some (xm, ym))) = .ok (montDecode xm, montDecode ym) ∧
    decodePubKey (marshalG2M (some (a, b, c, d)))
      = .ok [montDecode a, montDecode b, montDecode c, montDecode d] ∧
    decodePubKey (marshalG2M none) = .err .short ∧
    (∀ enc : Bytes, enc.length < 129 → decodePubKey enc = .err .short) ∧
    (∀ sig : Bytes, sig.length < 32 → sigToBigInt sig = .ok (0, 0)) ∧
    (∀ enc : Bytes, (decodePubKey enc).isPanic = false) ∧
    (∀ sig : Bytes, (sigToBigInt sig).isPanic = false) := by
  have l := be32_length
  have hshort : ∀ enc : Bytes, enc.length < 129 → decodePubKey enc = .err .short := fun enc h => by
    have h' : enc.length < 32 * 4 + 1 := by omega
    simp [decodePubKey, h']
  refine ⟨?_, ?_, by decide, hshort, fun sig h => by simp [sigToBigInt, h], fun enc => ?_, fun sig => ?_⟩
  · have hlen : ¬ (marshalG1M (some (xm, ym))).length < 32 := by simp [marshalG1M, emitCoord, l]
    simp only [sigToBigInt, hlen, if_false]
    simp only [marshalG1M, emitCoord]
    rw [List.take_append_of_le_length (by simp [l]), List.take_of_length_le (by simp [l]),
      List.drop_append_of_le_length (by simp [l]), List.drop_of_length_le (by simp [l]),
      beNat_be32 _ (montDecode_lt xm hx)]
    simp [beNat_be32 _ (montDecode_lt ym hy)]
  · have hbody : marshalG2M (some (a, b, c, d)) =
        1 :: ([montDecode a, montDecode b, montDecode c, montDecode d].map be32).flatten ++ [] := by
      simp [marshalG2M, emitCoord]
    rw [decodePubKey_long _ (by simp [marshalG2M, emitCoord, l]), hbody]
    exact congrArg Out.ok (wordsOf_encode [_, _, _, _] [] (by
      simp only [List.mem_cons, List.not_mem_nil, or_false]
      rintro v (rfl | rfl | rfl | rfl) <;> exact montDecode_lt _ ‹_›))
  · by_cases h : enc.length < 129
    · rw [hshort enc h]; rfl
    · rw [decodePubKey_long enc (by omega)]; rfl
  · by_cases h : sig.length < 32 <;> simp [sigToBigInt, h, Out.isPanic]

/-- a short signature and the identity key, evaluated -/
example : sigToBigInt [1, 2, 3] = .ok (0, 0) ∧ decodePubKey [0] = .err .short ∧
    sigToBigInt (List.replicate 31 7 ++ [1, 2]) = .ok (beNat (List.replicate 31 7 ++ [1]), 2) := by decide

/-- on the concrete affine model (`Bls.evalOps`): **every signature `Sign` emits, for every secret
key and every message, is the 64-byte canonical encoding of a point on y² = x³ + 3 with coordinates
below p** (or 64 zero bytes for the identity), and the library parses it back to that point
(uses the closure of the curve under the model's operations, `Proofs/Bn256ConcCurve.lean`, p prime) -/
theorem emitted_signature_is_canonical_point (x : Nat) (msg : Bytes) :
    ∃ S : G1, G1.valid S = true ∧ sign evalOps x msg = marshalG1 S ∧
      (sign evalOps x msg).length = 64 ∧ unmarshalG1 (sign evalOps x msg) = .ok S := by
  have hv := reachable_valid (sign_reachable x msg)
  rw [sign_evalOps]
  refine ⟨_, hv, rfl, marshalG1_length _, ?_⟩
  simpa using unmarshalG1_marshalG1 _ hv []

example : (emitCoord (2 ^ 256 - 1)).length = 32 ∧ beNat (emitCoord (2 ^ 256 - 1)) < p :=
  ⟨(emitted_coordinates_canonical _ (by decide)).1, (emitted_coordinates_canonical _ (by decide)).2.1⟩

/-! ## 4. regenerated facts: the predicate is built from the EVM's constants and hash -/

/-- EIP-196/197 constants, as the precompiles and the on-chain verifier use them -/
def evmG1Gen : Nat × Nat := (1, 2)
def evmG2Gen : (Nat × Nat) × (Nat × Nat) :=
  ((11559732032986387107991004021392285783925812861821192530917403151452391805634,
    10857046999023057135944570762232829481370756359578518086990519993285655852781),
   (4082367875863433681332203403145435568316851327593401208105741076214120093531,
    8495653923123431417604973247489272438418190587263600148770280649306958101930))
def evmGroupOrder : Nat := 21888242871839275222246405745257275088548364400416034343698204186575808495617
def evmFieldPrime : Nat := 21888242871839275222246405745257275088696311157297823662689037894645226208583

/-- G1 generator (1,2); the G2 generator of twist.go (stored in Montgomery form) is the EVM's,
imaginary part first; `Order` is the contract's group order; `P` the field prime -/
theorem gen_evm_constants :
    (Gen.Codec.curveGenX, Gen.Codec.curveGenY) = evmG1Gen ∧
    ((montDecode Gen.Codec.twistGen_x_x_mont, montDecode Gen.Codec.twistGen_x_y_mont),
     (montDecode Gen.Codec.twistGen_y_x_mont, montDecode Gen.Codec.twistGen_y_y_mont)) = evmG2Gen ∧
    Gen.Codec.constOrder = evmGroupOrder ∧ Gen.Codec.constP = evmFieldPrime ∧
    g1gen = .aff evmG1Gen.1 evmG1Gen.2 ∧
    g2gen = .aff ⟨evmG2Gen.1.1, evmG2Gen.1.2⟩ ⟨evmG2Gen.2.1, evmG2Gen.2.2⟩ ∧
    r = evmGroupOrder ∧ p = evmFieldPrime := by decide

/-- the generators lie on the curve / the twist (that `g2gen` is killed by `r`, i.e. `G2.valid g2gen`, is
`Compose.g2gen_valid`, stated in `C11Compose.generators_torsion`) -/
theorem gen_generators_valid : G1.valid g1gen = true ∧ G2.onCurve g2gen = true := by decide

/-- the shape of bls.go the model mirrors: legacy Keccak-256 (not SHA3-256), hash → scalar →
base multiplication; `Verify` parses, NEGATES the signature and checks the pairs
(s, HM) against (G2 base, X); `PairingCheck` skips identity pairs and tests
`finalExponentiation(acc).IsOne()`; `Sign` marshals x·H(m); which FIELD of the point is written at which byte
OFFSET of the encoding (extracted structurally: `montDecode(tmp, &<copy of p.g>.x.y)` then `tmp.Marshal(ret[1+1*n:])`
is "x.y@33" whatever the locals are called; `gfP2.x` is the imaginary part) -/
theorem gen_bls_shape :
    Gen.Bls.hashToPoint_calls = ["sha3.NewLegacyKeccak256", "hash.Write", "hash.Sum",
      "suite.G1().Scalar().SetBytes", "suite.G1().Scalar", "suite.G1", "suite.G1().Point().Mul",
      "suite.G1().Point", "suite.G1"] ∧
    Gen.Bls.Verify_calls = ["hashToPoint", "suite.G1().Point", "suite.G1", "s.UnmarshalBinary", "s.Neg",
      "suite.PairingCheck", "suite.G2().Point().Base", "suite.G2().Point", "suite.G2", "errors.New"] ∧
    Gen.Bls.Verify_pairing_g1 = ["s", "HM"] ∧
    Gen.Bls.Verify_pairing_g2 = ["suite.G2().Point().Base()", "X"] ∧
    Gen.Bls.Sign_calls = ["hashToPoint", "HM.Mul", "xHM.MarshalBinary"] ∧
    Gen.Bls.PairingCheck_calls = ["new", "acc.SetOne", "len", "ap.IsInfinity", "bp.IsInfinity", "acc.Mul",
      "miller", "finalExponentiation().IsOne", "finalExponentiation"] ∧
    Gen.Bls.PairingCheck_skipsIdentityPairs = true ∧
    Gen.Codec.pointG2_marshalLayout = ["x.x@1", "x.y@33", "y.x@65", "y.y@97"] ∧
    Gen.Codec.pointG1_marshalLayout = ["x@0", "y@32"] := by
  and_intros <;> rfl

end Dos.Props.C06
