/-
C10 — the IMPLEMENTED Miller loop returns reduced gfP12 values, hence the implemented PairingCheck decides the
product of the (decoded) pairing values with no hypothesis on intermediate values.

`Gen/Bn256Code.lean` holds optate.go's `miller` as the translator (E7) emits it: the loop unrolled over the 64
digits of sixuPlus2NAF, 265 lets, polymorphic in the base type. Because the generated code only uses
`+ − neg · 0 1 ⁻¹` and the two equality tests of MakeAffine, it commutes with every injective map that preserves
those operations (`miller_translated_natural`, proved by `simp only` over the generated body with one naturality
lemma per generated callee: Proofs/Bn256MillerNatural.lean). Instantiated at
  * "forget reducedness" GFpR → GFp (GFpR = the reduced Montgomery values, closed under the assembly's four
    primitives and inversion by `gfP_is_prime_field`): on reduced points the Miller value IS the value of a
    computation carried out inside GFpR, hence reduced;
  * Montgomery decoding GFpR → ZMod p: decoding commutes with the Miller loop.
With `gen_miller_eq_model` (Props/C10Code.lean) the same holds for the hand model `Dos.Bn256.miller` the driver
runs, and the hypothesis `hm` of `C10FinalExp.pairingCheck_given_reduced_miller` is discharged: only
reducedness of the INPUT points remains (`pairingCheck_implemented`).
Only theorems; helper lemmas in Proofs/Bn256MillerNatural.lean.
-/
import DosModel.Proofs.Bn256MillerNatural

set_option linter.unusedSectionVars false

namespace Dos.Props.C10Miller
open Dos Dos.Bn256 Dos.Gen Dos.Bn256.MillerNat

/-- **naturality of the translated Miller loop**: for every map `f` of base types that preserves
`+ − neg · 0 1 ⁻¹` and is injective, the generated `miller` (all 265 steps, MakeAffine's branches included)
commutes with `f` applied coordinate-wise -/
theorem miller_translated_natural {K L : Type}
    [Add K] [Sub K] [Neg K] [Mul K] [Zero K] [One K] [Inv K] [Sq K] [DecidableEq K]
    [Add L] [Sub L] [Neg L] [Mul L] [Zero L] [One L] [Inv L] [Sq L] [DecidableEq L]
    {f : K → L} (h : OpsHom f) (cs : FrobConsts K) (q : Jac (Fp2 K)) (p : Jac K) :
    Fp12.map f (Bn256Code.miller cs q p) =
      Bn256Code.miller (cs.map f) (Jac.map (Fp2.map f) q) (Jac.map f p) :=
  map_miller h cs q p

/-- non-vacuity: the two maps it is used with, at the generators -/
example : val12 (Bn256Code.miller frobConstsR (Jac.lift2 twistGen (by unfold Jac.Reduced2; decide))
      (Jac.lift curveGen (by unfold Jac.Reduced; decide))) =
    @Bn256Code.miller GFp _ _ _ _ _ _ _ _ frobConsts twistGen curveGen :=
  miller_translated_natural valHom frobConstsR _ _
example : dec12R (Bn256Code.miller frobConstsR (Jac.lift2 twistGen (by unfold Jac.Reduced2; decide))
      (Jac.lift curveGen (by unfold Jac.Reduced; decide))) =
    Bn256Code.miller frobConstsFp (Jac.decJ2 twistGen) (Jac.decJ curveGen) :=
  miller_translated_natural decHom frobConstsR _ _

/-- **the translated Miller loop at the Montgomery gfP returns reduced values** on reduced points -/
theorem miller_code_reduced (q : G2J) (p : G1J) (hq : Jac.Reduced2 q) (hp : Jac.Reduced p) :
    Red12 (@Bn256Code.miller GFp _ _ _ _ _ _ _ _ frobConsts q p) :=
  (miller_code_concrete q p hq hp).1

example : Red12 (@Bn256Code.miller GFp _ _ _ _ _ _ _ _ frobConsts twistGen curveGen) :=
  miller_code_reduced _ _ twistGen_reduced curveGen_reduced

/-- **decoding commutes with the translated Miller loop**: the Montgomery decoding of the implemented Miller
value is the translated Miller loop evaluated over the field ZMod p, at the decoded constants, on the decoded
points -/
theorem miller_code_decodes (q : G2J) (p : G1J) (hq : Jac.Reduced2 q) (hp : Jac.Reduced p) :
    dec12 (@Bn256Code.miller GFp _ _ _ _ _ _ _ _ frobConsts q p) =
      Bn256Code.miller frobConstsFp (Jac.decJ2 q) (Jac.decJ p) :=
  (miller_code_concrete q p hq hp).2

example : dec12 (@Bn256Code.miller GFp _ _ _ _ _ _ _ _ frobConsts twistGen curveGen) =
    Bn256Code.miller frobConstsFp (Jac.decJ2 twistGen) (Jac.decJ curveGen) :=
  miller_code_decodes _ _ twistGen_reduced curveGen_reduced

/-- **the implemented Miller loop returns reduced gfP12 values** (the hand model the driver runs and compares
with optate.go limb for limb; equal to the translation by `gen_miller_eq_model`) -/
theorem miller_reduced (q : G2J) (p : G1J) (hq : Jac.Reduced2 q) (hp : Jac.Reduced p) :
    Red12 (Dos.Bn256.miller q p) :=
  (miller_concrete q p hq hp).1

/-- the generators: reducedness of the Miller value follows from that of the twelve input coordinates -/
example : Red12 (Dos.Bn256.miller twistGen curveGen) :=
  miller_reduced _ _ twistGen_reduced curveGen_reduced

theorem miller_decodes (q : G2J) (p : G1J) (hq : Jac.Reduced2 q) (hp : Jac.Reduced p) :
    dec12 (Dos.Bn256.miller q p) = Bn256Code.miller frobConstsFp (Jac.decJ2 q) (Jac.decJ p) :=
  (miller_concrete q p hq hp).2

example : dec12 (Dos.Bn256.miller twistGen curveGen) =
    Bn256Code.miller frobConstsFp (Jac.decJ2 twistGen) (Jac.decJ curveGen) :=
  miller_decodes _ _ twistGen_reduced curveGen_reduced

/-- **the implemented pairing** `optimalAte` (Miller loop, final exponentiation, the two identity tests) returns
reduced values on reduced points and decodes to the translated `optimalAte` evaluated over ZMod p -/
theorem optimalAte_reduced (q : G2J) (p : G1J) (hq : Jac.Reduced2 q) (hp : Jac.Reduced p) :
    Red12 (Dos.Bn256.optimalAte q p) ∧
    dec12 (Dos.Bn256.optimalAte q p) =
      Bn256Code.optimalAte frobConstsFp uParam (Jac.decJ2 q) (Jac.decJ p) :=
  optimalAte_concrete q p hq hp

example : Red12 (Dos.Bn256.optimalAte twistGen curveGen) :=
  (optimalAte_reduced _ _ twistGen_reduced curveGen_reduced).1

/-- **the implemented PairingCheck, unconditional in the intermediate values**: for every list of pairs of
REDUCED points (every gfP the library stores is reduced: Unmarshal rejects ≥ p, and all arithmetic returns
reduced values), `pairingCheck` is true exactly when the product in F_p¹² of the decoded pairing values
`optimalAte(qᵢ, pᵢ)` is one; pairs with an identity contribute one wherever they stand in the list. The
Miller hypothesis of `C10FinalExp.pairingCheck_given_reduced_miller` is discharged by `miller_reduced` -/
theorem pairingCheck_implemented (ps : List (G1J × G2J))
    (hr : ∀ pq ∈ ps, Jac.Reduced pq.1 ∧ Jac.Reduced2 pq.2) :
    pairingCheck ps = true ↔ (ps.map fun pq => dec12 (optimalAte pq.2 pq.1)).prod = 1 :=
  pairingCheck_concrete ps (fun pq hpq => miller_reduced pq.2 pq.1 (hr pq hpq).2 (hr pq hpq).1)

/-- non-vacuity: a two-element list of generator pairs satisfies the hypothesis -/
example : pairingCheck [(curveGen, twistGen), (curveGen, twistGen)] = true ↔
    ([(curveGen, twistGen), (curveGen, twistGen)].map fun pq => dec12 (optimalAte pq.2 pq.1)).prod = 1 :=
  pairingCheck_implemented _ (by
    intro pq hpq
    have hg : Jac.Reduced curveGen ∧ Jac.Reduced2 twistGen :=
      ⟨curveGen_reduced, twistGen_reduced⟩
    simp only [List.mem_cons, List.not_mem_nil, or_false, or_self] at hpq
    rw [hpq]; exact hg)

end Dos.Props.C10Miller

namespace Dos.Props.C10FinalExp
open Dos Dos.Bn256

/-- the hypothesis of `pairingCheck_given_reduced_miller` is satisfiable: the Miller value of the generators is
reduced (stated in this file because Props/C10FinalExp.lean is upstream of `miller_reduced`) -/
theorem miller_generators_reduced : Red12 (miller twistGen curveGen) :=
  C10Miller.miller_reduced _ _ twistGen_reduced curveGen_reduced

end Dos.Props.C10FinalExp
