/-
C15 — length-prefixed framing is transparent to stream fragmentation and bounded.
Property theorems only; helper lemmas are in `Proofs/Framing.lean`, `FramingInterleave.lean`, `FramingEof.lean`.
`L` is the frame-size limit; `c15_limit_is_1MiB` pins the limit the code uses
(regenerated from p2p/client.go on every run) to the 1 MiB of the property.
-/
import DosModel.Proofs.Framing
import DosModel.Proofs.FramingInterleave
import DosModel.Proofs.FramingEof
import DosModel.Gen.P2PConsts
import DosModel.Gen.P2PFraming

namespace Dos.Props.C15
open Dos Dos.Framing

/-- regenerated fact: the code's limit is 1 MiB and its header is 4 bytes -/
theorem c15_limit_is_1MiB : Gen.msgSizeLimit = 2 ^ 20 ∧ Gen.p2pHeaderSize = Framing.headerSize := by
  decide

/-- regenerated fact: the COMPLETE bodies of `readFrom` / `writeTo` (every top-level statement
printed in full by go/printer, nested blocks included, comments dropped) are the text that
`Model/Framing.lean` transcribes, and neither function touches a package-level variable (a reader's
state is its own: the hypothesis of `interleaving_independent`). Any edit of a statement of either
function breaks this theorem and must be re-modelled. -/
theorem c15_code_shape :
    Gen.P2PFraming.readFrom = [
      "sig func(conn net.Conn) (buffer []byte, err error)",
      "0 header := make([]byte, headerSize)",
      "1 bytesRead, totalBytesRead := 0, 0",
      "2 for totalBytesRead < headerSize && err == nil { if bytesRead, err = conn.Read(header[totalBytesRead:]); err != nil { err = errors.Errorf(\"conn read header: %w\", err) return } totalBytesRead += bytesRead }",
      "3 size := binary.BigEndian.Uint32(header)",
      "4 header = nil",
      "5 if size > msgSizeLimit || size <= 0 { err = errors.Errorf(\"SizeLimit %d size %d: %w\", msgSizeLimit, size, ErrMsgOverSize) return }",
      "6 buffer = make([]byte, size)",
      "7 contentBytesRead, totalContentBytesRead := 0, 0",
      "8 for totalContentBytesRead < int(size) && err == nil { if contentBytesRead, err = conn.Read(buffer[totalContentBytesRead:]); err != nil { err = errors.Errorf(\"conn read content: %w\", err) return } totalContentBytesRead += contentBytesRead }",
      "9 return"] ∧
    Gen.P2PFraming.writeTo = [
      "sig func(bytes []byte, conn net.Conn) (err error)",
      "0 prefix := make([]byte, headerSize)",
      "1 bytesWrite, totalBytesWrtie := 0, 0",
      "2 size := len(bytes)",
      "3 if size > msgSizeLimit { err = errors.Errorf(\"SizeLimit %d size %d: %w\", msgSizeLimit, size, ErrMsgOverSize) return }",
      "4 binary.BigEndian.PutUint32(prefix, uint32(size))",
      "5 bytes = append(prefix, bytes...)",
      "6 for totalBytesWrtie < len(bytes) && err == nil { if bytesWrite, err = conn.Write(bytes[totalBytesWrtie:]); err != nil { err = errors.Errorf(\"conn write: %w\", err) return } totalBytesWrtie += bytesWrite }",
      "7 return"] ∧
    Gen.P2PFraming.packageLevelVarsUsed = [] :=
  ⟨rfl, rfl, rfl⟩

/-- **1. round trip under every chunking, no bleed.**  For every limit `L < 2^32`, payload of
1..L bytes, every trailing data `rest` and EVERY way `cs` of cutting the byte stream
`header ++ payload ++ rest` into read chunks (including empty reads), one `readFrom`
returns exactly the payload, leaves exactly `rest` on the connection and never
asks for more than `max 4 |payload|` bytes. -/
theorem roundtrip_any_chunking (L : Nat) (hL : L < 2 ^ 32) (p rest : Bytes)
    (hp1 : 1 ≤ p.length) (hpL : p.length ≤ L) (cs : List Bytes)
    (hcs : cs.flatten = natBE 4 p.length ++ p ++ rest) :
    (readFrame L cs).out = .ok p ∧ (readFrame L cs).rest.flatten = rest
      ∧ (readFrame L cs).req = max 4 p.length :=
  ReadResult.of_flat ((readFrame_flat L cs).trans (hcs ▸ parseFrame_frame hL hp1 hpL (Nat.zero_le _)))

/-- the wire bytes of `k` frames followed by `rest` -/
def wire : List Bytes → Bytes → Bytes
  | [], rest => rest
  | p :: ps, rest => natBE 4 p.length ++ p ++ wire ps rest

/-- **2. consecutive frames never bleed.**  Reading `k` frames from ANY chunking of `k`
concatenated frames returns the `k` payloads in order and leaves `rest`. -/
theorem frames_sequence (L : Nat) (hL : L < 2 ^ 32) (ps : List Bytes) (rest : Bytes)
    (hps : ∀ p ∈ ps, 1 ≤ p.length ∧ p.length ≤ L) :
    ∀ cs : List Bytes, cs.flatten = wire ps rest →
      (readFrames L ps.length cs).1 = ps.map .ok ∧ (readFrames L ps.length cs).2.flatten = rest := by
  intro cs h
  have e := (readFrames_flat L ps.length cs).trans
    (h ▸ parseFrames_frames L hL wire (fun _ => rfl) (fun _ _ _ => rfl) rest 0 ps hps)
  exact ⟨(congrArg Prod.fst e).trans (List.append_nil _), congrArg Prod.snd e⟩

/-- **3. zero / oversize header is rejected before any payload-sized allocation or read**,
whatever follows on the connection and however it is chunked. -/
theorem oversize_rejected_early (L : Nat) (cs : List Bytes) (hdr tail : Bytes)
    (hh : hdr.length = 4) (hcs : cs.flatten = hdr ++ tail)
    (hbad : beNat hdr = 0 ∨ beNat hdr > L) :
    (readFrame L cs).out = .error .size ∧ (readFrame L cs).req = 4 := by
  have e := readFrame_flat L cs
  rw [hcs, parseFrame, if_neg (by rw [List.length_append, hh]; omega), List.take_left' hh, if_pos hbad.symm] at e
  exact ⟨(ReadResult.of_flat e).1, (ReadResult.of_flat e).2.2⟩

/-- **4a. a stream that ends inside the header is an error**, never a payload. -/
theorem truncated_header_errors (L : Nat) (cs : List Bytes) (h : cs.flatten.length < 4) :
    (readFrame L cs).out = .error .header :=
  (ReadResult.of_flat ((readFrame_flat L cs).trans (if_pos h))).1

/-- **4b. a stream that ends inside the payload is an error**, never a short or padded payload. -/
theorem truncated_body_errors (L : Nat) (cs : List Bytes) (hdr body : Bytes)
    (hh : hdr.length = 4) (hcs : cs.flatten = hdr ++ body) (hshort : body.length < beNat hdr) :
    ∃ e, (readFrame L cs).out = .error e := by
  rw [(ReadResult.of_flat (readFrame_flat L cs)).1, hcs]
  exact parseFrame_short L hh hshort

/-- **4c. whatever is returned as a payload has exactly the announced length** (so it is
neither short nor padded), for every stream and chunking. -/
theorem ok_has_announced_length (L : Nat) (cs : List Bytes) (b : Bytes)
    (h : (readFrame L cs).out = .ok b) :
    b.length = beNat (cs.flatten.take 4) ∧ 1 ≤ b.length ∧ b.length ≤ L
      ∧ b = (cs.flatten.drop 4).take b.length := by
  rw [(ReadResult.of_flat (readFrame_flat L cs)).1, parseFrame] at h
  -- only the last of the four branches of `parseFrame` is a payload
  split at h
  · cases h
  · split at h
    · cases h
    · split at h
      · cases h
      · cases h
        have hlen : ((cs.flatten.drop 4).take (beNat (cs.flatten.take 4))).length = beNat (cs.flatten.take 4) := by
          rw [List.length_take, List.length_drop]; omega
        rw [hlen]
        exact ⟨rfl, by omega, by omega, rfl⟩

/-- **5. the writer** refuses more than `L` bytes and otherwise emits header ++ payload,
which (by 1) reads back under every chunking. -/
theorem write_limit (L : Nat) (p : Bytes) :
    (p.length > L → writeFrame L p = none) ∧
    (p.length ≤ L → writeFrame L p = some (natBE 4 p.length ++ p)) := by
  constructor <;> intro h <;> simp [writeFrame, h] <;> omega

theorem write_read_roundtrip (L : Nat) (hL : L < 2 ^ 32) (p : Bytes) (hp1 : 1 ≤ p.length)
    (hpL : p.length ≤ L) (s : Bytes) (hw : writeFrame L p = some s)
    (cs : List Bytes) (hcs : cs.flatten = s) : (readFrame L cs).out = .ok p := by
  have := (write_limit L p).2 hpL
  rw [this] at hw; injection hw with hw
  exact (roundtrip_any_chunking L hL p [] hp1 hpL cs (by simp [hcs, ← hw])).1

/-- **5b. partial writes.**  However many bytes the transport accepts per `Write` call
(`ks`, any pattern), the pieces `writeTo` hands to it concatenate to header ++ payload. -/
theorem write_any_partial (L : Nat) (p : Bytes) (hpL : p.length ≤ L) (ks : List Nat) :
    ∃ pieces, writeFrameTo L p ks = some pieces ∧ pieces.flatten = natBE 4 p.length ++ p := by
  refine ⟨_, ?_, writeLoop_flatten _ _ ks (Nat.le_refl _)⟩
  simp [writeFrameTo, (write_limit L p).2 hpL]

/-- **6. end to end, "however the transport fragments or coalesces the byte stream".**
Frames written with ANY partial-write pattern and then re-cut by the transport into ANY
read chunking `cs` of the same bytes (followed by `rest`) read back identically. -/
theorem end_to_end (L : Nat) (hL : L < 2 ^ 32) (p rest : Bytes) (hp1 : 1 ≤ p.length)
    (hpL : p.length ≤ L) (ks : List Nat) (pieces : List Bytes)
    (hw : writeFrameTo L p ks = some pieces) (cs : List Bytes)
    (hcs : cs.flatten = pieces.flatten ++ rest) :
    (readFrame L cs).out = .ok p ∧ (readFrame L cs).rest.flatten = rest := by
  obtain ⟨pieces', h1, h2⟩ := write_any_partial L p hpL ks
  rw [h1] at hw; injection hw with hw; subst hw
  have := roundtrip_any_chunking L hL p rest hp1 hpL cs (by rw [hcs, h2])
  exact ⟨this.1, this.2.1⟩

/-- **7a. the step machine (one `conn.Read` per step) is `readFrom`.**  Run long enough, the
machine that cuts `readFrom` at its `Read` calls ends with exactly `readFrame`'s result. -/
theorem machine_is_readFrame (L : Nat) (cs : List Bytes) :
    ∃ k0, ∀ k, k0 ≤ k → readerResult (iterReader L k (initReader cs)) = some (readFrame L cs) :=
  Framing.machine_is_readFrame L cs

/-- **7b. concurrent connections do not disturb one another.**  Two readers on two connections,
their `Read` calls interleaved by ANY schedule `sch` that gives each reader enough turns (`ka` for
the first, `kb` for the second, wherever they fall in `sch`), end exactly where each would end alone:
with `readFrame` of its own connection. -/
theorem interleaving_independent (L : Nat) (ca cb : List Bytes) :
    ∃ ka kb, ∀ sch : List Bool, ka ≤ countTrue sch → kb ≤ countFalse sch →
      readerResult (runInter L sch (initReader ca, initReader cb)).1 = some (readFrame L ca) ∧
      readerResult (runInter L sch (initReader ca, initReader cb)).2 = some (readFrame L cb) := by
  obtain ⟨ka, ha⟩ := Framing.machine_is_readFrame L ca
  obtain ⟨kb, hb⟩ := Framing.machine_is_readFrame L cb
  refine ⟨ka, kb, fun sch h1 h2 => ?_⟩
  rw [runInter_split]
  exact ⟨ha _ h1, hb _ h2⟩

/-! ### a transport whose last `Read` returns bytes AND the error (`n > 0, io.EOF`)

`readFrameE` is `readFrom` over such a transport (allowed by the `io.Reader` contract; Go's TCP
connections report the error in a separate `Read`). The code drops the bytes of a failing `Read`. -/

/-- **8a. bytes that arrive together with the error never become a short or padded payload.**
Whatever `readFrom` accepts on such a transport it would have accepted, with the same rest, had the
error come in a separate `Read`; so by 4c the payload has exactly the announced length and is exactly
the announced bytes of the stream. -/
theorem eofdata_ok_is_plain_ok (L : Nat) (cs : List Bytes) (b : Bytes)
    (h : (readFrameE L cs).out = .ok b) :
    (readFrame L cs).out = .ok b ∧ (readFrame L cs).rest = (readFrameE L cs).rest
      ∧ b.length = beNat (cs.flatten.take 4) ∧ b = (cs.flatten.drop 4).take b.length := by
  have e := readFrameE_ok_imp L cs b h
  have h' : (readFrame L cs).out = .ok b := by rw [e]; exact h
  have := ok_has_announced_length L cs b h'
  exact ⟨h', by rw [e], this.1, this.2.2.2⟩

/-- **8b. a stream that ends inside the payload is an error on such a transport too** — in
particular when the truncated tail arrives in the very `Read` that reports the end of the stream. -/
theorem eofdata_truncated_errors (L : Nat) (cs : List Bytes) (hdr body : Bytes)
    (hh : hdr.length = 4) (hcs : cs.flatten = hdr ++ body) (hshort : body.length < beNat hdr) :
    ∃ e, (readFrameE L cs).out = .error e := by
  rw [(ReadResult.of_flat (readFrameE_flat L cs)).1, hcs]
  exact parseFrame_short L hh (Nat.lt_succ_of_lt hshort)

/-- **8c. round trip and no bleed when more data follows the frame** (every frame but the last one
before the stream ends), under every chunking. -/
theorem eofdata_roundtrip_when_more_follows (L : Nat) (hL : L < 2 ^ 32) (p rest : Bytes)
    (hp1 : 1 ≤ p.length) (hpL : p.length ≤ L) (hrest : rest ≠ []) (cs : List Bytes)
    (hcs : cs.flatten = natBE 4 p.length ++ p ++ rest) :
    (readFrameE L cs).out = .ok p ∧ (readFrameE L cs).rest.flatten = rest :=
  have h := ReadResult.of_flat
    ((readFrameE_flat L cs).trans (hcs ▸ parseFrame_frame hL hp1 hpL (List.length_pos_iff.mpr hrest)))
  ⟨h.1, h.2.1⟩

/-- **8d. (the code as it is) the last frame before the end of such a stream is rejected**: its last
byte arrives with the error and is dropped. Not a short or padded payload, but not a round trip
either; Go's TCP connections never pair data with the error, so the p2p layer does not meet this. -/
theorem eofdata_last_frame_rejected (L : Nat) (hL : L < 2 ^ 32) (p : Bytes)
    (hp1 : 1 ≤ p.length) (cs : List Bytes) (hcs : cs.flatten = natBE 4 p.length ++ p) (hpL : p.length ≤ L) :
    ∃ e, (readFrameE L cs).out = .error e := by
  have _ := hp1   -- not needed: an empty payload announces size 0
  rw [(ReadResult.of_flat (readFrameE_flat L cs)).1, hcs]
  exact parseFrame_short L (CodecBytes.natBE_length 4 _) (by rw [beNat_natBE4 _ (by omega)]; omega)

/-- the statement of the property at the code's own limit -/
theorem c15_at_code_limit (p rest : Bytes) (hp1 : 1 ≤ p.length) (hpL : p.length ≤ 2 ^ 20)
    (cs : List Bytes) (hcs : cs.flatten = natBE 4 p.length ++ p ++ rest) :
    (readFrame Gen.msgSizeLimit cs).out = .ok p ∧ (readFrame Gen.msgSizeLimit cs).rest.flatten = rest := by
  have h := c15_limit_is_1MiB.1
  have := roundtrip_any_chunking Gen.msgSizeLimit (by rw [h]; decide) p rest hp1 (by rw [h]; exact hpL) cs hcs
  exact ⟨this.1, this.2.1⟩

/-! non-vacuity: concrete instances of the hypotheses -/
example : (readFrame 1048576 [[0, 0], [0, 2, 7], [9, 5], [6]]).out = .ok [7, 9] ∧
    (readFrame 1048576 [[0, 0], [0, 2, 7], [9, 5], [6]]).rest.flatten = [5, 6] := ⟨rfl, rfl⟩
/-- an interleaving a b b a … in which each reader is stepped while the other is inside its header (what a
header buffer shared between connections would get wrong): both readers get their own frame -/
example : (readerResult (runInter 1048576 [true, false, false, true, true, false, true, false, true, false]
      (initReader [[0, 0], [0, 2, 7, 9]], initReader [[0, 0, 0, 1], [5]])).1).map (·.out) = some (.ok [7, 9]) ∧
    (readerResult (runInter 1048576 [true, false, false, true, true, false, true, false, true, false]
      (initReader [[0, 0], [0, 2, 7, 9]], initReader [[0, 0, 0, 1], [5]])).2).map (·.out) = some (.ok [5]) := ⟨rfl, rfl⟩
example : writeFrameTo 1048576 [7, 9] [1, 3] = some [[0], [0, 0, 2], [7, 9]] := rfl
example : (readFrame 1048576 [[0, 0, 0], [0, 1, 1]]).out = .error .size := rfl
example : (readFrame 1048576 [[0, 0, 0, 3], [1, 1]]).out = .error .body := rfl
/-- data-with-error transport: the truncated tail [1, 1] arrives with the EOF and is NOT padded to 3 bytes -/
example : (readFrameE 1048576 [[0, 0, 0, 3], [1, 1]]).out = .error .body := rfl
example : (readFrameE 1048576 [[0, 0], [0, 2, 7], [9, 5], [6]]).out = .ok [7, 9] ∧
    (readFrameE 1048576 [[0, 0], [0, 2, 7], [9, 5], [6]]).rest.flatten = [5, 6] := ⟨rfl, rfl⟩
example : (readFrameE 1048576 [[0, 0, 0, 2, 7], [9]]).out = .error .body := rfl

end Dos.Props.C15
