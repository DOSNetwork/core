/-
C10 — G2 analogue of `g1_generator_valid` / `g1_generator_torsion` / `g1_subgroup_torsion`
(Props/C10Concrete.lean): the G2 generator of the code (twistGen of constants.go, regenerated) is a reduced
triple whose Montgomery decoding is a valid (finite, nonsingular) point of E'(F_p²) : y² = x³ + b', b' = 3/ξ,
in Mathlib's elliptic-curve group; `Order • twistGen = O` there — twistPoint.Mul by `Order` evaluated by the
kernel on residues (`twistGen_torsion`, Proofs/Bn256G2Torsion.lean) and read through `g2_law`; hence
for EVERY element of the subgroup generated by
twistGen, r • P = O and twistPoint.Mul agrees with the scalar reduced modulo the group order: no hypothesis
on the subgroup is left. Only theorems; lemmas in Proofs/Bn256G2Torsion.lean.
-/
import DosModel.Proofs.Bn256G2Torsion
import DosModel.Props.C10Code

namespace Dos.Props.C10G2
open Dos Dos.Bn256 Dos.Gen

/-- the code's twist coefficient decodes to b' = 3/ξ (ξ = i + 9), and its G2 generator is a reduced triple
(x, y, 1, 1) decoding to a valid (finite, nonsingular) point of y² = x³ + b' over F_p²: the hypotheses of
`g2_group_law` are satisfiable at the generator. The curve equation is evaluated by the kernel in Montgomery
gfP2 arithmetic on the regenerated literals and carried along the decoding homomorphism. -/
theorem g2_generator_valid :
    (Fp2.map dec twistB : Fp2 (ZMod Bn256.p)) = Fp2.ofBase 3 / Fp2.xi ∧
    Jac.Reduced2 twistGen ∧ Valid (Fp2.map dec twistB : Fp2 (ZMod Bn256.p)) (Jac.decJ2 twistGen) :=
  ⟨twistBFp_eq, twistGen_reduced, twistGen_valid⟩

/-- non-vacuity: the generator is a FINITE point (z decodes to 1 ≠ 0), so `Valid` above is the nonsingularity
of its affine image, not the identity disjunct -/
example : (Jac.decJ2 twistGen).z ≠ 0 := by
  rw [twistGen_dec_z]; exact one_ne_zero

/-- **r • G2 = O in E'(F_p²)**: the generator has order dividing the (prime) group order — twistPoint.Mul
(twist.go:168) by `Order` evaluated by the kernel on the regenerated constants (`twistGen_torsion`), read
through `g2_group_law` -/
theorem g2_generator_torsion :
    Gen.Bn256.Order • toPoint (Fp2.map dec twistB : Fp2 (ZMod Bn256.p)) (Jac.decJ2 twistGen) = 0 := by
  obtain ⟨_, hr, hv⟩ := g2_generator_valid
  rw [← ((g2_law _).twistMul Gen.Bn256.Order (hr.rep hv)).2.2]
  apply toPoint_inf
  show Fp2.map dec (Jac.twistMul twistGen Gen.Bn256.Order).z = 0
  rw [twistGen_torsion]
  show (⟨dec 0, dec 0⟩ : Fp2 (ZMod Bn256.p)) = ⟨0, 0⟩
  rw [dec_zero]

/-- non-vacuity: the statement is not `0 • P = 0` and not about the identity: Order ≠ 0 and the generator's
point is not O -/
example : Gen.Bn256.Order ≠ 0 ∧
    toPoint (Fp2.map dec twistB : Fp2 (ZMod Bn256.p)) (Jac.decJ2 twistGen) ≠ 0 := by
  refine ⟨by decide, ?_⟩
  have hz : (Jac.decJ2 twistGen).z ≠ 0 := by rw [twistGen_dec_z]; exact one_ne_zero
  rw [toPoint_fin _ _ hz (g2_generator_valid.2.2.resolve_left hz)]
  exact WeierstrassCurve.Affine.Point.some_ne_zero _

/-- hence for EVERY element of the subgroup generated by G2 (everything the library produces from the G2
base point by Add / Neg / Mul, by `g2_group_law`): r • P = O, and twistPoint.Mul agrees with the scalar
reduced modulo the group order — the `n • P = 0` hypothesis of `mul_reduced_scalar` holds on the whole
subgroup, unconditionally -/
theorem g2_subgroup_torsion (a : Jac (Fp2 GFp)) (ha : Jac.Reduced2 a)
    (va : Valid (Fp2.map dec twistB : Fp2 (ZMod Bn256.p)) (Jac.decJ2 a))
    (hk : ∃ k : Nat, toPoint (Fp2.map dec twistB : Fp2 (ZMod Bn256.p)) (Jac.decJ2 a) =
      k • toPoint (Fp2.map dec twistB : Fp2 (ZMod Bn256.p)) (Jac.decJ2 twistGen)) (m : Nat) :
    Gen.Bn256.Order • toPoint (Fp2.map dec twistB : Fp2 (ZMod Bn256.p)) (Jac.decJ2 a) = 0 ∧
    toPoint (Fp2.map dec twistB : Fp2 (ZMod Bn256.p)) (Jac.decJ2 (Jac.twistMul a m)) =
      toPoint (Fp2.map dec twistB : Fp2 (ZMod Bn256.p)) (Jac.decJ2 (Jac.twistMul a (m % Gen.Bn256.Order))) := by
  obtain ⟨k, hk⟩ := hk
  have ht : Gen.Bn256.Order • toPoint (Fp2.map dec twistB : Fp2 (ZMod Bn256.p)) (Jac.decJ2 a) = 0 := by
    rw [hk, nsmul_left_comm, g2_generator_torsion, nsmul_zero]
  exact ⟨ht, ((g2_law _).mul_mod (ha.rep va) ht m).2⟩

/-- non-vacuity: the hypotheses hold at the generator itself (k = 1), and every multiple `twistMul twistGen j`
satisfies them again (reduced, valid — by `g2_group_law` — and equal to j • generator) -/
example (m : Nat) :
    toPoint (Fp2.map dec twistB : Fp2 (ZMod Bn256.p)) (Jac.decJ2 (Jac.twistMul twistGen m)) =
      toPoint (Fp2.map dec twistB : Fp2 (ZMod Bn256.p))
        (Jac.decJ2 (Jac.twistMul twistGen (m % Gen.Bn256.Order))) :=
  (g2_subgroup_torsion twistGen g2_generator_valid.2.1 g2_generator_valid.2.2 ⟨1, (one_nsmul _).symm⟩ m).2

end Dos.Props.C10G2
