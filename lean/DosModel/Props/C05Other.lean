/-
C05 — the adversary that owns OTHER SESSIONS.

`Model/DkgAdv.lean` makes the adversary's knowledge of signed material explicit: besides the responses
honest members emit in the run under attack it owns the answers of an ORACLE – the response the holder
of a long-term key gives, in any other run it takes part in with that key (member list, dealer
polynomial and deal chosen by the adversary, adaptively, before and during the attack), to the deal it
is handed there.  A vss session id hashes dealer key, member keys, commitments and threshold and no
per-run nonce, so such an answer is valid for the same session id in the run under attack.  Deals,
justifications and every other unsigned material of other runs were never excluded: every theorem of
`Props/C05.lean` quantifies over ALL deal, response and key messages and over ALL batches.

What this does to the theorems of `Props/C05.lean`:
* `inconsistent_never_approved`, `complaint_stops_pipeline`, `failed_absorbing`, `finished_approved_all`,
  `reachable_invariant`, `accepted_keys_are_bound`, `forged_key_aborts`, `duplicate_key_aborts` have no
  hypothesis about signatures: they hold verbatim against the stronger adversary.
* `safety` assumed `AuthResp` – "a response verifying under an honest key was signed in THIS run".  The
  oracle makes that false when long-term keys are used in more than one run.  It is replaced by
  - `safety_other_sessions` (keys re-used at will, NO assumption on signatures at all): agreement follows
    from `processed_response_was_verified` – every response of a batch that `getAndProcessResponses`
    worked off was compared with the session id of the deal THIS member holds from that dealer – as soon
    as the other finisher's genuine responses are in the batch (reliable delivery between honest members,
    which the protocol assumes of its broadcast channel), and `second_response_aborts` – a second response
    for an occupied (dealer, responder) slot stops the stage;
  - `safety_fresh_keys` for the pipeline WITH its session layer (`handlePeerMsg` keeps the first response
    per (dealer, responder) from whatever sender, so a genuine response can be displaced): the key under
    which a session's responses are signed is drawn afresh by `genPub` in every `Grouping` call
    (`c05_other_sessions_shape`), oracle answers are signed with other keys, and `AuthRespO` (unforgeability
    WITH the oracle) gives back `AuthResp` (`oracle_useless_with_fresh_keys`);
  - `session_layer_needs_fresh_keys`: with the SAME keys in another run the session layer is NOT safe – the
    concrete run in which two honest member machines finish on different polynomials (replayed on the real
    `handlePeerMsg` and stages by corpus/C05/004).
-/
import DosModel.Props.C05
import DosModel.Proofs.DkgOther

set_option linter.unusedSectionVars false

namespace Dos.Props.C05
open Dos Dos.Vss Dos.Dkg

variable {F G : Type} [Field F] [AddCommGroup G] [Module F G] [DecidableEq F] [DecidableEq G]

/-- regenerated facts for the other-sessions argument: `Verifier.ProcessResponse` hands EVERY response
to `aggregator.verifyResponse` (pinned in `c05_code_shape`: session id, index, signature, then `addResponse`, which refuses an
occupied slot) – together with dkg `ProcessResponse` in `c05_code_shape` (first statement after the two nil/slot checks is
`v.ProcessResponse`) nothing is recorded, skipped or de-duplicated on (dealer, responder) before that comparison; the STATE a
`DistKeyGenerator`, a `Verifier` and an `aggregator` keep (one `responses` map per dealer slot keyed by the responder index;
no other memory of responses); what a response signature covers (`Response.Hash`: session id, index, status – no per-run
nonce); and, for the pipeline with its session layer: `genPub` draws the key a session's responses are signed with afresh in
every `Grouping` call and `Grouping` hands exactly that key to `genDistKeyGenerator` (`secrc`), while `handlePeerMsg` keeps the
FIRST response per (dealer, responder) whoever sent it (`session_layer_needs_fresh_keys`). -/
theorem c05_other_sessions_shape :
    Gen.VssFacts.verifierProcessResponse = [
      "0| func ProcessResponse(resp *Response) error",
      "1| if v.aggregator == nil",
      "2| return ErrNoDealBeforeResponse",
      "1| return v.aggregator.verifyResponse(resp)"] ∧
    Gen.VssFacts.responseHash = [
      "0| func Hash(s suites.Suite) []byte",
      "1| h := s.Hash()",
      "1| _, _ = h.Write([]byte(\"response\"))",
      "1| _, _ = h.Write(r.SessionID)",
      "1| _ = binary.Write(h, binary.LittleEndian, r.Index)",
      "1| _ = binary.Write(h, binary.LittleEndian, r.Status)",
      "1| return h.Sum(nil)"] ∧
    Gen.VssFacts.distKeyGeneratorFields = [
      "suite Suite",
      "index uint32",
      "long kyber.Scalar",
      "pub kyber.Point",
      "participants []kyber.Point",
      "t int",
      "dealer *vss.Dealer",
      "verifiers map[uint32]*vss.Verifier"] ∧
    Gen.VssFacts.aggregatorFields = [
      "suite suites.Suite",
      "dealer kyber.Point",
      "verifiers []kyber.Point",
      "commits []kyber.Point",
      "responses map[uint32]*Response",
      "sid []byte",
      "deal *Deal",
      "t int",
      "badDealer bool"] ∧
    Gen.VssFacts.verifierFields = [
      "suite suites.Suite",
      "longterm kyber.Scalar",
      "pub kyber.Point",
      "dealer kyber.Point",
      "index int",
      "verifiers []kyber.Point",
      "hkdfContext []byte",
      "approved bool",
      "(embedded) *aggregator"] ∧
    Gen.VssFacts.genPub = [
      "0| func genPub(ctx context.Context, logger log.Logger, suite suites.Suite, id []byte, groupIds [][]byte, sessionID string) (out chan interface{}, secrc chan kyber.Scalar, errc chan error)",
      "1| out = make(chan interface{})",
      "1| secrc = make(chan kyber.Scalar)",
      "1| errc = make(chan error)",
      "1| go func() {…}()",
      "2| func()",
      "3| defer close(out)",
      "3| defer close(secrc)",
      "3| defer close(errc)",
      "3| index := -1",
      "3| for i, groupId := range groupIds",
      "4| if r := bytes.Compare(id, groupId); r == 0",
      "5| index = i",
      "5| break",
      "3| if index == -1",
      "4| err := &DKGError{err: errors.Errorf(\"index id failed for GID %s : %w\", sessionID, ErrCanNotFindID)}",
      "4| reportErr(ctx, errc, err)",
      "4| return",
      "3| sec := suite.Scalar().Pick(suite.RandomStream())",
      "3| select",
      "4| case secrc <- sec:",
      "4| case <-ctx.Done():",
      "5| return",
      "3| pub := suite.Point().Mul(sec, nil)",
      "3| bin, err := pub.MarshalBinary()",
      "3| if err != nil",
      "4| err := &DKGError{err: errors.Errorf(\"MarshalBinary failed for GID %s : %w\", sessionID, err)}",
      "4| reportErr(ctx, errc, err)",
      "4| return",
      "3| pubkey := &PublicKey{SessionId: sessionID, Index: uint32(index), Publickey: &vss.PublicKey{Binary: bin}}",
      "3| select",
      "4| case out <- pubkey:",
      "4| case <-ctx.Done():",
      "3| return",
      "1| return"] ∧
    Gen.VssFacts.grouping = [
      "0| func Grouping(ctx context.Context, sessionID string, groupIds [][]byte) (chan [5]*big.Int, chan error, error)",
      "1| group := &group{participants: groupIds}",
      "1| var errcList []chan error",
      "1| if _, loaded := d.groups.LoadOrStore(sessionID, group); loaded",
      "2| return nil, nil, errors.New(\"dkg: duplicate share public key\")",
      "1| selfPubc, secrc, errc := genPub(ctx, d.logger, d.suite, d.p.GetID(), groupIds, sessionID)",
      "1| errcList = append(errcList, errc)",
      "1| selfPubcs := fanOut(ctx, selfPubc, 2)",
      "1| errcList = append(errcList, sendToMembers(ctx, d.logger, selfPubcs[0], d.p, groupIds, sessionID))",
      "1| peerPubc := askMembers(ctx, d.logger, d.bufToNode, len(groupIds)-1, 0, sessionID)",
      "1| errcList = append(errcList, errc)",
      "1| partPubsc, errc := exchangePub(ctx, d.logger, selfPubcs[1], peerPubc, d.p, groupIds, sessionID)",
      "1| errcList = append(errcList, errc)",
      "1| dkgcStep1, errc := genDistKeyGenerator(ctx, d.logger, secrc, partPubsc, len(groupIds), d.suite, sessionID)",
      "1| errcList = append(errcList, errc)",
      "1| dkgcStep2, errc := genDealsAndSend(ctx, d.logger, dkgcStep1, d.p, groupIds, sessionID)",
      "1| errcList = append(errcList, errc)",
      "1| dkgcStep3, respsc, errc := getAndProcessDeals(ctx, d.logger, dkgcStep2, askMembers(ctx, d.logger, d.bufToNode, len(groupIds)-1, 1, sessionID), sessionID)",
      "1| errcList = append(errcList, errc)",
      "1| errcList = append(errcList, sendToMembers(ctx, d.logger, respsc, d.p, groupIds, sessionID))",
      "1| cetifiedDkgc, errc := getAndProcessResponses(ctx, d.logger, dkgcStep3, askMembers(ctx, d.logger, d.bufToNode, (len(groupIds)-1)*(len(groupIds)-1), 2, sessionID), sessionID)",
      "1| errcList = append(errcList, errc)",
      "1| outc, errc := genGroup(ctx, d.logger, group, d.suite, cetifiedDkgc, sessionID)",
      "1| errcList = append(errcList, errc)",
      "1| errc = mergeErrors(ctx, d.logger, sessionID, errcList...)",
      "1| return outc, errc, nil"] ∧
    Gen.VssFacts.handlePeerMsg = [
      "0| func handlePeerMsg(sessionMap map[string][]interface{}, sessionReq map[string]request, p p2p.P2PInterface, sessionID string, content interface{})",
      "1| switch pubkeyFromPeer := content.(type)",
      "2| case *PublicKey:",
      "3| pubkeys := sessionMap[sessionID]",
      "3| for _, p := range pubkeys",
      "4| pubkey, ok := p.(*PublicKey)",
      "4| if ok",
      "5| if pubkey.Index == pubkeyFromPeer.Index",
      "6| return",
      "2| default:",
      "1| switch dealFromPeer := content.(type)",
      "2| case *Deal:",
      "3| deals := sessionMap[sessionID]",
      "3| for _, dd := range deals",
      "4| d, ok := dd.(*Deal)",
      "4| if ok",
      "5| if d.Index == dealFromPeer.Index",
      "6| return",
      "2| default:",
      "1| switch respFromPeer := content.(type)",
      "2| case *Response:",
      "3| if respFromPeer.Response != nil",
      "4| for _, rr := range sessionMap[sessionID]",
      "5| r, ok := rr.(*Response)",
      "5| if ok && r.Response != nil",
      "6| if r.Index == respFromPeer.Index && r.Response.Index == respFromPeer.Response.Index",
      "7| return",
      "2| default:",
      "1| sessionMap[sessionID] = append(sessionMap[sessionID], content)",
      "1| if len(sessionMap[sessionID]) == sessionReq[sessionID].numOfResps",
      "2| select",
      "3| case <-sessionReq[sessionID].ctx.Done():",
      "3| case sessionReq[sessionID].reply <- sessionMap[sessionID]:",
      "2| close(sessionReq[sessionID].reply)",
      "2| delete(sessionMap, sessionID)",
      "2| delete(sessionReq, sessionID)"] :=
  ⟨rfl, rfl, rfl, rfl, rfl, rfl, rfl, rfl⟩

/-- **4a. `processed_response_was_verified` – the lemma that carries the argument.**  If
`getAndProcessResponses` worked a batch off without an error – ANY batch: genuine, forged, replayed
from other sessions, oracle answers – then every message of it named a dealer slot `v` of this member
that holds a deal `dl`, and the response carried exactly the session id of that deal: the id of THIS
member's list, that dealer's key, and the commitments and threshold THIS member was dealt. -/
theorem processed_response_was_verified (g : G) (d0 d : Gen F G) (batch : List (DkgResp F G))
    (hg0 : GoodGen g d0) (ha0 : AllApproved d0) (hrun : runResps g d0 batch = (d, true)) :
    ∀ m ∈ batch, ∃ r v a dl, m.resp = some r ∧ getVerifier d0 m.index = some v ∧ v.agg = some a ∧
      a.deal = some dl ∧ d0.participants[m.index]? = some v.dealer ∧
      r.sid = Sid.h v.dealer d0.participants dl.commits dl.t := by
  intro m hm
  obtain ⟨r, v, a, h1, hv, hagg, hsid⟩ := (runResps_inv g batch d0 d true hg0 ha0 hrun).2.2.2.2.2.2 rfl m hm
  obtain ⟨hdealer, dl, _, _, hdl, _, _, hasid, _⟩ := (Piped.mk hg0 ha0).slot hv hagg
  exact ⟨r, v, a, dl, h1, hv, hagg, hdl, hdealer, by rw [hsid, hasid]⟩

/-- **4b. `second_response_aborts` – the code's reaction to a replay.**  A response for a
(dealer, responder) slot that is already occupied – whichever of the two came first, the replayed or
the genuine one, whatever either carries – is an error of `ProcessResponse`, and the stage stops: the
member does not finish. -/
theorem second_response_aborts (g : G) (d : Gen F G) (m : DkgResp F G) (ms : List (DkgResp F G))
    (r : Response F G) (v : Verifier F G) (a : Agg F G) (hr : m.resp = some r)
    (hv : getVerifier d m.index = some v) (hagg : v.agg = some a)
    (hocc : (getResponse a r.index).isSome = true) :
    runResps g d (m :: ms) = (d, false) := by
  obtain ⟨e, he⟩ := verifyResponse_occupied g a r hocc
  simp [runResps, processResponse, hr, hv, hagg, he]

/-- **4. `safety_other_sessions`.**  Long-term keys may be used in any number of other runs and the
adversary owns every signature produced there (`Model/DkgAdv.lean`): NOTHING is assumed about
signatures.  Take two generators `d0`, `d0'` in any states reachable after the deal stage (`GoodGen`,
`AllApproved`: `reachable_invariant`), at different indices, each inside the other's member list, ANY two
response batches that `getAndProcessResponses` worked off without error, each containing (anywhere, among
anything else) the responses the other member holds as its own for the dealers other than itself
(reliable delivery between honest members), and let both finish.  Then both hold the SAME member list, each
holds the commitments the other dealt, both output the SAME public polynomial, and each private share lies
on it at its own index. -/
theorem safety_other_sessions (g : G) (d0 d d0' d' : Gen F G) (batch batch' : List (DkgResp F G))
    (ks ks' : KeyShare F G)
    (hg0 : GoodGen g d0) (ha0 : AllApproved d0) (hrun : runResps g d0 batch = (d, true))
    (hg0' : GoodGen g d0') (ha0' : AllApproved d0') (hrun' : runResps g d0' batch' = (d', true))
    (hks : genGroup d = .ok ks) (hks' : genGroup d' = .ok ks')
    (hne : d'.index ≠ d.index)
    (hlt' : d'.index < d.participants.length) (hlt : d.index < d'.participants.length)
    (hdel : ∀ j r', j ≠ d'.index → ownRespAt d' j = some r' → (⟨j, some r'⟩ : DkgResp F G) ∈ batch)
    (hdel' : ∀ j r, j ≠ d.index → ownRespAt d j = some r → (⟨j, some r⟩ : DkgResp F G) ∈ batch') :
    d'.participants = d.participants ∧ commitsAt d' d'.index = commitsAt d d'.index ∧
    ks'.commits = ks.commits ∧
    ks.shareV • g = pubEval (S := F) ks.commits (d.index : Int) ∧
    ks'.shareV • g = pubEval (S := F) ks'.commits (d'.index : Int) ∧
    ks.shareI = d.index ∧ ks'.shareI = d'.index := by
  obtain ⟨hg, ha, _⟩ := runResps_inv g batch d0 d true hg0 ha0 hrun
  obtain ⟨hg', ha', _⟩ := runResps_inv g batch' d0' d' true hg0' ha0' hrun'
  have h : Finished g d ks := ⟨⟨hg, ha⟩, hks⟩
  have h' : Finished g d' ks' := ⟨⟨hg', ha'⟩, hks'⟩
  -- equal session ids slot by slot: the other's response about every dealing but its own is in my batch (about MY
  -- dealing: the member lists agree); about its own dealing, mine is in its batch
  obtain ⟨r1, hr1⟩ := finished_has_own h' hlt
  have hp := ((sameSid_of_processed ⟨hg0, ha0⟩ hrun h'.toPiped hr1 (hdel _ _ hne.symm hr1)).agree h.toPiped h'.toPiped).1
  obtain ⟨_, hall, rest⟩ := h.agree h' fun j hj => by
    by_cases hjd : j = d'.index
    · obtain ⟨r, hr⟩ := finished_has_own h hlt'
      exact hjd ▸ (sameSid_of_processed ⟨hg0', ha0'⟩ hrun' h.toPiped hr (hdel' _ _ hne hr)).symm
    · obtain ⟨r3, hr3⟩ := finished_has_own h' (hp ▸ hj)
      exact sameSid_of_processed ⟨hg0, ha0⟩ hrun h'.toPiped hr3 (hdel _ _ hjd hr3)
  exact ⟨hp, hall _ hlt', rest⟩

/-- **5a. `oracle_useless_with_fresh_keys`.**  `AuthRespO` is unforgeability WITH the oracle: a stored
response verifying under `pubk` was signed by its holder in this run, or its signature is that of an
oracle answer given under a key used in other runs (`otherKeys`).  If no other run uses a key whose public
key is `pubk`, it gives back `AuthResp`: an oracle answer is signed with the key the oracle was asked
under (`oracleAnswer_sig`) and does not verify under `pubk`. -/
theorem oracle_useless_with_fresh_keys (g : G) (pubk : G) (d dk : Gen F G) (otherKeys : F → Prop)
    (hfresh : ∀ long, otherKeys long → long • g ≠ pubk) (h : AuthRespO g pubk d dk otherKeys) :
    AuthResp g pubk d dk := by
  intro j v a r st hv hagg hr hsig
  rcases h j v a r st hv hagg hr hsig with hthis | ⟨long, ps, f, dd, m, ro, hk, ho, hro, hs⟩
  · exact hthis
  · exfalso
    obtain ⟨sid, i, st', rnd, hsg⟩ := oracleAnswer_sig g long ps f dd m ro ho hro
    rw [hsg] at hs
    have := (verifyRespSig_iff g pubk { r with status := st }).1 hsig
    obtain ⟨sk, rnd', h1, h2⟩ := this
    simp only at h1
    rw [hs] at h1
    injection h1 with e1
    exact hfresh long hk (by rw [e1]; exact h2)

/-- **5. `safety_fresh_keys`** – `safety` for the pipeline with its session layer, against the adversary
that owns other sessions: ANY two member machines in ANY reachable finished states; unforgeability WITH
the oracle in both directions; the keys of this run are used in no other run (`genPub` draws them in
every `Grouping` call: `c05_other_sessions_shape`). -/
theorem safety_fresh_keys (g : G) (m m' : Member F G) (d d' : Gen F G) (ks ks' : KeyShare F G)
    (otherKeys : F → Prop)
    (hm : MemberInv g m) (hm' : MemberInv g m') (hst : m.stage = .done d ks) (hst' : m'.stage = .done d' ks')
    (hne : d'.index ≠ d.index)
    (hpub' : d.participants[d'.index]? = some (d'.long • g)) (hpub : d'.participants[d.index]? = some (d.long • g))
    (hfresh' : ∀ long, otherKeys long → long • g ≠ d'.long • g) (hfresh : ∀ long, otherKeys long → long • g ≠ d.long • g)
    (hauth : AuthRespO g (d'.long • g) d d' otherKeys) (hauth' : AuthRespO g (d.long • g) d' d otherKeys) :
    d'.participants = d.participants ∧ commitsAt d' d'.index = commitsAt d d'.index ∧
    ks'.commits = ks.commits ∧
    ks.shareV • g = pubEval (S := F) ks.commits (d.index : Int) ∧
    ks'.shareV • g = pubEval (S := F) ks'.commits (d'.index : Int) ∧
    ks.shareI = d.index ∧ ks'.shareI = d'.index :=
  safety g m m' d d' ks ks' hm hm' hst hst' hne hpub' hpub
    (oracle_useless_with_fresh_keys g _ d d' otherKeys hfresh' hauth)
    (oracle_useless_with_fresh_keys g _ d' d otherKeys hfresh hauth')

/-! ### non-vacuity and the negation witness (ℚ, `g = 1`): members 0, 1 honest (keys 5, 7), member 2 Byzantine (key 9) -/

section Examples
def exEphs : List (List ℚ) := [[11, 12, 13], [21, 22, 23], [31, 32, 33]]
def exPairs : List (Nat × Nat) := [(0, 1), (0, 2), (1, 0), (1, 2), (2, 0), (2, 1)]
def exStarts : List Ev := [.start 0, .start 1, .start 2] ++ exPairs.map (fun p => Ev.pk p.1 p.2)

def stageGen (s : Sys ℚ ℚ) (i : Nat) : Option (Gen ℚ ℚ) :=
  (s.ms[i]?).bind (fun m => match m.stage with | .waitResps d => some d | _ => none)
/-- the default response batch of member `i`: the `Responses` messages of the other members -/
def respBatch (s : Sys ℚ ℚ) (i : Nat) : List (DkgResp ℚ ℚ) :=
  ((List.range 3).filter (· ≠ i)).flatMap (fun k => ((s.ms[k]?).bind sentResps).getD [])
def isOk {α : Type} : Out α → Bool | .ok _ => true | _ => false
/-- every own response of `d'` for a dealer other than itself is in `batch` -/
def delivered (d' : Gen ℚ ℚ) (batch : List (DkgResp ℚ ℚ)) : Bool :=
  ((List.range 3).filter (· ≠ d'.index)).all (fun j =>
    match ownRespAt d' j with | some r => batch.contains ⟨j, some r⟩ | none => false)

/-- an honest run up to the end of every deal stage -/
def exPre : Sys ℚ ℚ := runEvents exCfg exEphs (exStarts ++ exPairs.map (fun p => Ev.deal p.1 p.2))

-- 4 / 4a: members 0 and 1 work their default batches off, finish, and each batch holds the other's own responses
def exHonestCheck : Option (List Bool × Nat) := do
  let d0 ← stageGen exPre 0; let d0' ← stageGen exPre 1
  let r := runResps 1 d0 (respBatch exPre 0); let r' := runResps 1 d0' (respBatch exPre 1)
  pure ([r.2, r'.2, isOk (genGroup r.1), isOk (genGroup r'.1), delivered r'.1 (respBatch exPre 0),
    delivered r.1 (respBatch exPre 1), r'.1.index != r.1.index], (respBatch exPre 0).length)
example : exHonestCheck = some ([true, true, true, true, true, true, true], 4) := by decide +kernel

/-- b's polynomials and its deals sealed with its own key -/
def exP1 : List ℚ := [40, 3]
def exP2 : List ℚ := [50, 4]
def exSeal (f : List ℚ) (i : Nat) : Option (EncDeal ℚ ℚ) :=
  sealDeal (1 : ℚ) 9 exL i 77 0 (.deal (honestDeal (1 : ℚ) 9 exL f i))
/-- ORACLE answers: in runs of their own, with the same long-term keys, member 1 (key 7) is dealt `exP1` by b and
member 0 (key 5) is dealt `exP2`; both approve -/
def exOracle1 : Option (DkgResp ℚ ℚ) := oracleAnswer (1 : ℚ) 7 exL [60, 1] ⟨2, exSeal exP1 1⟩
def exOracle0 : Option (DkgResp ℚ ℚ) := oracleAnswer (1 : ℚ) 5 exL [61, 2] ⟨2, exSeal exP2 0⟩
def exInj (s : Sys ℚ ℚ) (i : Nat) (f : Member ℚ ℚ → Member ℚ ℚ) : Sys ℚ ℚ := { s with ms := s.ms.modify i f }
/-- the run under attack up to the end of the deal stages: b deals `exP1` to member 0 and `exP2` to member 1 -/
def exAttackDeals : Sys ℚ ℚ :=
  let s0 := runEvents exCfg exEphs (exStarts ++ [.deal 1 0, .deal 0 1, .deal 0 2, .deal 1 2])
  let s1 := exInj s0 0 (fun m => m.recvDeal 1 ⟨2, exSeal exP1 0⟩)
  exInj s1 1 (fun m => m.recvDeal 1 ⟨2, exSeal exP2 1⟩)

-- the oracle answers are approvals, signed with the honest keys, carrying the session ids of b's two dealings
example : (exOracle1.bind (·.resp)).map (fun r => (r.index, r.status, r.sid == Sid.h 9 exL [40, 3] 2)) = some (1, true, true) ∧
    (exOracle0.bind (·.resp)).map (fun r => (r.index, r.status, r.sid == Sid.h 9 exL [50, 4] 2)) = some (0, true, true) := by
  decide +kernel

-- 4 / 4b, the code's reaction at stage level: member 0 gets the oracle answer (member 1 approving `exP1`)
-- BEFORE the genuine responses: the genuine response of member 1 about b (it holds `exP2`) hits the occupied slot and
-- the stage stops; delivered the other way round, the genuine one is refused for its session id. Nobody finishes.
def exReaction : Option (List Bool) := do
  let d0 ← stageGen exAttackDeals 0; let o ← exOracle1
  pure [(runResps 1 d0 (o :: respBatch exAttackDeals 0)).2, (runResps 1 d0 (respBatch exAttackDeals 0 ++ [o])).2,
    (runResps 1 d0 (respBatch exAttackDeals 0)).2]
example : exReaction = some [false, false, false] := by decide +kernel

/-- **6. `session_layer_needs_fresh_keys` – negation witness for the pipeline with RE-USED keys.**  The
same attack through the session layer (`handlePeerMsg` keeps the first response per (dealer, responder)):
the oracle answers arrive first, the genuine responses of the other honest member about b are dropped as
duplicates and never reach `ProcessResponse`.  Every message the two honest machines receive is a message of
an honest member of this run, a deal sealed with b's own key, a response signed by b, or an oracle answer;
both FINISH, on different public polynomials.  `safety_fresh_keys` therefore needs its freshness hypothesis,
and `safety_other_sessions` its delivery hypothesis. -/
theorem session_layer_needs_fresh_keys :
    let s3 := exInj exAttackDeals 0 (fun m => match exOracle1 with | some x => m.recvResp 1 x | none => m)
    let s4 := exInj s3 1 (fun m => match exOracle0 with | some x => m.recvResp 1 x | none => m)
    let fin := [Ev.resps 1 0, .resps 2 0, .resps 0 1, .resps 2 1].foldl (stepEv (1 : ℚ)) s4
    fin.ms.map (fun m => match m.stage with | .done _ ks => some ks.commits | _ => none) =
      [some [50, 6], some [60, 7], none] := by
  decide +kernel

-- 5a / 5: the oracle answer does not verify under any other key (here: a fresh key 17 instead of 7)
example : (exOracle1.bind (·.resp)).map (fun r => (verifyRespSig (1 : ℚ) 7 r, verifyRespSig (1 : ℚ) 17 r)) = some (true, false) := by
  decide +kernel
end Examples

end Dos.Props.C05
