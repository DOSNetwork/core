/-
C10 / E7 — the tie between the CODE and the hand models of the tower fields, the curves and the
pairing. `Gen/Bn256Code.lean` is regenerated on every check run by `go/extract/bn256code`
(go/ast): each Go function of gfp2.go, gfp6.go, gfp12.go, curve.go, twist.go, optate.go is
evaluated symbolically (pointer destinations, the real evaluation order, receiver aliasing at
every call site) into a pure Lean function over an abstract base type.

Here: every generated function EQUALS the hand-written model function that the theorems of
Props/C10Tower, C10Curve, C10FinalExp, C10Concrete, C10Pairing are about — as functions, over
every base type with `+ - * neg 0 1 ⁻¹` (no ring axioms needed: the two sides perform the same
operations in the same order). So a change of the Go arithmetic (a sign, an operand, a
statement moved across a store) breaks an obligation below before any differential run, and every
theorem about the hand model is a theorem about the code-derived function (last section).
Only theorems; helper lemmas in Proofs/Bn256Code.lean.
-/
import DosModel.Proofs.Bn256Code
import DosModel.Proofs.KernelRfl
import DosModel.Model.Bn256CPairing
import DosModel.Props.C10Tower
import DosModel.Props.C10Curve
import DosModel.Props.C10FinalExp

set_option linter.unusedSectionVars false
-- `simp only [f, code_tie]` hands every proof the whole set of ties; each uses the few of its callees
set_option linter.unusedSimpArgs false

namespace Dos.Props.C10Code
open Dos.Bn256 Dos.Gen Dos.Gen.Bn256Code Dos.Bn256.CodeTie

/-! ## the translator's own facts -/

/-- the translator covered exactly these Go functions (a new method of the eight types or a new function
of optate.go / point.go / gfp.go appears here and has no tie yet; what is skipped is the table `skipped`,
pinned in Props/C10Kyber: formatting, sizes and the byte-level codec, which is property C11's) -/
theorem translated_functions :
    Bn256Code.translated.map (fun r => r.1) =
      -- in source order, file by file (gfp2, gfp6, gfp12, curve, twist, optate, point, gfp); point.go's `Mul` once per
      -- case of its optional point argument; the ties of point.go / gfp.go are in Props/C10Kyber
      ["gfP2.Set", "gfP2.SetZero", "gfP2.SetOne", "gfP2.IsZero", "gfP2.IsOne", "gfP2.Conjugate", "gfP2.Neg",
       "gfP2.Add", "gfP2.Sub", "gfP2.Mul", "gfP2.MulScalar", "gfP2.MulXi", "gfP2.Square", "gfP2.Invert",
       "gfP6.Set", "gfP6.SetZero", "gfP6.SetOne", "gfP6.IsZero", "gfP6.IsOne", "gfP6.Neg", "gfP6.Frobenius",
       "gfP6.FrobeniusP2", "gfP6.FrobeniusP4", "gfP6.Add", "gfP6.Sub", "gfP6.Mul", "gfP6.MulScalar",
       "gfP6.MulGFP", "gfP6.MulTau", "gfP6.Square", "gfP6.Invert", "gfP12.Set", "gfP12.SetZero",
       "gfP12.SetOne", "gfP12.IsZero", "gfP12.IsOne", "gfP12.Conjugate", "gfP12.Neg", "gfP12.Frobenius",
       "gfP12.FrobeniusP2", "gfP12.FrobeniusP4", "gfP12.Add", "gfP12.Sub", "gfP12.Mul", "gfP12.MulScalar",
       "gfP12.Exp", "gfP12.Square", "gfP12.Invert", "curvePoint.Set", "curvePoint.IsOnCurve",
       "curvePoint.SetInfinity", "curvePoint.IsInfinity", "curvePoint.Add", "curvePoint.Double",
       "curvePoint.Mul", "curvePoint.MakeAffine", "curvePoint.Neg", "twistPoint.Set", "twistPoint.IsOnCurve",
       "twistPoint.SetInfinity", "twistPoint.IsInfinity", "twistPoint.Add", "twistPoint.Double",
       "twistPoint.Mul", "twistPoint.MakeAffine", "twistPoint.Neg", "lineFunctionAdd", "lineFunctionDouble",
       "mulLine", "miller", "finalExponentiation", "optimalAte", "newPointG1", "pointG1.Null", "pointG1.Base",
       "pointG1.Pick", "pointG1.Set", "pointG1.Add", "pointG1.Sub", "pointG1.Neg", "pointG1.Mul",
       "pointG1.Mul[q=nil]", "newPointG2", "pointG2.Null", "pointG2.Base", "pointG2.Pick", "pointG2.Set",
       "pointG2.Add", "pointG2.Sub", "pointG2.Neg", "pointG2.Mul", "pointG2.Mul[q=nil]", "newPointGT",
       "pointGT.Null", "pointGT.Base", "pointGT.Pick", "pointGT.Set", "pointGT.Add", "pointGT.Sub",
       "pointGT.Neg", "pointGT.Mul", "pointGT.Mul[q=nil]", "pointGT.Finalize", "pointGT.Miller",
       "pointGT.Pair", "pointGT.PairingCheck", "newGFp", "gfP.Set", "gfP.Invert", "montEncode", "montDecode"] := rfl

/-- **alias safety of the code**: for every translated function and every identification of its same-typed
pointer parameters (receiver = argument, both arguments equal, all three equal), evaluating the Go body with
those pointers aliased gives textually the no-alias translation with the parameters identified. (A `Double` that
reads `a.y` after storing `c.y` — what /repo 5259913 repaired — fails this obligation.) -/
theorem code_alias_safe :
    Bn256Code.aliasTable.all (fun r => r.2.2) = true ∧ Bn256Code.aliasTable.length = 121 := by decide

/-- the loop of `miller` was unrolled over the digits of `sixuPlus2NAF` as E1 extracts them -/
theorem miller_unrolled_over_the_naf : Bn256Code.unrolledNAF = Dos.Gen.Bn256.sixuPlus2NAF := by decide

/-- the translator reads `*newGFp(0)` as 0 and `*newGFp(1)` as 1: in the Montgomery model `newGFp 0` is the zero
limbs and `1` IS `newGFp 1` -/
theorem newGFp_zero_one : GFp.newGFp 0 = 0 ∧ (1 : GFp) = GFp.newGFp 1 := ⟨by decide +kernel, rfl⟩

/-! ## gfp2.go -/
@[code_tie]
theorem gen_gfP2_set_eq_model {α : Type} : @gfP2_set α = fun a => a := rfl
theorem gen_gfP2_setZero_eq_model {α : Type} [Zero α] : @gfP2_setZero α _ = Fp2.zero := rfl
@[code_tie]
theorem gen_gfP2_setOne_eq_model {α : Type} [Zero α] [One α] : @gfP2_setOne α _ _ = Fp2.one := rfl
/-- IsZero / IsOne compare the two limb groups separately; the model compares the structure -/
theorem gen_gfP2_isZero_eq_model {α : Type} [Zero α] [DecidableEq α] :
    @gfP2_isZero α _ _ = fun e => decide (e = Fp2.zero) := by
  funext e; exact gfP2_isZero_eq e
theorem gen_gfP2_isOne_eq_model {α : Type} [Zero α] [One α] [DecidableEq α] :
    @gfP2_isOne α _ _ _ = fun e => decide (e = Fp2.one) := by
  funext e; exact gfP2_isOne_eq e
@[code_tie]
theorem gen_gfP2_conjugate_eq_model {α : Type} [Neg α] : @gfP2_conjugate α _ = Fp2.conjugate := rfl
@[code_tie]
theorem gen_gfP2_neg_eq_model {α : Type} [Neg α] : @gfP2_neg α _ = Fp2.neg := rfl
@[code_tie]
theorem gen_gfP2_add_eq_model {α : Type} [Add α] : @gfP2_add α _ = Fp2.add := rfl
@[code_tie]
theorem gen_gfP2_sub_eq_model {α : Type} [Sub α] : @gfP2_sub α _ = Fp2.sub := rfl
@[code_tie]
theorem gen_gfP2_mul_eq_model {α : Type} [Add α] [Sub α] [Mul α] : @gfP2_mul α _ _ _ = Fp2.mul := rfl
@[code_tie]
theorem gen_gfP2_mulScalar_eq_model {α : Type} [Mul α] : @gfP2_mulScalar α _ = Fp2.mulScalar := rfl
@[code_tie]
theorem gen_gfP2_mulXi_eq_model {α : Type} [Add α] [Sub α] : @gfP2_mulXi α _ _ = Fp2.mulXi := rfl
@[code_tie]
theorem gen_gfP2_square_eq_model {α : Type} [Add α] [Sub α] [Mul α] : @gfP2_square α _ _ _ = Fp2.square := rfl
@[code_tie]
theorem gen_gfP2_invert_eq_model {α : Type} [Add α] [Neg α] [Mul α] [Inv α] :
    @gfP2_invert α _ _ _ _ = Fp2.invert := rfl

example : gfP2_mul (⟨1, 2⟩ : Fp2 Int) ⟨3, 4⟩ = ⟨10, 5⟩ := by decide
example : gfP2_mulXi (⟨1, 2⟩ : Fp2 Int) = ⟨11, 17⟩ := by decide
example : gfP2_square (⟨1, 2⟩ : Fp2 Int) = gfP2_mul ⟨1, 2⟩ ⟨1, 2⟩ := by decide
example : gfP2_isZero (⟨0, 0⟩ : Fp2 Int) = true ∧ gfP2_isZero (⟨0, 1⟩ : Fp2 Int) = false ∧
    gfP2_isOne (⟨0, 1⟩ : Fp2 Int) = true := by decide

/-! ## gfp6.go (the longer bodies are first rewritten with the ties of gfp2.go, so that the comparison with the
model is syntactic; a plain `rfl` re-checks the shared subterms of the `let`s once per use) -/
@[code_tie]
theorem gen_gfP6_set_eq_model {α : Type} : @gfP6_set α = fun a => a := rfl
theorem gen_gfP6_setZero_eq_model {α : Type} [Zero α] : @gfP6_setZero α _ = Fp6.zero := rfl
theorem gen_gfP6_setOne_eq_model {α : Type} [Zero α] [One α] : @gfP6_setOne α _ _ = Fp6.one := rfl
@[code_tie]
theorem gen_gfP6_isZero_eq_model {α : Type} [Zero α] [DecidableEq α] :
    @gfP6_isZero α _ _ = fun e => decide (e = Fp6.zero) := by
  funext e
  simp only [gfP6_isZero, gfP2_isZero_eq, fp6_eq_iff, Fp6.zero, Bool.decide_and, Bool.and_assoc]
@[code_tie]
theorem gen_gfP6_isOne_eq_model {α : Type} [Zero α] [One α] [DecidableEq α] :
    @gfP6_isOne α _ _ _ = fun e => decide (e = Fp6.one) := by
  funext e
  simp only [gfP6_isOne, gfP2_isZero_eq, gfP2_isOne_eq, fp6_eq_iff, Fp6.one, Bool.decide_and, Bool.and_assoc]
@[code_tie]
theorem gen_gfP6_neg_eq_model {α : Type} [Neg α] : @gfP6_neg α _ = Fp6.neg := rfl
@[code_tie]
theorem gen_gfP6_frobenius_eq_model {α : Type} [Add α] [Sub α] [Neg α] [Mul α] :
    @gfP6_frobenius α _ _ _ _ = Fp6.frobeniusG := rfl
@[code_tie]
theorem gen_gfP6_frobeniusP2_eq_model {α : Type} [Mul α] : @gfP6_frobeniusP2 α _ = Fp6.frobeniusP2G := rfl
@[code_tie]
theorem gen_gfP6_frobeniusP4_eq_model {α : Type} [Mul α] : @gfP6_frobeniusP4 α _ = Fp6.frobeniusP4G := rfl
@[code_tie]
theorem gen_gfP6_add_eq_model {α : Type} [Add α] : @gfP6_add α _ = Fp6.add := rfl
@[code_tie]
theorem gen_gfP6_sub_eq_model {α : Type} [Sub α] : @gfP6_sub α _ = Fp6.sub := rfl
@[code_tie]
theorem gen_gfP6_mul_eq_model {α : Type} [Add α] [Sub α] [Mul α] : @gfP6_mul α _ _ _ = Fp6.mul := by
  funext a b
  simp only [gfP6_mul, code_tie]
  rfl
@[code_tie]
theorem gen_gfP6_mulScalar_eq_model {α : Type} [Add α] [Sub α] [Mul α] :
    @gfP6_mulScalar α _ _ _ = Fp6.mulScalar := rfl
@[code_tie]
theorem gen_gfP6_mulGFP_eq_model {α : Type} [Mul α] : @gfP6_mulGFP α _ = Fp6.mulGFP := rfl
@[code_tie]
theorem gen_gfP6_mulTau_eq_model {α : Type} [Add α] [Sub α] : @gfP6_mulTau α _ _ = Fp6.mulTau := rfl
@[code_tie]
theorem gen_gfP6_square_eq_model {α : Type} [Add α] [Sub α] [Mul α] : @gfP6_square α _ _ _ = Fp6.square := by
  funext a
  simp only [gfP6_square, code_tie]
  rfl
@[code_tie]
theorem gen_gfP6_invert_eq_model {α : Type} [Add α] [Sub α] [Neg α] [Mul α] [Inv α] :
    @gfP6_invert α _ _ _ _ _ = Fp6.invert := by
  funext a
  simp only [gfP6_invert, code_tie]
  rfl

example : gfP6_mul (⟨⟨1, 0⟩, ⟨0, 1⟩, ⟨2, 3⟩⟩ : Fp6 Int) ⟨⟨1, 0⟩, ⟨0, 1⟩, ⟨2, 3⟩⟩ =
    gfP6_square ⟨⟨1, 0⟩, ⟨0, 1⟩, ⟨2, 3⟩⟩ := by decide
example : gfP6_mulTau (⟨⟨1, 2⟩, ⟨3, 4⟩, ⟨5, 6⟩⟩ : Fp6 Int) = ⟨⟨3, 4⟩, ⟨5, 6⟩, ⟨11, 17⟩⟩ := by decide

/-! ## gfp12.go (proved from the ties of the callees, so that no tower is unfolded twice) -/
@[code_tie]
theorem gen_gfP12_set_eq_model {α : Type} : @gfP12_set α = fun a => a := rfl
theorem gen_gfP12_setZero_eq_model {α : Type} [Zero α] : @gfP12_setZero α _ = Fp12.zero := rfl
@[code_tie]
theorem gen_gfP12_setOne_eq_model {α : Type} [Zero α] [One α] : @gfP12_setOne α _ _ = Fp12.one := rfl
theorem gen_gfP12_isZero_eq_model {α : Type} [Zero α] [DecidableEq α] :
    @gfP12_isZero α _ _ = fun e => decide (e = Fp12.zero) := by
  funext e
  simp only [gfP12_isZero, fp12_eq_iff, Fp12.zero, Bool.decide_and, code_tie]
theorem gen_gfP12_isOne_eq_model {α : Type} [Zero α] [One α] [DecidableEq α] :
    @gfP12_isOne α _ _ _ = fun e => decide (e = Fp12.one) := by
  funext e
  simp only [gfP12_isOne, fp12_eq_iff, Fp12.one, Bool.decide_and, code_tie]
@[code_tie]
theorem gen_gfP12_conjugate_eq_model {α : Type} [Neg α] : @gfP12_conjugate α _ = Fp12.conjugate := rfl
theorem gen_gfP12_neg_eq_model {α : Type} [Neg α] : @gfP12_neg α _ = Fp12.neg := rfl
@[code_tie]
theorem gen_gfP12_frobenius_eq_model {α : Type} [Add α] [Sub α] [Neg α] [Mul α] :
    @gfP12_frobenius α _ _ _ _ = Fp12.frobeniusG := by
  funext cs a
  simp only [gfP12_frobenius, code_tie]; rfl
@[code_tie]
theorem gen_gfP12_frobeniusP2_eq_model {α : Type} [Mul α] : @gfP12_frobeniusP2 α _ = Fp12.frobeniusP2G := by
  funext cs a
  simp only [gfP12_frobeniusP2, code_tie]; rfl
theorem gen_gfP12_frobeniusP4_eq_model {α : Type} [Mul α] : @gfP12_frobeniusP4 α _ = Fp12.frobeniusP4G := by
  funext cs a
  simp only [gfP12_frobeniusP4, code_tie]; rfl
theorem gen_gfP12_add_eq_model {α : Type} [Add α] : @gfP12_add α _ = Fp12.add := rfl
theorem gen_gfP12_sub_eq_model {α : Type} [Sub α] : @gfP12_sub α _ = Fp12.sub := rfl
@[code_tie]
theorem gen_gfP12_mul_eq_model {α : Type} [Add α] [Sub α] [Mul α] : @gfP12_mul α _ _ _ = Fp12.mul := by
  funext a b
  simp only [gfP12_mul, code_tie]; rfl
/-- `e.MulScalar(a, b)` multiplies the RECEIVER's halves: the translation has no parameter `a` at all -/
@[code_tie]
theorem gen_gfP12_mulScalar_eq_model {α : Type} [Add α] [Sub α] [Mul α] :
    @gfP12_mulScalar α _ _ _ = fun e b => Fp12.mulScalarRecv e e b := by
  funext e b
  simp only [gfP12_mulScalar, code_tie]; rfl
@[code_tie]
theorem gen_gfP12_square_eq_model {α : Type} [Add α] [Sub α] [Mul α] :
    @gfP12_square α _ _ _ = Fp12.square := by
  funext a
  simp only [gfP12_square, code_tie]; rfl
@[code_tie]
theorem gen_gfP12_invert_eq_model {α : Type} [Add α] [Sub α] [Neg α] [Mul α] [Inv α] :
    @gfP12_invert α _ _ _ _ _ = Fp12.invert := by
  funext a
  simp only [gfP12_invert, code_tie]; rfl
/-- Exp: the translated loop carries (sum, t) — the two objects the body writes —, the model only `sum` -/
@[code_tie]
theorem gen_gfP12_exp_eq_model {α : Type} [Add α] [Sub α] [Mul α] [Zero α] [One α] :
    @gfP12_exp α _ _ _ _ _ = Fp12.exp := by
  funext a power
  simp only [gfP12_exp, code_tie]
  rw [foldl_fst _ (fun sum i => if power.testBit i then (sum.square).mul a else sum.square)]
  · rfl
  · intro s i; exact ite_fst _ _ _ _

example : gfP12_exp (⟨⟨⟨0, 0⟩, ⟨0, 0⟩, ⟨0, 0⟩⟩, ⟨⟨0, 0⟩, ⟨0, 0⟩, ⟨0, 2⟩⟩⟩ : Fp12 Int) 10 =
    ⟨⟨⟨0, 0⟩, ⟨0, 0⟩, ⟨0, 0⟩⟩, ⟨⟨0, 0⟩, ⟨0, 0⟩, ⟨0, 1024⟩⟩⟩ := by decide +kernel

/-! ## curve.go: the hand model `Jac K` at K = α with squaring `a * a` (gfpMul(c, a, a): `sqMul`, which at
α = GFp is the model's `Sq GFp` instance) -/
section curve
attribute [local instance] sqMul

@[code_tie]
theorem gen_curvePoint_set_eq_model {α : Type} : @curvePoint_set α = fun a => a := rfl
@[code_tie]
theorem gen_curvePoint_setInfinity_eq_model {α : Type} [Zero α] [One α] :
    @curvePoint_setInfinity α _ _ = Jac.infinity := rfl
@[code_tie]
theorem gen_curvePoint_isInfinity_eq_model {α : Type} [Zero α] [DecidableEq α] :
    @curvePoint_isInfinity α _ _ = Jac.isInfinity := rfl
@[code_tie]
theorem gen_curvePoint_makeAffine_eq_model {α : Type} [Mul α] [Zero α] [One α] [Inv α] [DecidableEq α] :
    @curvePoint_makeAffine α _ _ _ _ _ = Jac.makeAffine := rfl
/-- the receiver's previous value is a parameter: its `t` survives -/
@[code_tie]
theorem gen_curvePoint_double_eq_model {α : Type} [Add α] [Sub α] [Mul α] :
    @curvePoint_double α _ _ _ = Jac.double := rfl
@[code_tie]
theorem gen_curvePoint_add_eq_model {α : Type} [Add α] [Sub α] [Mul α] [Zero α] [DecidableEq α] :
    @curvePoint_add α _ _ _ _ _ = Jac.add := rfl
theorem gen_curvePoint_neg_eq_model {α : Type} [Neg α] [Zero α] :
    @curvePoint_neg α _ _ = fun a => Jac.neg a 0 := rfl
theorem gen_curvePoint_mul_eq_model {α : Type} [Add α] [Sub α] [Mul α] [Zero α] [One α] [DecidableEq α] :
    @curvePoint_mul α _ _ _ _ _ _ = Jac.curveMul := by
  funext a scalar
  simp only [curvePoint_mul, ite_pair, code_tie]
  rfl
/-- IsOnCurve normalises the receiver (first component) and tests y² = x³ + curveB -/
theorem gen_curvePoint_isOnCurve_eq_model {α : Type} [Add α] [Mul α] [Zero α] [One α] [Inv α] [DecidableEq α]
    (curveB : α) (c : Jac α) :
    curvePoint_isOnCurve curveB c =
      (Jac.makeAffine c, if (Jac.makeAffine c).isInfinity then true
        else decide ((Jac.makeAffine c).y * (Jac.makeAffine c).y =
          (Jac.makeAffine c).x * (Jac.makeAffine c).x * (Jac.makeAffine c).x + curveB)) := by
  have hi : curvePoint_isInfinity (curvePoint_makeAffine c) = (Jac.makeAffine c).isInfinity := rfl
  unfold curvePoint_isOnCurve
  cases h : (Jac.makeAffine c).isInfinity <;> simp only [hi, h] <;> rfl
theorem gen_curvePoint_isOnCurve_eq_model_gfp (c : G1J) :
    (curvePoint_isOnCurve (GFp.newGFp 3) c).2 = curveIsOnCurve c := by
  rw [gen_curvePoint_isOnCurve_eq_model]; rfl

/-- at the Montgomery gfP the two Neg translations are the driver's `curveNeg` / `twistNeg` -/
theorem gen_neg_eq_model_gfp : @curvePoint_neg GFp _ _ = curveNeg ∧ @twistPoint_neg GFp _ = twistNeg :=
  ⟨rfl, rfl⟩

example : curvePoint_add (⟨0, 0, 0, 0⟩ : Jac Int) ⟨1, 2, 1, 1⟩ ⟨4, 16, 2, 4⟩ =
    curvePoint_double ⟨0, 0, 0, 0⟩ ⟨1, 2, 1, 1⟩ := by decide
example : (curvePoint_double (⟨0, 0, 0, 7⟩ : Jac Int) ⟨1, 2, 1, 1⟩).t = 7 := by decide
end curve

/-! ## twist.go: the hand model `Jac K` at K = Fp2 α (the instances of Model/Bn256Tower.lean) -/
@[code_tie]
theorem gen_twistPoint_set_eq_model {α : Type} : @twistPoint_set α = fun a => a := rfl
theorem gen_twistPoint_setInfinity_eq_model {α : Type} [Zero α] [One α] :
    @twistPoint_setInfinity α _ _ = Jac.infinity := rfl
@[code_tie]
theorem gen_twistPoint_isInfinity_eq_model {α : Type} [Zero α] [DecidableEq α] :
    @twistPoint_isInfinity α _ _ = Jac.isInfinity := by
  funext c
  simp only [twistPoint_isInfinity, gfP2_isZero_eq]; rfl
@[code_tie]
theorem gen_twistPoint_makeAffine_eq_model {α : Type} [Add α] [Sub α] [Neg α] [Mul α] [Zero α] [One α] [Inv α] [DecidableEq α] :
    @twistPoint_makeAffine α _ _ _ _ _ _ _ _ = Jac.makeAffine := by
  funext c
  simp only [twistPoint_makeAffine, gfP2_isZero_eq, gfP2_isOne_eq, decide_eq_true_eq]
  rfl
@[code_tie]
theorem gen_twistPoint_double_eq_model {α : Type} [Add α] [Sub α] [Mul α] :
    @twistPoint_double α _ _ _ = Jac.double := by
  funext c a
  simp only [twistPoint_double, code_tie]
  rfl
@[code_tie]
theorem gen_twistPoint_add_eq_model {α : Type} [Add α] [Sub α] [Mul α] [Zero α] [DecidableEq α] :
    @twistPoint_add α _ _ _ _ _ = Jac.add := by
  funext c a b
  simp only [twistPoint_add, gfP2_isZero_eq, code_tie]
  rfl
/-- Neg keeps `t` (/repo 4406972) -/
@[code_tie]
theorem gen_twistPoint_neg_eq_model {α : Type} [Neg α] : @twistPoint_neg α _ = fun a => Jac.neg a a.t := rfl
@[code_tie]
theorem gen_twistPoint_mul_eq_model {α : Type} [Add α] [Sub α] [Mul α] [Zero α] [DecidableEq α] :
    @twistPoint_mul α _ _ _ _ _ = Jac.twistMul := by
  funext a scalar
  simp only [twistPoint_mul, ite_pair, code_tie]
  rfl
theorem gen_twistPoint_isOnCurve_eq_model {α : Type} [Add α] [Sub α] [Neg α] [Mul α] [Zero α] [One α] [Inv α]
    [DecidableEq α] (order : Nat) (twistB : Fp2 α) (c : Jac (Fp2 α)) :
    twistPoint_isOnCurve order twistB c =
      (Jac.makeAffine c, if (Jac.makeAffine c).isInfinity then true
        else if (Jac.makeAffine c).y.square != ((Jac.makeAffine c).x.square.mul (Jac.makeAffine c).x).add twistB
          then false
        else decide ((Jac.twistMul (Jac.makeAffine c) order).z = Fp2.zero)) := by
  unfold twistPoint_isOnCurve
  simp only [gfP2_isZero_eq, code_tie]
  cases h : (Jac.makeAffine c).isInfinity
  · by_cases h2 : (Jac.makeAffine c).y.square = ((Jac.makeAffine c).x.square.mul (Jac.makeAffine c).x).add twistB
    · simp [h2]
    · simp [h2]
  · simp
theorem gen_twistPoint_isOnCurve_eq_model_gfp (c : G2J) :
    (twistPoint_isOnCurve Dos.Gen.Bn256.Order twistB c).2 = twistIsOnCurve c := by
  rw [gen_twistPoint_isOnCurve_eq_model]; rfl

/-! ## optate.go (the hand models of the line functions and the Miller loop are over the Montgomery gfP: the
proofs rewrite with the ties above and compare syntactically — a plain `rfl` on a MISMATCH would start to unfold
the Montgomery arithmetic on symbolic limbs) -/
@[code_tie]
theorem gen_finalExponentiation_eq_model {α : Type} [Add α] [Sub α] [Neg α] [Mul α] [Zero α] [One α] [Inv α] :
    @Bn256Code.finalExponentiation α _ _ _ _ _ _ _ = finalExponentiationG := by
  funext cs u inp
  simp only [Bn256Code.finalExponentiation, code_tie]
  rfl

@[code_tie]
theorem gen_lineFunctionAdd_eq_model (r p : G2J) (q : G1J) (r2 : F2) :
    Bn256Code.lineFunctionAdd r p q r2 =
      ((Dos.Bn256.lineFunctionAdd r p q r2).a, (Dos.Bn256.lineFunctionAdd r p q r2).b,
       (Dos.Bn256.lineFunctionAdd r p q r2).c, (Dos.Bn256.lineFunctionAdd r p q r2).rOut) := by
  simp only [Bn256Code.lineFunctionAdd, Dos.Bn256.lineFunctionAdd, code_tie]

@[code_tie]
theorem gen_lineFunctionDouble_eq_model (r : G2J) (q : G1J) :
    Bn256Code.lineFunctionDouble r q =
      ((Dos.Bn256.lineFunctionDouble r q).a, (Dos.Bn256.lineFunctionDouble r q).b,
       (Dos.Bn256.lineFunctionDouble r q).c, (Dos.Bn256.lineFunctionDouble r q).rOut) := by
  simp only [Bn256Code.lineFunctionDouble, Dos.Bn256.lineFunctionDouble, code_tie]

@[code_tie]
theorem gen_mulLine_eq_model : @Bn256Code.mulLine GFp _ _ _ _ = Dos.Bn256.mulLine := by
  funext ret a b c
  simp only [Bn256Code.mulLine, Dos.Bn256.mulLine, Fp2.zero, code_tie]

/-- the Miller loop: the translation is the loop UNROLLED over the 64 digits of sixuPlus2NAF (265 lets), the
model folds over the regenerated digit list; equal by evaluation of the fold (by the kernel: the elaborator's
`rfl` runs into its recursion limit on the unrolled term) -/
@[code_tie]
theorem gen_miller_eq_model : @Bn256Code.miller GFp _ _ _ _ _ _ _ _ frobConsts = Dos.Bn256.miller := by
  funext q p
  simp only [Bn256Code.miller, code_tie]
  kernel_rfl

theorem gen_optimalAte_eq_model :
    @Bn256Code.optimalAte GFp _ _ _ _ _ _ _ _ frobConsts uParam = Dos.Bn256.optimalAte := by
  funext a b
  simp only [Bn256Code.optimalAte, Dos.Bn256.optimalAte, Dos.Bn256.finalExponentiation, code_tie]

/-! ## consequences: the theorems about the hand models are theorems about the code-derived functions -/

/-- the tower multiplications derived from the code are the multiplications of α[i]/(i²+1), its cubic extension
by τ³ = ξ and the quadratic extension by ω² = τ, over every commutative ring -/
theorem code_tower_mul_is_extension {R : Type} [CommRing R] (a b : Fp2 R) (a6 b6 : Fp6 R) (a12 b12 : Fp12 R) :
    gfP2_mul a b = ⟨a.x * b.y + a.y * b.x, a.y * b.y - a.x * b.x⟩ ∧
    gfP6_mul a6 b6 = ⟨a6.x * b6.z + a6.y * b6.y + a6.z * b6.x,
                      a6.y * b6.z + a6.z * b6.y + Fp2.xi * (a6.x * b6.x),
                      a6.z * b6.z + Fp2.xi * (a6.x * b6.y + a6.y * b6.x)⟩ ∧
    gfP12_mul a12 b12 = ⟨a12.x * b12.y + a12.y * b12.x, a12.y * b12.y + Fp6.tau * (a12.x * b12.x)⟩ ∧
    gfP2_square a = gfP2_mul a a ∧ gfP6_square a6 = gfP6_mul a6 a6 ∧ gfP12_square a12 = gfP12_mul a12 a12 := by
  rw [gen_gfP2_mul_eq_model, gen_gfP6_mul_eq_model, gen_gfP12_mul_eq_model, gen_gfP2_square_eq_model,
    gen_gfP6_square_eq_model, gen_gfP12_square_eq_model]
  exact ⟨(C10Tower.gfP2_mul_is_quadratic_extension a b 0).1, (C10Tower.gfP6_mul_is_cubic_extension a6 b6 0 0).1,
    (C10Tower.gfP12_mul_is_quadratic_extension a12 b12).1, (C10Tower.gfP2_mul_is_quadratic_extension a b 0).2.1,
    (C10Tower.gfP6_mul_is_cubic_extension a6 b6 0 0).2.1, (C10Tower.gfP12_mul_is_quadratic_extension a12 b12).2.1⟩

/-- the code-derived gfP12.Exp is the k-th power for every k -/
theorem code_exp_is_power {R : Type} [CommRing R] (a : Fp12 R) (k : Nat) : gfP12_exp a k = a ^ k := by
  rw [gen_gfP12_exp_eq_model]; exact C10Tower.gfP12_exp_is_power a k

section
attribute [local instance] sqMul
/-- **the code-derived G1 arithmetic is the group law**: over every field of characteristic ≠ 2, on y² = x³ + b,
for valid Jacobian triples, every receiver and every branch, the translations of curvePoint.Add / Double / Mul
compute the sum, the double and the k-multiple in Mathlib's `WeierstrassCurve.Affine.Point` -/
theorem code_curve_is_group_law {K : Type} [Field K] [DecidableEq K] (h2 : (2 : K) ≠ 0) (bb : K)
    (c a b : Jac K) (ha : Valid bb a) (hb : Valid bb b) (k : Nat) :
    Valid bb (curvePoint_add c a b) ∧
    toPoint bb (curvePoint_add c a b) = toPoint bb a + toPoint bb b ∧
    toPoint bb (curvePoint_double c a) = toPoint bb a + toPoint bb a ∧
    toPoint bb (curvePoint_mul a k) = k • toPoint bb a := by
  have hsq : ∀ x : K, Sq.sq x = x * x := fun _ => rfl
  rw [gen_curvePoint_add_eq_model, gen_curvePoint_double_eq_model, gen_curvePoint_mul_eq_model]
  have h := C10Curve.add_is_group_addition hsq h2 bb c a b ha hb
  exact ⟨h.1, h.2.1, h.2.2.2, (C10Curve.mul_is_scalar_multiple hsq h2 bb a ha k 0 (zero_nsmul _)).1⟩
end

/-- **the code-derived final exponentiation is multiplicative** over every field whose Frobenius constants satisfy
their relations (`consts_frobenius_relations` for the regenerated ones) -/
theorem code_finalExponentiation_multiplicative {K : Type} [Field K] (cs : FrobConsts K) (hg : cs.Good) (u : Nat)
    (x y : Fp12 K) :
    Bn256Code.finalExponentiation cs u (gfP12_mul x y) =
      gfP12_mul (Bn256Code.finalExponentiation cs u x) (Bn256Code.finalExponentiation cs u y) ∧
    Bn256Code.finalExponentiation cs u gfP12_setOne = gfP12_setOne := by
  rw [gen_finalExponentiation_eq_model, gen_gfP12_mul_eq_model, gen_gfP12_setOne_eq_model]
  exact C10FinalExp.finalExponentiation_multiplicative cs hg u x y

example : gfP12_exp (⟨⟨⟨0, 0⟩, ⟨0, 0⟩, ⟨0, 0⟩⟩, ⟨⟨0, 0⟩, ⟨0, 0⟩, ⟨0, 3⟩⟩⟩ : Fp12 Int) 4 =
    ⟨⟨⟨0, 0⟩, ⟨0, 0⟩, ⟨0, 0⟩⟩, ⟨⟨0, 0⟩, ⟨0, 0⟩, ⟨0, 81⟩⟩⟩ := by decide +kernel

end Dos.Props.C10Code
