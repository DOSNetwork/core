/-
C11 (and C06) composed with C10.

Montgomery layer: `Bn256.redc / montEncode / montDecode` of `Model/Bn256.lean` (what C11
`limb_level_roundtrip` and C06 `emitted_coordinates_canonical` speak of) ARE C10's `Mont.redc p np` /
`Mont.mulM` (`Model/Mont.lean`) at the constants regenerated from constants.go, so that a change to one of
the two models is noticed: `redc_is_c10_redc` (by `rfl`), `constants_are_c10_constants`,
`montEncode_is_gfpMul`, `montDecode_is_gfpMul` (the values C10's `gfpMul_asm` shows the assembly to store),
`redc_lt_from_c10`.

Group layer: C10's curve / tower / field model files and `Model/Bn256.lean` both declare `Dos.Bn256.p`,
`np`, `Fp2`, … and cannot be imported into one Lean environment (design/Compose.md), so C10's
`g2_group_law` cannot be applied to `Bn256.G2`.  That the model's G2 operations preserve `G2.valid` (so the
G2 theorems of `Props/C11.lean` cover every reachable element) is proved through Mathlib's group law instead
(`Proofs/ComposeCurve.lean`, `Proofs/ComposeFp2.lean`, `Proofs/ComposeBn256Group.lean`): `g2_valid_closed`,
`g2_reachable_valid`, `g2_reachable_roundtrip`, `g1_group_laws`, `g2_group_laws`, and — from `r • g₁ = O`,
`r • g₂ = O` by kernel evaluation (`generators_torsion`) — `g1_reachable_torsion`, with no assumption on
`#E(F_p)`.
-/
import DosModel.Props.C11
import DosModel.Proofs.MontRedc
import DosModel.Gen.Bn256Consts
import DosModel.Proofs.ComposeBn256Group

namespace Dos.Props.C11Compose
open Dos Dos.Bn256 Dos.Codec

/-- **the two Montgomery reductions are one function**: C06/C11's `redc` (`Model/Bn256.lean`) is C10's
`Mont.redc` (`Model/Mont.lean`) at the modulus and `np` of the code — definitionally -/
theorem redc_is_c10_redc (T : Nat) : Bn256.redc T = Mont.redc Bn256.p Bn256.np T := rfl

/-- the constants of the codec model are the ones C10's field model is built from: the value of the
regenerated limb lists `p2`, `np` (what `Bn256Field.p`, `.np` are defined as), radix `2^256`, and the
decimal constants `P`, `Order` of constants.go -/
theorem constants_are_c10_constants :
    Bn256.p = (Mont.L4.ofList Gen.Bn256.p2).val ∧ Bn256.np = (Mont.L4.ofList Gen.Bn256.np).val
    ∧ Bn256.R = Mont.R ∧ Bn256.p = Gen.Bn256.P ∧ Bn256.r = Gen.Bn256.Order := by decide

/-- hypothesis `hnp` of C10 `redc_correct` for the codec's constants -/
theorem np_is_negated_inverse : (Bn256.np * Bn256.p + 1) % Mont.R = 0 := by decide

/-- **C06/C11's `redc_lt` and `redc_spec` are instances of C10's `redc_correct`** -/
theorem redc_lt_from_c10 (T : Nat) (hT : T < Bn256.R * Bn256.p) :
    Bn256.redc T < Bn256.p ∧ Bn256.redc T * Bn256.R ≡ T [MOD Bn256.p] :=
  Mont.redc_correct Bn256.p Bn256.np T np_is_negated_inverse hT

/-- `montDecode a` (what `MarshalBinary` writes for the limbs `a`) is the value C10 proves `gfpMul(c, a, 1)`
to store -/
theorem montDecode_is_gfpMul (a : Nat) (ha : a < Bn256.R) :
    montDecode a = Mont.mulM Bn256.p Bn256.np a 1 := by
  have hT : a * 1 < Bn256.R * Bn256.p := by
    rw [Nat.mul_one]; exact Nat.lt_of_lt_of_le ha (Nat.le_mul_of_pos_right _ (by decide))
  have hlt : Bn256.redc (a * 1) < Mont.R :=
    Nat.lt_trans (redc_lt_from_c10 _ hT).1 (by decide)
  show Bn256.redc (a * 1) = Mont.redc Bn256.p Bn256.np (a * 1) % Mont.R
  rw [← redc_is_c10_redc, Nat.mod_eq_of_lt hlt]

/-- `montEncode a` (what `UnmarshalBinary` stores for the word `a`) is the value C10 proves
`gfpMul(c, a, r2)` to store -/
theorem montEncode_is_gfpMul (a : Nat) (ha : a < Bn256.R) :
    montEncode a = Mont.mulM Bn256.p Bn256.np a Bn256.r2 := by
  have hT : a * Bn256.r2 < Bn256.R * Bn256.p :=
    Nat.mul_lt_mul_of_lt_of_le ha (by decide) (by decide)
  have hlt : Bn256.redc (a * Bn256.r2) < Mont.R :=
    Nat.lt_trans (redc_lt_from_c10 _ hT).1 (by decide)
  show Bn256.redc (a * Bn256.r2) = Mont.redc Bn256.p Bn256.np (a * Bn256.r2) % Mont.R
  rw [← redc_is_c10_redc, Nat.mod_eq_of_lt hlt]

/-- C06 `emitted_coordinates_canonical` re-derived through C10: every emitted word is `< p` and is the
Montgomery decoding `a·R⁻¹` -/
theorem emitted_word_canonical_from_c10 (a : Nat) (ha : a < Bn256.R) :
    montDecode a < Bn256.p ∧ montDecode a * Bn256.R ≡ a [MOD Bn256.p] := by
  have hT : a * 1 < Bn256.R * Bn256.p := by
    rw [Nat.mul_one]; exact Nat.lt_of_lt_of_le ha (Nat.le_mul_of_pos_right _ (by decide))
  obtain ⟨h1, h2⟩ := redc_lt_from_c10 (a * 1) hT
  exact ⟨h1, h2.trans (by rw [Nat.mul_one])⟩

/-! ## the group structure of the model's G1 / G2 -/

/-- **`G2.valid` is closed under the model's operations** -/
theorem g2_valid_closed (P Q : G2) (hP : G2.valid P = true) (hQ : G2.valid Q = true) (k : Nat) :
    G2.valid (G2.neg P) = true ∧ G2.valid (G2.double P) = true ∧ G2.valid (G2.add P Q) = true
      ∧ G2.valid (G2.smul k P) = true :=
  ⟨(Compose.valid2_neg P hP).1, (Compose.valid2_double P hP).1, (Compose.valid2_add P Q hP hQ).1,
    (Compose.valid2_smul k P hP).1⟩

/-- the generators: `g₂` is a valid element (on the twist AND of order dividing `r`: one double-and-add run
evaluated by the kernel), `r • g₁ = O` -/
theorem generators_torsion : G2.valid g2gen = true ∧ G1.smul Bn256.r g1gen = .inf :=
  ⟨Compose.g2gen_valid, Compose.g1gen_torsion⟩

/-- every G2 element obtained from the generator by the operations the library offers is valid … -/
theorem g2_reachable_valid (P : G2)
    (h : ∀ (S : G2 → Prop), S g2gen → S .inf → (∀ A, S A → S (G2.neg A)) →
      (∀ A B, S A → S B → S (G2.add A B)) → (∀ (k : Nat) A, S A → S (G2.smul k A)) → S P) :
    G2.valid P = true :=
  h (fun X => G2.valid X = true) generators_torsion.1 rfl
    (fun A hA => (Compose.valid2_neg A hA).1) (fun A B hA hB => (Compose.valid2_add A B hA hB).1)
    (fun k A hA => (Compose.valid2_smul k A hA).1)

/-- … and therefore round-trips through `MarshalBinary` / `UnmarshalBinary` (C11 `g2_roundtrip` with its
validity hypothesis discharged by `g2_reachable_valid`); spelled out for every public key `x • g₂` and every
difference of such keys -/
theorem g2_reachable_roundtrip (x y : Nat) (tail : Bytes) :
    unmarshalG2 (marshalG2 (G2.smul x g2gen) ++ tail) = .ok (G2.smul x g2gen) ∧
    unmarshalG2 (marshalG2 (G2.add (G2.smul x g2gen) (G2.neg (G2.smul y g2gen))) ++ tail)
      = .ok (G2.add (G2.smul x g2gen) (G2.neg (G2.smul y g2gen))) :=
  ⟨Props.C11.g2_roundtrip _ (g2_reachable_valid _ fun _ hg _ _ _ hs => hs x _ hg) tail,
    Props.C11.g2_roundtrip _
      (g2_reachable_valid _ fun _ hg _ hn ha hs => ha _ _ (hs x _ hg) (hn _ (hs y _ hg))) tail⟩

/-- **group laws of the model's G2 on valid elements** (inherited from Mathlib's `AddCommGroup` on
`E'(F_p²)` through the injective map `pt2`): commutative, associative, `neg` inverts, `smul` is additive
and multiplicative in the scalar and only depends on it modulo `r` -/
theorem g2_group_laws (P Q R : G2) (hP : G2.valid P = true) (hQ : G2.valid Q = true)
    (hR : G2.valid R = true) (a b : Nat) :
    G2.add P Q = G2.add Q P ∧ G2.add (G2.add P Q) R = G2.add P (G2.add Q R)
    ∧ G2.add P (G2.neg P) = .inf
    ∧ G2.smul (a + b) P = G2.add (G2.smul a P) (G2.smul b P)
    ∧ G2.smul (a * b) P = G2.smul a (G2.smul b P)
    ∧ G2.smul a P = G2.smul (a % Bn256.r) P := by
  have h := Compose.laws_of_embedding (ι := Compose.pt2) (zero := .inf) Compose.pt2_inj ⟨rfl, rfl⟩
    Compose.valid2_add Compose.valid2_neg Compose.valid2_smul hP hQ hR a b
  exact ⟨h.1, h.2.1, h.2.2.1, h.2.2.2.1, h.2.2.2.2, Compose.smul2_mod_r a P hP⟩

/-- **group laws of the model's G1 on valid elements** (`valid_add` … of `Proofs/Bn256ConcCurve.lean` give
closure; the laws come from `E(F_p)` through `pt1`) -/
theorem g1_group_laws (P Q R : G1) (hP : G1.valid P = true) (hQ : G1.valid Q = true)
    (hR : G1.valid R = true) (a b : Nat) :
    G1.add P Q = G1.add Q P ∧ G1.add (G1.add P Q) R = G1.add P (G1.add Q R)
    ∧ G1.add P (G1.neg P) = .inf
    ∧ G1.smul (a + b) P = G1.add (G1.smul a P) (G1.smul b P)
    ∧ G1.smul (a * b) P = G1.smul a (G1.smul b P) := by
  exact Compose.laws_of_embedding (ι := Compose.pt1) (zero := .inf) Compose.pt1_inj ⟨rfl, rfl⟩
    Compose.valid1_add Compose.valid1_neg Compose.valid1_smul hP hQ hR a b

/-- `r • P = O` for EVERY G1 element reachable from the generator (in particular every signature
`x • (h • g₁)`): for these no assumption on `#E(F_p)` is needed -/
theorem g1_reachable_torsion (P : G1) (h : G1.Reachable P) :
    G1.smul Bn256.r P = .inf ∧ ∀ k, G1.smul k P = G1.smul (k % Bn256.r) P := by
  have hv := reachable_valid h
  refine ⟨?_, fun k => Compose.smul1_mod_r k h⟩
  apply Compose.pt1_inj (valid_smul _ P hv) (by rfl)
  rw [Compose.pt1_smul _ P hv, Compose.reachable_torsion h]; rfl

/-! non-vacuity -/
example : Bn256.redc (Bn256.R * Bn256.p - 1) = Mont.redc Bn256.p Bn256.np (Bn256.R * Bn256.p - 1) :=
  redc_is_c10_redc _
example : montEncode 2 = Mont.mulM Bn256.p Bn256.np 2 Bn256.r2 := montEncode_is_gfpMul 2 (by decide)
example : montDecode (montEncode 2) < Bn256.p :=
  (emitted_word_canonical_from_c10 _ (Nat.lt_trans (Dos.Bn256.montEncode_lt 2 (by decide)) (by decide))).1

example : G2.valid (G2.add (G2.smul 5 g2gen) (G2.neg g2gen)) = true :=
  (g2_valid_closed _ _ (g2_valid_closed g2gen g2gen generators_torsion.1 generators_torsion.1 5).2.2.2
    (g2_valid_closed g2gen g2gen generators_torsion.1 generators_torsion.1 0).1 0).2.2.1
example : G1.smul (Bn256.r + 7) g1gen = G1.smul 7 g1gen := by
  rw [(g1_reachable_torsion g1gen .base).2 (Bn256.r + 7)]
  congr 1

end Dos.Props.C11Compose
