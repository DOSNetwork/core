/-
C10 / E7 — the KYBER-LEVEL functions of point.go (the API the rest of the repository calls:
pointG1 / pointG2 / pointGT Null, Base, Set, Add, Sub, Neg, Mul, Pick, Finalize, Miller, Pair, PairingCheck)
and the helpers of gfp.go (newGFp, Set, Invert's bit loop, montEncode, montDecode), translated from the Go
source by `go/extract/bn256code` on every check run (Gen/Bn256Code.lean):
* ties `gen_<fn>_eq_model`: every translation equals the model function the driver and the group-law theorems use;
* the group-law theorems of Props/C10Curve / C10Concrete / C10G2 / C10Miller restated about the TRANSLATED
  kyber-level functions: Add is the addition of Mathlib's elliptic-curve group, Sub, Neg, the identity, Mul is
  s • P and agrees with the scalar reduced modulo the group order, PairingCheck decides the product of the pairings.
How the translator reads point.go (its trusted reading, besides the six primitives of Props/C10Code):
a `*pointGx` is the object its field `g` points to (one fresh value per wrapper; no translated method re-points
`g`); a `kyber.Point` parameter has the dynamic type the body asserts (`a.(*pointG1)`; a wrong type is a Go panic
outside the translation); a `kyber.Scalar` is the big.Int `V` of its `*mod.Int` (behaviour of mod.Int stated in
Proofs/Bn256Kyber.lean: `modIntV`); `q == nil` is translated once per case (`pointGx_mul_nil_q`).
Only theorems; helpers in Proofs/Bn256Kyber.lean.
-/
import DosModel.Proofs.Bn256Kyber
import DosModel.Props.C10Code
import DosModel.Props.C10Concrete
import DosModel.Props.C10G2
import DosModel.Props.C10Miller

set_option linter.unusedSectionVars false
set_option linter.unusedSimpArgs false

namespace Dos.Props.C10Kyber
open Dos.Bn256 Dos.Gen Dos.Gen.Bn256Code Dos.Bn256.CodeTie Dos.Props.C10Code

/-! ## the translator's own facts -/

/-- what the translator does NOT translate in the nine files: formatting, sizes, and the byte-level codec
(gfP.Marshal / Unmarshal / isCanonical, MarshalBinary / UnmarshalBinary and Equal / Clone, which are defined
through them) — property C11's models. A new skipped function has to be added here by hand. -/
theorem skipped_functions :
    Bn256Code.skipped.map (fun r => r.1) =
      ["gfP2Decode", "gfP2.String", "gfP6.String", "gfP12.String", "curvePoint.String", "twistPoint.String",
       "bigFromBase10",
       "pointG1.Equal", "pointG1.Clone", "pointG1.MarshalBinary", "pointG1.MarshalTo", "pointG1.UnmarshalBinary",
       "pointG1.UnmarshalFrom", "pointG1.MarshalSize", "pointG1.ElementSize", "pointG1.String",
       "pointG2.Equal", "pointG2.Clone", "pointG2.MarshalBinary", "pointG2.MarshalTo", "pointG2.UnmarshalBinary",
       "pointG2.UnmarshalFrom", "pointG2.MarshalSize", "pointG2.ElementSize", "pointG2.String",
       "pointGT.Equal", "pointGT.Clone", "pointGT.MarshalBinary", "pointGT.MarshalTo", "pointGT.UnmarshalBinary",
       "pointGT.UnmarshalFrom", "pointGT.MarshalSize", "pointGT.ElementSize", "pointGT.String",
       "gfP.String", "gfP.Marshal", "gfP.Unmarshal", "gfP.isCanonical"] := rfl

/-- the kyber operations the suite does not support are exactly the ones whose body is a `panic` -/
theorem unsupported_operations :
    Bn256Code.panicOnly =
      ["pointG1.EmbedLen", "pointG1.Embed", "pointG1.Data", "pointG2.EmbedLen", "pointG2.Embed", "pointG2.Data",
       "pointGT.EmbedLen", "pointGT.Embed", "pointGT.Data"] := rfl

/-! ## point.go, G1 (over any base type; squaring is `a * a` as in curve.go) -/
section g1
attribute [local instance] sqMul
variable {α : Type}

theorem gen_newPointG1_eq_model [Zero α] : @newPointG1 α _ = Jac.zeroValue := rfl
theorem gen_pointG1_null_eq_model [Zero α] [One α] : @pointG1_null α _ _ = Jac.infinity := rfl
theorem gen_pointG1_base_eq_model : @pointG1_base α = fun g => g := rfl
theorem gen_pointG1_set_eq_model : @pointG1_set α = fun q => q := rfl
theorem gen_pointG1_add_eq_model [Add α] [Sub α] [Mul α] [Zero α] [DecidableEq α] :
    @pointG1_add α _ _ _ _ _ = Jac.add := rfl
theorem gen_pointG1_neg_eq_model [Neg α] [Zero α] : @pointG1_neg α _ _ = fun q => Jac.neg q 0 := rfl
/-- Sub: a fresh point receives −b, then Add — the receiver's `t` survives as in Add -/
theorem gen_pointG1_sub_eq_model [Add α] [Sub α] [Neg α] [Mul α] [Zero α] [DecidableEq α] :
    @pointG1_sub α _ _ _ _ _ _ = fun p a b => Jac.add p a (Jac.neg b 0) := rfl
theorem gen_pointG1_mul_eq_model [Add α] [Sub α] [Mul α] [Zero α] [One α] [DecidableEq α] :
    @pointG1_mul α _ _ _ _ _ _ = fun s q => Jac.curveMul q s := by
  funext s q
  simp only [pointG1_mul, gen_curvePoint_mul_eq_model]
/-- `Mul(s, nil)`: the generator is the point -/
theorem gen_pointG1_mul_nil_eq_model [Add α] [Sub α] [Mul α] [Zero α] [One α] [DecidableEq α] :
    @pointG1_mul_nil_q α _ _ _ _ _ _ = fun g s => Jac.curveMul g s := by
  funext g s
  simp only [pointG1_mul_nil_q, gen_curvePoint_mul_eq_model, gen_pointG1_base_eq_model]
theorem gen_pointG1_pick_eq_model [Add α] [Sub α] [Mul α] [Zero α] [One α] [DecidableEq α] :
    @pointG1_pick α _ _ _ _ _ _ = fun g r => Jac.curveMul g r := by
  funext g r
  simp only [pointG1_pick, gen_curvePoint_mul_eq_model, gen_pointG1_base_eq_model]

example : (pointG1_sub (⟨0, 0, 0, 7⟩ : Jac Int) ⟨1, 2, 1, 1⟩ ⟨1, 2, 1, 1⟩).z = 0 ∧
    (pointG1_sub (⟨0, 0, 0, 7⟩ : Jac Int) ⟨1, 2, 1, 1⟩ ⟨1, 2, 1, 1⟩).t = 7 := by decide
example : pointG1_sub (⟨0, 0, 0, 0⟩ : Jac Int) ⟨1, 2, 1, 1⟩ ⟨1, -2, 1, 1⟩ =
    curvePoint_double ⟨0, 0, 0, 0⟩ ⟨1, 2, 1, 1⟩ := by decide
example : (pointG1_mul 0 (⟨1, 2, 1, 1⟩ : Jac Int)).z = 0 ∧
    pointG1_mul 2 (⟨1, 2, 1, 1⟩ : Jac Int) = curvePoint_double ⟨0, 0, 0, 0⟩ ⟨1, 2, 1, 1⟩ := by decide
end g1

/-! ## point.go, G2 -/
section g2
variable {α : Type}
theorem gen_newPointG2_eq_model [Zero α] : @newPointG2 α _ = Jac.zeroValue := rfl
theorem gen_pointG2_null_eq_model [Zero α] [One α] : @pointG2_null α _ _ = Jac.infinity := rfl
theorem gen_pointG2_base_eq_model : @pointG2_base α = fun g => g := rfl
theorem gen_pointG2_set_eq_model : @pointG2_set α = fun q => q := rfl
theorem gen_pointG2_add_eq_model [Add α] [Sub α] [Mul α] [Zero α] [DecidableEq α] :
    @pointG2_add α _ _ _ _ _ = Jac.add := by
  funext p a b
  simp only [pointG2_add, gen_twistPoint_add_eq_model]
/-- Neg keeps `t` (/repo 4406972) -/
theorem gen_pointG2_neg_eq_model [Neg α] : @pointG2_neg α _ = fun q => Jac.neg q q.t := rfl
theorem gen_pointG2_sub_eq_model [Add α] [Sub α] [Neg α] [Mul α] [Zero α] [DecidableEq α] :
    @pointG2_sub α _ _ _ _ _ _ = fun p a b => Jac.add p a (Jac.neg b b.t) := by
  funext p a b
  simp only [pointG2_sub, gen_pointG2_add_eq_model, gen_pointG2_neg_eq_model]
theorem gen_pointG2_mul_eq_model [Add α] [Sub α] [Mul α] [Zero α] [DecidableEq α] :
    @pointG2_mul α _ _ _ _ _ = fun s q => Jac.twistMul q s := by
  funext s q
  simp only [pointG2_mul, gen_twistPoint_mul_eq_model]
theorem gen_pointG2_mul_nil_eq_model [Add α] [Sub α] [Mul α] [Zero α] [DecidableEq α] :
    @pointG2_mul_nil_q α _ _ _ _ _ = fun g s => Jac.twistMul g s := by
  funext g s
  simp only [pointG2_mul_nil_q, gen_twistPoint_mul_eq_model, gen_pointG2_base_eq_model]
theorem gen_pointG2_pick_eq_model [Add α] [Sub α] [Mul α] [Zero α] [DecidableEq α] :
    @pointG2_pick α _ _ _ _ _ = fun g r => Jac.twistMul g r := by
  funext g r
  simp only [pointG2_pick, gen_twistPoint_mul_eq_model, gen_pointG2_base_eq_model]

example : (pointG2_neg (⟨⟨1, 2⟩, ⟨3, 4⟩, ⟨0, 1⟩, ⟨5, 6⟩⟩ : Jac (Fp2 Int))).t = ⟨5, 6⟩ := by decide
end g2

/-! ## point.go, GT -/
section gt
variable {α : Type}
theorem gen_newPointGT_eq_model [Zero α] : @newPointGT α _ = Fp12.zero := rfl
theorem gen_pointGT_null_eq_model : @pointGT_null α = fun inf => inf := rfl
theorem gen_pointGT_base_eq_model : @pointGT_base α = fun g => g := rfl
theorem gen_pointGT_set_eq_model : @pointGT_set α = fun q => q := rfl
theorem gen_pointGT_add_eq_model [Add α] [Sub α] [Mul α] : @pointGT_add α _ _ _ = Fp12.mul := by
  funext a b
  simp only [pointGT_add, gen_gfP12_mul_eq_model]
theorem gen_pointGT_neg_eq_model [Neg α] : @pointGT_neg α _ = Fp12.conjugate := rfl
theorem gen_pointGT_sub_eq_model [Add α] [Sub α] [Neg α] [Mul α] [Zero α] :
    @pointGT_sub α _ _ _ _ _ = fun a b => Fp12.mul a (Fp12.conjugate b) := by
  funext a b
  simp only [pointGT_sub, gen_pointGT_add_eq_model, gen_pointGT_neg_eq_model]
theorem gen_pointGT_mul_eq_model [Add α] [Sub α] [Mul α] [Zero α] [One α] :
    @pointGT_mul α _ _ _ _ _ = fun s q => Fp12.exp q s := by
  funext s q
  simp only [pointGT_mul, gen_gfP12_exp_eq_model]
theorem gen_pointGT_mul_nil_eq_model [Add α] [Sub α] [Mul α] [Zero α] [One α] :
    @pointGT_mul_nil_q α _ _ _ _ _ = fun g s => Fp12.exp g s := by
  funext g s
  simp only [pointGT_mul_nil_q, gen_gfP12_exp_eq_model, gen_pointGT_base_eq_model]
theorem gen_pointGT_pick_eq_model [Add α] [Sub α] [Mul α] [Zero α] [One α] :
    @pointGT_pick α _ _ _ _ _ = fun g r => Fp12.exp g r := by
  funext g r
  simp only [pointGT_pick, gen_gfP12_exp_eq_model, gen_pointGT_base_eq_model]
theorem gen_pointGT_finalize_eq_model [Add α] [Sub α] [Neg α] [Mul α] [Zero α] [One α] [Inv α] :
    @pointGT_finalize α _ _ _ _ _ _ _ = finalExponentiationG := by
  funext cs u p
  simp only [pointGT_finalize, gen_finalExponentiation_eq_model, gen_gfP12_set_eq_model]
/-- Miller / Pair hand (p2, p1) to miller / optimalAte in that order -/
theorem gen_pointGT_miller_eq_model [Add α] [Sub α] [Neg α] [Mul α] [Zero α] [One α] [Inv α] [DecidableEq α] :
    @pointGT_miller α _ _ _ _ _ _ _ _ = fun cs p1 p2 => Bn256Code.miller cs p2 p1 := rfl
theorem gen_pointGT_pair_eq_model [Add α] [Sub α] [Neg α] [Mul α] [Zero α] [One α] [Inv α] [DecidableEq α] :
    @pointGT_pair α _ _ _ _ _ _ _ _ = fun cs u p1 p2 => Bn256Code.optimalAte cs u p2 p1 := rfl
/-- at the Montgomery gfP: the driver's `miller`, `optimalAte` -/
theorem gen_pointGT_pair_eq_model_gfp (p1 : G1J) (p2 : G2J) :
    pointGT_miller frobConsts p1 p2 = Dos.Bn256.miller p2 p1 ∧
    pointGT_pair frobConsts uParam p1 p2 = Dos.Bn256.optimalAte p2 p1 := by
  rw [gen_pointGT_miller_eq_model, gen_pointGT_pair_eq_model]
  exact ⟨congrFun (congrFun gen_miller_eq_model p2) p1, congrFun (congrFun gen_optimalAte_eq_model p2) p1⟩

/-- **PairingCheck** (the loop over the two slices, `continue` on an identity, one final exponentiation, IsOne):
Go panics with "index out of range" when `b` is shorter than `a` (value `none`); otherwise it is the model's
`pairingCheck` of the pairs (a[i], b[i]), i < len(a) -/
theorem gen_pointGT_pairingCheck_eq_model (a : List G1J) (b : List G2J) :
    pointGT_pairingCheck frobConsts uParam a b =
      if b.length < a.length then none else some (pairingCheck (List.zip a b)) := by
  simp only [pointGT_pairingCheck, gen_miller_eq_model, gen_finalExponentiation_eq_model, gen_gfP12_mul_eq_model,
    gen_gfP12_setOne_eq_model, gen_gfP12_isOne_eq_model, gen_curvePoint_isInfinity_eq_model,
    gen_twistPoint_isInfinity_eq_model, pairingCheck, pairingCheckAbs, Dos.Bn256.finalExponentiation, Fp12.isOne]
  rfl

example : pointGT_add (⟨⟨⟨0, 0⟩, ⟨0, 0⟩, ⟨0, 0⟩⟩, ⟨⟨0, 0⟩, ⟨0, 0⟩, ⟨0, 2⟩⟩⟩ : Fp12 Int)
    ⟨⟨⟨0, 0⟩, ⟨0, 0⟩, ⟨0, 0⟩⟩, ⟨⟨0, 0⟩, ⟨0, 0⟩, ⟨0, 3⟩⟩⟩ = ⟨⟨⟨0, 0⟩, ⟨0, 0⟩, ⟨0, 0⟩⟩, ⟨⟨0, 0⟩, ⟨0, 0⟩, ⟨0, 6⟩⟩⟩ := by
  decide
example : pointGT_pairingCheck frobConsts uParam [curveGen] ([] : List G2J) = none := by
  rw [gen_pointGT_pairingCheck_eq_model]; rfl
end gt

/-! ## gfp.go -/

theorem gen_gfP_set_eq_model {α : Type} : @gfP_set α = fun f => f := rfl
theorem gen_montEncode_eq_model {α : Type} [Mul α] : @Bn256Code.montEncode α _ = fun r2 a => a * r2 := rfl
theorem gen_montEncode_eq_model_gfp : Bn256Code.montEncode GFp.r2 = GFp.montEncode := rfl
/-- `&gfP{1}` is the raw value 1 (not Montgomery encoded) -/
theorem gen_montDecode_eq_model_gfp : @Bn256Code.montDecode GFp _ _ = GFp.montDecode := by
  funext a
  have h1 : (RawLimbs.ofLimbs [1] : GFp) = ⟨1⟩ := by decide
  simp only [Bn256Code.montDecode, GFp.montDecode, h1]
/-- newGFp: `uint64(x)` resp. `uint64(-x)` followed by gfpNeg, then montEncode -/
theorem gen_newGFp_eq_model_gfp : @Bn256Code.newGFp GFp _ _ _ GFp.r2 = GFp.newGFp := by
  funext x
  have h : ∀ n : Nat, (RawLimbs.ofLimbs [n] : GFp) = ⟨n⟩ := by
    intro n
    show GFp.ofLimbs [n] = ⟨n⟩
    simp [GFp.ofLimbs, limbsVal, Dos.Mont.L4.ofList, Dos.Mont.L4.val]
  simp only [Bn256Code.newGFp, GFp.newGFp, h, ge_iff_le, gen_montEncode_eq_model_gfp]

/-- **gfP.Invert's bit loop**: the translation (the 4 × 64 iterations unrolled over the concrete `bits` words the
code declares, 383 multiplications) is the fold over the regenerated exponent table `invertBits` (E1) that
`invert_correct` / `invert_is_inverse` (Props/C10) are about — over ANY base type with a multiplication -/
theorem gen_gfP_invert_eq_loop {α : Type} [Mul α] (r3 rN1 f : α) :
    gfP_invert r3 rN1 f = (invLoopAny (GFp.bitsLE Gen.Bn256.invertBits) (rN1, f)).1 * r3 := by
  kernel_rfl
/-- hence the `⁻¹` that the translator reads a call of gfP.Invert as IS the translated gfP.Invert -/
theorem gen_gfP_invert_eq_model : gfP_invert GFp.r3 GFp.rN1 = GFp.invert := by
  funext f
  rw [gen_gfP_invert_eq_loop]; rfl

/-! ## the group laws, stated about the TRANSLATED kyber-level functions at the Montgomery gfP
(the functions the rest of the repository calls through `kyber.Point`) -/

/-- at the Montgomery gfP (curve.go squares with gfpMul(a, a), the model's `Sq GFp`) -/
theorem gen_pointG1_eq_model_gfp :
    @pointG1_add GFp _ _ _ _ _ = Jac.add ∧
    @pointG1_sub GFp _ _ _ _ _ _ = (fun p a b => Jac.add p a (curveNeg b)) ∧
    @pointG1_neg GFp _ _ = curveNeg ∧
    @pointG1_mul GFp _ _ _ _ _ _ = (fun s q => Jac.curveMul q s) ∧
    @pointG1_mul_nil_q GFp _ _ _ _ _ _ = (fun g s => Jac.curveMul g s) ∧
    (pointG1_null : G1J) = Jac.infinity := by
  refine ⟨rfl, rfl, rfl, ?_, ?_, rfl⟩
  · rw [gen_pointG1_mul_eq_model]
  · rw [gen_pointG1_mul_nil_eq_model]

/-- **G1, kyber level**: for reduced Montgomery triples whose decodings are valid points of y² = x³ + bb over
F_p, EVERY reduced receiver (so every aliasing of receiver and arguments: the translation is the same function,
`code_alias_safe`): `Add` is the addition of Mathlib's elliptic-curve group E(F_p) (chord–tangent law, identity
and P + P / P + (−P) branches included), `Sub` the subtraction, `Neg` the negation, `Null` the identity; all
results are reduced and valid again -/
theorem kyber_g1_group_law (bb : ZMod Bn256.p) (p a b : G1J) (hp : Jac.Reduced p) (ha : Jac.Reduced a)
    (hb : Jac.Reduced b) (va : Valid bb (Jac.decJ a)) (vb : Valid bb (Jac.decJ b)) :
    (Jac.Reduced (pointG1_add p a b) ∧ Valid bb (Jac.decJ (pointG1_add p a b)) ∧
      toPoint bb (Jac.decJ (pointG1_add p a b)) = toPoint bb (Jac.decJ a) + toPoint bb (Jac.decJ b)) ∧
    (Jac.Reduced (pointG1_sub p a b) ∧ Valid bb (Jac.decJ (pointG1_sub p a b)) ∧
      toPoint bb (Jac.decJ (pointG1_sub p a b)) = toPoint bb (Jac.decJ a) - toPoint bb (Jac.decJ b)) ∧
    (Jac.Reduced (pointG1_neg a) ∧ Valid bb (Jac.decJ (pointG1_neg a)) ∧
      toPoint bb (Jac.decJ (pointG1_neg a)) = -toPoint bb (Jac.decJ a)) ∧
    (Jac.Reduced (pointG1_null : G1J) ∧ Valid bb (Jac.decJ (pointG1_null : G1J)) ∧
      toPoint bb (Jac.decJ (pointG1_null : G1J)) = 0) ∧
    pointG1_set a = a := by
  obtain ⟨eadd, esub, eneg, _, _, enull⟩ := gen_pointG1_eq_model_gfp
  rw [eadd, esub, eneg, enull]
  have h0 : (0 : GFp).v < Bn256.p := by decide
  have ra := ha.rep va
  have rb := hb.rep vb
  exact ⟨(g1_law bb).add hp ra rb, (g1_law bb).sub hp ra rb h0, (g1_law bb).neg ra h0, (g1_law bb).infinity, rfl⟩

/-- non-vacuity: G1 + G1, G1 − G1 = O through the translated Add / Sub with the receiver aliased to both operands -/
example : toPoint (3 : ZMod Bn256.p) (Jac.decJ (pointG1_add curveGen curveGen curveGen)) =
      toPoint 3 (Jac.decJ curveGen) + toPoint 3 (Jac.decJ curveGen) ∧
    toPoint (3 : ZMod Bn256.p) (Jac.decJ (pointG1_sub curveGen curveGen curveGen)) = 0 := by
  have h := kyber_g1_group_law 3 curveGen curveGen curveGen C10Concrete.g1_generator_valid.2.1
    C10Concrete.g1_generator_valid.2.1 C10Concrete.g1_generator_valid.2.1 C10Concrete.g1_generator_valid.2.2
    C10Concrete.g1_generator_valid.2.2
  exact ⟨h.1.2.2, by rw [h.2.1.2.2, sub_self]⟩

/-- **G1 Mul, kyber level**: `p.Mul(s, q)` is s • Q in E(F_p) for EVERY value s of the scalar's big.Int, and
`p.Mul(s, nil)` is s • G1 -/
theorem kyber_g1_mul (bb : ZMod Bn256.p) (q : G1J) (hq : Jac.Reduced q) (vq : Valid bb (Jac.decJ q)) (s : Nat) :
    Jac.Reduced (pointG1_mul s q) ∧ toPoint bb (Jac.decJ (pointG1_mul s q)) = s • toPoint bb (Jac.decJ q) ∧
    pointG1_mul_nil_q q s = pointG1_mul s q := by
  obtain ⟨_, _, _, emul, enil, _⟩ := gen_pointG1_eq_model_gfp
  rw [congr_fun₂ emul s q, congr_fun₂ enil q s]
  exact ⟨((g1_law bb).curveMul s (hq.rep vq)).1, ((g1_law bb).curveMul s (hq.rep vq)).2.2, rfl⟩

example : toPoint (3 : ZMod Bn256.p) (Jac.decJ (pointG1_mul 5 curveGen)) = 5 • toPoint 3 (Jac.decJ curveGen) :=
  (kyber_g1_mul 3 curveGen C10Concrete.g1_generator_valid.2.1 C10Concrete.g1_generator_valid.2.2 5).2.1

/-- **the scalar reduced modulo the group order** (G1): a kyber scalar holds `V = k mod Order` (`modIntV`, the
behaviour of mod.Int); on the subgroup generated by the generator — every point the library makes from `Base()`
by Add / Sub / Neg / Mul — `p.Mul(scalar k, q)` is k • Q for every INTEGER k (negative ones included), and the
multiple by n mod Order is the n-fold sum; no torsion hypothesis (r • G1 = O is kernel-evaluated) -/
theorem kyber_g1_mul_mod_order (q : G1J) (hq : Jac.Reduced q) (vq : Valid (3 : ZMod Bn256.p) (Jac.decJ q))
    (hk : ∃ k : Nat, toPoint (3 : ZMod Bn256.p) (Jac.decJ q) = k • toPoint 3 (Jac.decJ curveGen)) (k : Int)
    (n : Nat) :
    toPoint (3 : ZMod Bn256.p) (Jac.decJ (pointG1_mul (modIntV k Gen.Bn256.Order) q)) =
      k • toPoint 3 (Jac.decJ q) ∧
    toPoint (3 : ZMod Bn256.p) (Jac.decJ (pointG1_mul (n % Gen.Bn256.Order) q)) = n • toPoint 3 (Jac.decJ q) ∧
    toPoint (3 : ZMod Bn256.p) (Jac.decJ (pointG1_mul n q)) = n • toPoint 3 (Jac.decJ q) := by
  have ht := (C10Concrete.g1_subgroup_torsion q hq vq hk 0).1
  have hpos : 0 < Gen.Bn256.Order := by decide
  refine ⟨?_, ?_, (kyber_g1_mul 3 q hq vq n).2.1⟩
  · rw [(kyber_g1_mul 3 q hq vq _).2.1]; exact modIntV_smul _ _ hpos ht k
  · rw [(kyber_g1_mul 3 q hq vq _).2.1, ← modIntV_natCast, modIntV_smul _ _ hpos ht, natCast_zsmul]

/-- the hypotheses are satisfiable: the generator (`Base()`) itself, scalars −1, r − 1, r, r + 1 -/
example : toPoint (3 : ZMod Bn256.p) (Jac.decJ (pointG1_mul (modIntV (-1) Gen.Bn256.Order) curveGen)) =
    (-1 : Int) • toPoint 3 (Jac.decJ curveGen) :=
  (kyber_g1_mul_mod_order curveGen C10Concrete.g1_generator_valid.2.1 C10Concrete.g1_generator_valid.2.2
    ⟨1, (one_nsmul _).symm⟩ (-1) 0).1
example : modIntV (-1) Gen.Bn256.Order = Gen.Bn256.Order - 1 ∧ modIntV (Gen.Bn256.Order + 1) Gen.Bn256.Order = 1 := by
  decide

/-! ### G2 -/

theorem gen_pointG2_eq_model_gfp :
    @pointG2_add GFp _ _ _ _ _ = Jac.add ∧
    @pointG2_sub GFp _ _ _ _ _ _ = (fun p a b => Jac.add p a (twistNeg b)) ∧
    @pointG2_neg GFp _ = twistNeg ∧
    @pointG2_mul GFp _ _ _ _ _ = (fun s q => Jac.twistMul q s) ∧
    @pointG2_mul_nil_q GFp _ _ _ _ _ = (fun g s => Jac.twistMul g s) ∧
    (pointG2_null : G2J) = Jac.infinity :=
  ⟨gen_pointG2_add_eq_model, gen_pointG2_sub_eq_model, rfl, gen_pointG2_mul_eq_model, gen_pointG2_mul_nil_eq_model, rfl⟩

/-- **G2, kyber level**: the same statement on E'(F_p²) : y² = x³ + bb over gfP2 -/
theorem kyber_g2_group_law (bb : Fp2 (ZMod Bn256.p)) (p a b : G2J) (hp : Jac.Reduced2 p) (ha : Jac.Reduced2 a)
    (hb : Jac.Reduced2 b) (va : Valid bb (Jac.decJ2 a)) (vb : Valid bb (Jac.decJ2 b)) (s : Nat) :
    (Jac.Reduced2 (pointG2_add p a b) ∧ Valid bb (Jac.decJ2 (pointG2_add p a b)) ∧
      toPoint bb (Jac.decJ2 (pointG2_add p a b)) = toPoint bb (Jac.decJ2 a) + toPoint bb (Jac.decJ2 b)) ∧
    (Jac.Reduced2 (pointG2_sub p a b) ∧ Valid bb (Jac.decJ2 (pointG2_sub p a b)) ∧
      toPoint bb (Jac.decJ2 (pointG2_sub p a b)) = toPoint bb (Jac.decJ2 a) - toPoint bb (Jac.decJ2 b)) ∧
    (Jac.Reduced2 (pointG2_neg a) ∧ Valid bb (Jac.decJ2 (pointG2_neg a)) ∧
      toPoint bb (Jac.decJ2 (pointG2_neg a)) = -toPoint bb (Jac.decJ2 a)) ∧
    (Jac.Reduced2 (pointG2_null : G2J) ∧ Valid bb (Jac.decJ2 (pointG2_null : G2J)) ∧
      toPoint bb (Jac.decJ2 (pointG2_null : G2J)) = 0) ∧
    (Jac.Reduced2 (pointG2_mul s a) ∧ toPoint bb (Jac.decJ2 (pointG2_mul s a)) = s • toPoint bb (Jac.decJ2 a)) := by
  have ra := ha.rep va
  have rb := hb.rep vb
  rw [congr_fun₃ gen_pointG2_add_eq_model p a b, congr_fun₃ gen_pointG2_sub_eq_model p a b,
    congrFun gen_pointG2_neg_eq_model a, congr_fun₂ gen_pointG2_mul_eq_model s a, gen_pointG2_null_eq_model]
  exact ⟨(g2_law bb).add hp ra rb, (g2_law bb).sub hp ra rb hb.2.2.2, (g2_law bb).neg ra ha.2.2.2,
    (g2_law bb).infinity, ((g2_law bb).twistMul s ra).1, ((g2_law bb).twistMul s ra).2.2⟩

example : toPoint (Fp2.map dec twistB : Fp2 (ZMod Bn256.p)) (Jac.decJ2 (pointG2_sub twistGen twistGen twistGen)) = 0 := by
  have h := kyber_g2_group_law (Fp2.map dec twistB) twistGen twistGen twistGen C10G2.g2_generator_valid.2.1
    C10G2.g2_generator_valid.2.1 C10G2.g2_generator_valid.2.1 C10G2.g2_generator_valid.2.2
    C10G2.g2_generator_valid.2.2 0
  rw [h.2.1.2.2, sub_self]

/-- **the scalar reduced modulo the group order** (G2): on the subgroup generated by twistGen, `p.Mul(scalar k, q)`
is k • Q for every integer k — Order • twistGen = O is kernel-evaluated (`C10G2.g2_generator_torsion`), no torsion
hypothesis -/
theorem kyber_g2_mul_mod_order (q : G2J) (hq : Jac.Reduced2 q)
    (vq : Valid (Fp2.map dec twistB : Fp2 (ZMod Bn256.p)) (Jac.decJ2 q))
    (hk : ∃ k : Nat, toPoint (Fp2.map dec twistB) (Jac.decJ2 q) =
      k • toPoint (Fp2.map dec twistB) (Jac.decJ2 twistGen)) (k : Int) (n : Nat) :
    toPoint (Fp2.map dec twistB : Fp2 (ZMod Bn256.p)) (Jac.decJ2 (pointG2_mul (modIntV k Gen.Bn256.Order) q)) =
      k • toPoint (Fp2.map dec twistB) (Jac.decJ2 q) ∧
    toPoint (Fp2.map dec twistB : Fp2 (ZMod Bn256.p)) (Jac.decJ2 (pointG2_mul (n % Gen.Bn256.Order) q)) =
      n • toPoint (Fp2.map dec twistB) (Jac.decJ2 q) := by
  have ht := (C10G2.g2_subgroup_torsion q hq vq hk 0).1
  have hpos : 0 < Gen.Bn256.Order := by decide
  have hm := fun s => (kyber_g2_group_law (Fp2.map dec twistB) q q q hq hq hq vq vq s).2.2.2.2.2
  refine ⟨?_, ?_⟩
  · rw [hm]; exact modIntV_smul _ _ hpos ht k
  · rw [hm, ← modIntV_natCast, modIntV_smul _ _ hpos ht, natCast_zsmul]

example : toPoint (Fp2.map dec twistB : Fp2 (ZMod Bn256.p))
      (Jac.decJ2 (pointG2_mul (modIntV (-1) Gen.Bn256.Order) twistGen)) =
    (-1 : Int) • toPoint (Fp2.map dec twistB) (Jac.decJ2 twistGen) :=
  (kyber_g2_mul_mod_order twistGen C10G2.g2_generator_valid.2.1 C10G2.g2_generator_valid.2.2
    ⟨1, (one_nsmul _).symm⟩ (-1) 0).1

/-! ### GT and the pairing check -/

/-- **GT, kyber level** (over every commutative ring): `Add` is the multiplication of gfP12, `Mul` the power by the
scalar — for every exponent, and equal to the power by the exponent reduced modulo any n with qⁿ = 1 —, `Neg` the
conjugation, `Sub` a · conj(b); `Neg` is the inverse exactly on the elements of norm one (a · conj a is the
gfP6 norm). The hypothesis `hn` and the norm-one condition are discharged in Props/C10GT.lean
(`gt_generator_order`, `kyber_pair_unitary`, `kyber_gt_group`: the unitary elements form a group whose operations are
these functions) and Props/C10Frob.lean (`kyber_pair_order`: every value of Pair has order dividing r); the
non-trivial instances (the pairing of the generators) are there -/
theorem kyber_gt_laws {R : Type} [CommRing R] (a b q : Fp12 R) (s n : Nat) (hn : q ^ n = 1) :
    pointGT_add a b = a * b ∧ pointGT_mul s q = q ^ s ∧ pointGT_mul s q = pointGT_mul (s % n) q ∧
    pointGT_neg a = Fp12.conjugate a ∧ pointGT_sub a b = a * Fp12.conjugate b ∧
    pointGT_add a (pointGT_neg a) = Fp12.ofBase (a.y * a.y - Fp6.tau * (a.x * a.x)) := by
  rw [gen_pointGT_add_eq_model, gen_pointGT_mul_eq_model, gen_pointGT_neg_eq_model, gen_pointGT_sub_eq_model]
  exact ⟨rfl, C10Tower.gfP12_exp_is_power q s, (C10Tower.gfP12_exp_laws q 0 s n hn).2.2, rfl, rfl,
    Fp12.mul_conjugate a⟩

example : pointGT_mul 7 (1 : Fp12 Int) = pointGT_mul (7 % 3) 1 := (kyber_gt_laws 1 1 (1 : Fp12 Int) 7 3 (one_pow 3)).2.2.1

/-- **Pair, kyber level**: reduced inputs give a reduced gfP12 value that decodes to the translated optimalAte over
F_p (Miller loop + final exponentiation; reducedness carried through all 265 steps, Props/C10Miller) -/
theorem kyber_pair_reduced (p1 : G1J) (p2 : G2J) (h1 : Jac.Reduced p1) (h2 : Jac.Reduced2 p2) :
    Red12 (pointGT_pair frobConsts uParam p1 p2) ∧
    dec12 (pointGT_pair frobConsts uParam p1 p2) =
      Bn256Code.optimalAte frobConstsFp uParam (Jac.decJ2 p2) (Jac.decJ p1) := by
  rw [(gen_pointGT_pair_eq_model_gfp p1 p2).2]
  exact C10Miller.optimalAte_reduced p2 p1 h2 h1

example : Red12 (pointGT_pair frobConsts uParam curveGen twistGen) :=
  (kyber_pair_reduced curveGen twistGen curveGen_reduced twistGen_reduced).1

/-- **PairingCheck, kyber level**: for reduced input points, the translated `PairingCheck(a, b)` panics exactly
when `b` is shorter than `a`; otherwise it returns true exactly when the product in F_p¹² of the decoded pairing
values of the pairs (a[i], b[i]) is one — identities at any position contribute one; no hypothesis on the Miller
values -/
theorem kyber_pairingCheck (a : List G1J) (b : List G2J) (ha : ∀ x ∈ a, Jac.Reduced x)
    (hb : ∀ y ∈ b, Jac.Reduced2 y) :
    (pointGT_pairingCheck frobConsts uParam a b = none ↔ b.length < a.length) ∧
    (a.length ≤ b.length →
      (pointGT_pairingCheck frobConsts uParam a b = some true ↔
        ((List.zip a b).map fun pq => dec12 (optimalAte pq.2 pq.1)).prod = 1)) := by
  rw [gen_pointGT_pairingCheck_eq_model]
  constructor
  · by_cases h : b.length < a.length <;> simp [h]
  · intro hle
    have h : ¬ b.length < a.length := by omega
    simp only [h, if_false, Option.some.injEq]
    exact C10Miller.pairingCheck_implemented (List.zip a b) (fun pq hpq =>
      ⟨ha _ (List.of_mem_zip hpq).1, hb _ (List.of_mem_zip hpq).2⟩)

example : pointGT_pairingCheck frobConsts uParam [curveGen, curveGen] [twistGen] = none :=
  (kyber_pairingCheck [curveGen, curveGen] [twistGen]
    (by intro x hx; simp at hx; subst hx; unfold Jac.Reduced; decide)
    (by intro y hy; simp at hy; subst hy; unfold Jac.Reduced2; decide)).1.mpr (by decide)

end Dos.Props.C10Kyber
