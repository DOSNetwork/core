/-
C18, ABI layer — "delivered … with every field equal to the ABI-decoded log", from the BYTES of the log
(topics, data) to the fields of the node event.

`Abi.decodeArgs` models go-ethereum v1.10.9 `abi.Arguments.UnpackValues`, `Abi.decodeLog` models
`bind.BoundContract.UnpackLog` (+ `abi.ParseTopics`), every Go slice expression with its bounds
(Model/Abi.lean); `EventAbi.events` are the fifteen events behind the subscription table as the contracts declare
them, `emit` the log a contract puts on the chain, `receive` what the binding makes of a raw log.
Theorems: the decoder never panics on any bytes, whatever it returns is in range, it is the left inverse of the
encoder, what it accepts besides canonical encodings (stated exactly, with witnesses), re-encoding what it
returned is a fixed point; receive ∘ emit = id for every event and all values; a log without topics is the one
input on which `UnpackLog` panics; and `decide` theorems over regenerated facts: the ABI embedded in the bindings,
the abigen event structs, the subscription table — composed into "node field f = ABI input number k".
The tie to the real bytes: `al` cases of the correspondence run push the MODEL's encoding (checked equal to
go-ethereum's packing) and damaged logs through the real subscription path and compare with `receive`.
Helper lemmas: Proofs/Abi*.lean.
-/
import DosModel.Proofs.Abi
import DosModel.Proofs.AbiDecode
import DosModel.Proofs.AbiLog
import DosModel.Proofs.AbiFacts
import DosModel.Proofs.KeccakRows

namespace Dos.Props.C18Abi
open Dos Dos.Abi Dos.EventAbi Dos.AbiCheck

/-! ### the decoder, for all types of the fragment and ALL byte strings -/

/-- **total.** On arbitrary bytes `UnpackValues` returns values or an error; no slice expression of the decoder
goes out of range. -/
theorem abi_decode_never_panics (tys : List AbiType) (bs : Bytes) (hw : tysWf tys = true) (site : String) :
    decodeArgs tys bs ≠ .error (.panic site) :=
  (decGo_sat tys 0 bs hw).ne_panic site

example : decodeArgs [.string, .darray .address] (natBE 32 (2 ^ 256 - 1) ++ natBE 32 64) = .error .err := by
  decide +kernel

/-- **range.** Whatever the decoder returns is a well-typed argument list: integers below 2^bits, addresses below
2^160, booleans 0/1, `bytesN` of N bytes, static arrays of their length. -/
theorem abi_decode_returns_well_typed (tys : List AbiType) (bs : Bytes) (vs : List AbiVal) (hw : tysWf tys = true)
    (h : decodeArgs tys bs = .ok vs) : wtArgs tys vs = true :=
  (decGo_sat tys 0 bs hw).of_ok h

example : decodeArgs [.elem (.uint 8)] (List.replicate 32 0xff) = .ok [.elem (.num 255)] := by decide +kernel

/-- **left inverse.** Decoding the encoding of well-typed values gives the values. -/
theorem abi_decode_encode (tys : List AbiType) (vs : List AbiVal) (hw : tysWf tys = true) (hv : wtArgs tys vs = true)
    (hB : (encodeRaw tys vs).length < 2 ^ 63) : decodeArgs tys (encodeRaw tys vs) = .ok vs :=
  decode_encode tys vs hw hv hB

example : decodeArgs [.elem (.uint 256), .darray .address] (encodeRaw [.elem (.uint 256), .darray .address]
    [.elem (.num 7), .arr [.num 1, .num (2 ^ 160 - 1)]]) = .ok [.elem (.num 7), .arr [.num 1, .num (2 ^ 160 - 1)]] := by
  decide +kernel

/-- **canonical form.** If the decoder accepts `bs` and returns `vs`, then `vs` can be encoded and the encoding
decodes to `vs` again: re-encoding is a fixed point, `encodeRaw tys vs` is THE canonical representative of
everything that decodes to `vs`. -/
theorem abi_decode_canonical (tys : List AbiType) (bs : Bytes) (vs : List AbiVal) (hw : tysWf tys = true)
    (h : decodeArgs tys bs = .ok vs) (hB : (encodeRaw tys vs).length < 2 ^ 63) :
    encodeArgs tys vs = some (encodeRaw tys vs) ∧ decodeArgs tys (encodeRaw tys vs) = .ok vs := by
  have hv := (decGo_sat tys 0 bs hw).of_ok h
  exact ⟨by simp [encodeArgs, hv], decode_encode tys vs hw hv hB⟩

/-- **what is accepted besides the canonical form** (go-ethereum v1.10.9, each with a witness): the unused high
bytes of a `uint8` word and of an `address` word are ignored; the bytes after the first N of a `bytesN` word are
ignored; an offset may point anywhere inside the data — here two `string` arguments share one tail and the tail
precedes nothing; garbage in the padding of a `string` and after the last tail is ignored.  A `bool` word is the
one narrow type that is checked: anything but 0 or 1 is an error. -/
theorem abi_noncanonical_inputs :
    -- uint8: 0xff…ff07 reads as 7
    decodeArgs [.elem (.uint 8)] (List.replicate 31 0xff ++ [7]) = .ok [.elem (.num 7)] ∧
    -- address: the 12 high bytes are dropped
    decodeArgs [.elem .address] (List.replicate 12 0xee ++ natBE 20 5) = .ok [.elem (.num 5)] ∧
    -- bytes4: the 28 low bytes are dropped
    decodeArgs [.elem (.fixedBytes 4)] ([1, 2, 3, 4] ++ List.replicate 28 0xaa) = .ok [.elem (.fixed [1, 2, 3, 4])] ∧
    -- two strings, both offsets = 64, one tail "hi" with garbage padding, trailing garbage
    decodeArgs [.string, .string]
      (natBE 32 64 ++ natBE 32 64 ++ natBE 32 2 ++ ([104, 105] ++ List.replicate 30 0x99) ++ [1, 2, 3])
      = .ok [.blob [104, 105], .blob [104, 105]] ∧
    -- offset 0 points at the head itself: the length word IS the offset word, both read 0: the empty string
    decodeArgs [.string] (natBE 32 0 ++ List.replicate 32 0x41) = .ok [.blob []] ∧
    decodeArgs [.string] (natBE 32 0) = .ok [.blob []] ∧
    -- a length that reaches past the end of the data is an error
    decodeArgs [.string] (natBE 32 32 ++ natBE 32 32) = .error .err ∧
    -- bool: strict
    decodeArgs [.elem .bool] (natBE 32 2) = .error .err ∧
    decodeArgs [.elem .bool] ([1] ++ natBE 31 1) = .error .err := by
  decide +kernel

example : encodeRaw [.string, .string] [.blob [104, 105], .blob [104, 105]]
    ≠ natBE 32 64 ++ natBE 32 64 ++ natBE 32 2 ++ ([104, 105] ++ List.replicate 30 0x99) ++ [1, 2, 3] := by
  decide +kernel

/-! ### event logs -/

/-- the fifteen modelled events are inside the fragment; none has an indexed input -/
theorem modelled_events_wellformed :
    events.all (fun e => e.spec.wf && e.spec.indexed.isEmpty) = true := by decide

example : (eventOf 2).map (·.spec.name) = some "LogUrl" := by decide

/-- **receive ∘ emit = id.** For every event specification of the fragment, every hash and all well-typed
argument values: what `UnpackLog` writes into the binding struct from the log the contract emitted is, field by
field, the values the contract emitted. -/
theorem log_roundtrip (id : Bytes) (s : EventSpec) (vs : List AbiVal) (hw : s.wf = true)
    (hv : wtArgs s.types vs = true) (hB : (encodeLog id s vs).data.length < 2 ^ 63) :
    decodeLog id s (encodeLog id s vs) = .ok (vs.map some) :=
  decodeLog_encodeLog id s vs hw hv hB

/-- … in particular for each of the fifteen events behind the subscription table -/
theorem receive_emit (hash : Bytes → Bytes) (e : Ev) (he : e ∈ events) (vs : List AbiVal)
    (hv : wtArgs e.spec.types vs = true) (hB : (emit hash e vs).data.length < 2 ^ 63) :
    receive hash e (emit hash e vs) = .ok (vs.map some) := by
  have hw : e.spec.wf = true := by
    have := modelled_events_wellformed
    simp only [List.all_eq_true, Bool.and_eq_true] at this
    exact (this e he).1
  exact log_roundtrip _ e.spec vs hw hv hB

example : (eventOf 4).map (fun e => receive (fun b => b.take 32) e (emit (fun b => b.take 32) e
    [.elem (.num 7), .arr [.num 1, .num 2]])) = some (.ok [some (.elem (.num 7)), some (.arr [.num 1, .num 2])]) := by
  decide +kernel

/-- **the one panic.** `UnpackLog` reads `log.Topics[0]` unguarded: a log without topics is a run-time panic
(in the binding's watcher goroutine: the process dies) … -/
theorem log_without_topics_panics (id : Bytes) (s : EventSpec) (data : Bytes) :
    ∃ site, decodeLog id s { topics := [], data := data } = .error (.panic site) := ⟨_, rfl⟩

/-- … and the only one: with at least one topic, whatever the topics and the data are, the result is a decoded
log or an error. -/
theorem log_with_a_topic_never_panics (id : Bytes) (s : EventSpec) (hw : s.wf = true) (t0 : Bytes)
    (rest : List Bytes) (data : Bytes) (site : String) :
    decodeLog id s { topics := t0 :: rest, data := data } ≠ .error (.panic site) :=
  (decodeLog_noPanic_of_topic id s hw t0 rest data).ne_panic site

example : decodeLog [1] ⟨"E", [⟨"a", .elem (.uint 256), false⟩]⟩ { topics := [[1]], data := [0] } = .error .err := by
  decide +kernel

/-- a first topic that is not the event id is an error -/
theorem log_wrong_event_id_rejected (id : Bytes) (s : EventSpec) (t0 : Bytes) (rest : List Bytes) (data : Bytes)
    (h : t0 ≠ id) : decodeLog id s { topics := t0 :: rest, data := data } = .error .err := by
  simp [decodeLog, h]

example : decodeLog [1] ⟨"E", []⟩ { topics := [[2]], data := [] } = .error .err := by decide

/-- for an event without indexed inputs any further topic is an error ("topic/field count mismatch") -/
theorem log_extra_topic_rejected (id : Bytes) (s : EventSpec) (hw : s.wf = true) (hi : s.indexed = [])
    (t1 : Bytes) (rest : List Bytes) (data : Bytes) :
    decodeLog id s { topics := id :: t1 :: rest, data := data } = .error .err := by
  have hnp := decodeLog_noPanic_of_topic id s hw id (t1 :: rest) data
  cases hd : decodeLog id s { topics := id :: t1 :: rest, data := data } with
  | error e =>
    cases e with
    | err => rfl
    | panic site => exact absurd hd (hnp.ne_panic site)
  | ok vals =>
    exfalso
    simp only [decodeLog, ne_eq, not_true_eq_false, if_false, hi, decTopics] at hd
    obtain ⟨ns, _, h2⟩ := bind_ok hd
    simp [bind, Except.bind] at h2

example : decodeLog [1] ⟨"E", []⟩ { topics := [[1], [1]], data := [] } = .error .err := by decide

/-- observation (go-ethereum v1.10.9: `if len(log.Data) > 0 { unpack }`): a log of the right event with EMPTY data
is accepted and leaves every field of the binding struct at its Go zero value (nil `*big.Int`s) — no contract emits
such a log for an event with inputs -/
theorem log_empty_data_leaves_zero_values (id : Bytes) (s : EventSpec) (hi : s.indexed = []) :
    decodeLog id s { topics := [id], data := [] } = .ok (s.inputs.map (fun _ => none)) := by
  have := mergeVals_none s.inputs hi
  simp only [decodeLog, ne_eq, not_true_eq_false, if_false, List.isEmpty_nil, if_true, hi, decTopics, bind, Except.bind,
    pure, Except.pure, EventSpec.nonIndexed]
  rw [this]

example : decodeLog [1] ⟨"E", [⟨"a", .elem (.uint 256), false⟩]⟩ { topics := [[1]], data := [] } = .ok [none] := by decide

/-! ### regenerated facts (Gen/AbiFacts.lean, Gen/EventTable.lean) -/

/-- two checks over the fifteen events in ONE evaluation: they read the same names, and within a declaration the
kernel converts each string once -/
theorem abi_facts_evaluated :
    events.all eventMatches = true ∧ events.all bindingStructMatches = true := by decide +kernel

/-- the ABI embedded in the bindings declares each of the fifteen events exactly as the model assumes: input
names, types, order, nothing indexed, not anonymous -/
theorem abi_events_match_model : events.all eventMatches = true := abi_facts_evaluated.1

example : (eventOf 2).map eventMatches = some true :=
  congrArg some (List.all_eq_true.mp abi_events_match_model _ (.tail _ (.tail _ (.head _))))

/-- the abigen event structs: one field per ABI input, in ABI order, named `ToCamelCase(input name)`, of the Go
type of the input's ABI type, then `Raw` — so `Arguments.Copy` (by name for several inputs, field 0 for one) puts
decoded value number k into field number k -/
theorem binding_structs_match_abi : events.all bindingStructMatches = true := abi_facts_evaluated.2

example : toCamelCase "dispatchedGroupId" = "DispatchedGroupId" ∧ toCamelCase "_secret_hash" = "SecretHash" := by
  decide +kernel

/-- **field ↔ ABI position.** For each of the seven events the node subscribes to, the table entry fills every
field of the node event from the ABI input at the position the property demands (same name; the two admitted
exceptions: `WorkingGroupSize` ← `numWorkingGroups`, input 2 of LogPublicKeyAccepted, whose input 1 `pubKey` has no
node field; `NodeId` ← `nodeId` through `Address.Bytes`) -/
theorem node_fields_from_abi_positions :
    nodeSubscribes.all (fun idx => match eventOf idx with
      | some e => some (nodeFieldSources e) == (modelFieldSources.find? (fun p => p.1 == idx)).map (·.2)
      | none => false) = true := by decide +kernel

example : (eventOf 2).map nodeFieldSources = some [("QueryId", some 0), ("Timeout", some 1), ("DataSource", some 2),
    ("Selector", some 3), ("Randomness", some 4), ("DispatchedGroupId", some 5)] := by decide +kernel

/-- **event ids.** Keccak-256 of the model's signature of each of the fifteen events, computed by the kernel, is
the id abigen quoted in the doc comment of the binding's Watch method (regenerated); pairwise different. -/
theorem event_ids_match_bindings :
    events.map topic0Hex = events.map docTopic0 ∧ (events.map topic0Hex).Nodup := by
  unfold topic0Hex topic0
  simp only [strBytes_eq, KeccakNat.keccak256_eq_rows]
  decide +kernel

example : (eventOf 2).map topic0Hex = some "05e1614af4efb13caeba2369a57a05ee5830f33364f82e2c899fd5710cb56ef3" :=
  congrArg (·[2]?) event_ids_match_bindings.1

/-- **end to end.** For a subscribed event `e`, any hash and all well-typed values `vs`: from the log the contract
emits for `vs`, the binding decodes `vs`, and the table entry puts into node field `f` the value `vs[k]`, `k` the
position `modelFieldSources` demands for `f`. -/
theorem delivered_fields_are_the_emitted_values (hash : Bytes → Bytes) (idx : Nat) (e : Ev)
    (hs : idx ∈ nodeSubscribes) (he : eventOf idx = some e) (vs : List AbiVal) (hv : wtArgs e.spec.types vs = true)
    (hB : (emit hash e vs).data.length < 2 ^ 63) (f : String) (k : Nat) (srcs : List (String × Option Nat))
    (hm : modelFieldSources.find? (fun p => p.1 == idx) = some (idx, srcs))
    (hf : srcs.find? (fun p => p.1 == f) = some (f, some k)) :
    ∃ vals, receive hash e (emit hash e vs) = .ok vals ∧ deliveredField e vals f = (vs.map some)[k]? := by
  have hmem : e ∈ events := by
    simp only [eventOf] at he
    exact List.mem_of_find?_eq_some he
  refine ⟨vs.map some, receive_emit hash e hmem vs hv hB, ?_⟩
  have hall := node_fields_from_abi_positions
  simp only [List.all_eq_true] at hall
  have h1 := hall idx hs
  simp only [he, hm, Option.map_some, beq_iff_eq, Option.some.injEq] at h1
  simp only [deliveredField, h1, hf]

example : (eventOf 5).map (fun e => deliveredField e [some (.elem (.num 1)), some (.arr []), some (.elem (.num 9))] "WorkingGroupSize")
    = some (some (some (.elem (.num 9)))) := by decide +kernel

end Dos.Props.C18Abi
