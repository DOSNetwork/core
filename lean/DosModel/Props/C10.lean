/-
C10 — bn256 field arithmetic (layers 1–3): regenerated constants, Montgomery reduction,
and the interpreted assembly of gfp.s. Tower fields are in Props/C10Tower.lean, curve,
scalar multiplication and the pairing-check logic in Props/C10Curve.lean.
Only theorems here; lemmas are in Proofs/Mont*.lean, Proofs/Asm*.lean.

`p` is the modulus the assembly reads (package variable `p2`), `np` the package variable
`np`, `R = 2^256`; all three come from the regenerated Gen/Bn256Consts.lean.
-/
import DosModel.Proofs.AsmField
import DosModel.Proofs.MontLimbs
import DosModel.Proofs.MontRedc
import DosModel.Proofs.MontInvert
import DosModel.Proofs.MontMulRedc
import DosModel.Proofs.Bn256Prime
import DosModel.Proofs.Bn256FieldIso
import DosModel.Model.AsmBn256
import DosModel.Model.Bn256Field

namespace Dos.Props.C10
open Dos Dos.Mont Dos.Asm Dos.Bn256

/-! ## 1. constants (E1, kernel arithmetic on the regenerated literals) -/

/-- the little-endian words `p2` are the prime `P`, and `P`, `Order` are the BN polynomials in `u` -/
theorem consts_p2_is_P : Bn256.p = Gen.Bn256.P ∧ Bn256.p < R ∧
    Gen.Bn256.P = 36 * Gen.Bn256.u ^ 4 + 36 * Gen.Bn256.u ^ 3 + 24 * Gen.Bn256.u ^ 2 + 6 * Gen.Bn256.u + 1 ∧
    Gen.Bn256.Order = 36 * Gen.Bn256.u ^ 4 + 36 * Gen.Bn256.u ^ 3 + 18 * Gen.Bn256.u ^ 2 + 6 * Gen.Bn256.u + 1 := by
  decide +kernel

/-- `np` is the negated inverse of p modulo 2^256 (the hypothesis of `redc_correct`) -/
theorem consts_np : (Bn256.np * Bn256.p + 1) % R = 0 ∧ Bn256.np < R := by decide

/-- r2 = R² mod p, r3 = R³ mod p, rN1 = R⁻¹ mod p (all reduced) -/
theorem consts_montgomery : GFp.r2.v = R * R % Bn256.p ∧ GFp.r3.v = R * R * R % Bn256.p ∧
    GFp.rN1.v * R % Bn256.p = 1 ∧ GFp.rN1.v < Bn256.p := by decide

/-- the exponent table of gfP.Invert is p − 2 -/
theorem consts_invert_exponent : limbsVal Gen.Bn256.invertBits = Bn256.p - 2 := by decide

/-- the signed digits of `sixuPlus2NAF` are in {−1,0,1}, never adjacent, and sum to 6u+2 -/
theorem consts_naf :
    (Gen.Bn256.sixuPlus2NAF.foldr (fun d acc => d + 2 * acc) 0 = 6 * (Gen.Bn256.u : Int) + 2) ∧
    (Gen.Bn256.sixuPlus2NAF.all fun d => d = -1 ∨ d = 0 ∨ d = 1) = true := by decide +kernel

/-! ## 2. Montgomery arithmetic, for every operand -/

/-- **redc_correct** (all T below R·p, any modulus with np·p ≡ −1 mod R) -/
theorem redc_correct (p np T : Nat) (hnp : (np * p + 1) % R = 0) (hT : T < R * p) :
    redc p np T < p ∧ redc p np T * R ≡ T [MOD p] := Mont.redc_correct p np T hnp hT

theorem one_subtraction_suffices (p np T : Nat) (hnp : (np * p + 1) % R = 0) (hT : T < R * p) :
    redcU p np T < 2 * p := Mont.one_subtraction_suffices p np T hnp hT

/-- gfpMul at the code's constants: for a·b < R·p — in particular `a` ANY 256-bit value and
`b` reduced (Montgomery encoding of unreduced input), or both reduced — the stored value is
reduced and is a·b·R⁻¹ mod p -/
theorem mul_correct_at_code_constants (a b : Nat) (hab : a * b < R * Bn256.p) :
    mulM Bn256.p Bn256.np a b < Bn256.p ∧ mulM Bn256.p Bn256.np a b * R ≡ a * b [MOD Bn256.p] :=
  Mont.mulM_correct _ _ a b consts_np.1 consts_p2_is_P.2.1 hab

/-- `montEncode` (gfpMul by r2) accepts ANY 256-bit value, reduced or not: the result is reduced and is a·R mod p -/
theorem encode_any_256bit (a : Nat) (ha : a < R) :
    (GFp.montEncode ⟨a⟩).v < Bn256.p ∧ (GFp.montEncode ⟨a⟩).v ≡ a * R [MOD Bn256.p] := by
  have hr2 : GFp.r2.v < Bn256.p := by decide
  have hab : a * GFp.r2.v < R * Bn256.p := Nat.mul_lt_mul'' ha hr2
  obtain ⟨h1, h2⟩ := mul_correct_at_code_constants a GFp.r2.v hab
  refine ⟨h1, ?_⟩
  -- (enc · R ≡ a · R²) and R invertible mod p
  have hR2 : GFp.r2.v ≡ R * R [MOD Bn256.p] := by
    have := consts_montgomery.1
    rw [this]; exact Nat.mod_modEq _ _
  have h3 : (GFp.montEncode ⟨a⟩).v * R ≡ a * R * R [MOD Bn256.p] := by
    have : a * GFp.r2.v ≡ a * (R * R) [MOD Bn256.p] := hR2.mul_left a
    rw [Nat.mul_assoc]; exact h2.trans this
  have hcop : Nat.Coprime Bn256.p R := by decide +kernel
  exact Nat.ModEq.cancel_right_of_coprime hcop h3

/-- what happens outside the precondition: both operands arbitrary 256-bit values -/
theorem mul_unreduced_both (a b : Nat) (ha : a < R) (hb : b < R) :
    mulM Bn256.p Bn256.np a b < R ∧ mulM Bn256.p Bn256.np a b * R ≡ a * b [MOD Bn256.p] :=
  Mont.mulM_unreduced _ _ a b consts_np.1 (by decide) consts_p2_is_P.2.1 ha hb

/-- … and it really can leave the range [0,p): the witness (2^256−1)² -/
theorem mul_unreduced_witness : ¬ mulM Bn256.p Bn256.np (R - 1) (R - 1) < Bn256.p := by decide

theorem add_sub_neg_reduced (a b : Nat) (ha : a < Bn256.p) (hb : b < Bn256.p) :
    addM Bn256.p a b = (a + b) % Bn256.p ∧ subM Bn256.p a b = (a + (Bn256.p - b)) % Bn256.p ∧
    negM Bn256.p a = (Bn256.p - a) % Bn256.p :=
  ⟨addM_correct _ a b consts_p2_is_P.2.1 ha hb, subM_correct _ a b consts_p2_is_P.2.1 ha hb,
   negM_correct _ a consts_p2_is_P.2.1 ha⟩

/-- **invert_correct**: gfP.Invert (square-and-multiply over the `bits` table from rN1, fixed up by r3)
returns a reduced value whose decoding is the (p−2)-th power of the decoded argument — for every reduced
argument, no primality used -/
theorem invert_correct (f : GFp) (hf : f.v < Bn256.p) :
    (GFp.invert f).v < Bn256.p ∧
    (GFp.invert f).v * GFp.rN1.v ≡ (f.v * GFp.rN1.v) ^ (Bn256.p - 2) [MOD Bn256.p] := invert_pow f hf

/-- the base-field modulus P and the group order r (regenerated literals) are PRIME: Pratt certificates
checked by Lean (Lucas' test with complete factorisations of n − 1, recursively) -/
theorem consts_primes : Nat.Prime Gen.Bn256.P ∧ Nat.Prime Gen.Bn256.Order :=
  ⟨Dos.Prime.P_prime, Dos.Prime.Order_prime⟩

/-- … hence gfP.Invert IS the field inverse in Montgomery form, for every reduced non-zero element:
decode(Invert f) · decode(f) ≡ 1 (mod p) -/
theorem invert_is_inverse (f : GFp) (hf : f.v < Bn256.p) (hf0 : f.v ≠ 0) :
    ((GFp.invert f).v * GFp.rN1.v) * (f.v * GFp.rN1.v) ≡ 1 [MOD Bn256.p] :=
  invert_inverse f hf hf0

/-- **gfP with the operations of the assembly is the prime field**: Montgomery decoding `dec x = x·R⁻¹` into
`ZMod p` (a field, since p is prime) is injective on reduced values, every operation keeps values reduced, and
gfpAdd / gfpSub / gfpNeg / gfpMul / gfP{0} / newGFp(1) / gfP.Invert are +, −, unary −, ·, 0, 1, ⁻¹ of the field.
(The tower, curve and scalar-multiplication theorems of Props/C10Tower.lean and Props/C10Curve.lean hold over
every field, in particular over this one.) -/
theorem gfP_is_prime_field (a b : GFp) (ha : a.v < Bn256.p) (hb : b.v < Bn256.p) :
    ((a + b).v < Bn256.p ∧ dec (a + b) = dec a + dec b) ∧
    ((a - b).v < Bn256.p ∧ dec (a - b) = dec a - dec b) ∧
    ((-a).v < Bn256.p ∧ dec (-a) = -dec a) ∧
    ((a * b).v < Bn256.p ∧ dec (a * b) = dec a * dec b) ∧
    ((a⁻¹).v < Bn256.p ∧ dec a⁻¹ = (dec a)⁻¹) ∧
    dec 0 = 0 ∧ ((1 : GFp).v < Bn256.p ∧ dec 1 = 1) ∧ (dec a = dec b → a = b) :=
  ⟨dec_add a b ha hb, dec_sub a b ha hb, dec_neg a ha, dec_mul a b ha hb, dec_inv a ha, dec_zero, dec_one,
   dec_injective a b ha hb⟩

/-- over that field gfP2 = F_p[i]/(i²+1) is a field too (p ≡ 3 mod 4, so the norm x² + y² of a non-zero element
is non-zero): gfP2.Invert inverts EVERY non-zero element -/
theorem gfP2_over_Fp_is_field (a : Fp2 (ZMod Bn256.p)) (ha : a ≠ 0) :
    Bn256.p % 4 = 3 ∧ a * Fp2.invert a = 1 := ⟨p_mod_four, fp2_invert_all a ha⟩

/-! ## 3. the interpreted assembly (regenerated listing of gfp.s) -/

/-- **gfpAdd**: for EVERY machine state (registers, flags, memory, aliasing of c/a/b) whose
operand blocks hold words, running the interpreted listing under the code's `p2` terminates
at RET without fault, stores in block c the 4 words of `addM p a b`, and changes nothing else -/
theorem gfpAdd_asm (s : State) (junk : Nat) (bmi2 : Bool)
    (ha : (load4 s.mem (s.alias .a)).ok) (hb : (load4 s.mem (s.alias .b)).ok) :
    ∃ s', call (codeEnv bmi2) Gen.Bn256Asm.gfpAdd s junk = .ok s' ∧ s'.alias = s.alias ∧
      (load4 s'.mem (s.alias .c)).val =
        addM Bn256.p (load4 s.mem (s.alias .a)).val (load4 s.mem (s.alias .b)).val ∧
      (load4 s'.mem (s.alias .c)).ok ∧ ∀ k i, k ≠ s.alias .c → s'.mem k i = s.mem k i := by
  obtain ⟨s', h, hal, hm⟩ := Outcome.final_eq_some (gfpAdd_interp (codeEnv bmi2) s junk)
  obtain ⟨hp, hpv⟩ := envP_codeEnv bmi2
  obtain ⟨hv, hok⟩ := addLimbs_val (envP (codeEnv bmi2)) _ _ hp ha hb
  exact ⟨s', h, hal, hm ▸ store4_result _ _ _ (hpv ▸ hv) hok⟩

theorem gfpSub_asm (s : State) (junk : Nat) (bmi2 : Bool)
    (ha : (load4 s.mem (s.alias .a)).ok) (hb : (load4 s.mem (s.alias .b)).ok) :
    ∃ s', call (codeEnv bmi2) Gen.Bn256Asm.gfpSub s junk = .ok s' ∧ s'.alias = s.alias ∧
      (load4 s'.mem (s.alias .c)).val =
        subM Bn256.p (load4 s.mem (s.alias .a)).val (load4 s.mem (s.alias .b)).val ∧
      (load4 s'.mem (s.alias .c)).ok ∧ ∀ k i, k ≠ s.alias .c → s'.mem k i = s.mem k i := by
  obtain ⟨s', h, hal, hm⟩ := Outcome.final_eq_some (gfpSub_interp (codeEnv bmi2) s junk)
  obtain ⟨hp, hpv⟩ := envP_codeEnv bmi2
  obtain ⟨hv, hok⟩ := subLimbs_val (envP (codeEnv bmi2)) _ _ hp ha hb
  exact ⟨s', h, hal, hm ▸ store4_result _ _ _ (hpv ▸ hv) hok⟩

theorem gfpNeg_asm (s : State) (junk : Nat) (bmi2 : Bool)
    (ha : (load4 s.mem (s.alias .a)).ok) :
    ∃ s', call (codeEnv bmi2) Gen.Bn256Asm.gfpNeg s junk = .ok s' ∧ s'.alias = s.alias ∧
      (load4 s'.mem (s.alias .c)).val = negM Bn256.p (load4 s.mem (s.alias .a)).val ∧
      (load4 s'.mem (s.alias .c)).ok ∧ ∀ k i, k ≠ s.alias .c → s'.mem k i = s.mem k i := by
  obtain ⟨s', h, hal, hm⟩ := Outcome.final_eq_some (gfpNeg_interp (codeEnv bmi2) s junk)
  obtain ⟨hp, hpv⟩ := envP_codeEnv bmi2
  obtain ⟨hv, hok⟩ := negLimbs_val (envP (codeEnv bmi2)) _ hp ha
  exact ⟨s', h, hal, hm ▸ store4_result _ _ _ (hpv ▸ hv) hok⟩

/-- **gfpMul, both code paths**: for EVERY machine state whose operand blocks hold words, and for hasBMI2 = false
(MULQ path: `mul` + `gfpReduce`, 312 instructions) as well as hasBMI2 = true (MULX path: `mulBMI2` +
`gfpReduceBMI2`, 187 instructions), the interpreted listing runs to RET without fault, stores in block c exactly
the four words of `mulM p np a b` — Montgomery REDC of a·b with one conditional subtraction — and changes nothing
else. Chain: interpreter = flat limb model (kernel-checked unfolding) = composition of the macro blocks
(kernel-checked) = number model (schoolbook product, truncated m, 512-bit add, gfpCarry; `omega`/`ring`). -/
theorem gfpMul_asm (s : State) (junk : Nat) (bmi2 : Bool)
    (ha : (load4 s.mem (s.alias .a)).ok) (hb : (load4 s.mem (s.alias .b)).ok) :
    ∃ mem', (call (codeEnv bmi2) Gen.Bn256Asm.gfpMul s junk).final = some (s.alias, mem') ∧
      (load4 mem' (s.alias .c)).val =
        mulM Bn256.p Bn256.np (load4 s.mem (s.alias .a)).val (load4 s.mem (s.alias .b)).val ∧
      (load4 mem' (s.alias .c)).ok ∧ ∀ k i, k ≠ s.alias .c → mem' k i = s.mem k i := by
  obtain ⟨hp, hpv⟩ := envP_codeEnv bmi2
  obtain ⟨hn, hnv⟩ := envNp_codeEnv bmi2
  cases bmi2
  · obtain ⟨hv, hok⟩ := mulLimbsMULQ_val _ _ _ _ hp hn ha hb
    exact ⟨_, gfpMul_interp_mulq _ _ s junk, store4_result _ _ _ (hpv ▸ hnv ▸ hv) hok⟩
  · obtain ⟨hv, hok⟩ := mulLimbsMULX_val _ _ _ _ hp hn ha hb
    exact ⟨_, gfpMul_interp_mulx _ _ s junk, store4_result _ _ _ (hpv ▸ hnv ▸ hv) hok⟩

/-- the statement of the property for Montgomery multiplication on both assembly paths: whenever
a·b < R·p (both operands reduced, or one of them an ARBITRARY 256-bit value), the interpreted assembly stores
a reduced value r with r·R ≡ a·b (mod p), i.e. r = a·b·R⁻¹ mod p -/
theorem gfpMul_asm_field (s : State) (junk : Nat) (bmi2 : Bool)
    (ha : (load4 s.mem (s.alias .a)).ok) (hb : (load4 s.mem (s.alias .b)).ok)
    (hab : (load4 s.mem (s.alias .a)).val * (load4 s.mem (s.alias .b)).val < R * Bn256.p) :
    ∃ mem', (call (codeEnv bmi2) Gen.Bn256Asm.gfpMul s junk).final = some (s.alias, mem') ∧
      (load4 mem' (s.alias .c)).val < Bn256.p ∧
      (load4 mem' (s.alias .c)).val * R ≡
        (load4 s.mem (s.alias .a)).val * (load4 s.mem (s.alias .b)).val [MOD Bn256.p] := by
  obtain ⟨mem', h, hv, _, _⟩ := gfpMul_asm s junk bmi2 ha hb
  obtain ⟨h1, h2⟩ := mul_correct_at_code_constants _ _ hab
  exact ⟨mem', h, by rw [hv]; exact h1, by rw [hv]; exact h2⟩

/-- the statement of the property for the three linear primitives: interpreted assembly =
integer arithmetic modulo p on every pair of reduced operands, under every aliasing -/
theorem gfpAdd_asm_field (s : State) (junk : Nat) (bmi2 : Bool)
    (ha : (load4 s.mem (s.alias .a)).ok) (hb : (load4 s.mem (s.alias .b)).ok)
    (hap : (load4 s.mem (s.alias .a)).val < Bn256.p) (hbp : (load4 s.mem (s.alias .b)).val < Bn256.p) :
    ∃ s', call (codeEnv bmi2) Gen.Bn256Asm.gfpAdd s junk = .ok s' ∧
      (load4 s'.mem (s.alias .c)).val =
        ((load4 s.mem (s.alias .a)).val + (load4 s.mem (s.alias .b)).val) % Bn256.p := by
  obtain ⟨s', h, _, hv, _⟩ := gfpAdd_asm s junk bmi2 ha hb
  exact ⟨s', h, by rw [hv, (add_sub_neg_reduced _ _ hap hbp).1]⟩

/-! non-vacuity: concrete instances -/
-- a machine state satisfying the hypotheses of the assembly theorems (operands p−1 and 2^256−1, c aliased to a)
example : (load4 (initState (fun | .c => .a | k => k) (L4.ofNat (Bn256.p - 1)) (L4.ofNat (R - 1))).mem .a).ok ∧
    (load4 (initState (fun | .c => .a | k => k) (L4.ofNat (Bn256.p - 1)) (L4.ofNat (R - 1))).mem .b).ok ∧
    (load4 (initState (fun | .c => .a | k => k) (L4.ofNat (Bn256.p - 1)) (L4.ofNat (R - 1))).mem .a).val *
      (load4 (initState (fun | .c => .a | k => k) (L4.ofNat (Bn256.p - 1)) (L4.ofNat (R - 1))).mem .b).val
      < R * Bn256.p := by
  refine ⟨?_, ?_, ?_⟩ <;> (try unfold L4.ok) <;> decide
-- REDC on a concrete T just below R·p
example : redc Bn256.p Bn256.np (R * Bn256.p - 1) < Bn256.p := by decide
-- reduced non-zero element for the inverse theorems
example : (GFp.newGFp 7).v < Bn256.p ∧ (GFp.newGFp 7).v ≠ 0 := by decide
example : addM Bn256.p (Bn256.p - 1) (Bn256.p - 1) = Bn256.p - 2 := by decide
example : subM Bn256.p 0 1 = Bn256.p - 1 := by decide
example : negM Bn256.p 0 = 0 := by decide
example : mulM Bn256.p Bn256.np (R - 1) GFp.r2.v < Bn256.p := by decide
example : GFp.invert (GFp.newGFp 2) * GFp.newGFp 2 = GFp.newGFp 1 := by decide +kernel
example : runFn Gen.Bn256Asm.gfpMul true id 1 GFp.r2.v = .ok (R % Bn256.p) := by decide +kernel
example : runFn Gen.Bn256Asm.gfpMul false (fun _ => .a) (R - 1) 0 = .ok (mulM Bn256.p Bn256.np (R - 1) (R - 1)) := by
  decide +kernel

end Dos.Props.C10
