/-
C16, last clause — "each message the remote endpoint sends is delivered once TO THE SUBSCRIBER OF ITS
TYPE" (mechanism: dispatch by message type, p2p/server.go messageDispatch / SubscribeMsg /
UnSubscribeMsg).

Property theorems only (helpers: `Proofs/P2PSub.lean`).  Model `Model/P2PSub.lean`: the
string-keyed table `subscriptions` driven by the iterations of messageDispatch's loop, parametric
in how the key is computed at the three places that compute it; configuration and universe of
types regenerated from the source (`Model/P2PSubCfg.lean`: the three key expressions of
p2p/server.go, every protobuf type the repository registers).  The specification is read off the
history by TYPE IDENTITY (import path + name), with no strings: `subscriberOf`, `specRun`.
-/
import DosModel.Proofs.P2PSub
import DosModel.Model.P2PSubCfg

namespace Dos.Props.C16Sub
open Dos Dos.P2PSub

/-- regenerated: the statement skeleton of messageDispatch, SubscribeMsg, UnSubscribeMsg is the one the
model was transcribed from (one table, one write `subscriptions[sub.msgType] = sub.msgCh`, one
`delete(subscriptions, msgType)`, one lookup; ANY edit of these functions shows here first) -/
theorem c16_sub_skeleton : Gen.subTableSkeleton =
  [
    "messageDispatch | subscriptions := make(map[string]chan P2PMessage)",
    "messageDispatch | for | case msg, ok := <-n.peersFeed | if ok | if msg.Msg.Message == nil | continue",
    "messageDispatch | for | case msg, ok := <-n.peersFeed | if ok | messagetype := reflect.TypeOf(msg.Msg.Message).String()",
    "messageDispatch | for | case msg, ok := <-n.peersFeed | if ok | if len(messagetype) > 0 && messagetype[0] == '*' | messagetype = messagetype[1:]",
    "messageDispatch | for | case msg, ok := <-n.peersFeed | if ok | out := subscriptions[messagetype]",
    "messageDispatch | for | case msg, ok := <-n.peersFeed | if ok | if out := subscriptions[messagetype]; out != nil | case <-n.ctx.Done() | (empty)",
    "messageDispatch | for | case msg, ok := <-n.peersFeed | if ok | if out := subscriptions[messagetype]; out != nil | case out <- msg | (empty)",
    "messageDispatch | for | case sub, ok := <-n.subscribeMsg | if ok | subscriptions[sub.msgType] = sub.msgCh",
    "messageDispatch | for | case msgType, ok := <-n.unscribeMsg | if ok | delete(subscriptions, msgType)",
    "messageDispatch | for | case <-n.ctx.Done() | for _, outch := range subscriptions",
    "messageDispatch | for | case <-n.ctx.Done() | _, outch := range subscriptions | if outch != nil | close(outch)",
    "messageDispatch | for | case <-n.ctx.Done() | return",
    "SubscribeMsg(chanBuffer int, peersFeed ...interface{}) | for _, m := range peersFeed",
    "SubscribeMsg(chanBuffer int, peersFeed ...interface{}) | _, m := range peersFeed | if chanBuffer > 0 | outch = make(chan P2PMessage, chanBuffer)",
    "SubscribeMsg(chanBuffer int, peersFeed ...interface{}) | _, m := range peersFeed | else(chanBuffer > 0) | outch = make(chan P2PMessage)",
    "SubscribeMsg(chanBuffer int, peersFeed ...interface{}) | _, m := range peersFeed | eventList = append(eventList, outch)",
    "SubscribeMsg(chanBuffer int, peersFeed ...interface{}) | _, m := range peersFeed | case <-n.ctx.Done() | (empty)",
    "SubscribeMsg(chanBuffer int, peersFeed ...interface{}) | _, m := range peersFeed | case n.subscribeMsg <- &subscription{msgType: reflect.TypeOf(m).String(), msgCh: outch} | (empty)",
    "SubscribeMsg(chanBuffer int, peersFeed ...interface{}) | outch = merge(n.ctx, eventList...)",
    "SubscribeMsg(chanBuffer int, peersFeed ...interface{}) | return",
    "UnSubscribeMsg(peersFeed ...interface{}) | for _, m := range peersFeed",
    "UnSubscribeMsg(peersFeed ...interface{}) | _, m := range peersFeed | case <-n.ctx.Done() | (empty)",
    "UnSubscribeMsg(peersFeed ...interface{}) | _, m := range peersFeed | case n.unscribeMsg <- reflect.TypeOf(m).String() | (empty)",
    "UnSubscribeMsg(peersFeed ...interface{}) | return"] := by rfl

/-- regenerated: how the key is computed at the three places — messageDispatch prints the dynamic type
(a pointer to the struct) and cuts the '*' off, SubscribeMsg and UnSubscribeMsg print the type of what
they are handed — and what the repository's own subscribers hand in: struct values (composite
literals), each of a registered message type. -/
theorem c16_sub_keys :
    Cfg.code = ⟨.strStrip, .str, .str⟩ ∧ Gen.subscribersHandValues = true ∧
    (Gen.subscribedTypes.all fun (path, name) => regTypes.any fun T => T.path == path && T.name == name) = true := by
  decide +kernel

/-- **the three computations agree on, and separate, every registered message type** (`good_code_keys`:
they agree by their shape; separation is the kernel evaluating that the keys of the regenerated registry are
pairwise different and that no pointer key is among them — the colliding bare names vss/dkg.PublicKey,
vss/dkg.Response, vss/dkg.Responses, p2p/internal.Ping … included; `goodCheck` is that statement as a
computation, `check_of_good` / `good_of_check`): the key a
message of type T is looked up with is the key a by-value subscription for T is filed under and the
key its unsubscription deletes; two different types never share a key; a subscription handed a
pointer lands on a key no message is ever looked up with. -/
theorem c16_sub_keys_separate : goodCheck Cfg.code regTypes = true :=
  c16_sub_keys.1 ▸ check_of_good _ _ good_code_keys

/-- **delivered once to the subscriber of its type, for EVERY history** of subscriptions,
unsubscriptions, re-subscriptions (by value or by pointer) and messages of registered types, in any
interleaving: what messageDispatch's table hands out is exactly — same messages, same channels, same
order, each once — what the specification by type identity asks for: each message to the channel
of the latest by-value subscription for ITS OWN type that has not been unsubscribed since, and to
nobody when there is none. -/
theorem delivered_once_to_subscriber_of_its_type (evs : List Ev) (hU : ∀ e ∈ evs, e.ty ∈ regTypes) :
    (run Cfg.code [] evs).2 = specRun evs (fun _ => none) :=
  run_eq_spec (good_of_check _ _ c16_sub_keys_separate) evs [] _ (rep_empty _ _) hU

example : (run Cfg.code [] [.subscribe 0 ⟨⟨"a/dkg", "dkg", "PublicKey"⟩, false⟩,
    .subscribe 1 ⟨⟨"a/vss", "vss", "PublicKey"⟩, false⟩, .msg 5 ⟨"a/vss", "vss", "PublicKey"⟩,
    .msg 6 ⟨"a/dkg", "dkg", "PublicKey"⟩, .unsubscribe ⟨⟨"a/vss", "vss", "PublicKey"⟩, false⟩,
    .msg 7 ⟨"a/vss", "vss", "PublicKey"⟩]).2 = [⟨1, 5⟩, ⟨0, 6⟩] := by rw [c16_sub_keys.1]; decide +kernel

/-- **a delivered message reaches exactly the subscriber registered for its full type**: after any
history `pre`, the loop hands message `id` of type `T` to the channel `subscriberOf T pre` names
and to no other, and drops it when there is none. -/
theorem message_reaches_exactly_its_subscriber (pre : List Ev) (hU : ∀ e ∈ pre, e.ty ∈ regTypes)
    (id : Nat) (T : TypeId) (hT : T ∈ regTypes) :
    (step Cfg.code (run Cfg.code [] pre).1 (.msg id T)).2 =
      (subscriberOf T pre none).map fun ch => ⟨ch, id⟩ := by
  have g := good_of_check _ _ c16_sub_keys_separate
  have r := rep_after g pre [] _ (rep_empty _ _) hU
  rw [step_msg g r id T hT]

/-- **a later subscription for ANOTHER type never replaces it**: whatever type `h'.ty ≠ T` somebody
subscribes (or unsubscribes) afterwards, by value or by pointer, a message of type `T` still goes
where it went. -/
theorem other_type_never_replaces (pre : List Ev) (hU : ∀ e ∈ pre, e.ty ∈ regTypes)
    (id : Nat) (T : TypeId) (hT : T ∈ regTypes) (ch' : Nat) (h' : Handed) (hh : h'.ty ∈ regTypes) (hne : h'.ty ≠ T) :
    (step Cfg.code (run Cfg.code [] (pre ++ [.subscribe ch' h'])).1 (.msg id T)).2 =
      (step Cfg.code (run Cfg.code [] pre).1 (.msg id T)).2 ∧
    (step Cfg.code (run Cfg.code [] (pre ++ [.unsubscribe h'])).1 (.msg id T)).2 =
      (step Cfg.code (run Cfg.code [] pre).1 (.msg id T)).2 := by
  have hU1 : ∀ e ∈ pre ++ [Ev.subscribe ch' h'], e.ty ∈ regTypes :=
    List.forall_mem_append.2 ⟨hU, List.forall_mem_singleton.2 hh⟩
  have hU2 : ∀ e ∈ pre ++ [Ev.unsubscribe h'], e.ty ∈ regTypes :=
    List.forall_mem_append.2 ⟨hU, List.forall_mem_singleton.2 hh⟩
  rw [message_reaches_exactly_its_subscriber _ hU1 id T hT, message_reaches_exactly_its_subscriber _ hU2 id T hT,
    message_reaches_exactly_its_subscriber _ hU id T hT, subscriberOf_append, subscriberOf_append]
  simp [subscriberOf, hne]

/-- **an unsubscribed type is dropped** (until somebody subscribes it again), **and a re-subscription
takes over**: the latest by-value subscription for `T` is the one that gets `T`'s messages. -/
theorem unsubscribed_dropped_resubscribed_served (pre : List Ev) (hU : ∀ e ∈ pre, e.ty ∈ regTypes)
    (id : Nat) (T : TypeId) (hT : T ∈ regTypes) (ch : Nat) :
    (step Cfg.code (run Cfg.code [] (pre ++ [.unsubscribe ⟨T, false⟩])).1 (.msg id T)).2 = none ∧
    (step Cfg.code (run Cfg.code [] (pre ++ [.unsubscribe ⟨T, false⟩, .subscribe ch ⟨T, false⟩])).1 (.msg id T)).2 =
      some ⟨ch, id⟩ := by
  have hU1 : ∀ e ∈ pre ++ [Ev.unsubscribe ⟨T, false⟩], e.ty ∈ regTypes :=
    List.forall_mem_append.2 ⟨hU, List.forall_mem_singleton.2 hT⟩
  have hU2 : ∀ e ∈ pre ++ [Ev.unsubscribe ⟨T, false⟩, Ev.subscribe ch ⟨T, false⟩], e.ty ∈ regTypes :=
    List.forall_mem_append.2 ⟨hU, List.forall_mem_cons.2 ⟨hT, List.forall_mem_singleton.2 hT⟩⟩
  rw [message_reaches_exactly_its_subscriber _ hU1 id T hT, message_reaches_exactly_its_subscriber _ hU2 id T hT,
    subscriberOf_append, subscriberOf_append]
  simp [subscriberOf]

/-- Observation (the code as it is, not a violation of C16: no caller in the repository does it —
`c16_sub_keys`): a subscriber that hands SubscribeMsg a POINTER (`&Ping{}`) is filed under
"*p2p.Ping", a key no message is looked up with; it receives nothing and disturbs nobody. -/
theorem ptr_subscription_is_dead (pre : List Ev) (hU : ∀ e ∈ pre, e.ty ∈ regTypes)
    (id : Nat) (T T' : TypeId) (hT : T ∈ regTypes) (hT' : T' ∈ regTypes) (ch : Nat) :
    (step Cfg.code (run Cfg.code [] (pre ++ [.subscribe ch ⟨T', true⟩])).1 (.msg id T)).2 =
      (step Cfg.code (run Cfg.code [] pre).1 (.msg id T)).2 := by
  have hU1 : ∀ e ∈ pre ++ [Ev.subscribe ch ⟨T', true⟩], e.ty ∈ regTypes :=
    List.forall_mem_append.2 ⟨hU, List.forall_mem_singleton.2 hT'⟩
  rw [message_reaches_exactly_its_subscriber _ hU1 id T hT, message_reaches_exactly_its_subscriber _ hU id T hT,
    subscriberOf_append]
  simp [subscriberOf]

/-- two registered types with the same bare name (that they are in the regenerated registry: the `example` below) -/
def vssPK : TypeId := ⟨"github.com/DOSNetwork/core/share/vss/pedersen", "vss", "PublicKey"⟩
def dkgPK : TypeId := ⟨"github.com/DOSNetwork/core/share/dkg/pedersen", "dkg", "PublicKey"⟩

example : vssPK ∈ regTypes ∧ dkgPK ∈ regTypes ∧ vssPK ≠ dkgPK := by decide +kernel
example : (step Cfg.code (run Cfg.code [] [.subscribe 3 ⟨dkgPK, false⟩, .subscribe 4 ⟨vssPK, false⟩]).1 (.msg 9 dkgPK)).2 =
    some ⟨3, 9⟩ := by rw [c16_sub_keys.1]; decide +kernel
example : subscriberOf dkgPK [.subscribe 3 ⟨dkgPK, false⟩, .subscribe 4 ⟨vssPK, false⟩] none = some 3 := by
  have h : vssPK ≠ dkgPK := fun h => absurd (congrArg TypeId.pkg h) (by decide)
  simp [subscriberOf, h]

/-- **why the package qualifier matters** (negation for the class "key without the package",
e.g. `reflect.Type.Name()`): with a bare-name key at all three places every subscriber still gets
its own messages, but a `vss.PublicKey` is handed to the subscriber of `dkg.PublicKey`, and when both
are subscribed the later subscription silently replaces the earlier one — the specification says
otherwise in both histories, and the separation check fails on the regenerated registry. -/
theorem bare_name_key_misroutes :
    let bare : Cfg := ⟨.bare, .bare, .bare⟩
    (run bare [] [.subscribe 0 ⟨dkgPK, false⟩, .msg 1 vssPK]).2 = [⟨0, 1⟩] ∧
    specRun [.subscribe 0 ⟨dkgPK, false⟩, .msg 1 vssPK] (fun _ => none) = [] ∧
    (run bare [] [.subscribe 0 ⟨vssPK, false⟩, .subscribe 1 ⟨dkgPK, false⟩, .msg 2 vssPK]).2 = [⟨1, 2⟩] ∧
    specRun [.subscribe 0 ⟨vssPK, false⟩, .subscribe 1 ⟨dkgPK, false⟩, .msg 2 vssPK] (fun _ => none) = [⟨0, 2⟩] ∧
    goodCheck bare regTypes = false := by
  decide +kernel

/-- … and why the '*' has to go on the dispatch side: printing the dynamic type as it is
("*vss.PublicKey") finds no by-value subscription at all. -/
theorem unstripped_key_delivers_nothing :
    (run ⟨.str, .str, .str⟩ [] [.subscribe 0 ⟨vssPK, false⟩, .msg 1 vssPK]).2 = [] ∧
    goodCheck ⟨.str, .str, .str⟩ regTypes = false := by
  decide +kernel

end Dos.Props.C16Sub
