/-
C13 — signature shares reach their request whatever the arrival / registration order.

Theorems about `Dos.Collector` (the body of `queryLoop`), for EVERY event list.
Instances (`Nat`) are pipeline runs (one context + one reply channel each);
request ids (`Rid`) are arbitrary byte strings, the empty one included (since
the repair of F17, /repo 1c42e72, there is no exceptional id).
Helper lemmas: `Proofs/Collector.lean`.
-/
import DosModel.Proofs.Collector
import DosModel.Gen.QueryLoopFacts
import DosModel.Gen.ChainHandlerFacts

namespace Dos.Props.C13
open Dos Dos.Collector

/-- **0. regenerated shape of `queryLoop`** (go/extract/queryloop, from the current source on every
run) = what `Model/Collector.lean` transcribes:
* the four select arms in this order: node context, watchdog, peer message, registration;
* watchdog (`Ev.watchdog`): for every entry of `reqSign` whose OWN context is done – close the
  reply channel, delete the buffer, delete the registration (`gone`);
* peer message (`Ev.arrive` / `Ev.other`): only a `*vss.Signature` counts; key
  `string(content.RequestId)`; membership by the `ok` idiom; registered ⇒ a select over exactly
  `req.ctx.Done()` (drop) and `req.reply <- content` (deliver), NO default arm; not registered ⇒
  append to `bufSign[requestID]`;
* registration (`Ev.register`): unconditional map write `reqSign[req.requestID] = req` (a later
  registration replaces an earlier one), flush of the WHOLE buffer (`len(signs) >= 0`), each share
  through a select over exactly `req.ctx.Done()` and `req.reply <- sign`, then
  `bufSign[req.requestID] = nil`.
A change to any of these lines (another context in a select, a default arm, a guard on the
registration or on the flush, another key) must be re-modelled: it breaks this obligation. -/
theorem c13_code_shape :
    Gen.QueryLoopFacts.queryLoop = [
      "bufSign := make(map[string][]*vss.Signature)",
      "reqSign := make(map[string]request)",
      "peerMsg, _ := d.p.SubscribeMsg(50, vss.Signature{})",
      "watchdog := time.NewTicker(30 * time.Minute)",
      "for",
      "  select",
      "    case <-d.ctx.Done()",
      "      return",
      "    case <-watchdog.C",
      "      for _, req := range reqSign",
      "        select",
      "          case <-req.ctx.Done()",
      "            close(req.reply)",
      "            delete(bufSign, req.requestID)",
      "            delete(reqSign, req.requestID)",
      "          default",
      "    case msg, ok := <-peerMsg",
      "      if ok",
      "        if content, ok := msg.Msg.Message.(*vss.Signature); ok",
      "          requestID := string(content.RequestId)",
      "          if req, ok := reqSign[requestID]; ok",
      "            select",
      "              case <-req.ctx.Done()",
      "              case req.reply <- content",
      "          else",
      "            bufSign[requestID] = append(bufSign[requestID], content)",
      "    case req, ok := <-d.reqSignc",
      "      if ok",
      "        reqSign[req.requestID] = req",
      "        if signs := bufSign[req.requestID]; len(signs) >= 0",
      "          for _, sign := range signs",
      "            select",
      "              case <-req.ctx.Done()",
      "              case req.reply <- sign",
      "          bufSign[req.requestID] = nil"] :=
  rfl

/-- **0b. regenerated: the receiver of a registered reply channel keeps receiving until the request's
context ends** (what `drain = true` in `Collector.stepB` stands for; finding F20, /repo 3a1c0bc).
`handleQuery` hands `dispatchSign`'s output channel – the `reply` of the registration
(`Props.C01.c01_request_id_shape`: `registeredReply = "out"`, `registeredCtx = "ctx"`) – to `recoverSign`
as its `signc`, with the SAME context; the goroutine of `recoverSign` defers `drainSigns(ctx, signc)`
FIRST, so it runs last, after `out` and `errc` are closed; and `drainSigns` is a loop over a select with
exactly two arms: receive from `signc` (return only when it is CLOSED) and `ctx.Done()` (return). -/
theorem c13_stage_drains :
    Gen.QueryLoopFacts.recoverSignParams = ["ctx", "signc", "suite", "pubPoly", "nbThreshold", "nbParticipants", "logger"]
    ∧ Gen.QueryLoopFacts.recoverSignDefers = ["drainSigns(ctx, signc)", "close(out)", "close(errc)"]
    ∧ Gen.QueryLoopFacts.drainSignsParams = ["ctx", "signc"]
    ∧ Gen.QueryLoopFacts.drainSigns = [
      "for",
      "  select",
      "    case _, ok := <-signc",
      "      if !ok",
      "        return",
      "    case <-ctx.Done()",
      "      return"]
    ∧ (Gen.ChainHandlerFacts.handleQueryStages.drop 6).take 2 = [
      "signAllc := dispatchSign(queryCtxWithValue, submitterc[1], signc, d.reqSignc, d.p, requestID.Bytes(), (len(ids)/2 + 1), d.logger)",
      "recoveredSignc, errc := recoverSign(queryCtxWithValue, signAllc, d.suite, pubPoly, (len(ids)/2 + 1), len(ids), d.logger)"] :=
  ⟨rfl, rfl, rfl, rfl, rfl⟩

/-- **0c. the watchdog arm is run on the real statements.**  `queryLoop` creates its
30-minute ticker itself; the hook `VerifQueryLoopTick(tick)` (dosnode/zz_verif_c13.go, build tag verif)
is a copy with that ticker replaced by an injected channel.  Regenerated with the same walker: the
copy's statement skeleton IS `queryLoop`'s, up to exactly the ticker's creation (left out) and
`watchdog.C` reading `tick` – so the `w` events of the correspondence run execute the statements
`c13_code_shape` pins.  An edit of `queryLoop` that is not mirrored in the hook breaks this. -/
theorem c13_tick_hook_is_queryLoop :
    Gen.QueryLoopFacts.queryLoopTickParams = ["tick <-chan time.Time"]
    ∧ Gen.QueryLoopFacts.queryLoopTick.map (fun l => if l = "    case <-tick" then "    case <-watchdog.C" else l)
      = Gen.QueryLoopFacts.queryLoop.filter (fun l => l != "watchdog := time.NewTicker(30 * time.Minute)") := by
  refine ⟨rfl, ?_⟩
  simp only [Gen.QueryLoopFacts.queryLoopTick, Gen.QueryLoopFacts.queryLoop, List.map, List.filter,
    String.reduceEq, String.reduceBNe, ↓reduceIte]

/-- **1. exactly once per delivery, before or after registration.**  If instance `h` registers
for request id `r` at any position of the schedule, nobody else registers for `r`, `h` registers
nowhere else and is not cancelled, then what `h` receives is exactly the list of shares that
arrived for `r` – same order, same multiplicity (a share delivered twice by a peer is handed
over twice) – whatever else happens (other requests, their registrations, re-registrations,
cancellations, watchdog ticks, foreign messages) and wherever the registration falls. -/
theorem delivered_eq_arrivals (es₁ es₂ : List Ev) (h : Nat) (r : Rid)
    (hreg : ∀ h' r', Ev.register h' r' ∈ es₁ ++ es₂ → r' ≠ r ∧ h' ≠ h)
    (hcan : Ev.cancel h ∉ es₁ ++ es₂) :
    deliveries (es₁ ++ Ev.register h r :: es₂) h = arrivalsFor r (es₁ ++ Ev.register h r :: es₂) := by
  -- before the registration everything for `r` is buffered, the registration flushes the buffer
  rw [registered_served es₁ es₂ h r (fun r' hm => (hreg h r' (List.mem_append_left _ hm)).2 rfl)
      (fun hm => hcan (List.mem_append_left _ hm))
      ⟨fun h' r' hm => hreg h' r' (List.mem_append_right _ hm), fun hm => hcan (List.mem_append_right _ hm)⟩,
    (buffered r es₁ init rfl (fun h' r' hm => (hreg h' r' (List.mem_append_left _ hm)).1)).2,
    arrivalsFor_append]
  rfl

/-- **1b. never duplicated, never reordered, never invented – for EVERY schedule.**  The shares
with request id `r` that the collector hands out (to whichever instance) form a sublist of the
shares that arrived for `r`: each delivery of a peer is handed over at most once and in order,
even with re-registrations, cancellations and watchdog ticks. -/
theorem delivered_sublist (es : List Ev) (r : Rid) :
    (((outputs es).map (·.2)).filter (fun s => s.rid = r)).Sublist (arrivalsFor r es) :=
  (List.sublist_append_left _ _).trans (run_sublist r es init good_init)

/-- **2. no crossover.**  Every share handed to instance `h` carries a request id under which `h`
registered (so with one registration per pipeline: exactly its own request id). -/
theorem no_crossover (es : List Ev) (h : Nat) (s : Share) (hm : (h, s) ∈ outputs es) :
    Ev.register h s.rid ∈ es :=
  (run_out_mem es init good_init (h, s) hm).2.resolve_left (by simp [init])

theorem no_crossover_own_id (es : List Ev) (h : Nat) (r : Rid)
    (honly : ∀ r', Ev.register h r' ∈ es → r' = r) : ∀ s ∈ deliveries es h, s.rid = r := by
  intro s hs
  simp only [deliveries, List.mem_map, List.mem_filter, beq_iff_eq] at hs
  obtain ⟨⟨h0, s0⟩, ⟨hp, rfl⟩, rfl⟩ := hs
  exact honly _ (no_crossover es h0 s0 hp)

/-- **3a. a cancelled (or completed) request receives nothing more.** -/
theorem cancel_stops (es₁ es₂ : List Ev) (h : Nat) :
    deliveries (es₁ ++ Ev.cancel h :: es₂) h = deliveries es₁ h := by
  rw [deliveries_eq, run_append, run_cons, deliveries_eq]
  simp only [deliv_append]
  rw [done_receives_nothing h es₂ (step (run init es₁).1 (.cancel h)).1
    (good_step _ _ (good_run es₁ init good_init)) (by simp [step])]
  simp [step]

/-- **3b. … and leaves the collector able to serve every other request.**  For an instance `h'`
that never uses a request id used by `h`, the cancellation of `h` – at any point – changes nothing:
it receives exactly what it would have received without it. -/
theorem cancel_isolated (es₁ es₂ : List Ev) (h h' : Nat)
    (hdisj : ∀ r, Ev.register h r ∈ es₁ ++ es₂ → Ev.register h' r ∉ es₁ ++ es₂) :
    deliveries (es₁ ++ Ev.cancel h :: es₂) h' = deliveries (es₁ ++ es₂) h' :=
  cancel_invisible (fun r => Ev.register h r ∈ es₁ ++ es₂) h h' es₁ es₂ (fun _ hm => hm)
    (fun r hm hr => hdisj r hr hm) init (rel_refl_of _ h h' init (by simp [init]) (by simp [init]))

/-- **3c. a request that COMPLETES leaves the collector able to serve every other request**
(finding F20).  `finish h` marks the moment the recovery stage of `h` returns after its
single report; its query context stays live until `handleQuery` returns (after the chain call).
The statement: the loop goroutine never waits for ever in a send, for every schedule of loop events
and completions. -/
def C13_never_blocks (drain : Bool) : Prop :=
  ∀ es : List EvB, (runB drain initB es).blockedAt = none

/-- … true for the code as it is since /repo 3a1c0bc (`defer drainSigns(ctx, signc)` in `recoverSign`,
pinned by `c13_stage_drains`): every schedule runs through. -/
theorem repaired_never_blocks : C13_never_blocks true := by
  intro es
  obtain ⟨sb', h1⟩ := runB_drain es initB
  rw [h1]; rfl

/-- … and the sends are exactly those of the delivery model `run` on the loop's own events – so theorems
1–5 (3a, 3b included) hold verbatim for schedules with completions (`toEvs` drops the marks). -/
theorem repaired_sends (es : List EvB) : (runB true initB es).sends = outputs (toEvs es) :=
  runB_drain_sends es

/-- a completion changes nothing for anybody: what the repaired loop hands to any instance `h'` in a
schedule with the completion of `h` is what it hands over without it -/
theorem completion_invisible (es₁ es₂ : List EvB) (h h' : Nat) :
    deliv (runB true initB (es₁ ++ EvB.finish h :: es₂)).sends h' = deliv (runB true initB (es₁ ++ es₂)).sends h' :=
  congrArg (deliv · h') (finish_invisible es₁ es₂ h)

/-- whichever variant: a run that gets through performed exactly the sends of the delivery model -/
theorem unblocked_sends (drain : Bool) (es : List EvB) (h : (runB drain initB es).blockedAt = none) :
    (runB drain initB es).sends = outputs (toEvs es) := by
  obtain ⟨sb', h1, _⟩ := (runB_sends drain es initB).resolve_left
    (fun ⟨_, h0, s0, hb⟩ => by rw [hb] at h; cases h)
  rw [h1]; rfl

/-- **negation witness for the code BEFORE 3a1c0bc** (`drain = false`): instance 0 registers for request
`[1]`, its stage reports and returns, the next share for `[1]` arrives (with n > t members there is
always one): the loop waits in that send – the share for request `[2]` behind it is never taken.
Replayed on the real loop with the real `recoverSign` as receiver: corpus/C13/f20_completion_window.txt. -/
theorem old_blocks_witness :
    (runB false initB [.ev (.register 0 [1]), .finish 0, .ev (.arrive ⟨[1], 2⟩), .ev (.arrive ⟨[2], 3⟩)]).blockedAt
      = some (0, ⟨[1], 2⟩) := by decide

theorem old_blocks : ¬ C13_never_blocks false := by
  intro h
  have := h [.ev (.register 0 [1]), .finish 0, .ev (.arrive ⟨[1], 2⟩), .ev (.arrive ⟨[2], 3⟩)]
  rw [old_blocks_witness] at this
  cases this

/-- **3d. a request id that is registered AGAIN** (a later incarnation `h` of id `r`: duplicate chain event,
or an id re-used after the first pipeline completed / was cancelled / is still running).  `h` is new
before its registration (`es₁`: any history, earlier incarnations of `r` included) and afterwards
undisturbed (`es₂`).  Then `h` receives exactly: what the buffer of `r` holds at that moment – a sublist
of the shares that arrived for `r` so far, EMPTY whenever an earlier incarnation is still registered
(swept or not, live or done) – followed by every share arriving for `r` after its registration, in
order.  So no share is handed over twice across incarnations, none that did not arrive for the id `r`;
the collector routes BY ID ONLY: a share of the earlier incarnation that arrives late does reach the
later one, and it is the stage that counts it only if its content and type are the pipeline's own
(`Query.accepts`, `Props.C01.report_valid`: the F18 guard) – checked on the real loop with the real
`recoverSign` by the `inc` cases (oracle `foreign-content-counted`).  What the property cannot promise
for a re-used id, and the code does not do: shares arriving while the EARLIER incarnation holds the
registration go to it (or are dropped when its context is done, until the watchdog sweeps it). -/
theorem later_incarnation_served (es₁ es₂ : List Ev) (h : Nat) (r : Rid)
    (hfresh : ∀ r', Ev.register h r' ∉ es₁) (hcan : Ev.cancel h ∉ es₁) (hq : Quiet h r es₂) :
    deliveries (es₁ ++ Ev.register h r :: es₂) h = (run init es₁).1.buf r ++ arrivalsFor r es₂
    ∧ ((run init es₁).1.buf r).Sublist (arrivalsFor r es₁)
    ∧ ((run init es₁).1.reg r ≠ none → (run init es₁).1.buf r = []) :=
  ⟨registered_served es₁ es₂ h r hfresh hcan hq, buf_sublist r es₁ init good_init,
    (good_run es₁ init good_init).regEmpty r⟩

/-- **4. the buffer is cleared by the registration** (no double delivery by a later flush) … -/
theorem buffer_cleared (es : List Ev) (h : Nat) (r : Rid) :
    (run init (es ++ [Ev.register h r])).1.buf r = [] := by
  rw [run_append]; simp [run, step, upd]

/-- … and stays empty as long as the request is registered, in every reachable state. -/
theorem registered_buffer_empty (es : List Ev) (r : Rid)
    (hr : (run init es).1.reg r ≠ none) : (run init es).1.buf r = [] :=
  (good_run es init good_init).regEmpty r hr

/-- **5. shares that arrive before anybody registers are kept** (none lost while waiting). -/
theorem buffered_until_registered (es : List Ev) (r : Rid)
    (hno : ∀ h' r', Ev.register h' r' ∈ es → r' ≠ r) :
    (run init es).1.buf r = arrivalsFor r es := by
  simpa [init] using (buffered r es init rfl hno).2

/-! ### non-vacuity: concrete schedules -/

private def sh (r : Nat) (t : Nat) : Share := { rid := [UInt8.ofNat r], tag := t }

/-- two requests interleaved, one registered late, one early; a foreign message and a watchdog tick -/
private def demo : List Ev :=
  [.arrive (sh 1 0), .arrive (sh 2 1), .other, .register 7 [1], .arrive (sh 1 4), .watchdog,
   .register 8 [2], .arrive (sh 2 7), .arrive (sh 1 8)]

example : deliveries demo 7 = [sh 1 0, sh 1 4, sh 1 8] ∧ deliveries demo 8 = [sh 2 1, sh 2 7] := by decide +kernel
example : arrivalsFor [1] demo = [sh 1 0, sh 1 4, sh 1 8] := by decide +kernel
/-- theorem 1 instantiated on `demo` split at the registration of instance 7: both hypotheses hold
(the only other registration is instance 8 for request id `[2]`; instance 7 is never cancelled) -/
example : deliveries demo 7 = arrivalsFor [1] demo :=
  delivered_eq_arrivals [.arrive (sh 1 0), .arrive (sh 2 1), .other]
    [.arrive (sh 1 4), .watchdog, .register 8 [2], .arrive (sh 2 7), .arrive (sh 1 8)] 7 [1]
    (by intro h' r' hm
        simp at hm
        obtain ⟨rfl, rfl⟩ := hm
        decide)
    (by decide)
/-- cancellation: instance 7 stops receiving, instance 8 is unaffected; the empty request id works -/
example : deliveries [.register 7 [], .arrive ⟨[], 1⟩, .cancel 7, .arrive ⟨[], 3⟩, .register 8 [2], .arrive (sh 2 5)] 7
    = [⟨[], 1⟩] := by decide +kernel
example : deliveries [.register 7 [], .arrive ⟨[], 1⟩, .cancel 7, .arrive ⟨[], 3⟩, .register 8 [2], .arrive (sh 2 5)] 8
    = [sh 2 5] := by decide +kernel

/-- completions: the same schedule on the repaired loop – request `[2]` is served, the late share of
`[1]` goes to the drain of instance 0 -/
example : (runB true initB [.ev (.register 0 [1]), .finish 0, .ev (.arrive ⟨[1], 2⟩), .ev (.register 1 [2]),
    .ev (.arrive ⟨[2], 4⟩)]).sends = [(0, ⟨[1], 2⟩), (1, ⟨[2], 4⟩)] := by decide +kernel
example : (runB true initB [.ev (.register 0 [1]), .finish 0, .ev (.arrive ⟨[1], 2⟩)]).blockedAt = none :=
  repaired_never_blocks _
/-- the old loop is fine as long as the context ends before the next share (`cancel` after `finish`) -/
example : (runB false initB [.ev (.register 0 [1]), .finish 0, .ev (.cancel 0), .ev (.arrive ⟨[1], 3⟩)]).blockedAt = none := by
  decide +kernel
/-- `cancel_isolated` instantiated: instance 7 (request `[1]`) cancelled, instance 8 (request `[2]`) -/
example : deliveries ([.register 7 [1], .register 8 [2], .arrive (sh 2 2)] ++ Ev.cancel 7 :: [.arrive (sh 1 4), .arrive (sh 2 5)]) 8
    = deliveries ([.register 7 [1], .register 8 [2], .arrive (sh 2 2)] ++ [.arrive (sh 1 4), .arrive (sh 2 5)]) 8 :=
  cancel_isolated _ _ 7 8 (by
    intro r hr
    simp at hr
    intro h8
    simp at h8
    obtain ⟨_, rfl⟩ := hr
    simp at h8)
/-- `delivered_sublist` instantiated on a schedule with a re-registration and a cancellation -/
example : (((outputs [.arrive (sh 1 0), .register 7 [1], .arrive (sh 1 2), .cancel 7, .arrive (sh 1 4), .register 9 [1],
      .arrive (sh 1 6)]).map (·.2)).filter (fun s => s.rid = [1])).Sublist
    (arrivalsFor [1] [.arrive (sh 1 0), .register 7 [1], .arrive (sh 1 2), .cancel 7, .arrive (sh 1 4), .register 9 [1],
      .arrive (sh 1 6)]) := delivered_sublist _ _
example : ((outputs [.arrive (sh 1 0), .register 7 [1], .arrive (sh 1 2), .cancel 7, .arrive (sh 1 4), .register 9 [1],
      .arrive (sh 1 6)]).map (·.2)) = [sh 1 0, sh 1 2, sh 1 6] := by decide +kernel

/-- `later_incarnation_served`: instance 7 completes (cancel), a share arrives late and is dropped, instance 9
registers the same id and gets exactly what arrives afterwards; with the earlier incarnation swept by the
watchdog first, the late share is buffered and handed to instance 9 -/
example : deliveries ([.register 7 [1], .arrive (sh 1 1), .cancel 7, .arrive (sh 1 3)] ++ Ev.register 9 [1] :: [.arrive (sh 1 5)]) 9
    = (run init [.register 7 [1], .arrive (sh 1 1), .cancel 7, .arrive (sh 1 3)]).1.buf [1] ++ arrivalsFor [1] [.arrive (sh 1 5)] :=
  (later_incarnation_served _ _ 9 [1] (by intro r' hm; simp at hm) (by decide)
    ⟨by intro h' r' hm; simp at hm, by decide⟩).1
example : deliveries [.register 7 [1], .arrive (sh 1 1), .cancel 7, .arrive (sh 1 3), .register 9 [1], .arrive (sh 1 5)] 9 = [sh 1 5]
    ∧ deliveries [.register 7 [1], .arrive (sh 1 1), .cancel 7, .watchdog, .arrive (sh 1 4), .register 9 [1], .arrive (sh 1 6)] 9
      = [sh 1 4, sh 1 6] := by decide +kernel

/-- request ids are EXACT byte strings (`string(content.RequestId)`, `c13_code_shape`): `07` and `0007` – the
same number under any fixed-width re-encoding – are two requests with two slots; `no_crossover` is about the
exact id (with the maps keyed by the id padded to 32 bytes, shares of one would cross over to the other). -/
example : deliveries [.register 1 [7], .arrive ⟨[0, 7], 1⟩, .arrive ⟨[7], 2⟩, .register 2 [0, 7], .arrive ⟨[7], 4⟩, .arrive ⟨[], 5⟩] 1
      = [⟨[7], 2⟩, ⟨[7], 4⟩]
    ∧ deliveries [.register 1 [7], .arrive ⟨[0, 7], 1⟩, .arrive ⟨[7], 2⟩, .register 2 [0, 7], .arrive ⟨[7], 4⟩, .arrive ⟨[], 5⟩] 2
      = [⟨[0, 7], 1⟩] := by decide +kernel

end Dos.Props.C13
