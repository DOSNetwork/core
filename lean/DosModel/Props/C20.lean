/-
C20 — the Ed25519 suite and Schnorr signatures interoperate with standard EdDSA.
Schnorr part (sign/schnorr/schnorr.go as REPAIRED by /repo 9d0b445); the scalar-arithmetic and
encoding part is in Props/C20Scalar.lean.  Helper lemmas: Proofs/Schnorr.lean, Proofs/Ed25519Enc.lean.

All theorems are about the executable model `Schnorr.sign / verify / verifyPre / verifyStd`
(Model/Schnorr.lean), for EVERY commutative group `G`, every record `g` that computes in it
(`Lawful g`), EVERY hash function `H`, all keys, nonces, messages and byte strings.

The alteration clause ("any altered message, signature or key is rejected") is proved as far as it is a
theorem: `single_alteration_cases` — an altered S or length is rejected outright; an accepted altered message,
key or R part EXHIBITS an explicit event of the hash alone (`altered_message_needs_collision`,
`altered_key_needs_hash_target`, `altered_R_needs_hash_target`), and `R_alias_accepted` shows the one case where an
altered R is genuinely accepted (non-canonical encoding of the same point, unreachable from honest signatures).
That SHA-512 avoids those events is an assumption, not a theorem.  (`Lawful` is needed: quantified over every record
`g` the clause is false — G := PUnit.)
-/
import DosModel.Proofs.SchnorrDlog
import DosModel.Gen.SchnorrFacts

namespace Dos.Props.C20
open Dos Dos.Ed25519 Dos.Schnorr

variable {G : Type} [AddCommGroup G]

/-- **T. the model is pinned to the source it was written against** (regenerated from
sign/schnorr/schnorr.go on every run): the digest is fed R, then the public key, then the message
(RFC 8032's order R‖A‖M); `Sign` and `Verify` call `hash` with (public, R); the response is
`Add(k, Mul(private, h))`; and `Verify` is statement for statement the function that was modelled. -/
theorem schnorr_source_pinned :
    Gen.SchnorrFacts.hashWrites = ["r", "public", "msg"]
    ∧ Gen.SchnorrFacts.hashParams = ["g", "public", "r", "msg"]
    ∧ Gen.SchnorrFacts.signHashArgs = ["g,public,R,msg"]
    ∧ Gen.SchnorrFacts.verifyHashArgs = ["g,public,R,msg"]
    ∧ Gen.SchnorrFacts.hashSrc =
      ["h := sha512.New()",
       "if _, err := r.MarshalTo(h); err != nil { return nil, err }",
       "if _, err := public.MarshalTo(h); err != nil { return nil, err }",
       "if _, err := h.Write(msg); err != nil { return nil, err }",
       "return g.Scalar().SetBytes(h.Sum(nil)), nil"]
    ∧ Gen.SchnorrFacts.signSrc =
      ["var g kyber.Group = s",
       "k := g.Scalar().Pick(s.RandomStream())",
       "R := g.Point().Mul(k, nil)",
       "public := g.Point().Mul(private, nil)",
       "h, err := hash(g, public, R, msg)",
       "if err != nil { return nil, err }",
       "xh := g.Scalar().Mul(private, h)",
       "S := g.Scalar().Add(k, xh)",
       "var b bytes.Buffer",
       "if _, err := R.MarshalTo(&b); err != nil { return nil, err }",
       "if _, err := S.MarshalTo(&b); err != nil { return nil, err }",
       "return b.Bytes(), nil"]
    ∧ Gen.SchnorrFacts.verifySrc =
      ["R := g.Point()",
       "s := g.Scalar()",
       "pointSize := R.MarshalSize()",
       "scalarSize := s.MarshalSize()",
       "sigSize := scalarSize + pointSize",
       "if len(sig) != sigSize { return fmt.Errorf(\"schnorr: signature of invalid length %d instead of %d\", len(sig), sigSize) }",
       "if err := R.UnmarshalBinary(sig[:pointSize]); err != nil { return err }",
       "if err := s.UnmarshalBinary(sig[pointSize:]); err != nil { return err }",
       "if sb, err := s.MarshalBinary(); err != nil || !bytes.Equal(sb, sig[pointSize:]) { return errors.New(\"schnorr: signature scalar is not canonical\") }",
       "h, err := hash(g, public, R, msg)",
       "if err != nil { return err }",
       "S := g.Point().Mul(s, nil)",
       "Ah := g.Point().Mul(h, public)",
       "RAs := g.Point().Add(R, Ah)",
       "if !S.Equal(RAs) { return errors.New(\"schnorr: invalid signature\") }",
       "return nil"] :=
  ⟨rfl, rfl, rfl, rfl, rfl, rfl, rfl⟩

/-- **1. completeness, any group, any hash value.**  For R = k•B, A = x•B and the response
s = k + x·h reduced modulo ℓ (as `scMul`, `scAdd` and `MarshalBinary` reduce it): s•B = R + h•A.
With h = H(R‖A‖M) this is the verification equation of RFC 8032 §5.1.7. -/
theorem schnorr_complete (B : G) (hB : ell • B = 0) (k x h : ℕ) :
    ((k + x * h % ell) % ell) • B = k • B + h • (x • B) :=
  response_eq B hB k x h

/-- **2. what `Verify` accepts (any record `g`, lawful or not).**  `Verify` returns nil iff the
signature has 64 bytes, its first half decodes to a point R, its second half spells a number
s < ℓ (canonical S — the repair), and Equal(s•B, R + h•A) for h = H(enc R ‖ enc A ‖ M) mod ℓ. -/
theorem verify_sound_model {G : Type} (g : Grp G) (H : Bytes → Bytes) (A : G) (msg sig : Bytes) :
    verify g H A msg sig = .ok () ↔
      sig.length = 64 ∧ ∃ R, g.dec (sig.take 32) = some R ∧ leNat (sig.drop 32) < ell ∧
        g.eq (g.smul (leNat (sig.drop 32)) g.base) (g.add R (g.smul (challenge g H A R msg) A)) = true := by
  unfold verify
  refine (frame_ok_iff g sig _).trans
    (and_congr_right fun hl => exists_congr fun R => and_congr_right fun _ => ?_)
  rw [← scCanonical_drop hl]
  by_cases hc : scCanonical (sig.drop 32) = true <;> simp [hc]

/-- 2, in a lawful group: the condition is the group equation s•B = R + h•A with s < ℓ. -/
theorem verify_sound {g : Grp G} (L : Lawful g) (H : Bytes → Bytes) (A : G) (msg sig : Bytes) :
    verify g H A msg sig = .ok () ↔
      sig.length = 64 ∧ ∃ R, g.dec (sig.take 32) = some R ∧ leNat (sig.drop 32) < ell ∧
        leNat (sig.drop 32) • g.base = R + challenge g H A R msg • A := by
  rw [verify_sound_model]
  exact and_congr_right fun _ => exists_congr fun R => and_congr_right fun _ => and_congr_right fun _ =>
    L.check_iff ..

/-- 2′ (historical, finding F5): `Verify` before the repair accepted iff the equation held for
**s taken modulo ℓ** — the 32 bytes of S entered unreduced. -/
theorem verifyPre_sound {g : Grp G} (L : Lawful g) (H : Bytes → Bytes) (A : G) (msg sig : Bytes) :
    verifyPre g H A msg sig = .ok () ↔
      sig.length = 64 ∧ ∃ R, g.dec (sig.take 32) = some R ∧
        (leNat (sig.drop 32) % ell) • g.base = R + challenge g H A R msg • A := by
  unfold verifyPre
  refine (frame_ok_iff g sig _).trans
    (and_congr_right fun _ => exists_congr fun R => and_congr_right fun _ => ?_)
  rw [mod_nsmul _ L.order, ← L.check_iff]
  simp

/-- **1′. a signature made by `Sign` is accepted by `Verify` AND by the standard (RFC 8032 /
crypto/ed25519) verifier** for the same public key and message — every lawful group, every hash,
every private scalar x (also unreduced), every nonce k, every message. -/
theorem sign_verifies {g : Grp G} (L : Lawful g) (H : Bytes → Bytes) (x k : ℕ) (msg : Bytes) :
    verify g H (g.smul x g.base) msg (sign g H x k msg) = .ok ()
    ∧ verifyStd g H (g.enc (g.smul x g.base)) msg (sign g H x k msg) = true := by
  obtain ⟨hS, htake, _, hle⟩ := sign_halves L H x k msg
  have hlen : (sign g H x k msg).length = 64 := by
    simp [sign, L.enc_len, natLE_length]
  have heq : leNat ((sign g H x k msg).drop 32) • g.base
      = g.smul k g.base + challenge g H (g.smul x g.base) (g.smul k g.base) msg • g.smul x g.base := by
    rw [hle, L.smul_eq, L.smul_eq]
    exact response_eq g.base L.order k x _
  have hdec : g.dec ((sign g H x k msg).take 32) = some (g.smul k g.base) := by rw [htake, L.dec_enc]
  have hlt : leNat ((sign g H x k msg).drop 32) < ell := by rw [hle]; exact hS
  exact ⟨(verify_sound L ..).2 ⟨hlen, _, hdec, hlt, heq⟩,
    (verifyStd_iff ..).2 ⟨hlen, _, _, L.dec_enc _, hdec, hlt, htake.symm, by rw [L.check_iff, htake]; exact heq⟩⟩

/-- **interoperability, both directions.**  For a public key in canonical encoding and a signature
whose R part is a canonical point encoding, the repaired `Verify` accepts exactly the signatures
the standard verifier accepts.  (Standard signatures always carry a canonical R.) -/
theorem verify_iff_std {G : Type} (g : Grp G) (H : Bytes → Bytes) (pub msg sig : Bytes) (A : G)
    (hA : g.dec pub = some A) (hpub : g.enc A = pub)
    (hR : ∀ R, g.dec (sig.take 32) = some R → g.enc R = sig.take 32) :
    verify g H A msg sig = .ok () ↔ verifyStd g H pub msg sig = true := by
  rw [verify_sound_model, verifyStd_iff]
  have hh : ∀ R, g.dec (sig.take 32) = some R →
      leNat (H (sig.take 32 ++ pub ++ msg)) % ell = challenge g H A R msg := fun R hdec => by
    unfold challenge; rw [hR R hdec, hpub]
  refine and_congr_right fun _ =>
    ⟨fun ⟨R, hdec, hs, he⟩ => ⟨A, R, hA, hdec, hs, hR R hdec, by rw [hh R hdec]; exact he⟩,
      fun ⟨A', R, hA', hdec, hs, _, he⟩ => ?_⟩
  rw [hA] at hA'
  cases hA'
  exact ⟨R, hdec, hs, by rw [← hh R hdec]; exact he⟩

/-- **3 (historical witness, finding F5).**  Before the repair `Verify(R‖s)` and `Verify(R‖s+ℓ)`
gave the same answer whenever s + ℓ still fits in 32 bytes … -/
theorem noncanonical_S_prefix {g : Grp G} (L : Lawful g) (H : Bytes → Bytes) (A : G) (msg Rb : Bytes)
    (hRb : Rb.length = 32) (s : ℕ) (hs : s + ell < 2 ^ 256) :
    verifyPre g H A msg (Rb ++ natLE 32 (s + ell)) = verifyPre g H A msg (Rb ++ natLE 32 s) := by
  have h256 : (256 : ℕ) ^ 32 = 2 ^ 256 := by decide
  have t1 : ∀ n, (Rb ++ natLE 32 n).take 32 = Rb := fun n => (sig_split hRb _).1
  have t2 : ∀ n, (Rb ++ natLE 32 n).drop 32 = natLE 32 n := fun n => (sig_split hRb _).2
  have l1 : ∀ n, (Rb ++ natLE 32 n).length = 64 := fun n => by simp [hRb, natLE_length]
  unfold verifyPre
  simp only [l1, t1, t2, ne_eq, not_true_eq_false, if_false]
  rw [leNat_natLE_of_lt 32 (s + ell) (by omega), leNat_natLE_of_lt 32 s (by omega)]
  cases g.dec Rb with
  | none => rfl
  | some R =>
    have : g.smul (s + ell) g.base = g.smul s g.base := by
      rw [L.smul_eq, L.smul_eq]
      exact nsmul_congr_mod _ L.order _ _ (by simp)
    simp only [this]

/-- … so every signature `Sign` makes had a second, different, accepted encoding R‖S+ℓ,
which the repaired `Verify` (like crypto/ed25519) rejects as non-canonical. -/
theorem malleability_witness_and_repair {g : Grp G} (L : Lawful g) (H : Bytes → Bytes) (x k : ℕ) (msg : Bytes) :
    let sig := sign g H x k msg
    let sig' := sig.take 32 ++ natLE 32 (leNat (sig.drop 32) + ell)
    sig' ≠ sig
    ∧ verifyPre g H (g.smul x g.base) msg sig' = .ok ()
    ∧ verify g H (g.smul x g.base) msg sig' = .error .noncanonical := by
  intro sig sig'
  obtain ⟨hS, htake, hdrop, hle⟩ : _ ∧ sig.take 32 = _ ∧ sig.drop 32 = _ ∧ leNat (sig.drop 32) = _ :=
    sign_halves L H x k msg
  have h2l : leNat (sig.drop 32) + ell < 2 ^ 256 := by
    rw [hle]
    have : 2 * ell < 2 ^ 256 := by decide
    omega
  have h256 : (256 : ℕ) ^ 32 = 2 ^ 256 := by decide
  have hl32 : (sig.take 32).length = 32 := by rw [htake, L.enc_len]
  have hsplit : sig = sig.take 32 ++ natLE 32 (leNat (sig.drop 32)) := by
    have : natLE 32 (leNat (sig.drop 32)) = sig.drop 32 := by
      rw [hle, hdrop]
    rw [this, List.take_append_drop]
  obtain ⟨htake', hdrop'⟩ : sig'.take 32 = sig.take 32 ∧ sig'.drop 32 = natLE 32 (leNat (sig.drop 32) + ell) :=
    sig_split hl32 _
  have hle' : leNat (sig'.drop 32) = leNat (sig.drop 32) + ell := by
    rw [hdrop', leNat_natLE_of_lt 32 _ (by omega)]
  refine ⟨?_, ?_, ?_⟩
  · intro h
    have := congrArg (fun z => leNat (z.drop 32)) h
    simp only [hle'] at this
    have hp : 0 < ell := by decide
    omega
  · show verifyPre g H (g.smul x g.base) msg (sig.take 32 ++ natLE 32 (leNat (sig.drop 32) + ell)) = _
    rw [noncanonical_S_prefix L H _ msg _ hl32 _ h2l, ← hsplit]
    -- the original signature verified before the repair as well
    rw [verifyPre_sound L]
    have hv := (sign_verifies L H x k msg).1
    rw [verify_sound L] at hv
    obtain ⟨hl, R, hR, _, he⟩ := hv
    refine ⟨hl, R, hR, ?_⟩
    rw [mod_nsmul _ L.order]; exact he
  · have hlen' : sig'.length = 64 := by
      show (sig.take 32 ++ natLE 32 _).length = 64
      rw [List.length_append, hl32, natLE_length]
    rw [htake] at htake'
    have hnc : scCanonical (sig'.drop 32) = false := by
      cases hc : scCanonical (sig'.drop 32) with
      | false => rfl
      | true =>
        have := ((scCanonical_iff _).mp hc).2
        rw [hle'] at this
        omega
    unfold verify
    simp [hlen', htake', L.dec_enc, hnc]

/-- **3′ (repaired code): full non-malleability in S.**  If `Verify` accepts two signatures with the
same R part for the same key and message they are the same byte string.  (B has order exactly ℓ.) -/
theorem verify_nonmalleable_S {g : Grp G} (L : Lawful g) (hord : ∀ n : ℕ, n • g.base = 0 → ell ∣ n)
    (H : Bytes → Bytes) (A : G) (msg sig sig' : Bytes)
    (h1 : verify g H A msg sig = .ok ()) (h2 : verify g H A msg sig' = .ok ())
    (hR : sig.take 32 = sig'.take 32) : sig = sig' := by
  rw [verify_sound L] at h1 h2
  obtain ⟨l1, R, hR1, s1, e1⟩ := h1
  obtain ⟨l2, R', hR2, s2, e2⟩ := h2
  rw [← hR, hR1] at hR2
  cases hR2
  have hs : leNat (sig.drop 32) = leNat (sig'.drop 32) :=
    scalar_unique g.base hord _ _ s1 s2 (by rw [e1, e2])
  have hd : sig.drop 32 = sig'.drop 32 :=
    leNat_inj _ _ (by rw [List.length_drop, List.length_drop, l1, l2]) hs
  rw [← List.take_append_drop 32 sig, ← List.take_append_drop 32 sig', hR, hd]

/-- 3″: an accepted S is below ℓ and is THE scalar below ℓ satisfying the verification equation. -/
theorem verify_S_unique {g : Grp G} (L : Lawful g) (hord : ∀ n : ℕ, n • g.base = 0 → ell ∣ n)
    (H : Bytes → Bytes) (A : G) (msg sig : Bytes) (h : verify g H A msg sig = .ok ()) :
    leNat (sig.drop 32) < ell ∧ ∃ R, g.dec (sig.take 32) = some R ∧
      ∀ t : ℕ, t < ell → t • g.base = R + challenge g H A R msg • A → t = leNat (sig.drop 32) := by
  rw [verify_sound L] at h
  obtain ⟨_, R, hR, hs, he⟩ := h
  exact ⟨hs, R, hR, fun t ht hte => scalar_unique g.base hord _ _ ht hs (by rw [hte, he])⟩

/-- altered S (same R, key, message) is rejected -/
theorem altered_S_rejected {g : Grp G} (L : Lawful g) (hord : ∀ n : ℕ, n • g.base = 0 → ell ∣ n)
    (H : Bytes → Bytes) (A : G) (msg sig sig' : Bytes) (h1 : verify g H A msg sig = .ok ())
    (hR : sig.take 32 = sig'.take 32) (hne : sig' ≠ sig) : verify g H A msg sig' ≠ .ok () :=
  fun h2 => hne (verify_nonmalleable_S L hord H A msg sig sig' h1 h2 hR).symm

/-- truncated or extended signatures are rejected (63 bytes, 65 bytes, …) -/
theorem wrong_length_rejected {G : Type} (g : Grp G) (H : Bytes → Bytes) (A : G) (msg sig : Bytes)
    (h : sig.length ≠ 64) : verify g H A msg sig = .error .length := by
  simp [verify, h]

/-- an altered message accepted with the same signature is a collision of the challenge hash
modulo ℓ (the public key has order exactly ℓ): acceptance of altered messages reduces to the hash. -/
theorem altered_message_needs_collision {g : Grp G} (L : Lawful g) (H : Bytes → Bytes) (A : G)
    (hordA : ∀ n : ℕ, n • A = 0 → ell ∣ n) (msg msg' sig : Bytes)
    (h1 : verify g H A msg sig = .ok ()) (h2 : verify g H A msg' sig = .ok ()) :
    ∃ R, g.dec (sig.take 32) = some R ∧ challenge g H A R msg = challenge g H A R msg' := by
  rw [verify_sound L] at h1 h2
  obtain ⟨_, R, hR1, _, e1⟩ := h1
  obtain ⟨_, R', hR2, _, e2⟩ := h2
  rw [hR1] at hR2
  cases hR2
  refine ⟨R, hR1, ?_⟩
  have hlt : ∀ m, challenge g H A R m < ell := fun m => Nat.mod_lt _ (by decide)
  have : challenge g H A R msg • A = challenge g H A R msg' • A := by
    rw [e1] at e2
    exact add_left_cancel e2
  exact scalar_unique A hordA _ _ (hlt _) (hlt _) this

/-- an altered PUBLIC KEY accepted with the same message and signature forces the relation
h′•A′ = h•A between the two challenges (h = H(R‖A‖M), h′ = H(R‖A′‖M)) … -/
theorem altered_key_needs_hash_relation {g : Grp G} (L : Lawful g) (H : Bytes → Bytes) (A A' : G)
    (msg sig : Bytes) (h1 : verify g H A msg sig = .ok ()) (h2 : verify g H A' msg sig = .ok ()) :
    ∃ R, g.dec (sig.take 32) = some R ∧ challenge g H A' R msg • A' = challenge g H A R msg • A := by
  rw [verify_sound L] at h1 h2
  obtain ⟨_, R, hR1, _, e1⟩ := h1
  obtain ⟨_, R', hR2, _, e2⟩ := h2
  rw [hR1] at hR2
  cases hR2
  exact ⟨R, hR1, add_left_cancel (e2.symm.trans e1)⟩

/-- … for keys A = x•B, A′ = x′•B (B of order exactly ℓ) this is x′·h′ ≡ x·h (mod ℓ): the digest of the
altered key must hit ONE prescribed residue among ℓ (a target-preimage event for the hash, not a matter of algebra). -/
theorem altered_key_needs_hash_target {g : Grp G} (L : Lawful g) (hord : ∀ n : ℕ, n • g.base = 0 → ell ∣ n)
    (H : Bytes → Bytes) (x x' : ℕ) (msg sig : Bytes)
    (h1 : verify g H (g.smul x g.base) msg sig = .ok ()) (h2 : verify g H (g.smul x' g.base) msg sig = .ok ()) :
    ∃ R, g.dec (sig.take 32) = some R ∧
      (x' * challenge g H (g.smul x' g.base) R msg) % ell = (x * challenge g H (g.smul x g.base) R msg) % ell := by
  obtain ⟨R, hR, e⟩ := altered_key_needs_hash_relation L H _ _ msg sig h1 h2
  refine ⟨R, hR, nsmul_eq_imp_mod_eq g.base L.order hord _ _ ?_⟩
  rw [mul_nsmul, mul_nsmul, ← L.smul_eq x', ← L.smul_eq x]
  exact e

/-- an altered R PART accepted with the same S, key and message forces R′ + h′•A = R + h•A
(h′ = H(R′‖A‖M)): either R′ is the same point in another encoding (then it IS accepted, see `R_alias_accepted`),
or the digest of the new R′ hits the one residue h′ with h′•A = h•A + R − R′. -/
theorem altered_R_needs_hash_target {g : Grp G} (L : Lawful g) (H : Bytes → Bytes) (A : G) (msg sig sig' : Bytes)
    (hS : sig'.drop 32 = sig.drop 32)
    (h1 : verify g H A msg sig = .ok ()) (h2 : verify g H A msg sig' = .ok ()) :
    ∃ R R', g.dec (sig.take 32) = some R ∧ g.dec (sig'.take 32) = some R' ∧
      R' + challenge g H A R' msg • A = R + challenge g H A R msg • A := by
  rw [verify_sound L] at h1 h2
  obtain ⟨_, R, hR1, _, e1⟩ := h1
  obtain ⟨_, R', hR2, _, e2⟩ := h2
  rw [hS] at e2
  exact ⟨R, R', hR1, hR2, e2.symm.trans e1⟩

/-- the same in discrete-log form (R = k•B, R′ = k′•B, A = x•B): k′ + x·h′ ≡ k + x·h (mod ℓ) -/
theorem altered_R_needs_hash_target_dlog {g : Grp G} (L : Lawful g) (hord : ∀ n : ℕ, n • g.base = 0 → ell ∣ n)
    (H : Bytes → Bytes) (x k k' : ℕ) (msg sig sig' : Bytes) (hS : sig'.drop 32 = sig.drop 32)
    (hk : g.dec (sig.take 32) = some (g.smul k g.base)) (hk' : g.dec (sig'.take 32) = some (g.smul k' g.base))
    (h1 : verify g H (g.smul x g.base) msg sig = .ok ()) (h2 : verify g H (g.smul x g.base) msg sig' = .ok ()) :
    (k' + x * challenge g H (g.smul x g.base) (g.smul k' g.base) msg) % ell
      = (k + x * challenge g H (g.smul x g.base) (g.smul k g.base) msg) % ell := by
  obtain ⟨R, R', hR, hR', e⟩ := altered_R_needs_hash_target L H _ msg sig sig' hS h1 h2
  rw [hk] at hR
  rw [hk'] at hR'
  cases hR
  cases hR'
  apply nsmul_eq_imp_mod_eq g.base L.order hord
  rw [add_nsmul, add_nsmul, mul_nsmul, mul_nsmul, ← L.smul_eq k', ← L.smul_eq k, ← L.smul_eq x]
  exact e

/-- the limit of "an altered R is rejected" (any record `g`): a second byte string that DECODES TO THE SAME
POINT R (ref10 accepts y ≥ p and "−0", so ≈ 20 points have one) with the same S is accepted, because `hash`
is fed the re-encoded R. crypto/ed25519 rejects it (it compares the received bytes). No signature made by
`Sign` or by the standard signer has such an R except with probability ≈ 2^-250. -/
theorem R_alias_accepted {G : Type} (g : Grp G) (H : Bytes → Bytes) (A : G) (msg sig sig' : Bytes)
    (hl : sig'.length = 64) (hS : sig'.drop 32 = sig.drop 32) (R : G)
    (hR : g.dec (sig.take 32) = some R) (hR' : g.dec (sig'.take 32) = some R)
    (h1 : verify g H A msg sig = .ok ()) : verify g H A msg sig' = .ok () := by
  rw [verify_sound_model] at h1 ⊢
  obtain ⟨_, R1, hR1, hs, he⟩ := h1
  rw [hR] at hR1
  cases hR1
  exact ⟨hl, R, hR', by rw [hS]; exact hs, by rw [hS]; exact he⟩

/-- **the alteration clause, as far as it is a theorem.**  Let (A, M, sig) be accepted and let ONE component be
altered (this is what every single-bit mutation of signature, message or key is) and accepted again. Then:
  · altered S (same R bytes): impossible;
  · altered length: impossible;
  · altered message: the two challenges collide modulo ℓ;
  · altered key x′•B: x′·h′ ≡ x·h (mod ℓ);
  · altered R bytes (same S): R′ + h′•A = R + h•A.
The last three are events about SHA-512 alone (collision, resp. hitting one prescribed residue among ℓ ≈ 2^252);
that they do not happen is the hash assumption of DESIGN §5, not provable and not claimed. Unforgeability in
general (a fresh (R′, S′) for another message) is the discrete-log/random-oracle security of Schnorr — out of scope. -/
theorem single_alteration_cases {g : Grp G} (L : Lawful g) (hord : ∀ n : ℕ, n • g.base = 0 → ell ∣ n)
    (H : Bytes → Bytes) (x : ℕ) (hx : ∀ n : ℕ, n • g.smul x g.base = 0 → ell ∣ n) (msg sig : Bytes)
    (h1 : verify g H (g.smul x g.base) msg sig = .ok ()) :
    (∀ sig', sig'.take 32 = sig.take 32 → sig' ≠ sig → verify g H (g.smul x g.base) msg sig' ≠ .ok ())
    ∧ (∀ sig', sig'.length ≠ 64 → verify g H (g.smul x g.base) msg sig' ≠ .ok ())
    ∧ (∀ msg', verify g H (g.smul x g.base) msg' sig = .ok () →
        ∃ R, g.dec (sig.take 32) = some R ∧
          challenge g H (g.smul x g.base) R msg = challenge g H (g.smul x g.base) R msg')
    ∧ (∀ x', verify g H (g.smul x' g.base) msg sig = .ok () →
        ∃ R, g.dec (sig.take 32) = some R ∧
          (x' * challenge g H (g.smul x' g.base) R msg) % ell = (x * challenge g H (g.smul x g.base) R msg) % ell)
    ∧ (∀ sig', sig'.drop 32 = sig.drop 32 → verify g H (g.smul x g.base) msg sig' = .ok () →
        ∃ R R', g.dec (sig.take 32) = some R ∧ g.dec (sig'.take 32) = some R' ∧
          R' + challenge g H (g.smul x g.base) R' msg • g.smul x g.base
            = R + challenge g H (g.smul x g.base) R msg • g.smul x g.base) := by
  refine ⟨fun sig' hR hne => altered_S_rejected L hord H _ msg sig sig' h1 hR.symm hne,
    fun sig' hl h => ?_, fun msg' h2 => altered_message_needs_collision L H _ hx msg msg' sig h1 h2,
    fun x' h2 => altered_key_needs_hash_target L hord H x x' msg sig h1 h2,
    fun sig' hS h2 => altered_R_needs_hash_target L H _ msg sig sig' hS h1 h2⟩
  rw [wrong_length_rejected g H _ msg sig' hl] at h
  cases h

/-! non-vacuity: the hypotheses are satisfiable (G = ZMod ℓ, B = 1, any "hash") -/
example : verify dlogGrp (fun b => b) (dlogGrp.smul 5 dlogGrp.base) [1, 2] (sign dlogGrp (fun b => b) 5 7 [1, 2]) = .ok () :=
  (sign_verifies dlogGrp_lawful (fun b => b) 5 7 [1, 2]).1
example : verifyStd dlogGrp (fun b => b) (dlogGrp.enc (dlogGrp.smul 5 dlogGrp.base)) [] (sign dlogGrp (fun b => b) 5 7 []) = true :=
  (sign_verifies dlogGrp_lawful (fun b => b) 5 7 []).2
example : let sig := sign dlogGrp (fun b => b) 5 7 [9]
    verifyPre dlogGrp (fun b => b) (dlogGrp.smul 5 dlogGrp.base) [9] (sig.take 32 ++ natLE 32 (leNat (sig.drop 32) + ell)) = .ok () :=
  (malleability_witness_and_repair dlogGrp_lawful (fun b => b) 5 7 [9]).2.1
example (sig' : Bytes) (h : verify dlogGrp (fun b => b) (dlogGrp.smul 5 dlogGrp.base) [9] sig' = .ok ())
    (hR : (sign dlogGrp (fun b => b) 5 7 [9]).take 32 = sig'.take 32) : sign dlogGrp (fun b => b) 5 7 [9] = sig' :=
  verify_nonmalleable_S dlogGrp_lawful dlogGrp_order _ _ _ _ _ (sign_verifies dlogGrp_lawful _ 5 7 [9]).1 h hR
example (x' : ℕ) (h2 : verify dlogGrp (fun b => b) (dlogGrp.smul x' dlogGrp.base) [9] (sign dlogGrp (fun b => b) 5 7 [9]) = .ok ()) :
    ∃ R, dlogGrp.dec ((sign dlogGrp (fun b => b) 5 7 [9]).take 32) = some R ∧
      (x' * challenge dlogGrp (fun b => b) (dlogGrp.smul x' dlogGrp.base) R [9]) % ell
        = (5 * challenge dlogGrp (fun b => b) (dlogGrp.smul 5 dlogGrp.base) R [9]) % ell :=
  altered_key_needs_hash_target dlogGrp_lawful dlogGrp_order _ 5 x' _ _ (sign_verifies dlogGrp_lawful _ 5 7 [9]).1 h2
example (sig' : Bytes) (hS : sig'.drop 32 = (sign dlogGrp (fun b => b) 5 7 [9]).drop 32)
    (h2 : verify dlogGrp (fun b => b) (dlogGrp.smul 5 dlogGrp.base) [9] sig' = .ok ()) :
    ∃ R R', dlogGrp.dec ((sign dlogGrp (fun b => b) 5 7 [9]).take 32) = some R ∧ dlogGrp.dec (sig'.take 32) = some R' ∧
      R' + challenge dlogGrp (fun b => b) (dlogGrp.smul 5 dlogGrp.base) R' [9] • dlogGrp.smul 5 dlogGrp.base
        = R + challenge dlogGrp (fun b => b) (dlogGrp.smul 5 dlogGrp.base) R [9] • dlogGrp.smul 5 dlogGrp.base :=
  altered_R_needs_hash_target dlogGrp_lawful _ _ _ _ sig' hS (sign_verifies dlogGrp_lawful _ 5 7 [9]).1 h2
example : verify dlogGrp (fun b => b) (0 : ZMod ell) [] (List.replicate 63 0) = .error .length :=
  wrong_length_rejected _ _ _ _ _ (by decide)

end Dos.Props.C20
