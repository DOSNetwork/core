/-
C19 — state-changing calls become one correctly encoded transaction; failover is safe.

Property theorems about `handleReq` (onchain/eth_set.go) as a function of what each RPC endpoint
does (`Outcome`), for ANY number of endpoints and EVERY outcome assignment, and about the
argument marshalling (`Signature.ToBigInt`, `decodePubKey`, request id, traffic type).
`run os` is the loop of the code as it is in /repo (F8 repaired, commit 6226eed);
`handleReq false` is the loop before the repair.  Helper lemmas: `Proofs/ReqLoop*.lean`.
The bytes of the call data, the envelope and the nonces are the subject of Props/C19Abi.lean.  Signing
(RLP, secp256k1) and the transport are go-ethereum's: compared on every run by the correspondence harness
(decoded raw transactions, recovered sender), not proved.
-/
import DosModel.Proofs.ReqLoop
import DosModel.Proofs.ReqLoopMarshal
import DosModel.Proofs.Codec
import DosModel.Gen.ReqLoopFacts

namespace Dos.Props.C19
open Dos Dos.ReqLoop Dos.CodecBytes

/-- **characterisation.** Endpoint `j` is contacted iff the loop invokes `f` for its outcome
(its context is alive and the caller has not given up) and no earlier endpoint ended the loop
(accept, revert, insufficient funds, caller gave up). -/
theorem contacted_iff (os : List Outcome) (j : Nat) :
    j ∈ (run os).contacted ↔
      ∃ o, os[j]? = some o ∧ called o = true ∧ ∀ m o', m < j → os[m]? = some o' → stops o' = false := by
  unfold run
  rw [handleReq_contacted, mem_reachedSpec_zero]

example : (run [.otherErr, .ctxDone, .accept, .accept]).contacted = [0, 2] := by decide

/-- **1. the loop ends at the first outcome that stops it**: no later endpoint is contacted. -/
theorem stop_after (os : List Outcome) (i j : Nat) (o : Outcome) (hi : os[i]? = some o) (hs : stops o = true)
    (hj : j ∈ (run os).contacted) : j ≤ i := by
  obtain ⟨_, _, _, hall⟩ := (contacted_iff os j).1 hj
  exact Nat.le_of_not_lt fun hlt => Bool.false_ne_true ((hall i o hlt hi).symm.trans hs)

/-- **1a. stop after accept**: once an endpoint has accepted the transaction no later endpoint is contacted. -/
theorem stop_after_accept (os : List Outcome) (i j : Nat)
    (hi : os[i]? = some .accept) (hj : j ∈ (run os).contacted) : j ≤ i :=
  stop_after os i j .accept hi rfl hj

example : ∀ j ∈ (run [.nonceErr, .accept, .accept, .otherErr]).contacted, j ≤ 1 := by decide

/-- **1b. stop after revert or insufficient funds**: no later endpoint is contacted. -/
theorem stop_after_revert_or_funds (os : List Outcome) (i j : Nat) (o : Outcome)
    (hi : os[i]? = some o) (ho : o = .revert ∨ o = .insufficient)
    (hj : j ∈ (run os).contacted) : j ≤ i :=
  stop_after os i j o hi (by rcases ho with rfl | rfl <;> rfl) hj

example : (run [.otherErr, .revert, .accept]).contacted = [0, 1] ∧
    (run [.insufficient, .accept]).contacted = [0] := by decide

/-- **2a. failover**: after a connection / nonce / other error on a contacted endpoint `i`, the next
endpoint whose context is alive is tried (endpoints in between are the already cancelled ones). -/
theorem failover (os : List Outcome) (i j : Nat) (o o' : Outcome)
    (hi : os[i]? = some o) (ho : o = .closedConn ∨ o = .nonceErr ∨ o = .otherErr)
    (hc : i ∈ (run os).contacted) (hij : i < j)
    (hbetween : ∀ m, i < m → m < j → os[m]? = some .ctxDone)
    (hj : os[j]? = some o') (hlive : o' ≠ .ctxDone) (hop : o' ≠ .opDone) :
    j ∈ (run os).contacted := by
  obtain ⟨oi, hoi, _, hall⟩ := (contacted_iff os i).1 hc
  refine (contacted_iff os j).2 ⟨o', hj, (called_iff o').2 ⟨hlive, hop⟩, ?_⟩
  intro m om hm hget
  rcases Nat.lt_trichotomy m i with h | h | h
  · exact hall m om h hget
  · subst h
    obtain rfl : o = om := Option.some.inj (hi.symm.trans hget)
    rcases ho with rfl | rfl | rfl <;> rfl
  · obtain rfl : Outcome.ctxDone = om := Option.some.inj ((hbetween m h hm).symm.trans hget)
    rfl

example : 3 ∈ (run [.nonceErr, .ctxDone, .ctxDone, .accept]).contacted := by decide

/-- **2b. the endpoint whose connection failed is cancelled** (and only such endpoints are). -/
theorem failed_connection_cancelled (os : List Outcome) (i : Nat) :
    i ∈ (run os).cancelled ↔
      i ∈ (run os).contacted ∧ (os[i]? = some .closedConn ∨ os[i]? = some .nonceErr) := by
  unfold run
  rw [handleReq_cancelled, handleReq_contacted, mem_reachedSpec_zero, mem_reachedSpec_zero]
  constructor
  · rintro ⟨o, hget, hc, hall⟩
    have ho := (cancels_iff o).1 hc
    exact ⟨⟨o, hget, by rcases ho with rfl | rfl <;> rfl, hall⟩, by rw [hget]; simpa using ho⟩
  · rintro ⟨⟨o, hget, _, hall⟩, h⟩
    rw [hget] at h
    exact ⟨o, hget, (cancels_iff o).2 (by simpa using h), hall⟩

example : (run [.nonceErr, .otherErr, .closedConn, .accept]).cancelled = [0, 2] := by decide

/-- **3. every endpoint is contacted at most once**, in endpoint order … -/
theorem each_endpoint_at_most_once (os : List Outcome) :
    (run os).contacted.Pairwise (· < ·) := by
  unfold run
  rw [handleReq_contacted]
  exact (contactedSpec_sorted os 0).1

/-- … and **at most one accept**: at most one contacted endpoint accepted the transaction — of two, the later
one would have been contacted after an accept (`stop_after_accept`). -/
theorem at_most_one_accept (os : List Outcome) :
    ((run os).contacted.filter (fun j => os[j]? = some Outcome.accept)).length ≤ 1 := by
  have hs := (each_endpoint_at_most_once os).filter (fun j => os[j]? = some Outcome.accept)
  match h : (run os).contacted.filter (fun j => os[j]? = some Outcome.accept) with
  | [] | [_] => simp
  | a :: b :: l =>
    have hm : ∀ x ∈ [a, b], x ∈ (run os).contacted ∧ os[x]? = some Outcome.accept := fun x hx => by
      have : x ∈ (run os).contacted.filter (fun j => os[j]? = some Outcome.accept) := by
        rw [h]; exact List.mem_of_mem_take (i := 2) hx
      simpa using this
    rw [h, List.pairwise_cons] at hs
    have := stop_after_accept os a b (hm a (by simp)).2 (hm b (by simp)).1
    have := hs.1 b (by simp)
    omega

example : ((run [.otherErr, .accept, .accept, .accept]).contacted.filter
    (fun j => [Outcome.otherErr, .accept, .accept, .accept][j]? = some Outcome.accept)) = [1] := by decide

/-! ### 3'. exactly one transaction — on what the ENDPOINTS did

`at_most_one_accept` counts the endpoints at which `f` RETURNED a transaction.  The property speaks of the endpoints that
ACCEPTED one.  The two differ when an endpoint processes `eth_sendRawTransaction` and the connection fails before its
reply arrives (`acceptedReplyLost`): `f` reports a transport error, the loop fails over, the next endpoint signs the call
again with its own pending nonce.  KNOWN FINDING `accepted-reply-lost-resent` (KNOWN_FINDINGS.txt; replayed on the real
adaptor in every run: `seq` lines with the outcome `lost`). -/

/-- the FULL statement: whatever the endpoints do (any possible combination of report and fact), at most one of them takes
a transaction of one request.  NOT true of the code: `accepted_reply_lost_resent`. -/
def exactly_one_transaction_full : Prop :=
  ∀ eps : List EpRun, (∀ e ∈ eps, e.possible = true) → (takenBy true eps).length ≤ 1

/-- what IS true: if no endpoint's reply is lost after it accepted (every report of `f` tells what the endpoint did), at
most one endpoint takes a transaction, for any number of endpoints and every assignment. -/
theorem exactly_one_transaction_partial (eps : List EpRun) (hp : ∀ e ∈ eps, e.possible = true)
    (hno : ∀ e ∈ eps, e ≠ acceptedReplyLost) : (takenBy true eps).length ≤ 1 := by
  have key : takenBy true eps =
      (run (eps.map (·.outcome))).contacted.filter (fun j => (eps.map (·.outcome))[j]? = some Outcome.accept) := by
    unfold takenBy run
    apply List.filter_congr
    intro i _
    cases hi : eps[i]? with
    | none => simp [hi]
    | some e =>
      have hm : e ∈ eps := List.mem_of_getElem? hi
      simp [hi, took_iff_accepted e (hp e hm) (hno e hm)]
  rw [key]
  exact at_most_one_accept _

example : takenBy true [⟨.otherErr, false⟩, ⟨.nonceErr, false⟩, ⟨.accept, true⟩, ⟨.accept, true⟩] = [2] := by decide

/-- **negation witness** (the code as it is): endpoint 0 accepts the transaction and its reply is lost, endpoint 1 is
healthy: BOTH take a transaction of the one request — the second one signed with endpoint 1's pending nonce. -/
theorem accepted_reply_lost_resent : ¬ exactly_one_transaction_full := by
  intro h
  have := h [acceptedReplyLost, ⟨.accept, true⟩] (by decide)
  revert this
  decide

/-- the same fault with no healthy endpoint left: the transaction is on its way to the chain and the caller is told the
call failed (sig `accepted-reply-lost-reported-as-failure`; no client can know without asking for the hash) -/
theorem accepted_reply_lost_reported_as_failure :
    takenBy true [acceptedReplyLost] = [0] ∧
    (run [acceptedReplyLost.outcome]).reply = some { idx := 0, accepted := false, err := some .otherErr } := by decide

/-- **4. result error**: whenever the loop replies, the error it reports is nil iff some contacted
endpoint accepted the transaction (and exactly then a transaction is handed back).  This is the
statement the code before commit 6226eed violates (`f8_before_fix`). -/
theorem result_error (os : List Outcome) (r : Reply) (h : (run os).reply = some r) :
    (r.err = none ↔ ∃ j ∈ (run os).contacted, os[j]? = some .accept) ∧
    (r.accepted = true ↔ ∃ j ∈ (run os).contacted, os[j]? = some .accept) := by
  unfold run at h ⊢
  obtain ⟨hacc, herr⟩ := handleReq_reply_some true os r h
  rw [handleReq_contacted, ← acceptedSpec_iff_contacted, hacc, herr]
  refine ⟨?_, Iff.rfl⟩
  -- with the F8 repair an error is reported whenever nothing was accepted, whatever the loop left in `err`
  cases ha : acceptedSpec os with
  | true => simp [fixErr, lastErr_of_accepted os none ha]
  | false => cases lastErr os none <;> simp [fixErr]

example : ((run [.ctxDone, .ctxDone]).reply.map (·.err)) = some (some .noEndpoint) ∧
    ((run [.nonceErr, .accept]).reply.map (·.err)) = some none ∧
    ((run [.nonceErr, .ctxDone]).reply.map (·.err)) = some (some .nonceErr) := by decide

/-- F8, the defect repaired by /repo commit 6226eed: with every endpoint context already done the
old loop replied `err = nil` although nothing was sent (for any number of endpoints). -/
theorem f8_before_fix (n : Nat) :
    ∃ r, (handleReq false (List.replicate n .ctxDone)).reply = some r ∧ r.err = none ∧ r.accepted = false
      ∧ (handleReq false (List.replicate n .ctxDone)).contacted = [] := by
  obtain ⟨hc, hg, ha, he⟩ := replicate_done n 0
  refine ⟨_, by rw [handleReq_reply, hg, ha, he]; rfl, rfl, rfl, by rw [handleReq_contacted, hc]⟩

example : (handleReq false [.ctxDone, .ctxDone, .ctxDone]).reply = some { idx := 2, accepted := false, err := none } := by decide

/-- the loop always replies unless the caller's own operation context is done -/
theorem replies_unless_caller_gave_up (os : List Outcome) (h : ∀ o ∈ os, o ≠ .opDone) :
    (run os).reply ≠ none :=
  fun hn => h _ (opDone_mem_of_gaveUp os ((handleReq_reply_none true os).1 hn)) rfl

example : (run [.nonceErr, .otherErr]).reply ≠ none := by decide

/-- **across requests**: an endpoint already cancelled (by an earlier connection failure) is never contacted. -/
theorem cancelled_endpoint_never_contacted (dead : List Nat) (os : List Outcome) (j : Nat) (hj : j ∈ dead) :
    j ∉ (call true dead os).1.contacted := by
  unfold call
  split
  · simp
  · intro hmem
    simp only [handleReq_contacted, mem_reachedSpec_zero] at hmem
    obtain ⟨o, hget, hc, _⟩ := hmem
    rw [overlay_get] at hget
    cases h2 : os[j]? with
    | none => simp [h2] at hget
    | some b =>
      simp [h2, hj] at hget
      subst hget
      cases hc

example : (callSeq true [] [[.nonceErr, .accept], [.accept, .accept]]).map (·.contacted) = [[0, 1], [1]] := by decide

/-! ### configuration across setters and reconnects -/

/-- every gas price ever set fits the `uint64` field the adaptor keeps it in.  `Connect` rebuilds the sessions with
`new(big.Int).SetUint64(e.gasPrice)` (regenerated: `config_shape_matches_model`), so `Adaptor.reconnect` — the identity on
the fields — is what the code does on this whole domain.  (/repo 21a9d40 repaired the conversion, which went through `int64`:
a price in [2^63, 2^64) came back negative after a reconnect and every later call failed with an rlp error; `cfg` lines set
2^63−1, 2^63 and 2^64−1 around reconnects.) -/
def SmallPrices (ops : List Op) : Prop := ∀ v, Op.setGasPrice v ∈ ops → v < 2 ^ 64

/-- **reconnect preserves the configuration**: when the session copy and the fields agree (they do after every
history, `config_coherent`), `DisconnectAll` + `Connect` leaves gas limit, gas price and chain id of the
sessions exactly as they were. -/
theorem reconnect_preserves_config (a : Adaptor) (h : a.session = a.field) :
    a.reconnect.session = a.session ∧ a.reconnect.field = a.field := by
  simp [Adaptor.reconnect, h]

/-- after ANY history of setters, reconnects and calls (prices within `uint64`) the sessions carry exactly the
configuration the operator has set, and the fields `Connect` would rebuild them from agree with it -/
theorem config_coherent (fixed : Bool) : ∀ (ops : List Op) (a : Adaptor),
    a.session = a.field → SmallPrices ops →
      (a.after fixed ops).session = (a.after fixed ops).field ∧
      (a.after fixed ops).session = intended a.session ops := by
  intro ops
  induction ops with
  | nil => intro a h _; exact ⟨h, rfl⟩
  | cons op ops ih =>
    intro a h hs
    have hs' : SmallPrices ops := fun v hv => hs v (List.mem_cons_of_mem _ hv)
    cases op with
    | setGasPrice v =>
      have hv : v < 2 ^ 64 := hs v (by simp)
      have hm : v % 2 ^ 64 = v := Nat.mod_eq_of_lt hv
      have hc : (a.setGasPrice v).session = (a.setGasPrice v).field := by
        simp only [Adaptor.setGasPrice, u64, hm, h]
      simpa [Adaptor.after, intended, Adaptor.setGasPrice] using ih (a.setGasPrice v) hc hs'
    | setGasLimit v =>
      have hc : (a.setGasLimit v).session = (a.setGasLimit v).field := by
        simp [Adaptor.setGasLimit, h]
      simpa [Adaptor.after, intended, Adaptor.setGasLimit] using ih (a.setGasLimit v) hc hs'
    | reconnect =>
      have hc : a.reconnect.session = a.reconnect.field := by simp [Adaptor.reconnect]
      have := ih a.reconnect hc hs'
      simpa [Adaptor.after, intended, Adaptor.reconnect, h] using this
    | send os =>
      simpa [Adaptor.after, intended] using
        ih ({ a with dead := (call fixed a.dead os).2 } : Adaptor) h hs'

theorem intended_chainId : ∀ (ops : List Op) (c : Config), (intended c ops).chainId = c.chainId := by
  intro ops
  induction ops with
  | nil => intro c; rfl
  | cons op ops ih => intro c; cases op <;> simp [intended, ih]

/-- **every transaction uses the current configuration**: in any history `pre ++ send os :: post` from a fresh
adaptor with configuration `c`, every transaction signed for that call — on whichever endpoints the failover
contacts — carries the gas limit and gas price last set by the operator before it (`intended c pre`;
price 0 = the endpoint's suggestion) and the configured chain id, however many reconnects and endpoint failures
lie in between. -/
theorem sent_tx_uses_current_config (c : Config) (pre post : List Op) (os : List Outcome)
    (hs : SmallPrices pre) :
    ∃ r txs rest, ((Adaptor.start c).after true pre).exec true (.send os :: post) = (r, txs) :: rest ∧
      ∀ t ∈ txs, t.gas = (intended c pre).gasLimit ∧ t.price = (intended c pre).gasPrice ∧ t.chainId = c.chainId := by
  obtain ⟨_, hi⟩ := config_coherent true pre (Adaptor.start c) rfl hs
  refine ⟨_, _, _, rfl, ?_⟩
  intro t ht
  simp only [List.mem_map] at ht
  obtain ⟨i, _, rfl⟩ := ht
  have hi' : ((Adaptor.start c).after true pre).session = intended c pre := hi
  rw [hi']
  exact ⟨rfl, rfl, intended_chainId pre c⟩

/-- a history run from the start is the run of its first part followed by the run of the rest from the state reached -/
theorem exec_append (fixed : Bool) : ∀ (pre ops : List Op) (a : Adaptor),
    a.exec fixed (pre ++ ops) = a.exec fixed pre ++ (a.after fixed pre).exec fixed ops := by
  intro pre
  induction pre with
  | nil => intro ops a; simp [Adaptor.exec, Adaptor.after]
  | cons op pre ih =>
    intro ops a
    cases op <;> simp [Adaptor.exec, Adaptor.after, ih]

example : ((Adaptor.start ⟨5000000, 20, 1⟩).exec true
      [.send [.accept], .setGasPrice 0, .reconnect, .send [.nonceErr, .accept], .setGasLimit 7, .reconnect, .send [.accept, .accept]]).map (·.2) =
    [[⟨0, 5000000, 20, 1⟩], [⟨0, 5000000, 0, 1⟩, ⟨1, 5000000, 0, 1⟩], [⟨0, 7, 0, 1⟩]] := by decide

/-! ### marshalling -/

/-- **5a. signature**: a 64-byte signature `x ‖ y` (32-byte big-endian words, leading zero bytes
included) is handed to the contract as exactly `(x, y)`; and conversely the 32-byte ABI words of
the two numbers are the original bytes. -/
theorem marshal_roundtrip_signature (x y : Nat) (hx : x < 2 ^ 256) (hy : y < 2 ^ 256) :
    toBigInt (natBE 32 x ++ natBE 32 y) = (x, y) := by
  simp only [toBigInt, List.length_append, natBE_length]
  simp only [show ¬ (32 + 32 < 32) by omega, if_false]
  rw [List.take_left' (natBE_length 32 x), List.drop_left' (natBE_length 32 x), beNat_word hx, beNat_word hy]

theorem signature_bytes_preserved (sig : Bytes) (h : sig.length = 64) :
    ∃ x y, toBigInt sig = (x, y) ∧ abiWord x ++ abiWord y = sig := by
  refine ⟨beNat (sig.take 32), beNat (sig.drop 32), by simp [toBigInt, h], ?_⟩
  have h1 : (sig.take 32).length = 32 := by simp [h]
  have h2 : (sig.drop 32).length = 32 := by simp [h]
  have e1 := natBE_beNat (sig.take 32)
  have e2 := natBE_beNat (sig.drop 32)
  rw [h1] at e1; rw [h2] at e2
  simp only [abiWord, e1, e2, List.take_append_drop]

example : toBigInt (natBE 32 1 ++ natBE 32 (2 ^ 255)) = (1, 2 ^ 255) :=
  marshal_roundtrip_signature 1 (2 ^ 255) (by decide) (by decide)

/-- **5b. group public key**: the marshalled G2 point `0x01 ‖ x.i ‖ x.r ‖ y.i ‖ y.r` is registered as the
four coordinates in exactly that (contract) order, leading zeros included. -/
theorem marshal_roundtrip_pubkey (xi xr yi yr : Nat)
    (h1 : xi < 2 ^ 256) (h2 : xr < 2 ^ 256) (h3 : yi < 2 ^ 256) (h4 : yr < 2 ^ 256) :
    decodePubKey (marshalG2 xi xr yi yr) = some [xi, xr, yi, yr] := by
  have hb : (marshalG2 xi xr yi yr).drop 1 = ([xi, xr, yi, yr].map Codec.be32).flatten ++ [] := by
    simp [marshalG2, Codec.be32]
  rw [decodePubKey_long _ (by simp [marshalG2, natBE_length]), hb]
  exact congrArg some (Codec.wordsOf_be32 [xi, xr, yi, yr] [] (by
    rw [two_pow_256]
    simp only [List.forall_mem_cons, List.not_mem_nil, false_imp_iff, implies_true, and_true]
    exact ⟨h1, h2, h3, h4⟩))

example : decodePubKey (marshalG2 0 1 (2 ^ 256 - 1) 7) = some [0, 1, 2 ^ 256 - 1, 7] :=
  marshal_roundtrip_pubkey 0 1 (2 ^ 256 - 1) 7 (by decide) (by decide) (by decide) (by decide)

/-- **5c. request id and traffic type**: a request id of up to 256 bits and every traffic type `< 256`
reach the contract unchanged. -/
theorem marshal_roundtrip_request (v t : Nat) (hv : v < 2 ^ 256) (ht : t < 256) :
    requestId (natBE 32 v) = v ∧ beNat (abiWord (requestId (natBE 32 v))) = v ∧ trafficType t = t := by
  have e : requestId (natBE 32 v) = v := beNat_word hv
  exact ⟨e, by rw [e]; exact beNat_word hv, Nat.mod_eq_of_lt ht⟩

example : requestId (natBE 32 (2 ^ 256 - 1)) = 2 ^ 256 - 1 :=
  (marshal_roundtrip_request (2 ^ 256 - 1) 2 (by decide) (by decide)).1

/-! ### commit-reveal glue -/

/-- **commit matches reveal**: the commitment the node sends for secret `sec` is the hash of exactly the 32-byte
ABI word that the later `reveal(cid, sec)` transaction carries (what the contract re-hashes), for every
secret below 2^256 — leading zero bytes included — and every hash function. -/
theorem commit_matches_reveal (hash : Bytes → Bytes) (sec : Nat) :
    crCommitment hash sec = hash (abiWord sec) ∧ (abiWord sec).length = 32 ∧
    (sec < 2 ^ 256 → beNat (abiWord sec) = sec) := by
  exact ⟨rfl, natBE_length 32 sec, beNat_word⟩

/-- … whereas `big.Int.Bytes()` of a secret below 2^248 is shorter than that word: hashing it (the seeded
change `h.Write(sec.Bytes())`) commits to a different byte string than the one revealed. -/
theorem unpadded_secret_is_not_the_reveal_word (sec : Nat) (h : sec < 2 ^ 248) :
    natBytes sec ≠ abiWord sec := by
  intro e
  have h1 : (natBytes sec).length ≤ 31 := natBytes_length_le sec 31 (by
    have : (256 : Nat) ^ 31 = 2 ^ 248 := by decide
    omega)
  have h2 : (abiWord sec).length = 32 := natBE_length 32 sec
  rw [e] at h1
  omega

example : crCommitment (fun b => b) 1 = natBE 32 1 ∧ natBytes 1 = [1] := by decide

/-! ### the same functions in the codec model of C11 (`Model/Codec.lean`)

The marshalling theorems above are about `ReqLoop.toBigInt / decodePubKey / marshalG2`; C11's byte-level
codec model has its own `Codec.sigToBigInt`, `Codec.decodePubKey`, `Codec.marshalG2`.  They are the same
functions; stated here so that a change to either side is noticed. -/

/-- the marshalled form used above is the codec model's G2 encoding of the affine point -/
theorem marshalG2_is_codec (xi xr yi yr : Nat) :
    marshalG2 xi xr yi yr = Codec.marshalG2 (.aff ⟨xi, xr⟩ ⟨yi, yr⟩) := rfl

/-- `decodePubKey` agrees with the codec model on every byte string (a short one — `none` here — is the error
"public key is the point at infinity" of /repo ae5b22f in the codec model, `.err .short`) -/
theorem decodePubKey_is_codec (mar : Bytes) :
    Codec.decodePubKey mar =
      (match decodePubKey mar with
       | some v => .ok v
       | none => .err .short) := by
  by_cases h : mar.length < 129
  · simp [Codec.decodePubKey, decodePubKey, h]
  · rw [Codec.decodePubKey_long mar (Nat.le_of_not_lt h), decodePubKey_long mar (Nat.le_of_not_lt h)]

/-- `toBigInt` agrees with the codec model on every signature of at least 32 bytes (on shorter ones too, where
both give (0, 0) as the code does since /repo 6bcc55e: `toBigInt_eq_codec`) -/
theorem toBigInt_is_codec (sig : Bytes) (h : 32 ≤ sig.length) :
    Codec.sigToBigInt sig = .ok (toBigInt sig) :=
  toBigInt_eq_codec sig

example : Codec.decodePubKey (marshalG2 0 1 2 3) = .ok [0, 1, 2, 3] := by
  rw [decodePubKey_is_codec, marshal_roundtrip_pubkey 0 1 2 3 (by decide) (by decide) (by decide) (by decide)]

/-! ### regenerated shape of `handleReq` and of the request closures (`Gen/ReqLoopFacts.lean`, from onchain/eth_set.go) -/

open Dos.Gen.ReqLoopFacts

/-- the error text by which the code recognises an outcome -/
def errText : Outcome → Option String
  | .revert => some "transaction failed"
  | .insufficient => some "insufficient funds for gas * price + value"
  | .nonceErr => some "failed to retrieve account nonce"
  | .closedConn => some "use of closed network connection"
  | _ => none

def allOutcomes : List Outcome :=
  [.accept, .closedConn, .nonceErr, .revert, .insufficient, .otherErr, .ctxDone, .opDone]

def lookupStr (l : List (String × String)) (k : String) : String :=
  match l.find? (fun p => p.1 == k) with
  | some p => p.2
  | none => "(missing)"

/-- what the code AS REGENERATED does when the loop reaches an endpoint with outcome `o`: the statement that
ends the iteration, and whether the endpoint's cancel function is called -/
def codeBranch (o : Outcome) : String × Bool :=
  match o with
  | .opDone => (lookupStr selectCases "<-req.opCtx.Done()", false)
  | .ctxDone => (lookupStr selectCases "<-ctx.Done()", false)
  | .accept => (afterSuccess, false)
  | o =>
    match errText o with
    | none => (afterErrorBlock, false)
    | some t =>
      match errorMatches.find? (fun m => m.1.contains t) with
      | none => (afterErrorBlock, false)
      | some m =>
        (if m.2.2 == "(falls through)" then afterErrorBlock else m.2.2,
         m.2.1 == "var oError *OnchainError; if errors.As(err, &oError) { e.cancels[oError.Idx]() }")

/-- what `Model/ReqLoop.lean` does for the same outcome -/
def modelBranch (o : Outcome) : String × Bool :=
  (if o = .opDone then "return" else if stops o then "break L" else "continue", cancels o)

/-- **regenerated: the branches of the loop are the model's.** For every outcome the statement that ends the
iteration in the source (`return` / `continue` / `break L` — a bare `break` would only leave the `select`)
and the cancel call are what the model assumes; `L` labels the range loop over `e.ctxes`, which assigns
(`=`) the function-level `idx, ctx`; `req.f` is called once per iteration with `tx, err =`; the select has
exactly the three clauses; the F8 guard and the reply literal follow the loop. -/
theorem handleReq_branches_match_model :
    allOutcomes.all (fun o => codeBranch o == modelBranch o) = true ∧
    loopLabel = "L" ∧ rangeHeader = "for idx, ctx = range e.ctxes" ∧
    selectCases.map (·.1) = ["<-req.opCtx.Done()", "<-ctx.Done()", "default"] ∧
    lookupStr selectCases "default" = "break L" ∧
    callAssign = "tx, err = req.f(ctx)" ∧
    errorMatches.map (·.1) = [["transaction failed", "insufficient funds for gas * price + value"],
                              ["failed to retrieve account nonce", "use of closed network connection"]] ∧
    guardCond = "tx == nil && err == nil" ∧ guardBody = "err = errors.New(…)" ∧
    replyLiteral = "&response{idx, tx, err}" :=
  ⟨by decide +kernel, rfl, rfl, rfl, by decide +kernel, rfl, rfl, rfl, rfl, rfl⟩

/-- **regenerated: the whole control skeleton of `handleReq`** (any added, removed or moved branch is noticed). -/
theorem handleReq_skeleton :
    skeleton = [
      "0 var tx *types.Transaction", "0 var err error", "0 var idx int", "0 var ctx context.Context",
      "0 label L", "0 for idx, ctx = range e.ctxes", "1 select",
      "2 case <-req.opCtx.Done()", "3 return",
      "2 case <-ctx.Done()", "3 continue",
      "2 default", "3 tx, err = req.f(ctx)", "3 if err != nil",
      "4 if strings.Contains(err.Error(), \"transaction failed\") || strings.Contains(err.Error(), \"insufficient funds for gas * price + value\")",
      "5 break L",
      "4 if strings.Contains(err.Error(), \"failed to retrieve account nonce\") || strings.Contains(err.Error(), \"use of closed network connection\")",
      "5 var oError *OnchainError", "5 if errors.As(err, &oError)", "6 e.cancels[oError.Idx]()",
      "4 continue", "3 break L",
      "0 if tx == nil && err == nil", "1 err = errors.New(\"no live endpoint to send the request to\")",
      "0 resp := &response{idx, tx, err}", "0 go func"] :=
  rfl

/-- **regenerated: every request closure assigns its named results.** Each `f := func(ctx) (tx
*types.Transaction, err error)` of eth_set.go assigns `tx` / `err` with `=` only (a `:=` would shadow them and
the closure would return `nil, nil`: success reported, nothing sent) and ends with the bare `return`. -/
theorem closures_assign_named_results :
    closures.all (fun c => c.results == "(tx *types.Transaction, err error)" && c.last == "return" &&
      c.assigns == [("err", "="), ("tx, err", "="), ("err", "=")]) = true ∧
    closures.map (·.method) = ["SetGroupSize", "UpdateRandomness", "DataReturn", "RegisterGroupPubKey",
      "RegisterNewNode", "UnRegisterNode", "SignalUnregister", "StartCommitReveal", "Commit", "Reveal"] :=
  ⟨by decide +kernel, rfl⟩

/-- **regenerated: argument preparation and binding call of the six calls of the property** — signature as
`[2]{x, y}` of `ToBigInt`, request id `SetBytes(RequestId)`, traffic type `uint8(Index)`, group key
`idPubkey[1:]` after the group id, in the argument order of the binding methods. -/
theorem closures_marshalling :
    (closures.filter (fun c => ["UpdateRandomness", "DataReturn", "RegisterGroupPubKey", "RegisterNewNode", "Commit", "Reveal"].contains c.method)).map
        (fun c => (c.method, c.prep, c.call)) =
      [("UpdateRandomness", ["proxies := e.proxies", "x, y := sign.ToBigInt()", "sig := [2]*big.Int{x, y}"],
          "proxies[idx].UpdateRandomness(sig)"),
       ("DataReturn", ["proxies := e.proxies", "requestId := new(big.Int).SetBytes(sign.RequestId)",
          "trafficType := uint8(sign.Index)", "result := sign.Content", "x, y := sign.ToBigInt()", "sig := [2]*big.Int{x, y}"],
          "proxies[idx].TriggerCallback(requestId, trafficType, result, sig)"),
       ("RegisterGroupPubKey", ["proxies := e.proxies", "groupId := idPubkey[0]", "var pubKey [4]*big.Int", "copy(pubKey[:], idPubkey[1:])"],
          "proxies[idx].RegisterGroupPubKey(groupId, pubKey)"),
       ("RegisterNewNode", ["proxies := e.proxies"], "proxies[idx].RegisterNewNode()"),
       ("Commit", ["crs := e.crs"], "crs[idx].Commit(cid, commitment)"),
       ("Reveal", ["crs := e.crs"], "crs[idx].Reveal(cid, secret)")] :=
  rfl

/-- **regenerated: the configuration setters and `Connect` are what `Adaptor.setGasPrice / setGasLimit /
reconnect` model**: both setters store `v.Uint64()` in the adaptor's field unconditionally and update every
session (`SetGasPrice`: `nil` for 0, else `v`); `NewEthAdaptor` stores the configured values in those fields;
`Connect` builds every transactor (RPC and websocket alike) from `e.key`, `e.chainID`, `e.gasLimit` and, if
non-zero, `e.gasPrice`. -/
theorem config_shape_matches_model :
    skeletonSetGasLimit = ["0 e.gasLimit = gasLimit.Uint64()", "0 for i := 0; i < len(e.proxies) && i < len(e.crs); i++",
      "1 e.proxies[i].TransactOpts.GasLimit = gasLimit.Uint64()", "1 e.crs[i].TransactOpts.GasLimit = gasLimit.Uint64()"] ∧
    skeletonSetGasPrice = ["0 e.gasPrice = gasPrice.Uint64()", "0 for i := 0; i < len(e.proxies) && i < len(e.crs); i++",
      "1 if gasPrice.Cmp(big.NewInt(0)) == 0",
      "2 e.proxies[i].TransactOpts.GasPrice = nil", "2 e.crs[i].TransactOpts.GasPrice = nil",
      "1 else",
      "2 e.proxies[i].TransactOpts.GasPrice = gasPrice", "2 e.crs[i].TransactOpts.GasPrice = gasPrice"] ∧
    newAdaptorConfig = ["0 chainID := new(big.Int)", "0 chainID.SetString(config.ChainID, 10)", "0 adaptor.chainID = chainID",
      "0 adaptor.key = key", "0 adaptor.gasLimit = uint64(gasLimitInt)", "0 adaptor.gasPrice = uint64(gasPriceInt)"] ∧
    connectTransactor =
      ["auth, err := bind.NewKeyedTransactorWithChainID(e.key.PrivateKey, e.chainID)", "auth.GasLimit = e.gasLimit",
       "if e.gasPrice != 0", "auth.GasPrice = new(big.Int).SetUint64(e.gasPrice)", "auth.Context = ctx",
       "auth, err := bind.NewKeyedTransactorWithChainID(e.key.PrivateKey, e.chainID)", "auth.GasLimit = e.gasLimit",
       "if e.gasPrice != 0", "auth.GasPrice = new(big.Int).SetUint64(e.gasPrice)", "auth.Context = ctx"] :=
  ⟨rfl, rfl, rfl, rfl⟩

/-- **regenerated: how `handleCR` builds the arguments of `Commit` and `Reveal`** — the secret `sec`, the
commitment `keccak256(math.U256Bytes(sec))` (`u256Bytes`/`crCommitment` of the model: the padded 32-byte
word, not `sec.Bytes()`), the same `cid` and the same `sec` in both calls, commit first. -/
theorem handleCR_args_match_model :
    handleCRArgs = ["sec, err := rand.Int(rand.Reader, randSeed)", "h := sha3.NewLegacyKeccak256()",
      "h.Write(math.U256Bytes(sec))", "b := h.Sum(nil)", "hash := byte32(b)", "cid := cr.Cid",
      "if err := d.chain.Commit(cid, *hash); err != nil", "if err := d.chain.Reveal(cid, sec); err != nil"] :=
  rfl

/-- **regenerated: the glue from a finished key generation to `RegisterGroupPubKey`**.  `genGroup`
(share/dkg/pedersen/pdkg_pipes.go): the public polynomial is built from the commitments of the node's OWN share on the
standard base, the group key is its constant commitment `pubPoly.Commit()` UNCHANGED (not negated, not another
coefficient), its four coordinates come from `decodePubKey` (`marshal_roundtrip_pubkey`, `pk` cases), the group id is
the session id read as a hexadecimal number, and the value handed on is `[id, c0, c1, c2, c3]` in exactly this order
(`copy(dataReturn[1:], pubKeyCoor[:])`).  `registerGroup` (dosnode/dos_stages.go, complete skeleton) passes that value
UNCHANGED to `chain.RegisterGroupPubKey`, whose call data `registerGroupPubKey_data_of_marshalled_key` (C19Abi) gives
byte by byte.  `reportQueryResult`: `UpdateRandomness` iff the query type is `TrafficSystemRandom`, else `DataReturn`,
with the signature unchanged. -/
theorem group_key_glue_matches_model :
    -- decodePubKey, the WHOLE function (seeded change C19g-2: `bytes.TrimLeft(pubKeyMar, "\x01")` + derived width):
    -- fixed offsets 32*i+1 : 32*i+33 for i = 0..3 behind the length guard, exactly `ReqLoop.decodePubKey`
    decodePubKeyBody =
     ["func(pubKey kyber.Point) (pubKeyCoor [4]*big.Int, err error)",
      "0 pubKeyMar, err := pubKey.MarshalBinary()", "0 if err != nil", "1 return",
      "0 if len(pubKeyMar) < 32*4+1", "1 err = errors.New(\"public key is the point at infinity\")", "1 return",
      "0 for i := 0; i < 4; i++", "1 pubKeyCoor[i] = new(big.Int).SetBytes(pubKeyMar[32*i+1 : 32*i+33])", "0 return"] ∧
    genGroupKeyGlue =
     ["out = make(chan [5]*big.Int)",
      "secShare, err := dkg.DistKeyShare()",
      "group.secShare = secShare",
      "group.pubPoly = share.NewPubPoly(suite, suite.Point().Base(), group.secShare.Commitments())",
      "pubKey := group.pubPoly.Commit()",
      "pubKeyCoor, err := decodePubKey(pubKey)",
      "groupId, ok := new(big.Int).SetString(sessionID, 16)",
      "dataReturn := [5]*big.Int{groupId}",
      "copy(dataReturn[1:], pubKeyCoor[:])",
      "case out <- dataReturn"] ∧
    registerGroupBody =
     ["0 errc = make(chan error)",
      "0 go func",
      "0 return",
      "0 *ast.DeferStmt",
      "0 var err error",
      "0 select",
      "1 case idPubkey, ok := <-IdWithPubKeys",
      "2 if ok",
      "3 err = chain.RegisterGroupPubKey(idPubkey)",
      "2 else",
      "3 err = errors.New(\"no publickey\")",
      "1 case <-ctx.Done()",
      "2 err = ctx.Err()",
      "2 return",
      "0 if err != nil",
      "1 select",
      "2 case errc <- err",
      "2 case <-ctx.Done()"] ∧
    reportQueryResultBody =
     ["0 errc = make(chan error)",
      "0 go func",
      "0 return",
      "0 *ast.DeferStmt",
      "0 var err error",
      "0 select",
      "1 case signature, ok := <-signC",
      "2 if ok",
      "3 if queryType == onchain.TrafficSystemRandom",
      "4 err = chain.UpdateRandomness(signature)",
      "3 else",
      "4 err = chain.DataReturn(signature)",
      "2 else",
      "3 err = errors.New(\"no signature\")",
      "1 case <-ctx.Done()",
      "2 return",
      "0 if err != nil",
      "1 select",
      "2 case errc <- err",
      "2 case <-ctx.Done()"] :=
  ⟨rfl, rfl, rfl, rfl⟩

end Dos.Props.C19
