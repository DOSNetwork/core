/-
C01 composed down to the concrete bn256 G1 arithmetic — the node model `handleQuery` (C01/C07/C13) run
with `cryptoG1 f H t n`: `tbls.Recover` / `bls.Verify` as modelled byte for byte in `Model/Tbls.lean`
(C02/C03) over the DRIVER's own scalars `Zq r` and points `G1.Pt` (`Model/TblsG1.lean`: affine
chord/tangent addition, Jacobian double-and-add, the 64-byte codec) — the very functions `drv_c02` /
`drv_c03` execute and the correspondence runs compare with the real code.

Route: `Proofs/ComposeTblsG1*.lean` (the driver's `add`, `neg`, `mul` are the operations of Mathlib's
group `E(F_p)`, `p` prime by `Proofs/Primes.lean`), `Proofs/ComposeNatural.lean` (naturality of the
`Recover` model), `Proofs/ComposeTblsG1Crypto.lean` (`cryptoG1` IS the abstract instance over `E(F_p)`),
then `Props/C01Compose.lean`.

Hypotheses left, all explicit: `#E(F_p) = r` (`hr`, the curve group has exponent `r`), `H` maps into the
curve (`hH`; `h•g₁` does: C02ComposeG1 `g1_driver_mul_is_scalar_multiple`), `deg f < t`, `n ≤ 65536`, the
member's id is an address and it computed its content; for the on-chain reading of a report a pairing on
`E(F_p)` (bilinear, non-degenerate).  No primality assumption, no "G1 is a module" assumption, no codec
assumption, no contract of `tbls.Recover` / `bls.Verify`.
-/
import DosModel.Proofs.ComposeTblsG1Crypto
import DosModel.Props.C01Compose

set_option linter.style.haveILetI false

namespace Dos.Props.C01ComposeG1
open Dos Dos.Content Dos.Query Dos.Share Dos.Tbls Dos.G1 Dos.Compose Dos.Compose.TG1

/-- **validity, concrete**: whatever an honest member reports, for every sequence of peer messages,
decodes (driver's `UnmarshalBinary`) to exactly the group signature `f(0) • H(result ‖ msg.sender)`
computed by the driver's own scalar multiplication -/
theorem c01_report_is_group_signature_g1 (hr : ∀ P : E, G1.r • P = 0) (f : List (Zq G1.r))
    (H : Bytes → Pt) (hH : ∀ c, Valid (H c)) (t n : Nat) (p a : Nat) (mb : Member) (r : Request)
    (fc : List (Option Msg)) (c0 : Bytes) (hc0 : contentFor p r mb.me = some c0)
    (hlen : mb.me.length = a) :
    ∀ rep ∈ (handleQuery (cryptoG1 f H t n) p a mb r fc).reports,
      rep.result ++ mb.me = c0 ∧ G1.decode rep.sig = some (G1.mul (f.headD 0).val (H c0))
        ∧ rep.index = r.kind.ptype := by
  letI := moduleE hr
  rw [cryptoG1_eq hr f H hH t n]
  intro rep hrep
  have h1 := Props.C01Compose.c01_report_is_group_signature codecE f (fun c => φ (H c)) t n p a mb r fc
    c0 hc0 hlen rep hrep
  have h2 := Props.C01.report_valid_of_content (fun _ _ => True) _ (fun _ _ _ => trivial) p a mb r fc c0 hc0 hlen
    rep hrep
  exact ⟨h2.1, (decode_eq_smul_iff hr _ _ (H c0) (hH c0)).1 h1, h2.2.2⟩

/-- **validity on chain, concrete**: with a pairing on `E(F_p)` the reported bytes satisfy the
contract's equation for `result ‖ msg.sender` under the group key `f(0)•g₂` -/
theorem c01_report_valid_g1 {G2 GT : Type} [hr : Fact (∀ P : E, G1.r • P = 0)] [AddCommGroup G2]
    [Module (Zq G1.r) G2] [CommGroup GT] (pr : Pairing (Zq G1.r) E G2 GT) (f : List (Zq G1.r))
    (H : Bytes → Pt) (hH : ∀ c, Valid (H c)) (t n : Nat) (p a : Nat) (mb : Member) (r : Request)
    (fc : List (Option Msg)) (c0 : Bytes) (hc0 : contentFor p r mb.me = some c0)
    (hlen : mb.me.length = a) :
    ∀ rep ∈ (handleQuery (cryptoG1 f H t n) p a mb r fc).reports,
      rep.result ++ mb.me = c0 ∧
      (∃ S : Pt, G1.decode rep.sig = some S ∧ pr.verifyEq (f.headD 0 • pr.g2) (φ (H c0)) (φ S))
        ∧ rep.index = r.kind.ptype := by
  rw [cryptoG1_eq hr.out f H hH t n]
  intro rep hrep
  obtain ⟨h1, ⟨S, hS, hv⟩, h3⟩ := Props.C01Compose.c01_report_valid_composed pr codecE f
    (fun c => φ (H c)) t n p a mb r fc c0 hc0 hlen rep hrep
  refine ⟨h1, ?_, h3⟩
  have hS' : (G1.decode rep.sig).map φ = some S := hS
  cases hd : G1.decode rep.sig with
  | none => rw [hd] at hS'; cases hS'
  | some s =>
    rw [hd, Option.map_some] at hS'
    refine ⟨s, rfl, ?_⟩
    rw [Option.some.inj hS', ← h1] at *
    exact hv

/-- **liveness, concrete**: the member is the submitter; `honest` are distinct member numbers `< n`, at
least `t = n/2+1` of them, whose shares — as emitted by the driver's `tbls.Sign` (`tblsSign g1Codec`) —
are carried by well-formed messages among the stage's inputs (own share first).  Then exactly one report
is made and the node does not crash, whatever else arrives. -/
theorem c01_honest_signers_report_g1 (hr : ∀ P : E, G1.r • P = 0) (f : List (Zq G1.r))
    (H : Bytes → Pt) (hH : ∀ c, Valid (H c)) (p a : Nat) (mb : Member) (r : Request)
    (fc : List (Option Msg)) (c0 : Bytes) (hsub : submitter mb.ids r.last = some mb.me)
    (hc0 : contentFor p r mb.me = some c0) (hlen : mb.me.length = a)
    (hf : f.length ≤ threshold mb.ids.length) (h16 : mb.ids.length ≤ 65536)
    (honest : List Nat) (hnd : honest.Nodup) (hin : ∀ i ∈ honest, i < mb.ids.length)
    (ht : threshold mb.ids.length ≤ honest.length)
    (hmsg : ∀ i ∈ honest, ∃ rid, some (⟨r.kind.ptype, rid, some c0, some (tblsSign g1Codec f (H c0) i)⟩ : Msg) ∈
        some ⟨r.kind.ptype, r.ridBytes, some c0, some (mb.signOwn c0)⟩ :: fc) :
    (handleQuery (cryptoG1 f H (threshold mb.ids.length) mb.ids.length) p a mb r fc).reports.length = 1
      ∧ (handleQuery (cryptoG1 f H (threshold mb.ids.length) mb.ids.length) p a mb r fc).stop = .none := by
  letI := moduleE hr
  rw [cryptoG1_eq hr f H hH _ _]
  refine Props.C01Compose.c01_honest_signers_report codecE codecE_roundtrip f (fun c => φ (H c)) p a mb r fc
    c0 hsub hc0 hlen hf
    (Props.C09.zq_charGt G1.r mb.ids.length (Nat.lt_of_le_of_lt h16 (by decide))) h16 honest hnd hin ht ?_
  intro i hi
  rw [tblsSign_eq hr f (H c0) (hH c0) i]
  exact hmsg i hi

/-- **exactly one valid report, concrete**: liveness and validity together -/
theorem c01_exactly_one_valid_report_g1 (hr : ∀ P : E, G1.r • P = 0) (f : List (Zq G1.r))
    (H : Bytes → Pt) (hH : ∀ c, Valid (H c)) (p a : Nat) (mb : Member) (r : Request)
    (fc : List (Option Msg)) (c0 : Bytes) (hsub : submitter mb.ids r.last = some mb.me)
    (hc0 : contentFor p r mb.me = some c0) (hlen : mb.me.length = a)
    (hf : f.length ≤ threshold mb.ids.length) (h16 : mb.ids.length ≤ 65536)
    (honest : List Nat) (hnd : honest.Nodup) (hin : ∀ i ∈ honest, i < mb.ids.length)
    (ht : threshold mb.ids.length ≤ honest.length)
    (hmsg : ∀ i ∈ honest, ∃ rid, some (⟨r.kind.ptype, rid, some c0, some (tblsSign g1Codec f (H c0) i)⟩ : Msg) ∈
        some ⟨r.kind.ptype, r.ridBytes, some c0, some (mb.signOwn c0)⟩ :: fc) :
    ∃ rep, (handleQuery (cryptoG1 f H (threshold mb.ids.length) mb.ids.length) p a mb r fc).reports = [rep]
      ∧ rep.result ++ mb.me = c0
      ∧ G1.decode rep.sig = some (G1.mul (f.headD 0).val (H c0)) ∧ rep.index = r.kind.ptype := by
  have h1 := (c01_honest_signers_report_g1 hr f H hH p a mb r fc c0 hsub hc0 hlen hf h16 honest hnd hin
    ht hmsg).1
  obtain ⟨rep, hrep⟩ := List.length_eq_one_iff.1 h1
  have hv := c01_report_is_group_signature_g1 hr f H hH (threshold mb.ids.length) mb.ids.length p a mb r
    fc c0 hc0 hlen rep (by rw [hrep]; simp)
  exact ⟨rep, hrep, hv⟩

/-! non-vacuity: the concrete instance evaluated by the kernel on the REAL curve — group of three,
`f = 4 + 3x`, `H ≡ 2•g₁`; the submitter's own share and member 2's share (driver's `tbls.Sign`), with junk
in between, give exactly one report carrying the encoding of `4•(2•g₁)` -/

private def ids3 : List Bytes := [List.replicate 20 0xA1, List.replicate 20 0xB2, List.replicate 20 0xC3]
private def req3 : Request := { kind := .sys, rid := 7, last := 7, seed := 0, parsed := none }
private def c3 : Bytes := sysContent 32 7 (List.replicate 20 0xB2)
private def fG : List (Zq G1.r) := [4, 3]
private def HG : Bytes → Pt := fun _ => G1.mul 2 G1.base
private def mb1 : Member :=
  { ids := ids3, me := List.replicate 20 0xB2, signOwn := fun c => tblsSign g1Codec fG (HG c) 1 }
private def fcG : List (Option Msg) :=
  [some { index := 0, rid := [7], content := some c3, sig := some [1] }, none,
   some { index := 0, rid := [7], content := some c3, sig := some (tblsSign g1Codec fG (HG c3) 2) }]

set_option maxRecDepth 100000 in
example : ((handleQuery (cryptoG1 fG HG (threshold 3) 3) 32 20 mb1 req3 fcG).reports.map (·.sig))
    = [G1.encode (G1.mul 8 G1.base)] := by decide +kernel

example : ∀ c, Valid (HG c) := fun _ =>
  (mulBridge 2 G1.base (by show 1 < G1.p ∧ 2 < G1.p ∧ G1.onCurve 1 2 = true; decide)).1

end Dos.Props.C01ComposeG1
