/-
C10 — tower fields (layer 4). The functions `Fp2.*`, `Fp6.*`, `Fp12.*` are the Go methods of
gfp2.go / gfp6.go / gfp12.go transcribed statement by statement (Model/Bn256Tower.lean; the
driver runs them over the Montgomery gfP and is compared with the real code on every run).
Here: over EVERY commutative ring α in place of gfP they are the arithmetic of
α[i]/(i²+1), its cubic extension by τ³ = ξ = i+9 and the quadratic extension by ω² = τ.
Only theorems; lemmas in Proofs/Bn256Tower{2,6,12}.lean, Proofs/Bn256Scalar.lean.
-/
import DosModel.Proofs.Bn256Tower12

namespace Dos.Props.C10Tower
open Dos.Bn256

variable {α : Type}

/-! ## gfP2 -/

/-- Mul is the product of x·i + y and x'·i + y' reduced by i² = −1; Square, MulXi, MulScalar,
Conjugate are what their names say -/
theorem gfP2_mul_is_quadratic_extension [CommRing α] (a b : Fp2 α) (c : α) :
    Fp2.mul a b = ⟨a.x * b.y + a.y * b.x, a.y * b.y - a.x * b.x⟩ ∧
    Fp2.square a = Fp2.mul a a ∧
    Fp2.mulXi a = Fp2.mul ⟨1, 9⟩ a ∧
    Fp2.mulScalar a c = Fp2.mul a ⟨0, c⟩ ∧
    Fp2.mul (⟨1, 0⟩ : Fp2 α) ⟨1, 0⟩ = Fp2.neg Fp2.one ∧
    Fp2.conjugate (Fp2.mul a b) = Fp2.mul (Fp2.conjugate a) (Fp2.conjugate b) := by
  refine ⟨?_, ?_, ?_, ?_, ?_, ?_⟩
  · have := Fp2.mul_coords a b; exact Fp2.ext' this.1 this.2
  · exact Fp2.square_eq a
  · exact Fp2.mulXi_eq a
  · exact Fp2.mulScalar_eq a c
  · exact Fp2.i_sq
  · exact Fp2.conjugate_mul a b

/-- the transcribed Add/Sub/Neg/Mul/zero/one satisfy ALL commutative-ring axioms -/
theorem gfP2_ring_laws [CommRing α] :
    ∃ inst : CommRing (Fp2 α),
      (∀ a b : Fp2 α, inst.add a b = Fp2.add a b) ∧ (∀ a b : Fp2 α, inst.mul a b = Fp2.mul a b) ∧
      (∀ a : Fp2 α, inst.neg a = Fp2.neg a) ∧ (∀ a b : Fp2 α, inst.sub a b = Fp2.sub a b) ∧
      inst.zero = Fp2.zero ∧ inst.one = Fp2.one :=
  ⟨Fp2.instCommRing, fun _ _ => rfl, fun _ _ => rfl, fun _ => rfl, fun _ _ => rfl, rfl, rfl⟩

/-- Invert is the inverse whenever the norm x² + y² is non-zero -/
theorem gfP2_invert [Field α] (a : Fp2 α) (hn : a.x * a.x + a.y * a.y ≠ 0) :
    Fp2.mul a (Fp2.invert a) = Fp2.one := Fp2.mul_invert a hn

/-! ## gfP6 -/

/-- the Karatsuba Mul is the schoolbook product reduced by τ³ = ξ; Square, MulTau, MulScalar, MulGFP
are multiplications in the same ring; τ³ = ξ -/
theorem gfP6_mul_is_cubic_extension [CommRing α] (a b : Fp6 α) (c : Fp2 α) (d : α) :
    Fp6.mul a b = ⟨a.x * b.z + a.y * b.y + a.z * b.x,
                   a.y * b.z + a.z * b.y + Fp2.xi * (a.x * b.x),
                   a.z * b.z + Fp2.xi * (a.x * b.y + a.y * b.x)⟩ ∧
    Fp6.square a = Fp6.mul a a ∧
    Fp6.mulTau a = Fp6.mul ⟨0, 1, 0⟩ a ∧
    Fp6.mulScalar a c = Fp6.mul a ⟨0, 0, c⟩ ∧
    Fp6.mulGFP a d = Fp6.mul a ⟨0, 0, ⟨0, d⟩⟩ ∧
    Fp6.mul (⟨0, 1, 0⟩ : Fp6 α) (Fp6.mul ⟨0, 1, 0⟩ ⟨0, 1, 0⟩) = ⟨0, 0, Fp2.xi⟩ :=
  ⟨Fp6.mul_eq_spec a b, Fp6.square_eq_mul a, Fp6.mulTau_eq a, Fp6.mulScalar_eq a c, Fp6.mulGFP_eq a d,
   Fp6.tau_cubed⟩

theorem gfP6_ring_laws [CommRing α] :
    ∃ inst : CommRing (Fp6 α),
      (∀ a b : Fp6 α, inst.add a b = Fp6.add a b) ∧ (∀ a b : Fp6 α, inst.mul a b = Fp6.mul a b) ∧
      (∀ a : Fp6 α, inst.neg a = Fp6.neg a) ∧ (∀ a b : Fp6 α, inst.sub a b = Fp6.sub a b) ∧
      inst.zero = Fp6.zero ∧ inst.one = Fp6.one :=
  ⟨Fp6.instCommRing, fun _ _ => rfl, fun _ _ => rfl, fun _ => rfl, fun _ _ => rfl, rfl, rfl⟩

/-- Invert: the value inverted in gfP2 is the norm x³ξ² + y³ξ + z³ − 3ξxyz, and if that inversion
succeeds the result is the inverse -/
theorem gfP6_invert [Field α] (a : Fp6 α) (hF : Fp6.normF a * Fp2.invert (Fp6.normF a) = 1) :
    Fp6.mul a (Fp6.invert a) = Fp6.one ∧
    Fp6.normF a = Fp2.xi * Fp2.xi * (a.x * a.x * a.x) + Fp2.xi * (a.y * a.y * a.y) + a.z * a.z * a.z
      - 3 * Fp2.xi * (a.x * a.y * a.z) :=
  ⟨Fp6.mul_invert a hF, Fp6.normF_eq a⟩

/-! ## gfP12 -/

theorem gfP12_mul_is_quadratic_extension [CommRing α] (a b : Fp12 α) :
    Fp12.mul a b = ⟨a.x * b.y + a.y * b.x, a.y * b.y + Fp6.tau * (a.x * b.x)⟩ ∧
    Fp12.square a = Fp12.mul a a ∧
    Fp12.mul (⟨1, 0⟩ : Fp12 α) ⟨1, 0⟩ = ⟨0, Fp6.tau⟩ ∧
    Fp12.conjugate (Fp12.mul a b) = Fp12.mul (Fp12.conjugate a) (Fp12.conjugate b) ∧
    Fp12.mul a (Fp12.conjugate a) = ⟨0, a.y * a.y - Fp6.tau * (a.x * a.x)⟩ :=
  ⟨Fp12.mul_eq_spec a b, Fp12.square_eq_mul a, Fp12.omega_sq, Fp12.conjugate_mul a b, Fp12.mul_conjugate a⟩

theorem gfP12_ring_laws [CommRing α] :
    ∃ inst : CommRing (Fp12 α),
      (∀ a b : Fp12 α, inst.add a b = Fp12.add a b) ∧ (∀ a b : Fp12 α, inst.mul a b = Fp12.mul a b) ∧
      (∀ a : Fp12 α, inst.neg a = Fp12.neg a) ∧ (∀ a b : Fp12 α, inst.sub a b = Fp12.sub a b) ∧
      inst.zero = Fp12.zero ∧ inst.one = Fp12.one :=
  ⟨Fp12.instCommRing, fun _ _ => rfl, fun _ _ => rfl, fun _ => rfl, fun _ _ => rfl, rfl, rfl⟩

theorem gfP12_invert [Field α] (a : Fp12 α) (hT : Fp12.normT a * Fp6.invert (Fp12.normT a) = 1) :
    Fp12.mul a (Fp12.invert a) = Fp12.one := Fp12.mul_invert a hT

/-- GT scalar multiplication: gfP12.Exp is the k-th power for EVERY k (0, 1, order, 2^256−1, …) -/
theorem gfP12_exp_is_power [CommRing α] (a : Fp12 α) (k : Nat) : Fp12.exp a k = a ^ k :=
  Fp12.exp_eq_pow a k

/-- consequently Exp obeys the exponent laws: a^(j+k) = a^j·a^k, (a^j)^k = a^(jk), and it agrees with
the exponent reduced modulo any n with aⁿ = 1 (the group order for elements of GT) -/
theorem gfP12_exp_laws [CommRing α] (a : Fp12 α) (j k n : Nat) (hn : a ^ n = 1) :
    Fp12.exp a (j + k) = Fp12.mul (Fp12.exp a j) (Fp12.exp a k) ∧
    Fp12.exp (Fp12.exp a j) k = Fp12.exp a (j * k) ∧
    Fp12.exp a k = Fp12.exp a (k % n) := by
  simp only [gfP12_exp_is_power, Fp12.mul_eq]
  exact ⟨pow_add a j k, (pow_mul a j k).symm, pow_eq_pow_mod k hn⟩

/-! non-vacuity: concrete instances over ℤ -/
example : Fp2.mul (⟨1, 2⟩ : Fp2 Int) ⟨3, 4⟩ = ⟨10, 5⟩ := by decide
example : Fp2.mulXi (⟨1, 2⟩ : Fp2 Int) = ⟨11, 17⟩ := by decide
example : Fp6.mul (⟨⟨1, 0⟩, ⟨0, 1⟩, ⟨2, 3⟩⟩ : Fp6 Int) ⟨⟨1, 0⟩, ⟨0, 1⟩, ⟨2, 3⟩⟩ =
    Fp6.square ⟨⟨1, 0⟩, ⟨0, 1⟩, ⟨2, 3⟩⟩ := by decide
example : Fp12.exp (⟨⟨⟨0, 0⟩, ⟨0, 0⟩, ⟨0, 0⟩⟩, ⟨⟨0, 0⟩, ⟨0, 0⟩, ⟨0, 2⟩⟩⟩ : Fp12 Int) 10 =
    ⟨⟨⟨0, 0⟩, ⟨0, 0⟩, ⟨0, 0⟩⟩, ⟨⟨0, 0⟩, ⟨0, 0⟩, ⟨0, 1024⟩⟩⟩ := by decide +kernel
example : Fp2.mul (⟨3, 4⟩ : Fp2 Rat) (Fp2.invert ⟨3, 4⟩) = Fp2.one := by
  apply gfP2_invert; norm_num

end Dos.Props.C10Tower
