/-
C10 — curve arithmetic, scalar multiplication and the pairing-check logic (layers 5, 6).
`Jac.add`, `Jac.double`, `Jac.mulLoop` are curvePoint/twistPoint `Add`, `Double`, `Mul` of
curve.go / twist.go transcribed statement by statement (Model/Bn256Curve.lean; run by the
driver over gfP and gfP2 and compared with the real code on every run, receiver state and
aliasing included). Here: over EVERY field K whose squaring operation squares (`hsq`).
Only theorems; lemmas in Proofs/Bn256Curve.lean, Proofs/Bn256CurveMul.lean.
-/
import DosModel.Proofs.Bn256Curve
import DosModel.Proofs.Bn256CurveMul
import DosModel.Proofs.Bn256Tower2
import DosModel.Proofs.Bn256CurveGroup

namespace Dos.Props.C10Curve
open Dos.Bn256 Dos.Bn256.Jac

/-- the squaring operation of the two instantiations is squaring: gfpMul(a,a) for gfP by definition,
gfP2.Square by `Fp2.square_eq` (over any commutative ring in place of gfP) -/
theorem twist_squaring_is_squaring {α : Type} [CommRing α] (a : Fp2 α) : Sq.sq a = a * a :=
  Fp2.square_eq a

section
variable {K : Type} [Field K] [Sq K] [DecidableEq K]

/-- **Double, closed form** (any representative, any receiver): X₃ = 9X⁴ − 8XY², Y₃ = 3X²(4XY² − X₃) − 8Y⁴,
Z₃ = 2YZ, and the receiver's `t` is left as it was -/
theorem double_closed_form (hsq : ∀ a : K, Sq.sq a = a * a) (c a : Jac K) :
    (double c a).x = 9 * a.x ^ 4 - 8 * a.x * a.y ^ 2 ∧
    (double c a).y = 3 * a.x ^ 2 * (4 * a.x * a.y ^ 2 - (9 * a.x ^ 4 - 8 * a.x * a.y ^ 2)) - 8 * a.y ^ 4 ∧
    (double c a).z = 2 * a.y * a.z ∧ (double c a).t = c.t := double_formulas hsq c a

/-- **Add, every branch**: identity on either side returns the other operand unchanged; otherwise the
code's two comparisons are H = x₂z₁² − x₁z₂² = 0 and N = y₂z₁³ − y₁z₂³ = 0; both ⇒ Double(a); else
x₃ = 4(N² − (x₁z₂² + x₂z₁²)H²), y₃ = 8N·x₁z₂²H² − 2N·x₃ − 8y₁z₂³H³, z₃ = 2z₁z₂H -/
theorem add_all_branches (hsq : ∀ a : K, Sq.sq a = a * a) (c a b : Jac K) :
    (a.z = 0 → add c a b = b) ∧
    (a.z ≠ 0 → b.z = 0 → add c a b = a) ∧
    (a.z ≠ 0 → b.z ≠ 0 → H a b = 0 → N a b = 0 → add c a b = double c a) ∧
    (a.z ≠ 0 → b.z ≠ 0 → H a b = 0 → N a b ≠ 0 → (add c a b).z = 0) ∧
    (a.z ≠ 0 → b.z ≠ 0 → ¬ (H a b = 0 ∧ N a b = 0) →
      add c a b = ⟨4 * (N a b ^ 2 - (a.x * b.z ^ 2 + b.x * a.z ^ 2) * H a b ^ 2),
        8 * N a b * (a.x * b.z ^ 2) * H a b ^ 2
          - 2 * N a b * (4 * (N a b ^ 2 - (a.x * b.z ^ 2 + b.x * a.z ^ 2) * H a b ^ 2))
          - 8 * a.y * b.z ^ 3 * H a b ^ 3,
        2 * a.z * b.z * H a b, c.t⟩) := by
  refine ⟨add_inf_left c a b, add_inf_right c a b, add_same hsq c a b, add_opposite hsq c a b, ?_⟩
  intro ha hb h
  rw [add_cases hsq c a b ha hb, if_neg h]

/-- H = 0 ∧ N = 0 says exactly "same affine point" (whatever the two Jacobian representatives) -/
theorem same_point_test (a b : Jac K) (ha : a.z ≠ 0) (hb : b.z ≠ 0) :
    (H a b = 0 ∧ N a b = 0) ↔ (ax a = ax b ∧ ay a = ay b) := same_affine_iff a b ha hb

/-- **add_affine**: the affine image (X/Z², Y/Z³) of the Jacobian result is the chord sum for
different x, and the tangent sum when the same point is given twice — for ALL representatives -/
theorem add_affine (hsq : ∀ a : K, Sq.sq a = a * a) (c a b : Jac K) (ha : a.z ≠ 0) (hb : b.z ≠ 0)
    (h2 : (2 : K) ≠ 0) :
    (H a b ≠ 0 →
      (add c a b).z ≠ 0 ∧
      ax (add c a b) = ((ay b - ay a) / (ax b - ax a)) ^ 2 - ax a - ax b ∧
      ay (add c a b) = ((ay b - ay a) / (ax b - ax a)) * (ax a - ax (add c a b)) - ay a) ∧
    (H a b = 0 → N a b = 0 → a.y ≠ 0 →
      (add c a b).z ≠ 0 ∧
      ax (add c a b) = (3 * ax a ^ 2 / (2 * ay a)) ^ 2 - 2 * ax a ∧
      ay (add c a b) = (3 * ax a ^ 2 / (2 * ay a)) * (ax a - ax (add c a b)) - ay a) :=
  ⟨fun hH => add_affine_chord hsq c a b ha hb hH h2,
   fun hH hN hy => add_affine_tangent hsq c a b ha hb hH hN hy h2⟩

theorem double_affine (hsq : ∀ a : K, Sq.sq a = a * a) (c a : Jac K) (ha : a.z ≠ 0) (h2 : (2 : K) ≠ 0) :
    (a.y ≠ 0 →
      (double c a).z ≠ 0 ∧
      ax (double c a) = (3 * ax a ^ 2 / (2 * ay a)) ^ 2 - 2 * ax a ∧
      ay (double c a) = (3 * ax a ^ 2 / (2 * ay a)) * (ax a - ax (double c a)) - ay a) ∧
    (a.y = 0 → (double c a).z = 0) :=
  ⟨fun hy => double_affine_tangent hsq c a ha hy h2, fun hy => double_order_two hsq c a hy⟩

end

/-! ### the code's addition IS the group law of the curve (Mathlib's `WeierstrassCurve.Affine.Point`) -/

section group
variable {K : Type} [Field K] [DecidableEq K] [Sq K]

/-- **group law, all points**: on y² = x³ + b over any field of characteristic ≠ 2, for valid triples
(identity, or finite with a nonsingular affine image), every receiver and every pair of Jacobian
representatives, `Add` returns a valid triple denoting the sum in Mathlib's elliptic-curve group — whichever
branch the code takes (identity, P+P → Double, P+(−P), general) — and `Double` denotes P + P -/
theorem add_is_group_addition (hsq : ∀ a : K, Sq.sq a = a * a) (h2 : (2 : K) ≠ 0) (bb : K) (c a b : Jac K)
    (ha : Valid bb a) (hb : Valid bb b) :
    Valid bb (add c a b) ∧ toPoint bb (add c a b) = toPoint bb a + toPoint bb b ∧
    Valid bb (double c a) ∧ toPoint bb (double c a) = toPoint bb a + toPoint bb a :=
  ⟨(add_point hsq h2 bb c a b ha hb).1, (add_point hsq h2 bb c a b ha hb).2,
   (double_point hsq h2 bb c a ha).1, (double_point hsq h2 bb c a ha).2⟩

/-- consequently G1 / G2 addition as computed obeys the group laws for ALL points: associativity,
commutativity, identity and inverse (inherited from Mathlib's `AddCommGroup W.Point`) -/
theorem group_laws (hsq : ∀ a : K, Sq.sq a = a * a) (h2 : (2 : K) ≠ 0) (bb : K)
    (c₁ c₂ c₃ c₄ a b d : Jac K) (ha : Valid bb a) (hb : Valid bb b) (hd : Valid bb d) :
    toPoint bb (add c₁ (add c₂ a b) d) = toPoint bb (add c₃ a (add c₄ b d)) ∧
    toPoint bb (add c₁ a b) = toPoint bb (add c₂ b a) ∧
    toPoint bb (add c₁ a infinity) = toPoint bb a ∧
    toPoint bb (add c₁ a (neg a a.t)) = 0 := by
  have hab := add_point hsq h2 bb c₂ a b ha hb
  have hbd := add_point hsq h2 bb c₄ b d hb hd
  have hinf : Valid bb (infinity : Jac K) := Or.inl rfl
  refine ⟨?_, ?_, ?_, ?_⟩
  · rw [(add_point hsq h2 bb c₁ _ d hab.1 hd).2, hab.2, (add_point hsq h2 bb c₃ a _ ha hbd.1).2, hbd.2,
      add_assoc]
  · rw [(add_point hsq h2 bb c₁ a b ha hb).2, (add_point hsq h2 bb c₂ b a hb ha).2, add_comm]
  · rw [(add_point hsq h2 bb c₁ a _ ha hinf).2, toPoint_inf bb (infinity : Jac K) rfl, add_zero]
  · have hneg := neg_point bb a ha
    rw [(add_point hsq h2 bb c₁ a _ ha hneg.1).2, hneg.2, add_neg_cancel]

/-- **scalar multiplication**: curvePoint.Mul and twistPoint.Mul return k • P in that group for EVERY k
(0, 1, r−1, r, r+1, 2^256−1, …), hence agree with the scalar reduced modulo any n with n • P = 0 -/
theorem mul_is_scalar_multiple (hsq : ∀ a : K, Sq.sq a = a * a) (h2 : (2 : K) ≠ 0) (bb : K) (a : Jac K)
    (ha : Valid bb a) (k n : Nat) (hn : n • toPoint bb a = 0) :
    toPoint bb (curveMul a k) = k • toPoint bb a ∧ toPoint bb (twistMul a k) = k • toPoint bb a ∧
    toPoint bb (curveMul a k) = toPoint bb (curveMul a (k % n)) ∧
    toPoint bb (twistMul a k) = toPoint bb (twistMul a (k % n)) := by
  have h1 := mul_point hsq h2 bb a ha k
  have h2' := mul_point hsq h2 bb a ha (k % n)
  have e : k • toPoint bb a = (k % n) • toPoint bb a := nsmul_eq_mod_nsmul k hn
  exact ⟨h1.1, h1.2, by rw [h1.1, h2'.1, e], by rw [h1.2, h2'.2, e]⟩

end group

/-- **mul_double_and_add**: with φ any map to a commutative additive monoid under which Double doubles and
Add adds on a class V of triples closed under both (the previous theorems: V = finite-or-identity triples of
the curve, φ = affine image in the group of the curve), the loop of curvePoint.Mul (accumulator SetInfinity)
and of twistPoint.Mul (accumulator zero value) returns a representative of k • φ(a) for EVERY scalar k —
0, 1, order−1, order, order+1, 2^256−1, any size -/
theorem mul_double_and_add {K G : Type} [Add K] [Sub K] [Neg K] [Mul K] [Zero K] [One K] [Sq K] [DecidableEq K]
    [AddCommMonoid G] (V : Jac K → Prop) (φ : Jac K → G)
    (hdbl : ∀ c a, V a → V (double c a) ∧ φ (double c a) = φ a + φ a)
    (hadd : ∀ c a b, V a → V b → V (add c a b) ∧ φ (add c a b) = φ a + φ b)
    (hinf : V infinity ∧ φ infinity = 0) (hzero : V zeroValue ∧ φ zeroValue = 0)
    (a : Jac K) (ha : V a) (k : Nat) :
    φ (curveMul a k) = k • φ a ∧ φ (twistMul a k) = k • φ a :=
  ⟨(mulLoop_smul V φ hdbl hadd a ha k infinity zeroValue hinf.1 hinf.2).2,
   (mulLoop_smul V φ hdbl hadd a ha k zeroValue zeroValue hzero.1 hzero.2).2⟩

/-- … and therefore agrees with the scalar reduced modulo any n that annihilates the point (n • φ(a) = 0; for n
the group order this is proved on the subgroups generated by the generators, `C10Concrete.g1_subgroup_torsion`,
`C10G2.g2_subgroup_torsion`; for other points it needs #E(F_p) = r) -/
theorem mul_reduced_scalar {K G : Type} [Add K] [Sub K] [Neg K] [Mul K] [Zero K] [One K] [Sq K] [DecidableEq K]
    [AddCommMonoid G] (V : Jac K → Prop) (φ : Jac K → G)
    (hdbl : ∀ c a, V a → V (double c a) ∧ φ (double c a) = φ a + φ a)
    (hadd : ∀ c a b, V a → V b → V (add c a b) ∧ φ (add c a b) = φ a + φ b)
    (hinf : V infinity ∧ φ infinity = 0) (hzero : V zeroValue ∧ φ zeroValue = 0)
    (a : Jac K) (ha : V a) (k n : Nat) (hn : n • φ a = 0) :
    φ (curveMul a k) = φ (curveMul a (k % n)) ∧ φ (twistMul a k) = φ (twistMul a (k % n)) := by
  have h1 := mul_double_and_add V φ hdbl hadd hinf hzero a ha k
  have h2 := mul_double_and_add V φ hdbl hadd hinf hzero a ha (k % n)
  have e : k • φ a = (k % n) • φ a := nsmul_eq_mod_nsmul k hn
  exact ⟨by rw [h1.1, h2.1, e], by rw [h1.2, h2.2, e]⟩

/-- **pairingCheck_logic**: PairingCheck (skip a pair when either point is the identity, multiply the
Miller values, ONE final exponentiation, compare with one) is true exactly when the product of the
pairings e(pᵢ,qᵢ) — e = 1 on an identity, final exponentiation of the Miller value otherwise, which is
how `optimalAte` defines it — is one, for every list, whenever the final exponentiation is multiplicative -/
theorem pairingCheck_logic {P Q T : Type} [CommMonoid T] [DecidableEq T] (infP : P → Bool) (infQ : Q → Bool)
    (mil : Q → P → T) (fin : T →* T) (ps : List (P × Q)) :
    pairingCheckAbs infP infQ mil (· * ·) 1 fin (fun t => decide (t = 1)) ps = true ↔
      (ps.map fun pq => if infP pq.1 || infQ pq.2 then 1 else fin (mil pq.2 pq.1)).prod = 1 :=
  Dos.Bn256.pairingCheck_logic infP infQ mil fin ps

/-! non-vacuity -/
-- (1,2) + (1,2) on y² = x³ + 3 over ℚ, given as two different Jacobian representatives, through Add
example : add (⟨0, 0, 0, 0⟩ : Jac Rat) ⟨1, 2, 1, 1⟩ ⟨4, 16, 2, 4⟩ = double ⟨0, 0, 0, 0⟩ ⟨1, 2, 1, 1⟩ := by
  decide +kernel
example : ax (double (⟨0, 0, 0, 7⟩ : Jac Rat) ⟨1, 2, 1, 1⟩) = -23 / 16 ∧
    (double (⟨0, 0, 0, 7⟩ : Jac Rat) ⟨1, 2, 1, 1⟩).t = 7 := by
  constructor
  · simp only [ax, double, Sq.sq]; norm_num
  · rfl
-- P + (−P)
example : (add (⟨0, 0, 0, 0⟩ : Jac Rat) ⟨1, 2, 1, 1⟩ ⟨1, -2, 1, 1⟩).z = 0 := by decide +kernel
-- (1,2) with any z is a valid triple of y² = x³ + 3 over ℚ: the hypotheses of the group-law theorems hold
example : Valid (3 : Rat) ⟨4, 16, 2, 4⟩ := by
  right
  rw [WeierstrassCurve.Affine.nonsingular_iff, WeierstrassCurve.Affine.equation_iff]
  simp only [shortW, ax, ay]
  norm_num
-- the check logic on a concrete commutative monoid (ℕ under multiplication, fin = id)
example : pairingCheckAbs (fun (p : Nat) => p == 0) (fun (q : Nat) => q == 0) (fun q p => q * p) (· * ·) 1
    (MonoidHom.id Nat) (fun t => decide (t = 1)) [(0, 5), (1, 1), (7, 0)] = true := by decide

end Dos.Props.C10Curve
