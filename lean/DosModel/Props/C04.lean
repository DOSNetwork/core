/-
C04 — honest key generation agrees on one key under every delivery schedule.

Theorems about the executable models `Model/VssSym.lean`, `Model/Dkg.lean`,
`Model/DkgSession.lean`, the event system `Model/DkgNet.lean` (`runEvents`) and the watchdog
`Model/DkgTick.lean` for every field `F`, `F`-module `G` (`g ≠ 0`), every group size, all
long-term keys (pairwise distinct public keys), all dealer polynomials and ephemeral secrets.
`HonestReach c i d` (Proofs/DkgHonest.lean): `d` is ANY state member `i`'s `DistKeyGenerator` can
be in after `Deals()` and an arbitrary sequence of `ProcessDeal` calls on genuine deals (any
dealer, any addressee, re-delivered any number of times, in any order) interleaved with
`ProcessResponse` calls on arbitrary responses – every schedule of the protocol (order, delay,
start skew, re-delivery) only ever produces such sequences, because the session layer and the
stages (Model/DkgSession.lean) do nothing else with a generator.
Helper lemmas: Proofs/Dkg*.lean; reconstruction uses C09 (`Proofs/Share.lean`).
-/
import DosModel.Gen.VssFacts
import DosModel.Proofs.DkgHonest
import DosModel.Proofs.DkgLiveGlobal
import DosModel.Proofs.DkgTick
import Mathlib.Algebra.Order.Field.Rat

set_option linter.unusedSectionVars false

namespace Dos.Props.C04
open Dos Dos.Vss Dos.Dkg

variable {F G : Type} [Field F] [AddCommGroup G] [Module F G] [DecidableEq F] [DecidableEq G]

/-- regenerated fact (`go/extract/vssfacts` → `Gen/VssFacts.lean`, on every check run): the ordered statement
skeletons of the session layer as `Model/DkgSession.lean` transcribes it – `handlePeerMsg` (one duplicate filter per
message type, each asserting ITS type on the buffered entries and comparing the keys `dupPk` / `dupDeal` /
`dupResp` compare; hand-over when the count reaches `numOfResps` exactly), the dispatch of `Loop` (one
`handlePeerMsg` per entry of a `Responses` message, each kind into its own buffer), the reply channel of capacity 1
of `askMembers`, and the stages the member machine runs (`getAndProcessDeals`, `getAndProcessResponses`,
`DistKeyShare`). A change to any of them must be re-modelled. -/
theorem c04_code_shape :
    Gen.VssFacts.handlePeerMsg = [
      "0| func handlePeerMsg(sessionMap map[string][]interface{}, sessionReq map[string]request, p p2p.P2PInterface, sessionID string, content interface{})",
      "1| switch pubkeyFromPeer := content.(type)",
      "2| case *PublicKey:",
      "3| pubkeys := sessionMap[sessionID]",
      "3| for _, p := range pubkeys",
      "4| pubkey, ok := p.(*PublicKey)",
      "4| if ok",
      "5| if pubkey.Index == pubkeyFromPeer.Index",
      "6| return",
      "2| default:",
      "1| switch dealFromPeer := content.(type)",
      "2| case *Deal:",
      "3| deals := sessionMap[sessionID]",
      "3| for _, dd := range deals",
      "4| d, ok := dd.(*Deal)",
      "4| if ok",
      "5| if d.Index == dealFromPeer.Index",
      "6| return",
      "2| default:",
      "1| switch respFromPeer := content.(type)",
      "2| case *Response:",
      "3| if respFromPeer.Response != nil",
      "4| for _, rr := range sessionMap[sessionID]",
      "5| r, ok := rr.(*Response)",
      "5| if ok && r.Response != nil",
      "6| if r.Index == respFromPeer.Index && r.Response.Index == respFromPeer.Response.Index",
      "7| return",
      "2| default:",
      "1| sessionMap[sessionID] = append(sessionMap[sessionID], content)",
      "1| if len(sessionMap[sessionID]) == sessionReq[sessionID].numOfResps",
      "2| select",
      "3| case <-sessionReq[sessionID].ctx.Done():",
      "3| case sessionReq[sessionID].reply <- sessionMap[sessionID]:",
      "2| close(sessionReq[sessionID].reply)",
      "2| delete(sessionMap, sessionID)",
      "2| delete(sessionReq, sessionID)"] ∧
    Gen.VssFacts.loopWhole = [
      "0| func Loop()",
      "1| defer d.logger.Info(\"End Loop\")",
      "1| peersToBuf, _ := d.p.SubscribeMsg(400, PublicKey{}, Deal{}, Responses{})",
      "1| sessionPubKeys := make(map[string][]interface{})",
      "1| sessionDeals := make(map[string][]interface{})",
      "1| sessionResps := make(map[string][]interface{})",
      "1| sessionReqPubs := map[string]request{}",
      "1| sessionReqDeals := map[string]request{}",
      "1| sessionReResps := map[string]request{}",
      "1| expire := func(sessionMap map[string][]interface{}, sessionReq map[string]request) {…}",
      "2| func(sessionMap map[string][]interface{}, sessionReq map[string]request)",
      "3| for _, req := range sessionReq",
      "4| select",
      "5| case <-req.ctx.Done():",
      "6| close(req.reply)",
      "6| delete(sessionMap, req.sessionID)",
      "6| delete(sessionReq, req.sessionID)",
      "5| default:",
      "1| watchdog := time.NewTicker(time.Minute)",
      "1| defer watchdog.Stop()",
      "1| for",
      "2| select",
      "3| case <-watchdog.C:",
      "4| expire(sessionPubKeys, sessionReqPubs)",
      "4| expire(sessionDeals, sessionReqDeals)",
      "4| expire(sessionResps, sessionReResps)",
      "3| case msg, ok := <-peersToBuf:",
      "4| if !ok",
      "5| return",
      "4| switch content := msg.Msg.Message.(type)",
      "5| case *PublicKey:",
      "6| err := d.p.Reply(context.Background(), msg.Sender, msg.RequestNonce, content)",
      "6| if err != nil",
      "6| stampSender(content, msg.Sender)",
      "6| handlePeerMsg(sessionPubKeys, sessionReqPubs, d.p, content.SessionId, content)",
      "5| case *Deal:",
      "6| err := d.p.Reply(context.Background(), msg.Sender, msg.RequestNonce, content)",
      "6| if err != nil",
      "6| handlePeerMsg(sessionDeals, sessionReqDeals, d.p, content.SessionId, content)",
      "5| case *Responses:",
      "6| err := d.p.Reply(context.Background(), msg.Sender, msg.RequestNonce, content)",
      "6| if err != nil",
      "6| resps := content.Response",
      "6| for _, resp := range resps",
      "7| handlePeerMsg(sessionResps, sessionReResps, d.p, content.SessionId, resp)",
      "3| case req, ok := <-d.bufToNode:",
      "4| if !ok",
      "5| return",
      "4| if r, ok := req.(request); ok",
      "5| switch r.reqType",
      "6| case 0:",
      "7| handleRequest(sessionPubKeys, sessionReqPubs, r)",
      "6| case 1:",
      "7| handleRequest(sessionDeals, sessionReqDeals, r)",
      "6| case 2:",
      "7| handleRequest(sessionResps, sessionReResps, r)",
      "4| else"] ∧
    Gen.VssFacts.handleRequest = [
      "0| func handleRequest(sessionMap map[string][]interface{}, sessionReq map[string]request, req request)",
      "1| sessionReq[req.sessionID] = req",
      "1| if len(sessionMap[req.sessionID]) == req.numOfResps",
      "2| select",
      "3| case <-sessionReq[req.sessionID].ctx.Done():",
      "3| case sessionReq[req.sessionID].reply <- sessionMap[req.sessionID]:",
      "2| close(req.reply)",
      "2| delete(sessionMap, req.sessionID)",
      "2| delete(sessionReq, req.sessionID)"] ∧
    Gen.VssFacts.newPDKG = [
      "0| func NewPDKG(p p2p.P2PInterface, suite suites.Suite) PDKGInterface",
      "1| d := &pdkg{ p: p, bufToNode: make(chan interface{}, 50), register: make(chan *group), suite: suite, logger: log.New(\"module\", \"dkg\"), }",
      "1| return d"] ∧
    Gen.VssFacts.askMembers = [
      "0| func askMembers(ctx context.Context, logger log.Logger, bufToNode chan interface{}, numOfResp, reqTpe int, sessionID string) (out chan []interface{})",
      "1| out = make(chan []interface{}, 1)",
      "1| go func() {…}()",
      "2| func()",
      "3| req := request{ctx: ctx, reqType: reqTpe, sessionID: sessionID, numOfResps: numOfResp, reply: out}",
      "3| select",
      "4| case <-ctx.Done():",
      "5| close(out)",
      "4| case bufToNode <- req:",
      "1| return"] ∧
    Gen.VssFacts.getAndProcessDeals = [
      "0| func getAndProcessDeals(ctx context.Context, logger log.Logger, dkgc chan *DistKeyGenerator, dealsc chan []interface{}, sessionID string) (dkgOut chan *DistKeyGenerator, out chan interface{}, errc chan error)",
      "1| dkgOut = make(chan *DistKeyGenerator)",
      "1| out = make(chan interface{})",
      "1| errc = make(chan error)",
      "1| go func() {…}()",
      "2| func()",
      "3| var dkg *DistKeyGenerator",
      "3| var ok bool",
      "3| defer close(dkgOut)",
      "3| defer close(out)",
      "3| defer close(errc)",
      "3| select",
      "4| case <-ctx.Done():",
      "4| case dkg, ok = <-dkgc:",
      "5| if !ok",
      "6| return",
      "3| if dkg == nil",
      "4| return",
      "3| select",
      "4| case <-ctx.Done():",
      "4| case deals, ok := <-dealsc:",
      "5| if ok",
      "6| var resps []*Response",
      "6| for _, d := range deals",
      "7| deal, ok := d.(*Deal)",
      "7| if !ok",
      "8| err := &DKGError{err: errors.Errorf(\"Casting Deal failed for GID %s : %w\", sessionID, ErrCasting)}",
      "8| reportErr(ctx, errc, err)",
      "8| return",
      "7| resp, err := dkg.ProcessDeal(deal)",
      "7| if err != nil",
      "8| err = &DKGError{err: errors.Errorf(\"ProcessDeal failed for GID %s : %w\", sessionID, err)}",
      "8| reportErr(ctx, errc, err)",
      "8| continue",
      "7| resp.SessionId = sessionID",
      "7| if vss.StatusApproval != resp.Response.Status",
      "8| err = &DKGError{err: errors.Errorf(\"ProcessDeal failed for GID %s : %w\", sessionID, ErrResponseNoApproval)}",
      "8| reportErr(ctx, errc, err)",
      "8| return",
      "7| resps = append(resps, resp)",
      "6| select",
      "7| case <-ctx.Done():",
      "8| return",
      "7| case out <- &Responses{SessionId: sessionID, Response: resps}:",
      "6| select",
      "7| case <-ctx.Done():",
      "7| case dkgOut <- dkg:",
      "1| return"] ∧
    Gen.VssFacts.getAndProcessResponses = [
      "0| func getAndProcessResponses(ctx context.Context, logger log.Logger, dkgc chan *DistKeyGenerator, respsc chan []interface{}, sessionID string) (out chan *DistKeyGenerator, errc chan error)",
      "1| out = make(chan *DistKeyGenerator)",
      "1| errc = make(chan error)",
      "1| go func() {…}()",
      "2| func()",
      "3| defer close(out)",
      "3| defer close(errc)",
      "3| var dkg *DistKeyGenerator",
      "3| var ok bool",
      "3| select",
      "4| case <-ctx.Done():",
      "4| case dkg, ok = <-dkgc:",
      "5| if !ok",
      "6| return",
      "3| if dkg == nil",
      "4| return",
      "3| select",
      "4| case <-ctx.Done():",
      "4| case resps, ok := <-respsc:",
      "5| if ok",
      "6| for _, r := range resps",
      "7| resp, ok := r.(*Response)",
      "7| if !ok",
      "8| err := &DKGError{err: errors.Errorf(\"getAndProcessResponses failed for GID %s : %w\", sessionID, ErrCasting)}",
      "8| reportErr(ctx, errc, err)",
      "8| return",
      "7| if _, err := dkg.ProcessResponse(resp); err != nil",
      "8| err := &DKGError{err: errors.Errorf(\"ProcessResponse failed for GID %s : %w\", sessionID, err)}",
      "8| reportErr(ctx, errc, err)",
      "8| return",
      "6| select",
      "7| case <-ctx.Done():",
      "7| case out <- dkg:",
      "1| return"] ∧
    Gen.VssFacts.distKeyShare = [
      "0| func DistKeyShare() (*DistKeyShare, error)",
      "1| if !d.Certified()",
      "2| return nil, errors.New(\"dkg: distributed key not certified\")",
      "1| sh := d.suite.Scalar().Zero()",
      "1| var pub *share.PubPoly",
      "1| var err error",
      "1| d.qualIter(func(i uint32, v *vss.Verifier) bool {…})",
      "2| func(i uint32, v *vss.Verifier) bool",
      "3| deal := v.Deal()",
      "3| s := deal.SecShare.V",
      "3| sh = sh.Add(sh, s)",
      "3| poly := share.NewPubPoly(d.suite, d.suite.Point().Base(), deal.Commitments)",
      "3| if pub == nil",
      "4| pub = poly",
      "4| return true",
      "3| pub, err = pub.Add(poly)",
      "3| return err == nil",
      "1| if err != nil",
      "2| return nil, err",
      "1| _, commits := pub.Info()",
      "1| return &DistKeyShare{ Commits: commits, Share: &share.PriShare{ I: int(d.index), V: sh, }, PrivatePoly: d.dealer.PrivatePoly().Coefficients(), }, nil"] ∧
    Gen.VssFacts.dkgCertified = [
      "0| func Certified() bool",
      "1| return len(d.QUAL()) >= len(d.participants)"] ∧
    Gen.VssFacts.dkgQualIter = [
      "0| func qualIter(fn func(idx uint32, v *vss.Verifier) bool)",
      "1| for i, v := range d.verifiers",
      "2| if v.DealCertified()",
      "3| if !fn(i, v)",
      "4| break"] ∧
    Gen.VssFacts.verifierDealCertified = [
      "0| func DealCertified() bool",
      "1| return v.approved && v.aggregator.DealCertified()"] :=
  ⟨rfl, rfl, rfl, rfl, rfl, rfl, rfl, rfl, rfl, rfl, rfl⟩


/-- **4. `schedule_independent`.**  Whatever the schedule did to member `i`, if it finishes its
output is the same function of the dealers' polynomials alone: the public polynomial is the
coefficient-wise sum of all dealers' commitment vectors and the private share is the sum of all
dealers' polynomials at `i+1`. -/
theorem schedule_independent (c : Cfg F G) (hg : c.g ≠ 0) (hnd : c.pubs.Nodup) (hpl : c.polys.length = c.n)
    (i : Nat) (d : Gen F G) (ks : KeyShare F G) (hr : HonestReach c i d) (h : distKeyShare d = .ok ks) :
    ks.commits = vecSum (c.polys.map (commit c.g)) ∧
    ks.shareV = (c.polys.map (fun f => priEval f (i : Int))).sum ∧ ks.shareI = i := by
  obtain ⟨hgood, hsg, hp, hi⟩ := honestReach_inv c i hnd d hr
  have := finished_genuine c d ks hgood.len (by rw [hp]; simp [Cfg.pubs, Cfg.n]) hpl hsg h
  rw [hi] at this; exact this

/-- **1. `agree`.**  Any two members that finish – under any two schedules – output the same public
polynomial, hence the same group public key (its constant coefficient). -/
theorem agree (c : Cfg F G) (hg : c.g ≠ 0) (hnd : c.pubs.Nodup) (hpl : c.polys.length = c.n)
    (i i' : Nat) (d d' : Gen F G) (ks ks' : KeyShare F G) (hr : HonestReach c i d) (hr' : HonestReach c i' d')
    (h : distKeyShare d = .ok ks) (h' : distKeyShare d' = .ok ks') :
    ks.commits = ks'.commits ∧ ks.commits.headD 0 = ks'.commits.headD 0 := by
  have h1 := (schedule_independent c hg hnd hpl i d ks hr h).1
  have h2 := (schedule_independent c hg hnd hpl i' d' ks' hr' h').1
  rw [h1, h2]; exact ⟨rfl, rfl⟩

/-- **2. `share_on_poly`.**  With all dealer polynomials of one length (the threshold), a finisher's
share is the summed polynomial at its own index, the public polynomial is the commitment of the
summed polynomial, and the share verifies against it (`PubPoly.Check`). -/
theorem share_on_poly (c : Cfg F G) (hg : c.g ≠ 0) (hnd : c.pubs.Nodup) (hpl : c.polys.length = c.n)
    (t : Nat) (ht : ∀ f ∈ c.polys, f.length = t)
    (i : Nat) (d : Gen F G) (ks : KeyShare F G) (hr : HonestReach c i d) (h : distKeyShare d = .ok ks) :
    ks.shareV = priEval (vecSum c.polys) (i : Int) ∧ ks.commits = commit c.g (vecSum c.polys) ∧
    ks.shareV • c.g = pubEval (S := F) ks.commits (i : Int) := by
  obtain ⟨h1, h2, _⟩ := schedule_independent c hg hnd hpl i d ks hr h
  have e1 : ks.shareV = priEval (vecSum c.polys) (i : Int) := by rw [h2, priEval_vecSum t c.polys ht]
  have e2 : ks.commits = commit c.g (vecSum c.polys) := by rw [h1, vecSum_commit]
  exact ⟨e1, e2, by rw [e1, e2, pubEval_commit]⟩

/-- **3. `reconstruct`.**  Take ANY slice of private shares in which every usable entry is the
output share of a finished member with that index (`hval`), at least `t` are usable and the first
`t` usable ones belong to distinct members: `share.RecoverSecret` (model of poly.go, C09) returns
the sum of the dealers' secrets, and the commitment of that sum is the group public key. -/
theorem reconstruct (c : Cfg F G) (hg : c.g ≠ 0) (hnd : c.pubs.Nodup) (hpl : c.polys.length = c.n)
    (t : Nat) (ht0 : 0 < t) (ht : ∀ f ∈ c.polys, f.length = t) (hn0 : c.polys ≠ [])
    (hc : Share.CharGt F c.n) (dp : Bool)
    (shares : List (Option (Share.PriShare F)))
    (hval : ∀ iv ∈ shares.filterMap (Share.usablePri c.n), ∃ (k : Nat) (d : Gen F G) (ks : KeyShare F G),
      (k : Int) = iv.1 ∧ HonestReach c k d ∧ distKeyShare d = .ok ks ∧ ks.shareV = iv.2)
    (hcnt : t ≤ (shares.filterMap (Share.usablePri c.n)).length)
    (hdist : (((shares.filterMap (Share.usablePri c.n)).take t).map (·.1)).Nodup)
    (i : Nat) (d : Gen F G) (ks : KeyShare F G) (hr : HonestReach c i d) (h : distKeyShare d = .ok ks) :
    Share.recoverSecret dp shares t c.n = .ok ((c.polys.map (fun f => f.headD 0)).sum) ∧
    (c.polys.map (fun f => f.headD 0)).sum • c.g = ks.commits.headD 0 := by
  have hlen : (vecSum c.polys).length = t := length_vecSum t c.polys hn0 ht
  have hrec := recoverSecret_of_shares dp (vecSum c.polys) t c.n ht0 (by rw [hlen]) hc shares
    (by
      intro iv hiv
      obtain ⟨k, dk, ksk, hk, hrk, hfk, hvk⟩ := hval iv hiv
      have := (share_on_poly c hg hnd hpl t ht k dk ksk hrk hfk).1
      rw [← hvk, this, ← hk]; rfl)
    hcnt hdist
  rw [headD_vecSum t c.polys ht] at hrec
  refine ⟨hrec, ?_⟩
  rw [(share_on_poly c hg hnd hpl t ht i d ks hr h).2.1, headD_commit, headD_vecSum t c.polys ht]

/-- **5. `complete_delivery_finishes`.**  `runEvents c ephs evs` (Model/DkgNet.lean) runs the `n` member
machines of the group – session layer of `pdkg.Loop` + the stages of `Grouping` – under the schedule
`evs`: any list of `start i`, `pk j i`, `deal j i`, `resps k i` events (a delivery of a message that
does not exist yet does nothing; everything else – every order, start skew, re-delivery – is a
schedule).  For every well-formed honest configuration (`n ≥ 3`, pairwise distinct public keys,
polynomials of length `n/2+1`, non-zero ephemerals) and EVERY schedule in which every member is
started and every message that is sent is delivered to every other member at least once, every
member ends in stage `done`.  (On the pinned tree this is false: F11 and the blocking reply channel,
fixed by 41ce4e1 and 0865f79 – corpus/C04.)  Proof: Proofs/DkgLive*.lean – the session layer hands
each batch over exactly once with one message per key (`PairInv.msg`, `PairInv.reg`), every stage succeeds on a
batch of genuine messages (`adv_pk`, `adv_dl`, `adv_rs`), all messages in flight are genuine
(`sysInv_step`), and completeness drives every member through the three stages. -/
theorem complete_delivery_finishes (c : Cfg F G) (ephs : List (List F)) (hw : WellFormed c ephs)
    (evs : List Ev) (hcomp : Complete c.n (runEvents c ephs evs)) :
    ∀ i, i < c.n → ∃ m d ks, (runEvents c ephs evs).ms[i]? = some m ∧ m.stage = .done d ks :=
  complete_finishes c ephs hw evs hcomp

/-! ### the watchdog of `pdkg.Loop` (`Model/DkgTick.lean`) -/

/-- **6a. `watchdog_keeps_unregistered_buffers`.**  `expire` – what a tick of `Loop`'s one-minute watchdog does
to the (buffer, request) pair of a session, as the code is (`c04_code_shape` pins the closure) – leaves a
session WITHOUT a registered request exactly as it is and closes nothing, whether or not any context is
done: the messages that arrived before the local `Grouping` call stay buffered. -/
theorem watchdog_keeps_unregistered_buffers {M : Type} (p : Pair M) (done : Bool) (h : p.req = none) :
    expire p done = (p, false) := expire_unregistered p done h

/-- **6b. `tick_never_drops_before_start` – a tick never drops messages of a session that can still start.**
Take ANY history of a member before its own `Grouping` call: PublicKey, Deal and Response arrivals (any
messages, any order, any repetition) interleaved with any number of watchdog ticks, at which the contexts
may or may not be done.  The member ends in exactly the state of the same history WITHOUT the ticks, still
`idle` with nothing registered. -/
theorem tick_never_drops_before_start (g : G) (n index : Nat) (long : F) (f ephs : List F) (evs : List (PreEv F G)) :
    evs.foldl (preStep g) (Member.init n index long f ephs) =
      evs.foldl (preStepNoTick g) (Member.init n index long f ephs) ∧
    BeforeStart (evs.foldl (preStep g) (Member.init (S := F) (P := G) n index long f ephs)) :=
  pre_fold g evs _ (beforeStart_init n index long f ephs)

/-- **6c. `complete_delivery_finishes_with_ticks`.**  Liveness with the watchdog running: a schedule may
contain ticks at any member at any position; as long as no context is done at a tick (no deadline has
passed – deadlines are outside the model), the run is the run of the schedule without the ticks, and
complete delivery makes every member finish. -/
theorem complete_delivery_finishes_with_ticks (c : Cfg F G) (ephs : List (List F)) (hw : WellFormed c ephs)
    (evs : List EvT) (hnd : ∀ i d, EvT.tick i d ∈ evs → d = false)
    (hcomp : Complete c.n (runEventsT c ephs evs)) :
    runEventsT c ephs evs = runEvents c ephs (dropTicks evs) ∧
    ∀ i, i < c.n → ∃ m d ks, (runEventsT c ephs evs).ms[i]? = some m ∧ m.stage = .done d ks := by
  have he : runEventsT c ephs evs = runEvents c ephs (dropTicks evs) := runEventsT_dropTicks c.g evs _ hnd
  refine ⟨he, ?_⟩
  rw [he] at hcomp ⊢
  exact complete_finishes c ephs hw (dropTicks evs) hcomp

/-- **6d.** the other rule – buffers nobody asked for are deleted too (`expireDropUnasked`) – does drop them:
what `watchdog_keeps_unregistered_buffers` excludes.  On the real code the case is
the `net` line whose Loops are a minute old (go/props/c04 `prewarmNet`): oracle `stall-after-watchdog-tick`. -/
theorem e7_rule_drops_unasked_buffer {M : Type} (x : M) (buf : List M) (done : Bool) :
    (expireDropUnasked ⟨x :: buf, none⟩ done).1.buf = [] ∧ (expire ⟨x :: buf, none⟩ done).1.buf = x :: buf :=
  ⟨rfl, rfl⟩

/-- 6b is not vacuous: two key arrivals and a tick with every context done before the start of member 0 -/
example : ([PreEv.pk ⟨1, some 7, 1⟩, .tick true, .pk ⟨2, some 9, 2⟩, .tick false].foldl (preStep (1 : ℚ))
    (Member.init (S := ℚ) (P := ℚ) 3 0 5 [4, 2] [11, 12, 13])).pkP.buf.length = 2 := by decide +kernel

/-! ### the theorems above, stated directly over schedules

`runEvents_sound` is the link between the event system and `HonestReach`: it is proved by the same
induction over the schedule as liveness (`sysInv_step`: every message in flight in an honest group is
genuine, so the stages only make `HonestReach` steps – `runDeals_genuine`, `runResps_genuine`).  The
corollaries below are stated without `HonestReach`. -/

/-- **0. `runEvents_sound`.**  After ANY schedule `evs` – complete or not, any order, start skew,
re-delivery – of a well-formed honest group, no member machine has failed, the generator of a member
that is past `Deals()` is an `HonestReach` state, and a member in stage `done` holds exactly what
`DistKeyShare()` returned on its generator: a `done` member of `runEvents` is a finisher in the sense
of theorems 1–4. -/
theorem runEvents_sound (c : Cfg F G) (ephs : List (List F)) (hw : WellFormed c ephs) (evs : List Ev)
    (i : Nat) (m : Member F G) (hm : (runEvents c ephs evs).ms[i]? = some m) :
    i < c.n ∧ (∀ why, m.stage ≠ .failed why) ∧
    (∀ d, m.stage = .waitDeals d → HonestReach c i d) ∧ (∀ d, m.stage = .waitResps d → HonestReach c i d) ∧
    (∀ d ks, m.stage = .done d ks → HonestReach c i d ∧ distKeyShare d = .ok ks) :=
  Dkg.runEvents_sound c ephs hw evs i m hm

/-- **4′. `run_schedule_independent`.**  The output of a member that is `done` after a schedule is a
function of the dealers' polynomials alone. -/
theorem run_schedule_independent (c : Cfg F G) (ephs : List (List F)) (hw : WellFormed c ephs) (evs : List Ev)
    (i : Nat) (m : Member F G) (d : Gen F G) (ks : KeyShare F G)
    (hm : (runEvents c ephs evs).ms[i]? = some m) (hs : m.stage = .done d ks) :
    ks.commits = vecSum (c.polys.map (commit c.g)) ∧
    ks.shareV = (c.polys.map (fun f => priEval f (i : Int))).sum ∧ ks.shareI = i := by
  obtain ⟨hr, hk⟩ := (runEvents_sound c ephs hw evs i m hm).2.2.2.2 d ks hs
  exact schedule_independent c hw.g_ne hw.nodup hw.polys_len i d ks hr hk

/-- **1′. `run_agree`.**  Any two members that are `done` – after ANY two schedules `evs`, `evs'` of the
group (the same one, or different ones, with different ephemeral randomness) – hold the same public
polynomial and the same group public key. -/
theorem run_agree (c : Cfg F G) (ephs ephs' : List (List F)) (hw : WellFormed c ephs) (hw' : WellFormed c ephs')
    (evs evs' : List Ev) (i i' : Nat) (m m' : Member F G) (d d' : Gen F G) (ks ks' : KeyShare F G)
    (hm : (runEvents c ephs evs).ms[i]? = some m) (hm' : (runEvents c ephs' evs').ms[i']? = some m')
    (hs : m.stage = .done d ks) (hs' : m'.stage = .done d' ks') :
    ks.commits = ks'.commits ∧ ks.commits.headD 0 = ks'.commits.headD 0 := by
  rw [(run_schedule_independent c ephs hw evs i m d ks hm hs).1,
    (run_schedule_independent c ephs' hw' evs' i' m' d' ks' hm' hs').1]
  exact ⟨rfl, rfl⟩

/-- **2′. `run_share_on_poly`.**  A `done` member's share is the summed polynomial at its own index, its
public polynomial is the commitment of the summed polynomial, and the share verifies against it. -/
theorem run_share_on_poly (c : Cfg F G) (ephs : List (List F)) (hw : WellFormed c ephs) (evs : List Ev)
    (i : Nat) (m : Member F G) (d : Gen F G) (ks : KeyShare F G)
    (hm : (runEvents c ephs evs).ms[i]? = some m) (hs : m.stage = .done d ks) :
    ks.shareI = i ∧ ks.shareV = priEval (vecSum c.polys) (i : Int) ∧ ks.commits = commit c.g (vecSum c.polys) ∧
    ks.shareV • c.g = pubEval (S := F) ks.commits (i : Int) := by
  obtain ⟨hr, hk⟩ := (runEvents_sound c ephs hw evs i m hm).2.2.2.2 d ks hs
  obtain ⟨h1, h2, h3⟩ := share_on_poly c hw.g_ne hw.nodup hw.polys_len (c.n / 2 + 1) hw.poly_len i d ks hr hk
  exact ⟨(schedule_independent c hw.g_ne hw.nodup hw.polys_len i d ks hr hk).2.2, h1, h2, h3⟩

/-- **3′. `run_reconstruct`.**  Take ANY slice of private shares in which every usable entry is the key
share of a member that is `done` after the schedule, at least `t = n/2+1` are usable and the first `t`
usable ones belong to distinct members: `share.RecoverSecret` returns the sum of the dealers' secrets,
and the commitment of that sum is the group public key every `done` member holds. -/
theorem run_reconstruct (c : Cfg F G) (ephs : List (List F)) (hw : WellFormed c ephs) (evs : List Ev)
    (hc : Share.CharGt F c.n) (dp : Bool) (shares : List (Option (Share.PriShare F)))
    (hval : ∀ iv ∈ shares.filterMap (Share.usablePri c.n), ∃ (k : Nat) (mk : Member F G) (d : Gen F G) (ks : KeyShare F G),
      (k : Int) = iv.1 ∧ (runEvents c ephs evs).ms[k]? = some mk ∧ mk.stage = .done d ks ∧ ks.shareV = iv.2)
    (hcnt : c.n / 2 + 1 ≤ (shares.filterMap (Share.usablePri c.n)).length)
    (hdist : (((shares.filterMap (Share.usablePri c.n)).take (c.n / 2 + 1)).map (·.1)).Nodup)
    (i : Nat) (m : Member F G) (d : Gen F G) (ks : KeyShare F G)
    (hm : (runEvents c ephs evs).ms[i]? = some m) (hs : m.stage = .done d ks) :
    Share.recoverSecret dp shares (c.n / 2 + 1) c.n = .ok ((c.polys.map (fun f => f.headD 0)).sum) ∧
    (c.polys.map (fun f => f.headD 0)).sum • c.g = ks.commits.headD 0 := by
  obtain ⟨hr, hk⟩ := (runEvents_sound c ephs hw evs i m hm).2.2.2.2 d ks hs
  have hn0 : c.polys ≠ [] := fun h => by
    have h1 := hw.polys_len
    have h3 := hw.three
    rw [h, List.length_nil] at h1
    omega
  exact reconstruct c hw.g_ne hw.nodup hw.polys_len (c.n / 2 + 1) (by omega) hw.poly_len hn0 hc dp shares
    (by
      intro iv hiv
      obtain ⟨k, mk, dk, ksk, h1, h2, h3, h4⟩ := hval iv hiv
      obtain ⟨hrk, hkk⟩ := (runEvents_sound c ephs hw evs k mk h2).2.2.2.2 dk ksk h3
      exact ⟨k, dk, ksk, h1, hrk, hkk, h4⟩)
    hcnt hdist i d ks hr hk

/-- **7. `honest_run_complete_and_agree`.**  For every well-formed honest configuration and EVERY
schedule in which every member is started and every message that is sent is delivered to every other
member at least once: every member ends `done`, all on ONE public polynomial – the commitment of the
sum of the dealers' polynomials, whose constant coefficient (the group public key) is the commitment
of the sum of the dealers' secrets – and member `i`'s share is that sum polynomial at `i` and verifies
against the public polynomial. -/
theorem honest_run_complete_and_agree (c : Cfg F G) (ephs : List (List F)) (hw : WellFormed c ephs)
    (evs : List Ev) (hcomp : Complete c.n (runEvents c ephs evs)) :
    (commit c.g (vecSum c.polys)).headD 0 = (c.polys.map (fun f => f.headD 0)).sum • c.g ∧
    ∀ i, i < c.n → ∃ m d ks, (runEvents c ephs evs).ms[i]? = some m ∧ m.stage = .done d ks ∧
      ks.commits = commit c.g (vecSum c.polys) ∧ ks.shareI = i ∧ ks.shareV = priEval (vecSum c.polys) (i : Int) ∧
      ks.shareV • c.g = pubEval (S := F) ks.commits (i : Int) := by
  refine ⟨by rw [headD_commit, headD_vecSum (c.n / 2 + 1) c.polys hw.poly_len], ?_⟩
  intro i hi
  obtain ⟨m, d, ks, hm, hs⟩ := complete_delivery_finishes c ephs hw evs hcomp i hi
  obtain ⟨h1, h2, h3, h4⟩ := run_share_on_poly c ephs hw evs i m d ks hm hs
  exact ⟨m, d, ks, hm, hs, h3, h1, h2, h4⟩

/-- **5a. the session layer alone**, for ANY message kind with de-duplication by a key: if the request
for `|K|` messages is registered once and a message of every key of `K` arrives at least once – before
or after the registration, in any order, any number of times – `Loop` hands the waiting stage exactly
one batch, with exactly one message per key.  (Without de-duplication this is false: F11.) -/
theorem session_hands_over_once {M κ : Type} [DecidableEq κ] (key : M → κ) (K : List κ) (hK : K.Nodup)
    (evs : List (PEv M)) (hok : OkEvs (fun _ => True) key K K.length false evs)
    (hreg : endsRegistered false evs = true) (hall : ∀ x ∈ K, x ∈ msgKeys key evs) :
    ∃ b, (pairRun (fun a b => decide (key a = key b)) evs).2 = some b ∧ (b.map key).Nodup ∧
      b.length = K.length ∧ (∀ x ∈ b.map key, x ∈ K) ∧ (∀ x ∈ K, x ∈ b.map key) := by
  obtain ⟨b, h1, h2, h3, h4, h5, _⟩ :=
    pair_complete (fun _ => True) (fun a b => decide (key a = key b)) key (fun _ _ _ _ => rfl) K hK evs hok hreg hall
  exact ⟨b, h1, h2, h3, h4, h5⟩

/-! ### non-vacuity: three members over ℚ (`g = 1`), keys 5, 7, 9, polynomials of length 2 -/

section Examples
def exCfg : Cfg ℚ ℚ := { g := 1, longs := [5, 7, 9], polys := [[4, 2], [6, 1], [3, 8]] }
def exGen (i : Nat) (long : ℚ) (f : List ℚ) : Option (Gen ℚ ℚ) :=
  match newGen (1 : ℚ) long exCfg.pubs f with
  | .ok d0 => match deals 1 d0 [11 + i, 21 + i, 31 + i] with
    | .ok (d1, _) => some d1
    | _ => none
  | _ => none
-- 5: two deals of dealers 1 and 2 arrive (one twice) around the registration of a request for 2
example : (pairRun (fun a b : Nat × Nat => decide (a.1 = b.1)) [.msg (1, 7), .msg (1, 7), .reg 2, .msg (2, 8)]).2
    = some [(1, 7), (2, 8)] := by decide
-- the generators of an honest group exist (hypotheses of HonestReach.init are satisfiable) and the
-- configuration is well formed
example : (exGen 0 5 [4, 2]).isSome ∧ (exGen 1 7 [6, 1]).isSome ∧ (exGen 2 9 [3, 8]).isSome := by decide +kernel
example : exCfg.pubs.Nodup ∧ exCfg.polys.length = exCfg.n ∧ ∀ f ∈ exCfg.polys, f.length = 2 := by decide +kernel
def exEphs : List (List ℚ) := [[11, 12, 13], [21, 22, 23], [31, 32, 33]]
/-- canonical schedule: everybody starts, then keys, deals, responses; each delivered twice -/
def exSched : List Ev :=
  let pairs := [(0, 1), (0, 2), (1, 0), (1, 2), (2, 0), (2, 1)]
  [.start 0, .start 1, .start 2] ++ pairs.map (fun p => Ev.pk p.1 p.2) ++ pairs.map (fun p => Ev.deal p.1 p.2) ++
    pairs.map (fun p => Ev.pk p.1 p.2) ++ pairs.map (fun p => Ev.resps p.1 p.2) ++ pairs.map (fun p => Ev.resps p.1 p.2)
-- 5: a well-formed configuration, and a schedule with re-deliveries under which all three machines finish
example : exCfg.g ≠ 0 ∧ 3 ≤ exCfg.n ∧ exEphs.length = exCfg.n ∧ ∀ es ∈ exEphs, es.length = exCfg.n ∧ ∀ e ∈ es, e ≠ 0 := by
  decide +kernel
example : (runEvents exCfg exEphs exSched).ms.map (fun m => match m.stage with | .done _ _ => true | _ => false)
    = [true, true, true] := by decide +kernel
-- 0, 1′–4′, 7: the hypotheses are satisfiable – the configuration is well formed, the schedule complete
theorem exWellFormed : WellFormed exCfg exEphs :=
  ⟨by decide +kernel, by decide +kernel, by decide +kernel, by decide +kernel, by decide +kernel, by decide +kernel,
    by decide +kernel⟩
/-- a schedule that stops half way (member 2 never receives the responses): nobody has failed, members 0, 1 are done -/
def exPartial : List Ev := exSched.filter (fun e => match e with | .resps _ 2 => false | _ => true)
example : (runEvents exCfg exEphs exPartial).ms.map (fun m => match m.stage with
    | .done _ _ => "D" | .waitResps _ => "r" | .failed _ => "F" | _ => "?") = ["D", "D", "r"] := by decide +kernel
end Examples

end Dos.Props.C04
