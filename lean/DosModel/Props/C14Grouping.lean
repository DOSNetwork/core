/-
C14, continued — the key-generation pipeline (`handleGrouping` + `pdkg.Grouping` + `pdkg.Loop`),
regenerated from /repo on every run.  (The rules are evaluated by the kernel, on an IR of several hundred
nodes, in Proofs/PipeFairGen.lean.)
-/
import DosModel.Props.C14

namespace Dos.Props.C14
open Dos Dos.Pipe Dos.Gen.Pipes

theorem grouping_wf : subsetOf (violations grouping) Gen.PipeKnown.sites = true := grouping_rules.1

/-- the key-generation pipeline (`handleGrouping` + `pdkg.Grouping` + `pdkg.Loop`): no channel panic
is reachable, and after the deadline a terminating schedule exists from every reachable state (EF;
termination with probability 1 under the fairness assumption, see Props/C14.lean) -/
theorem grouping_pipeline_can_always_terminate_and_never_crashes :
    NoCrash grouping ∧ ∀ s, Reach grouping s → s.ctxDone 0 = true → ∃ s', Path grouping s s' ∧ Quiet grouping s' := by
  have h := pipeline_can_always_terminate_and_never_crashes _ grouping_wf
  exact ⟨h.1, fun s hr hc => by obtain ⟨s', a, b, _⟩ := h.2 s hr hc; exact ⟨s', a, b⟩⟩

/-! ## every channel of a key-generation session is closed in the end

The full statement of the property also asks that every channel of a session is closed in the end:
rule W7 (a static pipeline goroutine closes it on every path, or its creator closes it or hands it
to the collector loop, which can always get to the close by its own ticker and the request's
context).  On this tree no violation at all is left in the key-generation pipeline (the reply
channels of incomplete requests are released by the expiry sweep of pdkg.Loop, /repo 8d5de85). -/

/-- the full property for the key-generation pipeline: no rule W0–W7 is violated -/
theorem grouping_full : violations grouping = [] :=
  subsetOf_nil (show subsetOf (violations grouping) [] = true from grouping_wf)

/-- the same for the three query pipelines -/
theorem query_full : violations query_sys = [] ∧ violations query_user = [] ∧ violations query_url = [] :=
  ⟨subsetOf_nil (show subsetOf (violations query_sys) [] = true from query_sys_wf),
   subsetOf_nil (show subsetOf (violations query_user) [] = true from query_user_wf),
   subsetOf_nil (show subsetOf (violations query_url) [] = true from query_url_wf)⟩

end Dos.Props.C14
