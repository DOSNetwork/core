/-
C16 — only authentic, unmodified messages are delivered to p2p subscribers.

Property theorems only (helpers: `Proofs/P2PSym.lean`).  Symbolic (Dolev–Yao) model
`Model/P2PSym.lean`: frames and signatures are terms; the man in the middle is ANY
sequence of frames each of which he can derive from what was sent — in EITHER direction of
the connection — without the session key and without a signing key (`Derivable`): verbatim
copies of the remote endpoint's frames in any order and number, the receiver's OWN frames
reflected back to it (both directions use the same key and nonce), byte strings that are not
the output of Seal (altered, truncated, duplicated-and-altered, random injected frames),
damage to the framing, and frames sealed under other keys (every other connection has its
own key pair, `c16_code_shape`).
Ideal BLS is an assumption.  Ideal AES-GCM is the assumption of the theorems about `Derivable`
(named `_partial`) only: under the single per-connection nonce the code uses it does not hold of the
code, `DerivableGCM` is the man in the middle the code faces, and the full clause 1 is refuted for
him (`gcm_nonce_reuse_forgery`).
-/
import DosModel.Proofs.P2PSym
import DosModel.Proofs.ConnSym
import DosModel.Proofs.ConnTableCfg
import DosModel.Gen.P2PFlow

namespace Dos.Props.C16
open Dos Dos.P2PSym

/-- regenerated facts (go/ast over p2p/client.go): a failing Open drops the frame; decodeBytes is
called with the BLS check under the handshake key and a failure drops the frame; decodePipe checks
again; a Package without Anything is an error, not a nil dereference. -/
theorem c16_code_shape :
    Gen.decryptDropsOnOpenError = true ∧ Gen.decodeVerifiesFirst = true ∧
    Gen.decodePipeVerifiesAgain = true ∧ Gen.decodeChecksAnything = true ∧
    Gen.signingKeyPerConnection = true := by decide

/-- regenerated: the statement skeleton of the per-frame receive and send path (decryptPipe, decodePipe,
decodeBytes, verifyFn, signFn, encodeProto, encryptPipe, reportMsg, handShake, sendID, receiveID —
p2p/client.go, text-exact, each
statement with the path of enclosing case / if / for headers) is the one `recvFrame` / `pack` were
transcribed from: every frame taken from the channel reaches Open, decodeBytes with c.verifyFn
(unconditionally: `if veifyfn != nil` only), UnmarshalAny and the second bls.Verify before it is handed
to replyMsg / receivedMsg — replies included.  ANY edit of these functions shows here first (the
pattern facts of `c16_code_shape` say a check exists somewhere, not that every frame reaches it). -/
theorem c16_recv_path_skeleton : Gen.recvPathSkeleton =
  [
  "decryptPipe(ciphertext chan []byte) | out = make(chan []byte)",
  "decryptPipe(ciphertext chan []byte) | go func | defer close(out)",
  "decryptPipe(ciphertext chan []byte) | go func | for | case <-c.ctx.Done() | return",
  "decryptPipe(ciphertext chan []byte) | go func | for | case text, ok := <-ciphertext | if ok | block, err = aes.NewCipher(c.dhKey)",
  "decryptPipe(ciphertext chan []byte) | go func | for | case text, ok := <-ciphertext | if ok | if block, err = aes.NewCipher(c.dhKey); err != nil | c.reportError(errors.Errorf(\"client decryptPipe: %w\", err))",
  "decryptPipe(ciphertext chan []byte) | go func | for | case text, ok := <-ciphertext | if ok | if block, err = aes.NewCipher(c.dhKey); err != nil | continue",
  "decryptPipe(ciphertext chan []byte) | go func | for | case text, ok := <-ciphertext | if ok | aesgcm, err = cipher.NewGCM(block)",
  "decryptPipe(ciphertext chan []byte) | go func | for | case text, ok := <-ciphertext | if ok | if aesgcm, err = cipher.NewGCM(block); err != nil | c.reportError(errors.Errorf(\"client decryptPipe: %w\", err))",
  "decryptPipe(ciphertext chan []byte) | go func | for | case text, ok := <-ciphertext | if ok | if aesgcm, err = cipher.NewGCM(block); err != nil | continue",
  "decryptPipe(ciphertext chan []byte) | go func | for | case text, ok := <-ciphertext | if ok | result, err = aesgcm.Open(nil, c.dhNonce, text, nil)",
  "decryptPipe(ciphertext chan []byte) | go func | for | case text, ok := <-ciphertext | if ok | if result, err = aesgcm.Open(nil, c.dhNonce, text, nil); err != nil | c.reportError(errors.Errorf(\"client decryptPipe: %w\", err))",
  "decryptPipe(ciphertext chan []byte) | go func | for | case text, ok := <-ciphertext | if ok | if result, err = aesgcm.Open(nil, c.dhNonce, text, nil); err != nil | continue",
  "decryptPipe(ciphertext chan []byte) | go func | for | case text, ok := <-ciphertext | if ok | case out <- result | (empty)",
  "decryptPipe(ciphertext chan []byte) | go func | for | case text, ok := <-ciphertext | if ok | case <-c.ctx.Done() | (empty)",
  "decryptPipe(ciphertext chan []byte) | go func | for | case text, ok := <-ciphertext | else(ok) | ciphertext = nil",
  "decryptPipe(ciphertext chan []byte) | return out",
  "decodePipe(bytesC chan []byte) | replyMsg = make(chan P2PMessage)",
  "decodePipe(bytesC chan []byte) | receivedMsg = make(chan P2PMessage)",
  "decodePipe(bytesC chan []byte) | go func | defer close(replyMsg)",
  "decodePipe(bytesC chan []byte) | go func | defer close(receivedMsg)",
  "decodePipe(bytesC chan []byte) | go func | for | case <-c.ctx.Done() | return",
  "decodePipe(bytesC chan []byte) | go func | for | case bytes, ok := <-bytesC | if ok | if len(bytes) == 0 | continue",
  "decodePipe(bytesC chan []byte) | go func | for | case bytes, ok := <-bytesC | if ok | pa, ptr, err := decodeBytes(bytes, c.verifyFn)",
  "decodePipe(bytesC chan []byte) | go func | for | case bytes, ok := <-bytesC | if ok | if err != nil | c.reportError(errors.Errorf(\"client decodePipe: %w\", err))",
  "decodePipe(bytesC chan []byte) | go func | for | case bytes, ok := <-bytesC | if ok | if err != nil | continue",
  "decodePipe(bytesC chan []byte) | go func | for | case bytes, ok := <-bytesC | if ok | err := bls.Verify(c.suite, c.remotePubKey, pa.GetAnything().Value, pa.GetSignature())",
  "decodePipe(bytesC chan []byte) | go func | for | case bytes, ok := <-bytesC | if ok | if err := bls.Verify(c.suite, c.remotePubKey, pa.GetAnything().Value, pa.GetSignature()); err != nil | c.reportError(errors.Errorf(\"client decodePipe: %w\", err))",
  "decodePipe(bytesC chan []byte) | go func | for | case bytes, ok := <-bytesC | if ok | if err := bls.Verify(c.suite, c.remotePubKey, pa.GetAnything().Value, pa.GetSignature()); err != nil | continue",
  "decodePipe(bytesC chan []byte) | go func | for | case bytes, ok := <-bytesC | if ok | msg = P2PMessage{Msg: ptr, Sender: pa.GetSender(), RequestNonce: pa.GetRequestNonce()}",
  "decodePipe(bytesC chan []byte) | go func | for | case bytes, ok := <-bytesC | if ok | if pa.GetReplyFlag() | case <-c.ctx.Done() | (empty)",
  "decodePipe(bytesC chan []byte) | go func | for | case bytes, ok := <-bytesC | if ok | if pa.GetReplyFlag() | case replyMsg <- msg | (empty)",
  "decodePipe(bytesC chan []byte) | go func | for | case bytes, ok := <-bytesC | if ok | else(pa.GetReplyFlag()) | case <-c.ctx.Done() | (empty)",
  "decodePipe(bytesC chan []byte) | go func | for | case bytes, ok := <-bytesC | if ok | else(pa.GetReplyFlag()) | case receivedMsg <- msg | (empty)",
  "decodePipe(bytesC chan []byte) | return",
  "decodeBytes(bytes []byte, veifyfn verifyFunc) | pa = &Package{}",
  "decodeBytes(bytes []byte, veifyfn verifyFunc) | err = proto.Unmarshal(bytes, pa)",
  "decodeBytes(bytes []byte, veifyfn verifyFunc) | if err = proto.Unmarshal(bytes, pa); err != nil | err = errors.Errorf(\"Unmarshal: %w\", err)",
  "decodeBytes(bytes []byte, veifyfn verifyFunc) | if err = proto.Unmarshal(bytes, pa); err != nil | return",
  "decodeBytes(bytes []byte, veifyfn verifyFunc) | if pa.GetAnything() == nil | err = errors.New(\"Unmarshal: package without a message\")",
  "decodeBytes(bytes []byte, veifyfn verifyFunc) | if pa.GetAnything() == nil | return",
  "decodeBytes(bytes []byte, veifyfn verifyFunc) | if veifyfn != nil | err = veifyfn(pa.GetAnything().Value, pa.GetSignature())",
  "decodeBytes(bytes []byte, veifyfn verifyFunc) | if veifyfn != nil | if err = veifyfn(pa.GetAnything().Value, pa.GetSignature()); err != nil | err = errors.Errorf(\"veifyfn: %w\", err)",
  "decodeBytes(bytes []byte, veifyfn verifyFunc) | if veifyfn != nil | if err = veifyfn(pa.GetAnything().Value, pa.GetSignature()); err != nil | return",
  "decodeBytes(bytes []byte, veifyfn verifyFunc) | err = ptypes.UnmarshalAny(pa.GetAnything(), &ptr)",
  "decodeBytes(bytes []byte, veifyfn verifyFunc) | if err = ptypes.UnmarshalAny(pa.GetAnything(), &ptr); err != nil | err = errors.Errorf(\"UnmarshalAny: %w\", err)",
  "decodeBytes(bytes []byte, veifyfn verifyFunc) | return",
  "verifyFn(msg, sig []byte) | err = bls.Verify(c.suite, c.remotePubKey, msg, sig)",
  "verifyFn(msg, sig []byte) | if err = bls.Verify(c.suite, c.remotePubKey, msg, sig); err != nil | err = errors.Errorf(\"Verify: %w\", err)",
  "verifyFn(msg, sig []byte) | return",
  "signFn(msg []byte) | sig, err = bls.Sign(c.suite, c.localSecKey, msg)",
  "signFn(msg []byte) | if sig, err = bls.Sign(c.suite, c.localSecKey, msg); err != nil | err = errors.Errorf(\"Sign: %w\", err)",
  "signFn(msg []byte) | return",
  "encodeProto(msg proto.Message, sender []byte, signFn signFunc, nonce uint64, replyFlag bool) | anything, err = ptypes.MarshalAny(msg)",
  "encodeProto(msg proto.Message, sender []byte, signFn signFunc, nonce uint64, replyFlag bool) | if anything, err = ptypes.MarshalAny(msg); err != nil | err = errors.Errorf(\"MarshalAny: %w\", err)",
  "encodeProto(msg proto.Message, sender []byte, signFn signFunc, nonce uint64, replyFlag bool) | if anything, err = ptypes.MarshalAny(msg); err != nil | return",
  "encodeProto(msg proto.Message, sender []byte, signFn signFunc, nonce uint64, replyFlag bool) | if signFn != nil | sign, err = signFn(anything.Value)",
  "encodeProto(msg proto.Message, sender []byte, signFn signFunc, nonce uint64, replyFlag bool) | if signFn != nil | if sign, err = signFn(anything.Value); err != nil | err = errors.Errorf(\"signFn: %w\", err)",
  "encodeProto(msg proto.Message, sender []byte, signFn signFunc, nonce uint64, replyFlag bool) | if signFn != nil | if sign, err = signFn(anything.Value); err != nil | return",
  "encodeProto(msg proto.Message, sender []byte, signFn signFunc, nonce uint64, replyFlag bool) | p := &Package{Anything: anything, Sender: sender, Signature: sign, RequestNonce: nonce, ReplyFlag: replyFlag}",
  "encodeProto(msg proto.Message, sender []byte, signFn signFunc, nonce uint64, replyFlag bool) | bytes, err = proto.Marshal(p)",
  "encodeProto(msg proto.Message, sender []byte, signFn signFunc, nonce uint64, replyFlag bool) | if bytes, err = proto.Marshal(p); err != nil | err = errors.Errorf(\"Marshal: %w\", err)",
  "encodeProto(msg proto.Message, sender []byte, signFn signFunc, nonce uint64, replyFlag bool) | return",
  "encryptPipe(plaintext chan []byte) | out = make(chan []byte)",
  "encryptPipe(plaintext chan []byte) | go func | defer close(out)",
  "encryptPipe(plaintext chan []byte) | go func | for | case <-c.ctx.Done() | return",
  "encryptPipe(plaintext chan []byte) | go func | for | case text, ok := <-plaintext | if ok | block, err = aes.NewCipher(c.dhKey)",
  "encryptPipe(plaintext chan []byte) | go func | for | case text, ok := <-plaintext | if ok | if block, err = aes.NewCipher(c.dhKey); err != nil | c.reportError(errors.Errorf(\"client encryptPipe: %w\", err))",
  "encryptPipe(plaintext chan []byte) | go func | for | case text, ok := <-plaintext | if ok | if block, err = aes.NewCipher(c.dhKey); err != nil | continue",
  "encryptPipe(plaintext chan []byte) | go func | for | case text, ok := <-plaintext | if ok | aesgcm, err = cipher.NewGCM(block)",
  "encryptPipe(plaintext chan []byte) | go func | for | case text, ok := <-plaintext | if ok | if aesgcm, err = cipher.NewGCM(block); err != nil | c.reportError(errors.Errorf(\"client encryptPipe: %w\", err))",
  "encryptPipe(plaintext chan []byte) | go func | for | case text, ok := <-plaintext | if ok | if aesgcm, err = cipher.NewGCM(block); err != nil | continue",
  "encryptPipe(plaintext chan []byte) | go func | for | case text, ok := <-plaintext | if ok | result = aesgcm.Seal(nil, c.dhNonce, text, nil)",
  "encryptPipe(plaintext chan []byte) | go func | for | case <-c.ctx.Done() | (empty)",
  "encryptPipe(plaintext chan []byte) | go func | for | case out <- result | (empty)",
  "encryptPipe(plaintext chan []byte) | return out",
  "reportMsg(msg P2PMessage) | case <-c.ctx.Done() | (empty)",
  "reportMsg(msg P2PMessage) | case c.peerFeed <- msg | (empty)",
  "handShake(ctx context.Context) | return utils.MergeErrors(ctx, c.sendID(ctx), c.receiveID(ctx))",
  "sendID(ctx context.Context) | errc = make(chan error)",
  "sendID(ctx context.Context) | go func | defer close(errc)",
  "sendID(ctx context.Context) | go func | pubKeyBytes, err = c.localPubKey.MarshalBinary()",
  "sendID(ctx context.Context) | go func | if pubKeyBytes, err = c.localPubKey.MarshalBinary(); err != nil | utils.ReportError(ctx, errc, errors.Errorf(\"MarshalBinary: %w\", err))",
  "sendID(ctx context.Context) | go func | if pubKeyBytes, err = c.localPubKey.MarshalBinary(); err != nil | return",
  "sendID(ctx context.Context) | go func | pID := &ID{PublicKey: pubKeyBytes, Id: c.localID}",
  "sendID(ctx context.Context) | go func | bytes, err = encodeProto(pID, c.localID, nil, 0, false)",
  "sendID(ctx context.Context) | go func | if bytes, err = encodeProto(pID, c.localID, nil, 0, false); err != nil | utils.ReportError(ctx, errc, errors.Errorf(\"encodeProto: %w\", err))",
  "sendID(ctx context.Context) | go func | err = writeTo(bytes, c.conn)",
  "sendID(ctx context.Context) | go func | if err = writeTo(bytes, c.conn); err != nil | utils.ReportError(ctx, errc, errors.Errorf(\"writeTo: %w\", err))",
  "sendID(ctx context.Context) | go func | return",
  "sendID(ctx context.Context) | return",
  "receiveID(ctx context.Context) | errc = make(chan error)",
  "receiveID(ctx context.Context) | go func | defer close(errc)",
  "receiveID(ctx context.Context) | go func | buffer, err := readFrom(c.conn)",
  "receiveID(ctx context.Context) | go func | if err != nil | utils.ReportError(ctx, errc, errors.Errorf(\"readFrom %s : %w\", c.conn.RemoteAddr().String(), err))",
  "receiveID(ctx context.Context) | go func | if err != nil | return",
  "receiveID(ctx context.Context) | go func | _, ptr, err := decodeBytes(buffer, nil)",
  "receiveID(ctx context.Context) | go func | if err != nil | utils.ReportError(ctx, errc, errors.Errorf(\"decodeBytes: %w\", err))",
  "receiveID(ctx context.Context) | go func | if err != nil | return",
  "receiveID(ctx context.Context) | go func | id, ok := ptr.Message.(*ID)",
  "receiveID(ctx context.Context) | go func | if !ok | err = errors.Errorf(\"ID casting: %w\", ErrCasting)",
  "receiveID(ctx context.Context) | go func | if !ok | utils.ReportError(ctx, errc, err)",
  "receiveID(ctx context.Context) | go func | if !ok | return",
  "receiveID(ctx context.Context) | go func | c.remoteID = id.GetId()",
  "receiveID(ctx context.Context) | go func | if string(c.remoteID) == string(c.localID) | err = errors.Errorf(\"remoteID %b != localID %b: %w\", c.remoteID, c.localID, ErrDuplicateID)",
  "receiveID(ctx context.Context) | go func | if string(c.remoteID) == string(c.localID) | utils.ReportError(ctx, errc, errors.Errorf(\"client : %w\", err))",
  "receiveID(ctx context.Context) | go func | if c.remoteID == nil | err = errors.Errorf(\"remoteID is nil: %w\", ErrNoRemoteID)",
  "receiveID(ctx context.Context) | go func | pub := c.suite.G2().Point()",
  "receiveID(ctx context.Context) | go func | err = pub.UnmarshalBinary(id.GetPublicKey())",
  "receiveID(ctx context.Context) | go func | if err = pub.UnmarshalBinary(id.GetPublicKey()); err != nil | utils.ReportError(ctx, errc, errors.Errorf(\"UnmarshalBinary: %w\", err))",
  "receiveID(ctx context.Context) | go func | if err = pub.UnmarshalBinary(id.GetPublicKey()); err != nil | return",
  "receiveID(ctx context.Context) | go func | c.remotePubKey = pub",
  "receiveID(ctx context.Context) | go func | dhKey := c.suite.Point().Mul(c.localSecKey, c.remotePubKey)",
  "receiveID(ctx context.Context) | go func | dhBytes, err = dhKey.MarshalBinary()",
  "receiveID(ctx context.Context) | go func | if dhBytes, err = dhKey.MarshalBinary(); err != nil | utils.ReportError(ctx, errc, errors.Errorf(\"MarshalBinary: %w\", err))",
  "receiveID(ctx context.Context) | go func | if dhBytes, err = dhKey.MarshalBinary(); err != nil | return",
  "receiveID(ctx context.Context) | go func | if len(dhBytes) < 44 | utils.ReportError(ctx, errc, errors.New(\"remote public key is the point at infinity\"))",
  "receiveID(ctx context.Context) | go func | if len(dhBytes) < 44 | return",
  "receiveID(ctx context.Context) | go func | c.dhKey = dhBytes[0:32]",
  "receiveID(ctx context.Context) | go func | c.dhNonce = dhBytes[32:44]",
  "receiveID(ctx context.Context) | go func | return",
  "receiveID(ctx context.Context) | return"] := by rfl

/-- regenerated fact: `client.run` keeps `errc` drained (/repo df48078; without it a second rejected
frame stalls the connection); theorem 4 is stated for the code's own value of the switch -/
theorem c16_errors_drained : Gen.runKeepsDrainingErrors = true := by decide

/-- **1. delivered ⇒ sent BY THE REMOTE ENDPOINT, byte for byte — PARTIAL: for the man in the middle
who cannot make a valid GCM tag (`Derivable`, ideal AEAD).  The code's AEAD is NOT ideal (one nonce for
every frame): for the adversary the code really faces (`DerivableGCM`) the statement is `C16_full`
below, which is REFUTED (`gcm_nonce_reuse_forgery`, known finding, replayed on the real nodes by the
`gcm` cases); what survives is `delivered_payload_was_signed_partial`.**  `sent` is what the remote endpoint
sent on this connection, `own` what the receiver itself sent on it (packed with its own key, which
differs from the remote one).  Whatever sequence `wire` the man in the middle puts on the connection —
including the receiver's own frames bounced back — every message the receiver delivers is the
delivery of a frame of `sent` (same type, same value bytes, same sender, nonce and flag). -/
theorem delivered_was_sent_partial (c : Conn) (hne : c.self ≠ c.pk) (sent own wire : List Frame)
    (hown : OwnPacked c own) (hmitm : ∀ f ∈ wire, Derivable c.k sent own f) :
    ∀ d ∈ (recvAll c wire).out, ∃ f ∈ sent, recvFrame c f = .deliver d := by
  intro d hd
  rcases foldl_out c wire {} d hd with h | ⟨f, hf, hdel⟩
  · simp at h
  · by_cases hs : f ∈ sent
    · exact ⟨f, hs, hdel⟩
    · exact absurd hdel (forged_not_delivered c hne sent own hown f (hmitm f hf) hs d)

/-- … so when the remote endpoint is honest (it packed the messages `ms` with the key it presented in
the handshake) every delivery IS one of the messages the REMOTE endpoint packed — never one the
receiver packed itself: same type and the very same bytes. -/
theorem delivered_was_packed_partial (c : Conn) (hne : c.self ≠ c.pk) (sender : Bytes)
    (ms : List (Msg × Nat × Bool)) (own wire : List Frame) (hown : OwnPacked c own)
    (hmitm : ∀ f ∈ wire, Derivable c.k (ms.map fun m => pack c.pk c.k sender m.1 m.2.1 m.2.2) own f) :
    ∀ d ∈ (recvAll c wire).out, ∃ m ∈ ms, d = delivered sender m.1 m.2.1 m.2.2 := by
  intro d hd
  obtain ⟨f, hf, hdel⟩ := delivered_was_sent_partial c hne _ own wire hown hmitm d hd
  obtain ⟨m, hm, rfl⟩ := List.mem_map.mp hf
  exact ⟨m, hm, (recvFrame_pack_deliver hdel).2.2⟩

/-- **The full statement of clause 1 for the man in the middle THE CODE faces** (`DerivableGCM`: after two
frames of the connection he can put a valid seal on any plaintext that contains no BLS signature he has
not seen — AES-GCM under the connection's single nonce): every delivery is one of the messages the
honest remote endpoint packed, same type, bytes, sender, nonce and flag. -/
def C16_full : Prop :=
  ∀ (c : Conn), c.self ≠ c.pk → ∀ (sender : Bytes) (ms : List (Msg × Nat × Bool)) (own wire : List Frame),
    OwnPacked c own →
    (∀ f ∈ wire, DerivableGCM c.k (ms.map fun m => pack c.pk c.k sender m.1 m.2.1 m.2.2) own f) →
    ∀ d ∈ (recvAll c wire).out, ∃ m ∈ ms, d = delivered sender m.1 m.2.1 m.2.2

/-- **KNOWN FINDING gcm-nonce-reuse-forgery — negation witness.**  The remote endpoint packs Ping{7} twice
(nonces 0 and 1); the man in the middle, holding no key, seals the same payload and signature as a
message of type 1 (Pong) with request nonce 99: the receiver delivers it — a message nobody sent.
(The BLS signature covers the value bytes only; type URL, nonce, reply flag and sender are protected by
the AEAD alone.)  Replayed on two real nodes at every run: `gcm P`, `gcm N,C`, `gcm P,B,N`. -/
theorem gcm_nonce_reuse_forgery : ¬ C16_full := by
  intro h
  have hd := h (theConn true) (by decide) [65] [(⟨0, [7]⟩, 0, false), (⟨0, [7]⟩, 1, false)] []
    [.sealed 1 (.pkg { any := some { typ := 1, value := [7] }, sig := .good 7 [7], sender := [65], nonce := 99 })]
    (by intro f hf; simp at hf)
    (by
      intro f hf
      simp only [List.mem_singleton] at hf
      subst hf
      refine DerivableGCM.forged ⟨pack 7 1 [65] ⟨0, [7]⟩ 0 false, pack 7 1 [65] ⟨0, [7]⟩ 1 false, by simp [theConn], by simp [theConn], by decide, by decide, by decide⟩ ?_
      exact ⟨1, { any := some { typ := 0, value := [7], wf := true }, sig := .good 7 [7], sender := [65], nonce := 0, reply := false }, by simp [theConn, pack], rfl⟩)
    { typ := 1, value := [7], sender := [65], nonce := 99, reply := false } (by decide)
  obtain ⟨m, hm, he⟩ := hd
  simp only [List.mem_cons, List.not_mem_nil, or_false] at hm
  rcases hm with rfl | rfl <;> simp [delivered] at he

example : recvFrame (theConn true)
    (.sealed 1 (.pkg { any := some { typ := 1, value := [7] }, sig := .good 7 [7], sender := [65], nonce := 99 })) =
    .deliver { typ := 1, value := [7], sender := [65], nonce := 99, reply := false } := by decide

/-- **1′. what survives under the code's AEAD — PARTIAL: the PAYLOAD is authentic.**  For the man in the
middle the code faces (`DerivableGCM`), with an honest remote endpoint: the value bytes of every
delivered message are, byte for byte, the value bytes of a message the remote endpoint packed and
signed on this connection (the BLS check under the handshake key is what gives this; a reflected own
frame's signature is the receiver's own).  NOT guaranteed, and violated by the witness above: that
the type, the request nonce, the reply flag and the sender are those of that message, and that it
is delivered once. -/
theorem delivered_payload_was_signed_partial (c : Conn) (hne : c.self ≠ c.pk) (sender : Bytes)
    (ms : List (Msg × Nat × Bool)) (own wire : List Frame) (hown : OwnPacked c own)
    (hmitm : ∀ f ∈ wire, DerivableGCM c.k (ms.map fun m => pack c.pk c.k sender m.1 m.2.1 m.2.2) own f) :
    ∀ d ∈ (recvAll c wire).out, ∃ m ∈ ms, d.value = m.1.value := by
  intro d hd
  rcases foldl_out c wire {} d hd with h | ⟨f, hf, hdel⟩
  · simp at h
  · cases hmitm f hf with
    | ideal hi =>
      by_cases hs : f ∈ ms.map fun m => pack c.pk c.k sender m.1 m.2.1 m.2.2
      · obtain ⟨m, hm, rfl⟩ := List.mem_map.mp hs
        exact ⟨m, hm, by rw [(recvFrame_pack_deliver hdel).2.2]; rfl⟩
      · exact absurd hdel (forged_not_delivered c hne _ own hown f hi hs d)
    | forged _ hk =>
      rw [recvFrame_deliver] at hdel
      obtain ⟨p, a, hp, ha, hsig, _, _, rfl⟩ := hdel
      simp only [Frame.sealed.injEq, true_and] at hp
      subst hp
      simp only [KnownPlain, hsig] at hk
      obtain ⟨k', q, hq, hqs⟩ := hk
      -- the signature he put in is the signature of a frame he has seen: the remote endpoint's or the receiver's own
      rcases List.mem_append.mp hq with h1 | h1
      · obtain ⟨m, hm, he⟩ := List.mem_map.mp h1
        exact ⟨m, hm, (Sig.good.inj ((sig_of_pack he).symm.trans hqs)).2.symm⟩
      · obtain ⟨sd, m, n, r, he⟩ := hown _ h1
        exact absurd (Sig.good.inj ((sig_of_pack he.symm).symm.trans hqs)).1 hne

example : DerivableGCM 1 [pack 7 1 [65] ⟨0, [7]⟩ 0 false, pack 7 1 [65] ⟨0, [7]⟩ 1 false] []
    (.sealed 1 (.pkg { any := some { typ := 1, value := [7] }, sig := .good 7 [7], sender := [65], nonce := 99 })) :=
  .forged ⟨pack 7 1 [65] ⟨0, [7]⟩ 0 false, pack 7 1 [65] ⟨0, [7]⟩ 1 false, by simp, by simp, by decide, by decide, by decide⟩
    ⟨1, { any := some { typ := 0, value := [7], wf := true }, sig := .good 7 [7], sender := [65], nonce := 0, reply := false }, by simp [pack], rfl⟩

/-- **1b. reflection**: a frame the receiver sent itself, bounced back by the man in the middle, opens
under the session key (both directions share key and nonce) and is rejected ONLY by the signature
check: it carries the receiver's own signature and is verified under the remote handshake key. -/
theorem reflected_not_delivered (c : Conn) (hne : c.self ≠ c.pk) (sender : Bytes) (m : Msg)
    (nonce : Nat) (reply : Bool) :
    recvFrame c (pack c.self c.k sender m nonce reply) = .err .sig :=
  recvFrame_reflected c hne sender m nonce reply

/-- … and that check is what does it: the same frame WOULD be delivered by a receiver that verified
under its own key (the signature check is load-bearing for theorem 1) -/
theorem reflection_needs_the_remote_key (c : Conn) (sender : Bytes) (m : Msg) (nonce : Nat)
    (hk : c.known m.typ = true) :
    recvFrame { c with pk := c.self } (pack c.self c.k sender m nonce false) =
      .deliver (delivered sender m nonce false) :=
  recvFrame_pack { c with pk := c.self } sender m nonce false hk

/-- **2a. tampered frames are errors, not deliveries — PARTIAL (ideal AEAD, see 1)**: a byte string that is not a Seal output under
the session key (flipped, truncated, duplicated-and-altered, injected), a frame sealed under any
other key, damaged framing, a reflected frame — each is an `err` outcome: no delivery, no panic. -/
theorem tampered_not_delivered_partial (c : Conn) (hne : c.self ≠ c.pk) (sent own : List Frame)
    (hown : OwnPacked c own) (f : Frame)
    (hd : Derivable c.k sent own f) (hnew : f ∉ sent) : ∃ e, recvFrame c f = .err e :=
  forged_is_error c hne sent own hown f hd hnew

/-- … and it leaves the list of delivered messages exactly as it was -/
theorem tampered_changes_nothing_delivered (c : Conn) (hne : c.self ≠ c.pk) (sent own : List Frame)
    (hown : OwnPacked c own) (f : Frame) (st : RState)
    (hd : Derivable c.k sent own f) (hnew : f ∉ sent) : (rstep c st f).out = st.out := by
  rcases rstep_out c st f with h | ⟨d, hdel, _⟩
  · exact h
  · exact absurd hdel (forged_not_delivered c hne sent own hown f hd hnew d)

/-- **2b. a well-encrypted package whose payload signature does not verify under the key presented in
the handshake is not delivered** (wrong key, signature over other bytes, empty or junk signature —
also when the sender holds the session key). -/
theorem bad_signature_not_delivered (c : Conn) (p : Pkg) (a : Any)
    (ha : p.any = some a) (hs : p.sig ≠ .good c.pk a.value) :
    recvFrame c (.sealed c.k (.pkg p)) = .err .sig := by
  simp [recvFrame, ha, hs]

/-- **2c. nothing a peer or a man in the middle sends makes the receiving pipeline panic** (with the
nil check on Anything that the code has, see `c16_code_shape`). -/
theorem recv_never_panics (c : Conn) (hc : c.checkAny = Gen.decodeChecksAnything) (f : Frame) (site : String) :
    recvFrame c f ≠ .panic site :=
  recvFrame_no_panic c (by rw [hc]; decide) f site

/-- and the connection state never becomes `crashed`, whatever arrives -/
theorem receiver_survives (c : Conn) (hc : c.checkAny = Gen.decodeChecksAnything) (wire : List Frame) :
    (recvAll c wire).crashed = false :=
  foldl_not_crashed c wire {} (fun f _ => recv_never_panics c hc f) rfl

/-- **3. honest transport: each message exactly once, in order, to the subscriber of its type.**
With the identity transformer the delivered list IS the sent list (so: no loss, no duplicate, same
order), no error is raised, and the subscriber of type `t` gets exactly the non-reply messages of type
`t`, in the order they were sent. -/
theorem honest_once (c : Conn) (sender : Bytes) (ms : List (Msg × Nat × Bool))
    (hk : ∀ m ∈ ms, c.known m.1.typ = true) :
    (recvAll c (ms.map fun m => pack c.pk c.k sender m.1 m.2.1 m.2.2)).out =
        ms.map (fun m => delivered sender m.1 m.2.1 m.2.2) ∧
    (recvAll c (ms.map fun m => pack c.pk c.k sender m.1 m.2.1 m.2.2)).errs = 0 ∧
    ∀ t, toSubscriber t (recvAll c (ms.map fun m => pack c.pk c.k sender m.1 m.2.1 m.2.2)).out =
        ((ms.filter fun m => m.1.typ = t ∧ m.2.2 = false).map fun m => delivered sender m.1 m.2.1 m.2.2) := by
  have h := recvAll_honest c sender ms {} rfl rfl hk
  unfold recvAll
  rw [h]
  refine ⟨by simp, rfl, ?_⟩
  intro t
  simp only [List.nil_append, toSubscriber, List.filter_map]
  congr 1

/-- **4. junk does not cost honest frames their delivery.**  With `errc` drained (the code's own value,
`c16_errors_drained`) and as long as the man in the middle does not damage the framing itself, he may
interleave the remote endpoint's frames with any number of injected, altered, duplicated, reflected
or foreign-key frames: the connection never stalls and the delivered list is exactly the deliveries
of the remote endpoint's frames that are on the wire, in wire order — every honest frame he lets
through is delivered. -/
theorem junk_does_not_block_honest (c : Conn) (hdr : c.drains = Gen.runKeepsDrainingErrors)
    (hca : c.checkAny = Gen.decodeChecksAnything) (hne : c.self ≠ c.pk) (sent own wire : List Frame)
    (hown : OwnPacked c own) (hmitm : ∀ f ∈ wire, Derivable c.k sent own f)
    (hnb : Frame.broken ∉ wire) :
    (recvAll c wire).stalled = false ∧
    (recvAll c wire).out = (wire.filter (· ∈ sent)).filterMap (fun f =>
      match recvFrame c f with
      | .deliver d => some d
      | _ => none) := by
  have hd : c.drains = true := by rw [hdr]; decide
  have hnf : ∀ f ∈ wire, recvFrame c f ≠ .err .framing ∧ ∀ s, recvFrame c f ≠ .panic s :=
    fun f hf => ⟨fun h => hnb (recvFrame_framing c f h ▸ hf), recv_never_panics c hca f⟩
  obtain ⟨h1, _, h3⟩ := recvAll_no_stall c hd wire {} rfl rfl hnf
  refine ⟨h1, ?_⟩
  unfold recvAll
  rw [h3]
  -- frames not in `sent` are errors: they contribute nothing
  exact filterMap_filter_of_none _ _ wire fun f hf hs =>
    let ⟨e, he⟩ := forged_is_error c hne sent own hown f (hmitm f hf) (of_decide_eq_false hs)
    by rw [he]

/-- observation, not a violation of the property as stated (its catalogue has no verbatim replay):
the GCM nonce is fixed per connection and nothing in a package is fresh, so a frame replayed
verbatim is delivered again — and by theorem 1 it is still a message the remote endpoint sent. -/
theorem replay_delivered_again (c : Conn) (sender : Bytes) (m : Msg) (n : Nat) (hk : c.known m.typ = true) :
    (recvAll c [pack c.pk c.k sender m n false, pack c.pk c.k sender m n false]).out =
      [delivered sender m n false, delivered sender m n false] :=
  (honest_once c sender [(m, n, false), (m, n, false)] (by simp [hk])).1

/-! non-vacuity -/
def demoConn : Conn := theConn true
def m0 : Msg := ⟨0, [1, 2, 3]⟩
def m2 : Msg := ⟨2, [9]⟩

example : (recvAll demoConn [pack 7 1 [65] m0 0 false, .raw 5, pack 7 1 [65] m2 1 false]).out =
    [delivered [65] m0 0 false, delivered [65] m2 1 false] := by decide
example : Derivable 1 [pack 7 1 [65] m0 0 false] [] (.raw 5) ∧ (.raw 5 : Frame) ∉ [pack 7 1 [65] m0 0 false] :=
  ⟨.raw 5, by decide⟩
example : demoConn.self ≠ demoConn.pk ∧ OwnPacked demoConn [pack 8 1 [66] m2 4 false] :=
  ⟨by decide, fun f hf => ⟨[66], m2, 4, false, by
    have : f = pack 8 1 [66] m2 4 false := by simpa using hf
    rw [this]; rfl⟩⟩
example : recvFrame demoConn (pack 8 1 [66] m2 4 false) = .err .sig := by decide
example : (recvAll demoConn [.raw 1, .raw 2, pack 8 1 [66] m2 4 false, pack 7 1 [] m0 0 false]).out =
    [delivered [] m0 0 false] := by decide
example : recvFrame demoConn (.sealed 1 (.pkg { any := some ⟨0, [1], true⟩, sig := .good 8 [1] })) = .err .sig := by
  decide
example : recvFrame demoConn (.sealed 1 (.pkg { any := none, sig := .bad 0 })) = .err .noAny := by decide
example : recvFrame (theConn false) (.sealed 1 (.pkg { any := none, sig := .bad 0 })) =
    .panic "decodeBytes: pa.GetAnything().Value" := by decide +kernel
/-- with `errc` not drained (`drains = false`, the code before /repo df48078) two rejected frames stall the connection -/
example : (recvAll (theConn true false) [.raw 1, pack 7 1 [] m0 0 false, .raw 2, pack 7 1 [] m2 1 false]).out =
    [delivered [] m0 0 false] ∧
    (recvAll (theConn true false) [.raw 1, pack 7 1 [] m0 0 false, .raw 2, pack 7 1 [] m2 1 false]).stalled = true := by
  decide
example : (recvAll demoConn [.raw 1, pack 7 1 [] m0 0 false, .raw 2, pack 7 1 [] m2 1 false]).out =
    [delivered [] m0 0 false, delivered [] m2 1 false] := by decide

/-! ### 5. across connections

`Model/ConnSym.lean`: the server-level connection state machine (`Model/ConnTable.lean`: dial, accept, the two
tables, connection end, DisConnectTo, restart — every connection with the session key and the two signing keys it
got when it was made) together with the receiving pipeline of BOTH ends of EVERY connection.  The man in the
middle may put on any connection, at any time, any frame that either end of ANY connection — past or present,
between the same two nodes or not — ever packed (`AdvCan.seen`: record on one connection, inject into another, in
either direction), plus everything the single-connection theorems allow.  Quantified over every history of
connection-table events, packed messages and such arrivals.  (`ideal : Nat → Bool` in the statements says which
nodes are harness endpoints, not nodes running the code: `Model/ConnTable.lean`; nothing to do with ideal AEAD.) -/

open Dos.ConnSym in
/-- regenerated facts: `newClient` draws the key pair of a connection itself (no key material is handed to it
by `Listen` / `handleCallReq`), `sendID` presents it, `receiveID` derives the AES key and GCM nonce from it and
the presented key — the model allocates fresh keys per connection exactly when this holds. -/
theorem c16_keys_per_connection : ConnTable.Cfg.code.keyPerConn = true := by decide

open Dos.ConnSym in
/-- **5a. every connection has its own keys**: in every history, two different connections have different
session keys, and the two ends of a connection sign with different keys. -/
theorem keys_differ_across_connections (ideal : Nat → Bool) (evs : List ConnTable.Ev) (c c' : Nat) :
    let s := ConnTable.run ConnTable.Cfg.code (ConnTable.init ideal) evs
    c < s.nconn → c' < s.nconn → c ≠ c' →
      (s.conns c).key ≠ (s.conns c').key ∧ (s.conns c).skD ≠ (s.conns c).skA := by
  intro s hc hc' hne
  have hK := ConnTable.run_keyInv _ c16_keys_per_connection evs (ConnTable.KeyInv.init ideal)
  exact ⟨fun h => hne (hK.key_inj hc hc' h), hK.skD_ne_skA hc⟩

open Dos.ConnSym in
/-- **5b. delivered ⇒ sent by the remote endpoint ON THAT CONNECTION**, whatever is replayed from wherever — PARTIAL
in the sense of theorem 1: `ConnSym.AdvCan` is the man in the middle who cannot make a valid GCM tag (ideal AEAD); the
forging adversary of `DerivableGCM` (known finding gcm-nonce-reuse-forgery) has not been carried over to the
across-connections model, where it would weaken this statement to payload authenticity in the same way: in
every valid history, every message delivered at an end of connection `c` is the delivery of a frame that the OTHER
end of the SAME connection packed. -/
theorem delivered_on_its_connection (ideal : Nat → Bool) (ca dr : Bool) (evs : List SEv)
    (hv : Valid ConnTable.Cfg.code ca dr { net := ConnTable.init ideal } evs) (c : Nat) (d : Bool) (dl : Delivery)
    (h : dl ∈ ((srun ConnTable.Cfg.code ca dr { net := ConnTable.init ideal } evs).rs c d).out) :
    ∃ f, f ∈ (srun ConnTable.Cfg.code ca dr { net := ConnTable.init ideal } evs).sent c (!d) ∧
      recvFrame (view ca dr ((srun ConnTable.Cfg.code ca dr { net := ConnTable.init ideal } evs).net.conns c) d) f = .deliver dl :=
  (srun_inv _ c16_keys_per_connection ca dr (SInv.init ca dr ideal) evs hv).out c d dl h

open Dos.ConnSym in
/-- **5c. cross-connection replay / injection is rejected**: in every valid history, a frame that an end of
connection `c` packed is an ERROR outcome (the AEAD does not open) at either end of any other connection `c'` —
no delivery, no panic. -/
theorem cross_connection_replay_rejected (ideal : Nat → Bool) (ca dr : Bool) (evs : List SEv)
    (hv : Valid ConnTable.Cfg.code ca dr { net := ConnTable.init ideal } evs) (c c' : Nat) (d d' : Bool) (f : Frame) :
    let s := srun ConnTable.Cfg.code ca dr { net := ConnTable.init ideal } evs
    f ∈ s.sent c d → c' < s.net.nconn → c' ≠ c →
      recvFrame (view ca dr (s.net.conns c') d') f = .err .openFail := by
  intro s hf hc' hne
  have hS := srun_inv _ c16_keys_per_connection ca dr (SInv.init ca dr ideal) evs hv
  obtain ⟨hc, m, nonce, reply, hfe⟩ := hS.sent c d f hf
  rw [hfe]
  simp only [recvFrame, pack, view]
  exact if_pos fun h => hne (hS.keys.key_inj hc' hc h.symm)

open Dos.ConnSym in
/-- what 5 rests on: were a connection's keys NOT its own (the node's long-term key pair wired into every
connection: same session key and nonce for every connection between two nodes, same signing key), a frame recorded
on connection 0 and injected into connection 1 between the same nodes would be delivered there. -/
theorem static_keys_admit_cross_connection_replay :
    let cfg := { ConnTable.Cfg.good with keyPerConn := false }
    let s0 := srun cfg true true {} [.tbl (.request 0 1 (some 1)), .pack 0 true ⟨0, [7]⟩ 0 false, .tbl (.cut 0),
                                      .tbl (.procRm 0 0), .tbl (.procRm 1 0), .tbl (.request 0 1 (some 1))]
    (s0.sent 0 true).length = 1 ∧
    ∀ f ∈ s0.sent 0 true, ((sstep cfg true true s0 (.wire 1 false f)).rs 1 false).out = [delivered [] ⟨0, [7]⟩ 0 false] := by
  decide

/-! non-vacuity of section 5: node 0 sends on connection 0, the connection is cut, it sends on connection 1, and
the man in the middle injects the frame of connection 0 into connection 1 (towards node 1) and reflects it to node 0 -/
def crossDemo : List Dos.ConnSym.SEv :=
  [.tbl (.request 0 1 (some 1)), .pack 0 true ⟨0, [7]⟩ 0 false,
   .wire 0 false (pack 2 1 [] ⟨0, [7]⟩ 0 false),
   .tbl (.cut 0), .tbl (.procRm 0 0), .tbl (.procRm 1 0),
   .tbl (.request 0 1 (some 1)), .pack 1 true ⟨2, [9]⟩ 1 false,
   .wire 1 false (pack 2 1 [] ⟨0, [7]⟩ 0 false),      -- the recorded frame of connection 0, into connection 1
   .wire 1 true (pack 2 1 [] ⟨0, [7]⟩ 0 false),       -- … and to the other end
   .wire 1 false (pack 5 4 [] ⟨2, [9]⟩ 1 false)]

example : Dos.ConnSym.Valid ConnTable.Cfg.code true true {} crossDemo := by
  rw [ConnTable.Cfg.code_eq_good]
  -- one conjunct per event of `crossDemo`, then `True`: the four `wire` events need `AdvCan`
  refine ⟨trivial, trivial, ?_, trivial, trivial, trivial, trivial, trivial, ?_, ?_, ?_, trivial⟩
  · exact .seen 0 true (by decide) (by decide)
  · exact .seen 0 true (by decide) (by decide)
  · exact .seen 0 true (by decide) (by decide)
  · exact .seen 1 true (by decide) (by decide)
example : ((Dos.ConnSym.srun ConnTable.Cfg.code true true {} crossDemo).rs 0 false).out = [delivered [] ⟨0, [7]⟩ 0 false] := by
  rw [ConnTable.Cfg.code_eq_good]; decide +kernel
example : ((Dos.ConnSym.srun ConnTable.Cfg.code true true {} crossDemo).rs 1 false).out = [delivered [] ⟨2, [9]⟩ 1 false] ∧
    ((Dos.ConnSym.srun ConnTable.Cfg.code true true {} crossDemo).rs 1 false).errs = 1 ∧
    ((Dos.ConnSym.srun ConnTable.Cfg.code true true {} crossDemo).rs 1 true).out = [] := by
  rw [ConnTable.Cfg.code_eq_good]; decide +kernel
example : ((Dos.ConnSym.srun ConnTable.Cfg.code true true {} crossDemo).net.conns 0).key = 1 ∧
    ((Dos.ConnSym.srun ConnTable.Cfg.code true true {} crossDemo).net.conns 1).key = 4 := by
  rw [ConnTable.Cfg.code_eq_good]; decide +kernel

end Dos.Props.C16
