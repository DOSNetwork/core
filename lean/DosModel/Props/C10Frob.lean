/-
C10 — Frobenius = p-power, and what the final exponentiation computes, as theorems about the code's constants:
* `frobenius_is_power_generic`: over every field K of characteristic q with c^q = c on K, q ≡ 3 mod 4, q ≡ 1 mod 6,
  if the three constants are ξ^((q−1)/6), ξ^((q−1)/3), ξ^((2q−2)/3), then gfP12.Frobenius (gfp12.go, gfp6.go) is x ↦ x^q;
* `frobenius_constants_are_powers`: the regenerated constants, decoded, ARE those powers of ξ = i + 9 in F_p²
  (square-and-multiply evaluated by the kernel on their residues, carried along the decoding);
* `frobenius_maps_are_powers`: over F_p: Frobenius = (·)^p, FrobeniusP2 = (·)^(p²) (= Frobenius∘Frobenius, three norm
  relations of the constants), Conjugate = (·)^(p⁶) (= FrobeniusP2³), x^(p¹²) = x;
* `finalExponentiation_is_power`: the translated finalExponentiation over F_p is x ↦ x^((p¹²−1)/r) on x ≠ 0 — the
  easy part, the addition chain of the hard part with its three exponentiations by u, and the numeric identity
  (p⁶−1)·E ≡ (p¹²−1)/r (mod p¹²−1) on the regenerated p, u, Order — hence its values have order dividing r;
* the same on the implemented Montgomery representation (`*_implemented`), and for `Pair` at kyber level
  (`kyber_pair_order`): every pairing value a satisfies a^r = 1, so `Mul(s, a) = Mul(s mod r, a)` on ALL pairing
  values, not only on powers of the generator.
NOT proved: bilinearity and non-degeneracy of the Miller function (meta "partial").
-/
import DosModel.Proofs.Bn256FinalExpPow
import DosModel.Props.C10GT

set_option linter.unusedSectionVars false

namespace Dos.Props.C10Frob
open Dos Dos.Bn256 Dos.Gen Dos.Gen.Bn256Code Dos.Props.C10Kyber

/-- **gfP12.Frobenius is the q-power map**, generically -/
theorem frobenius_is_power_generic {K : Type} [Field K] (q : Nat) [Fact q.Prime] [CharP K q]
    (hK : ∀ c : K, c ^ q = c) (h4 : q % 4 = 3) (h6 : q % 6 = 1) (cs : FrobConsts K)
    (hc1 : cs.xiToPMinus1Over3 = Fp2.xi ^ ((q - 1) / 3)) (hc2 : cs.xiTo2PMinus2Over3 = Fp2.xi ^ ((2 * q - 2) / 3))
    (hc6 : cs.xiToPMinus1Over6 = Fp2.xi ^ ((q - 1) / 6)) (a : Fp12 K) (b : Fp6 K) (c : Fp2 K) :
    Fp12.frobeniusG cs a = a ^ q ∧ Fp6.frobeniusG cs b = b ^ q ∧ Fp2.conjugate c = c ^ q :=
  ⟨Fp12.frobeniusG_eq_pow q hK h4 cs hc1 hc2 h6 hc6 a,
   Fp6.frobeniusG_eq_pow q hK h4 cs hc1 hc2 (by omega) b, (Fp2.pow_char q hK h4 c).symm⟩

/-- **the code's constants are the powers of ξ they are named after**, in F_p² (hypotheses of the generic theorem
for K = F_p, q = p) -/
theorem frobenius_constants_are_powers :
    frobConstsFp.xiToPMinus1Over6 = (Fp2.xi : Fp2 (ZMod Bn256.p)) ^ ((Bn256.p - 1) / 6) ∧
    frobConstsFp.xiToPMinus1Over3 = (Fp2.xi : Fp2 (ZMod Bn256.p)) ^ ((Bn256.p - 1) / 3) ∧
    frobConstsFp.xiTo2PMinus2Over3 = (Fp2.xi : Fp2 (ZMod Bn256.p)) ^ ((2 * Bn256.p - 2) / 3) ∧
    Bn256.p % 4 = 3 ∧ Bn256.p % 6 = 1 :=
  ⟨frobConstsFp_powers.1, frobConstsFp_powers.2.1, frobConstsFp_powers.2.2, by decide, by decide⟩

/-- **over F_p, with the code's constants: Frobenius = p-power, FrobeniusP2 = p²-power, Conjugate = p⁶-power** -/
theorem frobenius_maps_are_powers (a : Fp12 (ZMod Bn256.p)) :
    Fp12.frobeniusG frobConstsFp a = a ^ Bn256.p ∧
    Fp12.frobeniusP2G frobConstsFp a = a ^ (Bn256.p * Bn256.p) ∧
    Fp12.conjugate a = a ^ (Bn256.p ^ 6) ∧
    a ^ (Bn256.p ^ 12) = a ∧ (a ≠ 0 → a ^ (Bn256.p ^ 12 - 1) = 1) :=
  ⟨frobenius_is_p_power a, frobeniusP2_is_p2_power a, conjugate_is_p6_power a, pow_p12 a, pow_p12_sub_one a⟩

/-- non-vacuity: the decoded GT generator (≠ 0, ≠ 1) -/
example : Fp12.conjugate (dec12 gfP12Gen) = dec12 gfP12Gen ^ (Bn256.p ^ 6) :=
  (frobenius_maps_are_powers _).2.2.1

/-- **the final exponentiation over F_p is x ↦ x^((p¹²−1)/r)** (x ≠ 0), and r·((p¹²−1)/r) = p¹²−1, so its values
have order dividing r -/
theorem finalExponentiation_is_power (x : Fp12 (ZMod Bn256.p)) (hx : x ≠ 0) :
    finalExponentiationG frobConstsFp uParam x = x ^ ((Bn256.p ^ 12 - 1) / Gen.Bn256.Order) ∧
    (Bn256.p ^ 12 - 1) / Gen.Bn256.Order * Gen.Bn256.Order = Bn256.p ^ 12 - 1 ∧
    finalExponentiationG frobConstsFp uParam x ^ Gen.Bn256.Order = 1 :=
  ⟨finalExp_eq_pow x hx, finalExp_exponent.2.1, finalExp_pow_order x hx⟩

example : finalExponentiationG frobConstsFp uParam (dec12 gfP12Gen) ^ Gen.Bn256.Order = 1 :=
  (finalExponentiation_is_power _ (by
    intro h
    have hu := C10GT.gt_generator_unitary.1
    rw [h] at hu
    exact finalExp_zero_not_unitary hu)).2.2

/-! ### the implemented representation -/

theorem frob_dec (x : F12) (hx : Red12 x) :
    (Red12 (Fp12.frobeniusG frobConsts x) ∧
      dec12 (Fp12.frobeniusG frobConsts x) = Fp12.frobeniusG frobConstsFp (dec12 x)) ∧
    (Red12 (Fp12.frobeniusP2G frobConsts x) ∧
      dec12 (Fp12.frobeniusP2G frobConsts x) = Fp12.frobeniusP2G frobConstsFp (dec12 x)) := by
  rw [← frobConstsR_val]
  exact ⟨dec_of_natural (fun y => (Fp12.map_frobeniusG valHom frobConstsR y).symm)
      (Fp12.map_frobeniusG decHom frobConstsR) x hx,
    dec_of_natural (fun y => (Fp12.map_frobeniusP2G valHom frobConstsR y).symm)
      (Fp12.map_frobeniusP2G decHom frobConstsR) x hx⟩

/-- **gfP12.Frobenius / FrobeniusP2 / Conjugate as implemented** (Montgomery limbs, regenerated constants): on reduced
values the results are reduced and decode to the p-th, p²-th, p⁶-th power in F_p¹² -/
theorem frobenius_implemented (x : F12) (hx : Red12 x) :
    (Red12 (Bn256.Fp12.frobenius x) ∧ dec12 (Bn256.Fp12.frobenius x) = dec12 x ^ Bn256.p) ∧
    (Red12 (Bn256.Fp12.frobeniusP2 x) ∧ dec12 (Bn256.Fp12.frobeniusP2 x) = dec12 x ^ (Bn256.p * Bn256.p)) ∧
    (Red12 (Fp12.conjugate x) ∧ dec12 (Fp12.conjugate x) = dec12 x ^ (Bn256.p ^ 6)) := by
  obtain ⟨⟨r1, d1⟩, ⟨r2, d2⟩⟩ := frob_dec x hx
  obtain ⟨r3, d3⟩ := conj_dec x hx
  exact ⟨⟨r1, d1.trans (frobenius_is_p_power _)⟩, ⟨r2, d2.trans (frobeniusP2_is_p2_power _)⟩,
    ⟨r3, d3.trans (conjugate_is_p6_power _)⟩⟩

example : dec12 (Bn256.Fp12.frobenius gfP12Gen) = dec12 gfP12Gen ^ Bn256.p :=
  (frobenius_implemented gfP12Gen C10GT.gt_generator_order.2.2.1).1.2

/-- **finalExponentiation as implemented**: for every reduced non-zero gfP12 value the result decodes to
x^((p¹²−1)/r), and its r-th power through the implemented gfP12.Exp is one, limb for limb -/
theorem finalExponentiation_implemented_is_power (x : F12) (hx : Red12 x) (h0 : x ≠ Fp12.zero) :
    dec12 (Bn256.finalExponentiation x) = dec12 x ^ ((Bn256.p ^ 12 - 1) / Gen.Bn256.Order) ∧
    dec12 (Bn256.finalExponentiation x) ^ Gen.Bn256.Order = 1 ∧
    Fp12.exp (Bn256.finalExponentiation x) Gen.Bn256.Order = Fp12.one := by
  obtain ⟨rf, df⟩ := finalExp_dec x hx
  have hne : dec12 x ≠ 0 := TowerField.dec12_ne_zero x hx h0
  have ho : dec12 (Bn256.finalExponentiation x) ^ Gen.Bn256.Order = 1 := by
    rw [df]; exact finalExp_pow_order _ hne
  exact ⟨df.trans (finalExp_eq_pow _ hne), ho, (exp_one_dec_iff _ rf _).mpr ho⟩

/-- **every value of Pair has order dividing r** (reduced input points; either one the identity or the Miller value
non-zero): r·a = Null through the translated Mul, and the scalar may be reduced modulo the group order on ALL
pairing values -/
theorem kyber_pair_order (p1 : G1J) (p2 : G2J) (h1 : Jac.Reduced p1) (h2 : Jac.Reduced2 p2)
    (hm : (p2.isInfinity || p1.isInfinity) = true ∨ miller p2 p1 ≠ Fp12.zero) (s : Nat) :
    dec12 (pointGT_pair frobConsts uParam p1 p2) ^ Gen.Bn256.Order = 1 ∧
    pointGT_mul Gen.Bn256.Order (pointGT_pair frobConsts uParam p1 p2) = pointGT_null gfP12Inf ∧
    pointGT_mul s (pointGT_pair frobConsts uParam p1 p2) =
      pointGT_mul (s % Gen.Bn256.Order) (pointGT_pair frobConsts uParam p1 p2) := by
  have hred := (kyber_pair_reduced p1 p2 h1 h2).1
  have ho : dec12 (pointGT_pair frobConsts uParam p1 p2) ^ Gen.Bn256.Order = 1 := by
    rw [(gen_pointGT_pair_eq_model_gfp p1 p2).2]
    by_cases hi : (p2.isInfinity || p1.isInfinity) = true
    · rw [optimalAte_of_inf hi, one_dec.2, one_pow]
    · rw [optimalAte_of_fin hi]
      exact (finalExponentiation_implemented_is_power _ (C10Miller.miller_reduced p2 p1 h2 h1)
        (hm.resolve_left hi)).2.1
  refine ⟨ho, ?_, (C10GT.kyber_gt_implemented _ _ hred hred s).2.2.2.2.2 ho⟩
  rw [gen_pointGT_mul_eq_model, gen_pointGT_null_eq_model, C10Consts.consts_gt.1]
  exact (exp_one_dec_iff _ hred _).mpr ho

/-- non-trivial instance: the pairing of the generators (its order is exactly r: it is ≠ 1 and r is prime) -/
example : pointGT_mul Gen.Bn256.Order (pointGT_pair frobConsts uParam curveGen twistGen) = pointGT_null gfP12Inf := by
  rw [C10GT.kyber_pair_generators_inverse.1, gen_pointGT_mul_eq_model, gen_pointGT_null_eq_model,
    C10Consts.consts_gt.1]
  exact C10GT.gt_generator_order.1

end Dos.Props.C10Frob
