/-
C18 — each subscribed contract event is delivered once, faithfully, never if removed.

`firstEvent hash m` is the fold `firstEvent` of onchain/eth_subscribe.go performs over the
sequence `m` of values it receives (code as it is in /repo: log identity = SHA-256 of data and
block number, transaction hash, log index — the F9 repair, commit 26ddfe5); `Interleaving ss m`
says `m` is an output `merge` may produce from the per-endpoint streams `ss`.  `hash` stands
for SHA-256 and is arbitrary: no injectivity is needed, because the hypothesis on the history is
"pairwise different identities", which two logs with different (transaction hash, log index)
always satisfy (`distinct_positions_distinct_identities`).
An `expire` item is the 1500 s timer of `firstEvent` firing; "within the de-duplication window"
is the hypothesis that no timer fires before the last observation of its identity (`WithinWindow`;
the streams of theorems 1 and 3 contain no `expire` item at all).
The table theorems are `decide`d over `Gen/EventTable.lean`, regenerated from
onchain/eth_subscribe.go, eventMsg.go, the contract bindings and dosnode/dos_chain_handler.go
on every run.  Helper lemmas: `Proofs/Events.lean`.
-/
import DosModel.Proofs.Events
import DosModel.Gen.EventTable

namespace Dos.Props.C18
open Dos Dos.Events

variable {H P : Type} [DecidableEq H]

/-- a value a watcher may put on its stream, given the history `Hs`: a log of the history,
a removed-flagged (re-)emission of anything, or a value that is not a log at all -/
def StreamItem (Hs : List (Log P)) (x : Item H P) : Prop :=
  (∃ l ∈ Hs, x = .log l) ∨ (∃ l : Log P, x = .log l ∧ l.removed = true) ∨ x = .other

omit [DecidableEq H] in
/-- two logs at different positions of the chain (transaction hash, log index) have different
identities, whatever their data and whatever `hash` is -/
theorem distinct_positions_distinct_identities (hash : Bytes → H) (a b : Log P)
    (h : a.tx ≠ b.tx ∨ a.index ≠ b.index) : ident hash false a ≠ ident hash false b := by
  intro he
  simp only [ident, Bool.false_eq_true, if_false] at he
  injection he with _ h2 h3
  rcases h with h | h
  · exact h h2
  · exact h h3

example : ident (fun b => b) false ({ data := [1], blockN := 5, tx := [7], index := 0, removed := false, payload := 0 } : Log Nat)
    ≠ ident (fun b => b) false { data := [1], blockN := 5, tx := [7], index := 1, removed := false, payload := 1 } := by decide

/-- core of 1: for ANY arrival order `m` (no timer firing inside it) in which every value is a
stream item over `Hs` and every log of `Hs` arrives at least once: the delivered payloads are a
permutation of the payloads of `Hs` — each log exactly once, payload unchanged. -/
theorem once_any_order (hash : Bytes → H) (Hs : List (Log P)) (m : List (Item H P))
    (hH : ∀ l ∈ Hs, l.removed = false ∧ 0 < l.blockN)
    (hd : Hs.Pairwise (fun a b => ident hash false a ≠ ident hash false b))
    (hitems : ∀ x ∈ m, StreamItem Hs x)
    (hcover : ∀ l ∈ Hs, Item.log l ∈ m) :
    (firstEvent hash m).Perm (Hs.map (·.payload)) := by
  unfold firstEvent
  rw [run_eq_map_runL]
  apply List.Perm.map
  -- a log item of the stream is a log of the history or flagged removed; no item is a timer
  have hlog : ∀ l : Log P, Item.log l ∈ m → l.removed = false → l ∈ Hs := by
    intro l hl hr
    rcases hitems _ hl with ⟨l', hl', h⟩ | ⟨l', h, hr'⟩ | h
    · cases h; exact hl'
    · cases h; rw [hr] at hr'; cases hr'
    · cases h
  have hne : NoExpire m := by
    intro x hx i he
    rcases hitems x hx with ⟨l, _, h⟩ | ⟨l, h, _⟩ | h <;> (rw [he] at h; cases h)
  have hpos : PosBlocks m := fun l hl hr => (hH l (hlog l hl hr)).2
  have hmem : ∀ l, l ∈ runL hash false [] m → l ∈ Hs := fun l hl =>
    have ⟨h1, h2⟩ := runL_sub hash false m [] l hl
    hlog l h1 h2
  have nd1 : (runL hash false [] m).Nodup :=
    (runL_pairwise hash false m [] hne hpos).imp (fun h e => h (by rw [e]))
  have nd2 : Hs.Nodup := hd.imp (fun h e => h (by rw [e]))
  refine (List.perm_ext_iff_of_nodup nd1 nd2).2 (fun l => ⟨hmem l, fun hl => ?_⟩)
  obtain ⟨l', h1, h2⟩ := runL_complete hash false m [] l hne (hcover l hl) (hH l hl).1 (lookup_nil _)
  have : l' = l := eq_of_ident_eq hd (hmem l' h1) hl h2
  rw [← this]; exact h1

/-- **1. interleaving_once.** `k` endpoints, each emitting logs of the history `Hs` (pairwise different
identities, block numbers > 0) in any order with any repetitions, removed-flagged re-emissions
and foreign values; every log of `Hs` is emitted un-removed by at least one endpoint.  For ANY
interleaving `m` of the `k` streams, within the de-duplication window, the handlers receive a
permutation of the payloads of `Hs`: each log exactly once, payload unchanged. -/
theorem interleaving_once (hash : Bytes → H) (Hs : List (Log P)) (ss : List (List (Item H P)))
    (m : List (Item H P))
    (hH : ∀ l ∈ Hs, l.removed = false ∧ 0 < l.blockN)
    (hd : Hs.Pairwise (fun a b => ident hash false a ≠ ident hash false b))
    (hstreams : ∀ s ∈ ss, ∀ x ∈ s, StreamItem Hs x)
    (hcover : ∀ l ∈ Hs, ∃ s ∈ ss, Item.log l ∈ s)
    (hm : Interleaving ss m) :
    (firstEvent hash m).Perm (Hs.map (·.payload)) := by
  apply once_any_order hash Hs m hH hd
  · intro x hx
    obtain ⟨s, hs, hxs⟩ := (hm.mem_iff x).1 hx
    exact hstreams s hs x hxs
  · intro l hl
    exact (hm.mem_iff _).2 (hcover l hl)

section examples
def la : Log Nat := { data := [0xaa], blockN := 5, tx := [1], index := 0, removed := false, payload := 10 }
def lb : Log Nat := { data := [0xaa], blockN := 5, tx := [1], index := 1, removed := false, payload := 11 }  -- same data, same block
def lc : Log Nat := { data := [0xbb], blockN := 6, tx := [2], index := 0, removed := false, payload := 12 }
def s1 : List (Item Bytes Nat) := [.log la, .log lb, .log lc]
def s2 : List (Item Bytes Nat) := [.log lc, .log { lb with removed := true }, .log la, .other, .log lb]
def mix : List (Item Bytes Nat) := [.log lc, .log la, .log { lb with removed := true }, .log lb, .log la, .log lc, .other, .log lb]
example : Interleaving [s1, s2] mix :=
  .next 1 rfl (.next 0 rfl (.next 1 rfl (.next 0 rfl (.next 1 rfl (.next 0 rfl (.next 1 rfl (.next 1 rfl
    (.done (by decide)))))))))
example : firstEvent (fun b => b) mix = [12, 10, 11] := by decide
end examples

/-- **1'. the de-duplication window made precise.** The 1500 s timers of `firstEvent` may fire anywhere in
the run (`expire` items inserted anywhere into an interleaving of the endpoint streams) as long
as each fires after the last un-removed observation of its identity (`WithinWindow`): the
handlers still receive each log exactly once. -/
theorem interleaving_once_window (hash : Bytes → H) (Hs : List (Log P)) (ss : List (List (Item H P)))
    (m : List (Item H P))
    (hH : ∀ l ∈ Hs, l.removed = false ∧ 0 < l.blockN)
    (hd : Hs.Pairwise (fun a b => ident hash false a ≠ ident hash false b))
    (hstreams : ∀ s ∈ ss, ∀ x ∈ s, StreamItem Hs x)
    (hcover : ∀ l ∈ Hs, ∃ s ∈ ss, Item.log l ∈ s)
    (hm : Interleaving ss (stripExpire m))
    (hw : WithinWindow hash false m) :
    (firstEvent hash m).Perm (Hs.map (·.payload)) := by
  rw [firstEvent_strip hash m hw]
  exact interleaving_once hash Hs ss (stripExpire m) hH hd hstreams hcover hm

/-- **1''. timers as events.**  `firstEvent` starts one timer goroutine per delivered log; every access to the map —
the loop's test-and-set and each timer's delete — is a critical section of one mutex (/repo 53944d4 put the lock
around the timers' `delete(visited, …)`), so the timer goroutines are concurrent SOURCES like the
endpoints: `m` is ANY interleaving of the endpoint streams and of the timer streams (`timerStreams ts`, each timer
fires once; any set of timers, any number firing back to back).  As long as each fires after the last un-removed
observation of its identity (1500 s after the delivery in the code: `dedup_window_is_1500s`), the handlers receive
each log exactly once. -/
theorem interleaving_once_timers (hash : Bytes → H) (Hs : List (Log P)) (ss : List (List (Item H P)))
    (ts : List (Ident H)) (m : List (Item H P))
    (hH : ∀ l ∈ Hs, l.removed = false ∧ 0 < l.blockN)
    (hd : Hs.Pairwise (fun a b => ident hash false a ≠ ident hash false b))
    (hstreams : ∀ s ∈ ss, ∀ x ∈ s, StreamItem Hs x)
    (hcover : ∀ l ∈ Hs, ∃ s ∈ ss, Item.log l ∈ s)
    (hm : Interleaving (ss ++ timerStreams ts) m)
    (hw : WithinWindow hash false m) :
    (firstEvent hash m).Perm (Hs.map (·.payload)) := by
  rw [firstEvent_strip hash m hw]
  apply interleaving_once hash Hs _ (stripExpire m) hH hd ?_ ?_ hm.map_strip
  · intro s hs x hx
    obtain ⟨s0, h0, rfl⟩ := List.mem_map.1 hs
    obtain ⟨hx0, hne⟩ := mem_stripExpire.1 hx
    rcases List.mem_append.1 h0 with h0 | h0
    · exact hstreams s0 h0 x hx0
    · obtain ⟨i, _, rfl⟩ := List.mem_map.1 h0
      simp at hx0
      exact absurd hx0 (hne i)
  · intro l hl
    obtain ⟨s, hs, hls⟩ := hcover l hl
    exact ⟨stripExpire s, List.mem_map.2 ⟨s, List.mem_append_left _ hs, rfl⟩,
      mem_stripExpire.2 ⟨hls, fun i h => by cases h⟩⟩

example : Interleaving ([s1, s2] ++ timerStreams [ident (fun b => b) false lc, ident (fun b => b) false la])
      (mix ++ [.expire (ident (fun b => b) false la), .expire (ident (fun b => b) false lc)]) ∧
    WithinWindow (fun b => b) false (mix ++ [.expire (ident (fun b => b) false la), .expire (ident (fun b => b) false lc)]) ∧
    firstEvent (fun b => b) (mix ++ [.expire (ident (fun b => b) false la), .expire (ident (fun b => b) false lc)]) = [12, 10, 11] := by
  refine ⟨?_, ?_, by decide⟩
  · exact .next 1 rfl (.next 0 rfl (.next 1 rfl (.next 0 rfl (.next 1 rfl (.next 0 rfl (.next 1 rfl (.next 1 rfl
      (.next 3 rfl (.next 2 rfl (.done (by decide)))))))))))
  · simp only [mix, List.cons_append, List.nil_append, WithinWindow, Unobserved, and_true]
    refine ⟨?_, ?_⟩ <;> intro l hl <;> simp at hl

/-- … and outside the window the same log is delivered again: the window is what bounds "exactly once". -/
theorem redelivered_after_window (hash : Bytes → H) (l : Log P) (hr : l.removed = false) :
    firstEvent hash [.log l, .expire (ident hash false l), .log l] = [l.payload, l.payload] := by
  -- block 0 is never remembered (`block_zero_not_remembered`); any other block is, until the timer deletes it
  by_cases hb : l.blockN = 0 <;> simp [firstEvent, run, step, hr, hb, lookup]

example : firstEvent (fun b => b) ([.log la, .log lb, .expire (ident (fun b => b) false la), .log lb, .log lc] : List (Item Bytes Nat)) = [10, 11, 12]
    ∧ WithinWindow (fun b => b) false ([.log la, .log lb, .expire (ident (fun b => b) false la), .log lb, .log lc] : List (Item Bytes Nat)) := by
  refine ⟨by decide, ?_⟩
  simp only [WithinWindow, Unobserved, and_true]
  intro l hl _
  simp at hl
  rcases hl with rfl | rfl <;> decide

/-- **2. removed_never.** Whatever arrives in whatever order (timers included): every delivered payload
belongs to a log that arrived NOT flagged removed, and the removed-flagged values have no
influence on the output at all. -/
theorem removed_never (hash : Bytes → H) (m : List (Item H P)) :
    (∀ p ∈ firstEvent hash m, ∃ l : Log P, Item.log l ∈ m ∧ l.removed = false ∧ l.payload = p) ∧
    firstEvent hash m =
      firstEvent hash (m.filter (fun x => match x with | .log l => !l.removed | _ => true)) := by
  constructor
  · intro p hp
    unfold firstEvent at hp
    rw [run_eq_map_runL, List.mem_map] at hp
    obtain ⟨l, hl, rfl⟩ := hp
    obtain ⟨h1, h2⟩ := runL_sub hash false m [] l hl
    exact ⟨l, h1, h2, rfl⟩
  · exact run_filter_removed hash false m []

example : firstEvent (fun b => b) ([.log { la with removed := true }, .log lc, .log { lc with removed := true }] : List (Item Bytes Nat)) = [12] := by
  decide

/-- **3. endpoint_failure_tolerated.** Every endpoint but one may stop at any point (its stream is cut
to an arbitrary prefix, `merge` keeps forwarding the others and ends only when all have ended):
as long as one endpoint `j` delivers its complete stream covering the history, the handlers
still receive each log exactly once. -/
theorem endpoint_failure_tolerated (hash : Bytes → H) (Hs : List (Log P))
    (ss ss' : List (List (Item H P))) (j : Nat) (c : List (Item H P)) (m : List (Item H P))
    (hH : ∀ l ∈ Hs, l.removed = false ∧ 0 < l.blockN)
    (hd : Hs.Pairwise (fun a b => ident hash false a ≠ ident hash false b))
    (hstreams : ∀ s ∈ ss, ∀ x ∈ s, StreamItem Hs x)
    (hcut : ∀ (i : Nat) (s' : List (Item H P)), ss'[i]? = some s' → ∃ s, ss[i]? = some s ∧ s' <+: s)  -- endpoint i's surviving stream is a prefix of its full one
    (hj : ss'[j]? = some c) (hjc : ∀ l ∈ Hs, Item.log l ∈ c) -- endpoint j is complete
    (hm : Interleaving ss' m) :
    (firstEvent hash m).Perm (Hs.map (·.payload)) := by
  apply interleaving_once hash Hs ss' m hH hd ?_ ?_ hm
  · intro s' hs' x hx
    obtain ⟨i, hi, hget⟩ := List.getElem_of_mem hs'
    obtain ⟨s, hs, hp⟩ := hcut i s' (by rw [List.getElem?_eq_getElem hi, hget])
    exact hstreams s (List.mem_of_getElem? hs) x (hp.subset hx)
  · intro l hl
    exact ⟨c, List.mem_of_getElem? hj, hjc l hl⟩

example : firstEvent (fun b => b) ([.log la, .log lc, .log lb, .log lc] : List (Item Bytes Nat)) = [10, 12, 11] ∧
    Interleaving [[Item.log la], [.log lc, .log lb, .log lc, .log la].take 3] ([.log la, .log lc, .log lb, .log lc] : List (Item Bytes Nat)) :=
  ⟨by decide, .next 0 rfl (.next 1 rfl (.next 1 rfl (.next 1 rfl (.done (by decide)))))⟩

/-- **3'. endpoint failure with the node's reaction to it.** Endpoint `failed` fails at any point; its
watchers report errors and the consumer answers each report with `DisconnectWs(Idx)`
(`streamsAfterReports`: an endpoint named by a report stops forwarding at that moment).  If every
report names the endpoint that actually failed — which `error_path_faithful` /
`reported_index_is_the_failed_endpoint` establish for the table as it is — then any other endpoint `j`
that delivers its complete stream still gets each log of the history to the handlers exactly once,
including everything it emits after the failure. -/
theorem endpoint_failure_tolerated_with_disconnect (hash : Bytes → H) (Hs : List (Log P))
    (eps : List (Endpoint H P)) (failed j : Nat) (reports : List Nat) (ep : Endpoint H P)
    (m : List (Item H P))
    (hH : ∀ l ∈ Hs, l.removed = false ∧ 0 < l.blockN)
    (hd : Hs.Pairwise (fun a b => ident hash false a ≠ ident hash false b))
    (hitems : ∀ e ∈ eps, ∀ x ∈ e.before ++ e.after, StreamItem Hs x)
    (hreports : ∀ r ∈ reports, r = failed)
    (hj : eps[j]? = some ep) (hjf : j ≠ failed) (hjc : ∀ l ∈ Hs, Item.log l ∈ ep.before ++ ep.after)
    (hm : Interleaving (streamsAfterReports failed reports 0 eps) m) :
    (firstEvent hash m).Perm (Hs.map (·.payload)) := by
  apply interleaving_once hash Hs _ m hH hd ?_ ?_ hm
  · intro s hs x hx
    obtain ⟨k, hk⟩ := List.getElem?_of_mem hs
    rw [streamsAfterReports_get, Option.map_eq_some_iff] at hk
    obtain ⟨e, he, rfl⟩ := hk
    refine hitems e (List.mem_of_getElem? he) x ?_
    split at hx
    · exact List.mem_append_left _ hx
    · exact hx
  · intro l hl
    have hnr : ¬ (0 + j = failed ∨ 0 + j ∈ reports) := by
      rw [Nat.zero_add]
      exact fun h => h.elim hjf fun h => hjf (hreports _ h)
    exact ⟨_, List.mem_of_getElem? (by rw [streamsAfterReports_get, hj, Option.map_some, if_neg hnr]), hjc l hl⟩

/-- … and a report that names a healthy endpoint does stop its delivery: two endpoints, endpoint 1 fails,
one of its reports says 0, the log endpoint 0 emits afterwards never reaches the handlers. -/
example :
    let eps : List (Endpoint Bytes Nat) := [{ before := [.log la], after := [.log lc] }, { before := [.log la], after := [] }]
    streamsAfterReports 1 [1, 0] 0 eps = [[.log la], [.log la]] ∧
    streamsAfterReports 1 [1, 1] 0 eps = [[.log la, .log lc], [.log la]] := by
  simp [streamsAfterReports]

/-- observation (outside the property: no mined log has block number 0): the membership test is
`visited[id] == 0` with the block number as the stored value, so a log with block number 0 is
never remembered and is delivered again. -/
theorem block_zero_not_remembered (hash : Bytes → H) (l : Log P) (hr : l.removed = false) (hb : l.blockN = 0) :
    firstEvent hash [.log l, .log l] = [l.payload, l.payload] := by
  simp [firstEvent, run, step, hr, hb, lookup]

/-- F9, the defect repaired by /repo commit 26ddfe5: under the old identity (hash of data and block
number only) two distinct logs with equal data in one block collapse — the second is never
delivered, for every hash function; under the identity the code has now both are delivered. -/
theorem f9_before_fix (hash : Bytes → H) (a b : Log P) (hda : a.data = b.data) (hbn : a.blockN = b.blockN)
    (hra : a.removed = false) (hrb : b.removed = false) (hpos : 0 < a.blockN)
    (hdist : a.tx ≠ b.tx ∨ a.index ≠ b.index) :
    run hash true [] [.log a, .log b] = [a.payload] ∧
    firstEvent hash [.log a, .log b] = [a.payload, b.payload] := by
  have hid : ident hash true b = ident hash true a := by simp [ident, hda, hbn]
  have h0 : a.blockN ≠ 0 := by omega
  constructor
  · simp [run, step, hra, hrb, lookup, hid, h0]
  · have he : ¬ ident hash false a = ident hash false b := distinct_positions_distinct_identities hash a b hdist
    simp [firstEvent, run, step, hra, hrb, lookup, he]

example : run (fun b => b) true [] ([.log la, .log lb] : List (Item Bytes Nat)) = [10] ∧
    firstEvent (fun b => b) ([.log la, .log lb] : List (Item Bytes Nat)) = [10, 11] := by decide

/-! ### 4. the subscription table (regenerated facts) -/

open Dos.Gen.EventTable

/-- what the property means by one subscription: index constant, its value, the ABI event -/
structure Row where
  const : String
  index : Nat
  event : String
  deriving DecidableEq, Repr

/-- the seven subscriptions of the node -/
def subscribedRows : List Row := [
  ⟨"SubscribeLogGrouping", 4, "LogGrouping"⟩,
  ⟨"SubscribeLogGroupDissolve", 7, "LogGroupDissolve"⟩,
  ⟨"SubscribeLogUrl", 2, "LogUrl"⟩,
  ⟨"SubscribeLogUpdateRandom", 0, "LogUpdateRandom"⟩,
  ⟨"SubscribeLogRequestUserRandom", 1, "LogRequestUserRandom"⟩,
  ⟨"SubscribeLogPublicKeyAccepted", 5, "LogPublicKeyAccepted"⟩,
  ⟨"SubscribeCommitrevealLogStartCommitreveal", 13, "LogStartCommitReveal"⟩]

/-- the other table entries (not subscribed by the node: outside the property, reported separately) -/
def otherRows : List Row := [
  ⟨"SubscribeLogValidationResult", 3, "LogValidationResult"⟩,
  ⟨"SubscribeLogPublicKeySuggested", 6, "LogPublicKeySuggested"⟩,
  ⟨"SubscribeLogInsufficientPendingNode", 8, "LogInsufficientPendingNode"⟩,
  ⟨"SubscribeLogInsufficientWorkingGroup", 9, "LogInsufficientWorkingGroup"⟩,
  ⟨"SubscribeLogGroupingInitiated", 11, "LogGroupingInitiated"⟩,
  ⟨"SubscribeCommitrevealLogCommit", 14, "LogCommit"⟩,
  ⟨"SubscribeCommitrevealLogReveal", 15, "LogReveal"⟩,
  ⟨"SubscribeCommitrevealLogRandom", 16, "LogRandom"⟩]

/-- node-struct fields whose ABI argument has another name: the only renaming admitted -/
def renamed : List (String × String × String) := [("LogPublicKeyAccepted", "WorkingGroupSize", "NumWorkingGroups")]

def sourceName (ev field : String) : String :=
  match renamed.find? (fun r => r.1 == ev && r.2.1 == field) with
  | some r => r.2.2
  | none => field

def lookupS {β : Type} (l : List (String × β)) (k : String) : Option β :=
  (l.find? (fun p => p.1 == k)).map (·.2)

/-- the `LogCommon` literal every entry must build -/
def commonLiteral : List (String × String) :=
  [("Tx", "i.Raw.TxHash.Hex()"), ("BlockN", "i.Raw.BlockNumber"), ("Removed", "i.Raw.Removed"), ("Raw", "i.Raw"), ("log", "l")]

/-- one field assignment is faithful: same-named (or admitted renamed) binding field of the same type;
the only admitted transformation is `LogGrouping.NodeId := map Address.Bytes i.NodeId` -/
def assignFaithful (ev : String) (bind node : StructDef) (a : String × Src) : Bool :=
  match a.2, lookupS node.fields a.1 with
  | .field src, some nty =>
    src == sourceName ev a.1 && lookupS bind.fields src == some nty
  | .mapAddrBytes src, some nty =>
    ev == "LogGrouping" && a.1 == "NodeId" && src == "NodeId" && nty == "[][]byte" &&
      lookupS bind.fields src == some "[]common.Address"
  | _, _ => false

/-- the WHOLE function of a table entry as the property admits it (go/printer text, line by line, white space
normalised; `«B»` = element type of transitChan, `«W»` = the Watch method, `&«L»` = the literal of the node struct, whose
content `assigns` carries): make the channels, start ONE goroutine that subscribes, reports a failed
subscription with `getWsIndex(ctx)`, and loops: context done → return; subscription error → report, continue;
a binding event → `pre` (nothing, or the address→bytes loop of LogGrouping), build `l`, wrap it in `LogCommon`, send it
(or return when the context is done).  NOTHING else: a statement after the literal that changes a field, a second
send, a filter on the values makes the list differ. -/
def entryBodyLines (param recv : String) (pre : List String) : List String :=
  ["func(ctx context.Context, " ++ param ++ ") (chan interface{}, chan error) {",
    "out := make(chan interface{})",
    "errc := make(chan error)",
    "opt := &bind.WatchOpts{}",
    "go func() {",
    "transitChan := make(chan *«B»)",
    "defer close(transitChan)",
    "defer close(errc)",
    "defer close(out)",
    "sub, err := " ++ recv ++ ".«W»(opt, transitChan)",
    "if err != nil {",
    "replyError(ctx, errc, &OnchainError{err: errors.Errorf(\"SubscribeEvent err: %w\", err), Idx: getWsIndex(ctx)})",
    "return",
    "}",
    "defer sub.Unsubscribe()",
    "for {",
    "var log *LogCommon",
    "select {",
    "case <-ctx.Done():",
    "return",
    "case err, ok := <-sub.Err():",
    "if !ok {",
    "return",
    "}",
    "replyError(ctx, errc, &OnchainError{err: errors.Errorf(\"SubscribeEvent err: %w\", err), Idx: getWsIndex(ctx)})",
    "continue",
    "case i, ok := <-transitChan:",
    "if !ok {",
    "return",
    "}"] ++ pre ++
   ["l := &«L»",
    "log = &LogCommon{",
    "Tx: i.Raw.TxHash.Hex(),",
    "BlockN: i.Raw.BlockNumber,",
    "Removed: i.Raw.Removed,",
    "Raw: i.Raw,",
    "log: l,",
    "}",
    "}",
    "select {",
    "case <-ctx.Done():",
    "return",
    "case out <- log:",
    "}",
    "}",
    "}()",
    "return out, errc",
    "}"]

/-- the address→bytes loop of the LogGrouping entry (the ONE admitted transformation) -/
def groupingLoop : List String :=
  ["var participants [][]byte",
    "for _, p := range i.NodeId {",
    "id := p.Bytes()",
    "participants = append(participants, id)",
    "}"]

/-- the LogUpdateRandom entry as it is: the same function with debug prints to stdout (no influence on what is delivered) -/
def updateRandomBody : List String :=
  ["func(ctx context.Context, proxy *dosproxy.DosproxySession) (chan interface{}, chan error) {",
    "out := make(chan interface{})",
    "errc := make(chan error)",
    "opt := &bind.WatchOpts{}",
    "go func() {",
    "defer fmt.Println(\"[Onchain] end SubscribeLogUpdateRandom\")",
    "transitChan := make(chan *«B»)",
    "defer close(transitChan)",
    "defer close(errc)",
    "defer close(out)",
    "sub, err := proxy.Contract.«W»(opt, transitChan)",
    "if err != nil {",
    "replyError(ctx, errc, &OnchainError{err: errors.Errorf(\"SubscribeEvent err: %w\", err), Idx: getWsIndex(ctx)})",
    "return",
    "}",
    "defer sub.Unsubscribe()",
    "for {",
    "var log *LogCommon",
    "select {",
    "case <-ctx.Done():",
    "fmt.Println(\"[Onchain] ctx.Done\")",
    "return",
    "case err, ok := <-sub.Err():",
    "if !ok {",
    "fmt.Println(\"[Onchain] sub.Err !ok\")",
    "return",
    "}",
    "fmt.Print(fmt.Errorf(\"[Onchain] sub.Err %+v \\n\", err))",
    "replyError(ctx, errc, &OnchainError{err: errors.Errorf(\"SubscribeEvent err: %w\", err), Idx: getWsIndex(ctx)})",
    "continue",
    "case i, ok := <-transitChan:",
    "if !ok {",
    "fmt.Println(\"[Onchain] transitChan !ok\")",
    "return",
    "}",
    "l := &«L»",
    "log = &LogCommon{",
    "Tx: i.Raw.TxHash.Hex(),",
    "BlockN: i.Raw.BlockNumber,",
    "Removed: i.Raw.Removed,",
    "Raw: i.Raw,",
    "log: l,",
    "}",
    "}",
    "select {",
    "case <-ctx.Done():",
    "return",
    "case out <- log:",
    "}",
    "}",
    "}()",
    "return out, errc",
    "}"]

def expectedBody (ev : String) (cr : Bool) : List String :=
  if ev == "LogUpdateRandom" then updateRandomBody
  else if cr then entryBodyLines "cr *commitreveal.CommitrevealSession" "cr.Contract" []
  else entryBodyLines "proxy *dosproxy.DosproxySession" "proxy.Contract" (if ev == "LogGrouping" then groupingLoop else [])

/-- the table entry of one subscription is faithful -/
def rowFaithful (r : Row) : Bool :=
  let cr := decide (13 ≤ r.index)      -- SubscribeEvent sends indices ≥ SubscribeCommitrevealLogStartCommitreveal to crTable
  let pkg := if cr then "commitreveal" else "dosproxy"
  let pre := if cr then "commitreveal.Commitreveal" else "dosproxy.Dosproxy"
  lookupS consts r.const == some r.index &&
  lookupS consts "SubscribeCommitrevealLogStartCommitreveal" == some 13 &&
  match entries.filter (fun e => e.index == r.index || e.key == r.const) with
  | [e] =>
    e.key == r.const && e.index == r.index &&
    e.table == (if cr then "crTable" else "proxyTable") &&
    e.watchRecv == (if cr then "cr.Contract(opt,transitChan)" else "proxy.Contract(opt,transitChan)") &&
    e.watch == "Watch" ++ r.event &&
    e.binding == pre ++ r.event &&
    watchMethods.contains { pkg := pkg, name := e.watch, sink := e.binding, event := r.event } &&
    e.target == r.event &&
    e.commonType == "LogCommon" && e.common == commonLiteral && e.sent == "log" && e.counts == (1, 1, 1) &&
    e.body == expectedBody r.event cr &&                  -- the whole function, statement by statement
    (match bindingStructs.find? (fun s => s.name == e.binding), nodeStructs.find? (fun s => s.name == e.target) with
     | some b, some n =>
       e.assigns.map (·.1) == n.fields.map (·.1) &&      -- EVERY field of the node struct, once, nothing else
       e.assigns.all (assignFaithful r.event b n)
     | _, _ => false)
  | _ => false

/-- `rowFaithful` on all fifteen rows in ONE evaluation: within a declaration the kernel turns each string literal of
the table into its bytes once, and that conversion is most of the work. -/
theorem rows_evaluated :
    subscribedRows.all rowFaithful = true ∧
    (otherRows.filter rowFaithful).map (·.event) =
      ["LogInsufficientPendingNode", "LogInsufficientWorkingGroup", "LogCommit", "LogReveal", "LogRandom"] ∧
    (otherRows.filter (fun r => !rowFaithful r)).map (·.event) =
      ["LogValidationResult", "LogPublicKeySuggested", "LogGroupingInitiated"] := by decide +kernel

/-- the node subscribes to exactly the seven events of the property -/
theorem node_subscribes_the_seven : subscribed = subscribedRows.map (·.const) := rfl

/-- **4. table_faithful.** For each of the 7 subscriptions: the entry sits at its own index constant, in
the table `SubscribeEvent` dispatches that index to; calls the `Watch` method of the same ABI
event on a channel of the same binding type; builds the node struct of the same event, assigns
EVERY field of it from the same-named binding field of the same type (admitted: the renaming
in `renamed`, and `LogGrouping.NodeId := map Address.Bytes`); fills `LogCommon` from
`Raw.TxHash / BlockNumber / Removed / Raw`; and sends exactly that value; and the entry function consists of
exactly the statements of `entryBodyLines` (nothing before, between or after the two literals touches a field). -/
theorem table_faithful : subscribedRows.all rowFaithful = true := rows_evaluated.1

example : rowFaithful ⟨"SubscribeLogUrl", 2, "LogUrl"⟩ = true ∧ rowFaithful ⟨"SubscribeLogUrl", 2, "LogUpdateRandom"⟩ = false :=
  ⟨List.all_eq_true.mp table_faithful _ (.tail _ (.tail _ (.head _))), by decide +kernel⟩

/-- a statement after the literal makes the body differ -/
example : entryBodyLines "p" "r" [] ≠ entryBodyLines "p" "r" ["if len(l.DataSource) > 8192 {", "l.DataSource = \"\"", "}"] :=
  fun h => absurd (congrArg List.length h) (by decide)

/-- **the de-duplication window** (regenerated): `firstEvent` has exactly one timer call,
`time.After(firstEventWindow)`; the package variable it names is initialised to a constant product that
evaluates to 1 500 000 ms = 1500 s and is assigned nowhere in eth_subscribe.go.  This is the window of
`interleaving_once_window` / `interleaving_once_timers` / `redelivered_after_window`. -/
theorem dedup_window_is_1500s :
    dedupTimerCalls = ["time.After(firstEventWindow)"] ∧ dedupWindowMillis = 1500 * 1000 ∧ dedupWindowAssignments = 0 :=
  ⟨rfl, rfl, rfl⟩

/-- **firstEvent, the whole function** (regenerated, go/printer text): the statements `Model/Events.lean` transcribes —
non-`*LogCommon` ignored, removed skipped, identity = sha256(data ‖ big(BlockN).Bytes()) ‖ TxHash ‖ be64(Index) with the
FULL `uint64(content.Raw.Index)`, the `== 0` test and the store of `BlockN` in ONE critical section of `mu`, delivery of
`content.log`, one timer goroutine per delivered log whose `delete` holds the same `mu`. -/
theorem firstEvent_shape : firstEventBody =
    ["func firstEvent(ctx context.Context, source chan interface{}) (out chan interface{}) {",
      "out = make(chan interface{})",
      "go func() {",
      "defer close(out)",
      "var mu sync.Mutex",
      "visited := make(map[string]uint64)",
      "for {",
      "select {",
      "case <-ctx.Done():",
      "return",
      "case event, ok := <-source:",
      "if !ok {",
      "return",
      "}",
      "if content, ok := event.(*LogCommon); ok {",
      "if content.Removed {",
      "continue",
      "}",
      "var bytes []byte",
      "bytes = append(bytes, content.Raw.Data...)",
      "bytes = append(bytes, new(big.Int).SetUint64(content.BlockN).Bytes()...)",
      "nHash := sha256.Sum256(bytes)",
      "var logIndex [8]byte",
      "binary.BigEndian.PutUint64(logIndex[:], uint64(content.Raw.Index))",
      "identity := string(nHash[:]) + string(content.Raw.TxHash[:]) + string(logIndex[:])",
      "mu.Lock()",
      "first := visited[identity] == 0",
      "if first {",
      "visited[identity] = content.BlockN",
      "}",
      "mu.Unlock()",
      "if first {",
      "select {",
      "case out <- content.log:",
      "case <-ctx.Done():",
      "}",
      "go func(identity string) {",
      "select {",
      "case <-ctx.Done():",
      "case <-time.After(firstEventWindow):",
      "mu.Lock()",
      "delete(visited, identity)",
      "mu.Unlock()",
      "}",
      "}(identity)",
      "}",
      "}",
      "}",
      "}",
      "}()",
      "return",
      "}"] :=
  rfl

/-- observation on the entries the node does NOT subscribe to: the faithful ones, and the ones that are not
(`LogValidationResult.Version`, `LogPublicKeySuggested.GroupSize/Count` and both fields of
`LogGroupingInitiated` are not taken from the same-named ABI field). A change here is reported. -/
theorem other_entries_observation :
    (otherRows.filter rowFaithful).map (·.event) =
      ["LogInsufficientPendingNode", "LogInsufficientWorkingGroup", "LogCommit", "LogReveal", "LogRandom"] ∧
    (otherRows.filter (fun r => !rowFaithful r)).map (·.event) =
      ["LogValidationResult", "LogPublicKeySuggested", "LogGroupingInitiated"] := rows_evaluated.2

/-- every table entry is one of the 15 rows above, and no index is used twice -/
theorem table_complete :
    entries.map (·.index) = [0, 2, 1, 3, 8, 9, 11, 4, 5, 6, 7, 13, 14, 15, 16] ∧
    (entries.map (·.index)).Nodup ∧
    entries.all (fun e => (subscribedRows ++ otherRows).any (fun r => r.index == e.index && r.const == e.key)) = true :=
  ⟨rfl, by decide, by decide +kernel⟩

/-- **4'. the error path of every table entry** (all 15, regenerated): both places that report a failure — the
`Watch…` call failing and the `<-sub.Err()` case — hand an `OnchainError` to `replyError(ctx, errc, …)` whose
`Idx` is `getWsIndex(ctx)`; `getWsIndex` reads the key `Connect` puts on the websocket contexts with the value
`len(e.wsCtxes)`, i.e. the position at which that context and its cancel function are appended;
`SubscribeEvent` runs the entries on `e.wsCtxes[i]`; and `DisconnectWs(idx)` cancels `e.wsCancels[idx]`. -/
theorem error_path_faithful :
    entries.all (fun e => e.errs ==
      [("watch", "replyError(ctx, errc, _)", "getWsIndex(ctx)"), ("subErr", "replyError(ctx, errc, _)", "getWsIndex(ctx)")]) = true ∧
    getWsIndexKey = "wsIndex" ∧ getIndexKey = "index" ∧
    connectWithValues = [("index", "len(e.ctxes)"), ("wsIndex", "len(e.wsCtxes)")] ∧
    connectAppends = [("e.ctxes", "ctx"), ("e.cancels", "cancel"), ("e.wsCtxes", "ctx"), ("e.wsCancels", "cancel")] ∧
    subscribeTableCalls = ["crTable(e.wsCtxes[i], e.wsCrs[i])", "proxyTable(e.wsCtxes[i], e.wsProxies[i])"] ∧
    disconnectWsBody = "{ if e.wsCancels[idx] != nil { e.wsCancels[idx]() } return }" :=
  ⟨by decide +kernel, rfl, rfl, rfl, rfl, rfl, rfl⟩

/-- consequently every error report of every entry, on websocket endpoint `k`, carries `Idx = k`:
the hypothesis `hreports` of `endpoint_failure_tolerated_with_disconnect`. -/
theorem reported_index_is_the_failed_endpoint (k : Nat) :
    ∀ e ∈ entries, ∀ t ∈ e.errs, reportIdx t.2.2 k = some k := by
  intro e he t ht
  -- both error sites of `e` carry `getWsIndex(ctx)`: `error_path_faithful`
  have herrs := List.all_eq_true.mp error_path_faithful.1 e he
  rw [beq_iff_eq] at herrs
  rw [herrs] at ht
  have : t.2.2 = "getWsIndex(ctx)" := by
    rcases List.mem_cons.mp ht with rfl | ht
    · rfl
    · rw [List.mem_singleton.mp ht]
  simp [reportIdx, this]

/-- the `Idx` an error site of the regenerated table computes on websocket endpoint `i`; an expression the
model does not know is taken to name ANOTHER endpoint (the pessimistic reading) -/
def evalIdx (expr : String) (i : Nat) : Nat :=
  match reportIdx expr i with
  | some k => k
  | none => i + 1

/-- **the reports the code produces** when websocket endpoint `i` fails while the node is subscribed to the
table indices `ts`: every subscription (entry) of that endpoint may report through each of its error sites,
with the `Idx` expression of that site in the REGENERATED table evaluated at `i`. -/
def codeReports (ts : List Nat) (i : Nat) : List Nat :=
  ts.flatMap (fun t => (entries.filter (fun e => e.index == t)).flatMap
    (fun e => e.errs.map (fun r => evalIdx r.2.2 i)))

/-- every report the code produces for a failing endpoint names that endpoint -/
theorem code_reports_name_the_failed_endpoint (ts : List Nat) (i : Nat) :
    ∀ r ∈ codeReports ts i, r = i := by
  intro r hr
  simp only [codeReports, List.mem_flatMap, List.mem_filter, List.mem_map] at hr
  obtain ⟨t, _, e, ⟨he, _⟩, x, hx, rfl⟩ := hr
  simp [evalIdx, reported_index_is_the_failed_endpoint i e he x hx]

example : codeReports (subscribedRows.map (·.index)) 1 = List.replicate 14 1 := by decide

/-- **3''. endpoint failure tolerated by the node as it is** — no hypothesis about the reports: endpoint `failed`
fails at any point; the consumer handles the reports the code produces for it (`codeReports`, built from the
regenerated table for the node's seven subscriptions — or any selection `reports` of them, since a watcher
whose context is already cancelled does not report) by disconnecting the endpoint each one names; any other
endpoint `j` that delivers its complete stream still gets each log to the handlers exactly once, including
everything it emits after the failure. -/
theorem endpoint_failure_tolerated_node (hash : Bytes → H) (Hs : List (Log P))
    (eps : List (Endpoint H P)) (failed j : Nat) (reports : List Nat) (ep : Endpoint H P)
    (m : List (Item H P))
    (hH : ∀ l ∈ Hs, l.removed = false ∧ 0 < l.blockN)
    (hd : Hs.Pairwise (fun a b => ident hash false a ≠ ident hash false b))
    (hitems : ∀ e ∈ eps, ∀ x ∈ e.before ++ e.after, StreamItem Hs x)
    (hsel : ∀ r ∈ reports, r ∈ codeReports (subscribedRows.map (·.index)) failed)
    (hj : eps[j]? = some ep) (hjf : j ≠ failed) (hjc : ∀ l ∈ Hs, Item.log l ∈ ep.before ++ ep.after)
    (hm : Interleaving (streamsAfterReports failed reports 0 eps) m) :
    (firstEvent hash m).Perm (Hs.map (·.payload)) :=
  endpoint_failure_tolerated_with_disconnect hash Hs eps failed j reports ep m hH hd hitems
    (fun r hr => code_reports_name_the_failed_endpoint _ failed r (hsel r hr)) hj hjf hjc hm

/-- the same with ALL reports of the code handled -/
theorem endpoint_failure_tolerated_node_all_reports (hash : Bytes → H) (Hs : List (Log P))
    (eps : List (Endpoint H P)) (failed j : Nat) (ep : Endpoint H P) (m : List (Item H P))
    (hH : ∀ l ∈ Hs, l.removed = false ∧ 0 < l.blockN)
    (hd : Hs.Pairwise (fun a b => ident hash false a ≠ ident hash false b))
    (hitems : ∀ e ∈ eps, ∀ x ∈ e.before ++ e.after, StreamItem Hs x)
    (hj : eps[j]? = some ep) (hjf : j ≠ failed) (hjc : ∀ l ∈ Hs, Item.log l ∈ ep.before ++ ep.after)
    (hm : Interleaving (streamsAfterReports failed (codeReports (subscribedRows.map (·.index)) failed) 0 eps) m) :
    (firstEvent hash m).Perm (Hs.map (·.payload)) :=
  endpoint_failure_tolerated_node hash Hs eps failed j _ ep m hH hd hitems (fun _ h => h) hj hjf hjc hm

example :
    let eps : List (Endpoint Bytes Nat) := [{ before := [.log la], after := [.log lc] }, { before := [.log la], after := [] }]
    streamsAfterReports 1 (codeReports (subscribedRows.map (·.index)) 1) 0 eps = [[.log la, .log lc], [.log la]] := by
  have : codeReports (subscribedRows.map (·.index)) 1 = List.replicate 14 1 := by decide
  simp [this, streamsAfterReports]

example : reportIdx "getWsIndex(ctx)" 2 = some 2 ∧ reportIdx "getIndex(ctx)" 2 = some 0 := by decide

end Dos.Props.C18
