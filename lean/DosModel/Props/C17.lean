/-
C17 — every p2p request gets its own reply, at most once, or a prompt error.

Property theorems only.  Sections 1–5 (helpers: `Proofs/Dispatch*.lean`) are about ONE connection, model
`Model/Dispatch.lean`: one event = one alternative of a `select` taken by one of
the goroutines on the request path; every theorem quantifies over EVERY
finite event sequence (every schedule, every mixture of replies, duplicates,
unknown nonces, cancellations and connection closes), starting from the empty
connection.  Section 6 (helpers: `Proofs/ConnTable*.lean`) is about the server-level tables ACROSS
connections, model `Model/ConnTable.lean`, over every history of its events from the empty network.
"Promptly" is measured by the correspondence run, not proved.
-/
import DosModel.Proofs.DispatchTrace
import DosModel.Proofs.ConnTableServe
import DosModel.Proofs.ConnTableGuard
import DosModel.Proofs.ConnTableCfg
import DosModel.Gen.P2PFlow

namespace Dos.Props.C17
open Dos Dos.Dispatch

/-- regenerated facts (go/ast over p2p/client.go, p2p/server.go) that the hand model relies on:
dispatch registers a request only when it is not a Reply, removes the entry when the reply comes,
counts the nonce up; packPipe completes only Replies. -/
theorem c17_code_shape :
    Gen.dispatchRegistersOnlyNonReply = true ∧ Gen.dispatchDeletesOnReply = true ∧
    Gen.dispatchNonceIncrements = true ∧ Gen.packCompletesOnlyReply = true := by decide

/-- regenerated facts: handleCallReq puts a deadline on the connection before the handshake and the
merge of the handshake's error channels closes on every path (/repo f31eb3c, f6d86ba: finding F13); the
`callHandler` model below is instantiated with their conjunction — "the handshake sub-procedure
always returns" — so theorem 5 is about the code as it is. -/
theorem c17_handshake_bounded : (Gen.handshakeDeadline && Gen.mergeErrorsReleases) = true := by decide

/-- regenerated fact: every dial in handleCallReq is bounded (net.DialTimeout or a method of a `net.Dialer{…}`
literal that sets Timeout/Deadline; /repo d4164a7) — "the dial always returns", the
second switch of the `callHandler` model. -/
theorem c17_dial_bounded : Gen.dialBounded = true := by decide

/-- **1. nonces are fresh**: on a connection no two requests ever carry the same nonce. -/
theorem nonce_fresh (evs : List Ev) (i j k : Nat)
    (hi : ((run init evs).reqs i).nonce = some k) (hj : ((run init evs).reqs j).nonce = some k) :
    i = j :=
  (run_inv evs init Inv.init).core.uniq i j k hi hj

/-- the nonce given at send is the connection's counter, which then moves on; once given it never changes -/
theorem nonce_is_counter (evs : List Ev) (i : Nat) (fwd : Bool)
    (hq : ((run init evs).reqs i).stage = .queued) (ht : ((run init evs).reqs i).rtype = .send)
    (hl : (run init evs).conn.stopped = false) (hf : fwd = true ∨ (run init evs).conn.ctxDone = true) :
    ((step (run init evs) (.dsend i fwd)).reqs i).nonce = some (run init evs).conn.next ∧
    (step (run init evs) (.dsend i fwd)).conn.next = (run init evs).conn.next + 1 ∧
    ∀ more, ((run (step (run init evs) (.dsend i fwd)) more).reqs i).nonce = some (run init evs).conn.next := by
  have hs := run_inv evs init Inv.init
  have h1 : ((step (run init evs) (.dsend i fwd)).reqs i).nonce = some (run init evs).conn.next := by
    simp [step, hq, ht, hl, hf, Sys.upd]
  refine ⟨h1, by simp [step, hq, ht, hl, hf], ?_⟩
  exact fun more => run_nonce_stable more _ (step_inv hs (.dsend i fwd)) i _ h1

/-- **2a. a reply with an unknown nonce completes nothing** (the state does not change at all) -/
theorem reply_unknown_nonce (s : Sys) (k m : Nat) (race win : Bool)
    (h : lookup s.conn.pending k = none) : step s (.reply k m race win) = s := by
  simp only [step, h]; split <;> rfl

/-- **2b. a reply with nonce `k` completes exactly the request that was given `k`, hands it that
very message, and removes the entry** — nobody else is touched.  (Stated for `race = false`: the caller's
context does not end between dispatch's test of it and `replyResult`; with `race = true` the caller may
take its `ctx.Done` instead, `complete_pending`.) -/
theorem reply_to_owner (evs : List Ev) (k m i : Nat) (win : Bool)
    (hl : lookup (run init evs).conn.pending k = some i)
    (hrun : (run init evs).conn.stopped = false)
    (hctx : ((run init evs).reqs i).ctxDone = false) :
    let s' := step (run init evs) (.reply k m false win)
    ((run init evs).reqs i).nonce = some k ∧
    (s'.reqs i).waiter = .got (.msg m) ∧ (s'.reqs i).vals = [.msg m] ∧ (s'.reqs i).closes = 1 ∧
    lookup s'.conn.pending k = none ∧ ∀ j, j ≠ i → s'.reqs j = (run init evs).reqs j := by
  have hs := run_inv evs init Inv.init
  generalize run init evs = s at *
  have hmem := lookup_mem hl
  obtain ⟨h1, _, h3, _⟩ := complete_pending hs hmem (.msg m) win
  intro s'
  have hs' : s' = ({ s with conn := { s.conn with pending := erase s.conn.pending k } } : Sys).upd i
        (fun r => r.complete .table (.msg m) win) := by
    show step s (.reply k m false win) = _
    simp [step, hrun, hl, hctx]
  refine ⟨hs.pend_nonce hmem, ?_, ?_, ?_, ?_, ?_⟩
  · rw [hs', upd_reqs_same]; exact (h3 hctx).1
  · rw [hs', upd_reqs_same]; exact (h3 hctx).2
  · rw [hs', upd_reqs_same]; exact h1
  · rw [hs']; exact lookup_erase _ _
  · intro j hj; rw [hs', upd_reqs_other _ _ _ _ hj]

/-- **2c. never another request's reply**: whatever the history, a reply message held by a caller was
carried by a reply event bearing the nonce of *that* caller's request (and by 1 nobody else has it). -/
theorem delivered_reply_is_own (evs : List Ev) (i m : Nat)
    (h : ((run init evs).reqs i).waiter = .got (.msg m)) :
    ∃ k race win, Ev.reply k m race win ∈ evs ∧ ((run init evs).reqs i).nonce = some k ∧
      ∀ j, ((run init evs).reqs j).nonce = some k → j = i := by
  have := run_own evs init [] Inv.init (by intro i m h; simp [Dispatch.init] at h) i m h
  obtain ⟨k, race, win, hm, hn⟩ := this
  exact ⟨k, race, win, by simpa using hm, hn, fun j hj => nonce_fresh evs j i k hj hn⟩

/-- **3. at most once**: whatever happens, a request's reply channel carries at most one value and is
closed at most once (a second close would be Go's "close of closed channel" panic), although every
holder of a by-value copy has its own `sync.Once`. -/
theorem at_most_once (evs : List Ev) (i : Nat) :
    ((run init evs).reqs i).closes ≤ 1 ∧ ((run init evs).reqs i).vals.length ≤ 1 :=
  ⟨((run_inv evs init Inv.init).core.req i).closes_le_one, ((run_inv evs init Inv.init).core.req i).vals_le_one⟩

/-- the call returns at most once: once the caller has an outcome, no later event changes it -/
theorem returns_once (evs more : List Ev) (i : Nat)
    (h : ((run init evs).reqs i).waiter ≠ .waiting) :
    ((run init (evs ++ more)).reqs i).waiter = ((run init evs).reqs i).waiter := by
  rw [run_append]
  exact run_waiter_stable more _ (run_inv evs init Inv.init) i h

/-- what the caller returns is what came on the channel, if anything did -/
theorem result_is_channel_value (evs : List Ev) (i : Nat) (v : Res) :
    ((run init evs).reqs i).waiter = .got v ↔ ((run init evs).reqs i).vals = [v] := by
  have := ((run_inv evs init Inv.init).core.req i).vals
  constructor
  · intro h; rw [this, h]
  · intro h; rw [this] at h
    cases hw : ((run init evs).reqs i).waiter <;> rw [hw] at h <;> simp at h
    rw [h]

/-- **4a. cancellation returns an error**: a caller still waiting when its context ends returns the
context's error (and by `returns_once` keeps it; by `at_most_once` nothing panics later). -/
theorem cancel_returns_error (evs : List Ev) (i : Nat)
    (hex : ((run init evs).reqs i).stage ≠ .absent)
    (hw : ((run init evs).reqs i).waiter = .waiting) :
    ((run (run init evs) [.cancel i, .waiterCtx i]).reqs i).waiter = .ctxErr := by
  generalize run init evs = s at *
  have h1 : step s (.cancel i) = s.upd i (fun r => { r with ctxDone := true }) := by
    simp [step, hex]
  have h2 : ((s.upd i (fun r => { r with ctxDone := true })).reqs i).waiter = .waiting ∧
      ((s.upd i (fun r => { r with ctxDone := true })).reqs i).ctxDone = true := by
    rw [upd_reqs_same]; exact ⟨hw, rfl⟩
  simp only [run, List.foldl_cons, List.foldl_nil, h1]
  generalize s.upd i (fun r => { r with ctxDone := true }) = s1 at h2
  have h3 : step s1 (.waiterCtx i) = s1.upd i (fun r => { r with waiter := .ctxErr }) := by
    simp [step, h2]
  rw [h3, upd_reqs_same]

/-- **4b. closing the connection fails every pending request**: when dispatch sees its context done it
empties the table, stops, and EVERY registered request gets exactly one completion (its reply channel
is closed exactly once, by the table copy): a caller whose own context is still live receives the
error `errClosed`; for a caller whose context had already ended the channel is closed without anybody
blocking — that caller either still takes the error or keeps/gets its context error, and in every case
it has returned once it takes its `ctx.Done` alternative. -/
theorem close_fails_pending (evs : List Ev) (win : List Nat)
    (hc : (run init evs).conn.ctxDone = true) (hl : (run init evs).conn.stopped = false) :
    let s' := step (run init evs) (.ctxDone win)
    s'.conn.pending = [] ∧ s'.conn.stopped = true ∧
    ∀ k i, (k, i) ∈ (run init evs).conn.pending →
      ((s'.reqs i).closes = 1 ∧ (s'.reqs i).onceT = true) ∧
      (((run init evs).reqs i).ctxDone = false →
          (s'.reqs i).waiter = .got .errClosed ∧ (s'.reqs i).vals = [.errClosed]) ∧
      (((run init evs).reqs i).ctxDone = true →
          ((s'.reqs i).waiter = ((run init evs).reqs i).waiter ∨ (s'.reqs i).waiter = .got .errClosed) ∧
          ((step s' (.waiterCtx i)).reqs i).waiter ≠ .waiting) := by
  have hs := run_inv evs init Inv.init
  generalize run init evs = s at *
  intro s'
  have hs' : s' = { failAll win s.conn.pending s with
      conn := { (failAll win s.conn.pending s).conn with pending := [], stopped := true } } := by
    show step s (.ctxDone win) = _
    simp [step, hc, hl]
  refine ⟨by rw [hs'], by rw [hs'], ?_⟩
  intro k i hki
  have hreq : s'.reqs i = (s.reqs i).complete .table .errClosed (win.contains i) := by
    rw [hs']; show (failAll win s.conn.pending s).reqs i = _
    rw [failAll_reqs, if_pos (List.contains_iff_mem.mpr (List.mem_map.mpr ⟨(k, i), hki, rfl⟩))]
  obtain ⟨h1, h2, h3, h4⟩ := complete_pending hs hki .errClosed (win.contains i)
  rw [← hreq] at h1 h2 h3 h4
  refine ⟨⟨h1, h2⟩, h3, fun hctx => ⟨(h4 hctx).2, ?_⟩⟩
  simp only [step]
  split
  · rw [upd_reqs_same]; nofun
  · rename_i hg; exact fun hwt => hg ⟨hwt, (h4 hctx).1⟩

/-- a reply that comes after its request was cancelled completes nothing and closes nothing -/
theorem late_reply_ignored (evs : List Ev) (k m i : Nat) (race win : Bool)
    (hl : lookup (run init evs).conn.pending k = some i)
    (hctx : ((run init evs).reqs i).ctxDone = true) :
    ∀ j, (step (run init evs) (.reply k m race win)).reqs j = (run init evs).reqs j := by
  intro j
  simp only [step]
  split
  · rfl
  · simp [hl, hctx]

/-- why `sync.Once` alone would not give 3: by-value copies do not share it.  Two copies of one
request object and `replyResult` on each close the channel twice (`Obj` is the request object with
arbitrarily many copies; its semantics is checked against real Go by the `obj` cases) … -/
theorem copies_do_not_share_once :
    ([OEv.copy 0, .fire 0 (.msg 5) false, .fire 1 (.msg 6) false].foldl ostep {}).closes = 2 := by decide

/-- … whereas one copy fires at most once, and a copy taken after the Once fired is inert -/
theorem one_copy_fires_once (o : Obj) (a : Nat) (v w : Res) (b c : Bool) :
    (ostep (ostep o (.fire a v b)) (.fire a w c)).closes = (ostep o (.fire a v b)).closes := by
  -- a fire is inert when the process has panicked or the copy's Once has fired …
  have inert : ∀ (o' : Obj) (v' : Res) (b' : Bool), (o'.closes ≥ 2 ∨ o'.onces[a]? ≠ some false) →
      ostep o' (.fire a v' b') = o' := by
    intro o' v' b' h
    simp only [ostep]
    split
    · rfl
    · split
      · exact absurd ‹_› (h.resolve_left ‹_›)
      · rfl
  by_cases h : o.closes ≥ 2 ∨ o.onces[a]? ≠ some false
  · rw [inert o v b h, inert o w c h]
  · -- … and otherwise the first fire is what fires it
    have h1 : ¬ o.closes ≥ 2 := fun x => h (.inl x)
    have h2 : o.onces[a]? = some false := Decidable.not_not.mp fun x => h (.inr x)
    have hlt : a < o.onces.length := (List.getElem?_eq_some_iff.mp h2).1
    refine congrArg Obj.closes (inert _ w c (.inr ?_))
    simp only [ostep, h1, h2, if_false]
    split <;> simp [hlt]

/-! ### 5. a silent or black-holed peer does not wedge requests to other peers (`callHandler`) -/

/-- the full statement, parameterised by whether the handshake read (`deadline`) and the dial (`dialB`)
are bounded: every request to a peer that answers is handed on, whatever the other requests in the history
are about — peers that refuse, fail the handshake, accept and stay silent, or never answer the SYN. -/
def silent_peer_isolated_full (deadline dialB : Bool) : Prop :=
  ∀ (h : Handler) (evs : List HEv) (i p : Nat), h.wedged = false →
    HEv.call i p .ok ∈ evs → HOut.handed i p ∈ (hrun deadline dialB h evs).2

theorem hstep_not_wedged (h : Handler) (e : HEv) (hw : h.wedged = false) :
    (hstep true true h e).1.wedged = false :=
  hstep_not_wedged_of true true h e hw (stalls_bounded e)

example : (hstep true true {} (.call 0 7 .blackhole)).1.wedged = false ∧
    (hstep true true {} (.call 0 7 .silent)).1.wedged = false := ⟨rfl, rfl⟩

/-- **5. with the handshake and the dial bounded (the code's values: `c17_handshake_bounded`,
`c17_dial_bounded`)** every request to a peer that answers is handed to that peer's client, whatever other
peers do — refuse, fail the handshake, stay silent or never answer the SYN — before or after it. -/
theorem silent_peer_isolated : silent_peer_isolated_full true true :=
  fun h evs i p hw hm => handed_of_no_stall true true h evs i p hw (fun e _ => stalls_bounded e) hm

example : HOut.handed 2 8 ∈
    (hrun true true {} [.call 0 7 .silent, .call 1 9 .blackhole, .call 2 8 .ok]).2 := by decide

/-- the same for the code's own values of the switches -/
theorem silent_peer_isolated_code :
    silent_peer_isolated_full (Gen.handshakeDeadline && Gen.mergeErrorsReleases) Gen.dialBounded := by
  rw [c17_handshake_bounded, c17_dial_bounded]; exact silent_peer_isolated

/-- **with the dial bounded a request to a black-holed peer gets an error** (and one to a silent peer with
the handshake bounded), and the handler goes on: it is not wedged afterwards. -/
theorem blackhole_request_fails (h : Handler) (i p : Nat) (dl : Bool) (hw : h.wedged = false)
    (hc : h.clients.contains p = false) :
    hstep dl true h (.call i p .blackhole) = (h, [.failed i]) := by
  rw [hstep_call_new dl true h i p .blackhole hw hc]; rfl

example : hstep false true {} (.call 3 7 .blackhole) = ({}, [.failed 3]) := rfl

/-- **F13 (repaired by /repo f31eb3c)**: without a bound on the handshake read the statement is false —
one silent peer, then a request to a healthy one, which is never handed on. -/
theorem silent_peer_wedges_without_deadline (dialB : Bool) : ¬ silent_peer_isolated_full false dialB := by
  intro h
  have := h {} [.call 0 7 .silent, .call 1 8 .ok] 1 8 rfl (by simp)
  revert this; cases dialB <;> decide

/-- **the unbounded dial (repaired by /repo d4164a7)**: with a bare `net.Dial` the statement
is false although the handshake is bounded — the node is CONNECTED to the healthy peer 8 (first request),
one request goes to a black-holed peer, and no later request to peer 8 is handed on, though none of them
needs a dial. -/
theorem blackhole_wedges_without_dial_bound (deadline : Bool) : ¬ silent_peer_isolated_full deadline false := by
  intro h
  have := h {} [.call 0 8 .ok, .call 1 7 .blackhole, .call 2 8 .ok] 2 8 rfl (by simp)
  revert this; cases deadline <;> decide

example : (hrun true false {} [.call 0 8 .ok, .call 1 7 .blackhole, .call 2 8 .ok, .call 3 8 .ok]).2 = [.handed 0 8] := rfl

/-- … and it is total: once the unbounded dial has been entered for a black-holed peer that is not yet a
client, NOTHING is handed on or failed any more, whatever is asked afterwards (requests wait at `sendReq`
until their own deadline). -/
theorem blackhole_wedge_is_total (deadline : Bool) (h : Handler) (i p : Nat) (evs : List HEv)
    (hw : h.wedged = false) (hc : h.clients.contains p = false) :
    (hrun deadline false h (.call i p .blackhole :: evs)).2 = [] := by
  simp only [hrun]
  rw [hstep_call_new deadline false h i p .blackhole hw hc]
  simp only [Bool.false_eq_true, if_false]
  rw [hrun_wedged deadline false _ evs rfl]; rfl

example : (hrun true false {} (.call 0 7 .blackhole :: [.call 1 8 .ok, .call 2 9 .refused, .remove 8])).2 = [] := rfl

/-- … and with neither bound: as long as no peer stays silent and none is black-holed nothing wedges -/
theorem silent_peer_isolated_partial (h : Handler) (evs : List HEv) (i p : Nat) (hw : h.wedged = false)
    (hns : ∀ j q, HEv.call j q .silent ∉ evs) (hnb : ∀ j q, HEv.call j q .blackhole ∉ evs)
    (hm : HEv.call i p .ok ∈ evs) :
    HOut.handed i p ∈ (hrun false false h evs).2 := by
  refine handed_of_no_stall false false h evs i p hw (fun e he => ?_) hm
  cases e with
  | call j q d =>
    cases d with
    | ok | refused | hsFail => rfl
    | silent => exact absurd he (hns j q)
    | blackhole => exact absurd he (hnb j q)
  | _ => rfl

example : HOut.handed 2 8 ∈ (hrun false false {} [.call 0 7 .refused, .call 1 9 .hsFail, .call 2 8 .ok]).2 := by
  decide

/-- every request the handler takes is answered one way or the other: handed to a client or failed
with an error — never silently lost -/
theorem handler_answers (h : Handler) (i p : Nat) (d : Dial) (hw : h.wedged = false) :
    (hstep true true h (.call i p d)).2 = [.handed i p] ∨ (hstep true true h (.call i p d)).2 = [.failed i] := by
  cases hc : h.clients.contains p
  · rw [hstep_call_new true true h i p d hw hc]; cases d <;> simp
  · rw [hstep_call_known true true h i p d hw hc]; simp

example : (hstep true true {} (.call 4 7 .blackhole)).2 = [.failed 4] ∧
    (hstep true true { clients := [7] } (.call 4 7 .blackhole)).2 = [.handed 4 7] := ⟨rfl, rfl⟩

/-! ### 5b. replies whose signature does not verify (`net` acts `S`, `B`) -/

/-- regenerated facts the `net` driver is instantiated with: decodeBytes verifies every package under the
handshake key before it hands it on, and decodePipe verifies it again, each dropping the frame on failure —
for replies and requests alike. (Both are guard checks on the text of the functions; what actually ties reply
verification to the code is the correspondence run: acts `S<m>`/`B<m>`, oracle `unsigned-reply-accepted`.) -/
theorem c17_reply_verified : (Gen.decodeVerifiesFirst || Gen.decodePipeVerifiesAgain) = true := by decide

/-- with verification a reply in a package whose signature does not verify is no event at all: the scripted
peer's "bad reply, then the good one" is the good reply, "bad reply only" is a dropped request. -/
theorem bad_signature_reply_is_no_event (j g nonce : Nat) :
    actEvents true j g nonce .badGood = actEvents true j g nonce .reply ∧
    actEvents true j g nonce .badOnly = actEvents true j g nonce .drop := ⟨rfl, rfl⟩

example : connOutcomes true [(0, .badGood), (1, .badOnly), (2, .reply)] = [(0, "ok"), (1, "err"), (2, "ok")] := by
  decide

/-- … and what the model says when replies are NOT verified: the caller is handed the payload that came in
the badly signed package (own + 2), in both scenarios — what the oracle `unsigned-reply-accepted` looks for. -/
theorem unverified_reply_would_be_returned :
    connOutcomes false [(0, .badGood), (1, .badOnly)] =
      [(0, s!"ok-wrong:{ownPayload 0 + 2}"), (1, s!"ok-wrong:{ownPayload 1 + 2}")] := by decide

example : ownPayload 1 + 2 = 12 := rfl

/-! ### non-vacuity: concrete histories -/

/-- three requests; replies arrive out of order, one twice, one with an unknown nonce; one request is
cancelled; then the connection closes -/
def demo : List Ev :=
  [.create .send 0, .create .send 0, .create .send 0, .create .reply 5,
   .toHandler 0, .toSendG 0, .enqueue 0, .dsend 0 true, .pack 0 false,
   .toHandler 1, .toSendG 1, .enqueue 1, .dsend 1 true, .pack 1 false,
   .toHandler 2, .toSendG 2, .enqueue 2, .dsend 2 true, .pack 2 false,
   .toHandler 3, .toSendG 3, .enqueue 3, .dsend 3 true, .pack 3 false,
   .reply 1 111 false false, .reply 1 999 false false, .reply 7 555 false false,
   .cancel 2, .waiterCtx 2, .reply 2 222 false false,
   .close, .ctxDone []]

example : ((run init demo).reqs 0).waiter = .got .errClosed := rfl
example : ((run init demo).reqs 1).waiter = .got (.msg 111) := rfl
example : ((run init demo).reqs 2).waiter = .ctxErr := rfl
example : ((run init demo).reqs 3).waiter = .got .nilOk := rfl
example : ((run init demo).reqs 1).nonce = some 1 ∧ ((run init demo).reqs 1).closes = 1 := ⟨rfl, rfl⟩
example : ((run init demo).reqs 2).closes = 0 := rfl
example : lookup (run init (demo.take 24)).conn.pending 1 = some 1 := rfl
example : (run init (demo.take 31)).conn.ctxDone = true ∧ (run init (demo.take 31)).conn.stopped = false ∧
    (run init (demo.take 31)).conn.pending = [(0, 0)] := ⟨rfl, rfl, rfl⟩
example : (hrun true true {} [.call 0 7 .silent, .call 1 8 .ok]).2 = [.failed 0, .handed 1 8] := rfl
example : (hrun false true {} [.call 0 7 .silent, .call 1 8 .ok]).2 = [] := rfl
example : (hrun true true {} [.call 0 8 .ok, .call 1 7 .blackhole, .call 2 8 .ok]).2 =
    [.handed 0 8, .failed 1, .handed 2 8] := rfl

/-! ### 6. across connections: the server-level connection tables (`Model/ConnTable.lean`)

A network of nodes running p2p/server.go (tables of inbound / outbound clients, dial, accept with the
duplicate guard, `runClient`'s removal report, `DisConnectTo`, idle close, restart) and of harness endpoints;
every theorem quantifies over EVERY finite history of `request / deliverReq / appReply / deliverReply / cut /
reject / close / procRm / disconnect / expire / reset` events, from the empty network `init ideal`, where
`ideal n` says that node `n` is a harness endpoint and not a node running the code. -/

/-- regenerated facts (go/ast over p2p/server.go, p2p/client.go): under which key each table is read, written
and deleted, what the duplicate guard compares, which table `runClient` reports to for a client started by
callHandler / receiveHandler, the refusal of a foreign announced id, per-connection keys and nonce base — the
configuration the code has is the one the theorems below are about. -/
theorem conn_table_code_shape : ConnTable.Cfg.code = ConnTable.Cfg.good := ConnTable.Cfg.code_eq_good

/-- … and what the model takes for granted besides: removals and `DisConnectTo` delete under the reported id on
callHandler's channel, Request and Reply pick the connection under the requested id. -/
theorem conn_table_keys :
    Gen.inRemoveKey = "string(id)" ∧ Gen.outRemoveKey = "string(id)" ∧ Gen.replyLookupKey = "string(req.id)" ∧
    Gen.outLookupKey = "string(req.id)" ∧ Gen.disconnectChannel = "n.removeCallingC" ∧ Gen.disconnectSends = "id" := by
  decide

/-- the statement skeleton of the connection-table code (Listen's accept goroutine, receiveHandler, callHandler,
runClient, handleCallReq, DisConnectTo, newClient, the key agreement of receiveID / sendID; logging left out) is
the one the model was transcribed from: ANY edit of these functions shows here first. -/
theorem conn_table_skeleton : Gen.connTableSkeleton = 
  [
    "accept | ctx, cancel := context.WithTimeout(n.ctx, 2*time.Second)",
    "accept | defer cancel()",
    "accept | c := newClient(n.id, fd, n.peersFeed, true)",
    "accept | errc := c.handShake(ctx)",
    "accept | for err = range errc",
    "accept | if err != nil | err = c.close()",
    "accept | if err != nil | return",
    "accept | case <-n.ctx.Done() | return",
    "accept | case n.addIncomingC <- c | (empty)",
    "accept | return",
    "receiveHandler | clients := make(map[string]*client)",
    "receiveHandler | for | case <-n.ctx.Done() | for _, client := range clients",
    "receiveHandler | for | case <-n.ctx.Done() | _, client := range clients | err := client.close()",
    "receiveHandler | for | case <-n.ctx.Done() | return",
    "receiveHandler | for | case c := <-n.addIncomingC | if clients[string(c.remoteID)] != nil | err := c.close()",
    "receiveHandler | for | case c := <-n.addIncomingC | if clients[string(c.remoteID)] != nil | continue",
    "receiveHandler | for | case c := <-n.addIncomingC | clients[string(c.remoteID)] = c",
    "receiveHandler | for | case c := <-n.addIncomingC | n.incomingNum = len(clients)",
    "receiveHandler | for | case c := <-n.addIncomingC | go n.runClient(c, true)",
    "receiveHandler | for | case id := <-n.removeIncomingC | c := clients[string(id)]",
    "receiveHandler | for | case id := <-n.removeIncomingC | if c := clients[string(id)]; c != nil | delete(clients, string(id))",
    "receiveHandler | for | case id := <-n.removeIncomingC | n.incomingNum = len(clients)",
    "receiveHandler | for | case req := <-n.replying | client := clients[string(req.id)]",
    "receiveHandler | for | case req := <-n.replying | if client == nil | req.replyResult(nil, err)",
    "receiveHandler | for | case req := <-n.replying | if client == nil | continue",
    "receiveHandler | for | case req := <-n.replying | go client.send(req)",
    "callHandler | addrToid := make(map[string][]byte)",
    "callHandler | clients := make(map[string]*client)",
    "callHandler | watchDog := time.NewTicker(5 * time.Second)",
    "callHandler | for | case <-n.ctx.Done() | for _, client := range clients",
    "callHandler | for | case <-n.ctx.Done() | _, client := range clients | err := client.close()",
    "callHandler | for | case <-n.ctx.Done() | err = n.ctx.Err()",
    "callHandler | for | case <-n.ctx.Done() | return",
    "callHandler | for | case <-watchDog.C | if !n.members.IsAlive() | err = errors.New(\"p2p cluster status is not alive\")",
    "callHandler | for | case <-watchDog.C | if !n.members.IsAlive() | return",
    "callHandler | for | case id, ok := <-n.removeCallingC | if ok | c := clients[string(id)]",
    "callHandler | for | case id, ok := <-n.removeCallingC | if ok | if c != nil | delete(addrToid, c.conn.RemoteAddr().String())",
    "callHandler | for | case id, ok := <-n.removeCallingC | if ok | if c != nil | delete(clients, string(id))",
    "callHandler | for | case id, ok := <-n.removeCallingC | if ok | n.callingNum = len(clients)",
    "callHandler | for | case req, ok := <-n.calling | if ok | c = clients[string(req.id)]",
    "callHandler | for | case req, ok := <-n.calling | if ok | if c = clients[string(req.id)]; c == nil | req.addr = n.members.Lookup(req.id)",
    "callHandler | for | case req, ok := <-n.calling | if ok | if c = clients[string(req.id)]; c == nil | c = n.handleCallReq(req)",
    "callHandler | for | case req, ok := <-n.calling | if ok | if c = clients[string(req.id)]; c == nil | if c = n.handleCallReq(req); c == nil | continue",
    "callHandler | for | case req, ok := <-n.calling | if ok | if c = clients[string(req.id)]; c == nil | if string(c.remoteID) != string(req.id) | req.replyResult(nil, err)",
    "callHandler | for | case req, ok := <-n.calling | if ok | if c = clients[string(req.id)]; c == nil | if string(c.remoteID) != string(req.id) | err := c.close()",
    "callHandler | for | case req, ok := <-n.calling | if ok | if c = clients[string(req.id)]; c == nil | if string(c.remoteID) != string(req.id) | continue",
    "callHandler | for | case req, ok := <-n.calling | if ok | if c = clients[string(req.id)]; c == nil | clients[string(req.id)] = c",
    "callHandler | for | case req, ok := <-n.calling | if ok | if c = clients[string(req.id)]; c == nil | go n.runClient(c, false)",
    "callHandler | for | case req, ok := <-n.calling | if ok | go c.send(req)",
    "callHandler | return",
    "runClient(c *client, inBound bool) | err := c.run()",
    "runClient(c *client, inBound bool) | if inBound | delpeer = n.removeIncomingC",
    "runClient(c *client, inBound bool) | else(inBound) | delpeer = n.removeCallingC",
    "runClient(c *client, inBound bool) | case <-n.ctx.Done() | return",
    "runClient(c *client, inBound bool) | case delpeer <- c.remoteID | (empty)",
    "handleCallReq | fd, err = (&net.Dialer{Timeout: 2 * time.Second}).DialContext(req.ctx, \"tcp\", req.addr)",
    "handleCallReq | if fd, err = (&net.Dialer{Timeout: 2 * time.Second}).DialContext(req.ctx, \"tcp\", req.addr); err != nil | req.replyResult(nil, err)",
    "handleCallReq | if fd, err = (&net.Dialer{Timeout: 2 * time.Second}).DialContext(req.ctx, \"tcp\", req.addr); err != nil | return",
    "handleCallReq | c = newClient(n.id, fd, n.peersFeed, true)",
    "handleCallReq | fd.SetDeadline(time.Now().Add(2 * time.Second))",
    "handleCallReq | errc := c.handShake(req.ctx)",
    "handleCallReq | for err = range errc",
    "handleCallReq | if err != nil | req.replyResult(nil, err)",
    "handleCallReq | if err != nil | err = c.close()",
    "handleCallReq | if err != nil | c = nil",
    "handleCallReq | if err != nil | return",
    "handleCallReq | fd.SetDeadline(time.Time{})",
    "handleCallReq | return",
    "DisConnectTo | case <-n.ctx.Done() | return errors.Errorf(\"server DisConnectTo : %w\", n.ctx.Err())",
    "DisConnectTo | case n.removeCallingC <- id | (empty)",
    "DisConnectTo | return",
    "newClient(localID []byte, conn net.Conn, peerFeed chan P2PMessage, inBound bool) | tcpConn, ok := conn.(*net.TCPConn)",
    "newClient(localID []byte, conn net.Conn, peerFeed chan P2PMessage, inBound bool) | tcpConn.SetKeepAlive(true)",
    "newClient(localID []byte, conn net.Conn, peerFeed chan P2PMessage, inBound bool) | tcpConn.SetKeepAlivePeriod(time.Second * 1)",
    "newClient(localID []byte, conn net.Conn, peerFeed chan P2PMessage, inBound bool) | c = &client{localID: localID, conn: tcpConn, inBound: inBound, errc: make(chan error)}",
    "newClient(localID []byte, conn net.Conn, peerFeed chan P2PMessage, inBound bool) | c.ctx, c.cancel = context.WithCancel(context.Background())",
    "newClient(localID []byte, conn net.Conn, peerFeed chan P2PMessage, inBound bool) | c.peerSend = make(chan p2pRequest, 21)",
    "newClient(localID []byte, conn net.Conn, peerFeed chan P2PMessage, inBound bool) | c.peerFeed = peerFeed",
    "newClient(localID []byte, conn net.Conn, peerFeed chan P2PMessage, inBound bool) | binary.Read(rand.Reader, binary.BigEndian, &c.nonceBase)",
    "newClient(localID []byte, conn net.Conn, peerFeed chan P2PMessage, inBound bool) | c.suite = suites.MustFind(\"bn256\")",
    "newClient(localID []byte, conn net.Conn, peerFeed chan P2PMessage, inBound bool) | c.localSecKey = c.suite.Scalar().Pick(c.suite.RandomStream())",
    "newClient(localID []byte, conn net.Conn, peerFeed chan P2PMessage, inBound bool) | c.localPubKey = c.suite.Point().Mul(c.localSecKey, nil)",
    "newClient(localID []byte, conn net.Conn, peerFeed chan P2PMessage, inBound bool) | return",
    "receiveID | go func | c.remoteID = id.GetId()",
    "receiveID | go func | if string(c.remoteID) == string(c.localID) | err = errors.Errorf(\"remoteID %b != localID %b: %w\", c.remoteID, c.localID, ErrDuplicateID)",
    "receiveID | go func | if string(c.remoteID) == string(c.localID) | utils.ReportError(ctx, errc, errors.Errorf(\"client : %w\", err))",
    "receiveID | go func | if c.remoteID == nil | err = errors.Errorf(\"remoteID is nil: %w\", ErrNoRemoteID)",
    "receiveID | go func | c.remotePubKey = pub",
    "receiveID | go func | dhKey := c.suite.Point().Mul(c.localSecKey, c.remotePubKey)",
    "receiveID | go func | dhBytes, err = dhKey.MarshalBinary()",
    "receiveID | go func | if dhBytes, err = dhKey.MarshalBinary(); err != nil | utils.ReportError(ctx, errc, errors.Errorf(\"MarshalBinary: %w\", err))",
    "receiveID | go func | if dhBytes, err = dhKey.MarshalBinary(); err != nil | return",
    "receiveID | go func | c.dhKey = dhBytes[0:32]",
    "receiveID | go func | c.dhNonce = dhBytes[32:44]",
    "sendID | go func | pubKeyBytes, err = c.localPubKey.MarshalBinary()",
    "sendID | go func | if pubKeyBytes, err = c.localPubKey.MarshalBinary(); err != nil | utils.ReportError(ctx, errc, errors.Errorf(\"MarshalBinary: %w\", err))",
    "sendID | go func | if pubKeyBytes, err = c.localPubKey.MarshalBinary(); err != nil | return",
    "sendID | go func | pID := &ID{PublicKey: pubKeyBytes, Id: c.localID}",
    "sendID | go func | bytes, err = encodeProto(pID, c.localID, nil, 0, false)",
    "sendID | go func | if bytes, err = encodeProto(pID, c.localID, nil, 0, false); err != nil | utils.ReportError(ctx, errc, errors.Errorf(\"encodeProto: %w\", err))"] := by rfl

open Dos.ConnTable in
/-- **6a. at most once, across every connection history**: once a call has returned — a reply or an error —
no later event (late or duplicated replies on any connection, reconnects, restarts) changes what it returned. -/
theorem hist_returns_at_most_once (cfg : Cfg) (ideal : Nat → Bool) (evs more : List ConnTable.Ev) (i : Nat)
    (hi : i < (ConnTable.run cfg (ConnTable.init ideal) evs).nreq)
    (h : ((ConnTable.run cfg (ConnTable.init ideal) evs).reqs i).out ≠ .waiting) :
    ((ConnTable.run cfg (ConnTable.init ideal) (evs ++ more)).reqs i).out =
      ((ConnTable.run cfg (ConnTable.init ideal) evs).reqs i).out := by
  rw [ConnTable.run_append]; exact run_out_stable cfg _ more i hi h

open Dos.ConnTable in
/-- **6b. never another request's reply, whatever happens to the connections**: in every history — requests in
flight when a connection is cut, DisConnectTo and a second connection, replies arriving late on whichever
connection the replying node picks, restarts of either side — a reply a call returns names that very call.
(Needs only the per-connection nonce base of `conn_table_code_shape`: `ConnTable.reply_is_own` is the statement for
every configuration that has it; the routing of the replying side plays no role.) -/
theorem hist_reply_is_own (ideal : Nat → Bool) (evs : List ConnTable.Ev) (i m : Nat)
    (h : ((ConnTable.run Cfg.code (ConnTable.init ideal) evs).reqs i).out = .got m) : m = i := by
  exact ConnTable.reply_is_own _ (by rw [conn_table_code_shape]; rfl) ideal evs i m h

open Dos.ConnTable in
/-- **6c. only on the connection it was sent on**: the one event that gives a call a reply is the arrival of the
oldest reply frame in flight on the connection whose dispatch registered the call, carrying the call's nonce. -/
theorem hist_reply_on_own_connection (ideal : Nat → Bool) (evs : List ConnTable.Ev) (e : ConnTable.Ev) (i m : Nat)
    (hw : ((ConnTable.run Cfg.code (ConnTable.init ideal) evs).reqs i).out = .waiting)
    (h : ((ConnTable.step Cfg.code (ConnTable.run Cfg.code (ConnTable.init ideal) evs) e).reqs i).out = .got m) :
    ∃ c ν rest, e = .deliverReply c ∧ ((ConnTable.run Cfg.code (ConnTable.init ideal) evs).reqs i).conn = some c ∧
      ((ConnTable.run Cfg.code (ConnTable.init ideal) evs).reqs i).nonce = some ν ∧
      ((ConnTable.run Cfg.code (ConnTable.init ideal) evs).conns c).repQ = (ν, m) :: rest := by
  exact ConnTable.reply_on_own_connection _ (by rw [conn_table_code_shape]; rfl) ideal evs e i m hw h

open Dos.ConnTable in
/-- **6d. no stale table entry**: in every history, an entry of callHandler's (receiveHandler's) table whose
connection has ended — `client.run` returned there: peer hang-up, cut, rejected frame, idle close — has its
removal reported and on the way; and an entry points to a connection this node dialled to (accepted from)
exactly that peer. -/
theorem hist_no_stale_entry (ideal : Nat → Bool) (evs : List ConnTable.Ev) (n p c : Nat) :
    let s := ConnTable.run Cfg.code (ConnTable.init ideal) evs
    ((s.nodes n).out p = some c → (s.conns c).d = n ∧ (s.conns c).a = p ∧
        ((s.conns c).retD = true → (true, p) ∈ (s.nodes n).rm)) ∧
    ((s.nodes n).inb p = some c → (s.conns c).a = n ∧ (s.conns c).d = p ∧
        ((s.conns c).retA = true → (false, p) ∈ (s.nodes n).rm)) := by
  rw [conn_table_code_shape]
  have hT := run_tabInv (TabInv.init ideal) evs n
  intro s
  exact ⟨fun h => ⟨(hT.outEntry p c h).2.1, (hT.outEntry p c h).2.2.1, hT.outRemoval p c h⟩,
         fun h => ⟨(hT.inbEntry p c h).2.1, (hT.inbEntry p c h).2.2.1, hT.inbRemoval p c h⟩⟩

open Dos.ConnTable in
/-- … and taking a reported removal deletes the entry (so the next request dials again) -/
theorem removal_clears_entry (s : ConnTable.Net) (n k p : Nat) (isCall : Bool)
    (h : (s.nodes n).rm[k]? = some (isCall, p)) :
    if isCall then ((ConnTable.step Cfg.code s (.procRm n k)).nodes n).out p = none
    else ((ConnTable.step Cfg.code s (.procRm n k)).nodes n).inb p = none := by
  exact procRm_clears_entry _ s n k p isCall h

open Dos.ConnTable in
/-- **6e. after a connection has ended, a later request to that peer is served**: after ANY history, if neither
side has an entry for the other any more (by 6d that is where every ended connection gets once its reported
removals are taken), a request of `a` to `b` (reachable: the dial meets `b`) opens a new connection, reaches
`b`'s application, and the reply `b` addresses to it comes back to exactly that call. -/
theorem hist_served_after_end (ideal : Nat → Bool) (evs : List ConnTable.Ev) (a b : Nat) :
    let s := ConnTable.run Cfg.code (ConnTable.init ideal) evs
    (s.nodes a).out b = none → (s.ideal b = true ∨ (s.nodes b).inb a = none) →
    ((ConnTable.run Cfg.code s (serveEvs s a b)).reqs s.nreq).out = .got s.nreq := by
  rw [conn_table_code_shape]
  intro s ho hi
  exact served_on_fresh_connection s a b ho hi

open Dos.ConnTable in
/-- **6f. other peers are unaffected**: whatever happens with peer `q` — its connections cut, closed, rejected
frames, its removals taken, DisConnectTo, requests and replies in either direction, its restart — node `n`'s table
entries for another peer `p` stay as they are; only a request between `n` and `p`, `DisConnectTo(p)`, a removal
reported for `p` (by a connection with `p`: second part) or `n`'s own restart touch them. -/
theorem hist_other_peers_unaffected (ideal : Nat → Bool) (evs : List ConnTable.Ev) (e : ConnTable.Ev) (n p : Nat) :
    let s := ConnTable.run Cfg.code (ConnTable.init ideal) evs
    (touches s e n p = false →
      ((ConnTable.step Cfg.code s e).nodes n).out p = (s.nodes n).out p ∧
      ((ConnTable.step Cfg.code s e).nodes n).inb p = (s.nodes n).inb p) ∧
    (∀ t, (t, p) ∈ (s.nodes n).rm → ∃ c, c < s.nconn ∧
      (((s.conns c).d = n ∧ (s.conns c).ann = p) ∨ ((s.conns c).a = n ∧ (s.conns c).d = p))) := by
  rw [conn_table_code_shape]
  intro s
  refine ⟨(step_effect _ s e).tables_untouched n p, ?_⟩
  intro t h
  obtain ⟨c, hc, hx⟩ := (run_tabInv (TabInv.init ideal) evs n).removalFrom t p h
  exact ⟨c, hc, hx.elim (fun h => Or.inl h.2) (fun h => Or.inr h.2)⟩

open Dos.ConnTable in
/-- **6g. the reply goes back on the connection the request came in on** (what the duplicate-connection guard
buys): in every history, at a node running the code, when the application answers a message it holds and the
accepting end of the connection the message came in on still runs (`client.run` has not returned there), the
table entry `Reply` picks under the sender's id IS that connection — and if its wire is up the reply frame is put
on it.  (An accepted connection that runs is its peer's entry: a second one from the same id is closed by the
guard, and an entry is only deleted after its connection's `run` returned.) -/
theorem hist_reply_goes_back_on_its_connection (ideal : Nat → Bool) (evs : List ConnTable.Ev) (b k : Nat) (h : Held)
    (hib : ideal b = false) :
    let s := ConnTable.run Cfg.code (ConnTable.init ideal) evs
    (s.nodes b).held[k]? = some h → (s.conns h.conn).retA = false →
      (s.nodes b).inb h.sender = some h.conn ∧
      ((s.conns h.conn).clA = false → (s.conns h.conn).up = true →
        ((ConnTable.step Cfg.code s (.appReply b k)).conns h.conn).repQ = (s.conns h.conn).repQ ++ [(h.nonce, h.g)]) := by
  rw [conn_table_code_shape]
  intro s hk hrun
  have hG := run_guardInv (GuardInv.init ideal) evs
  have hib' : s.ideal b = false := by
    show (ConnTable.run Cfg.good (ConnTable.init ideal) evs).ideal b = false
    rw [run_ideal]; exact hib
  exact ⟨reply_target_is_arrival_connection hG b h (List.mem_of_getElem? hk) hib' hrun,
         fun hcl hup => appReply_on_arrival_connection hG b k h hk hib' hrun hcl hup⟩

/-- **without the per-connection nonce base (the code before /repo 2071f1f)**: with every connection's nonces
counting from 0, 6b is false — request 0 goes out on connection 0, the connection is cut, request 1 goes out on
connection 1, the peer's application answers request 0, the reply is written to connection 1 and handed to request 1. -/
theorem late_reply_crossed_reconnect_before_fix :
    ((ConnTable.run { ConnTable.Cfg.good with nonceBase := false } (ConnTable.init)
      [.request 0 1 (some 1), .deliverReq 0, .cut 0, .procRm 0 0, .procRm 1 0,
       .request 0 1 (some 1), .deliverReq 1, .appReply 1 0, .deliverReply 1]).reqs 1).out = .got 0 := by decide

/-- what the duplicate guard is for: were it to compare the wrong id (never firing), a second connection would
replace the first in the replying node's table while both are up, and the reply to a request of the first would
be written to the second — where nobody waits for it (the request runs into its deadline although its connection
is healthy and the peer answered). With the guard the reply goes back on the connection the request came in on. -/
theorem guard_keeps_reply_on_its_connection :
    let h := [ConnTable.Ev.request 0 1 (some 1), .deliverReq 0, .disconnect 0 1, .request 0 1 (some 1), .deliverReq 1,
              .appReply 1 0, .deliverReply 0, .deliverReply 1]
    ((ConnTable.run ConnTable.Cfg.good ConnTable.init h).reqs 0).out = .got 0 ∧
    ((ConnTable.run { ConnTable.Cfg.good with inGuard := .localId } ConnTable.init h).reqs 0).out = .waiting := by
  decide

/-- what reporting to the right table is for: were a client started by callHandler reported to receiveHandler,
the dead entry would stay and a later request would be handed to the dead connection — 6d and 6e fail. -/
theorem wrong_table_leaves_stale_entry :
    let h := [ConnTable.Ev.request 0 1 (some 1), .deliverReq 0, .appReply 1 0, .deliverReply 0, .cut 0,
              .procRm 0 0, .procRm 1 0, .request 0 1 (some 1), .deliverReq 0, .deliverReq 1]
    ((ConnTable.run ConnTable.Cfg.good ConnTable.init h).nodes 1).held.length = 1 ∧
    ((ConnTable.run { ConnTable.Cfg.good with outEndsOut := false } ConnTable.init h).nodes 1).held.length = 0 ∧
    ((ConnTable.run { ConnTable.Cfg.good with outEndsOut := false } ConnTable.init h).nodes 0).out 1 = some 0 := by
  decide

/-! non-vacuity of section 6: a concrete history with two nodes (0, 1) and a harness endpoint (2) -/
def histDemo : List ConnTable.Ev :=
  [.request 0 1 (some 1), .deliverReq 0, .request 0 2 (some 2), .deliverReq 1,
   .cut 0, .procRm 0 0, .procRm 1 0,
   .request 0 1 (some 1), .deliverReq 2, .appReply 1 0, .appReply 1 0, .deliverReply 2, .deliverReply 2,
   .appReply 2 0, .deliverReply 1, .expire 0]
def histIdeal : Nat → Bool := fun n => n == 2

example : ((ConnTable.run ConnTable.Cfg.code (ConnTable.init histIdeal) histDemo).reqs 0).out = .err := by
  rw [conn_table_code_shape]; decide +kernel
example : ((ConnTable.run ConnTable.Cfg.code (ConnTable.init histIdeal) histDemo).reqs 1).out = .got 1 := by
  rw [conn_table_code_shape]; decide +kernel
example : ((ConnTable.run ConnTable.Cfg.code (ConnTable.init histIdeal) histDemo).reqs 2).out = .got 2 := by
  rw [conn_table_code_shape]; decide +kernel
example : ((ConnTable.run ConnTable.Cfg.code (ConnTable.init histIdeal) histDemo).nodes 0).out 1 = some 2 := by
  rw [conn_table_code_shape]; decide +kernel
example : (ConnTable.run ConnTable.Cfg.code (ConnTable.init histIdeal) (histDemo.take 5)).nreq = 2 ∧
    ((ConnTable.run ConnTable.Cfg.code (ConnTable.init histIdeal) (histDemo.take 5)).nodes 0).out 1 = some 0 ∧
    ((ConnTable.run ConnTable.Cfg.code (ConnTable.init histIdeal) (histDemo.take 5)).conns 0).retD = true ∧
    ((ConnTable.run ConnTable.Cfg.code (ConnTable.init histIdeal) (histDemo.take 5)).nodes 0).rm = [(true, 1)] := by
  rw [conn_table_code_shape]; decide +kernel
example : ((ConnTable.run ConnTable.Cfg.code (ConnTable.init histIdeal) (histDemo.take 7)).nodes 0).out 1 = none ∧
    ((ConnTable.run ConnTable.Cfg.code (ConnTable.init histIdeal) (histDemo.take 7)).nodes 1).inb 0 = none := by
  rw [conn_table_code_shape]; decide +kernel
example : ConnTable.touches (ConnTable.run ConnTable.Cfg.code (ConnTable.init histIdeal) (histDemo.take 4)) (.cut 0) 0 2 = false := by
  rw [conn_table_code_shape]; decide +kernel
example : ((ConnTable.run ConnTable.Cfg.code (ConnTable.init histIdeal) (histDemo.take 2)).nodes 1).held[0]? =
      some { conn := 0, sender := 0, nonce := ⟨1, 0⟩, g := 0 } ∧
    ((ConnTable.run ConnTable.Cfg.code (ConnTable.init histIdeal) (histDemo.take 2)).conns 0).retA = false ∧
    histIdeal 1 = false := by
  rw [conn_table_code_shape]; decide +kernel

end Dos.Props.C17
