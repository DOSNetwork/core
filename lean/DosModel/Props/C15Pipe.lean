/-
C15 — the callers of `writeTo` / `readFrom`, every `Write` of the transport scripted, the
width of `int`, and who writes a connection. Property theorems only; lemmas in `Proofs/FramingPipe.lean`.
-/
import DosModel.Proofs.FramingPipe
import DosModel.Gen.P2PConsts
import DosModel.Gen.P2PFraming

namespace Dos.Props.C15Pipe
open Dos Dos.Framing Dos.Props.C15

/-- regenerated fact: the COMPLETE bodies of `client.readPipe` / `client.sendPipe` (go/printer, like
`c15_code_shape`). What `Model/FramingPipe.lean` transcribes: `readPipe` reports a failed `readFrom`
and RETURNS (the connection is not read again, whatever the error: EOF, reset, bad size);
`sendPipe` reports a failed `writeTo` and goes on with the next payload. -/
theorem c15_pipe_shape :
    Gen.P2PFraming.readPipe = [
      "sig func() (out chan []byte)",
      "0 out = make(chan []byte, 10)",
      "1 go func() { defer close(out) for { var buffer []byte var err error select { case <-c.ctx.Done(): return default: buffer, err = readFrom(c.conn) if err != nil { c.reportError(errors.Errorf(\"readPipe: %w\", err)) return } } select { case <-c.ctx.Done(): case out <- buffer: } } }()",
      "2 return out"] ∧
    Gen.P2PFraming.sendPipe = [
      "sig func(bytesC chan []byte)",
      "0 go func() { for { select { case <-c.ctx.Done(): return case bytes, ok := <-bytesC: if ok { err := writeTo(bytes, c.conn) if err != nil { c.reportError(errors.Errorf(\"client sendPipe: %w\", err)) } } } } }()",
      "1 return"] :=
  ⟨rfl, rfl⟩

/-- regenerated fact: who reads and who writes a connection. Every call site in package p2p of
`readFrom`, `writeTo`, the two pipes, `run`, `runClient`, the handshake and the deadline setters
("file:function:callee", `go:` = inside a goroutine literal or a `go` statement).
`writeTo` has two callers: `sendID` (the handshake; `handShake` is drained by `Listen` /
`handleCallReq` before the client is handed on) and the ONE goroutine of `sendPipe`, started by `run`,
which only `runClient` calls, once per client: one writer per connection at a time
(`two_writers_bleed_witness` shows what a second one would do). `readFrom`: `receiveID`, then the one
goroutine of `readPipe`. The only deadlines are the two `SetDeadline` calls of `handleCallReq` around
the handshake (set, then cleared before `run`): while the pipes run no `Write` can time out and later
succeed — the transport assumption of `pipe_no_bleed`. A new caller or a new deadline breaks this. -/
theorem c15_single_writer_shape :
    Gen.P2PFraming.callSites = [
      "client.go:handShake:receiveID",
      "client.go:handShake:sendID",
      "client.go:readPipe:go:readFrom",
      "client.go:receiveID:go:readFrom",
      "client.go:run:readPipe",
      "client.go:run:sendPipe",
      "client.go:sendID:go:writeTo",
      "client.go:sendPipe:go:writeTo",
      "server.go:Listen:go:handShake",
      "server.go:callHandler:go:runClient",
      "server.go:handleCallReq:SetDeadline",
      "server.go:handleCallReq:SetDeadline",
      "server.go:handleCallReq:handShake",
      "server.go:receiveHandler:go:runClient",
      "server.go:runClient:run"] :=
  rfl

/-- **9a. every `Write` scripted: short writes with a nil error and zero-byte writes.**  Whatever each
`Write` of the transport accepts — fewer bytes than offered with a nil error (outside the `io.Writer`
contract), nothing at all (`0, nil`), in any pattern `as` — as long as none returns an error the loop
of `writeTo` ends without an error and has handed the transport exactly header ++ payload. -/
theorem write_any_script (L : Nat) (p : Bytes) (hpL : p.length ≤ L) (as : List WAct)
    (hacc : ∀ a ∈ as, ∃ k, a = WAct.acc k) :
    ∃ w, writeFrameX L p as = some w ∧ w.err = false ∧ w.pieces.flatten = natBE 4 p.length ++ p := by
  refine ⟨writeLoopX (natBE 4 p.length ++ p) as, by simp [writeFrameX, (write_limit L p).2 hpL], ?_, ?_⟩
  · exact writeLoopX_noerr as _ hacc
  · obtain ⟨t, h1, h2, _⟩ := writeLoopX_prefix as (natBE 4 p.length ++ p)
    cases h2 (writeLoopX_noerr as _ hacc); simpa using h1
example : writeFrameX 1048576 [7, 9] [.acc 0, .acc 3, .acc 0, .acc 0, .acc 1] =
    some ⟨[[], [0, 0, 0], [], [], [2], [7, 9]], false, []⟩ := rfl

/-- **9b. a failing `Write` at any position.**  For every script: `writeTo` returns an error exactly when
a `Write` it issued failed; what the transport has accepted by then is a PREFIX of header ++ payload
(the bytes of the failing `Write` included, nothing after it), and the whole of it when no `Write`
failed. An oversize payload is refused before any `Write`. -/
theorem write_error_prefix (L : Nat) (p : Bytes) (as : List WAct) :
    (p.length > L → writeFrameX L p as = none) ∧
    (p.length ≤ L → ∃ w t, writeFrameX L p as = some w ∧ w.pieces.flatten ++ t = natBE 4 p.length ++ p ∧
      (w.err = false → t = []) ∧ (w.err = true → ∃ k, WAct.fail k ∈ as)) := by
  constructor
  · intro h; simp [writeFrameX, (write_limit L p).1 h]
  · intro hpL
    obtain ⟨t, h⟩ := writeLoopX_prefix as (natBE 4 p.length ++ p)
    exact ⟨_, t, by simp [writeFrameX, (write_limit L p).2 hpL], h⟩
example : writeFrameX 1048576 [7, 9] [.acc 1, .acc 0, .fail 2, .acc 9] =
    some ⟨[[0], [], [0, 0]], true, [.acc 9]⟩ := rfl

/-- **10. no bleed at the pipe level.**  `sendPipe` writes the payloads `ps` (each 1..L bytes) one after
the other on a connection whose `Write`s follow ANY script `as` and whose first failure is final (TCP
without a write deadline: `c15_single_writer_shape`); the transport re-cuts what it accepted into ANY
read chunking `cs` and then ends; `readPipe` on the other end delivers exactly a prefix `qs` of `ps`,
each payload unchanged and in order, followed by ONE error, and nothing else. `qs` contains every
frame whose `writeTo` succeeded before the first failing one, and at most one frame more (the one
whose failing `Write` had taken its last byte). -/
theorem pipe_no_bleed (L : Nat) (hL : L < 2 ^ 32) (ps : List Bytes)
    (hps : ∀ p ∈ ps, 1 ≤ p.length ∧ p.length ≤ L) (as : List WAct) (cs : List Bytes)
    (hcs : cs.flatten = (sendPipe L true false ps as).1.flatten) :
    ∃ qs e, (readPipe L cs).1 = qs.map .ok ++ [.error e] ∧ qs <+: ps ∧
      okCount (sendPipe L true false ps as).2 ≤ qs.length ∧
      qs.length ≤ okCount (sendPipe L true false ps as).2 + 1 := by
  obtain ⟨qs, pre, hq, hw, htr, h1, h2, _⟩ := sendPipe_wire_shape L ps as hps
  obtain ⟨j, h4⟩ := readPipe_wire L hL qs pre (fun p hp => hps p (hq.subset hp)) cs (hcs.trans hw)
  obtain ⟨e, he⟩ := parseFrame_trunc L hL pre htr
  exact ⟨qs, e, by rw [h4, parseFrames_error he], hq, h1, h2⟩
example : sendPipe 1048576 true false [[7, 9], [5], [6]] [.acc 4, .acc 2, .acc 3, .fail 1] =
      ([[0, 0, 0, 2], [7, 9], [0, 0, 0], [1]], [false, true, true]) ∧
    (readPipe 1048576 [[0, 0, 0, 2, 7], [9, 0, 0], [0, 1]]).1 = [.ok [7, 9], .error .body] := ⟨rfl, rfl⟩

/-- **10b. all frames written without an error arrive, whole and in order** (the case of 10 in which no
`Write` fails: short and zero-byte writes in any pattern, any read chunking). -/
theorem pipe_all_delivered (L : Nat) (hL : L < 2 ^ 32) (ps : List Bytes)
    (hps : ∀ p ∈ ps, 1 ≤ p.length ∧ p.length ≤ L) (as : List WAct) (cs : List Bytes)
    (hcs : cs.flatten = (sendPipe L true false ps as).1.flatten)
    (hok : okCount (sendPipe L true false ps as).2 = ps.length) :
    (readPipe L cs).1 = ps.map .ok ++ [.error .header] := by
  obtain ⟨qs, pre, hq, hw, _, h1, _, h2⟩ := sendPipe_wire_shape L ps as hps
  -- every `writeTo` succeeded: the wire holds all frames and nothing else
  cases hq.eq_of_length (Nat.le_antisymm hq.length_le (hok ▸ h1))
  cases h2 rfl
  obtain ⟨j, h4⟩ := readPipe_wire L hL ps [] hps cs (hcs.trans hw)
  rw [h4, parseFrames_error (e := .header) rfl]
example : okCount (sendPipe 1048576 true false [[7, 9], [5]] [.acc 0, .acc 5, .acc 0]).2 = 2 := rfl

/-- **10c. (the code as it is) why the transport assumption is needed.**  `sendPipe` goes on writing after
a failed `writeTo`. On a transport whose failed `Write` is NOT final (a write deadline would do that;
the code sets none while the pipes run) the next frame follows the torn one and the reader, still
inside the torn frame, delivers a payload that nobody sent: here `[7, 0]` for `[7, 9]`, `[5]`.
Replayed on the real `sendPipe` / `readPipe` at every run (case `pipe 0 0709;05 e5 -`). -/
theorem transient_write_error_bleeds :
    sendPipe 1048576 false false [[7, 9], [5]] [.fail 5] =
      ([[0, 0, 0, 2, 7], [0, 0, 0, 1, 5]], [true, false]) ∧
    (readPipe 1048576 [[0, 0, 0, 2, 7], [0, 0, 0, 1, 5]]).1 = [.ok [7, 0], .error .body] ∧
    -- the same script on a transport whose failure is final: nothing after the torn frame, an error
    sendPipe 1048576 true false [[7, 9], [5]] [.fail 5] = ([[0, 0, 0, 2, 7]], [true, true]) ∧
    (readPipe 1048576 [[0, 0, 0, 2, 7]]).1 = [.error .body] :=
  ⟨rfl, rfl, rfl, rfl⟩

/-- **11. the width of `int`.**  `size` is a `uint32`; the check is an unsigned comparison; the content
loop compares against `int(size)`. For every `int` of at least 32 bits (GOARCH=386 and amd64 alike) and
every limit below 2^31 the conversion is exact and `readFrom` with the code's integer types
(`readFrameW`) IS `readFrame`, for every stream and chunking: all theorems about `readFrame` hold on
both platforms. -/
theorem int_width_irrelevant (w : Nat) (hw : w = 32 ∨ w = 64) (L : Nat) (hL : L < 2 ^ 31)
    (cs : List Bytes) : readFrameW w L cs = readFrame L cs :=
  readFrameW_eq w (by omega) L hL cs
example : (readFrameW 32 1048576 [[0, 0], [0, 2, 7], [9, 5], [6]]).out = .ok [7, 9] ∧
    (readFrameW 64 1048576 [[0, 0], [0, 2, 7], [9, 5], [6]]).rest = [[5], [6]] := ⟨rfl, rfl⟩

/-- the code's limit is below 2^31, so 11 applies to it (regenerated constant) -/
theorem int_width_at_code_limit (cs : List Bytes) :
    readFrameW 32 Gen.msgSizeLimit cs = readFrame Gen.msgSizeLimit cs ∧
    readFrameW 64 Gen.msgSizeLimit cs = readFrame Gen.msgSizeLimit cs := by
  have h : Gen.msgSizeLimit < 2 ^ 31 := by decide
  exact ⟨readFrameW_eq 32 (by omega) _ h cs, readFrameW_eq 64 (by omega) _ h cs⟩

/-- **11b. what the size check protects on a 32-bit `int`**: from 2^31 on, `int(size)` is negative
(the content loop would not run and the zero-filled buffer would come back as the payload); below it
the conversion is exact. The check `size > msgSizeLimit` comes first (`c15_code_shape`, statement 5). -/
theorem int32_wraps_from_2_31 :
    intOfU32 32 (BitVec.ofNat 32 (2 ^ 31)) < 0 ∧ intOfU32 64 (BitVec.ofNat 32 (2 ^ 31)) = 2 ^ 31 ∧
    (∀ x : BitVec 32, x.toNat < 2 ^ 31 → intOfU32 32 x = x.toNat ∧ intOfU32 64 x = x.toNat) :=
  ⟨by decide, by decide, fun x hx => ⟨intOfU32_exact 32 (by omega) x hx, intOfU32_exact 64 (by omega) x hx⟩⟩

/-- the writer's `uint32(size)` does not wrap: `size ≤ L < 2^32` -/
theorem write_header_no_wrap (L : Nat) (hL : L < 2 ^ 32) (p : Bytes) (hpL : p.length ≤ L) :
    (BitVec.ofNat 32 p.length).toNat = p.length ∧ beNat (natBE 4 p.length) = p.length := by
  refine ⟨?_, beNat_natBE4 _ (by omega)⟩
  rw [BitVec.toNat_ofNat]; exact Nat.mod_eq_of_lt (by omega)
example : (BitVec.ofNat 32 1048576).toNat = 1048576 := by decide

/-- **12a. two writers, whole frames.**  If each of two goroutines hands its frame to the transport in ONE
`Write` (what `writeTo` does on a transport that takes everything: header and payload are one buffer,
`c15_code_shape` writeTo 5–6), then in whatever order the transport takes the two `Write`s the reader
gets both payloads, whole, in that order. -/
theorem two_writers_whole_frames (L : Nat) (hL : L < 2 ^ 32) (pa pb : Bytes)
    (ha : 1 ≤ pa.length ∧ pa.length ≤ L) (hb : 1 ≤ pb.length ∧ pb.length ≤ L) (sch : List Bool)
    (wa wb : WLoop) (hwa : writeFrameX L pa [] = some wa) (hwb : writeFrameX L pb [] = some wb)
    (cs : List Bytes) (hcs : cs.flatten = (mergeWrites sch wa.pieces wb.pieces).flatten) :
    (readFrames L 2 cs).1 = [.ok pa, .ok pb] ∨ (readFrames L 2 cs).1 = [.ok pb, .ok pa] := by
  simp only [writeFrameX, (write_limit L pa).2 ha.2, (write_limit L pb).2 hb.2, Option.some.injEq] at hwa hwb
  subst hwa hwb
  -- an empty script: the transport takes each frame in one `Write`
  change cs.flatten = (mergeWrites sch [natBE 4 pa.length ++ pa] [natBE 4 pb.length ++ pb]).flatten at hcs
  have two : ∀ p q : Bytes, (1 ≤ p.length ∧ p.length ≤ L) → (1 ≤ q.length ∧ q.length ≤ L) →
      cs.flatten = (natBE 4 p.length ++ p) ++ (natBE 4 q.length ++ q) → (readFrames L 2 cs).1 = [.ok p, .ok q] :=
    fun p q hp hq h => (frames_sequence L hL [p, q] [] (by simp [hp, hq]) cs (by simp [h, wire])).1
  rcases mergeWrites_single sch (natBE 4 pa.length ++ pa) (natBE 4 pb.length ++ pb) with h | h
  · exact .inl (two pa pb ha hb (hcs.trans h))
  · exact .inr (two pb pa hb ha (hcs.trans h))
example : (mergeWrites [false, true] [[0, 0, 0, 2, 7, 9]] [[0, 0, 0, 1, 5]]).flatten =
    [0, 0, 0, 1, 5, 0, 0, 0, 2, 7, 9] := rfl

/-- **12b. two writers, torn frames: why one writer per connection is needed.**  With a transport that
takes A's header in one `Write` and its payload in the next, B's frame can land in between and the
reader delivers `[0, 0]` — a payload nobody sent — and loses both. The code has one writer per
connection (`c15_single_writer_shape`); replayed on the real `writeTo` with two goroutines on one
connection at every run (case `wr2 0709 05 4 - ab…`). -/
theorem two_writers_bleed_witness :
    writeFrameX 1048576 [7, 9] [.acc 4] = some ⟨[[0, 0, 0, 2], [7, 9]], false, []⟩ ∧
    writeFrameX 1048576 [5] [] = some ⟨[[0, 0, 0, 1, 5]], false, []⟩ ∧
    (mergeWrites [true, false, true] [[0, 0, 0, 2], [7, 9]] [[0, 0, 0, 1, 5]]).flatten =
      [0, 0, 0, 2, 0, 0, 0, 1, 5, 7, 9] ∧
    (readFrames 1048576 2 [[0, 0, 0, 2, 0, 0, 0, 1, 5, 7, 9]]).1 = [.ok [0, 0], .error .body] :=
  ⟨rfl, rfl, rfl, rfl⟩

end Dos.Props.C15Pipe
