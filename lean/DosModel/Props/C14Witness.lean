/-
C14, continued — the defects repaired on this tree, in the model: FROZEN copies of the IR of the
tree before the repairs (Proofs/PipeWitness.lean) are rejected by the rules, and the bad schedules
(leaked goroutine, send on a closed channel) are reachable.  The scenarios are the corpus lines
(corpus/C14/*.txt) that are replayed on the real goroutines at every run.  This file does not depend
on the regenerated facts (Lake re-checks it only when the model changes).
-/
import DosModel.Proofs.PipeExploreSound
import DosModel.Proofs.PipeWitness

namespace Dos.Props.C14
open Dos Dos.Pipe

/-- the scenarios of this file resolve in the frozen pipelines (see `Wit.scOf`) -/
theorem old_scenarios_resolve :
    Wit.resolves Old.helper_dosnode_mergeErrors (Wit.faninSpec "dosnode.mergeErrors" "dosnode.mergeErrors.out") = true ∧
    Wit.resolves Old.helper_dkg_mergeErrors (Wit.faninSpec "dkg.mergeErrors" "dkg.mergeErrors.out") = true ∧
    Wit.resolves Old.query_sys Wit.dispatchSpec = true ∧ Wit.resolves Old.query_sys Wit.recoverSpec = true := by
  decide +kernel

/-- the rules reject the fan-in as it was before 341405c (`return` before `wg.Done()`), and the bad
schedule exists in the model: an error in flight when the deadline fires leaves the closer
goroutine blocked for ever and the merged channel open (F16) -/
theorem old_mergeErrors_leaks :
    (violations Old.helper_dosnode_mergeErrors).any (fun v => v.rule == 5) = true ∧
    ∃ s, Reach (Wit.scOf Old.helper_dosnode_mergeErrors (Wit.faninSpec "dosnode.mergeErrors" "dosnode.mergeErrors.out")).p s ∧
      (let sc := Wit.scOf Old.helper_dosnode_mergeErrors (Wit.faninSpec "dosnode.mergeErrors" "dosnode.mergeErrors.out")
       Wit.Scenario.stuck sc s && Wit.Scenario.leaked sc s && Wit.Scenario.firstOpen sc s) = true :=
  ⟨by decide +kernel, reachSet_any (fuel := 400) (by decide +kernel)⟩

/-- the same for `pdkg.mergeErrors` before cd426fa (unguarded send on the buffered output) -/
theorem old_dkg_mergeErrors_leaks :
    (violations Old.helper_dkg_mergeErrors).any (fun v => v.rule == 2) = true ∧
    ∃ s, Reach (Wit.scOf Old.helper_dkg_mergeErrors (Wit.faninSpec "dkg.mergeErrors" "dkg.mergeErrors.out")).p s ∧
      (let sc := Wit.scOf Old.helper_dkg_mergeErrors (Wit.faninSpec "dkg.mergeErrors" "dkg.mergeErrors.out")
       Wit.Scenario.stuck sc s && Wit.Scenario.leaked sc s && Wit.Scenario.firstOpen sc s) = true :=
  ⟨by decide +kernel, reachSet_any (fuel := 400) (by decide +kernel)⟩

/-- the query pipeline as it was before aee7ef3 / e49e40d: W1 rejects the reply channel of
dispatchSign and W2 the bare sends, and the crash is reachable in the model: with an expired context
dispatchSign closes its reply channel and still registers it; queryLoop then sends the buffered share
on the closed channel (F15) -/
theorem old_dispatchSign_crashes :
    ((violations Old.query_sys).foldl (fun rs v => rs.erase v.rule) [1, 2]) = [] ∧
    ∃ s e g pc, Reach (Wit.scOf Old.query_sys Wit.dispatchSpec).p s ∧
      Step (Wit.scOf Old.query_sys Wit.dispatchSpec).p s e (.crash (.sendClosed 7) g pc) := by
  refine ⟨by decide +kernel, ?_⟩
  -- the schedule, by the index of the successor taken: the harness script up to the start of
  -- dispatchSign (16 steps, queryLoop buffers the peer share), dispatchSign to its return (6),
  -- queryLoop takes the registration (2) and stands at the send of the buffered share
  have h : ((Wit.scOf Old.query_sys Wit.dispatchSpec).follow (List.replicate 21 0 ++ [1, 1, 1])
      (init (Wit.scOf Old.query_sys Wit.dispatchSpec).p)).any
      (fun s => ((Wit.scOf Old.query_sys Wit.dispatchSpec).crashes s).contains (.sendClosed 7)) = true := by
    decide +kernel
  obtain ⟨s, hr, hs⟩ := follow_any h
  have hm : CrashKind.sendClosed 7 ∈ (Wit.scOf Old.query_sys Wit.dispatchSpec).crashes s :=
    List.contains_iff_mem.mp hs
  obtain ⟨e, g, pc, hst⟩ := crashes_step _ hm
  exact ⟨s, e, g, pc, hr, hst⟩

/-- recoverSign before e49e40d: a share without a signature after the fan-in stopped reading leaves
the stage blocked in its bare send for ever -/
theorem old_recoverSign_leaks :
    ∃ s, Reach (Wit.scOf Old.query_sys Wit.recoverSpec).p s ∧
      (let sc := Wit.scOf Old.query_sys Wit.recoverSpec
       Wit.Scenario.stuck sc s && Wit.Scenario.leaked sc s) = true :=
  reachSet_any (fuel := 400) (by decide +kernel)

end Dos.Props.C14
