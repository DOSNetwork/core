/-
C11 — group element and scalar encodings round-trip and reject malformed input.

Property theorems only (helper lemmas: `Proofs/CodecBytes.lean`, `Proofs/Codec.lean`,
`Proofs/CodecChar.lean`).  The model is `Model/Codec.lean` (byte level, as `group/bn256/point.go`
and `kyber/group/mod.Int` are after the repairs /repo 2440c3a, 1d47f6b, 14330d6) over `Model/Bn256.lean`.

"Element" = a value of the model types with `G1.valid` / `G2.valid` / `gtValid` / `< r`:
  G1: identity, or affine (x, y) with x, y < p on y² = x³ + 3            (every such point is in G1)
      — and every element reachable by scalar multiplication / addition / negation is one: `g1_reachable_roundtrip`
  G2: identity, or affine over Fp2 with coordinates < p, on the twist, and r•P = O
      (the model's G2 operations preserve this: `Props/C11Compose.lean`, `g2_valid_closed`)
  GT: twelve coordinates < p (point.go performs no membership test for GT — modelled as it is)
  scalar: a number < r
All statements are for EVERY element / EVERY byte string (no bound).
-/
import DosModel.Proofs.CodecChar
import DosModel.Proofs.Bn256ConcRedc
import DosModel.Proofs.Bn256ConcCurve
import DosModel.Gen.CodecFacts

namespace Dos.Props.C11
open Dos Dos.Bn256 Dos.Codec Dos.CodecBytes

/-! ## 0. regenerated facts: the constants and the shape of the code the model assumes -/

/-- sizes (`ElementSize`, `MarshalSize`), field prime and group order of the code = the model's -/
theorem gen_sizes_and_moduli :
    Gen.Codec.pointG1_ElementSize = 32 ∧ Gen.Codec.pointG1_MarshalSize = 64 ∧
    Gen.Codec.pointG2_ElementSize = 32 ∧ Gen.Codec.pointG2_MarshalSize = 129 ∧
    Gen.Codec.pointGT_ElementSize = 32 ∧ Gen.Codec.pointGT_MarshalSize = 384 ∧
    Gen.Codec.constP = p ∧ Gen.Codec.constOrder = r ∧ Gen.Codec.limbs_p2 = p ∧
    2 ^ 253 ≤ r ∧ r < 2 ^ 254 ∧ (254 + 7) / 8 = 32 ∧ p < 2 ^ 256 := by decide

/-- the coordinates are written and read in the order the model uses (x before y; for Fp2 the
`.x` = imaginary part first; for G1/G2 as (field of the point)@(byte offset) pairs extracted structurally
from `MarshalBinary`/`UnmarshalBinary`, independent of the names of local variables), each read coordinate
is checked to be canonical, G1/G2 test curve membership, G2's `IsOnCurve` multiplies by `Order`, the length checks are strict `<`,
`gfP.Unmarshal` overwrites its destination, `Equal` compares encodings, and G2's `UnmarshalFrom`
reads the tag byte separately -/
theorem gen_code_shape :
    Gen.Codec.pointG1_marshalLayout = ["x@0", "y@32"] ∧
    Gen.Codec.pointG1_unmarshalLayout = ["x@0", "y@32"] ∧
    Gen.Codec.pointG1_unmarshalOrder = ["p.g.x", "p.g.y"] ∧
    Gen.Codec.pointG1_montEncodeOrder = ["p.g.x", "p.g.y"] ∧
    Gen.Codec.pointG2_marshalLayout = ["x.x@1", "x.y@33", "y.x@65", "y.y@97"] ∧
    Gen.Codec.pointG2_unmarshalLayout = Gen.Codec.pointG2_marshalLayout ∧
    Gen.Codec.pointG2_unmarshalOrder = ["p.g.x.x", "p.g.x.y", "p.g.y.x", "p.g.y.y"] ∧
    Gen.Codec.pointG2_montEncodeOrder = Gen.Codec.pointG2_unmarshalOrder ∧
    Gen.Codec.pointGT_marshalOrder = ["p.g.x.x.x", "p.g.x.x.y", "p.g.x.y.x", "p.g.x.y.y", "p.g.x.z.x",
      "p.g.x.z.y", "p.g.y.x.x", "p.g.y.x.y", "p.g.y.y.x", "p.g.y.y.y", "p.g.y.z.x", "p.g.y.z.y"] ∧
    Gen.Codec.pointGT_unmarshalOrder = Gen.Codec.pointGT_marshalOrder ∧
    Gen.Codec.pointGT_montEncodeOrder = Gen.Codec.pointGT_marshalOrder ∧
    Gen.Codec.pointG1_isCanonicalCalls = 2 ∧ Gen.Codec.pointG2_isCanonicalCalls = 4 ∧
    Gen.Codec.pointGT_isCanonicalCalls = 1 ∧ Gen.Codec.gfpIsCanonicalComparesWithP2 = true ∧
    Gen.Codec.pointG1_isOnCurveCalls = 1 ∧ Gen.Codec.pointG2_isOnCurveCalls = 1 ∧
    Gen.Codec.twistIsOnCurveMulOrder = true ∧
    Gen.Codec.pointG1_lenCheckOp = "<" ∧ Gen.Codec.pointG2_lenCheckOp = "<" ∧
    Gen.Codec.pointGT_lenCheckOp = "<" ∧
    Gen.Codec.gfpUnmarshalOverwrites = true ∧
    Gen.Codec.pointG1_equalComparesEncodings = true ∧ Gen.Codec.pointG2_equalComparesEncodings = true ∧
    Gen.Codec.pointGT_equalComparesEncodings = true ∧
    Gen.Codec.pointG2_unmarshalFromReadFulls = 2 := by
  and_intros <;> rfl

/-- curve constants of the code = the model's: `curveB = 3`, G1 generator (1, 2), and `twistB`,
`twistGen` (kept in Montgomery form in twist.go) decode to the model's `twistB`, `g2gen` -/
theorem gen_curve_constants :
    Gen.Codec.curveB = curveB ∧ g1gen = .aff Gen.Codec.curveGenX Gen.Codec.curveGenY ∧
    Gen.Codec.curveGenZ = 1 ∧
    twistB = ⟨montDecode Gen.Codec.twistB_x_mont, montDecode Gen.Codec.twistB_y_mont⟩ ∧
    g2gen = .aff ⟨montDecode Gen.Codec.twistGen_x_x_mont, montDecode Gen.Codec.twistGen_x_y_mont⟩
                 ⟨montDecode Gen.Codec.twistGen_y_x_mont, montDecode Gen.Codec.twistGen_y_y_mont⟩ ∧
    Gen.Codec.limbs_np = np ∧ Gen.Codec.limbs_r2 = r2 ∧ Gen.Codec.limbs_rN1 = rInv ∧
    (np * p + 1) % R = 0 ∧ r2 = R * R % p ∧ rInv * R % p = 1 := by decide

/-! ## 1. encode-then-decode is the identity -/

/-- **G1 round trip**, also with arbitrary trailing bytes (`UnmarshalBinary` ignores them) -/
theorem g1_roundtrip (P : G1) (hv : G1.valid P = true) (tail : Bytes) :
    unmarshalG1 (marshalG1 P ++ tail) = .ok P :=
  unmarshalG1_marshalG1 P hv tail

example : unmarshalG1 (marshalG1 g1gen ++ [7]) = .ok g1gen := g1_roundtrip g1gen (by decide) [7]
example : unmarshalG1 (marshalG1 .inf) = .ok .inf := by simpa using g1_roundtrip .inf rfl []

/-- **every G1 element reachable from the generator by scalar multiplication, addition and
negation (identity included) is a valid element** — so all G1 theorems of this file apply to it —
and survives encode-then-decode.  No assumption: p is prime by a kernel-checked Pratt certificate
(`Proofs/Primes.lean`), `finv` is the field inverse by Fermat, the chord/tangent formulas of the
model stay on y² = x³ + 3 (`Proofs/Bn256ConcCurve.lean`). -/
theorem g1_reachable_roundtrip (P : G1) (h : G1.Reachable P) (tail : Bytes) :
    G1.valid P = true ∧ unmarshalG1 (marshalG1 P ++ tail) = .ok P ∧ (marshalG1 P).length = 64 :=
  ⟨reachable_valid h, unmarshalG1_marshalG1 P (reachable_valid h) tail, marshalG1_length P⟩

example : G1.Reachable (G1.add (G1.smul 12345 g1gen) (G1.neg (G1.smul (r - 1) g1gen))) :=
  .add (.smul _ .base) (.neg (.smul _ .base))

/-- **G2 round trip** (identity: the one byte 0x00) -/
theorem g2_roundtrip (P : G2) (hv : G2.valid P = true) (tail : Bytes) :
    unmarshalG2 (marshalG2 P ++ tail) = .ok P :=
  unmarshalG2_marshalG2 P hv tail

example : unmarshalG2 (marshalG2 .inf ++ [1, 2, 3]) = .ok .inf := g2_roundtrip .inf rfl [1, 2, 3]

/-- **GT round trip** for every 12-tuple of coordinates below p -/
theorem gt_roundtrip (g : GT) (hl : g.length = 12) (hc : ∀ c ∈ g, c < p) (tail : Bytes) :
    unmarshalGT (marshalGT g ++ tail) = .ok g :=
  unmarshalGT_marshalGT g ⟨hl, hc⟩ tail

example : unmarshalGT (marshalGT [1, 2, 3, 4, 5, 6, 7, 8, 9, 10, 11, p - 1]) =
    .ok [1, 2, 3, 4, 5, 6, 7, 8, 9, 10, 11, p - 1] := by
  simpa using gt_roundtrip [1, 2, 3, 4, 5, 6, 7, 8, 9, 10, 11, p - 1] rfl (by decide) []

/-- **scalar round trip**: every s < r encodes (no panic) to 32 bytes that decode to s -/
theorem scalar_roundtrip (s : Nat) (hs : s < r) :
    ∃ enc, marshalScalar s = .ok enc ∧ enc.length = 32 ∧ unmarshalScalar enc = .ok s :=
  unmarshalScalar_marshalScalar s hs

example : ∃ enc, marshalScalar (r - 1) = .ok enc ∧ enc.length = 32 ∧ unmarshalScalar enc = .ok (r - 1) :=
  scalar_roundtrip (r - 1) (by decide)

/-- **stream API round trip, no bleed**: `MarshalTo` then `UnmarshalFrom` returns the element and
consumes exactly what was written, whatever follows on the stream (G1) -/
theorem g1_stream_roundtrip (P : G1) (hv : G1.valid P = true) (tail : Bytes) :
    unmarshalFrom 64 unmarshalG1 (marshalG1 P ++ tail) = ((marshalG1 P).length, .ok P) :=
  unmarshalG1_eq ▸ marshalG1_eq ▸ g1C_lawful.stream hv tail

example : unmarshalFrom 64 unmarshalG1 (marshalG1 g1gen ++ [9, 9]) = (64, .ok g1gen) :=
  g1_stream_roundtrip g1gen (by decide) [9, 9]

/-- the same for G2, **including the one-byte identity** (repaired by /repo 14330d6) -/
theorem g2_stream_roundtrip (P : G2) (hv : G2.valid P = true) (tail : Bytes) :
    unmarshalFromG2 (marshalG2 P ++ tail) = ((marshalG2 P).length, .ok P) := by
  cases P with
  | inf => rfl
  | aff x y =>
    have hl : (g2B.enc (.aff x y)).length = 128 := g2B_lawful.enc_length hv
    rw [marshalG2_eq, List.cons_append, List.length_cons, hl, unmarshalFromG2, if_neg (by decide),
      if_neg (by rw [List.length_append, hl]; omega), List.take_left' hl, unmarshalG2_eq,
      ← (g2B.enc _).append_nil, g2B_lawful.dec_enc hv]

example : unmarshalFromG2 (marshalG2 .inf ++ [5, 6]) = (1, .ok .inf) := g2_stream_roundtrip .inf rfl [5, 6]

/-- **limb level**: `UnmarshalBinary` stores `montEncode x` (a reduced limb value) for the word x it
read, and `MarshalBinary` writes `montDecode` of the stored limbs, which is the 32-byte encoding of
`x mod p` — for a canonical word (the only ones accepted: /repo 1d47f6b) the very bytes read.
Proved from the Montgomery constants of constants.go (`np·p ≡ −1 mod 2^256`, `r2 = R² mod p`),
for ALL 256-bit words. -/
theorem limb_level_roundtrip (x : Nat) (hx : x < 2 ^ 256) :
    storeCoord x < p ∧ storeCoord x = x * R % p ∧ emitCoord (storeCoord x) = be32 (x % p) ∧
    (x < p → emitCoord (storeCoord x) = be32 x) := by
  have h1 := montEncode_lt x hx
  have h2 := montDecode_montEncode x hx
  refine ⟨h1, montEncode_spec x hx, by simp only [emitCoord, storeCoord, h2], ?_⟩
  intro hp
  simp only [emitCoord, storeCoord, h2, Nat.mod_eq_of_lt hp]

example : emitCoord (storeCoord (p + 5)) = be32 5 := by
  have := (limb_level_roundtrip (p + 5) (by decide)).2.2.1
  rw [this]; congr 1

/-- **decoding does not depend on the receiver.**  `UnmarshalBinary`/`UnmarshalFrom` are methods of a
point object with prior state (fresh, `Null()`, `Base()`, a `Mul` result, an earlier successful or
FAILED decode); the model's decoders take that state as an argument and ignore it, so any sequence of
decodes through one reused receiver answers, step by step, as fresh decodes of the same bytes — in
particular `[P, identity, Q]` gives `P, O, Q`.  True by construction of the model; the `seq` and
`into` correspondence cases (every special encoding × every prior state, both APIs) make it a check of
the code: they catch a decoder that leaves `z`, `t` or limbs of the old value behind. -/
theorem unmarshal_ignores_receiver :
    (∀ (r1 r2 : G1) buf, unmarshalG1Into r1 buf = unmarshalG1Into r2 buf ∧ unmarshalG1Into r1 buf = unmarshalG1 buf) ∧
    (∀ (r1 r2 : G2) buf, unmarshalG2Into r1 buf = unmarshalG2Into r2 buf ∧ unmarshalG2Into r1 buf = unmarshalG2 buf) ∧
    (∀ (r1 r2 : GT) buf, unmarshalGTInto r1 buf = unmarshalGTInto r2 buf ∧ unmarshalGTInto r1 buf = unmarshalGT buf) ∧
    (∀ junk recv bufs, decodeSeq unmarshalG1Into junk recv bufs = bufs.map unmarshalG1) ∧
    (∀ junk recv bufs, decodeSeq unmarshalG2Into junk recv bufs = bufs.map unmarshalG2) ∧
    (∀ junk recv bufs, decodeSeq unmarshalGTInto junk recv bufs = bufs.map unmarshalGT) := by
  refine ⟨fun _ _ _ => ⟨rfl, rfl⟩, fun _ _ _ => ⟨rfl, rfl⟩, fun _ _ _ => ⟨rfl, rfl⟩, ?_, ?_, ?_⟩ <;>
  · intro junk recv bufs
    induction bufs generalizing recv with
    | nil => rfl
    | cons b bs ih => simp only [decodeSeq, List.map_cons, ih]; rfl

example : decodeSeq unmarshalG1Into (fun _ => g1gen) (G1.neg g1gen)
    [marshalG1 g1gen, marshalG1 .inf, [1], marshalG1 g1gen] =
    [.ok g1gen, .ok .inf, .err .short, .ok g1gen] := by decide +kernel

/-! ## 2. fixed lengths -/

/-- every G1 element (identity included) encodes to 64 bytes -/
theorem g1_length (P : G1) : (marshalG1 P).length = 64 := marshalG1_length P

/-- every non-identity G2 element encodes to 129 bytes; the identity to the single byte 0x00 -/
theorem g2_length (x y : Fp2) : (marshalG2 (.aff x y)).length = 129 ∧ marshalG2 .inf = [0] :=
  ⟨marshalG2_length_aff x y, rfl⟩

/-- every GT element encodes to 384 bytes -/
theorem gt_length (g : GT) (hl : g.length = 12) : (marshalGT g).length = 384 := marshalGT_length g hl

/-- every scalar below r encodes to exactly 32 bytes -/
theorem scalar_length (s : Nat) (hs : s < r) (enc : Bytes) (h : marshalScalar s = .ok enc) :
    enc.length = 32 := by
  obtain ⟨e, he, hl, _⟩ := unmarshalScalar_marshalScalar s hs
  rw [he] at h; cases h; exact hl

example : (marshalG1 g1gen).length = 64 ∧ (marshalG2 g2gen).length = 129 :=
  ⟨g1_length _, (g2_length _ _).1⟩

/-! ## 3. distinct elements have distinct encodings; `Equal` (comparison of encodings) is equality -/

theorem g1_equal_iff_bytes (P Q : G1) (hP : G1.valid P = true) (hQ : G1.valid Q = true) :
    (P = Q ↔ marshalG1 P = marshalG1 Q) ∧ (equalG1 P Q = true ↔ P = Q) :=
  eq_iff_bytes marshalG1 (marshalG1_inj P Q hP hQ)

theorem g2_equal_iff_bytes (P Q : G2) (hP : G2.valid P = true) (hQ : G2.valid Q = true) :
    (P = Q ↔ marshalG2 P = marshalG2 Q) ∧ (equalG2 P Q = true ↔ P = Q) :=
  eq_iff_bytes marshalG2 (marshalG2_inj P Q hP hQ)

theorem gt_equal_iff_bytes (g g' : GT) (hg : gtValid g) (hg' : gtValid g') :
    (g = g' ↔ marshalGT g = marshalGT g') ∧ (equalGT g g' = true ↔ g = g') :=
  eq_iff_bytes marshalGT (marshalGT_inj g g' hg hg')

theorem scalar_marshal_injective (s t : Nat) (hs : s < r) (ht : t < r)
    (h : marshalScalar s = marshalScalar t) : s = t := by
  obtain ⟨e1, he1, _, hd1⟩ := unmarshalScalar_marshalScalar s hs
  obtain ⟨e2, he2, _, hd2⟩ := unmarshalScalar_marshalScalar t ht
  rw [he1, he2] at h
  cases h
  rw [hd1] at hd2
  cases hd2; rfl

example : equalG1 g1gen (G1.neg g1gen) = false := by decide

/-! ## 4. decoding never panics — for EVERY byte string -/

theorem unmarshal_total (buf : Bytes) :
    (unmarshalG1 buf).isPanic = false ∧ (unmarshalG2 buf).isPanic = false ∧
    (unmarshalGT buf).isPanic = false ∧ (unmarshalScalar buf).isPanic = false :=
  ⟨unmarshalG1_not_panic buf, unmarshalG2_not_panic buf, unmarshalGT_not_panic buf,
    unmarshalScalar_not_panic buf⟩

/-- the stream decoders never panic either -/
theorem unmarshalFrom_total (stream : Bytes) :
    (unmarshalFrom 64 unmarshalG1 stream).2.isPanic = false ∧
    (unmarshalFromG2 stream).2.isPanic = false ∧
    (unmarshalFrom 384 unmarshalGT stream).2.isPanic = false := by
  refine ⟨unmarshalFrom_not_panic unmarshalG1_not_panic 64 stream, ?_,
    unmarshalFrom_not_panic unmarshalGT_not_panic 384 stream⟩
  unfold unmarshalFromG2
  -- empty stream; tag 0; tag ≠ 0 with fewer / at least 128 bytes following
  split
  · rfl
  · split
    · exact unmarshalG2_not_panic _
    · split
      · rfl
      · exact unmarshalG2_not_panic _

example : unmarshalG2 [] = .err .short ∧ unmarshalG1 [1, 2, 3] = .err .short ∧
    unmarshalG2 [2] = .err .malformed := by decide

/-! ## 5. what decoding accepts: exactly the canonical encodings of valid elements -/

/-- **G1**: `UnmarshalBinary` succeeds with `P` iff the input has at least 64 bytes, `P` is a valid
element (coordinates < p, on the curve) and the first 64 bytes ARE the encoding of `P`.
Consequences: too short ⇒ error, off the curve ⇒ error, coordinate ≥ p ⇒ error, and two accepted
inputs decode to the same element iff their first 64 bytes coincide. -/
theorem g1_unmarshal_ok_iff (buf : Bytes) (P : G1) :
    unmarshalG1 buf = .ok P ↔ 64 ≤ buf.length ∧ G1.valid P = true ∧ marshalG1 P = buf.take 64 :=
  unmarshalG1_ok_iff buf P

/-- soundness clauses spelled out -/
theorem g1_unmarshal_sound (buf : Bytes) :
    (buf.length < 64 → unmarshalG1 buf = .err .short) ∧
    (∀ P, unmarshalG1 buf = .ok P → G1.onCurve P = true ∧ G1.valid P = true) := by
  refine ⟨unmarshalG1_short buf, ?_⟩
  intro P h
  have hv := (unmarshalG1_ok buf P h).2.1
  refine ⟨?_, hv⟩
  cases P with
  | inf => rfl
  | aff x y => simp only [G1.valid, Bool.and_eq_true] at hv; exact hv.2

/-- a 64-byte (or longer) input whose two words are not both zero and do not satisfy the curve
equation is rejected -/
theorem g1_offcurve_rejected (buf : Bytes) (hl : 64 ≤ buf.length)
    (hnz : ¬ (beNat (buf.take 32) = 0 ∧ beNat ((buf.drop 32).take 32) = 0))
    (hoff : G1.onCurve (.aff (beNat (buf.take 32)) (beNat ((buf.drop 32).take 32))) = false) :
    ∃ e, unmarshalG1 buf = .err e := by
  rw [unmarshalG1_long buf hl]
  unfold g1OfCoords
  -- non-canonical words, or canonical ones: there `split` has also removed the identity test, by `hnz`
  split
  · exact ⟨_, rfl⟩
  · simp [hoff]

example : unmarshalG1 (marshalG1 (.aff 1 3)) = .err .malformed := by decide +kernel
example : unmarshalG1 (be32 (p + 1) ++ be32 2) = .err .noncanon := by decide +kernel

/-- **G2**: a successful decode returns a valid element — coordinates < p, on the twist AND in the
order-r subgroup; a non-identity result re-encodes to the first 129 bytes of the input -/
theorem g2_unmarshal_sound (buf : Bytes) (P : G2) (h : unmarshalG2 buf = .ok P) :
    G2.onCurve P = true ∧ G2.smul r P = .inf ∧ G2.valid P = true ∧
    (∀ x y, P = .aff x y → 129 ≤ buf.length ∧ marshalG2 P = buf.take 129) := by
  obtain ⟨hv, hc⟩ := unmarshalG2_ok buf P h
  refine ⟨?_, ?_, hv, hc⟩
  · cases P with
    | inf => rfl
    | aff x y => simp only [G2.valid, Bool.and_eq_true] at hv; exact hv.1.2
  · cases P with
    | inf => exact g2_smul_inf r
    | aff x y =>
      simp only [G2.valid, Bool.and_eq_true, G2.inSubgroup, beq_iff_eq] at hv
      exact hv.2

/-- **G2 rejections**: empty input, a tag other than 0/1, fewer than 129 bytes with tag 1, a point
off the twist, and a point ON the twist but OUTSIDE the order-r subgroup are all errors -/
theorem g2_rejects (buf : Bytes) :
    (buf = [] → unmarshalG2 buf = .err .short) ∧
    (∀ t body, buf = t :: body → t ≠ 0 → t ≠ 1 → unmarshalG2 buf = .err .malformed) ∧
    (∀ body, buf = 1 :: body → body.length < 128 → unmarshalG2 buf = .err .short) ∧
    (∀ body, buf = 1 :: body → 128 ≤ body.length →
      ∀ P, g2OfCoords (beNat (body.take 32)) (beNat ((body.drop 32).take 32))
          (beNat ((body.drop 64).take 32)) (beNat ((body.drop 96).take 32)) = .ok P →
        unmarshalG2 buf = .ok P) ∧
    (∀ a b c d, ¬ (a = 0 ∧ b = 0 ∧ c = 0 ∧ d = 0) →
      (G2.onCurve (.aff ⟨a, b⟩ ⟨c, d⟩) = false ∨ G2.smul r (.aff ⟨a, b⟩ ⟨c, d⟩) ≠ .inf) →
      ∃ e, g2OfCoords a b c d = .err e) := by
  refine ⟨?_, ?_, ?_, ?_, ?_⟩
  · rintro rfl; decide
  · rintro t body rfl h0 h1; simp [unmarshalG2, h0, h1]
  · rintro body rfl hl
    exact (unmarshalG2_eq body).trans (g2B.dec_short body hl)
  · rintro body rfl hl P hP
    rw [unmarshalG2_long 1 body rfl hl, hP]
  · intro a b c d hnz hbad
    unfold g2OfCoords
    -- as for G1: in the canonical case `split` has removed the identity test by `hnz`
    split
    · exact ⟨_, rfl⟩
    · rcases hbad with hoff | hsub
      · simp [hoff]
      · by_cases hon : G2.onCurve (.aff ⟨a, b⟩ ⟨c, d⟩) = true
        · have : G2.inSubgroup (.aff ⟨a, b⟩ ⟨c, d⟩) = false := by
            simpa [G2.inSubgroup] using hsub
          simp [hon, this]
        · simp [hon]

example : unmarshalG2 [0, 9, 9] = .ok .inf := by decide

/-- **GT**: accepted iff at least 384 bytes, all twelve words < p; the result re-encodes to the
first 384 bytes (no membership test exists in the code — none is claimed) -/
theorem gt_unmarshal_ok_iff (buf : Bytes) (g : GT) :
    unmarshalGT buf = .ok g ↔ 384 ≤ buf.length ∧ gtValid g ∧ marshalGT g = buf.take 384 :=
  unmarshalGT_ok_iff buf g

theorem gt_short_rejected (buf : Bytes) (h : buf.length < 384) : unmarshalGT buf = .err .short :=
  unmarshalGT_short buf h

example : unmarshalGT (List.replicate 383 0) = .err .short := gt_short_rejected _ (by rw [List.length_replicate]; omega)

/-- recorded, not a clause of the property (C02/C08 rely on knowing it): decoding is NOT injective
on byte strings — bytes after the element are ignored, and the G2 identity is accepted from
`0x00‖anything` and from `0x01‖0^128` besides its canonical one-byte encoding.  (`x + p` is not a second
encoding, /repo 1d47f6b: `g1_unmarshal_ok_iff`.) -/
theorem decode_not_injective_witnesses :
    unmarshalG1 (marshalG1 g1gen ++ [0]) = unmarshalG1 (marshalG1 g1gen) ∧
    unmarshalG2 (1 :: List.replicate 128 0) = .ok .inf ∧
    unmarshalG2 [0, 7] = .ok .inf ∧ unmarshalG2 [0] = .ok .inf := by decide +kernel

/-! ## 6. scalars decode only from in-range values of the exact length -/

theorem scalar_in_range (buf : Bytes) :
    (∀ s, unmarshalScalar buf = .ok s →
        buf.length = 32 ∧ s < r ∧ s = beNat buf ∧ marshalScalar s = .ok buf) ∧
    (buf.length ≠ 32 → unmarshalScalar buf = .err .size) ∧
    (buf.length = 32 → beNat buf ≥ r → unmarshalScalar buf = .err .range) := by
  refine ⟨fun s h => unmarshalScalar_ok buf s h, ?_, ?_⟩
  · intro h; unfold unmarshalScalar; rw [if_pos h]
  · intro h1 h2; unfold unmarshalScalar; rw [if_neg (by simp [h1]), if_pos h2]

example : unmarshalScalar (natBE 32 r) = .err .range := by decide +kernel
example : unmarshalScalar (natBE 32 (r - 1)) = .ok (r - 1) := by decide +kernel
example : unmarshalScalar (natBE 31 5) = .err .size := by decide

end Dos.Props.C11
