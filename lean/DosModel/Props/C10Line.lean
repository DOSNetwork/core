/-
C10 — toward the declared partial "bilinearity of the implemented optimal-ate Miller loop": what the
TRANSLATED line functions and Miller loop of optate.go compute, as kernel-checked algebra over every commutative
ring / field (no pairing theory):
* `line_functions_closed_form`: lineFunctionAdd / lineFunctionDouble return the coefficients
  a = 2(L₁x_P − y_P Z₃), b = −2L₁x_Q, c = 2Z₃y_Q (chord; H = x_PZ² − X, L₁ = 2(y_PZ³ − Y), Z₃ = 2ZH) resp.
  a = 2EX − 4Y², b = −2EZ²x_Q, c = 2Z₃Z²y_Q (tangent; E = 3X², Z₃ = 2YZ) and rOut = the mixed addition / the doubling;
* `mulLine_is_multiplication`: the sparse `mulLine(ret, a, b, c)` is ret · (a·τω + b·ω + c);
* `line_is_chord`, `line_is_tangent`: that gfP12 element is, up to a factor in the subfield gfP2, the line through the
  untwisted points ψ(R), ψ(P) (ψ(x, y) = (xω², yω³)) resp. the tangent at ψ(R), evaluated at the G1 point;
* `miller_is_fold`: the translated Miller loop (265 unrolled lets) is the fold over the regenerated NAF digits of 6u+2
  of "square · tangent line · (chord line on a non-zero digit)" followed by the two Frobenius-twisted chords;
  `miller_step_is_product` gives the accumulator of one step as that product.
What REMAINS assumed after this: that the product of these lines is the Miller function f_{6u+2,Q}(P) whose final
exponentiation is bilinear and non-degenerate (divisor theory / Weil reciprocity), that the gfP2 factors are killed by
the final exponentiation, and Frobenius = p-power. Only theorems; lemmas in Proofs/Bn256Line.lean.
-/
import DosModel.Proofs.Bn256Line

set_option linter.unusedSectionVars false

namespace Dos.Props.C10Line
open Dos Dos.Bn256 Dos.Gen Dos.Gen.Bn256Code

/-- **closed forms of the line coefficients and of rOut**, from the translated straight-line code, over every
commutative ring, under the invariants the Miller loop maintains (r.t = r.z², r2 = p.y²) -/
theorem line_functions_closed_form {K : Type} [CommRing K] (r p : Jac (Fp2 K)) (q : Jac K) (r2 : Fp2 K)
    (ht : r.t = r.z * r.z) (h2 : r2 = p.y * p.y) :
    (let H := p.x * (r.z * r.z) - r.x
     let L1 := 2 * (p.y * (r.z * r.z * r.z) - r.y)
     let Z3 := 2 * r.z * H
     (lineFunctionAdd r p q r2).1 = 2 * (L1 * p.x - p.y * Z3) ∧
     (lineFunctionAdd r p q r2).2.1 = -(2 * L1 * Fp2.ofBase q.x) ∧
     (lineFunctionAdd r p q r2).2.2.1 = 2 * Z3 * Fp2.ofBase q.y ∧
     (lineFunctionAdd r p q r2).2.2.2.z = Z3 ∧
     (lineFunctionAdd r p q r2).2.2.2.t = Z3 * Z3 ∧
     (lineFunctionAdd r p q r2).2.2.2.x = L1 * L1 - 4 * (H * H * H) - 8 * (r.x * (H * H)) ∧
     (lineFunctionAdd r p q r2).2.2.2.y =
       (4 * (r.x * (H * H)) - (L1 * L1 - 4 * (H * H * H) - 8 * (r.x * (H * H)))) * L1 - 8 * (r.y * (H * H * H))) ∧
    (let E := 3 * (r.x * r.x)
     let Z3 := 2 * r.y * r.z
     (lineFunctionDouble r q).1 = 2 * (E * r.x) - 4 * (r.y * r.y) ∧
     (lineFunctionDouble r q).2.1 = -(2 * (E * (r.z * r.z)) * Fp2.ofBase q.x) ∧
     (lineFunctionDouble r q).2.2.1 = 2 * (Z3 * (r.z * r.z)) * Fp2.ofBase q.y ∧
     (lineFunctionDouble r q).2.2.2.z = Z3 ∧
     (lineFunctionDouble r q).2.2.2.t = Z3 * Z3 ∧
     (lineFunctionDouble r q).2.2.2.x = E * E - 8 * (r.x * (r.y * r.y)) ∧
     (lineFunctionDouble r q).2.2.2.y = E * (12 * (r.x * (r.y * r.y)) - E * E) - 8 * (r.y * r.y * (r.y * r.y))) :=
  ⟨lineFunctionAdd_closed r p q r2 ht h2, lineFunctionDouble_closed r q ht⟩

/-- non-vacuity over ℤ: R = (1, 2, 1), P = (3, 4), Q = (5, 7): H = 2, L₁ = 4, Z₃ = 4 -/
example : (lineFunctionAdd (⟨⟨0, 1⟩, ⟨0, 2⟩, ⟨0, 1⟩, ⟨0, 1⟩⟩ : Jac (Fp2 Int)) ⟨⟨0, 3⟩, ⟨0, 4⟩, ⟨0, 1⟩, ⟨0, 1⟩⟩
      (⟨5, 7, 1, 1⟩ : Jac Int) ⟨0, 16⟩).1 = ⟨0, -8⟩ ∧
    (lineFunctionAdd (⟨⟨0, 1⟩, ⟨0, 2⟩, ⟨0, 1⟩, ⟨0, 1⟩⟩ : Jac (Fp2 Int)) ⟨⟨0, 3⟩, ⟨0, 4⟩, ⟨0, 1⟩, ⟨0, 1⟩⟩
      (⟨5, 7, 1, 1⟩ : Jac Int) ⟨0, 16⟩).2.2.2.z = ⟨0, 4⟩ := by decide

/-- **mulLine is the multiplication by a·τω + b·ω + c** -/
theorem mulLine_is_multiplication {K : Type} [CommRing K] (ret : Fp12 K) (a b c : Fp2 K) :
    Bn256Code.mulLine ret a b c = ret * lineElem a b c ∧
    lineElem a b c = iota a * omega3 + iota b * omega1 + iota c ∧
    ((omega1 : Fp12 K) * omega1 = omega2 ∧ (omega2 : Fp12 K) * omega1 = omega3 ∧
      (omega3 : Fp12 K) * omega3 = iota Fp2.xi) :=
  ⟨mulLine_eq_mul ret a b c, lineElem_eq a b c, omega_powers⟩

example : Bn256Code.mulLine (⟨⟨0, 0, ⟨0, 1⟩⟩, ⟨0, 0, ⟨0, 2⟩⟩⟩ : Fp12 Int) ⟨0, 3⟩ ⟨0, 5⟩ ⟨0, 7⟩ =
    (⟨⟨0, 0, ⟨0, 1⟩⟩, ⟨0, 0, ⟨0, 2⟩⟩⟩ : Fp12 Int) * lineElem ⟨0, 3⟩ ⟨0, 5⟩ ⟨0, 7⟩ :=
  (mulLine_is_multiplication _ _ _ _).1

/-- **the chord**: for every λ with λ·Z₃ = L₁ (the slope of the chord through R = (X/Z², Y/Z³) and P, in Jacobian
form), the line element that lineFunctionAdd hands to mulLine is 2Z₃ times
y_Q − y_P·ω³ − λω·(x_Q − x_P·ω²), the line through ψ(P) = (x_Pω², y_Pω³) with slope λω evaluated at (x_Q, y_Q) -/
theorem line_is_chord {K : Type} [CommRing K] (r p : Jac (Fp2 K)) (q : Jac K) (r2 lam : Fp2 K)
    (ht : r.t = r.z * r.z) (h2 : r2 = p.y * p.y)
    (hl : lam * (2 * r.z * (p.x * (r.z * r.z) - r.x)) = 2 * (p.y * (r.z * r.z * r.z) - r.y)) :
    lineElem (lineFunctionAdd r p q r2).1 (lineFunctionAdd r p q r2).2.1 (lineFunctionAdd r p q r2).2.2.1 =
      iota (2 * (2 * r.z * (p.x * (r.z * r.z) - r.x))) *
        (iota (Fp2.ofBase q.y) - iota p.y * omega3 -
          iota lam * omega1 * (iota (Fp2.ofBase q.x) - iota p.x * omega2)) :=
  lineFunctionAdd_is_chord r p q r2 lam ht h2 hl

/-- the hypotheses are satisfiable (ℤ, slope λ = 1: R = (1, 2, 1), P = (3, 4)) -/
example :=
  line_is_chord (⟨⟨0, 1⟩, ⟨0, 2⟩, ⟨0, 1⟩, ⟨0, 1⟩⟩ : Jac (Fp2 Int)) ⟨⟨0, 3⟩, ⟨0, 4⟩, ⟨0, 1⟩, ⟨0, 1⟩⟩
    (⟨5, 7, 1, 1⟩ : Jac Int) ⟨0, 16⟩ ⟨0, 1⟩ (by decide) (by decide) (by decide)

/-- **the tangent**: for affine coordinates (x_R, y_R) of R (x_RZ² = X, y_RZ³ = Y) and every λ with λ·Z₃ = 3X² (the
tangent slope), the line element of lineFunctionDouble is 2Z₃Z² times the tangent at ψ(R) evaluated at (x_Q, y_Q) -/
theorem line_is_tangent {K : Type} [CommRing K] (r : Jac (Fp2 K)) (q : Jac K) (xR yR lam : Fp2 K)
    (ht : r.t = r.z * r.z) (hx : xR * (r.z * r.z) = r.x) (hy : yR * (r.z * r.z * r.z) = r.y)
    (hl : lam * (2 * r.y * r.z) = 3 * (r.x * r.x)) :
    lineElem (lineFunctionDouble r q).1 (lineFunctionDouble r q).2.1 (lineFunctionDouble r q).2.2.1 =
      iota (2 * (2 * r.y * r.z * (r.z * r.z))) *
        (iota (Fp2.ofBase q.y) - iota yR * omega3 -
          iota lam * omega1 * (iota (Fp2.ofBase q.x) - iota xR * omega2)) :=
  lineFunctionDouble_is_tangent r q xR yR lam ht hx hy hl

/-- satisfiable (ℤ: R = (2, 3, 1), slope λ = 2: 2·6 = 3·4) -/
example :=
  line_is_tangent (⟨⟨0, 2⟩, ⟨0, 3⟩, ⟨0, 1⟩, ⟨0, 1⟩⟩ : Jac (Fp2 Int)) (⟨5, 7, 1, 1⟩ : Jac Int) ⟨0, 2⟩ ⟨0, 3⟩ ⟨0, 2⟩
    (by decide) (by decide) (by decide) (by decide)

set_option maxRecDepth 100000 in
/-- **the translated Miller loop is the fold over the regenerated NAF digits** (E1's `sixuPlus2NAF`, E7's unrolled
`miller`): over every field, all constants, all points — by evaluation of the fold over the 65 literal digits -/
theorem miller_is_fold {K : Type} [Field K] [DecidableEq K] (cs : FrobConsts K) (q : Jac (Fp2 K)) (p : Jac K) :
    Bn256Code.miller cs q p = millerFold cs Gen.Bn256.sixuPlus2NAF q p := by
  rfl

/-- **one iteration multiplies the squared accumulator by the tangent line and, on a digit ±1, by the chord through
±Q** (the `first` iteration only omits the squaring of the accumulator 1) -/
theorem miller_step_is_product {K : Type} [Field K] [DecidableEq K] (aAff minusA : Jac (Fp2 K)) (bAff : Jac K)
    (r2 : Fp2 K) (digit : Int) (st : Fp12 K × Jac (Fp2 K)) :
    let l := lineFunctionDouble st.2 bAff
    let tangent := lineElem l.1 l.2.1 l.2.2.1
    (millerStep aAff minusA bAff r2 false digit st).1 =
      if digit = 1 then
        st.1 * st.1 * tangent * (let l2 := lineFunctionAdd l.2.2.2 aAff bAff r2; lineElem l2.1 l2.2.1 l2.2.2.1)
      else if digit = -1 then
        st.1 * st.1 * tangent * (let l2 := lineFunctionAdd l.2.2.2 minusA bAff r2; lineElem l2.1 l2.2.1 l2.2.2.1)
      else st.1 * st.1 * tangent :=
  millerStep_spec aAff minusA bAff r2 digit st

/-- the digit list the fold runs over: 64 iterations, 25 of them with a chord -/
example : (Gen.Bn256.sixuPlus2NAF.take (Gen.Bn256.sixuPlus2NAF.length - 1)).length = 64 ∧
    ((Gen.Bn256.sixuPlus2NAF.take (Gen.Bn256.sixuPlus2NAF.length - 1)).filter (· ≠ 0)).length = 25 := by decide

end Dos.Props.C10Line
