/-
C20 — the public `kyber.Scalar` wrappers of group/edwards25519/scalar.go (Add, Sub, Neg, Mul, Inv, Div, Set,
Equal, setInt, SetBytes, MarshalBinary, UnmarshalBinary), as THEOREMS over the translated limb routines
(`Model/Ed25519ScalarApi.lean`: each wrapper is its method body over Gen.Ed25519Sc.scAdd / scSub / scMul; the bodies are
pinned as source text by `C20Pins.scalar_wrappers_source_pinned`); the differential cases `api`, `ali`, `apx` run the same
wrappers against the code.

For ALL 32-byte operands — raw bytes as `UnmarshalBinary` stores them, reduced or not:
  * Add / Sub / Neg / Mul return the canonical 32-byte encoding of (a ± b) mod ℓ, −a mod ℓ, a·b mod ℓ;
  * Inv returns a^(ℓ−2) mod ℓ (the 256 square-and-multiply rounds over the bits of lMinus2, by induction), which is the
    inverse whenever ℓ ∤ a (Fermat, ℓ prime is proved) and 0 for a ≡ 0;
  * Div returns a·b^(ℓ−2) mod ℓ, hence (a / b)·b ≡ a when ℓ ∤ b;
  * every result is canonical: MarshalBinary returns the stored bytes unchanged and UnmarshalBinary reads them back.
-/
import DosModel.Proofs.ZModFacts
import DosModel.Proofs.Ed25519Api
import DosModel.Proofs.Ed25519Enc
import DosModel.Proofs.ComposePrimes

namespace Dos.Props.C20Api
open Dos Dos.Ed25519 Dos.Ed25519.Api Dos.Gen.Ed25519Sc

theorem canonical_of (r : Bytes) (hl : r.length = 32) (hlt : leNat r < ell) :
    marshal r = r ∧ unmarshal (marshal r) = .ok r := by
  have h : scMarshal r = r := (scMarshal_eq_self_iff r).mpr ⟨hl, hlt⟩
  refine ⟨h, ?_⟩
  show scUnmarshal (scMarshal r) = .ok r
  rw [h]; simp [scUnmarshal, hl]

example : marshal one = one := (canonical_of one (by decide) (by decide)).1

/-- **Add, Mul**: canonical encodings of (a + b) mod ℓ and a·b mod ℓ -/
theorem scalar_add_mul_correct (a b : Bytes) (ha : a.length = 32) (hb : b.length = 32) :
    ((add a b).length = 32 ∧ leNat (add a b) = (leNat a + leNat b) % ell ∧ marshal (add a b) = add a b)
    ∧ ((mul a b).length = 32 ∧ leNat (mul a b) = (leNat a * leNat b) % ell ∧ marshal (mul a b) = mul a b) := by
  have hadd : leNat (add a b) = (leNat a + leNat b) % ell := by
    have h := scAdd_full a b ha hb
    exact_mod_cast h
  have hmul : leNat (mul a b) = (leNat a * leNat b) % ell := scMul_val a b ha hb
  have hpos : 0 < ell := by decide
  exact ⟨⟨scAdd_length a b, hadd, (canonical_of _ (scAdd_length a b) (hadd ▸ Nat.mod_lt _ hpos)).1⟩,
    ⟨scMul_length a b, hmul, (canonical_of _ (scMul_length a b) (hmul ▸ Nat.mod_lt _ hpos)).1⟩⟩

example : leNat (add one one) = (leNat one + leNat one) % ell :=
  (scalar_add_mul_correct one one (by decide) (by decide)).1.2.1

theorem scSub_lt (x y : Bytes) (hx : x.length = 32) (hy : y.length = 32) : leNat (scSub shrI x y) < ell := by
  have h := scSub_full x y hx hy
  have hp : (0 : Int) < (ell : Int) := by exact_mod_cast (by decide : 0 < ell)
  have h2 := Int.emod_lt_of_pos ((leNat x : Int) - leNat y) hp
  rw [← h] at h2
  exact_mod_cast h2

example : leNat (scSub shrI one one) < ell := scSub_lt one one (by decide) (by decide)

/-- **Sub, Neg**: canonical encodings of (a − b) mod ℓ and −a mod ℓ (the non-negative representatives) -/
theorem scalar_sub_neg_correct (a b : Bytes) (ha : a.length = 32) (hb : b.length = 32) :
    ((sub a b).length = 32 ∧ (leNat (sub a b) : Int) = ((leNat a : Int) - leNat b) % (ell : Int)
      ∧ marshal (sub a b) = sub a b)
    ∧ ((neg a).length = 32 ∧ (leNat (neg a) : Int) = (-(leNat a : Int)) % (ell : Int) ∧ marshal (neg a) = neg a) := by
  have hz : zero.length = 32 := List.length_replicate
  have hn : (leNat (scSub shrI zero a) : Int) = (-(leNat a : Int)) % (ell : Int) := by
    have h := scSub_full zero a hz ha
    rw [zero_val, Nat.cast_zero, zero_sub] at h
    exact h
  exact ⟨⟨scSub_length a b, scSub_full a b ha hb, (canonical_of _ (scSub_length a b) (scSub_lt a b ha hb)).1⟩,
    ⟨scSub_length zero a, hn, (canonical_of _ (scSub_length zero a) (scSub_lt zero a hz ha)).1⟩⟩

example : (leNat (neg one) : Int) = (-(leNat one : Int)) % (ell : Int) :=
  (scalar_sub_neg_correct one one (by decide) (by decide)).2.2.1


theorem fermat_inv (x n : ℕ) (hn : n + 2 = ell) (hnd : ¬ ell ∣ x) : (x ^ n % ell * x) % ell = 1 := by
  have := Dos.Compose.fact_ell
  have hne : ((x : ℕ) : ZMod ell) ≠ 0 := by
    rw [Ne, ZMod.natCast_eq_zero_iff]; exact hnd
  have h1 : (((x ^ n % ell * x : ℕ)) : ZMod ell) = ((1 : ℕ) : ZMod ell) := by
    push_cast
    rw [ZMod.natCast_mod, Nat.cast_pow, show n = ell - 2 by omega, ZModFacts.pow_sub_two (by decide),
      inv_mul_cancel₀ hne]
  have h2 := (ZMod.natCast_eq_natCast_iff' _ _ _).1 h1
  rw [h2]
  exact Nat.mod_eq_of_lt (by omega)

example : ¬ ell ∣ 2 := by decide

theorem pow_of_multiple (c n : ℕ) (hn : n ≠ 0) : (ell * c) ^ n % ell = 0 := by
  rw [Nat.pow_mod, Nat.mul_mod_right, zero_pow hn, Nat.zero_mod]

example : (ell * 3) ^ 2 % ell = 0 := pow_of_multiple 3 2 (by decide)

/-- **Inv**: a^(ℓ−2) mod ℓ by the loop over the bits of `lMinus2`; the multiplicative inverse whenever ℓ ∤ a -/
theorem scalar_inv_correct (a : Bytes) (ha : a.length = 32) :
    (inv a).length = 32 ∧ leNat (inv a) = leNat a ^ (ell - 2) % ell ∧ marshal (inv a) = inv a
    ∧ (¬ ell ∣ leNat a → (leNat (inv a) * leNat a) % ell = 1)
    ∧ (ell ∣ leNat a → leNat (inv a) = 0) := by
  obtain ⟨hl, hv⟩ := inv_spec a ha
  have hpos : 0 < ell := by decide
  refine ⟨hl, hv, (canonical_of _ hl (by rw [hv]; exact Nat.mod_lt _ hpos)).1, ?_, ?_⟩
  · intro hnd
    rw [hv]
    exact fermat_inv (leNat a) (ell - 2) (by decide) hnd
  · intro hd
    rw [hv]
    obtain ⟨c, hc⟩ := hd
    rw [hc]
    exact pow_of_multiple c (ell - 2) (by decide)

example : (inv one).length = 32 := (scalar_inv_correct one (by decide)).1

/-- **Div**: a·b^(ℓ−2) mod ℓ; multiplied back by b it is a (mod ℓ) whenever ℓ ∤ b -/
theorem scalar_div_correct (a b : Bytes) (ha : a.length = 32) (hb : b.length = 32) :
    (div a b).length = 32 ∧ leNat (div a b) = (leNat a * (leNat b ^ (ell - 2) % ell)) % ell
    ∧ marshal (div a b) = div a b
    ∧ (¬ ell ∣ leNat b → (leNat (div a b) * leNat b) % ell = leNat a % ell) := by
  obtain ⟨hil, hiv, _, hinv, _⟩ := scalar_inv_correct b hb
  have hv : leNat (div a b) = (leNat a * (leNat b ^ (ell - 2) % ell)) % ell := by
    show leNat (scMul shrI a (inv b)) = _
    rw [scMul_val a (inv b) ha hil, hiv]
  have hpos : 0 < ell := by decide
  refine ⟨scMul_length _ _, hv, (canonical_of _ (scMul_length _ _) (hv ▸ Nat.mod_lt _ hpos)).1, ?_⟩
  intro hnd
  have h1 := hinv hnd
  rw [hiv] at h1
  rw [hv, Nat.mod_mul_mod, mul_assoc, Nat.mul_mod, h1, Nat.mul_one, Nat.mod_mod]

example : (div one one).length = 32 := (scalar_div_correct one one (by decide) (by decide)).1

/-- Set / Clone copy the bytes; Equal compares the RAW bytes (so ℓ and 0, two encodings of one value, are unequal);
setInt / SetBytes store canonical encodings -/
theorem scalar_plumbing_correct (a : Bytes) (n : Nat) (b : Bytes) :
    set a = a ∧ equal a a = true
    ∧ equal (natLE 32 ell) (natLE 32 0) = false
    ∧ marshal (setInt n) = setInt n ∧ leNat (setInt n) = n % ell
    ∧ marshal (setBytes b) = setBytes b ∧ leNat (setBytes b) = leNat b % ell := by
  have hc : ∀ m, scMarshal (natLE 32 (m % ell)) = natLE 32 (m % ell) ∧ leNat (natLE 32 (m % ell)) = m % ell :=
    fun m => scMarshal_natLE (Nat.mod_lt _ (by decide))
  exact ⟨rfl, by simp [equal], by decide, (hc n).1, (hc n).2, (hc (leNat b)).1, (hc (leNat b)).2⟩

example : leNat (setInt (ell + 5)) = 5 := by
  rw [(scalar_plumbing_correct [] (ell + 5) []).2.2.2.2.1]; decide

/-- **SetInt64, Pick, MarshalTo, UnmarshalFrom** (over the modelled external `mod.NewInt64` / `random.Int`): SetInt64 stores
the canonical encoding of v mod ℓ; whatever Pick stores is canonical, non-zero and below ℓ, and is the first acceptable block
of the stream; MarshalTo writes the canonical 32 bytes and UnmarshalFrom reads them back, consuming exactly 32 -/
theorem scalar_io_correct (v : Int) (draws : List Bytes) (a rest : Bytes) :
    (marshal (setInt64 v) = setInt64 v ∧ (leNat (setInt64 v) : Int) = v % (ell : Int))
    ∧ (∀ r, pick draws = some r → marshal r = r ∧ 0 < leNat r ∧ leNat r < ell)
    ∧ (marshalTo a).length = 32
    ∧ unmarshalFrom (marshalTo a ++ rest) = (32, .ok (marshal a)) := by
  have hposI : (0 : Int) < (ell : Int) := by exact_mod_cast (by decide : 0 < ell)
  have hml : (marshalTo a).length = 32 := natLE_length _ _
  have h0 := Int.emod_nonneg v (ne_of_gt hposI)
  have h1 : (v % (ell : Int)).toNat < ell := by
    have := Int.emod_lt_of_pos v hposI
    omega
  refine ⟨⟨(scMarshal_natLE h1).1, ?_⟩, ?_, hml, ?_⟩
  · show (leNat (natLE 32 _) : Int) = _
    rw [(scMarshal_natLE h1).2]
    exact Int.toNat_of_nonneg h0
  · intro r hr
    obtain ⟨k, hk, rfl⟩ := Option.map_eq_some_iff.1 hr
    obtain ⟨k0, k1⟩ := randomInt_range draws k hk
    show marshal (natLE 32 (k % ell)) = natLE 32 (k % ell) ∧ 0 < leNat (natLE 32 (k % ell)) ∧ leNat (natLE 32 (k % ell)) < ell
    rw [Nat.mod_eq_of_lt k1, (scMarshal_natLE k1).2]
    exact ⟨(scMarshal_natLE k1).1, k0, k1⟩
  · unfold unmarshalFrom
    have hlen : ¬ (marshalTo a ++ rest).length < 32 := by rw [List.length_append, hml]; omega
    rw [if_neg hlen, List.take_append_of_le_length (by rw [hml]), List.take_of_length_le (by rw [hml])]
    show (32, scUnmarshal (scMarshal a)) = _
    simp [scUnmarshal, marshal, show (scMarshal a).length = 32 from natLE_length _ _]

example : pick [List.replicate 32 0, List.replicate 31 0 ++ [5]] = some (natLE 32 5) := by decide

end Dos.Props.C20Api
