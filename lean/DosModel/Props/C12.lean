/-
C12 — no peer message, event field or fetched document can crash the node.

Panic-freedom = totality of the handler models (`Model/Handlers*.lean`): every place where the Go
code could panic is a `panic site` branch of the model, protected by the guard the code has; the
theorems say that, for EVERY message, field combination, state and history, no handler takes
such a branch, and the serving loops stay alive and still serve a following valid message.

Tie to the code (re-established on every run):
* `inventory_matches`, `reach_closed` — the panic-site inventory regenerated from /repo (extractor E5)
  agrees, key by key and guard by guard, with the hand-maintained map site → model clause;
  a new, vanished or re-guarded site breaks these;
* `guards_present` — every guard the models rely on is found in the regenerated inventory,
  i.e. the configuration of the code as it is (`Cfg.current`) is the all-guards one;
  all totality theorems are stated for `Cfg.current`.
Third-party decoders (protobuf, dedis/protobuf, ajson, xmlquery, serf) are not modelled: their
inputs are fuzzed by the harness (see meta/C12.json "partial").
-/
import DosModel.Proofs.Handlers
import DosModel.Proofs.HandlersDkg
import DosModel.Proofs.HandlersNode
import DosModel.Proofs.HandlersIso
import DosModel.Proofs.HandlersChain
import DosModel.Proofs.HandlersDoc

namespace Dos.Props.C12
open Dos Dos.Handlers

/-! ### the inventory -/

-- `rfl` compares the string literals of the two lists by identity (`decide` would encode each of them to bytes), but
-- walks both lists, one entry per site, by recursion at elaboration: deeper than the default limit
set_option maxRecDepth 16384 in
/-- every extracted site has exactly one table entry with exactly the extracted guard, and vice versa -/
theorem inventory_matches : pairsGen = pairsTable := by rfl

/-- no function of the anchored files is called from the reach set without being classified -/
theorem reach_closed : Gen.PanicSites.unlisted = [] := by rfl

/-- every entry classified `.guarded` (safe because of the guard / structural fact the extractor found,
not modelled) has, in the regenerated inventory, a guard of a class that suffices for its kind: nil
comparison of the dereferenced operand, `len`/`range` bound of the indexed value, comma-ok form, plain
map read, deferred close of a channel made by the same function, write to a map made by the same function -/
theorem guarded_sites_checked : guardedOK = true := guardedOK_of_aligned inventory_matches (by decide +kernel)

/-- how the sites are accounted for: (modelled — flag / cross-function flag / model branch —,
safe by extracted guard (checked above), safe by prose argument: the trusted classifications) -/
theorem classification_counts : classCounts = (101, 142, 119) := by decide +kernel

/-- the session layer has exactly three statement lists that close a reply channel — completion in
`handlePeerMsg`, completion in `handleRequest`, the expiry sweep in `Loop` —; their clean-up operations
(regenerated: which map each `delete` clears, how many `close`s, no send after the close) are what
`Cfg.current.peerClean / reqClean / expClean` feed into the model, and `guards_present` below pins all
three to the complete clean-up (buffer AND registration deleted, channel closed once) on which the
invariant of `session_layer_total` rests. A `delete` of the wrong map or a dropped one turns the flag
off: the model then keeps the registration with its closed channel and predicts the later panic. -/
theorem cleanup_paths : cleanupPaths = ["dkg.handlePeerMsg", "dkg.handleRequest", "dkg.Loop"] := by rfl

/-- the tie of the event path (regenerated facts `eventFlow`, `loopSubs`, `loopCases`): onchainLoop subscribes
to exactly the seven expected event kinds, each has its table entry in eth_subscribe.go, the payload that
entry builds copies every field of the contract binding verbatim (so the non-nil integers of the ABI
decoder stay non-nil), the `LogCommon` wrapper carries the payload under `log` and the binding's Removed
flag, only `&OnchainError` values are sent as errors, and the loop's type switch has a case for each of
the seven payload types and for nothing else. A dropped field, a new subscription without entry, an
unchecked assertion instead of the switch breaks this (and turns `Cfg.current.evFlow` off: the model then
predicts the nil dereference). -/
theorem event_flow_matches : flowOK = true := by decide +kernel

/-- every guard the models rely on is present in the current source -/
theorem guards_present : Cfg.current = Cfg.all := by
  have h := Bool.and_eq_true_iff.mp guards_stated
  simp only [Cfg.current, event_flow_matches,
    flagOn_eq (flagged_hold inventory_matches h.1) (List.all_eq_true.mp h.2)]
  decide +kernel

/-! ### key generation -/

/-- **pdkg.Loop session layer**: for every sequence of peer messages (public keys, deals, responses
with or without sub-message, any indices, any session ids), registrations (any expected count,
also 0 and negative) and expiry sweeps (8d5de85: any set of session contexts done, at any point),
`handlePeerMsg` / `handleRequest` / the sweep never use the zero-value request (nil context), never
close a reply channel twice — a registration in the map always has an open reply channel, distinct
from every other one (`SessInv`) — and the loop stays alive. -/
theorem session_layer_total (evs : List SessEv) :
    (sessRun Cfg.current {} evs).1.alive = true ∧ ∀ o ∈ (sessRun Cfg.current {} evs).2, o.isPanic = false := by
  rw [guards_present]
  have := sessRun_inv evs {} sessInit_inv
  exact ⟨this.1.alive, this.2⟩

/-- **sessions do not interfere** (the maps of the loop are keyed by session id): in ANY event list —
junk, duplicates and registrations of other sessions, expiry sweeps that do not report `s'` done —
the events of session `s'` are answered exactly as if they were alone (`vrun` sees only `s'`'s
buffer and expected count). -/
theorem sessions_independent (s' : String) (evs : List SessEv)
    (hx : ∀ e ∈ evs, ∀ d, e = .expire d → d.contains s' = false) :
    outsFor s' evs (sessRun Cfg.current {} evs).2 = vrun ⟨[], none⟩ (evs.filter (touches s')) := by
  rw [guards_present]
  have := outsFor_eq_vrun s' evs hx {} sessInit_inv
  simpa [view, alookup] using this

/-- **the node keeps serving OTHER sessions**: whatever is sent about any other session S (junk
included, before, during and after), a complete honest exchange of a different session `s'` among
`n + 1` members ends with all `n` peer messages handed to its stage. -/
theorem other_session_still_served (s' : String) (n : Nat) (hn : 0 < n) (evs : List SessEv)
    (hx : ∀ e ∈ evs, ∀ d, e = .expire d → d.contains s' = false)
    (hrun : evs.filter (touches s') = honestRun s' n) :
    (outsFor s' evs (sessRun Cfg.current {} evs).2).getLast? = some (.ok s!"fire {n}") := by
  rw [sessions_independent s' evs hx, hrun]
  exact vrun_honest s' n hn

/-- **exchangePub**: any mix of element types in any batching is an error or a wait, never a failed assertion -/
theorem exchangePub_total (n : Nat) (self : Elem) (bs : List (List Elem)) :
    (exchangePub Cfg.current n self bs).isPanic = false := by
  rw [guards_present]; exact Handlers.exchangePub_total n self bs

/-- what exchangePub hands to the next stage has exactly `n` keys (the hypothesis of the next theorem) -/
theorem exchangePub_hands_over_n (n : Nat) (self : Elem) (bs : List (List Elem)) (i : String)
    (h : exchangePub Cfg.current n self bs = .ok i) : i = toString n := by
  rw [guards_present] at h
  cases self with
  | other => simp [exchangePub] at h
  | good j sd hk => exact xpubLoop_count n bs 1 i h

/-- **genDistKeyGenerator → NewDistKeyGenerator → NewDealer** on the `n` public-key messages
`exchangePub` hands over: any index (also ≥ n), missing / identity / undecodable key, duplicates. -/
theorem genDistKeyGenerator_total (n : Nat) (pubs : List PubMsg) (hlen : pubs.length = n) :
    (genDkg Cfg.current n pubs).isPanic = false := by
  rw [guards_present]; exact genDkg_total n pubs hlen

/-- **ProcessDeal / ProcessResponse** in any order, any number of times, on any generator state:
missing sub-messages, out-of-range indices, bad signatures, undecodable keys, any nonce length,
boxes that do not open or do not decode, deals without share / share value, any threshold,
responses about unknown or failed deals, duplicates, responses about the own deal. -/
theorem deal_response_total (st : DkgSt) (ops : List DkgOp) :
    ∀ o ∈ (dkgRun Cfg.current st ops).2, o.isPanic = false := by
  rw [guards_present]; exact dkgRun_total ops st

/-- … and the generator keeps serving WITHIN the same session: after ANY such history an honest deal
from a member that has not dealt yet is approved. The hypothesis `hnew` (no verifier stored under that
dealer index yet) is essential and is exactly the code's behaviour: `ProcessDeal` stores the verifier
before it looks at the deal, so ONE junk deal under index j makes the genuine deal of j "already
received" and the stage of THIS session gives up (a peer can abort the session it takes part in: C05).
What the property asks for — other sessions and requests keep being served — is
`other_session_still_served`, `other_session_deals_served` and `queryLoop_still_serves`. -/
theorem honest_deal_still_served (st : DkgSt) (ops : List DkgOp) (idx t : Nat)
    (hidx : idx < st.n) (hme : st.me < st.n) (ht : validT t st.n = true)
    (hnew : vlookup idx (dkgRun Cfg.current st ops).1.vers = none)
    (hn : (dkgRun Cfg.current st ops).1.n = st.n) (hm : (dkgRun Cfg.current st ops).1.me = st.me) :
    (processDeal Cfg.current (dkgRun Cfg.current st ops).1 (honestDeal idx st.me t)).2 = .ok "approval" := by
  -- `hn`, `hm` hold of every history (`dkgRun_n_me`)
  rw [guards_present] at hnew ⊢
  exact honest_deal_served_after st ops idx t hidx hme ht hnew

/-- **another session has its own generator**: whatever happened in other sessions (their
`DistKeyGenerator`s are different objects: `DkgSt` is per session), in a new session the honest deals
of all other members are approved one after the other. -/
theorem other_session_deals_served (n me t : Nat) (hme : me < n) (ht : validT t n = true) (dealers : List Nat)
    (hnd : dealers.Nodup) (hd : ∀ i ∈ dealers, i < n ∧ i ≠ me) :
    ∀ o ∈ (dkgRun Cfg.current (DkgSt.init n me) (dealers.map (fun i => .deal (honestDeal i me t)))).2, o = .ok "approval" := by
  rw [guards_present]
  apply honest_deals_run t dealers (DkgSt.init n me) hme ht hnd
  intro i hi
  have := hd i hi
  refine ⟨this.1, ?_⟩
  simp [DkgSt.init, vlookup, Ne.symm this.2]

/-- **genGroup → DistKeyShare**: after ANY history of deals and responses every aggregator the
generator holds stores a deal whose share has a value, so `DistKeyShare` never dereferences a missing
deal or a nil scalar (this is what rejecting a value-less share before the aggregator exists buys). -/
theorem distKeyShare_total (n me : Nat) (ops : List DkgOp) :
    (distKeyShare (dkgRun Cfg.current (DkgSt.init n me) ops).1).isPanic = false := by
  rw [guards_present]
  exact distKeyShare_good _ (dkgRun_good ops _ (goodVers_init n me))

/-- the two stages entered after the context ended (no generator) or with an element of another type -/
theorem stage_entry_total (haveDkg : Bool) (e : Elem) :
    (stageEntry Cfg.current.dealsDkgNil haveDkg "s").isPanic = false ∧ (stageCast Cfg.current.dealsCast e "s").isPanic = false ∧
    (stageEntry Cfg.current.respsDkgNil haveDkg "s").isPanic = false ∧ (stageCast Cfg.current.respsCast e "s").isPanic = false := by
  rw [guards_present]
  cases haveDkg <;> cases e <;> simp [stageEntry, stageCast]

theorem decodePubKey_total (len : Nat) : (decodePubKey Cfg.current len).isPanic = false := by
  rw [guards_present]; exact Handlers.decodePubKey_total len

theorem toBigInt_total (len : Nat) : (toBigInt Cfg.current len).isPanic = false := by
  rw [guards_present]; exact Handlers.toBigInt_total len

/-! ### collector, recovery, event handlers -/

/-- **queryLoop**: any sequence of shares (any request id, also empty), other messages and registrations -/
theorem queryLoop_total (evs : List QEv) :
    (qRun Cfg.current {} evs).1.alive = true ∧ ∀ o ∈ (qRun Cfg.current {} evs).2, o.isPanic = false := by
  rw [guards_present]; exact qRun_total evs {} rfl

/-- … and it keeps serving: after any history a registration followed by a share for that id delivers it -/
theorem queryLoop_still_serves (evs : List QEv) (rid : Bytes) :
    (qRun Cfg.current {} (evs ++ [.reg rid, .sig rid])).2.getLast? = some (.ok "deliver") := by
  rw [guards_present]; exact qloop_serves evs rid

/-- **recoverSign → tbls.Recover → RecoverCommit → ToBigInt**: for every verification oracle
(`valid content share`), threshold, group size and stream of shares — nil, empty, 1-byte, truncated,
extended, duplicated, wrong index, index ≥ n, other content, content shorter than the address suffix —
`RecoverCommit` keeps one share per index (/repo 2d8b40a), so no Lagrange denominator is zero, no slice or make is
out of range, and the stage stays alive. -/
theorem recoverSign_total (valid : Bytes → Bytes → Bool) (t n : Nat) (ms : List (Option Sign)) :
    (rsRun Cfg.current valid t n {} ms).1.alive = true ∧ ∀ o ∈ (rsRun Cfg.current valid t n {} ms).2, o.isPanic = false := by
  rw [guards_present]; exact rsRun_total valid t n ms {} rfl

/-- tbls.Recover on its own (exported API), any share set -/
theorem tblsRecover_total (valid : Bytes → Bool) (t n : Nat) (sigs : List Bytes) :
    (tblsRecover Cfg.current valid t n sigs).isPanic = false := by
  rw [guards_present]; exact Handlers.tblsRecover_total valid t n sigs

theorem choseSubmitter_total (rand nids : Nat) : (choseSubmitter Cfg.current rand nids).isPanic = false := by
  rw [guards_present]; exact Handlers.choseSubmitter_total rand nids

theorem byte32_total (len : Nat) : (byte32 Cfg.current len).isPanic = false := by
  rw [guards_present]; exact Handlers.byte32_total len

theorem handleCR_seed_total (seed : Int) : (handleCRSeed Cfg.current seed).isPanic = false := by
  rw [guards_present]; exact Handlers.handleCRSeed_total seed

/-! ### transport and gossip -/

theorem decodeBytes_total (verify : Bool) (f : Frame) : (decodeOut Cfg.current verify f).isPanic = false := by
  rw [guards_present]; exact decodeOut_total verify f

theorem decodePipe_total (f : Frame) : (decodePipe Cfg.current f).isPanic = false := by
  rw [guards_present]; exact Handlers.decodePipe_total f

/-- **receiveID**: truncated / oversize frame, undecodable package, package without message, any
message type, identity or undecodable public key, own id -/
theorem receiveID_total (w : Wire) : (receiveID Cfg.current w).isPanic = false := by
  rw [guards_present]; exact Handlers.receiveID_total w

/-- **client.dispatch**: any sequence of own requests, cancellations and reply packets with ANY
RequestNonce (duplicate reply, nonce never issued, reply before any request, reply after the
requester gave up): a reply without pending request is dropped, the link stays alive -/
theorem dispatch_total (evs : List DispEv) :
    (dispRun Cfg.current {} evs).1.alive = true ∧ ∀ o ∈ (dispRun Cfg.current {} evs).2, o.isPanic = false := by
  rw [guards_present]; exact dispRun_total evs {} rfl

/-- … and a following honest round trip still succeeds: the next request is matched by the reply with its nonce -/
theorem dispatch_still_serves (evs : List DispEv) :
    ∃ k, (dispRun Cfg.current {} (evs ++ [.send, .reply k])).2.getLast? = some (.ok "matched") := by
  rw [guards_present]; exact disp_serves evs

/-- **callHandler, the table of outbound connections**: any sequence of dials (handshake completing or
not, the peer announcing the dialled id, another id, none), hang-ups of connections that hold an entry
and of connections `DisConnectTo` removed from the table without closing them (the peer hangs up
afterwards: the id is reported a second time), `DisConnectTo` of ANY id (connected, never connected,
disconnected already — double removal), requests and `Leave`: the removal branch never dereferences a
missing entry, the handler stays alive -/
theorem connection_table_total (evs : List ConnEv) :
    (connRun Cfg.current {} evs).1.alive = true ∧ ∀ o ∈ (connRun Cfg.current {} evs).2, o.isPanic = false := by
  rw [guards_present]
  have := connRun_inv evs {} ⟨rfl, by simp⟩
  exact ⟨this.1.1, this.2⟩
-- DisConnectTo, then the peer hangs up (second removal of the same id), DisConnectTo of an id never dialled, twice
example : (connRun Cfg.all {} [.dial 2 2 true, .disc 2, .hangup 2, .disc 7, .disc 7, .req 2]).2
    = [.ok "dialled", .ok "removed", .ok "kept", .ok "kept", .ok "kept", .ok "dialled"] := by decide +kernel
-- the same history on a tree without the `c != nil` test around the removal: the node dies
example : (connRun { Cfg.all with callRemoveNil := false } {} [.req 2, .disc 2, .hangup 2]).2
    = [.ok "dialled", .ok "removed", .panic "p2p.server.callHandler|deref|c.conn"] := by rfl
example : (connRun { Cfg.all with callRemoveNil := false } {} [.disc 7]).2.any Out.isPanic = true := by decide
-- the end of the connection DisConnectTo left open takes the entry of the NEWER connection to that member with it
example : ((connRun Cfg.all {} [.dial 2 2 true, .disc 2, .dial 2 2 true, .hangupOld 2]).1.tab, (connRun Cfg.all {} [.dial 2 2 true, .disc 2, .dial 2 2 true, .hangupOld 2]).2)
    = ([], [.ok "dialled", .ok "removed", .ok "dialled", .ok "removed"]) := by decide +kernel

/-- … and after any history a PEER can produce (dials answered with any id or none, handshakes that
fail, hang-ups at any point, interleaved with requests) a request to ANY member is served over a live
connection: no dead entry is ever left behind (what f4bcda2 repaired: see the witness below with
`callIdMatch` off) -/
theorem connection_table_still_serves (evs : List ConnEv) (x : Nat) (hp : ∀ e ∈ evs, e.peerOnly = true) :
    ∃ i, (connStep Cfg.current (connRun Cfg.current {} evs).1 (.req x)).2 = .ok i := by
  rw [guards_present]; exact conn_serves_peer evs x hp
example : ∃ i, (connStep Cfg.current (connRun Cfg.current {} [.dial 2 3 true, .hangup 2, .req 2, .hangup 2, .dial 3 0 true, .dial 5 5 false]).1 (.req 2)).2 = .ok i :=
  connection_table_still_serves _ 2 (by decide)

/-- … and with the node's own `DisConnectTo` calls in the history too (any id, any number of times; the
entry is deleted, the connection stays open and reports its end later): every member is still served,
except — while that connection lives — a member the node itself cut loose: the member keeps one
inbound connection per peer and closes the second one (`err dup`; ends with the 60 s idle timer).
That exception is the doing of a local call nothing in the node makes, not of a peer. -/
theorem connection_table_serves_after_disconnect (evs : List ConnEv) (x : Nat) (hl : ConnEv.leave ∉ evs)
    (hcut : connCutLoose (connRun Cfg.current {} evs).1 x = false) :
    ∃ i, (connStep Cfg.current (connRun Cfg.current {} evs).1 (.req x)).2 = .ok i := by
  rw [guards_present] at hcut ⊢; exact conn_serves evs x hl hcut
example : ∃ i, (connStep Cfg.current (connRun Cfg.current {} [.dial 2 2 true, .disc 2, .dial 2 2 true, .hangupOld 2, .disc 2, .disc 9, .hangup 2, .req 3, .disc 3]).1 (.req 2)).2 = .ok i :=
  connection_table_serves_after_disconnect _ 2 (by decide) (by rw [guards_present]; decide)
-- the exception: the honest member refuses a second connection while the one cut loose is open
example : (connRun Cfg.all {} [.req 2, .disc 2, .req 2, .req 3]).2 = [.ok "dialled", .ok "removed", .err "dup", .ok "dialled"] := by decide +kernel
-- after Leave nothing is handled (and nothing crashes)
example : (connRun Cfg.all {} [.req 2, .leave, .disc 2, .hangup 2, .req 3]).2 = [.ok "dialled", .ok "left", .dropped, .dropped, .dropped] := by decide +kernel

/-! ### the chain-event half: no field of an on-chain event makes the node panic -/

/-- what the translation delivers has no nil field, whatever the values (any magnitude, any id list) -/
theorem translated_events_wellformed (ev : RawEv) (p : Payload) (h : translate Cfg.current ev = some p) : p.wf = true := by
  rw [guards_present] at h; exact translate_wf ev p h
example : translate Cfg.current (.userRandom 0 (2 ^ 256 - 1) 7 5) = some (.userRandom (some 0) (some (2 ^ 256 - 1)) (some 7) (some 5)) := by
  rw [guards_present]; decide

/-- **the chain side is total**: for this node's id, any group table, any number of endpoints and EVERY
sequence of inputs the chain side can produce — contract logs with fields of any magnitude (request ids,
seeds, block numbers 0 … 2²⁵⁶−1), NodeId lists of any length (empty, one, duplicates, with or without this
node), group ids known / unknown / in formation, Removed logs, re-deliveries, events nobody subscribed to,
values that are not logs, plain and `OnchainError` error values, completions of key generations, and
(doubles) directly injected payloads without nil fields —: `firstEvent`, onchainLoop's dispatch,
`handleGrouping` → `pdkg.Grouping`, `isMember` → `GetShareSecurity`, `groupInfo`, `handleQuery` →
`choseSubmitter`, `handleCR`, `DisconnectWs` reach no panic site and the loop stays alive. -/
theorem chain_events_total (me nWs : Nat) (groups : List GroupRec) (visited : List Nat) (ins : List ChainIn)
    (h : ∀ i ∈ ins, i.fromChain nWs = true) :
    (chainRun Cfg.current me { groups := groups, nWs := nWs, visited := visited } ins).1.alive = true ∧
    ∀ o ∈ (chainRun Cfg.current me { groups := groups, nWs := nWs, visited := visited } ins).2, o.isPanic = false := by
  rw [guards_present]
  have := chainRun_total me ins { groups := groups, nWs := nWs, visited := visited } ⟨rfl, rfl⟩ h
  exact ⟨this.1.1, this.2⟩
example : (chainRun Cfg.all 1 { groups := [⟨some 5, 3, true⟩, ⟨some 6, 0, true⟩] }
    [.log (.url 9 (2 ^ 256 - 1) 5) false 0, .log (.url 9 (2 ^ 256 - 1) 5) false 0, .log (.updateRandom 0 6) false 1, .log (.grouping 7 []) false 2,
     .log (.grouping 7 [1]) false 3, .log (.grouping 7 [1, 1, 2]) false 4, .log (.keyAccepted 7) false 5, .log (.startCR 1 0 0 (2 ^ 64)) true 6,
     .log (.startCR 1 0 0 (2 ^ 64)) false 7, .junk, .log .unsubscribed false 8, .errv (.onchain 0), .errv .plain, .keygenDone (some 7), .log (.dissolve 7) false 9]).2
    = [.ok "query url", .dropped, .err "nogroup", .dropped, .ok "grouping 1", .err "dupgroup", .dropped, .dropped, .ok "cr", .dropped, .dropped,
       .ok "disconnect", .ok "logged", .ok "", .ok "dissolved"] := by decide +kernel
-- negation witnesses (the code has no nil checks on event fields; confirmed on the real handlers by the nil-field `chain` cases):
example : (chainRun Cfg.all 1 { groups := [⟨some 5, 3, true⟩] } [.direct (.url none (some 1) (some 5))]).2 = [.panic "dosnode.DosNode.handleQuery|deref|requestID.Bytes"] := by rfl
example : (chainRun Cfg.all 1 {} [.direct (.updateRandom none (some 9)), .direct (.startCR (some 1) (some 1) (some 1) (some 1))]).2
    = [.dropped, .panic "dosnode.DosNode.handleCR|deref|randSeed.Cmp(big.NewInt(1))"] := by rfl
-- … which is what a translation that loses a field would deliver (flag `evFlow` off)
example : ((chainRun { Cfg.all with evFlow := false } 1 { groups := [⟨none, 3, true⟩] } [.log (.url 9 8 5) false 0]).2.any Out.isPanic) = true := by decide
-- a group whose key generation is still running, without the `dks != nil` test of GetShareSecurity
example : (chainRun { Cfg.all with secNil := false } 1 {} [.log (.grouping 7 [1, 2]) false 0, .log (.updateRandom 3 7) false 1]).2
    = [.ok "grouping 2", .panic "dkg.pdkg.GetShareSecurity|deref|dks.Share"] := by decide +kernel
example : (chainRun { Cfg.all with feCast := false } 1 {} [.junk]).2 = [.panic "onchain.firstEvent|typeassert|event.(*LogCommon)"] := by rfl

/-- **the loop keeps serving the next event**: after any such history, a request event for a group whose
key the node holds (with at least one member id) still gets its submitter and its pipeline … -/
theorem chain_events_still_serve_query (me nWs : Nat) (groups : List GroupRec) (ins : List ChainIn)
    (h : ∀ i ∈ ins, i.fromChain nWs = true) (g q r ident : Nat) (rec : GroupRec)
    (hg : findGroup (some g) (chainRun Cfg.current me { groups := groups, nWs := nWs } ins).1.groups = some rec)
    (hsec : rec.hasSec = true) (hn : rec.nids ≠ 0)
    (hfresh : (chainRun Cfg.current me { groups := groups, nWs := nWs } ins).1.visited.contains ident = false) :
    (chainStep Cfg.current me (chainRun Cfg.current me { groups := groups, nWs := nWs } ins).1 (.log (.url q r g) false ident)).2 = .ok "query url" := by
  rw [guards_present] at hg hfresh ⊢
  exact serves_query me _ (chainRun_total me ins { groups := groups, nWs := nWs } ⟨rfl, rfl⟩ h).1 g q r ident rec hg hsec hn hfresh
example : (chainStep Cfg.current 1 (chainRun Cfg.current 1 { groups := [⟨some 5, 3, true⟩] } [.direct (.url (some 1) (some 2) (some 9)), .junk, .errv .plain]).1 (.log (.url 4 0 5) false 77)).2 = .ok "query url" :=
  chain_events_still_serve_query 1 1 _ _ (by decide) 5 4 0 77 ⟨some 5, 3, true⟩ (by rw [guards_present]; decide) rfl (by decide) (by rw [guards_present]; decide)

/-- … and a grouping event that names this node and a group id the node does not know yet still starts a key generation -/
theorem chain_events_still_serve_grouping (me nWs : Nat) (groups : List GroupRec) (ins : List ChainIn)
    (h : ∀ i ∈ ins, i.fromChain nWs = true) (g ident : Nat) (ids : List Nat) (hme : ids.contains me = true)
    (hnew : findGroup (some g) (chainRun Cfg.current me { groups := groups, nWs := nWs } ins).1.groups = none)
    (hfresh : (chainRun Cfg.current me { groups := groups, nWs := nWs } ins).1.visited.contains ident = false) :
    (chainStep Cfg.current me (chainRun Cfg.current me { groups := groups, nWs := nWs } ins).1 (.log (.grouping g ids) false ident)).2
      = .ok s!"grouping {ids.length}" := by
  rw [guards_present] at hnew hfresh ⊢
  exact serves_grouping me _ (chainRun_total me ins { groups := groups, nWs := nWs } ⟨rfl, rfl⟩ h).1 g ident ids hme hnew hfresh
example : (chainStep Cfg.current 1 (chainRun Cfg.current 1 {} [.log (.grouping 3 [1, 2]) false 0, .log (.dissolve 3) false 1]).1 (.log (.grouping 4 [2, 1, 2]) false 5)).2 = .ok "grouping 3" :=
  chain_events_still_serve_grouping 1 1 _ _ (by decide) 4 5 [2, 1, 2] (by decide) (by rw [guards_present]; decide) (by rw [guards_present]; decide)

/-- **getBootIps**: the bootstrap URL of the bridge contract (parsable or not), the fetch (failing or not), a document with any number of separators -/
theorem getBootIps_total (urlOK fetched : Bool) (commas : Nat) : (getBootIps Cfg.current urlOK fetched commas).isPanic = false := by
  rw [guards_present]; exact Handlers.getBootIps_total urlOK fetched commas
example : getBootIps Cfg.all false false 0 = .ok "0" := by decide
-- before d508404: a URL that does not parse
example : (getBootIps { Cfg.all with bootReq := false } false false 0).isPanic = true := by decide

/-- **dataParse, nesting depth** (/repo 14409e8): whatever the fetched document — any bytes on the JSON side, any
tree on the XML side — the recursive evaluators are reached only with a document nested at most
`maxDocumentDepth` levels (as the scanner / the tree height see it); a deeper one is answered with an error.
The evaluators themselves are third party (fuzzed, not modelled). -/
theorem dataParse_depth_total (doc : Bytes) (t : XTree) :
    (dataParseJson Cfg.current doc).isPanic = false ∧ (dataParseXml Cfg.current t).isPanic = false
    ∧ (dataParseJson Cfg.current doc = .ok "eval" → jsonDepthExceeds maxDocumentDepth doc = false)
    ∧ (dataParseXml Cfg.current t = .ok "eval" → t.height ≤ maxDocumentDepth) := by
  rw [guards_present]
  refine ⟨docGuard_total _, docGuard_total _, docGuard_eval _, fun h => ?_⟩
  have := docGuard_eval _ h
  simpa [xmlDepthExceeds] using this
-- `["]]",[{}]]` (closing brackets inside a string do not count) and, with bound 1, the same document refused
example : dataParseJson Cfg.all [0x5b, 0x22, 0x5d, 0x5d, 0x22, 0x2c, 0x5b, 0x7b, 0x7d, 0x5d, 0x5d] = .ok "eval" := by decide +kernel
example : jsonDepthExceeds 2 [0x5b, 0x22, 0x5d, 0x5d, 0x22, 0x2c, 0x5b, 0x7b, 0x7d, 0x5d, 0x5d] = true := by decide
example : jsonDepthExceeds 3 [0x5b, 0x22, 0x5d, 0x5d, 0x22, 0x2c, 0x5b, 0x7b, 0x7d, 0x5d, 0x5d] = false := by decide
example : dataParseXml Cfg.all (XTree.chain 3) = .ok "eval" := by decide
-- before 14409e8: no bound, the evaluators recurse once per level (fatal stack overflow from 8·10⁵ levels on)
example : (docGuard { Cfg.all with parseDepth := false } true).isPanic = true := by decide

/-- nesting cannot be hidden from the scanner by what follows it: more than `max` opening brackets at the start
of a document are refused whatever the rest of the document is (closing brackets inside strings included) -/
theorem dataParse_refuses_nested (k : Nat) (rest : Bytes) (h : k > maxDocumentDepth) :
    dataParseJson Cfg.current (List.replicate k 0x5b ++ rest) = .err "deep"
    ∧ dataParseXml Cfg.current (XTree.chain k) = .err "deep" := by
  rw [guards_present]
  constructor
  · simp [dataParseJson, jsonDepthExceeds_nested _ _ _ h, docGuard, Cfg.all]
  · simp [dataParseXml, xmlDepthExceeds, chain_height, h, docGuard, Cfg.all]
example : 1001 > maxDocumentDepth := by decide

/-- **the serving loops are input-driven** (model level): whatever the history, every loop model produces exactly
one outcome per event taken — there is no iteration that takes no event, so junk cannot make a MODEL loop spin.
That the Go loops have this shape is a fact about the code, not proved here (meta "partial"): the spin of
decryptPipe on a closed channel (/repo 6be4efc) was outside it and is watched by the CPU probe `fzspin`. -/
theorem handlers_consume_input (sv : List SessEv) (dv : List DkgOp) (n me : Nat) (qv : List QEv)
    (valid : Bytes → Bytes → Bool) (t : Nat) (rv : List (Option Sign)) (pv : List DispEv) (cv : List ConnEv)
    (st : EvSt) (hv : List ChainIn) :
    (sessRun Cfg.current {} sv).2.length = sv.length ∧ (dkgRun Cfg.current (DkgSt.init n me) dv).2.length = dv.length
    ∧ (qRun Cfg.current {} qv).2.length = qv.length ∧ (rsRun Cfg.current valid t n {} rv).2.length = rv.length
    ∧ (dispRun Cfg.current {} pv).2.length = pv.length ∧ (connRun Cfg.current {} cv).2.length = cv.length
    ∧ (chainRun Cfg.current me st hv).2.length = hv.length := by
  simp only [sessRun_eq, dkgRun_eq, qRun_eq, rsRun_eq, dispRun_eq, connRun_eq, chainRun_eq, runLoop_length, and_self]
example : (qRun Cfg.all {} [.other, .sig [1], .reg [1], .sig [1]]).2.length = 4 := by decide

theorem messageDispatch_total (f : Feed) : (messageDispatch Cfg.current f).isPanic = false := by
  rw [guards_present]; exact Handlers.messageDispatch_total f

/-- **serfNet.Listen / Lookup / MembersID**: member names of any length -/
theorem gossip_total (evs : List SerfEv) (names : List Nat) :
    (∀ e ∈ evs, (listenStep Cfg.current e).isPanic = false) ∧ (lookupOut Cfg.current names).isPanic = false := by
  rw [guards_present]
  exact ⟨fun e _ => listenStep_total e, lookupOut_total names⟩

/-! ### non-vacuity, and what each guard is for: with the guard off the model reproduces the crash
of the unrepaired code on a concrete message (these are the inputs of corpus/C12) -/

example : (sessRun Cfg.all {} [.req "a" 2, .msg "a" (.pk 1), .msg "a" (.pk 1), .msg "a" (.pk 2)]).2
    = [.ok "reg 0", .ok "buf 1", .ok "dup", .ok "fire 2"] := by decide +kernel
example : (sessRun Cfg.all {} [.req "a" 2, .msg "a" (.pk 1), .expire ["a", "b", "a"], .expire ["a"], .msg "a" (.pk 2), .req "a" 1, .msg "a" (.pk 3), .expire ["a"]]).2
    = [.ok "reg 0", .ok "buf 1", .ok "expired 1", .ok "expired 0", .ok "buf 1", .ok "fire 1", .ok "buf 1", .ok "expired 0"] := by decide +kernel
example : outsFor "b" [.req "b" 2, .msg "a" (.deal 7), .msg "b" (.pk 0), .req "a" 1, .expire ["a"], .msg "a" (.pk 0), .msg "b" (.pk 1)]
    (sessRun Cfg.all {} [.req "b" 2, .msg "a" (.deal 7), .msg "b" (.pk 0), .req "a" 1, .expire ["a"], .msg "a" (.pk 0), .msg "b" (.pk 1)]).2
    = [.ok "reg 0", .ok "buf 1", .ok "fire 2"] := by decide +kernel
example : (exchangePub Cfg.all 3 (.good 0) [[.good 1, .good 2 false]]) = .err "foreign" := by decide
example : (exchangePub { Cfg.all with xpubIdx := false } 3 (.good 0) [[.good 7]]).isPanic = true := by decide
-- the expiry sweep deleting the buffer twice instead of the registration: the late message / next sweep panics
example : (sessRun { Cfg.all with expClean := ⟨true, false, true⟩ } {} [.req "a" 1, .expire ["a"], .msg "a" (.pk 1)]).2.any Out.isPanic = true := by decide
example : (sessRun { Cfg.all with expClean := ⟨true, false, true⟩ } {} [.req "a" 2, .expire ["a"], .expire ["a"]]).2.any Out.isPanic = true := by decide
example : (sessRun { Cfg.all with peerClean := ⟨true, false, true⟩ } {} [.req "a" 1, .msg "a" (.pk 1), .msg "a" (.pk 2)]).2.any Out.isPanic = true := by decide
example : (sessRun { Cfg.all with reqClean := ⟨true, false, true⟩ } {} [.msg "a" (.pk 1), .req "a" 1, .msg "a" (.pk 2)]).2.any Out.isPanic = true := by decide
example : genDkg Cfg.all 3 [⟨0, some .own⟩, ⟨1, some (.peer 1)⟩, ⟨2, some .identity⟩] = .ok "" := by decide
example : genDkg Cfg.all 3 [⟨0, some .own⟩, ⟨7, some (.peer 1)⟩, ⟨2, none⟩] = .err "badpk" := by decide
example : (genDkg { Cfg.all with gdkgGuard := false } 3 [⟨0, some .own⟩, ⟨7, some (.peer 1)⟩, ⟨2, some (.peer 2)⟩]).isPanic = true := by decide
example : (genDkg { Cfg.all with gdkgGuard := false } 3 [⟨0, some .own⟩, ⟨1, none⟩, ⟨2, some (.peer 2)⟩]).isPanic = true := by decide
example : (processDeal { Cfg.all with encNil := false } (DkgSt.init 3 0) ⟨1, none⟩).2.isPanic = true := by decide
example : (processDeal { Cfg.all with nonceLen := false } (DkgSt.init 3 0) ⟨1, some ⟨true, true, 11, .fail⟩⟩).2.isPanic = true := by decide
example : (processDeal { Cfg.all with secShareNil := false } (DkgSt.init 3 0) ⟨1, some ⟨true, true, 12, .plain ⟨none, 2, true, true⟩⟩⟩).2.isPanic = true := by decide
example : (processDeal { Cfg.all with shareVNil := false, secShareNil := false } (DkgSt.init 3 0) ⟨1, some ⟨true, true, 12, .plain ⟨some (0, false), 2, true, true⟩⟩⟩).2.isPanic = true := by decide
example : (distKeyShare (dkgRun { Cfg.all with secShareNil := false } (DkgSt.init 3 0)
    [.deal ⟨1, some ⟨true, true, 12, .plain ⟨some (0, false), 2, true, true⟩⟩⟩]).1).isPanic = true := by decide
example : (processDeal Cfg.all (DkgSt.init 3 0) ⟨1, some ⟨true, true, 12, .plain ⟨some (0, false), 2, true, true⟩⟩⟩).2 = .err "noshare" := by decide
example : (processDeal { Cfg.all with findPubDkg := false } (DkgSt.init 3 0) ⟨3, none⟩).2.isPanic = true := by decide
example : (dkgRun { Cfg.all with respNil := false } (DkgSt.init 3 0) [.deal (honestDeal 1 0 2), .resp ⟨1, none⟩]).2.any Out.isPanic = true := by decide
example : (dkgRun Cfg.all (DkgSt.init 3 0) [.deal (honestDeal 1 0 2), .resp ⟨1, none⟩, .resp ⟨1, some ⟨true, 2, true, true⟩⟩]).2
    = [.ok "approval", .err "noresp", .ok ""] := by decide +kernel
example : (decodePubKey { Cfg.all with pubKeyLen := false } 1).isPanic = true := by decide
example : (toBigInt { Cfg.all with toBigLen := false } 2).isPanic = true := by decide
example : (qRun { Cfg.all with qloopOk := false } {} [.sig []]).2.any Out.isPanic = true := by decide
example : (rsRun { Cfg.all with rsMake := false } (fun _ _ => true) 1 3 {} [some ⟨some [0, 0, 1], some [1, 2]⟩]).2.any Out.isPanic = true := by decide
-- the same share with a trailing byte: since 2d8b40a tbls.Recover AND share.RecoverCommit keep one share per index; either guard alone suffices
example : (rsRun { Cfg.all with recoverDedup := false, rcDedup := false } (fun _ _ => true) 2 3 {} [some ⟨some [0, 1, 5], some [7]⟩, some ⟨some [0, 1, 5, 0], some [7]⟩]).2.any Out.isPanic = true := by decide
example : (rsRun { Cfg.all with recoverDedup := false } (fun _ _ => true) 2 3 {} [some ⟨some [0, 1, 5], some [7]⟩, some ⟨some [0, 1, 5, 0], some [7]⟩]).2.any Out.isPanic = false := by decide
example : (rsRun Cfg.all (fun _ _ => true) 2 3 {} [none, some ⟨some [0, 1, 5], some [7]⟩, some ⟨some [0, 1, 5, 0], some [7]⟩]).2
    = [.err "nil", .ok "wait", .err "few"] := by decide +kernel
example : (receiveID { Cfg.all with ridLen := false } (.frame (.pkg (some (.id .infinity .other)) false false))).isPanic = true := by decide
example : (receiveID { Cfg.all with ridCast := false } (.frame (.pkg (some .known) false false))).isPanic = true := by decide
example : receiveID Cfg.all (.frame (.pkg (some (.id .valid .other)) false false)) = .ok "keyed" := by decide
example : (decodeOut { Cfg.all with anyNil := false } true (.pkg none true false)).isPanic = true := by decide
example : (listenStep { Cfg.all with listenName := false } (.members [25, 3])).isPanic = true := by decide
example : listenStep Cfg.all (.members [25, 3, 20]) = .ok "2" := by decide
example : (choseSubmitter { Cfg.all with groupInfoIds := false } 5 0).isPanic = true := by decide
example : (messageDispatch { Cfg.all with mdNil := false } .nilMsg).isPanic = true := by decide
-- the unrepaired table: one connection that announced another id leaves a dead entry: the member is never served again
example : (connRun { Cfg.all with callIdMatch := false } {} [.dial 2 3 true, .hangup 2, .req 2]).2 = [.ok "dialled", .ok "kept", .err "stale"] := by decide +kernel
example : (connRun Cfg.all {} [.dial 2 3 true, .hangup 2, .req 2, .hangup 2, .req 2]).2 = [.err "mismatch", .dropped, .ok "dialled", .ok "removed", .ok "dialled"] := by decide +kernel
-- removal without the nil check on the unrepaired table
example : (connRun { Cfg.all with callIdMatch := false, callRemoveNil := false } {} [.dial 2 3 true, .hangup 2]).2.any Out.isPanic = true := by decide
example : (dispRun Cfg.all {} [.send, .reply 0, .reply 0, .reply 3735928559, .send, .cancel 1, .reply 1]).2
    = [.ok "sent 0", .ok "matched", .dropped, .dropped, .ok "sent 1", .ok "", .ok "late"] := by decide +kernel
example : (dispRun { Cfg.all with dispReplyNil := false } {} [.send, .reply 0, .reply 0]).2.any Out.isPanic = true := by decide
example : (dispRun { Cfg.all with dispReplyNil := false } {} [.reply 3735928559]).2.any Out.isPanic = true := by decide

end Dos.Props.C12
