/-
C19, ABI layer — "sent … with exactly the intended method and arguments (signature as big-endian x, y
coordinates, group key as the four G2 coordinates in contract order, request id and traffic type preserved)"
down to the BYTES of the transaction's `Data`.

`Abi.encodeRaw` / `Abi.decodeArgs` model go-ethereum's `abi.Arguments.Pack` / `UnpackValues` for the types that
occur (Model/Abi.lean); `CallData.Call.data` is the call data of each state-changing call of the request queue
(Model/CallData.lean).  Theorems for ALL values: decoding an encoding gives the values back, encodings are a
multiple of 32 bytes long, static arguments sit at their head offsets, distinct argument lists give distinct call
data; the concrete layout of the call data of each method, linked to the marshalling theorems of Props/C19.lean;
4-byte selectors computed by a Keccak-256 the kernel evaluates; and `decide` theorems that tie the model's
assumptions to facts regenerated from the bindings and the call sites on every run (Gen/AbiFacts.lean).
The tie to the real bytes: every `seq` case of the correspondence run compares `tx.Data()` of the raw transaction
the real adaptor produced with `Call.data` byte for byte.  Helper lemmas: Proofs/Abi*.lean.
-/
import DosModel.Proofs.Abi
import DosModel.Proofs.AbiLayout
import DosModel.Proofs.AbiDecode
import DosModel.Proofs.AbiFacts
import DosModel.Proofs.KeccakRows
import DosModel.Proofs.Nonce
import DosModel.Props.C19

namespace Dos.Props.C19Abi
open Dos Dos.Abi Dos.CallData Dos.ReqLoop Dos.AbiCheck Dos.CodecBytes

/-! ### the encoding, for all types of the fragment and all values -/

/-- **decode ∘ encode = id.** For every list of well-formed types and every well-typed argument list whose encoding
fits a Go slice, go-ethereum's decoder applied to the encoding returns exactly the arguments. -/
theorem abi_roundtrip (tys : List AbiType) (vs : List AbiVal) (hw : tysWf tys = true) (hv : wtArgs tys vs = true)
    (hB : (encodeRaw tys vs).length < 2 ^ 63) : decodeArgs tys (encodeRaw tys vs) = .ok vs :=
  decode_encode tys vs hw hv hB

example : decodeArgs [.elem (.uint 256), .elem (.uint 8), .bytes, .sarray (.uint 256) 2]
    (encodeRaw [.elem (.uint 256), .elem (.uint 8), .bytes, .sarray (.uint 256) 2]
      [.elem (.num (2 ^ 256 - 1)), .elem (.num 255), .blob [1, 2, 3], .arr [.num 0, .num (2 ^ 255)]])
    = .ok [.elem (.num (2 ^ 256 - 1)), .elem (.num 255), .blob [1, 2, 3], .arr [.num 0, .num (2 ^ 255)]] := by decide +kernel

/-- the same through `Arguments.Pack`'s own error check -/
theorem abi_encodeArgs_roundtrip (tys : List AbiType) (vs : List AbiVal) (bs : Bytes) (hw : tysWf tys = true)
    (h : encodeArgs tys vs = some bs) (hB : bs.length < 2 ^ 63) : decodeArgs tys bs = .ok vs := by
  simp only [encodeArgs] at h
  split at h
  · rename_i hv
    cases h
    exact decode_encode tys vs hw hv hB
  · cases h

example : encodeArgs [.elem .address, .darray .address] [.elem (.num 7), .arr [.num 1, .num (2 ^ 160 - 1)]] ≠ none := by
  decide +kernel

/-- **length.** Every encoding is a whole number of 32-byte words. -/
theorem abi_length_multiple_of_32 (tys : List AbiType) (vs : List AbiVal) (hw : tysWf tys = true)
    (hv : wtArgs tys vs = true) : (encodeRaw tys vs).length % 32 = 0 :=
  encodeRaw_length_mod tys vs hw hv

example : (encodeRaw [.string, .elem .bool] [.blob [104, 105], .elem (.num 1)]).length = 128 := by decide +kernel

/-- **head offsets.** A static argument occupies exactly the bytes from the sum of the head sizes before it
(`headOffset`), whatever dynamic arguments surround it: its words, in order. -/
theorem abi_static_argument_at_head_offset (tys : List AbiType) (vs : List AbiVal) (k : Nat) (t : AbiType)
    (v : AbiVal) (hw : tysWf tys = true) (hv : wtArgs tys vs = true) (ht : tys[k]? = some t) (hvk : vs[k]? = some v)
    (hs : t.isDynamic = false) :
    ((encodeRaw tys vs).drop (headOffset tys k)).take t.headSize = encStatic v :=
  encodeRaw_static_slot tys vs k t v hw hv ht hvk hs

example : ((encodeRaw [.bytes, .sarray (.uint 256) 2] [.blob [9], .arr [.num 5, .num 6]]).drop 32).take 64
    = natBE 32 5 ++ natBE 32 6 := by decide +kernel

/-- **injectivity.** Two well-typed argument lists with the same encoding are the same list. -/
theorem abi_injective (tys : List AbiType) (vs ws : List AbiVal) (hw : tysWf tys = true)
    (hv : wtArgs tys vs = true) (hv' : wtArgs tys ws = true) (hB : (encodeRaw tys vs).length < 2 ^ 63)
    (h : encodeRaw tys vs = encodeRaw tys ws) : vs = ws := by
  have h1 := decode_encode tys vs hw hv hB
  have h2 := decode_encode tys ws hw hv' (by rw [← h]; exact hB)
  rw [h, h2] at h1
  cases h1; rfl

example : encodeRaw [.elem (.uint 256), .elem (.uint 256)] [.elem (.num 1), .elem (.num 2)]
    ≠ encodeRaw [.elem (.uint 256), .elem (.uint 256)] [.elem (.num 2), .elem (.num 1)] := by decide +kernel

/-- distinct argument lists of one method give distinct call data (any hash) -/
theorem calldata_injective (hash : Bytes → Bytes) (name : String) (tys : List AbiType) (vs ws : List AbiVal)
    (hw : tysWf tys = true) (hv : wtArgs tys vs = true) (hv' : wtArgs tys ws = true)
    (hB : (encodeRaw tys vs).length < 2 ^ 63) (h : callData hash name tys vs = callData hash name tys ws) :
    vs = ws := by
  simp only [callData, encodeArgs, hv, hv', if_true, Option.map_some, Option.some.injEq] at h
  exact abi_injective tys vs ws hw hv hv' hB (List.append_cancel_left h)

example : callData (fun _ => [1, 2, 3, 4]) "reveal" CallData.reveal.types [.elem (.num 1), .elem (.num 2)]
    = some ([1, 2, 3, 4] ++ natBE 32 1 ++ natBE 32 2) := by decide +kernel

/-! ### the call data of each call -/

/-- **updateRandomness.** The call data is the selector followed by the 64 signature bytes, unchanged:
with a 4-byte selector, x big-endian in bytes 4..35, y big-endian in bytes 36..67, leading zeros included. -/
theorem updateRandomness_data (hash : Bytes → Bytes) (sig : Bytes) (h : sig.length = 64) :
    (Call.updateRandomness sig).data hash
      = selector hash "updateRandomness" [.sarray (.uint 256) 2] ++ sig := by
  obtain ⟨x, y, hxy, hw⟩ := Props.C19.signature_bytes_preserved sig h
  simp only [Call.data, Call.method, Call.args, CallData.updateRandomness, Method.types, List.map_cons, List.map_nil,
    hxy, encodeRaw, encGo, AbiType.isDynamic, Bool.false_eq_true, if_false, encStatic, encWords, encEVal,
    List.flatten_cons, List.flatten_nil, List.append_nil]
  simp only [abiWord] at hw
  rw [hw]

example : (Call.updateRandomness (natBE 32 1 ++ natBE 32 (2 ^ 255))).data (fun _ => [9, 9, 9, 9])
    = [9, 9, 9, 9] ++ natBE 32 1 ++ natBE 32 (2 ^ 255) := by decide +kernel

/-- **registerGroupPubKey.** Selector, group id, then the four coordinates in the order handed in. -/
theorem registerGroupPubKey_data (hash : Bytes → Bytes) (id k0 k1 k2 k3 : Nat) :
    (Call.registerGroupPubKey id k0 k1 k2 k3).data hash
      = selector hash "registerGroupPubKey" [.elem (.uint 256), .sarray (.uint 256) 4]
        ++ natBE 32 id ++ natBE 32 k0 ++ natBE 32 k1 ++ natBE 32 k2 ++ natBE 32 k3 := by
  simp [Call.data, Call.method, Call.args, CallData.registerGroupPubKey, Method.types, CallData.u256, CallData.n,
    encodeRaw, encGo, AbiType.isDynamic, encStatic, encWords, encEVal]

example : (Call.registerGroupPubKey 7 1 2 3 4).data (fun _ => [0, 0, 0, 0])
    = [0, 0, 0, 0] ++ natBE 32 7 ++ natBE 32 1 ++ natBE 32 2 ++ natBE 32 3 ++ natBE 32 4 := by decide +kernel

/-- … and with the coordinates `decodePubKey` reads from the marshalled group key `0x01 ‖ x.i ‖ x.r ‖ y.i ‖ y.r`:
the call data after the group id is the 128 coordinate bytes of the marshalled point, in the contract's order. -/
theorem registerGroupPubKey_data_of_marshalled_key (hash : Bytes → Bytes) (id xi xr yi yr : Nat)
    (h1 : xi < 2 ^ 256) (h2 : xr < 2 ^ 256) (h3 : yi < 2 ^ 256) (h4 : yr < 2 ^ 256) :
    ∃ k0 k1 k2 k3, decodePubKey (marshalG2 xi xr yi yr) = some [k0, k1, k2, k3] ∧
      (Call.registerGroupPubKey id k0 k1 k2 k3).data hash
        = selector hash "registerGroupPubKey" [.elem (.uint 256), .sarray (.uint 256) 4]
          ++ natBE 32 id ++ (marshalG2 xi xr yi yr).drop 1 := by
  refine ⟨xi, xr, yi, yr, Props.C19.marshal_roundtrip_pubkey xi xr yi yr h1 h2 h3 h4, ?_⟩
  rw [registerGroupPubKey_data]
  simp [marshalG2, List.append_assoc]

example : ((Call.registerGroupPubKey 7 1 2 3 4).data (fun _ => [0, 0, 0, 0])).length = 4 + 5 * 32 := by decide +kernel

/-- **triggerCallback (DataReturn).** Selector; request id; traffic type (the low byte of `Index`); the offset
160 of the result; x; y; then the result: its length and its bytes padded with zeros to a multiple of 32. -/
theorem triggerCallback_data (hash : Bytes → Bytes) (sig rid content : Bytes) (index : Nat) :
    (Call.dataReturn sig rid index content).data hash
      = selector hash "triggerCallback" [.elem (.uint 256), .elem (.uint 8), .bytes, .sarray (.uint 256) 2]
        ++ natBE 32 (requestId rid) ++ natBE 32 (index % 256) ++ natBE 32 160
        ++ natBE 32 (toBigInt sig).1 ++ natBE 32 (toBigInt sig).2
        ++ natBE 32 content.length ++ pad32 content := by
  simp [Call.data, Call.method, Call.args, CallData.triggerCallback, Method.types, CallData.u256, CallData.n,
    encodeRaw, encGo, AbiType.isDynamic, encStatic, encWords, encEVal, encTail, headLen, AbiType.headSize,
    trafficType, List.append_assoc]

example : ((Call.dataReturn [] [] 0 []).data (fun _ => [0, 0, 0, 0])).length = 4 + 6 * 32 := by decide +kernel

/-- … with a 64-byte signature: the signature bytes sit unchanged behind the selector and three argument words
(request id, traffic type, offset), i.e. at bytes 100..163 of the call data for a 4-byte selector -/
theorem triggerCallback_data_signature (hash : Bytes → Bytes) (sig rid content : Bytes) (index : Nat)
    (h : sig.length = 64) :
    ∃ pre post, (Call.dataReturn sig rid index content).data hash = pre ++ sig ++ post ∧
      pre.length = (selector hash "triggerCallback" [.elem (.uint 256), .elem (.uint 8), .bytes, .sarray (.uint 256) 2]).length + 96 := by
  obtain ⟨x, y, hxy, hw⟩ := Props.C19.signature_bytes_preserved sig h
  refine ⟨selector hash "triggerCallback" [.elem (.uint 256), .elem (.uint 8), .bytes, .sarray (.uint 256) 2]
      ++ natBE 32 (requestId rid) ++ natBE 32 (index % 256) ++ natBE 32 160,
    natBE 32 content.length ++ pad32 content, ?_, ?_⟩
  · rw [triggerCallback_data, hxy]
    simp only [abiWord] at hw
    simp only [List.append_assoc]
    rw [← hw]
    simp only [List.append_assoc]
  · simp [natBE_length]

example : (Call.dataReturn (natBE 32 5 ++ natBE 32 6) [0xab] 257 [1, 2, 3]).data (fun _ => [0, 0, 0, 0])
    = [0, 0, 0, 0] ++ natBE 32 0xab ++ natBE 32 1 ++ natBE 32 160 ++ natBE 32 5 ++ natBE 32 6 ++ natBE 32 3
      ++ ([1, 2, 3] ++ List.replicate 29 0) := by decide +kernel

/-- **commit.** Selector, campaign id, the 32 commitment bytes unchanged. -/
theorem commit_data (hash : Bytes → Bytes) (cid : Nat) (h : Bytes) (hl : h.length = 32) :
    (Call.commit cid h).data hash
      = selector hash "commit" [.elem (.uint 256), .elem (.fixedBytes 32)] ++ natBE 32 cid ++ h := by
  simp [Call.data, Call.method, Call.args, CallData.commit, Method.types, CallData.u256, CallData.n,
    encodeRaw, encGo, AbiType.isDynamic, encStatic, encEVal, hl]

example : (Call.commit 1 (natBE 32 (2 ^ 255))).data (fun _ => [5, 5, 5, 5])
    = [5, 5, 5, 5] ++ natBE 32 1 ++ natBE 32 (2 ^ 255) := by decide +kernel

/-- **reveal.** Selector, campaign id, the secret as one big-endian word — the word whose hash `commit` carried
(`commit_matches_reveal` of Props/C19.lean). -/
theorem reveal_data (hash : Bytes → Bytes) (cid secret : Nat) :
    (Call.reveal cid secret).data hash
      = selector hash "reveal" [.elem (.uint 256), .elem (.uint 256)] ++ natBE 32 cid ++ u256Bytes secret := by
  simp [Call.data, Call.method, Call.args, CallData.reveal, Method.types, CallData.u256, CallData.n,
    encodeRaw, encGo, AbiType.isDynamic, encStatic, encEVal, u256Bytes]

example : (Call.reveal 3 1).data (fun _ => [7, 7, 7, 7]) = [7, 7, 7, 7] ++ natBE 32 3 ++ natBE 32 1 := by decide +kernel

/-- calls without arguments are the bare selector -/
theorem registerNewNode_data (hash : Bytes → Bytes) :
    Call.registerNewNode.data hash = selector hash "registerNewNode" [] := by
  simp [Call.data, Call.method, Call.args, CallData.registerNewNode, Method.types, encodeRaw, encGo, headLen]

example : Call.registerNewNode.data (fun _ => [1, 2, 3, 4, 5]) = [1, 2, 3, 4] := by decide

/-- a negative `int64` handed to `StartCommitReveal` is packed as its 256-bit two's complement -/
theorem startCommitReveal_negative_is_twos_complement : intWord (-1) = 2 ^ 256 - 1 ∧ intWord (-(2 ^ 63)) = 2 ^ 256 - 2 ^ 63 := by
  decide +kernel

example : (Call.startCommitReveal (-1) 0 1 2).args = [n (2 ^ 256 - 1), n 0, n 1, n 2] := by decide +kernel

/-! ### selectors -/

/-- **selectors.** The first four bytes of Keccak-256 of the model's signature of each of the ten queue methods,
computed by the kernel, are the ids abigen quoted in the bindings' doc comments (regenerated), and pairwise
different. -/
theorem selectors_match_bindings :
    queueMethods.map selectorHex = queueMethods.map docSelector ∧ (queueMethods.map selectorHex).Nodup := by
  unfold selectorHex selector
  simp only [strBytes_eq, KeccakNat.keccak256_eq_rows]
  decide +kernel

example : selectorHex CallData.updateRandomness = "09ac86d3" ∧ selectorHex CallData.triggerCallback = "74ad3a06" :=
  have h := selectors_match_bindings.1
  ⟨Option.some.inj (congrArg (·[1]?) h), Option.some.inj (congrArg (·[2]?) h)⟩

/-! ### regenerated facts (Gen/AbiFacts.lean, Gen/ReqLoopFacts.lean) -/

/-- the three checks over the ten methods in ONE evaluation (within a declaration the kernel converts each string once) -/
theorem abi_facts_evaluated :
    queueMethods.all methodMatches = true ∧ queueMethods.all bindingForwards = true ∧
    queueMethods.all callSiteMatches = true := by decide +kernel

/-- the ABI embedded in the bindings declares each of the ten methods exactly as the model assumes: input names,
types, order; once; non-payable -/
theorem abi_methods_match_model : queueMethods.all methodMatches = true := abi_facts_evaluated.1

example : methodMatches CallData.triggerCallback = true :=
  List.all_eq_true.mp abi_methods_match_model _ (.tail _ (.tail _ (.head _)))

/-- the Transactor and Session methods of the bindings hand their parameters on in order, each of the Go type of
the ABI input in its position, under the ABI method name of the model -/
theorem bindings_forward_arguments_in_order : queueMethods.all bindingForwards = true := abi_facts_evaluated.2.1

example : (transactorOf CallData.triggerCallback).map (·.passed) = some ["requestId", "trafficType", "result", "sig"] := by
  decide +kernel

/-- each adaptor method has one call site, on the session of the right contract at the request's endpoint index,
and feeds every ABI slot from the Go expression the model assumes (`Call.args`) -/
theorem call_sites_match_model : queueMethods.all callSiteMatches = true := abi_facts_evaluated.2.2

example : slotSources CallData.triggerCallback
    = [("requestId", "requestId"), ("trafficType", "trafficType"), ("result", "result"), ("sig", "sig")] := by decide +kernel

/-- … and those expressions are computed as `Call.args` says: `sig = [2]*big.Int{x, y}` with
`x, y := sign.ToBigInt()`, `requestId = SetBytes(sign.RequestId)`, `trafficType = uint8(sign.Index)`,
`result = sign.Content`, `groupId = idPubkey[0]`, `pubKey = idPubkey[1:]` -/
theorem call_site_arguments_computed_as_modelled :
    prepOf "UpdateRandomness" = ["proxies := e.proxies", "x, y := sign.ToBigInt()", "sig := [2]*big.Int{x, y}"] ∧
    prepOf "DataReturn" = ["proxies := e.proxies", "requestId := new(big.Int).SetBytes(sign.RequestId)",
      "trafficType := uint8(sign.Index)", "result := sign.Content", "x, y := sign.ToBigInt()", "sig := [2]*big.Int{x, y}"] ∧
    prepOf "RegisterGroupPubKey" = ["proxies := e.proxies", "groupId := idPubkey[0]", "var pubKey [4]*big.Int",
      "copy(pubKey[:], idPubkey[1:])"] ∧
    prepOf "SetGroupSize" = ["proxies := e.proxies", "groupSize := new(big.Int).SetUint64(g)"] ∧
    prepOf "Commit" = ["crs := e.crs"] ∧ prepOf "Reveal" = ["crs := e.crs"] :=
  ⟨rfl, rfl, rfl, rfl, rfl, rfl⟩

example : prepOf "RegisterNewNode" = ["proxies := e.proxies"] := by decide +kernel

/-! ### the rest of the transaction -/

/-- **envelope.** What `BoundContract.transact` puts around the call data with the session options `Connect`
builds: no value; the nonce the contacted endpoint reports as pending; the configured gas limit; the configured
gas price or, if none is configured, the endpoint's suggestion; the configured chain id; addressed to the
contract the method belongs to. -/
theorem envelope_fields (m : Method) (cfg : Config) (ep : EndpointView) :
    (envelope m cfg ep).value = 0 ∧ (envelope m cfg ep).nonce = ep.pendingNonce ∧
    (envelope m cfg ep).gas = cfg.gasLimit ∧ (envelope m cfg ep).chainId = cfg.chainId ∧
    (cfg.gasPrice ≠ 0 → (envelope m cfg ep).price = cfg.gasPrice) ∧
    (cfg.gasPrice = 0 → (envelope m cfg ep).price = ep.suggestedPrice) ∧
    ((envelope m cfg ep).toProxy = true ↔ m.contract = .proxy) := by
  refine ⟨rfl, rfl, rfl, rfl, ?_, ?_, ?_⟩
  · intro h; simp [envelope, h]
  · intro h; simp [envelope, h]
  · simp [envelope]

example : envelope CallData.commit ⟨5000000, 0, 56⟩ ⟨7, 2000000000⟩
    = { toProxy := false, value := 0, nonce := 7, gas := 5000000, price := 2000000000, chainId := 56 } := by decide

/-- **nonces across the queue.** The adaptor never chooses a nonce: each send asks the contacted endpoint for its
pending count.  With an endpoint that counts an accepted transaction as pending (and nothing else), for ANY history
of calls on one adaptor — refused sends, failover, cancelled endpoints in between — the nonces of the transactions
endpoint `i` accepted are consecutive from the count it reported first: none reused, none skipped. -/
theorem accepted_nonces_consecutive (cfg : Config) (hist : List (Method × List Outcome)) (dead : List Nat)
    (views : List EndpointView) (i : Nat) (v : EndpointView) (hv : views[i]? = some v) :
    ∃ k, acceptedNonces cfg dead views hist i = List.range' v.pendingNonce k :=
  acceptedNonces_consecutive cfg hist dead views i v hv

example : acceptedNonces ⟨5000000, 1, 1⟩ [] [⟨7, 1⟩, ⟨8, 1⟩]
    [(CallData.registerNewNode, [.revert, .accept]), (CallData.registerNewNode, [.accept, .accept]),
     (CallData.reveal, [.otherErr, .accept]), (CallData.commit, [.accept, .accept])] 0 = [7, 8] ∧
  acceptedNonces ⟨5000000, 1, 1⟩ [] [⟨7, 1⟩, ⟨8, 1⟩]
    [(CallData.registerNewNode, [.revert, .accept]), (CallData.registerNewNode, [.accept, .accept]),
     (CallData.reveal, [.otherErr, .accept]), (CallData.commit, [.accept, .accept])] 1 = [8] := by decide

/-- the transaction an endpoint accepted is one the loop sent to it, and a send that is refused (or not made)
leaves that endpoint's pending count where it was -/
theorem nonce_moves_only_when_accepted (r : CallResult) (os : List Outcome) (views : List EndpointView) (i : Nat) :
    (acceptedBy r os = some i → i ∈ r.contacted ∧ os[i]? = some Outcome.accept) ∧
    (∀ j, acceptedBy r os = some j → j ≠ i → (bumpNonce views j)[i]? = views[i]?) := by
  refine ⟨acceptedBy_contacted, ?_⟩
  intro j _ hji
  exact bumpNonce_other views i j (Ne.symm hji)

example : (sendSeq ⟨800000, 0, 56⟩ [] [⟨7, 100⟩, ⟨9, 200⟩]
    [(CallData.registerNewNode, [.nonceErr, .accept]), (CallData.registerNewNode, [.accept, .accept])]).map
      (fun p => p.2.map (fun t => (t.1, t.2.nonce, t.2.price)))
    = [[(0, 7, 100), (1, 9, 200)], [(1, 10, 200)]] := by decide

/-- `Connect` (regenerated): the session options are built from the key and the configured chain id, get the gas
limit, optionally the gas price and a context — and nothing else: no statement sets a nonce, a value or fee caps
(so `transact` asks the endpoint for the pending nonce and sends value 0 as a legacy transaction); the bindings are
built on the addresses the bridge contract returns -/
theorem connect_leaves_nonce_and_value_to_the_endpoint :
    Dos.Gen.ReqLoopFacts.connectTransactor =
      ["auth, err := bind.NewKeyedTransactorWithChainID(e.key.PrivateKey, e.chainID)", "auth.GasLimit = e.gasLimit",
       "if e.gasPrice != 0", "auth.GasPrice = new(big.Int).SetUint64(e.gasPrice)", "auth.Context = ctx",
       "auth, err := bind.NewKeyedTransactorWithChainID(e.key.PrivateKey, e.chainID)", "auth.GasLimit = e.gasLimit",
       "if e.gasPrice != 0", "auth.GasPrice = new(big.Int).SetUint64(e.gasPrice)", "auth.Context = ctx"] ∧
    Dos.Gen.AbiFacts.connectBindings =
      ["bridge, err := dosbridge.NewDosbridge(e.bridgeAddr, rpcClient)",
       "proxyAddr, err := bridge.GetProxyAddress(&bind.CallOpts{Context: dialCtx})",
       "commitRevealAddr, err := bridge.GetCommitRevealAddress(&bind.CallOpts{Context: dialCtx})",
       "p, err := dosproxy.NewDosproxy(proxyAddr, rpcClient)",
       "cr, err := commitreveal.NewCommitreveal(commitRevealAddr, rpcClient)",
       "ws_p, err := dosproxy.NewDosproxy(proxyAddr, wsClient)",
       "ws_cr, err := commitreveal.NewCommitreveal(commitRevealAddr, wsClient)"] :=
  ⟨Props.C19.config_shape_matches_model.2.2.2, rfl⟩

example : Dos.Gen.ReqLoopFacts.connectTransactor.length = 10 ∧ Dos.Gen.AbiFacts.connectBindings.length = 7 := by decide

end Dos.Props.C19Abi
