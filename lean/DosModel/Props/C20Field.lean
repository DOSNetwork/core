/-
C20 — THE FIELD LAYER: the ref10 field code group/edwards25519/fe.go, translated statement by statement
(go/extract/ed25519fe → Gen/Ed25519Fe.lean, regenerated on every run), is correct for ALL inputs within the stated
limb bounds.  `FeOps.fe*` are the translated routines run with Go's semantics (wrapping int64; int32 narrowing);
the driver executes exactly these against the real code.

  * `Bounded k h`: |h_i| ≤ k·36909875 (i even), k·18454937 (i odd) — ref10's "1.1·2^25 / 1.1·2^24" times k;
  * `SafeFrom`: no (sub)expression of the routine leaves its Go type (int32 or int64) — decided by the verified
    interval interpreter evaluated by the kernel on the regenerated program data;
  * `ModP a b`: a ≡ b (mod 2^255 − 19); `feVal h` = Σ h_i·2^⌈25.5 i⌉.
Only theorems and their non-vacuity examples live here; the proofs are in Proofs/FeProg, Ed25519FeTie, Ed25519FeAlg,
Ed25519FeRanges, Ed25519FeSpec, Ed25519FeBytes, GeRefine, Ed25519Prime.
-/
import DosModel.Proofs.Ed25519FeBytes
import DosModel.Proofs.Ed25519FeSpec
import DosModel.Proofs.GeRefine

set_option exponentiation.threshold 600

namespace Dos.Props.C20Field
open Dos Dos.Ed25519 Dos.IntervalProg Dos.FeProg Dos.FeOps Dos.GeProg Dos.Gen.Ed25519Fe Dos.Ed25519Prime

/-- 2^255 − 19 is prime (Pratt certificate, kernel-evaluated) -/
theorem field_modulus_prime : Nat.Prime (2 ^ 255 - 19) := p25519_prime

example : fieldP = 2 ^ 255 - 19 := rfl

/-- the analysis of a field routine is sound, for EVERY routine: inputs in their intervals and a successful abstract
run ⇒ no int32/int64 overflow in any (sub)expression, limbs and stored values in the computed intervals -/
theorem fe_interval_analysis_sound {p : FeProg} {inp : Env} {I L O : List Itv} (h : In inp I)
    (hr : FeProg.absRun p I = some (L, O)) :
    p.SafeFrom inp ∧ In (p.limbsW id inp) L ∧ In (p.runW id inp) O := FeProg.absRun_sound h hr

example : (FeProg.absRun feMul_prog (boundItv 3 ++ boundItv 3)).isSome = true := FeProg.check_isSome feMul_check

/-- no overflow ⇒ the run with Go's wrapping arithmetic is the unbounded-`Int` run -/
theorem fe_go_semantics_coincide {p : FeProg} {inp : Env} (h : p.SafeFrom inp) :
    p.limbsW wrap inp = p.limbsW id inp ∧ p.runW wrap inp = p.runW id inp := FeProg.runW_wrap_eq h

/-- `(e << 32) >> 32` — the way Go's `int32(e)` is expressed in the int64 expression language — IS the int32
wrap-around under wrapping int64 arithmetic, is the identity on values, and is overflow-free exactly on int32s -/
theorem int32_narrowing (x : Int) (ρ : Env) (e : Expr) :
    (I64 x → shrI (wrap (shl x 32)) 32 = wrap32 x) ∧ n32v x = x ∧ ((n32 e).Safe ρ ↔ e.Safe ρ ∧ I32 (e.eval ρ)) :=
  ⟨fun _ => n32_wrap x, n32v_eq x, n32_safe ρ e⟩

example : shrI (wrap (shl 4294967295 32)) 32 = -1 := by decide

/-- the emitted DATA denotes the emitted FUNCTIONS (kernel evaluation of the interpreter on symbolic inputs) -/
theorem fe_data_is_the_translated_code (x : List Int) :
    (feMul_prog.runW id x = feMul_out (runBlocks feMul_blocks (feMul_init x)))
    ∧ (feSquare_prog.runW id x = feSquare_out (runBlocks feSquare_blocks (feSquare_init x)))
    ∧ (feSquare2_prog.runW id x = feSquare2_out (runBlocks feSquare2_blocks (feSquare2_init x)))
    ∧ (feFromBytes_prog.runW id x = feFromBytes_out (runBlocks feFromBytes_blocks (feFromBytes_init x)))
    ∧ (feToBytes_prog.runW id x = feToBytes_out (runBlocks feToBytes_blocks (feToBytes_init x))) :=
  ⟨(feMul_tie x).2, (feSquare_tie x).2, (feSquare2_tie x).2, (feFromBytes_tie x).2, (feToBytes_tie x).2⟩

/-- **feMul**: for all f, g within 3 × the bound: no overflow anywhere, result within 1 ×, value f·g mod p -/
theorem feMul_correct (f g : L10) (hf : Bounded 3 f) (hg : Bounded 3 g) :
    feMul_prog.SafeFrom (f.toList ++ g.toList) ∧ Bounded 1 (feMul f g) ∧ ModP (feVal (feMul f g)) (feVal f * feVal g) :=
  feMul_spec f g hf hg

example : Bounded 3 ⟨110729625, -55364811, 110729625, -55364811, 110729625, -55364811, 110729625, -55364811,
    110729625, -55364811⟩ := by decide

/-- 3 is the exact multiplier: with inputs at 4 × the analysis finds a possible overflow -/
theorem feMul_bound_is_sharp : (feMul_prog.absRun (boundItv 4 ++ boundItv 4)).isSome = false := feMul_check_4_fails

theorem feSquare_correct (f : L10) (hf : Bounded 3 f) :
    feSquare_prog.SafeFrom f.toList ∧ Bounded 1 (feSquare f) ∧ ModP (feVal (feSquare f)) (feVal f * feVal f) :=
  feSquare_spec f hf

theorem feSquare2_correct (f : L10) (hf : Bounded 3 f) :
    feSquare2_prog.SafeFrom f.toList ∧ Bounded 1 (feSquare2 f) ∧ ModP (feVal (feSquare2 f)) (2 * (feVal f * feVal f)) :=
  feSquare2_spec f hf

example : feVal (feSquare2 ⟨3, 0, 0, 0, 0, 0, 0, 0, 0, 0⟩) = 18 := by decide +kernel

/-- **feAdd / feSub / feNeg**: exact limb-wise results, no int32 overflow, bounds add (a + b ≤ 58 keeps int32) -/
theorem feAdd_correct (a b : Int) (f g : L10) (hf : Bounded a f) (hg : Bounded b g) (hab : a + b ≤ 58)
    (ha : 0 ≤ a) (hb : 0 ≤ b) :
    Bounded (a + b) (feAdd f g) ∧ feVal (feAdd f g) = feVal f + feVal g :=
  (feAdd_spec a b f g hf hg hab ha hb).2

theorem feSub_correct (a b : Int) (f g : L10) (hf : Bounded a f) (hg : Bounded b g) (hab : a + b ≤ 58)
    (ha : 0 ≤ a) (hb : 0 ≤ b) :
    Bounded (a + b) (feSub f g) ∧ feVal (feSub f g) = feVal f - feVal g :=
  (feSub_spec a b f g hf hg hab ha hb).2

theorem feNeg_correct (a : Int) (f : L10) (hf : Bounded a f) (ha : a ≤ 58) :
    Bounded a (feNeg f) ∧ feVal (feNeg f) = -feVal f := (feNeg_spec a f hf ha).2

example : feVal (feSub ⟨1, 0, 0, 0, 0, 0, 0, 0, 0, 0⟩ ⟨3, 0, 0, 0, 0, 0, 0, 0, 0, 0⟩) = -2 := by decide +kernel

theorem feCopy_feZero_feOne_correct (f : L10) :
    feCopy f = f ∧ feZero = ⟨0, 0, 0, 0, 0, 0, 0, 0, 0, 0⟩ ∧ feOne = ⟨1, 0, 0, 0, 0, 0, 0, 0, 0, 0⟩ :=
  ⟨feCopy_spec f, feZero_spec, feOne_spec⟩

/-- **feCMove**: the xor/and bit trick selects g for b = 1 and keeps f for b = 0 (limbs int32) -/
theorem feCMove_correct {a b : Nat} {l m : L10} {x y : F} (h1 : R a l x) (h2 : R b m y) (ha : a ≤ 3) (hb : b ≤ 3)
    (c : Int) (hc : c = 0 ∨ c = 1) : R (max a b) (feCMove l m c) (if c = 1 then y else x) :=
  cmove_R h1 h2 ha hb c hc

example : feCMove ⟨1, 2, 3, 4, 5, 6, 7, 8, 9, 10⟩ ⟨-1, -2, -3, -4, -5, -6, -7, -8, -9, -10⟩ 1
    = ⟨-1, -2, -3, -4, -5, -6, -7, -8, -9, -10⟩ := by decide +kernel

/-- **feToBytes**: for every h within 3 ×, the 32 bytes are THE canonical little-endian encoding of `feVal h mod p`
(fully reduced), and the argument is left (the Go code normalises it in place) as the digits of that value -/
theorem feToBytes_canonical (h : L10) (hb : Bounded 3 h) :
    (feToBytes h).1 = natLE 32 (feVal h % pI).toNat ∧ Bounded 2 (feToBytes h).2
    ∧ feVal (feToBytes h).2 = feVal h % pI := feToBytes_spec h hb

/-- the 13th byte expression `(h[3] >> 19) | (h[4] << 6)` of feToBytes can leave
int32 (`h[4] << 6` with h[4] ≥ 2^25); Go's shift wraps and `byte(…)` keeps the low 8 bits, so the byte is still
right (`feToBytes_canonical` is proved under wrapping semantics) -/
theorem feToBytes_int32_shift_overflow :
    FeDigits ⟨0, 0, 0, 0, 2 ^ 25, 0, 0, 0, 0, 0⟩
    ∧ ¬ (feToBytes_prog.out.getD 12 (.c 0)).Safe (⟨0, 0, 0, 0, 2 ^ 25, 0, 0, 0, 0, 0⟩ : L10).toList :=
  feToBytes_byte12_overflow_witness

/-- **feFromBytes**: any 32 bytes: result within 1 ×, value ≡ the little-endian value with bit 255 ignored -/
theorem feFromBytes_correct (s : Bytes) (hs : s.length = 32) :
    Bounded 1 (feFromBytes s) ∧ ModP (feVal (feFromBytes s)) ((leNat s % 2 ^ 255 : Nat) : Int) :=
  feFromBytes_spec s hs

example : (feToBytes (feFromBytes (List.replicate 32 255))).1 = natLE 32 18 := by decide +kernel

theorem feIsNegative_feIsNonZero_correct (h : L10) (hb : Bounded 3 h) :
    (feIsNegative h).1.toNat = (feVal h % pI).toNat % 2
    ∧ (feIsNonZero h).1 = (if feVal h % pI = 0 then 0 else 1) :=
  ⟨(feIsNegative_spec h hb).1, (feIsNonZero_spec h hb).1⟩

/-- **feInvert, fePow22523**: the regenerated square-and-multiply chains, run on exponents by the kernel, have the
exponents p − 2 and (p − 5)/8 -/
theorem chain_exponents :
    chainExp feInvert_nregs feInvert_chain = some (Dos.Ed.p - 2)
    ∧ chainExp fePow22523_nregs fePow22523_chain = some ((Dos.Ed.p - 5) / 8) := ⟨feInvert_exp, fePow22523_exp⟩

/-- hence on limbs: feInvert z stands for z^(p−2) (= 1/z for z ≠ 0, 0 for 0), fePow22523 z for z^((p−5)/8),
results within 1 × -/
theorem feInvert_fePow22523_correct {a : Nat} {z : L10} {x : F} (h : R a z x) (ha : a ≤ 3) :
    R 1 (feInvert z) (x ^ (Dos.Ed.p - 2)) ∧ R 1 (fePow22523 z) (x ^ ((Dos.Ed.p - 5) / 8))
    ∧ (x ≠ 0 → x ^ (Dos.Ed.p - 2) = x⁻¹) :=
  ⟨invert_R h ha, pow22523_R h ha, fun hx => pow_inv x hx⟩

example : R 1 (⟨2, 0, 0, 0, 0, 0, 0, 0, 0, 0⟩ : L10) (2 : F) := ⟨by decide, by unfold val; decide⟩

end Dos.Props.C20Field
