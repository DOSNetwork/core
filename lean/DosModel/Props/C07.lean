/-
C07 — the signed oracle message is a fixed function of the request, same for all.

Theorems about `Dos.Content` over unbounded `Nat` values and arbitrary byte
strings.  Sizes and the submitter / threshold expressions are regenerated from
the source on every run (`Gen/DosnodeConsts.lean`, extractor
go/extract/dosnodeconsts) and pinned here.  `dataParse` (ajson, xmlquery) is an
external function: its determinism is NOT proved, it is tested by the
correspondence run (8 sequential + 8 concurrent evaluations per case, and the
`cq` cases: G goroutines released on a barrier, rich selector grammar).
Sections 6–8 below: the evaluation of a URL query as a machine and ANY
interleaving of k evaluations = k one-shot results; the whole path content →
share → recovery → report for the three request kinds; the group table and the
submitter on the list as announced; the regenerated statement skeletons these
models transcribe are pinned in Props/C07Flow.lean.
"Every member computes the identical string" is, for the model, the fact that
these are functions of the request fields only (no state, no member identity);
for the code it is what the tie checks.
-/
import DosModel.Proofs.Content
import DosModel.Proofs.Eval
import DosModel.Proofs.ContentPath
import DosModel.Gen.DosnodeConsts
import DosModel.Gen.ChainHandlerFacts
import DosModel.Gen.DosnodeFlow

namespace Dos.Props.C07
open Dos Dos.Content

/-- **0. regenerated facts.**  `randNumberSize = 32`, `addrLen = 20`; `genSysRandom` pads to
`randNumberSize`; `recoverSign` strips `addrLen` bytes; the submitter expression in
`choseSubmitter` and the thresholds at the call sites in `handleQuery` are the model's. -/
theorem c07_constants : Gen.randNumberSize = 32 ∧ Gen.addrLen = 20 ∧ Gen.padSize = 32 ∧ Gen.stripLen = 20 := by
  decide

theorem c07_submitter_expr (r n : Nat) (hn : n ≠ 0) : submitterIdx r n = some (Gen.submitterExpr r n) :=
  submitterIdx_eq hn r

theorem c07_threshold_expr (n : Nat) :
    Gen.thresholdDispatch n = threshold n ∧ Gen.thresholdRecover n = threshold n ∧ Gen.participantsRecover n = n := by
  simp [Gen.thresholdDispatch, Gen.thresholdRecover, Gen.participantsRecover, threshold]

/-- **0b. which event field reaches which content stage** (regenerated, go/extract/chainhandler):
the `handleQuery` call of each event type, `handleQuery`'s parameter order, and the arguments each
stage gets.  So: system randomness signs `padOrTrim(LastRandomness.Bytes(), 32) ‖ submitter`, user
randomness `RequestId.Bytes() ‖ LastSystemRandomness.Bytes() ‖ UserSeed.Bytes() ‖ submitter`, URL
`dataParse(fetch(DataSource), Selector) ‖ submitter`; the submitter is chosen from
`LastRandomness` / `LastSystemRandomness` / `Randomness` and the group's member list. -/
theorem c07_event_fields :
    Gen.ChainHandlerFacts.queryCalls = [
      "*onchain.LogUpdateRandom => d.handleQuery(ids, pub, sec, groupID, content.LastRandomness, content.LastRandomness, nil, \"\", \"\", uint32(onchain.TrafficSystemRandom))",
      "*onchain.LogRequestUserRandom => d.handleQuery(ids, pub, sec, groupID, content.RequestId, content.LastSystemRandomness, content.UserSeed, \"\", \"\", uint32(onchain.TrafficUserRandom))",
      "*onchain.LogUrl => d.handleQuery(ids, pub, sec, groupID, content.QueryId, content.Randomness, nil, content.DataSource, content.Selector, uint32(onchain.TrafficUserQuery))"]
    ∧ Gen.ChainHandlerFacts.handleQueryParams = [
      "ids",
      "pubPoly",
      "sec",
      "groupID",
      "requestID",
      "lastRand",
      "useSeed",
      "url",
      "selector",
      "pType"]
    ∧ Gen.ChainHandlerFacts.handleQueryStages = [
      "queryCtx, cancel := context.WithTimeout(context.Background(), time.Duration(60*d.chain.GetBlockTime())*time.Second)",
      "submitterc, errc := choseSubmitter(queryCtxWithValue, d.p, d.chain, lastRand, ids, 2, d.logger)",
      "case onchain.TrafficSystemRandom: contentc = genSysRandom(queryCtxWithValue, submitterc[0], lastRand.Bytes(), d.logger)",
      "case onchain.TrafficUserRandom: contentc = genUserRandom(queryCtxWithValue, submitterc[0], requestID.Bytes(), lastRand.Bytes(), useSeed.Bytes(), d.logger)",
      "case onchain.TrafficUserQuery: contentc, errc = genQueryResult(queryCtxWithValue, submitterc[0], url, selector, d.logger)",
      "signc, errc := genSign(queryCtxWithValue, contentc, sec, d.suite, sign, d.logger)",
      "signAllc := dispatchSign(queryCtxWithValue, submitterc[1], signc, d.reqSignc, d.p, requestID.Bytes(), (len(ids)/2 + 1), d.logger)",
      "recoveredSignc, errc := recoverSign(queryCtxWithValue, signAllc, d.suite, pubPoly, (len(ids)/2 + 1), len(ids), d.logger)",
      "errcList = append(errcList, reportQueryResult(queryCtxWithValue, d.chain, pType, recoveredSignc))"] :=
  ⟨rfl, rfl, rfl⟩

/-- **1. length.**  The system-randomness message is 32 + |address| bytes, 52 for a 20-byte address,
for every last randomness (0, small, above 2^256). -/
theorem sys_len (r : Nat) (a : Bytes) (ha : a.length = 20) : (sysContent Gen.padSize r a).length = 52 := by
  simp [sysContent, sysContentRaw, padOrTrim_length, ha, c07_constants.2.2.1]

/-- **2a. exactly the 32-byte big-endian last randomness followed by the address** – whatever
the number of leading zero bytes of `r` (0 … 32, `r = 0` included).  `natBE 32 r` is the 32-byte
big-endian encoding of `r` for `r < 2^256` (`CodecBytes.beNat_natBE_mod`: its value is `r mod 2^256`, which is
also what the code does with a longer value: it keeps the low 32 bytes). -/
theorem sys_exact (r : Nat) (a : Bytes) :
    sysContent Gen.padSize r a = natBE 32 r ++ a ∧ beNat (natBE 32 r) = r % 2 ^ 256 :=
  ⟨sysContent_eq 32 r a, by rw [CodecBytes.beNat_natBE_mod]; norm_num⟩

/-- **2b. prefix round trip**: reading the first 32 bytes back as a big-endian number gives `r`
(`r < 2^256`), and in general `r mod 2^256` (the code keeps the LOW 32 bytes of a longer value). -/
theorem sys_prefix_roundtrip (r : Nat) (a : Bytes) :
    beNat ((sysContent Gen.padSize r a).take 32) = r % 2 ^ 256
      ∧ (r < 2 ^ 256 → beNat ((sysContent Gen.padSize r a).take 32) = r)
      ∧ (sysContent Gen.padSize r a).drop 32 = a := by
  obtain ⟨hs, hv⟩ := sys_exact r a
  rw [hs, List.take_left' (CodecBytes.natBE_length 32 r), List.drop_left' (CodecBytes.natBE_length 32 r)]
  exact ⟨hv, fun hr => by rw [hv, Nat.mod_eq_of_lt hr], rfl⟩

/-- **2c. leading zero bytes of the INPUT do not matter**: any zero-padded encoding of the same
number gives the same signed message (the stage is a function of the number). -/
theorem sys_leading_zeros (k : Nat) (bs a : Bytes) :
    sysContentRaw 32 (List.replicate k 0 ++ bs) a = sysContentRaw 32 bs a := by
  simp only [sysContentRaw]
  rw [padOrTrim_eq_natBE, padOrTrim_eq_natBE, beNat_replicate_zero]

/-- **2d. distinct last randomness (< 2^256) or distinct submitter ⇒ distinct signed message** -/
theorem sys_injective (r r' : Nat) (a a' : Bytes) (hr : r < 2 ^ 256) (hr' : r' < 2 ^ 256)
    (h : sysContent Gen.padSize r a = sysContent Gen.padSize r' a') : r = r' ∧ a = a' := by
  have h1 := (sys_prefix_roundtrip r a).2.1 hr
  have h2 := (sys_prefix_roundtrip r' a').2.1 hr'
  have d1 := (sys_prefix_roundtrip r a).2.2
  have d2 := (sys_prefix_roundtrip r' a').2.2
  rw [h] at h1 d1
  exact ⟨by rw [← h1, h2], by rw [← d1, d2]⟩

/-- **3a. user randomness / URL query: result bytes followed by the submitter address.** -/
theorem user_is_result_then_addr (q r s : Nat) (a : Bytes) :
    userContent q r s a = (natBytes q ++ natBytes r ++ natBytes s) ++ a := by
  simp [userContent, userContentRaw]

theorem query_is_result_then_addr (parsed a : Bytes) : queryContent parsed a = parsed ++ a := rfl

/-- **3b. strip/append inverse**: what is reported is exactly the signed string without its
trailing 20 bytes – `strip (x ++ a) = x` for a 20-byte `a`, and `strip c ++ (last 20 bytes) = c`
for every `c` of at least 20 bytes; a shorter string is reported as an error and skipped
(since /repo 419bec9; the pinned commit panicked in `make([]byte, t)`, `t < 0`). -/
theorem strip_append (x a : Bytes) (ha : a.length = 20) : stripResult Gen.stripLen (x ++ a) = .ok x := by
  rw [show Gen.stripLen = a.length from ha.symm]; exact stripResult_append x a

theorem append_strip (c : Bytes) (hc : 20 ≤ c.length) :
    ∃ x, stripResult Gen.stripLen c = .ok x ∧ x ++ c.drop (c.length - 20) = c ∧ x.length = c.length - 20 :=
  ⟨_, stripResult_of_le hc, List.take_append_drop _ _, by simp [Gen.stripLen, Gen.addrLen]⟩

theorem strip_short_skipped (c : Bytes) (hc : c.length < 20) :
    stripResult Gen.stripLen c = .tooShort :=
  stripResult_of_lt hc

/-- the three kinds of signed message all report `content minus address` -/
theorem reported_result (r q s : Nat) (parsed a : Bytes) (ha : a.length = 20) :
    stripResult Gen.stripLen (sysContent Gen.padSize r a) = .ok (padOrTrim (natBytes r) 32)
    ∧ stripResult Gen.stripLen (userContent q r s a) = .ok (natBytes q ++ natBytes r ++ natBytes s)
    ∧ stripResult Gen.stripLen (queryContent parsed a) = .ok parsed :=
  ⟨strip_append _ a ha, by rw [user_is_result_then_addr]; exact strip_append _ a ha, strip_append _ a ha⟩

/-- **4. submitter.**  For a non-empty member list the index is in range, so a member is chosen;
it depends only on the low 64 bits of the last randomness (the index is a function of `(r, n)` only). -/
theorem submitter_in_range (r n : Nat) (hn : 0 < n) : ∃ i, submitterIdx r n = some i ∧ i < n :=
  ⟨_, submitterIdx_eq (Nat.ne_of_gt hn) r, Nat.mod_lt _ hn⟩

theorem submitter_is_member (ids : List Bytes) (r : Nat) (hn : 0 < ids.length) :
    ∃ id, submitter ids r = some id ∧ id ∈ ids := by
  have hlt := Nat.mod_lt (r % 2 ^ 64) hn
  exact ⟨_, (submitter_eq (Nat.ne_of_gt hn) r).trans (List.getElem?_eq_getElem hlt), List.getElem_mem hlt⟩

theorem submitter_low64 (r r' n : Nat) (h : r % 2 ^ 64 = r' % 2 ^ 64) : submitterIdx r n = submitterIdx r' n := by
  unfold submitterIdx; rw [h]

theorem submitter_ignores_high_bits (r hi n : Nat) : submitterIdx (r + hi * 2 ^ 64) n = submitterIdx r n :=
  submitter_low64 _ _ _ (by simp)

/-- **5. threshold**: `n/2+1` is a strict majority and at most `n` (for `n ≥ 1`). -/
theorem threshold_majority (n : Nat) (hn : 1 ≤ n) : n < 2 * threshold n ∧ threshold n ≤ n := by
  unfold threshold; omega

/-! ### 6. repeated and concurrent evaluation (Model/Eval.lean)

`Engines` are the external selector engines (ajson, xmlquery): arbitrary FUNCTIONS of
(document, selector) – that the real ones are functions (deterministic, no state kept between or
shared by evaluations) is what the `cq` cases test and what `c07_no_package_state` /
`c07_parse_shape` (Props/C07Flow.lean) exclude for the code around them. -/

/-- **6a. the dispatch of `dataParse`**: empty selector → the document itself; first byte `$` →
the nesting guard (/repo 14409e8: deeper than 1000 levels of arrays / objects ⇒ error, at every
member alike), then the JSON engine; `/` → the XML engine, its nodes joined with a line feed after
each; any other selector → an empty result (not an error). -/
theorem parse_dispatch (E : Eval.Engines) (doc rest : Bytes) (c : UInt8) :
    Eval.dataParse E doc [] = .ok doc
    ∧ Eval.dataParse E doc (0x24 :: rest) =
        (if Eval.jsonDepthExceeds doc Gen.DosnodeFlow.maxDocumentDepth then .err else E.json doc (0x24 :: rest))
    ∧ (∀ ns, E.xml doc (0x2f :: rest) = .nodes ns → Eval.dataParse E doc (0x2f :: rest) = .ok (Eval.xmlJoin ns))
    ∧ (E.xml doc (0x2f :: rest) = .err → Eval.dataParse E doc (0x2f :: rest) = .err)
    ∧ (c ≠ 0x24 → c ≠ 0x2f → Eval.dataParse E doc (c :: rest) = .ok []) := by
  -- second conjunct: the closing `rfl` is where the regenerated bound meets the model's
  -- (`Gen.DosnodeFlow.maxDocumentDepth` and `Eval.maxDocumentDepth` are both the literal 1000, `c07_depth_guard_shape`)
  refine ⟨rfl, by simp only [Eval.dataParse, Eval.jsonBranch, if_true]; rfl, ?_, ?_, ?_⟩
  · intro ns h; simp [Eval.dataParse, h]
  · intro h; simp [Eval.dataParse, h]
  · intro h1 h2; simp [Eval.dataParse, h1, h2]

example : Eval.dataParse ⟨fun _ _ => .err, fun _ _ => .nodes [[1], [2, 3]]⟩ [9] [0x2f, 0x61] = .ok [1, 10, 2, 3, 10] := by decide
example : Eval.dataParse ⟨fun _ _ => .err, fun _ _ => .err⟩ [9, 9] [0x5b] = .ok [] := by decide

/-- **6a′. the nesting guard** (`jsonDepthExceeds`, transcribed from the source): `d` opening brackets
exceed the bound whenever `d > max` – for every `d` and `max`, whatever follows them.  (That `max`
brackets pass and that brackets inside a string do not count is shown on the examples below; boundary
of the code: 1000 levels pass, 1001 are refused.) -/
theorem depth_guard_brackets (d max : Nat) (tail : Bytes) (hd : max < d) :
    Eval.jsonDepthExceeds (List.replicate d 0x5b ++ tail) max = true := by
  rw [Eval.jsonDepthExceeds_agree]
  exact Handlers.jsonDepthExceeds_nested max d tail hd

example : Eval.jsonDepthExceeds (List.replicate 3 0x5b ++ [0x31] ++ List.replicate 3 0x5d) 3 = false
    ∧ Eval.jsonDepthExceeds (List.replicate 4 0x5b ++ [0x31] ++ List.replicate 4 0x5d) 3 = true
    ∧ Eval.jsonDepthExceeds ([0x7b, 0x22] ++ List.replicate 9 0x5b ++ [0x22, 0x7d]) 3 = false := by decide +kernel

/-- **6a″. what `dataParse` does with the engines' results** (only `JSONPath` / `Find` and
the serialisation of ONE selected value / node remain parameters, `Eval.Engines2`).  JSON: the result is
`[` + the encodings of the selected values IN THE ORDER OF THE ENGINE'S RESULT separated by `,` + `]`;
the first value that does not unpack makes the whole evaluation an error; nothing selected gives `[]`
(not an error, not an empty string).  All theorems of this file hold for `E.toEngines`. -/
theorem json_assembly (E : Eval.Engines2) (doc rest : Bytes) :
    Eval.dataParse E.toEngines doc (0x24 :: rest) =
      (if Eval.jsonDepthExceeds doc Gen.DosnodeFlow.maxDocumentDepth then .err
       else match E.jsonNodes doc (0x24 :: rest) with
        | .nodes vs =>
          (match Eval.unpackAll vs with
            | some l => .ok ([0x5b] ++ Eval.jsonJoin l ++ [0x5d])
            | none => .err)
        | .err => .err
        | .panic => .panic) := by
  rw [(parse_dispatch E.toEngines doc rest 0).2.1]
  by_cases hg : Eval.jsonDepthExceeds doc Gen.DosnodeFlow.maxDocumentDepth = true
  · simp [hg]
  · simp only [hg, Eval.Engines2.toEngines]
    cases E.jsonNodes doc (0x24 :: rest) <;> rfl

example : Eval.dataParse (Eval.Engines2.toEngines ⟨fun _ _ => .nodes [some [0x31], some [0x22, 0x61, 0x22]], fun _ _ => .err⟩) [0x7b] [0x24]
    = .ok [0x5b, 0x31, 0x2c, 0x22, 0x61, 0x22, 0x5d] := by decide

/-- every selected value unpacks ⇒ the array lists exactly them, in order; an empty selection is `[]` -/
theorem json_order_and_empty (vs : List Bytes) :
    Eval.jsonAssemble (.nodes (vs.map some)) = .ok ([0x5b] ++ Eval.jsonJoin vs ++ [0x5d])
    ∧ Eval.jsonAssemble (.nodes []) = .ok [0x5b, 0x5d] :=
  ⟨by simp only [Eval.jsonAssemble, Eval.unpackAll_map_some], rfl⟩

example : Eval.jsonAssemble (.nodes [some [0x31], none, some [0x32]]) = .err := by decide

/-- the matches are laid out one after the other: joining two non-empty selections is joining each
and putting one comma between them (JSON), concatenating the two outputs (XPath, each node followed
by its line feed) -/
theorem assembly_concatenates (a b : List Bytes) (ha : a ≠ []) (hb : b ≠ []) :
    Eval.jsonJoin (a ++ b) = Eval.jsonJoin a ++ [0x2c] ++ Eval.jsonJoin b
    ∧ Eval.xmlJoin (a ++ b) = Eval.xmlJoin a ++ Eval.xmlJoin b :=
  ⟨Eval.jsonJoin_append ha hb, by simp [Eval.xmlJoin_eq_flatten]⟩

example : Eval.jsonJoin ([[1], [2]] ++ [[3]]) = [1, 0x2c, 2, 0x2c, 3] ∧ Eval.xmlJoin ([[1]] ++ [[2]]) = [1, 10, 2, 10] := by decide +kernel

/-- **6b. one evaluation, cut at its statements, is the one-shot function**: run for `turns` steps
or longer, the machine of `genQueryResult` ends with exactly `queryResult` – the parsed result
followed by the submitter address, or no content when the selector fails. -/
theorem eval_machine_is_function (E : Eval.Engines) (r : Eval.Req) (k : Nat) (hk : Eval.turns E r ≤ k) :
    Eval.result (Eval.iter E k (Eval.init r)) = some (Eval.queryResult E r) :=
  Eval.machine_is_queryResult E r k hk

example : Eval.result (Eval.iter ⟨fun _ _ => .err, fun _ _ => .nodes [[1], [2]]⟩ 5 (Eval.init ⟨[7], [0x2f], [0xAA]⟩))
    = some (some [1, 10, 2, 10, 0xAA]) := by decide

/-- **6c. any interleaving of k evaluations = k independent results.**  `rs` are the requests in
flight on one node (the same request several times, different selectors on one document, one
selector on different documents – anything), `sch` ANY schedule of their steps (who runs when; no
fairness assumed beyond each evaluation getting its `turns`; indices outside the list are idle
turns).  Then the results are, position by position, the one-shot results `queryResult E rs[i]`:
no evaluation sees another. -/
theorem eval_interleaving_pointwise (E : Eval.Engines) (rs : List Eval.Req) (sch : List Nat)
    (hfair : ∀ i (h : i < rs.length), Eval.turns E rs[i] ≤ sch.count i) :
    (Eval.runSched E sch (rs.map Eval.init)).map Eval.result = rs.map (fun r => some (Eval.queryResult E r)) := by
  apply List.ext_getElem?
  intro i
  rw [List.getElem?_map, List.getElem?_map]
  exact Eval.runSched_result E rs sch i (hfair i)

example : (Eval.runSched ⟨fun _ _ => .ok [5], fun _ _ => .nodes [[1], [2]]⟩ [1, 0, 1, 1, 0, 7, 1, 1, 0]
    [Eval.init ⟨[], [0x24], [0xAA]⟩, Eval.init ⟨[], [0x2f], [0xBB]⟩]).map Eval.result
      = [some (some [5, 0xAA]), some (some [1, 10, 2, 10, 0xBB])] := by decide +kernel

/-- **6d. a history of evaluations is pointwise the one-shot result, and repeating a request
repeats its result**: whatever was evaluated before or is evaluated at the same time, two
evaluations of the same (document, selector, submitter) – on one node or on two – give the same
signed content. -/
theorem eval_history_pointwise (E : Eval.Engines) (rs : List Eval.Req) (i j : Nat) (hi : i < rs.length)
    (hj : j < rs.length) (hsame : rs[i] = rs[j]) :
    (Eval.runHistory E rs)[i]? = some (Eval.queryResult E rs[i])
    ∧ (Eval.runHistory E rs)[i]? = (Eval.runHistory E rs)[j]?
    ∧ ∀ (rs' : List Eval.Req) (sch sch' : List Nat) (i' : Nat) (hi' : i' < rs'.length), rs'[i'] = rs[i] →
        Eval.turns E rs[i] ≤ sch.count i → Eval.turns E rs[i] ≤ sch'.count i' →
        ((Eval.runSched E sch (rs.map Eval.init))[i]?).map Eval.result
          = ((Eval.runSched E sch' (rs'.map Eval.init))[i']?).map Eval.result := by
  refine ⟨by simp [Eval.runHistory, hi], by simp [Eval.runHistory, hi, hj, hsame], ?_⟩
  intro rs' sch sch' i' hi' he h1 h2
  rw [Eval.runSched_result E rs sch i fun _ => h1, Eval.runSched_result E rs' sch' i' fun _ => he ▸ h2,
    List.getElem?_eq_getElem hi, List.getElem?_eq_getElem hi', he]

example : Eval.runHistory ⟨fun d _ => .ok d, fun _ _ => .err⟩ [⟨[1], [0x24], [9]⟩, ⟨[2], [0x2f], [9]⟩, ⟨[1], [0x24], [9]⟩]
    = [some [1, 9], none, some [1, 9]] := by decide

/-! ### 6e. the clause "extracting a result with a JSON-path or XPath selector is deterministic" – PARTIAL

In `Eval.Engines` the two third-party engines are Lean FUNCTIONS, i.e. their determinism is built into
the type: theorems 6a–6d say what `dataParse` / `genQueryResult` add AROUND the engines (dispatch,
node loop, append; no state between evaluations), not that ajson / xmlquery are deterministic.  Stated
honestly: engines as RELATIONS (an evaluation may depend on anything), `dataParse` over them, and the
clause as functionality of that relation.  Proved: the clause holds iff it holds for the engines
(`_partial`), and unconditionally on the branches that do not reach an engine.  NOT proved: that the
real ajson.JSONPath + Unpack + json.Marshal and xmlquery.Parse + Find + OutputXML are functional –
tested only (query / cq cases: sequential, concurrent, other inputs in between; regenerated facts: no
package-level state in dosnode, engines called directly). -/

/-- the engines as a program has them: relations between (document, selector) and a result -/
structure EnginesRel where
  json : Bytes → Bytes → Eval.Parsed → Prop
  xml : Bytes → Bytes → Eval.XmlOut → Prop

/-- each engine returns one result per (document, selector) -/
def EnginesRel.functional (R : EnginesRel) : Prop :=
  (∀ d s p q, R.json d s p → R.json d s q → p = q) ∧ (∀ d s x y, R.xml d s x → R.xml d s y → x = y)

/-- `dataParse` over relational engines (the dispatch and the node loop of `Eval.dataParse`) -/
def parsesRel (R : EnginesRel) (doc sel : Bytes) (out : Eval.Parsed) : Prop :=
  match sel with
  | [] => out = .ok doc
  | c :: _ =>
    if c = 0x24 then
      (if Eval.jsonDepthExceeds doc Eval.maxDocumentDepth then out = .err else R.json doc sel out)
    else if c = 0x2f then
      ∃ x, R.xml doc sel x ∧ out = (match x with
        | .nodes ns => .ok (Eval.xmlJoin ns)
        | .err => .err
        | .panic => .panic)
    else out = .ok []

/-- **the full clause** for engines `R`: two evaluations of the same (document, selector) – at any
member, at any time, concurrently or not – give the same result.  For `R` = the real engines this is
what C07 says; it is NOT proved (no model of ajson / xmlquery / encoding/json). -/
def C07_extraction_deterministic_full (R : EnginesRel) : Prop :=
  ∀ doc sel p q, parsesRel R doc sel p → parsesRel R doc sel q → p = q

/-- **partial**: everything `dataParse` does around the engines preserves determinism – the clause
holds as soon as the engines themselves are functional (missing: that the real engines are). -/
theorem extraction_deterministic_partial (R : EnginesRel) (h : R.functional) :
    C07_extraction_deterministic_full R := by
  intro doc sel p q hp hq
  unfold parsesRel at hp hq
  cases sel with
  | nil => simp only at hp hq; rw [hp, hq]
  | cons c rest =>
    simp only at hp hq
    by_cases h1 : c = 0x24
    · simp only [h1, if_true] at hp hq
      by_cases hg : Eval.jsonDepthExceeds doc Eval.maxDocumentDepth = true
      · simp only [hg, if_true] at hp hq; rw [hp, hq]
      · simp only [hg] at hp hq; exact h.1 _ _ _ _ hp hq
    · simp only [h1, if_false] at hp hq
      by_cases h2 : c = 0x2f
      · simp only [h2, if_true] at hp hq
        obtain ⟨x, hx, rfl⟩ := hp
        obtain ⟨y, hy, rfl⟩ := hq
        rw [h.2 _ _ _ _ hx hy]
      · simp only [h2, if_false] at hp hq; rw [hp, hq]

example : C07_extraction_deterministic_full ⟨fun d _ p => p = .ok d, fun _ _ x => x = .nodes [[1], [2]]⟩ :=
  extraction_deterministic_partial _ ⟨fun _ _ _ _ hp hq => by rw [hp, hq], fun _ _ _ _ hx hy => by rw [hx, hy]⟩

/-- on the branches that reach no engine (empty selector: the document itself; a selector that is
neither JSONPath nor XPath: the empty result) the clause holds for ANY engines -/
theorem extraction_deterministic_without_engines (R : EnginesRel) (doc sel : Bytes)
    (hs : sel = [] ∨ ∃ c rest, sel = c :: rest ∧ c ≠ 0x24 ∧ c ≠ 0x2f) (p q : Eval.Parsed)
    (hp : parsesRel R doc sel p) (hq : parsesRel R doc sel q) : p = q := by
  unfold parsesRel at hp hq
  rcases hs with rfl | ⟨c, rest, rfl, h1, h2⟩
  · simp only at hp hq; rw [hp, hq]
  · simp only [h1, h2, if_false] at hp hq; rw [hp, hq]

example : parsesRel ⟨fun _ _ _ => True, fun _ _ _ => True⟩ [7] [0x5b] (.ok []) := by simp [parsesRel]

/-- the functional model of section 6 is the relational one with functional engines -/
theorem parsesRel_of_engines (E : Eval.Engines) (doc sel : Bytes) :
    parsesRel ⟨fun d s p => p = E.json d s, fun d s x => x = E.xml d s⟩ doc sel (Eval.dataParse E doc sel) := by
  unfold parsesRel Eval.dataParse
  cases sel with
  | nil => rfl
  | cons c rest =>
    simp only
    by_cases h1 : c = 0x24
    · simp only [h1, if_true, Eval.jsonBranch]
      by_cases hg : Eval.jsonDepthExceeds doc Eval.maxDocumentDepth = true <;> simp [hg]
    · by_cases h2 : c = 0x2f
      · simp only [h2, if_true]
        exact ⟨_, rfl, by cases E.xml doc (0x2f :: rest) <;> rfl⟩
      · simp [h1, h2]

example : parsesRel ⟨fun d s p => p = (⟨fun d _ => .ok d, fun _ _ => .err⟩ : Eval.Engines).json d s, fun _ _ x => x = .err⟩ [1] [0x24] (.ok [1]) := by
  have : Eval.jsonDepthExceeds [1] Eval.maxDocumentDepth = false := by decide
  simp [parsesRel, this]

/-! ### 7. from the content to the chain: genSign → dispatchSign → recoverSign → reportQueryResult

`Query.handleQuery` (Model/Query.lean, shared with C01) is the pipeline of one node over abstract
threshold-BLS operations; `fc` is whatever reaches the recovery stage from the peers, in any order. -/

/-- **7. the result submitted is exactly the signed string without its trailing 20 bytes, for
all three request kinds, whatever the peers send.**  If the member computed its content `c0` (the
string it signed), then every report it makes carries `result` with `result ++ own address = c0`,
`result` is what the strip of `recoverSign` yields on `c0`, and it is: the 32-byte big-endian last
randomness (system randomness), `requestId ‖ lastRand ‖ seed` as minimal big-endian numbers (user
randomness), the parsed document (URL query). -/
theorem path_reported_is_signed_minus_address (C : Query.Crypto) (mb : Query.Member) (r : Query.Request)
    (fc : List (Option Query.Msg)) (c0 : Bytes)
    (hc0 : Query.contentFor Gen.padSize r mb.me = some c0) (hlen : mb.me.length = 20) :
    ∀ rep ∈ (Query.handleQuery C Gen.padSize Gen.stripLen mb r fc).reports,
      rep.result ++ mb.me = c0 ∧ stripResult Gen.stripLen c0 = .ok rep.result ∧
      (match r.kind with
        | .sys => rep.result = natBE 32 r.last
        | .user => rep.result = natBytes r.rid ++ natBytes r.last ++ natBytes r.seed
        | .url => r.parsed = some rep.result) := by
  intro rep hrep
  obtain ⟨_, hd, _, _⟩ := Query.report_result (a := Gen.stripLen) hlen hrep
  rw [Query.contentFor_eq, hd] at hc0
  cases hc0
  refine ⟨rfl, strip_append _ _ hlen, ?_⟩
  unfold Query.resultFor at hd
  cases hk : r.kind <;> simp only [hk] at hd ⊢
  · exact (Option.some.inj hd).symm
  · exact (Option.some.inj hd).symm
  · exact hd

example : (Query.handleQuery ⟨fun _ _ => .ok [9], fun _ _ => true⟩ 32 20 ⟨[List.replicate 20 7], List.replicate 20 7, fun c => c⟩
    ⟨.sys, 5, 5, 0, none⟩ []).reports.map (fun r => (r.result.length, r.result ++ List.replicate 20 7 == sysContent 32 5 (List.replicate 20 7)))
    = [(32, true)] := by decide +kernel

/-- **7b. every member signs the identical string**: the content a member signs (and sends to the
submitter, or keeps when it is the submitter) depends on the member only through the member list:
two members holding the list as announced, handling the same event fields and (for a URL query) the
same parse result, choose the same submitter and sign the same bytes – also when either of them
evaluates the request again. -/
theorem members_sign_identical (p : Nat) (mb1 mb2 : Query.Member) (r1 r2 : Query.Request)
    (hids : mb1.ids = mb2.ids) (hk : r1.kind = r2.kind) (hq : r1.rid = r2.rid) (hl : r1.last = r2.last)
    (hs : r1.seed = r2.seed) (hp : r1.parsed = r2.parsed) :
    submitter mb1.ids r1.last = submitter mb2.ids r2.last
    ∧ (submitter mb1.ids r1.last).bind (Query.contentFor p r1) = (submitter mb2.ids r2.last).bind (Query.contentFor p r2) := by
  have hc : Query.contentFor p r1 = Query.contentFor p r2 := by
    funext a; unfold Query.contentFor; rw [hk, hq, hl, hs, hp]
  rw [hids, hl, hc]; exact ⟨rfl, rfl⟩

example : (submitter [[1], [2], [3]] 7).bind (Query.contentFor 32 ⟨.user, 1, 7, 2, none⟩) = some [1, 7, 2, 2] := by decide

/-! ### 7c–7f. per-member failure of the content stage; the group; the document bound

The requester controls the data source: it may answer the members differently, cut a transfer, send
an over-long body.  `ContentPath.groupRun` lets every member run `Query.handleQuery` on ITS OWN fetch
result (`parsedAt i`, arbitrary: any set of members may fail); the non-submitters' shares, then
arbitrary further messages (`extra`), reach the submitter's recovery stage. -/

/-- **7c. a member whose content stage failed is silent** (since /repo 7f58072): a URL query whose
fetch or selector evaluation failed AT THIS MEMBER – submitter or not, whatever the peers send –
produces no report, no registration for the peers' shares, and no share (the one message handed to
`p.Request` is nil and never reaches the wire). -/
theorem failed_member_is_silent (C : Query.Crypto) (mb : Query.Member) (r : Query.Request)
    (fc : List (Option Query.Msg)) (hk : r.kind = .url) (hp : r.parsed = none) :
    (Query.handleQuery C Gen.padSize Gen.stripLen mb r fc).reports = [] ∧
    (Query.handleQuery C Gen.padSize Gen.stripLen mb r fc).registered = false ∧
    ∀ x ∈ (Query.handleQuery C Gen.padSize Gen.stripLen mb r fc).sent, x.2 = none := by
  have h0 : ∀ sub, Query.contentFor Gen.padSize r sub = none := by
    intro sub; simp [Query.contentFor, hk, hp]
  obtain ⟨h1, h2⟩ := Query.silent_without_content C Gen.padSize Gen.stripLen mb r fc (fun _ => h0 mb.me)
  refine ⟨h1, h2, ?_⟩
  intro x hx
  cases hs : submitter mb.ids r.last with
  | none => unfold Query.handleQuery at hx; simp [hs] at hx
  | some sub =>
    by_cases hme : mb.me ≠ sub
    · rw [(Query.nonsubmitter_out C _ _ mb r fc sub hs hme).2.2, h0 sub] at hx
      simp at hx; subst hx; rfl
    · unfold Query.handleQuery at hx
      simp [hs, hme, h0 sub] at hx

example : (Query.handleQuery ⟨fun _ _ => .ok [9], fun _ _ => true⟩ 32 20 ⟨[[1], [2], [3]], [1], fun c => c⟩
    ⟨.url, 5, 0, 0, none⟩ [some ⟨2, [5], some [7], some [8]⟩, some ⟨2, [5], some [7], some [8]⟩]).reports = [] := by decide

/-- **7d. whatever is reported in a group is exactly the content function of the request.**  For
every member list, every per-member outcome of fetch and parse (`parsedAt`: any members may fail,
members may be served different documents), every order of the peers' shares and every further
message reaching the submitter's stage: a report is made by the member whose id is the submitter's,
that member computed a content `c0` itself, and `result ‖ submitter = c0`, where `result` is the
32-byte last randomness / `requestId ‖ lastRand ‖ seed` / the parse result of the document THE
REPORTING MEMBER was served. -/
theorem group_reports_content_function (C : Query.Crypto) (ids : List Bytes) (signOf : Nat → Bytes → Bytes)
    (f : ContentPath.Fields) (parsedAt : Nat → Option Bytes) (order : List Nat)
    (extra : List (Option Query.Msg)) (o : ContentPath.GroupOut)
    (ho : ContentPath.groupRun C Gen.padSize Gen.stripLen ids signOf f parsedAt order extra = some o)
    (hlen : ∀ id ∈ ids, id.length = 20) :
    ∀ i rep, (i, rep) ∈ o.reports →
      submitter ids f.last = some (ids.getD i []) ∧
      ∃ c0, Query.contentFor Gen.padSize (ContentPath.requestAt f parsedAt i) (ids.getD i []) = some c0 ∧
        rep.result ++ ids.getD i [] = c0 ∧
        (match f.kind with
          | .sys => rep.result = natBE 32 f.last
          | .user => rep.result = natBytes f.rid ++ natBytes f.last ++ natBytes f.seed
          | .url => parsedAt i = some rep.result) := by
  intro i rep h
  obtain ⟨fc, hfc⟩ := ContentPath.groupRun_reports C _ _ ids signOf f parsedAt order extra o ho i rep h
  obtain ⟨hsub, c0, hc0⟩ := Query.reporter_is_submitter C _ _ _ _ fc rep hfc
  simp only [ContentPath.requestAt] at hsub
  have hmem : ids.getD i [] ∈ ids := by
    unfold submitter at hsub
    cases hi : submitterIdx f.last ids.length with
    | none => simp [hi] at hsub
    | some k => simp only [hi] at hsub; exact List.mem_of_getElem? hsub
  have := path_reported_is_signed_minus_address C _ _ fc c0 hc0 (hlen _ hmem) rep hfc
  exact ⟨hsub, c0, hc0, this.1, this.2.2⟩

example : (ContentPath.groupRun (Query.symCrypto [[7, 1], [8, 1]] 2 3) 32 1 [[1], [2], [3]]
    (fun i c => [1, UInt8.ofNat i, if c = [7, 1] then 0 else 1]) ⟨.url, 5, 0, 0⟩
    (fun i => if i = 1 then none else some [7]) [2, 1, 0] []).map (fun o => (o.sent, o.nils, o.reports.map (·.2.result)))
    = some ([2], [1], [[7]]) := by decide +kernel

/-- **7e. members that are served alike sign alike**: the content a member signs is a function of the
event fields, the member list and the transfer result at that member only – not of the member's
identity, its key share, or anything else. -/
theorem members_served_alike_sign_identical (E : Eval.Engines) (m : Nat)
    (f : ContentPath.Fields) (tr : Nat → Option Bytes) (sel : Bytes) (i j : Nat) (h : tr i = tr j) (sub : Bytes) :
    Query.contentFor Gen.padSize (ContentPath.requestAt f (fun k => ContentPath.memberParsed E m (tr k) sel) i) sub =
    Query.contentFor Gen.padSize (ContentPath.requestAt f (fun k => ContentPath.memberParsed E m (tr k) sel) j) sub := by
  simp only [ContentPath.requestAt, h]

example : ContentPath.memberParsed ⟨fun d _ => .ok d, fun _ _ => .err⟩ 3 (some [1, 2, 3]) [0x24] = some [1, 2, 3]
    ∧ ContentPath.memberParsed ⟨fun d _ => .ok d, fun _ _ => .err⟩ 3 (some [1, 2, 3, 4]) [0x24] = none := by decide

/-- **7f. the document bound** (`dataFetch`, fix 2c0c671; the constant is regenerated): a transfer
error gives no document; a complete body of at most 16 MiB is handed on byte for byte; a longer one
is refused, and nothing of it is handed on. -/
theorem fetch_bound (tr : Option Bytes) :
    ContentPath.dataFetch Gen.DosnodeFlow.maxDocumentSize tr =
      match tr with
      | none => none
      | some body => if body.length ≤ 16 * 2 ^ 20 then some body else none := by
  have hm : Gen.DosnodeFlow.maxDocumentSize = 16 * 2 ^ 20 := by decide
  cases tr with
  | none => rfl
  | some body =>
    simp only [ContentPath.dataFetch, hm]
    by_cases hb : body.length ≤ 16 * 2 ^ 20
    · rw [if_pos hb, if_neg (Nat.not_lt.2 hb)]
    · rw [if_neg hb, if_pos (Nat.lt_of_not_le hb)]

example : ContentPath.dataFetch 4 (some [1, 2, 3, 4]) = some [1, 2, 3, 4] ∧ ContentPath.dataFetch 4 (some [1, 2, 3, 4, 5]) = none := by decide

/-- what is handed on IS the body served, and it respects the bound – for every bound and transfer -/
theorem fetch_hands_on_the_body (m : Nat) (tr : Option Bytes) (d : Bytes)
    (h : ContentPath.dataFetch m tr = some d) : tr = some d ∧ d.length ≤ m :=
  ContentPath.dataFetch_some h

example : ContentPath.dataFetch 10 (some [5, 6]) = some [5, 6] := by decide

/-- the `fetch` lines of the correspondence run print lengths: they are the lengths of this function -/
theorem fetch_length_line (m : Nat) (body : Bytes) :
    (ContentPath.dataFetch m (some body)).map List.length = ContentPath.fetchLen m body.length :=
  ContentPath.dataFetch_len m body

example : ContentPath.fetchLen 16777216 16777216 = some 16777216 ∧ ContentPath.fetchLen 16777216 16777217 = none := by decide

/-- nothing is signed for an over-long document or a failed transfer; otherwise the stage is the
one-shot evaluation of section 6 on the body served -/
theorem stage_signs_within_bound_only (E : Eval.Engines) (tr : Option Bytes) (sel addr : Bytes) :
    ContentPath.stageQuery E Gen.DosnodeFlow.maxDocumentSize tr sel addr =
      match tr with
      | none => none
      | some body => if body.length ≤ 16 * 2 ^ 20 then Eval.queryResult E ⟨body, sel, addr⟩ else none := by
  unfold ContentPath.stageQuery
  rw [fetch_bound]
  cases tr with
  | none => rfl
  | some body =>
    simp only []
    by_cases hb : body.length ≤ 16 * 2 ^ 20
    · rw [if_pos hb, if_pos hb]
    · rw [if_neg hb, if_neg hb]

example : ContentPath.stageQuery ⟨fun _ _ => .err, fun _ _ => .err⟩ 2 (some [1, 2]) [] [9] = some [1, 2, 9]
    ∧ ContentPath.stageQuery ⟨fun _ _ => .err, fun _ _ => .err⟩ 2 (some [1, 2, 3]) [] [9] = none := by decide

/-! ### 8. the submitter: all magnitudes, all group sizes, the list as announced -/

/-- **8a. every magnitude, every group size.**  For any last randomness `r` (below 2^63, between
2^63 and 2^64 where a signed conversion would go negative, above 2^64, above 2^256) and any list of
`n ≥ 1` members – also more than 255 or 65535 – the member chosen is entry
`(r mod 2^64) mod n` of the list AS GIVEN; the conversion `uint64(len(ids))` changes nothing for
any length a Go slice can have. -/
theorem submitter_all_magnitudes (ids : List Bytes) (r : Nat) (hn : 0 < ids.length) :
    ∃ h : r % 2 ^ 64 % ids.length < ids.length,
      submitter ids r = some ids[r % 2 ^ 64 % ids.length]
      ∧ Gen.submitterExpr r ids.length = r % 2 ^ 64 % ids.length
      ∧ (ids.length < 2 ^ 63 → r % 2 ^ 64 % (ids.length % 2 ^ 64) = r % 2 ^ 64 % ids.length) := by
  have hlt := Nat.mod_lt (r % 2 ^ 64) hn
  refine ⟨hlt, (submitter_eq (Nat.ne_of_gt hn) r).trans (List.getElem?_eq_getElem hlt), rfl, fun h => ?_⟩
  rw [Nat.mod_eq_of_lt (show ids.length < 2 ^ 64 by omega)]

example : submitter ((List.range 300).map (fun i => [UInt8.ofNat (i / 256), UInt8.ofNat i])) (2 ^ 256 + 2 ^ 63 + 291)
    = some [1, 43] := by decide +kernel
example : submitterIdx (2 ^ 63) 7 = some 1 ∧ submitterIdx (2 ^ 64 - 1) 300 = some 15 := by decide

/-- **8b. the order matters and is the announced one**: the index is computed from `(r, n)` only,
so two lists that differ (a sorted copy, a de-duplicated copy, another permutation) give different
submitters as soon as they differ at that index; conversely a node that keeps the announced list
gets entry `(r mod 2^64) mod n` of the announcement. -/
theorem submitter_depends_on_order (ids ids' : List Bytes) (r : Nat) (hlen : ids.length = ids'.length)
    (hn : 0 < ids.length) (hdiff : ids[r % 2 ^ 64 % ids.length]? ≠ ids'[r % 2 ^ 64 % ids.length]?) :
    submitter ids r ≠ submitter ids' r := by
  rw [submitter_eq (Nat.ne_of_gt hn), submitter_eq (hlen ▸ Nat.ne_of_gt hn), ← hlen]
  exact hdiff

example : submitter [[2], [1], [3]] 0 = some [2] ∧ submitter [[1], [2], [3]] 0 = some [1] := by decide

/-- **8c. the group table keeps the list as announced.**  After ANY sequence of LogGrouping /
dissolve events, whatever list a node holds for group `gid` is the `NodeId` list of a LogGrouping
event for `gid` that names the node – element for element, in the announced order, nothing
removed, nothing re-sorted. -/
theorem member_list_as_announced (me : Bytes) (ops : List Eval.Op) (gid : Nat) (l : List Bytes)
    (h : Eval.Book.ids (Eval.Book.run me ops) gid = some l) :
    Eval.Op.grouping gid l ∈ ops ∧ me ∈ l := by
  rcases Eval.run_ids_announced me ops [] gid l h with h0 | h1
  · simp [Eval.Book.ids] at h0
  · exact h1

example : Eval.Book.ids (Eval.Book.run [7] [.grouping 1 [[9], [7], [9]], .grouping 1 [[7], [9]], .dissolve 2]) 1
    = some [[9], [7], [9]] := by decide

/-- **8d. every member computes the identical submitter.**  If the chain announced group `gid`
once in the history two nodes saw (each possibly with other events before, between and after, in
its own order), then whatever the two nodes hold for `gid` is that one list, and for every last
randomness they choose the same submitter: entry `(r mod 2^64) mod n` of the announced list. -/
theorem members_agree_on_submitter (me1 me2 : Bytes) (ops1 ops2 : List Eval.Op) (gid r : Nat)
    (announced l1 l2 : List Bytes)
    (huniq1 : ∀ l, Eval.Op.grouping gid l ∈ ops1 → l = announced)
    (huniq2 : ∀ l, Eval.Op.grouping gid l ∈ ops2 → l = announced)
    (h1 : Eval.Book.ids (Eval.Book.run me1 ops1) gid = some l1)
    (h2 : Eval.Book.ids (Eval.Book.run me2 ops2) gid = some l2) :
    l1 = announced ∧ l2 = announced
    ∧ Eval.Book.submitterOf (Eval.Book.run me1 ops1) gid r = Eval.Book.submitterOf (Eval.Book.run me2 ops2) gid r
    ∧ Eval.Book.submitterOf (Eval.Book.run me1 ops1) gid r = submitter announced r := by
  have e1 := huniq1 l1 (member_list_as_announced me1 ops1 gid l1 h1).1
  have e2 := huniq2 l2 (member_list_as_announced me2 ops2 gid l2 h2).1
  subst e1
  refine ⟨rfl, e2, ?_, ?_⟩
  · simp [Eval.Book.submitterOf, h1, h2, e2]
  · simp [Eval.Book.submitterOf, h1]

example : Eval.Book.submitterOf (Eval.Book.run [7] [.grouping 5 [[9], [7], [8]]]) 5 (2 ^ 64 + 2)
    = some [8] ∧ Eval.Book.submitterOf (Eval.Book.run [8] [.dissolve 5, .grouping 5 [[9], [7], [8]], .grouping 6 [[8]]]) 5 (2 ^ 64 + 2) = some [8] := by decide +kernel

/-! ### 8e–8h. the NODE around the table: a dissolve is acted on only with a share

8c / 8d are about `pdkg`'s table (`Book`, where a dissolve always deletes).  The node calls
`GroupDissolve` only when it holds a share for the group (`NodeSt`), so an entry whose key
generation never completed SURVIVES a dissolve, and the re-announced id is then refused ("dkg:
duplicate share public key").  What C07 needs still holds, under the assumption the code really
needs: every announcement of the group id that reaches the node carries the same list (on chain a
group id is a fresh hash; "announced once between dissolves" is NOT enough – witness 8g). -/

/-- **8e. the list as announced, at the node**: after ANY sequence of LogGrouping events, key
generations completing and LogGroupDissolve events (acted on or not), whatever list the node holds
for `gid` is the `NodeId` list of a LogGrouping event for `gid` naming the node, element for element. -/
theorem node_member_list_as_announced (me : Bytes) (ops : List Eval.NodeOp) (gid : Nat) (l : List Bytes)
    (h : Eval.Book.ids (Eval.NodeSt.run me ops).book gid = some l) :
    Eval.NodeOp.grouping gid l ∈ ops ∧ me ∈ l := by
  rcases Eval.nodeRun_ids_announced me ops Eval.NodeSt.init gid l h with h0 | h1
  · simp [Eval.NodeSt.init, Eval.Book.ids] at h0
  · exact h1

example : Eval.Book.ids (Eval.NodeSt.run [7] [.grouping 1 [[9], [7]], .certified 1, .dissolve 1, .grouping 1 [[7], [9]]]).book 1
    = some [[7], [9]] := by decide

/-- **8f. every member that handles a request computes the identical submitter.**  A node handles a
request event of `gid` only when it holds a share (`isMember`); if every announcement of `gid` that
reached either node carries the list `announced`, then two nodes that both handle the request choose
the same submitter: entry `(r mod 2^64) mod n` of the announced list – whatever dissolve events were
or were not acted on in between, in whatever order the nodes saw their events. -/
theorem node_members_agree_on_submitter (me1 me2 : Bytes) (ops1 ops2 : List Eval.NodeOp) (gid r : Nat)
    (announced : List Bytes) (s1 s2 : Bytes)
    (huniq1 : ∀ l, Eval.NodeOp.grouping gid l ∈ ops1 → l = announced)
    (huniq2 : ∀ l, Eval.NodeOp.grouping gid l ∈ ops2 → l = announced)
    (h1 : Eval.NodeSt.submitterOf (Eval.NodeSt.run me1 ops1) gid r = some s1)
    (h2 : Eval.NodeSt.submitterOf (Eval.NodeSt.run me2 ops2) gid r = some s2) :
    s1 = s2 ∧ submitter announced r = some s1
    ∧ Eval.NodeOp.certified gid ∈ ops1 ∧ Eval.NodeOp.certified gid ∈ ops2 := by
  obtain ⟨l1, g1, _, a1, c1⟩ := Eval.nodeRun_submitterOf h1
  obtain ⟨l2, g2, _, a2, c2⟩ := Eval.nodeRun_submitterOf h2
  rw [huniq1 l1 g1] at a1
  rw [huniq2 l2 g2] at a2
  exact ⟨Option.some.inj (a1.symm.trans a2), a1, c1, c2⟩

example : Eval.NodeSt.submitterOf (Eval.NodeSt.run [7] [.grouping 5 [[9], [7], [8]], .certified 5]) 5 (2 ^ 64 + 2) = some [8]
    ∧ Eval.NodeSt.submitterOf (Eval.NodeSt.run [8] [.dissolve 5, .grouping 5 [[9], [7], [8]], .grouping 6 [[8]], .certified 5]) 5 (2 ^ 64 + 2) = some [8] := by decide +kernel

/-- **8g. the stale entry** (witness; real handleGrouping + pdkg + onchainLoop: `grpd noshare` cases):
announced, key generation not completed, dissolve, re-announced in another order – the node still
holds the FIRST list, where `pdkg`'s own table (dissolve always deletes) would hold the second; but
it holds no share, so it handles no request of the group: nothing is signed with the stale list. -/
theorem stale_entry_witness :
    Eval.Book.ids (Eval.NodeSt.run [7] [.grouping 1 [[7], [8]], .dissolve 1, .grouping 1 [[8], [7]]]).book 1 = some [[7], [8]]
    ∧ Eval.Book.ids (Eval.Book.run [7] [.grouping 1 [[7], [8]], .dissolve 1, .grouping 1 [[8], [7]]]) 1 = some [[8], [7]]
    ∧ ∀ r, Eval.NodeSt.submitterOf (Eval.NodeSt.run [7] [.grouping 1 [[7], [8]], .dissolve 1, .grouping 1 [[8], [7]]]) 1 r = none := by
  refine ⟨by decide, by decide, ?_⟩
  intro r
  have : (Eval.NodeSt.run [7] [.grouping 1 [[7], [8]], .dissolve 1, .grouping 1 [[8], [7]]]).shares = [] := by decide
  simp [Eval.NodeSt.submitterOf, this]

example : (Eval.NodeSt.run [7] [.grouping 1 [[7], [8]], .dissolve 1]).book = [(1, [[7], [8]])] := by decide

/-- **8h. an entry without a share is permanent** (the liveness issue behind 8g, for every history):
while the key generation of `gid` is not certified, no announcement and no dissolve event changes the
list the node holds for `gid`, and the node never handles a request of `gid`. -/
theorem entry_without_share_is_permanent (me : Bytes) (before after : List Eval.NodeOp) (gid : Nat) (l0 : List Bytes)
    (h0 : Eval.Book.ids (Eval.NodeSt.run me before).book gid = some l0)
    (hs : gid ∉ (Eval.NodeSt.run me before).shares) (hc : Eval.NodeOp.certified gid ∉ after) :
    Eval.Book.ids (Eval.NodeSt.run me (before ++ after)).book gid = some l0
    ∧ ∀ r, Eval.NodeSt.submitterOf (Eval.NodeSt.run me (before ++ after)) gid r = none := by
  have := Eval.entry_without_share_stays me after (Eval.NodeSt.run me before) gid l0 h0 hs hc
  unfold Eval.NodeSt.run at this ⊢
  rw [List.foldl_append]
  exact ⟨this.1, fun r => by simp [Eval.NodeSt.submitterOf, this.2]⟩

example : Eval.Book.ids (Eval.NodeSt.run [7] ([.grouping 1 [[7], [8]]] ++ [.dissolve 1, .grouping 1 [[8], [7]], .certified 2])).book 1
    = some [[7], [8]] := by decide

/-! ### non-vacuity -/
example : sysContent 32 0 [0xAA] = List.replicate 32 0 ++ [0xAA] := by decide
example : sysContent 32 258 [7] = List.replicate 30 0 ++ [1, 2, 7] := by decide
example : (sysContent 32 (2 ^ 256 + 5) []).length = 32 ∧ beNat (sysContent 32 (2 ^ 256 + 5) []) = 5 := by decide
example : padOrTrim [1, 2, 3] 2 = [2, 3] := by decide
example : stripResult 20 (List.replicate 25 1) = .ok (List.replicate 5 1) := by decide
example : stripResult 20 [1, 2] = .tooShort := by decide
example : submitterIdx (2 ^ 64 + 5) 3 = some 2 ∧ submitterIdx 5 3 = some 2 := by decide
example : userContent 0 256 1 [9] = [1, 0, 1, 9] := by decide

end Dos.Props.C07
