/-
C14 — THE RECEIVER NEVER GOES AWAY (pipeline side of /repo 3a1c0bc), and the drain loop of
`recoverSign` as part of the termination theorems.

`queryLoop` sends every share of a registered request to the request's reply channel
(`req.reply <- content`, guarded by the request context only).  Before 3a1c0bc `recoverSign`, the one
receiver of that channel, returned after its single report while the query context stayed live (until
`handleQuery` returns, i.e. after the chain transaction): `queryLoop` then waited in that send and took
no share of any other request.  The repaired stage ends with `defer drainSigns(ctx, signc)` — deferred
first, so it runs after `close(out)` and `close(errc)` — which keeps receiving until `signc` is closed
or the context is done.  The extractor inlines the deferred call on every exit edge of the stage
(`Gen.Pipes.query_*`, goroutine `dosnode.recoverSign`, the nodes at `dos_stages.go … select` of
`drainSigns`).

Here:
1. general theorems for EVERY pipeline IR (`Model/PipeStay.lean` rules, `Proofs/PipeStay.lean`):
   * `receiver_never_gone` (safety): a goroutine passing `staysUntil gr c k` has not returned in any
     reachable state in which `c` is open and context `k` live — under any schedule;
   * `late_item_is_taken` (progress under weak fairness of the SENDER only): while the goroutine is in
     its drain phase on the unbuffered `c`, a sender standing at a send on `c` moves, or `c` is closed,
     or the context ends;
   * `stage_returns_in_every_fair_run`: the drain loop does terminate — in every fair run in which
     the pipeline context is eventually done (the fairness / deadline hypothesis of
     `all_fair_runs_terminate`; the callers set a deadline: `callers_set_a_deadline`) every static
     stage has returned for ever from some position on.
2. the regenerated query pipelines: `recoverSign` passes the rules for `dosnode.dispatchSign.out`
   (= `signc` = the `reply` channel `queryLoop` sends on) and context 0, by kernel evaluation; the three
   statements instantiated (`query_receiver_never_gone`, `query_late_share_is_taken`,
   `query_recoverSign_returns_when_the_context_ends`).

The collector side (the request is registered, `queryLoop` stands at the send) is C13's; this file is
the pipeline side: the stage is there to receive.
-/
import DosModel.Props.C14Fair
import DosModel.Proofs.PipeStay
import DosModel.Proofs.PipeWitness

namespace Dos.Props.C14
open Dos Dos.Pipe Dos.Gen.Pipes

/-! ## 1. general -/

/-- **receiver_never_gone.**  A goroutine `g` whose CFG passes `staysUntil gr c k` (no exit node is
reachable from its entry except through the closed branch of a receive on `c` or the
`<-ctx_k.Done()` alternative) has not returned in any reachable state in which `c` is still open and
context `k` not done: any schedule, any cancellation instants, whatever the other goroutines do. -/
theorem receiver_never_gone (p : Pipeline) (g : Gi) (gr : Goroutine) (c : Ch) (k : Nat)
    (hg : p.gs[g]? = some gr) (h : staysUntil gr c k = true) (s : State) (hr : Reach p s)
    (hd : s.gs[g]? = some .done) : s.closed c = true ∨ s.ctxDone k = true :=
  not_gone hg h hr hd

/-- non-vacuity: the rule holds for the caller loop of the regenerated fan-in helper (it reads the merged
channel until it is closed or the context is done) and FAILS for the frozen pre-repair `recoverSign`
(`Old.query_sys`, the tree before e49e40d / 3a1c0bc: the stage returned after its report) -/
example : (match helper_dosnode_mergeErrors.gs[2]? with
      | some gr => gr.name == "env.caller" && staysUntil gr 2 0
      | none => false) = true ∧
    (Old.query_sys.gs.any fun gr => gr.name == "dosnode.recoverSign" &&
      (List.range Old.query_sys.chans.length).all fun c => !gr.hasRecv c || !staysUntil gr c 0) = true := by
  decide +kernel

/-- **late_item_is_taken.**  No crash reachable.  Goroutine `g` passes `drainOkM gr c k m` (every node
of `m` offers a receive on `c` and is left only by receiving — staying in `m` —, by seeing `c`
closed, or by context `k`) and stands in `m` at position `T` of a run; `c` is unbuffered; another
goroutine `g'`, weakly fair, stands at a `select` with a send on `c`.  Then at some later position
`g'` moves — its item was taken, or it left through another alternative of its `select` — or `c` is
closed or context `k` done.  No fairness is asked of `g` or of anybody else. -/
theorem late_item_is_taken (p : Pipeline) (hsafe : NoCrash p) (g : Gi) (gr : Goroutine) (c : Ch) (k : Nat)
    (m : List Bool) (hg : p.gs[g]? = some gr) (hok : drainOkM gr c k m = true)
    (hlen : m.length ≤ gr.nodes.length) (hcap : p.cap c = 0) (r : Run p) (g' : Gi) (hne : g ≠ g')
    (hw : WeakFairG r g') (T : Nat) (pc pc' n : Pc) (nd' : Node)
    (hat : (r.st T).gs[g]? = some (.at pc)) (hm : mark m pc = true)
    (hat' : (r.st T).gs[g']? = some (.at pc')) (hnd' : p.node g' pc' = some nd')
    (hed' : (Lab.send c, n) ∈ nd'.edges) :
    ∃ i, T ≤ i ∧ (r.movesAt g' i ∨ (r.st i).closed c = true ∨ (r.st i).ctxDone k = true) :=
  drain_takes hsafe hg hok hlen hcap r hne hw hat hm hat' hnd' hed'

/-- non-vacuity: `Demo.drain` (a sender of one item, a drain loop on the unbuffered channel 0) and its
run `Demo.drainRun`: at position 0 the drainer (1) stands in its one-node drain phase and the sender (0) at
its send; the sender moves (at position 0: the rendezvous) -/
example : (∃ i, 0 ≤ i ∧ (Demo.drainRun.movesAt 0 i ∨ (Demo.drainRun.st i).closed 0 = true ∨
      (Demo.drainRun.st i).ctxDone 0 = true)) ∧
    drainD Demo.drain.gs[1] 0 0 = [true, false] ∧ staysUntil Demo.drain.gs[1] 0 0 = true ∧
    drainsUntil Demo.drain.gs[1] 0 0 = true := by
  have hg : Demo.drain.gs[1]? = some Demo.drain.gs[1] := rfl
  refine ⟨?_, by decide +kernel, by decide +kernel, by decide +kernel⟩
  exact late_item_is_taken Demo.drain (safe_pipeline_never_crashes _ Demo.drain_wf.1 Demo.drain_wf.2.1) 1 _ 0 0
    [true, false] hg (by decide +kernel) (by decide +kernel) (by decide +kernel) Demo.drainRun 0 (by decide)
    (Demo.drainRun_fair.weak 0) 0 0 0 1 (.sel [.send 0 1, .ctx 0 1]) (by decide +kernel) rfl (by decide +kernel) rfl
    (by simp [Node.edges, Alt.edges])

/-- **stage_returns_in_every_fair_run.**  The drain loop terminates, and it terminates BECAUSE the
context ends: for every pipeline IR passing W0, SafeOk and LiveOk, in every fair run in which the
pipeline context (context 0) is eventually done — the deadline the callers set, or `cancel()` — every
static pipeline goroutine `g` has returned, for ever, from some position on.  (By
`receiver_never_gone` a goroutine passing `staysUntil gr c 0` has NOT returned before that unless `c`
was closed: its drain loop ends exactly when the context ends or its input is closed.) -/
theorem stage_returns_in_every_fair_run (p : Pipeline) (h0 : W0 p = true) (hs : SafeOk p = true)
    (hl : LiveOk p = true) (r : Run p) (hf : Fair r) (hc : ∃ i, (r.st i).ctxDone 0 = true)
    (g : Gi) (gr : Goroutine) (hg : p.gs[g]? = some gr) (hst : gr.static = true) (hdm : gr.daemon = false) :
    ∃ T, ∀ i, T ≤ i → (r.st i).gs[g]? = some GSt.done := by
  obtain ⟨T, hT⟩ := all_fair_runs_terminate p h0 hs hl r hf hc
  refine ⟨T, fun i hi => ?_⟩
  have h00 : (r.st 0).gs[g]? = some (.at 0) := by
    rw [r.start, init_gs, hg]; simp [hst]
  rcases r.at_stable h00 i (Nat.zero_le _) with ⟨pc, hat⟩ | hd
  · exact absurd ⟨gr, pc, hg, hdm, hat⟩ ((hT i hi).1 g)
  · exact hd

example : ∃ T, ∀ i, T ≤ i → (Demo.fairRun.st i).gs[2]? = some GSt.done :=
  stage_returns_in_every_fair_run Demo.fanin Demo.fanin_wf.1 Demo.fanin_wf.2.1 Demo.fanin_wf.2.2 Demo.fairRun
    Demo.fairRun_fair ⟨4, Demo.fairRun_cancelled⟩ 2 _ rfl (by decide +kernel) (by decide +kernel)

/-! ## 2. the regenerated query pipelines -/

/-- what the rule `keepsReceiving p gname cname k` (by names, `Model/PipeStay.lean`) gives -/
theorem keeps_receiving_sound (p : Pipeline) (gname cname : String) (k : Nat)
    (h : keepsReceiving p gname cname k = true) :
    ∃ (g : Gi) (gr : Goroutine) (c : Ch), p.gs[g]? = some gr ∧ gr.hasRecv c = true ∧
      staysUntil gr c k = true ∧ drainsUntil gr c k = true ∧
      (∀ s, Reach p s → s.gs[g]? = some GSt.done → s.closed c = true ∨ s.ctxDone k = true) := by
  obtain ⟨g, gr, c, hg, _, _, hrecv, hstay, hdrain⟩ := keepsReceiving_parts h
  exact ⟨g, gr, c, hg, hrecv, hstay, hdrain, fun s hr hd => receiver_never_gone p g gr c k hg hstay s hr hd⟩

example : keepsReceiving helper_dosnode_mergeErrors "env.caller" "dosnode.mergeErrors.out" 0 = true := by
  decide +kernel

/-- **query_recoverSign_keeps_receiving** (checked rule on the REGENERATED IR).  In each of the three
query pipelines the goroutine `dosnode.recoverSign` (exactly one) receives on
`dosnode.dispatchSign.out` — the channel `dispatchSign` registers with `queryLoop` as the request's
`reply` — and: it returns only after that channel was seen closed or the query context done
(`staysUntil`); every node from which it returns lies in a drain phase in which it offers the receive
and which it leaves only by the closed branch or the context (`drainsUntil`: `drainSigns`, deferred
first, inlined after `close(out)` / `close(errc)` on every exit edge).  Reverting 3a1c0bc, returning
early on a new path, or receiving in the drain loop from another channel breaks this theorem. -/
theorem query_recoverSign_keeps_receiving :
    [query_sys, query_user, query_url].all
      (fun p => keepsReceiving p "dosnode.recoverSign" "dosnode.dispatchSign.out" 0) = true := by
  decide +kernel

/-- non-vacuity: the channel is unbuffered, `queryLoop` (a daemon) has sends on it at four or more
nodes, and the drain phase of `recoverSign` has a node on each of its three exit paths (report done,
input closed, context done) -/
example : [query_sys, query_user, query_url].all (fun p =>
    match p.gsWhere (fun gr => gr.name == "dosnode.recoverSign"),
          (p.chans.zipIdx.filterMap fun x => if x.1.name == "dosnode.dispatchSign.out" then some x.2 else none) with
    | [g], [c] => p.cap c == 0 &&
        p.gs.any (fun gr => gr.name == "dosnode.queryLoop" && gr.daemon &&
          decide (4 ≤ (gr.nodes.filter (Node.sendsOn c)).length)) &&
        (match p.gs[g]? with
         | some gr => decide (3 ≤ ((drainD gr c 0).filter id).length) &&
             gr.hasClose (c + 1) && gr.hasClose (c + 2)
         | none => false)
    | _, _ => false) = true := by decide +kernel

/-- **query_receiver_never_gone.**  In every reachable state of each query pipeline — any schedule, any
instant of the deadline — if `recoverSign` has returned then the reply channel is closed or the query
context is done.  So while a request is registered with `queryLoop` and its context is live (the only
states in which `queryLoop` sends a share to `req.reply`: the send is guarded by `req.ctx.Done()`), and
the channel is open, the stage that receives the shares exists.  (The stage is the one goroutine of the
pipeline named `dosnode.recoverSign`, the channel the one named `dosnode.dispatchSign.out`.) -/
theorem query_receiver_never_gone :
    ∀ p ∈ [query_sys, query_user, query_url],
      ∃ (g : Gi) (gr : Goroutine) (c : Ch), p.gs[g]? = some gr ∧ gr.name = "dosnode.recoverSign" ∧ p.cname c = "dosnode.dispatchSign.out" ∧
        ∀ s, Reach p s → s.gs[g]? = some GSt.done → s.closed c = true ∨ s.ctxDone 0 = true := by
  intro p hp
  obtain ⟨g, gr, c, hg, hgn, hcn, _, hstay, _⟩ :=
    keepsReceiving_parts (List.all_eq_true.mp query_recoverSign_keeps_receiving p hp)
  exact ⟨g, gr, c, hg, hgn, hcn, fun s hr hd => receiver_never_gone p g gr c 0 hg hstay s hr hd⟩

example : (query_sys.gsWhere (fun gr => gr.name == "dosnode.recoverSign")).length = 1 := by decide +kernel

/-- **query_late_share_is_taken.**  In every run of each query pipeline in which `queryLoop` is weakly
fair (nothing is asked of any other goroutine): if at position `T` `recoverSign` is in its drain loop
(a node of `drainD`: it has reported, or its input was closed, or the context ended, and `out` / `errc`
are closed) and some other goroutine `g'` — `queryLoop` — stands at a `select` with a send on the
reply channel, then `g'` moves at a later position (the late share was taken and dropped, or
`queryLoop` left through `<-req.ctx.Done()`), or the reply channel is closed, or the query context is
done.  Before 3a1c0bc the model has the run in which `queryLoop` waits there until the context ends. -/
theorem query_late_share_is_taken :
    ∀ p ∈ [query_sys, query_user, query_url],
      ∃ (g : Gi) (gr : Goroutine) (c : Ch), p.gs[g]? = some gr ∧ gr.name = "dosnode.recoverSign" ∧ p.cname c = "dosnode.dispatchSign.out" ∧
        ∀ (r : Run p) (g' : Gi), g ≠ g' → WeakFairG r g' → ∀ (T : Nat) (pc pc' n : Pc) (nd' : Node),
          (r.st T).gs[g]? = some (.at pc) → mark (drainD gr c 0) pc = true →
          (r.st T).gs[g']? = some (.at pc') → p.node g' pc' = some nd' → (Lab.send c, n) ∈ nd'.edges →
          ∃ i, T ≤ i ∧ (r.movesAt g' i ∨ (r.st i).closed c = true ∨ (r.st i).ctxDone 0 = true) := by
  intro p hp
  obtain ⟨g, gr, c, hg, hgn, hcn, _, _, hdrain⟩ :=
    keepsReceiving_parts (List.all_eq_true.mp query_recoverSign_keeps_receiving p hp)
  have hsafe := (pipeline_can_always_terminate_and_never_crashes p (query_rules p hp).1).1
  -- the reply channel is unbuffered
  have hcap : p.chans.all (fun ch => ch.name != "dosnode.dispatchSign.out" || ch.cap == 0) = true := by
    simp only [List.mem_cons, List.mem_nil_iff, or_false] at hp
    rcases hp with rfl | rfl | rfl <;> decide +kernel
  have hc0 : p.cap c = 0 := by
    unfold Pipeline.cname at hcn
    unfold Pipeline.cap
    cases hch : p.chans[c]? with
    | none => rfl
    | some ch =>
      rw [hch] at hcn
      have := List.all_eq_true.mp hcap ch (List.mem_of_getElem? hch)
      simpa [hcn] using this
  unfold drainsUntil at hdrain
  rw [Bool.and_eq_true] at hdrain
  refine ⟨g, gr, c, hg, hgn, hcn, ?_⟩
  intro r g' hne hw T pc pc' n nd' hat hm hat' hnd' hed'
  exact late_item_is_taken p hsafe g gr c 0 _ hg hdrain.1 (Nat.le_of_eq (drainD_length gr c 0)) hc0 r g' hne hw
    T pc pc' n nd' hat hm hat' hnd' hed'

/-- non-vacuity: the hypotheses meet on the regenerated IR — `queryLoop` is not `recoverSign`, it has
`select` nodes with a send edge on the reply channel, and `recoverSign` has drain nodes -/
example : [query_sys, query_user, query_url].all (fun p =>
    match p.gsWhere (fun gr => gr.name == "dosnode.recoverSign"), p.gsWhere (fun gr => gr.name == "dosnode.queryLoop"),
          (p.chans.zipIdx.filterMap fun x => if x.1.name == "dosnode.dispatchSign.out" then some x.2 else none) with
    | [g], [g'], [c] => g != g' && (match p.gs[g]?, p.gs[g']? with
        | some gr, some gq => (drainD gr c 0).any id && gq.nodes.any (fun nd => nd.edges.any (fun e => e.1 == Lab.send c))
        | _, _ => false)
    | _, _, _ => false) = true := by decide +kernel

/-- **query_recoverSign_returns_when_the_context_ends.**  The drain loop is part of the termination
theorems: in every fair run of each query pipeline in which the query context is eventually done (both
callers set a deadline: `callers_set_a_deadline`), `recoverSign` — drain loop included — has returned
for ever from some position on. -/
theorem query_recoverSign_returns_when_the_context_ends :
    ∀ p ∈ [query_sys, query_user, query_url], ∀ (r : Run p), Fair r → (∃ i, (r.st i).ctxDone 0 = true) →
      ∀ (g : Gi) (gr : Goroutine), p.gs[g]? = some gr → gr.name = "dosnode.recoverSign" →
        ∃ T, ∀ i, T ≤ i → (r.st i).gs[g]? = some GSt.done := by
  intro p hp r hf hc g gr hg hname
  obtain ⟨h0, hs, hl⟩ := wf_of_no_violation p (benign_of_subset (query_rules p hp).1 known_findings_are_benign)
  have hsd : p.gs.all (fun gr => gr.name != "dosnode.recoverSign" || (gr.static && !gr.daemon)) = true := by
    simp only [List.mem_cons, List.mem_nil_iff, or_false] at hp
    rcases hp with rfl | rfl | rfl <;> decide +kernel
  rw [List.all_eq_true] at hsd
  have := hsd gr (List.mem_of_getElem? hg)
  simp only [hname, bne_self_eq_false, Bool.false_or, Bool.and_eq_true, Bool.not_eq_true'] at this
  exact stage_returns_in_every_fair_run p h0 hs hl r hf hc g gr hg this.1 this.2

example : query_sys.gs.any (fun gr => gr.name == "dosnode.recoverSign" && gr.static && !gr.daemon) = true := by
  decide +kernel

end Dos.Props.C14
