/-
C14 — THE GOROUTINE INVENTORY IS COMPLETE.

The pipeline theorems (`Props/C14*.lean`) talk about the goroutines the translator found by
interpreting the constructors (`handleQuery`, `handleGrouping` → `pdkg.Grouping`, `client.run`, the
fan-in helpers).  A goroutine started somewhere the translator does not look would be outside every
theorem without anybody noticing.  `Gen/PipeSpawns.lean` (regenerated on every run by
go/extract/pipeir/spawns.go) lists every `go` statement of the product code of the WHOLE repository
(all packages; test files and the hook files behind a build constraint excluded) and marks the ones
that became goroutines of an emitted pipeline; `Model/PipeSpawnKnown.lean` is the hand-maintained list
of the statements that are deliberately not part of a pipeline IR, grouped by reason.
-/
import DosModel.Model.PipeSpawnKnown
import DosModel.Model.PipeWf
import DosModel.Gen.PipeSpawns
import DosModel.Gen.PipeIR

namespace Dos.Props.C14
open Dos Dos.Pipe Dos.Gen.Pipes

/-- **spawn_inventory_complete.**  Every `go` statement of the repository is translated into a
goroutine of an emitted pipeline IR, or is one of the classified statements of
`Model/PipeSpawnKnown.lean`.  A new `go` statement (anywhere: a new stage, a helper goroutine inside a
stage, a new background loop), or a statement the translator no longer reaches, is in neither list and
breaks this theorem. -/
theorem spawn_inventory_complete :
    Gen.PipeSpawns.all.all (fun k => Gen.PipeSpawns.translated.contains k || unmodelledSpawns.contains k) = true := by
  decide +kernel

/-- non-vacuity: more than a hundred statements, more than forty of them translated; `recoverSign`'s
goroutine is a translated one; a made-up statement is covered by neither list -/
example : 100 ≤ Gen.PipeSpawns.all.length ∧ 40 ≤ Gen.PipeSpawns.translated.length ∧
    Gen.PipeSpawns.translated.contains ("dosnode", "recoverSign", 0, "func") = true ∧
    (Gen.PipeSpawns.translated.contains ("dosnode", "recoverSign", 1, "func") ||
      unmodelledSpawns.contains ("dosnode", "recoverSign", 1, "func")) = false := by decide +kernel

/-- **anchored_packages_are_fully_translated.**  In the packages the property is anchored in, nothing is
classified away: every `go` statement of `share/dkg/pedersen` and `utils`, and every one of `dosnode`
outside the node's start-up / event loop (`Start`, `startRESTServer`, `onchainLoop`), is a goroutine of
an emitted pipeline IR. -/
theorem anchored_packages_are_fully_translated :
    Gen.PipeSpawns.all.all (fun k =>
      !(k.1 == "share/dkg/pedersen" || k.1 == "utils" ||
        (k.1 == "dosnode" && !["DosNode.Start", "DosNode.startRESTServer", "DosNode.onchainLoop"].contains k.2.1)) ||
      Gen.PipeSpawns.translated.contains k) = true := by
  decide +kernel

example : 10 ≤ (Gen.PipeSpawns.all.filter (fun k => k.1 == "share/dkg/pedersen")).length ∧
    10 ≤ (Gen.PipeSpawns.all.filter (fun k => k.1 == "dosnode" && k.2.1 != "DosNode.Start")).length := by
  decide +kernel

/-! ## loops without channel operations

The translator emits nothing for a loop whose body has no channel operation (an internal choice followed
by internal choices is one internal choice): a retry loop `for { if err := p.Request(ctx, …); err != nil
{ sleep; continue }; break }` added to a stage leaves the IR unchanged while the goroutine may never
return once the context is done.  That such loops end is the `data` clause of
`Fair` — an assumption about the code, pinned here loop by loop. -/

/-- **opaque_loops_are_pinned.**  Every `for` statement of the packages the pipelines live in (dosnode,
share/dkg/pedersen, utils, p2p, onchain) that is not a `range` and whose body contains no channel
operation (no `select`, send or receive: class `opaque`) is one of the loops of
`Model/PipeSpawnKnown.lean: opaqueLoops`, each listed with the reason it ends; and NONE of them is in a
pipeline stage except the counting loop of `choseSubmitter`.  A new retry / polling loop, or a loop whose
`select` on the context is removed (its class changes from `ctx-select` to `opaque`), breaks this theorem. -/
theorem opaque_loops_are_pinned :
    Gen.PipeSpawns.loops.all (fun l =>
      l.2.2.2.1 == "range" || l.2.2.2.2.2 != "opaque" || opaqueLoops.contains l) = true := by
  decide +kernel

/-- non-vacuity: the inventory sees the loops of the stages (the retry loops of `sendToMembers` and
`genDealsAndSend` are `forever` loops with a `select` on the session context), more than a hundred loops in
all; a retry loop without a select in `dispatchSign` would not be covered -/
example : 100 ≤ Gen.PipeSpawns.loops.length ∧
    (Gen.PipeSpawns.loops.filter (fun l => l.2.1 == "sendToMembers" && l.2.2.2.1 == "forever" &&
      l.2.2.2.2.2 == "ctx-select")).length = 1 ∧
    (Gen.PipeSpawns.loops.filter (fun l => l.2.1 == "genDealsAndSend" && l.2.2.2.1 == "forever" &&
      l.2.2.2.2.2 == "ctx-select")).length = 1 ∧
    opaqueLoops.contains ("dosnode", "dispatchSign", 1, "forever", "for", "opaque") = false := by decide +kernel

/-- **forever_loops_can_leave_on_a_context.**  Every `for {` loop of a function of dos_stages /
dos_query_handler / pdkg / pdkg_pipes / utils — i.e. of the packages dosnode, share/dkg/pedersen, utils
outside the three pinned node-level loops and the daemon `pdkg.Loop` — contains a `select` with a `<-ctx.Done()` case: W4 as DESIGN §6
words it ("every loop contains a guarded operation whose context alternative leaves the loop"), checked
on the source syntax; the IR-level W4 (`LiveOk`) then certifies that the alternative does lead to the exit. -/
theorem forever_loops_can_leave_on_a_context :
    Gen.PipeSpawns.loops.all (fun l =>
      !(l.1 == "dosnode" || l.1 == "share/dkg/pedersen" || l.1 == "utils") || l.2.2.2.1 != "forever" ||
      l.2.2.2.2.2 == "ctx-select" || opaqueLoops.contains l ||
      -- the collector loop of the key-generation package is a daemon without a context of its own
      (l.2.1 == "pdkg.Loop" && l.2.2.2.2.2 == "chan-op")) = true := by
  decide +kernel

example : 8 ≤ (Gen.PipeSpawns.loops.filter (fun l => (l.1 == "dosnode" || l.1 == "share/dkg/pedersen") &&
    l.2.2.2.1 == "forever" && l.2.2.2.2.2 == "ctx-select")).length := by decide +kernel

/-! ## external calls

The translator treats `p.Request` / `p.Reply`, the chain calls of the stages and the HTTP fetch as opaque
calls that return (`Fair.data`).  What makes them return is in the callee; the extractor reads it. -/

/-- **external_calls_are_bounded.**  Each external call of the stages has, in its callee, the mechanism that
bounds it: `dataFetch` builds its `http.Client` with a `Timeout`; `p2p` `Request` / `Reply` derive a
context with a timeout from the caller's; the chain calls `DataReturn`, `UpdateRandomness`,
`RegisterGroupPubKey` run under `context.WithTimeout(e.ctx, e.setTimeout)`.  Removing one of them
(`&http.Client{}`) makes the fact `none` and breaks this theorem.  The durations are not
compared with anything: a bounded call returns, which is all the `data` clause assumes. -/
theorem external_calls_are_bounded :
    Gen.PipeSpawns.externalCalls.length = 6 ∧
    Gen.PipeSpawns.externalCalls.all (fun e => e.2.2 != "none" && e.2.2 != "function not found") = true ∧
    Gen.PipeSpawns.externalCalls.any (fun e => e.2.1 == "dosnode.dataFetch" && e.2.2.startsWith "http.Client{Timeout: ") = true ∧
    (Gen.PipeSpawns.externalCalls.filter (fun e => e.2.2.startsWith "context.WithTimeout(")).length = 5 := by
  decide +kernel

example : Gen.PipeSpawns.externalCalls.any (fun e => e.2.1 == "p2p.Request") = true := by decide +kernel

/-! ## timers

`Fair.timer` (Model/PipeRun.lean) — "a timer alternative of a `select` that is executed infinitely often
is eventually taken" — is justified for a ticker and for a timer armed once before the loop, NOT for a
`time.After(d)` re-armed by every iteration (or a timer that is `Reset`) while a competing alternative is
ready faster than `d`.  The extractor records, for every timer alternative of the IR, the goroutine and
how its timer channel came about: constructor (`After`, `Tick`, `NewTicker`, `NewTimer`, `NewTimer+Reset`)
`@` position (`outside-loop` / `inside-loop` of the creating function), or `foreign-context` (the Done
channel of a context of another layer). -/

/-- **pipeline_goroutines_wait_on_no_timer.**  In the query and key-generation pipelines no pipeline
(non-daemon) goroutine has a timer alternative at all: their termination (`*_every_fair_run_terminates`)
does not use the `timer` clause of the fairness hypothesis.  The only timer alternatives are those of
the collector loops `queryLoop` / `pdkg.Loop` (used by `*_collector_closes_*`), and each of those comes
from a `time.NewTicker` created once, outside any loop — the case in which the clause is justified. -/
theorem pipeline_goroutines_wait_on_no_timer :
    [query_sys, query_user, query_url, grouping].all (fun p => p.gs.all fun gr =>
      gr.daemon || gr.nodes.all fun nd => match nd with
        | .sel alts => !alts.any Alt.isTick
        | _ => true) = true ∧
    [query_sys_timers, query_user_timers, query_url_timers, grouping_timers].all (fun l =>
      !l.isEmpty && l.all fun x => x.2 == "NewTicker@outside-loop" &&
        (x.1 == "dosnode.queryLoop" || x.1 == "dkg.Loop")) = true := by
  decide +kernel

/-- non-vacuity: the collector loops do have timer alternatives (the watchdog arms), and the facts tell a
ticker from a re-armed timer: the p2p client's idle timer is a `NewTimer` that is `Reset` -/
example : query_sys.gs.any (fun gr => gr.daemon && gr.nodes.any fun nd => match nd with
      | .sel alts => alts.any Alt.isTick
      | _ => false) = true ∧
    p2p_client_timers.any (fun x => x.2 == "NewTimer+Reset@outside-loop") = true := by decide +kernel

end Dos.Props.C14
