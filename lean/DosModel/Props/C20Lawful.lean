/-
C20 — COMPOSITION.  The Schnorr / EdDSA-interoperability theorems of Props/C20.lean and Props/C20Compose.lean
take `Lawful g` ("the point code implements a commutative group with ℓ•B = 0 and encodings that decode back") as a
HYPOTHESIS about the group record.  For the record of group/edwards25519 it is a THEOREM about the translated code
(`code_point_layer_lawful`), and the Schnorr theorems are restated for `codeGrp` — the group record made of point.Add (ptAdd), point.Mul (geScalarMult),
the constant baseext, point.MarshalBinary (extToBytes) and point.UnmarshalBinary (extFromBytes) — WITHOUT any
hypothesis on the group.  What is left as assumption is not code: SHA-512 (an arbitrary function `H` here) and, for the
alteration clause, the hash events named in `single_alteration_cases`.

Scope note (fix /repo ec5317f): `codeGrp.smul n` is the code (`geScalarMult` on the 32 little-endian bytes
of n) for n < 2^255 — the contract `a[31] <= 127` of the window recoding — and the mathematical n • P above.  kyber scalars
are NOT always reduced (`scalar.UnmarshalBinary` stores any 32 bytes — the fact F5 rests on), and `Sign` hands the raw
private scalar to `Mul(private, nil)`.  Without the guard of ec5317f that multiplication is wrong for a[31] ≥ 0x88 (F21:
the signature is rejected by both verifiers under the key the same `Mul` returns).  The repaired `point.Mul` reduces such a
scalar with the translated scReduce first (`Ge.mulScalar`), and `point_mul_any_scalar` / `code_key_any_scalar` prove that
for EVERY 32-byte scalar `Mul(s, nil)` is (leNat s)•B = `codeGrp.smul (leNat s) codeGrp.base`: so `sign_verifies_code`
(stated for every x : ℕ) is about the code for every 32-byte private scalar (`sign_verifies_code_bytes`).  The other
scalars the theorems feed `smul` are below ℓ < 2^253 (k: Pick, h: SetBytes, S: canonical).  `Mul(s, nil)` uses
geScalarMultBase, which equals geScalarMult on the base point (`mul_base_eq`, the whole table of const.go checked by the kernel).
-/
import DosModel.Props.C20Compose
import DosModel.Proofs.GeLawful
import DosModel.Proofs.GeScalarMultBase
import DosModel.Proofs.GeNatTableFull
import DosModel.Proofs.GeMulGuard

set_option exponentiation.threshold 600

namespace Dos.Props.C20Lawful
open Dos Dos.Ed25519 Dos.Schnorr Dos.Ge Dos.FeProg

/-- **the hypothesis `Lawful` of the Schnorr theorems, proved for the translated point code** -/
theorem code_point_layer_lawful : Lawful codeGrp := codeGrp_is_lawful

/-- the group operations of the record ARE the translated code on any good representations, not only the chosen ones -/
theorem code_ops_representation_independent {p q : Ext} {P Q : Pt} (hp : GoodExt p P) (hq : GoodExt q Q)
    (a : Bytes) (hlen : a.length = 32) (h31 : (a.getD 31 0).toNat ≤ 127) :
    absPt (ptAdd p q) = P + Q ∧ absPt (geScalarMult a p) = leNat a • P ∧ extToBytes p = encPt P
    ∧ (∃ e, extFromBytes (encPt P) = some e ∧ GoodExt e P) :=
  ⟨absPt_of_good (ptAdd_spec hp hq), absPt_of_good (geScalarMult_spec a hlen h31 hp), extToBytes_spec hp,
    extFromBytes_enc P⟩

/-- the base point has order EXACTLY ℓ (ℓ•B = 0 kernel-evaluated with verified arithmetic, ℓ prime, B ≠ 0) -/
theorem code_base_order : ∀ n : ℕ, n • codeGrp.base = 0 ↔ ell ∣ n := by
  intro n
  rw [codeGrp_base]
  exact smul_base_eq_zero_iff n

example : (2 * ell) • codeGrp.base = 0 := (code_base_order _).2 ⟨2, by ring⟩

/-- **completeness + interoperability**: a signature made by `Sign` with the translated code is accepted by the
repaired `Verify` and by the RFC 8032 verifier — no hypothesis on the group -/
theorem sign_verifies_code (H : Bytes → Bytes) (x k : ℕ) (msg : Bytes) :
    verify codeGrp H (codeGrp.smul x codeGrp.base) msg (sign codeGrp H x k msg) = .ok ()
    ∧ verifyStd codeGrp H (codeGrp.enc (codeGrp.smul x codeGrp.base)) msg (sign codeGrp H x k msg) = true :=
  Props.C20.sign_verifies codeGrp_is_lawful H x k msg

/-- **soundness**: `Verify` accepts exactly the 64-byte strings whose R part decodes to a curve point, whose S part is
canonical, and that satisfy S•B = R + h•A in the curve group -/
theorem verify_sound_code (H : Bytes → Bytes) (A : Pt) (msg sig : Bytes) :
    verify codeGrp H A msg sig = .ok () ↔
      sig.length = 64 ∧ ∃ R, codeGrp.dec (sig.take 32) = some R ∧ leNat (sig.drop 32) < ell ∧
        leNat (sig.drop 32) • codeGrp.base = R + challenge codeGrp H A R msg • A :=
  Props.C20.verify_sound codeGrp_is_lawful H A msg sig

/-- **non-malleability in S** and rejection of an altered S, wrong lengths — no order hypothesis -/
theorem verify_nonmalleable_S_code (H : Bytes → Bytes) (A : Pt) (msg sig sig' : Bytes)
    (h1 : verify codeGrp H A msg sig = .ok ()) (h2 : verify codeGrp H A msg sig' = .ok ())
    (hR : sig.take 32 = sig'.take 32) : sig = sig' :=
  Props.C20Compose.verify_nonmalleable_S_composed codeGrp_is_lawful codeGrp_base_ne_zero H A msg sig sig' h1 h2 hR

theorem altered_S_rejected_code (H : Bytes → Bytes) (A : Pt) (msg sig sig' : Bytes)
    (h1 : verify codeGrp H A msg sig = .ok ()) (hR : sig.take 32 = sig'.take 32) (hne : sig' ≠ sig) :
    verify codeGrp H A msg sig' ≠ .ok () :=
  Props.C20Compose.altered_S_rejected_composed codeGrp_is_lawful codeGrp_base_ne_zero H A msg sig sig' h1 hR hne

/-- finding F5 on the translated code: the pre-repair `Verify` accepted R‖S+ℓ, the repaired one answers `noncanonical` -/
theorem malleability_witness_and_repair_code (H : Bytes → Bytes) (x k : ℕ) (msg : Bytes) :
    let sig := sign codeGrp H x k msg
    let sig' := sig.take 32 ++ natLE 32 (leNat (sig.drop 32) + ell)
    sig' ≠ sig
    ∧ verifyPre codeGrp H (codeGrp.smul x codeGrp.base) msg sig' = .ok ()
    ∧ verify codeGrp H (codeGrp.smul x codeGrp.base) msg sig' = .error .noncanonical :=
  Props.C20.malleability_witness_and_repair codeGrp_is_lawful H x k msg

/-- an altered message accepted with the same signature under a key x•B, ℓ ∤ x, is a challenge collision modulo ℓ -/
theorem altered_message_needs_collision_code (H : Bytes → Bytes) (x : ℕ) (hx : ¬ ell ∣ x) (msg msg' sig : Bytes)
    (h1 : verify codeGrp H (codeGrp.smul x codeGrp.base) msg sig = .ok ())
    (h2 : verify codeGrp H (codeGrp.smul x codeGrp.base) msg' sig = .ok ()) :
    ∃ R, codeGrp.dec (sig.take 32) = some R ∧
      challenge codeGrp H (codeGrp.smul x codeGrp.base) R msg = challenge codeGrp H (codeGrp.smul x codeGrp.base) R msg' :=
  Props.C20Compose.altered_message_needs_collision_composed codeGrp_is_lawful codeGrp_base_ne_zero H x hx msg msg' sig h1 h2

/-- point encodings round-trip on the code: MarshalBinary then UnmarshalBinary gives back the point, and whatever
UnmarshalBinary accepts is a point of the curve with the encoded y (an error is returned only when no x exists) -/
theorem point_encoding_roundtrip (P : Pt) (s : Bytes) :
    codeGrp.dec (codeGrp.enc P) = some P ∧ (codeGrp.enc P).length = 32
    ∧ (s.length = 32 → extFromBytes s = none →
        ¬ ∃ x : Ed25519Prime.F, Edwards.OnCurve E25519.d x (((leNat s % 2 ^ 255 : ℕ) : ℕ) : Ed25519Prime.F)) :=
  ⟨codeGrp_is_lawful.dec_enc P, codeGrp_is_lawful.enc_len P, fun hl hn => extFromBytes_none hl hn⟩

/-- `P.Mul(s, nil)` (geScalarMultBase with the table of const.go) and `P.Mul(s, Base)` (geScalarMult on `baseext`)
represent the same point (leNat s)•B -/
theorem mul_base_eq (a : Bytes) (hlen : a.length = 32) (h31 : (a.getD 31 0).toNat ≤ 127) :
    absPt (geScalarMultBase a) = leNat a • basePt ∧ absPt (geScalarMult a baseExt) = leNat a • basePt :=
  ⟨absPt_of_good (geScalarMultBase_spec baseTable_ok a hlen h31),
    absPt_of_good (geScalarMult_spec a hlen h31 baseExt_good)⟩

/-- **`point.Mul` for EVERY 32-byte scalar** (repaired code, fix ec5317f): the scalar handed to the window recoding
(`mulScalar`: the caller's bytes when a[31] ≤ 127, else scReduce of them) has 32 bytes, top byte ≤ 127 and the same
value modulo ℓ; `Mul(s, nil)` represents (leNat s)•B, `Mul(s, A)` represents (leNat s)•A for every A with ℓ•A = 0 and
(leNat s mod ℓ)•A when a[31] > 127 in general -/
theorem point_mul_any_scalar (a : Bytes) (hlen : a.length = 32) :
    ((mulScalar a).length = 32 ∧ ((mulScalar a).getD 31 0).toNat ≤ 127 ∧ leNat (mulScalar a) % ell = leNat a % ell
      ∧ ((a.getD 31 0).toNat ≤ 127 → mulScalar a = a)
      ∧ (127 < (a.getD 31 0).toNat → leNat (mulScalar a) = leNat a % ell))
    ∧ GoodExt (ptMul a none) (leNat a • basePt)
    ∧ (∀ (q : Ext) (Q : Pt), GoodExt q Q → GoodExt (ptMul a (some q)) (leNat (mulScalar a) • Q))
    ∧ (∀ (q : Ext) (Q : Pt), GoodExt q Q → ell • Q = 0 → GoodExt (ptMul a (some q)) (leNat a • Q)) :=
  ⟨mulScalar_spec a hlen,
    ptMul_spec_any baseTable_ok ell_smul_base a hlen⟩

/-- the scalar 11…11 ff (a[31] = 0xff) is outside the contract and is reduced -/
example : 127 < ((natLE 32 (2 ^ 256 - 1)).getD 31 0).toNat := by decide
example : GoodExt (ptMul (natLE 32 (2 ^ 256 - 1)) none) ((2 ^ 256 - 1) • basePt) := by
  have h := (point_mul_any_scalar (natLE 32 (2 ^ 256 - 1)) (natLE_length _ _)).2.1
  rwa [leNat_natLE_of_lt 32 _ (by norm_num)] at h

/-- the public key `Sign` derives with the code, `Mul(private, nil)`, IS `codeGrp.smul x codeGrp.base` for every
32-byte private scalar — also the unreduced ones, where `codeGrp.smul` is defined mathematically -/
theorem code_key_any_scalar (a : Bytes) (hlen : a.length = 32) :
    absPt (ptMul a none) = codeGrp.smul (leNat a) codeGrp.base := by
  rw [codeGrp_is_lawful.smul_eq, codeGrp_base]
  exact absPt_of_good (point_mul_any_scalar a hlen).2.1

/-- **completeness + interoperability for every 32-byte private scalar, reduced or not**: with the key the code
derives (`Mul(private, nil)`), a signature made by `Sign` is accepted by `Verify` and by the RFC 8032 verifier -/
theorem sign_verifies_code_bytes (H : Bytes → Bytes) (a : Bytes) (hlen : a.length = 32) (k : ℕ) (msg : Bytes) :
    verify codeGrp H (absPt (ptMul a none)) msg (sign codeGrp H (leNat a) k msg) = .ok ()
    ∧ verifyStd codeGrp H (codeGrp.enc (absPt (ptMul a none))) msg (sign codeGrp H (leNat a) k msg) = true := by
  rw [code_key_any_scalar a hlen]
  exact sign_verifies_code H (leNat a) k msg

example : (natLE 32 (2 ^ 256 - 1)).length = 32 := natLE_length _ _

/-! ### the alteration clause for keys as BYTES and for ANY altered key -/

/-- an altered public key — ANY curve point A′, in or outside ⟨B⟩ — accepted with the same message and signature on the
translated code forces h′•A′ = h•A between the two challenges (an event of the hash alone) -/
theorem altered_key_needs_hash_relation_code (H : Bytes → Bytes) (A A' : Pt) (msg sig : Bytes)
    (h1 : verify codeGrp H A msg sig = .ok ()) (h2 : verify codeGrp H A' msg sig = .ok ()) :
    ∃ R, codeGrp.dec (sig.take 32) = some R ∧
      challenge codeGrp H A' R msg • A' = challenge codeGrp H A R msg • A :=
  Props.C20.altered_key_needs_hash_relation codeGrp_is_lawful H A A' msg sig h1 h2

/-- keys enter `Verify` as points decoded from bytes: a key byte string different from the canonical encoding `pub` of A
that decodes at all decodes to ANOTHER point — or does not re-encode to itself (`extFromBytes_noncanonical_accepted`
is such a string: y ≥ p).  The statement is about `enc` alone; that such strings are exactly those with y ≥ p or with
x = 0 and the sign bit set is `extFromBytes_of_point` / `extFromBytes_some` (Proofs/GeDec3.lean). -/
theorem altered_key_bytes_code (pub pub' : Bytes) (A A' : Pt) (hc : codeGrp.enc A = pub)
    (_hA' : codeGrp.dec pub' = some A') (hne : pub' ≠ pub) : A' ≠ A ∨ codeGrp.enc A' ≠ pub' := by
  by_cases h : A' = A
  · right
    intro he
    exact hne (by rw [← he, h, hc])
  · exact Or.inl h

example : codeGrp.dec (codeGrp.enc (0 : Pt)) = some 0 := codeGrp_is_lawful.dec_enc 0

/-- **the excluded key, stated**: for the degenerate key A = 0 (private scalar x ≡ 0 mod ℓ) the verification equation
S•B = R + h•0 does not involve the challenge, so a signature accepted for one message is accepted for EVERY message —
by `Verify` and, by `verify_iff_std`, by the RFC 8032 verifier (crypto/ed25519 behaves the same: this is EdDSA, not a
defect of the code).  The message-alteration theorems therefore carry `¬ ℓ ∣ x`; listed in meta "assumptions". -/
theorem degenerate_key_accepts_altered_message (H : Bytes → Bytes) (msg msg' sig : Bytes)
    (h : verify codeGrp H (0 : Pt) msg sig = .ok ()) : verify codeGrp H (0 : Pt) msg' sig = .ok () := by
  rw [verify_sound_code] at h ⊢
  obtain ⟨hl, R, hR, hs, he⟩ := h
  exact ⟨hl, R, hR, hs, by rw [smul_zero] at he ⊢; exact he⟩

example (H : Bytes → Bytes) (k : ℕ) (msg msg' : Bytes) :
    verify codeGrp H (0 : Pt) msg' (sign codeGrp H 0 k msg) = .ok () := by
  have h := (sign_verifies_code H 0 k msg).1
  rw [codeGrp_is_lawful.smul_eq, zero_smul] at h
  exact degenerate_key_accepts_altered_message H msg msg' _ h

end Dos.Props.C20Lawful
