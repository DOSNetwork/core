/-
C10 — GT as a group, and PairingCheck on slices of different lengths.

GT. point.go's pointGT stores ANY gfP12 value; `Add` = gfP12.Mul, `Neg` = gfP12.Conjugate, `Sub` = Mul by the
conjugate, `Mul` = gfP12.Exp. Conjugation is the inverse exactly on the UNITARY elements (a · conj a = 1), and the
scalar may be reduced modulo the group order exactly on elements of order dividing r (the general laws, under those
hypotheses: `C10Kyber.kyber_gt_laws`). Here the hypotheses are discharged:
* `gt_generator_order`: the GT generator of constants.go (= the pairing of the generators, `consts_gt`) has
  gen^Order = 1 and gen · conj gen = 1 — kernel evaluation of the transcribed gfP12.Exp / Mul on the residues of the
  regenerated literals (`val12_eq_of_res`, Proofs/Bn256Residue.lean);
* `gt_unitary_closed`, `gt_unitary_frobenius`: unitarity is preserved by Add, Neg, Sub, Mul (every exponent), both
  Frobenius maps, and holds for Null;
* `finalExponentiation_unitary`, `kyber_pair_unitary`: the EASY PART conj f · f⁻¹ of the final exponentiation
  already outputs a unitary element (ring reasoning, f ≠ 0), hence every value `Pair` returns is unitary, for all
  reduced input points whose Miller value is non-zero;
* `kyber_gt_group`: the unitary elements form a commutative group whose operations ARE the translated kyber-level
  functions (pointGT_add / neg / sub / mul / null); on elements of order dividing r, `Mul(scalar k, a)` = a^k for every
  INTEGER k with the scalar reduced as mod.Int reduces it;
* `kyber_gt_implemented`: the same on the implemented Montgomery representation (reduced values, decoding);
* non-vacuity: the pairing of the generators; NEGATIVE witnesses: the Miller value of the generators and the
  constant 2 are values a pointGT can hold on which a + (−a) ≠ Null (`gt_neg_not_inverse_outside_unitary`).
PairingCheck. `kyber_pairingCheck_lengths` states the three cases of the translated loop `for i := range a { … b[i] }`
explicitly instead of hiding them under List.zip: panic (index out of range) iff len(b) < len(a); for equal lengths
the product over ALL pairs; for len(a) < len(b) the surplus of b is silently ignored (witnesses).
Only theorems; lemmas in Proofs/Bn256GT.lean.
-/
import DosModel.Proofs.Bn256GT
import DosModel.Model.Bn256CheckSlices
import DosModel.Props.C10Kyber
import DosModel.Props.C10TowerField
import DosModel.Props.C10Consts

set_option linter.unusedSectionVars false
set_option linter.unusedSimpArgs false

namespace Dos.Props.C10GT
open Dos Dos.Bn256 Dos.Gen Dos.Gen.Bn256Code Dos.Props.C10Kyber

/-! ## the generator -/

/-- **the GT generator has order dividing r and is unitary** (kernel evaluation on the residues of the regenerated
literals: 254 squarings and the multiplications of gfP12.Exp for the exponent `Order`) -/
theorem gt_generator_order :
    Fp12.exp gfP12Gen Gen.Bn256.Order = Fp12.one ∧
    Fp12.mul gfP12Gen (Fp12.conjugate gfP12Gen) = Fp12.one ∧
    Red12 gfP12Gen ∧ gfP12Gen ≠ Fp12.one ∧ gfP12Inf = Fp12.one := by
  refine ⟨?_, ?_, gfP12Gen_reduced, by decide, by decide⟩
  all_goals
    rw [← gfP12GenR_val, one_val]
    simp only [exp_val, conjugate_val, mul_val]
    refine val12_eq_of_res ?_
    simp only [Fp12.map_exp resHom, Fp12.map_conjugate resHom, Fp12.map_mul' resHom, Fp12.map_one' resHom]
    decide +kernel

/-- the same after Montgomery decoding, in the field F_p¹²: dec(gen) is a unitary element of order exactly r
(r is prime, `C10.consts_primes`, and gen ≠ 1) -/
theorem gt_generator_unitary :
    Fp12.Unitary (dec12 gfP12Gen) ∧ dec12 gfP12Gen ^ Gen.Bn256.Order = 1 ∧ dec12 gfP12Gen ≠ 1 := by
  obtain ⟨ho, hu, hr, hne, _⟩ := gt_generator_order
  refine ⟨(unitary_dec_iff _ hr).mp hu, (exp_one_dec_iff _ hr _).mp ho, ?_⟩
  intro h
  exact hne (dec12_inj _ _ hr one_dec.1 (h.trans one_dec.2.symm))

/-! ## closure -/

/-- **unitarity is preserved by every GT operation of the library** (over every commutative ring) -/
theorem gt_unitary_closed {R : Type} [CommRing R] (a b : Fp12 R) (ha : Fp12.Unitary a) (hb : Fp12.Unitary b)
    (s : Nat) :
    Fp12.Unitary (pointGT_add a b) ∧ Fp12.Unitary (pointGT_neg a) ∧ Fp12.Unitary (pointGT_sub a b) ∧
    Fp12.Unitary (pointGT_mul s a) ∧ Fp12.Unitary (pointGT_null (1 : Fp12 R)) := by
  rw [gen_pointGT_add_eq_model, gen_pointGT_neg_eq_model, gen_pointGT_sub_eq_model, gen_pointGT_mul_eq_model]
  exact ⟨Fp12.unitary_mul ha hb, Fp12.unitary_conj ha, Fp12.unitary_mul ha (Fp12.unitary_conj hb),
    Fp12.unitary_exp ha s, Fp12.unitary_one⟩

/-- … and by both Frobenius maps, over every field whose constants satisfy their six relations -/
theorem gt_unitary_frobenius {K : Type} [Field K] (cs : FrobConsts K) (hg : cs.Good) (a : Fp12 K)
    (ha : Fp12.Unitary a) :
    Fp12.Unitary (Fp12.frobeniusG cs a) ∧ Fp12.Unitary (Fp12.frobeniusP2G cs a) :=
  ⟨Fp12.unitary_frobeniusG cs hg ha, Fp12.unitary_frobeniusP2G cs hg ha⟩

/-- non-vacuity: the decoded generator, with the code's constants -/
example : Fp12.Unitary (pointGT_add (dec12 gfP12Gen) (dec12 gfP12Gen)) ∧
    Fp12.Unitary (Fp12.frobeniusG frobConstsFp (dec12 gfP12Gen)) :=
  ⟨(gt_unitary_closed _ _ gt_generator_unitary.1 gt_generator_unitary.1 0).1,
   (gt_unitary_frobenius frobConstsFp frobConstsFp_good _ gt_generator_unitary.1).1⟩

/-! ## the final exponentiation and Pair -/

/-- **the final exponentiation outputs unitary elements**: generic — over every field, for every input that
gfP12.Invert inverts, already after the easy part conj f · f⁻¹ —, and implemented: for every reduced non-zero
gfP12 value the decoded result of optate.go's finalExponentiation is unitary, i.e. x · conj x = 1 in the
implementation's own arithmetic; 0 itself is not unitary -/
theorem finalExponentiation_unitary :
    (∀ {K : Type} [Field K] (cs : FrobConsts K), cs.Good → ∀ (u : Nat) (x : Fp12 K), x * Fp12.invert x = 1 →
      Fp12.Unitary (Fp12.conjugate x * Fp12.invert x) ∧ Fp12.Unitary (finalExponentiationG cs u x)) ∧
    (∀ x : F12, Red12 x → x ≠ Fp12.zero →
      Fp12.Unitary (dec12 (Bn256.finalExponentiation x)) ∧
      Fp12.mul (Bn256.finalExponentiation x) (Fp12.conjugate (Bn256.finalExponentiation x)) = Fp12.one) ∧
    ¬ Fp12.Unitary (0 : Fp12 (ZMod Bn256.p)) := by
  refine ⟨fun cs hg u x hx => ⟨Fp12.unitary_easy_part x hx, finalExp_unitary cs hg u x hx⟩, ?_,
    finalExp_zero_not_unitary⟩
  intro x hx h0
  obtain ⟨rf, df⟩ := finalExp_dec x hx
  have hu : Fp12.Unitary (dec12 (Bn256.finalExponentiation x)) := by
    rw [df]
    exact finalExp_unitary frobConstsFp frobConstsFp_good uParam _
      (TowerField.fp12_invert_all _ (TowerField.dec12_ne_zero x hx h0))
  exact ⟨hu, (unitary_dec_iff _ rf).mpr hu⟩

/-- non-vacuity: the Miller value of the generators is reduced -/
example : Red12 (miller twistGen curveGen) :=
  C10Miller.miller_reduced _ _ twistGen_reduced curveGen_reduced

/-- **Pair returns unitary elements**: for reduced input points — either one the identity, or the Miller value
non-zero — the value `Pair(p1, p2)` of the translated kyber-level function is reduced, its decoding is unitary,
and in the implementation's own arithmetic a + (−a) = a − a = Null -/
theorem kyber_pair_unitary (p1 : G1J) (p2 : G2J) (h1 : Jac.Reduced p1) (h2 : Jac.Reduced2 p2)
    (hm : (p2.isInfinity || p1.isInfinity) = true ∨ miller p2 p1 ≠ Fp12.zero) :
    Red12 (pointGT_pair frobConsts uParam p1 p2) ∧
    Fp12.Unitary (dec12 (pointGT_pair frobConsts uParam p1 p2)) ∧
    pointGT_add (pointGT_pair frobConsts uParam p1 p2) (pointGT_neg (pointGT_pair frobConsts uParam p1 p2)) =
      pointGT_null gfP12Inf ∧
    pointGT_sub (pointGT_pair frobConsts uParam p1 p2) (pointGT_pair frobConsts uParam p1 p2) =
      pointGT_null gfP12Inf := by
  have hred := (kyber_pair_reduced p1 p2 h1 h2).1
  have hu : Fp12.Unitary (dec12 (pointGT_pair frobConsts uParam p1 p2)) := by
    rw [(gen_pointGT_pair_eq_model_gfp p1 p2).2]
    by_cases hi : (p2.isInfinity || p1.isInfinity) = true
    · rw [optimalAte_of_inf hi, one_dec.2]; exact Fp12.unitary_one
    · rw [optimalAte_of_fin hi]
      exact (finalExponentiation_unitary.2.1 _ (C10Miller.miller_reduced p2 p1 h2 h1)
        (hm.resolve_left hi)).1
  have hone := (unitary_dec_iff _ hred).mpr hu
  have hinf : pointGT_null gfP12Inf = Fp12.one := by
    rw [gen_pointGT_null_eq_model]; exact C10Consts.consts_gt.1
  refine ⟨hred, hu, ?_, ?_⟩
  · rw [gen_pointGT_add_eq_model, gen_pointGT_neg_eq_model, hinf]; exact hone
  · rw [gen_pointGT_sub_eq_model, hinf]; exact hone

/-- **non-trivial instance: the pairing of the generators** e(G1, G2) — a value ≠ 1 — satisfies
a + (−a) = Null and a − a = Null through the translated functions (hypothesis discharged through the identity
`optimalAte twistGen curveGen = gfP12Gen`, `C10Consts.consts_gt`: the Miller value cannot be zero because its
final exponentiation, the generator, is unitary) -/
theorem kyber_pair_generators_inverse :
    pointGT_pair frobConsts uParam curveGen twistGen = gfP12Gen ∧ gfP12Gen ≠ pointGT_null gfP12Inf ∧
    pointGT_add gfP12Gen (pointGT_neg gfP12Gen) = pointGT_null gfP12Inf ∧
    pointGT_sub gfP12Gen gfP12Gen = pointGT_null gfP12Inf := by
  obtain ⟨_, hu, _, hne, hinf⟩ := gt_generator_order
  have hnull : pointGT_null gfP12Inf = Fp12.one := by rw [gen_pointGT_null_eq_model]; exact hinf
  refine ⟨?_, ?_, ?_, ?_⟩
  · rw [(gen_pointGT_pair_eq_model_gfp curveGen twistGen).2]; exact C10Consts.consts_gt.2
  · rw [hnull]; exact hne
  · rw [gen_pointGT_add_eq_model, gen_pointGT_neg_eq_model, hnull]; exact hu
  · rw [gen_pointGT_sub_eq_model, hnull]; exact hu

/-! ## the group -/

/-- **GT, kyber level, as a group**: the unitary elements of gfP12 (over every commutative ring) form a
commutative group in which the product is `Add`, the inverse is `Neg`, the quotient is `Sub`, the n-th power is
`Mul(n, ·)` for every n, the unit is `Null`; and for an element of order dividing n (n = r for the subgroup the
library works in), `Mul` by the scalar's big.Int `V = k mod n` (`modIntV`, the behaviour of mod.Int) is the k-th
power for every INTEGER k, and `Mul(s, ·) = Mul(s mod n, ·)` — group laws (associativity, commutativity, identity,
inverse) are those of the `CommGroup` instance, whose data are the translated functions -/
theorem kyber_gt_group {R : Type} [CommRing R] (a b : Fp12.UnitaryGT R) (s n : Nat) (k : Int) :
    (a * b).1 = pointGT_add a.1 b.1 ∧ (a⁻¹).1 = pointGT_neg a.1 ∧ (a / b).1 = pointGT_sub a.1 b.1 ∧
    (a ^ s).1 = pointGT_mul s a.1 ∧ (1 : Fp12.UnitaryGT R).1 = pointGT_null (1 : Fp12 R) ∧
    pointGT_add a.1 (pointGT_neg a.1) = pointGT_null (1 : Fp12 R) ∧
    pointGT_sub a.1 a.1 = pointGT_null (1 : Fp12 R) ∧
    (0 < n → a ^ n = 1 →
      pointGT_mul (modIntV k n) a.1 = (a ^ k).1 ∧ pointGT_mul s a.1 = pointGT_mul (s % n) a.1) := by
  rw [gen_pointGT_add_eq_model, gen_pointGT_neg_eq_model, gen_pointGT_sub_eq_model, gen_pointGT_mul_eq_model,
    gen_pointGT_null_eq_model]
  refine ⟨rfl, rfl, Fp12.UnitaryGT.val_div a b, ?_, rfl, a.2, a.2, ?_⟩
  · rw [Fp12.UnitaryGT.val_pow]; exact (Fp12.exp_eq_pow a.1 s).symm
  · intro hn h
    have h' := (Fp12.UnitaryGT.pow_eq_one_iff a n).mp h
    constructor
    · show Fp12.exp a.1 (modIntV k n) = _
      rw [Fp12.exp_eq_pow, ← Fp12.UnitaryGT.val_pow, Fp12.UnitaryGT.modIntV_pow a n hn h k]
    · show Fp12.exp a.1 s = Fp12.exp a.1 (s % n)
      rw [Fp12.exp_eq_pow, Fp12.exp_eq_pow]; exact pow_eq_pow_mod s h'

/-- non-vacuity, non-trivial: the decoded GT generator (an element ≠ 1 of order r): −1 and r + 1 as scalars -/
example : pointGT_mul (modIntV (-1) Gen.Bn256.Order) (dec12 gfP12Gen) = Fp12.conjugate (dec12 gfP12Gen) ∧
    pointGT_mul (Gen.Bn256.Order + 1) (dec12 gfP12Gen) = pointGT_mul 1 (dec12 gfP12Gen) := by
  obtain ⟨hu, ho, _⟩ := gt_generator_unitary
  let g : Fp12.UnitaryGT (ZMod Bn256.p) := ⟨dec12 gfP12Gen, hu⟩
  have hg : g ^ Gen.Bn256.Order = 1 := (Fp12.UnitaryGT.pow_eq_one_iff g _).mpr ho
  have h := (kyber_gt_group g g (Gen.Bn256.Order + 1) Gen.Bn256.Order (-1)).2.2.2.2.2.2.2 (by decide) hg
  refine ⟨?_, ?_⟩
  · have h1 := h.1
    rw [zpow_neg, zpow_one] at h1
    exact h1
  · have h2 := h.2
    rw [show (Gen.Bn256.Order + 1) % Gen.Bn256.Order = 1 by decide] at h2
    exact h2

/-- **GT as implemented** (Montgomery limbs): on reduced values the translated Add / Neg / Sub / Mul return reduced
values that decode to product, conjugate, product by the conjugate, power in F_p¹²; if the decoded operand is
unitary, a + (−a) and a − a ARE the identity `Null()` limb for limb; if it has order dividing r, the scalar may be
reduced modulo r -/
theorem kyber_gt_implemented (a b : F12) (ha : Red12 a) (hb : Red12 b) (s : Nat) :
    (Red12 (pointGT_add a b) ∧ dec12 (pointGT_add a b) = dec12 a * dec12 b) ∧
    (Red12 (pointGT_neg a) ∧ dec12 (pointGT_neg a) = Fp12.conjugate (dec12 a)) ∧
    (Red12 (pointGT_sub a b) ∧ dec12 (pointGT_sub a b) = dec12 a * Fp12.conjugate (dec12 b)) ∧
    (Red12 (pointGT_mul s a) ∧ dec12 (pointGT_mul s a) = dec12 a ^ s) ∧
    (Fp12.Unitary (dec12 a) →
      pointGT_add a (pointGT_neg a) = pointGT_null gfP12Inf ∧ pointGT_sub a a = pointGT_null gfP12Inf) ∧
    (dec12 a ^ Gen.Bn256.Order = 1 → pointGT_mul s a = pointGT_mul (s % Gen.Bn256.Order) a) := by
  rw [gen_pointGT_add_eq_model, gen_pointGT_neg_eq_model, gen_pointGT_sub_eq_model, gen_pointGT_mul_eq_model,
    gen_pointGT_null_eq_model]
  obtain ⟨rc, dc⟩ := conj_dec b hb
  obtain ⟨rs, ds⟩ := mul_dec a _ ha rc
  refine ⟨mul_dec a b ha hb, conj_dec a ha, ⟨rs, by rw [ds, dc]⟩, exp_dec a ha s, ?_, ?_⟩
  · intro hu
    have h := (unitary_dec_iff a ha).mpr hu
    rw [C10Consts.consts_gt.1]
    exact ⟨h, h⟩
  · intro ho
    show Fp12.exp a s = Fp12.exp a (s % Gen.Bn256.Order)
    apply dec12_inj _ _ (exp_dec a ha _).1 (exp_dec a ha _).1
    rw [(exp_dec a ha _).2, (exp_dec a ha _).2]
    exact pow_eq_pow_mod s ho

/-- the hypothesis qⁿ = 1 of `C10Kyber.kyber_gt_laws` holds for the decoded GT generator with n = r -/
example : pointGT_mul (Gen.Bn256.Order + 2) (dec12 gfP12Gen) = pointGT_mul ((Gen.Bn256.Order + 2) % Gen.Bn256.Order)
    (dec12 gfP12Gen) :=
  (kyber_gt_laws 1 1 (dec12 gfP12Gen) _ _ gt_generator_unitary.2.1).2.2.1

example : pointGT_mul (Gen.Bn256.Order + 5) gfP12Gen = pointGT_mul ((Gen.Bn256.Order + 5) % Gen.Bn256.Order) gfP12Gen :=
  (kyber_gt_implemented gfP12Gen gfP12Gen gt_generator_order.2.2.1 gt_generator_order.2.2.1 _).2.2.2.2.2
    gt_generator_unitary.2.1

/-! ## outside the unitary elements the laws FAIL (values a pointGT can hold) -/

/-- the full statement one might read into "GT obeys the group laws": for EVERY value of the type -/
def C10_gt_inverse_full : Prop :=
  ∀ a : F12, Red12 a → pointGT_add a (pointGT_neg a) = pointGT_null gfP12Inf

/-- **negative witnesses**: (1) the Miller value of the generators — what the exported `Miller` returns before
`Finalize` — is a reduced gfP12 value m with m + (−m) ≠ Null; (2) the Montgomery encoding of the constant 2 — a value
`pointGT.UnmarshalBinary` accepts, it has no membership test — likewise; (3) over ℤ: 2 + (−2) = 4. So the group
laws hold on the unitary elements (`kyber_gt_group`), not on every value of the type: `C10_gt_inverse_full` is
false. -/
theorem gt_neg_not_inverse_outside_unitary :
    pointGT_add (miller twistGen curveGen) (pointGT_neg (miller twistGen curveGen)) ≠ pointGT_null gfP12Inf ∧
    pointGT_add (Fp12.mul gfP12Inf (Fp12.add gfP12Inf gfP12Inf)) (pointGT_neg (Fp12.mul gfP12Inf (Fp12.add gfP12Inf gfP12Inf)))
      ≠ pointGT_null gfP12Inf ∧
    Red12 (Fp12.mul gfP12Inf (Fp12.add gfP12Inf gfP12Inf)) ∧
    ¬ C10_gt_inverse_full := by
  have h12 : pointGT_add (miller twistGen curveGen) (pointGT_neg (miller twistGen curveGen)) ≠ pointGT_null gfP12Inf ∧
      pointGT_add (Fp12.mul gfP12Inf (Fp12.add gfP12Inf gfP12Inf))
        (pointGT_neg (Fp12.mul gfP12Inf (Fp12.add gfP12Inf gfP12Inf))) ≠ pointGT_null gfP12Inf ∧
      Red12 (Fp12.mul gfP12Inf (Fp12.add gfP12Inf gfP12Inf)) := by
    rw [gen_pointGT_add_eq_model, gen_pointGT_neg_eq_model, gen_pointGT_null_eq_model]
    refine ⟨?_, by decide, by unfold Red12 Red6 Red2; decide⟩
    -- the Miller value through its residues; the other two conjuncts are single gfP12 operations
    rw [show gfP12Inf = Fp12.one by decide, ← twistGenR_val, ← curveGenR_val, ← C10Code.gen_miller_eq_model,
      MillerNat.miller_val, conjugate_val, mul_val, one_val]
    refine val12_ne_of_res ?_
    simp only [Fp12.map_mul' resHom, Fp12.map_conjugate resHom, Fp12.map_one' resHom, MillerNat.map_miller resHom]
    decide +kernel
  refine ⟨h12.1, h12.2.1, h12.2.2, fun h => h12.2.1 (h _ h12.2.2)⟩

example : pointGT_add (⟨0, ⟨0, 0, ⟨0, 2⟩⟩⟩ : Fp12 Int) (pointGT_neg ⟨0, ⟨0, 0, ⟨0, 2⟩⟩⟩) = ⟨0, ⟨0, 0, ⟨0, 4⟩⟩⟩ := by
  decide

/-! ## PairingCheck: the two slices may differ in length  -/

/-- **PairingCheck and the lengths of its two slices** (translated loop `for i := range a { … b[i] … }`), for
reduced input points:
* `len(b) < len(a)`: Go panics (index out of range) — value `none`; and only then;
* `len(a) = len(b)`: no element of either slice is dropped (`unzip (zip a b) = (a, b)`) and the result is true
  exactly when the product over ALL pairs (a[i], b[i]) of the decoded pairing values is one;
* `len(a) < len(b)`: the surplus b[len(a)..] is silently ignored: same result as on `b.take (len a)`.
The only caller in /repo (sign/bls Verify) passes two slices of length 2. -/
theorem kyber_pairingCheck_lengths (a : List G1J) (b : List G2J) (ha : ∀ x ∈ a, Jac.Reduced x)
    (hb : ∀ y ∈ b, Jac.Reduced2 y) :
    (pointGT_pairingCheck frobConsts uParam a b = none ↔ b.length < a.length) ∧
    (a.length = b.length →
      (List.zip a b).unzip = (a, b) ∧
      (pointGT_pairingCheck frobConsts uParam a b = some true ↔
        ((List.zip a b).map fun pq => dec12 (optimalAte pq.2 pq.1)).prod = 1) ∧
      (pointGT_pairingCheck frobConsts uParam a b = some false ↔
        ((List.zip a b).map fun pq => dec12 (optimalAte pq.2 pq.1)).prod ≠ 1)) ∧
    (a.length < b.length →
      pointGT_pairingCheck frobConsts uParam a b = pointGT_pairingCheck frobConsts uParam a (b.take a.length)) := by
  obtain ⟨hnone, hsome⟩ := kyber_pairingCheck a b ha hb
  refine ⟨hnone, ?_, ?_⟩
  · intro hlen
    have hiff := hsome (le_of_eq hlen)
    refine ⟨List.unzip_zip hlen, hiff, ?_⟩
    rw [gen_pointGT_pairingCheck_eq_model] at hiff ⊢
    have h : ¬ b.length < a.length := by omega
    simp only [h, if_false, Option.some.injEq] at hiff ⊢
    rw [Ne, ← hiff]
    cases pairingCheck (List.zip a b) <;> simp
  · intro hlt
    rw [gen_pointGT_pairingCheck_eq_model, gen_pointGT_pairingCheck_eq_model]
    have h1 : ¬ b.length < a.length := by omega
    have h2 : ¬ (b.take a.length).length < a.length := by rw [List.length_take]; omega
    simp only [h1, h2, if_false, zip_take_left]

/-- **the explicit model of the length mismatch** (`Model/Bn256CheckSlices.lean`: outcome `panicIndex len(b) len(b)` /
`value` of the first len(a) pairs — the function the driver runs against the real code on `checkl` cases) is the
translated PairingCheck, for ALL lists (no reducedness needed: both sides are the same computation) -/
theorem kyber_pairingCheck_outcome (a : List G1J) (b : List G2J) :
    pointGT_pairingCheck frobConsts uParam a b = (pairingCheckSlices a b).toOption ∧
    (b.length < a.length → pairingCheckSlices a b = .panicIndex b.length b.length) ∧
    (a.length ≤ b.length → pairingCheckSlices a b = .value (pairingCheck (List.zip a (b.take a.length)))) := by
  rw [gen_pointGT_pairingCheck_eq_model]
  unfold pairingCheckSlices
  by_cases h : b.length < a.length
  · simp only [h, if_true, CheckOutcome.toOption]
    exact ⟨trivial, fun _ => trivial, fun h' => absurd h (by omega)⟩
  · simp only [h, if_false, CheckOutcome.toOption, zip_take_left]
    exact ⟨trivial, fun h' => h'.elim, fun _ => trivial⟩

example : pairingCheckSlices [curveGen, curveGen] [twistGen] = .panicIndex 1 1 := by
  unfold pairingCheckSlices; rfl

/-- **witnesses**: `PairingCheck([G1, G1], [G2])` panics; `PairingCheck([G1], [G2, −G2])` ignores −G2 and answers
false (the value of the single pair (G1, G2), whose pairing is the generator ≠ 1) -/
theorem kyber_pairingCheck_length_witnesses :
    pointGT_pairingCheck frobConsts uParam [curveGen, curveGen] [twistGen] = none ∧
    pointGT_pairingCheck frobConsts uParam [curveGen] [twistGen, twistNeg twistGen] =
      pointGT_pairingCheck frobConsts uParam [curveGen] [twistGen] ∧
    pointGT_pairingCheck frobConsts uParam [curveGen] [twistGen] = some false := by
  have rg := curveGen_reduced
  have rt := twistGen_reduced
  have rn : Jac.Reduced2 (twistNeg twistGen) := by unfold Jac.Reduced2; decide
  have ha1 : ∀ x ∈ [curveGen], Jac.Reduced x := by intro x hx; simp at hx; subst hx; exact rg
  have ha2 : ∀ x ∈ [curveGen, curveGen], Jac.Reduced x := by intro x hx; simp at hx; subst hx; exact rg
  have hb1 : ∀ y ∈ [twistGen], Jac.Reduced2 y := by intro y hy; simp at hy; subst hy; exact rt
  have hb2 : ∀ y ∈ [twistGen, twistNeg twistGen], Jac.Reduced2 y := by
    intro y hy; simp at hy; rcases hy with h | h <;> subst h <;> assumption
  refine ⟨(kyber_pairingCheck_lengths _ _ ha2 hb1).1.mpr (by decide),
    (kyber_pairingCheck_lengths _ _ ha1 hb2).2.2 (by decide), ?_⟩
  apply ((kyber_pairingCheck_lengths _ _ ha1 hb1).2.1 rfl).2.2.mpr
  simp only [List.zip_cons_cons, List.zip_nil_right, List.map_cons, List.map_nil, List.prod_cons, List.prod_nil,
    mul_one]
  rw [C10Consts.consts_gt.2]
  exact gt_generator_unitary.2.2

end Dos.Props.C10GT
