/-
C07 — regenerated facts about HOW the content stages reach the selector engines, the
member list and the chain: the statement skeletons that Model/Content.lean, Model/Eval.lean and
Model/Query.lean transcribe, extracted from the current source on every run
(go/extract/dosnodeflow → Gen/DosnodeFlow.lean, go/extract/pkgvars → Gen/PkgVars.lean) and pinned
here.  A change to any of these statements – a cached compiled selector, a pooled buffer, a helper
between dataParse and the engines, a sort of the member list, a different argument – makes one of
these theorems fail within seconds and must be re-modelled before the theorems of Props/C07.lean
say anything about the code again.
-/
import DosModel.Gen.DosnodeFlow
import DosModel.Gen.PkgVars
import DosModel.Gen.ChainHandlerFacts

namespace Dos.Props.C07
open Dos

/-- **no process-wide state in package dosnode**: the package declares no package-level variable
at all (every non-test file, hook files included).  The stages are functions of their arguments and
of the objects handed to them; in particular two evaluations in flight share nothing inside the
package.  ANY new cache / pool / memo table at package level breaks this theorem. -/
theorem c07_no_package_state : Gen.PkgVars.dosnode = [] := by
  decide

example : Gen.PkgVars.dosnode.length = 0 := by decide

/-- `dataParse`: the deferred recover wrapper first; empty selector → the document; `$` → `ajson.JSONPath(rawMsg, pathStr)`, `Unpack` of every node, `json.Marshal`; `/` → `xmlquery.Parse`, `xmlquery.Find(rawMsgXml, pathStr)` (compiled afresh on every call), `OutputXML(false)` + line feed per node; anything else → `(nil, nil)`.  Since /repo 14409e8 both engine branches are guarded by a nesting bound (`jsonDepthExceeds(rawMsg, maxDocumentDepth)` before `ajson.JSONPath`, `xmlDepthExceeds(rawMsgXml, maxDocumentDepth)` after `xmlquery.Parse`): a document nested deeper than 1000 levels is an error at every member alike.  The only package-level identifiers it refers to are these two helpers and the constant (no cache; `c07_depth_guard_shape` pins the helpers: pure loops over their argument), and dos_stages.go imports exactly these packages. -/
theorem c07_parse_shape :
    Gen.DosnodeFlow.dataParse = [
      "func dataParse(rawMsg []byte, pathStr string) (msg []byte, err error)",
      "  defer func() ()",
      "    if r := recover(); r != nil",
      "      msg, err = nil, fmt.Errorf(\"dataParse: selector %q: %v\", pathStr, r)",
      "  if pathStr == \"\"",
      "    msg = rawMsg",
      "  else",
      "    if strings.HasPrefix(pathStr, \"$\")",
      "      if jsonDepthExceeds(rawMsg, maxDocumentDepth)",
      "        err = errors.New(\"dataParse: document nested deeper than 1000 levels\")",
      "        return",
      "      var nodes []*ajson.Node",
      "      nodes, err = ajson.JSONPath(rawMsg, pathStr)",
      "      if err != nil",
      "        return",
      "      results := make([]interface{}, 0)",
      "      for _, node := range nodes",
      "        var value interface{}",
      "        value, err = node.Unpack()",
      "        if err != nil",
      "          return",
      "        results = append(results, value)",
      "      msg, err = json.Marshal(results)",
      "    else",
      "      if strings.HasPrefix(pathStr, \"/\")",
      "        var rawMsgXml *xmlquery.Node",
      "        if rawMsgXml, err = xmlquery.Parse(bytes.NewReader(rawMsg)); err != nil",
      "          return",
      "        if xmlDepthExceeds(rawMsgXml, maxDocumentDepth)",
      "          err = errors.New(\"dataParse: document nested deeper than 1000 levels\")",
      "          return",
      "        xmlNodes := xmlquery.Find(rawMsgXml, pathStr)",
      "        for _, xmlNode := range xmlNodes",
      "          msg = append(msg, []byte(xmlNode.OutputXML(false))...)",
      "          msg = append(msg, \"\\n\"...)",
      "  return"]
    ∧ Gen.DosnodeFlow.dataParseCalls = [
      "recover()",
      "fmt.Errorf(\"dataParse: selector %q: %v\", pathStr, r)",
      "strings.HasPrefix(pathStr, \"$\")",
      "jsonDepthExceeds(rawMsg, maxDocumentDepth)",
      "errors.New(\"dataParse: document nested deeper than 1000 levels\")",
      "ajson.JSONPath(rawMsg, pathStr)",
      "make([]interface{}, 0)",
      "node.Unpack()",
      "append(results, value)",
      "json.Marshal(results)",
      "strings.HasPrefix(pathStr, \"/\")",
      "xmlquery.Parse(bytes.NewReader(rawMsg))",
      "bytes.NewReader(rawMsg)",
      "xmlDepthExceeds(rawMsgXml, maxDocumentDepth)",
      "errors.New(\"dataParse: document nested deeper than 1000 levels\")",
      "xmlquery.Find(rawMsgXml, pathStr)",
      "append(msg, []byte(xmlNode.OutputXML(false))...)",
      "[]byte(xmlNode.OutputXML(false))",
      "xmlNode.OutputXML(false)",
      "append(msg, \"\\n\"...)"]
    ∧ Gen.DosnodeFlow.dataParseRefs = [
      "jsonDepthExceeds",
      "maxDocumentDepth",
      "xmlDepthExceeds"]
    ∧ Gen.DosnodeFlow.dataParseRecovers = true
    ∧ Gen.DosnodeFlow.stagesImports = [
      "\"bytes\"",
      "\"context\"",
      "\"encoding/json\"",
      "\"errors\"",
      "\"fmt\"",
      "\"io\"",
      "\"io/ioutil\"",
      "\"math/big\"",
      "\"net/http\"",
      "\"strings\"",
      "\"sync\"",
      "\"time\"",
      "\"github.com/DOSNetwork/core/log\"",
      "\"github.com/DOSNetwork/core/onchain\"",
      "\"github.com/DOSNetwork/core/p2p\"",
      "\"github.com/DOSNetwork/core/share\"",
      "\"github.com/DOSNetwork/core/share/vss/pedersen\"",
      "\"github.com/DOSNetwork/core/sign/bls\"",
      "\"github.com/DOSNetwork/core/sign/tbls\"",
      "\"github.com/DOSNetwork/core/suites\"",
      "\"github.com/antchfx/xmlquery\"",
      "\"github.com/spyzhov/ajson\""] := by
  refine ⟨?_, ?_, ?_, ?_, ?_⟩ <;> rfl

example : "        xmlNodes := xmlquery.Find(rawMsgXml, pathStr)" ∈ Gen.DosnodeFlow.dataParse := by simp [Gen.DosnodeFlow.dataParse]

/-- **the nesting guard of `dataParse`** (/repo 14409e8): `jsonDepthExceeds` is one pass over the bytes of the document (brackets inside strings do not count, `depth > max` ⇒ true) – transcribed as `Eval.jsonDepthExceeds`; `xmlDepthExceeds` walks the parsed tree along FirstChild / NextSibling / Parent without recursion; neither refers to any package-level identifier; the bound is 1000. -/
theorem c07_depth_guard_shape :
    Gen.DosnodeFlow.jsonDepthExceeds = [
      "func jsonDepthExceeds(b []byte, max int) bool",
      "  depth, inString, escaped := 0, false, false",
      "  for _, c := range b",
      "    if inString",
      "      if escaped",
      "        escaped = false",
      "      else",
      "        if c == '\\\\'",
      "          escaped = true",
      "        else",
      "          if c == '\"'",
      "            inString = false",
      "      continue",
      "    switch c",
      "      case '\"'",
      "        inString = true",
      "      case '[', '{'",
      "        depth++",
      "        if depth > max",
      "          return true",
      "      case ']', '}'",
      "        if depth > 0",
      "          depth--",
      "  return false"]
    ∧ Gen.DosnodeFlow.jsonDepthExceedsRefs = []
    ∧ Gen.DosnodeFlow.xmlDepthExceeds = [
      "func xmlDepthExceeds(root *xmlquery.Node, max int) bool",
      "  depth := 0",
      "  for n := root; n != nil; ",
      "    if n.FirstChild != nil",
      "      n = n.FirstChild",
      "      depth++",
      "      if depth > max",
      "        return true",
      "      continue",
      "    for n != root && n.NextSibling == nil",
      "      n = n.Parent",
      "      depth--",
      "    if n == root",
      "      return false",
      "    n = n.NextSibling",
      "  return false"]
    ∧ Gen.DosnodeFlow.xmlDepthExceedsRefs = []
    ∧ Gen.DosnodeFlow.maxDocumentDepth = 1000 := by
  refine ⟨?_, ?_, ?_, ?_, ?_⟩ <;> rfl

example : "        if depth > max" ∈ Gen.DosnodeFlow.jsonDepthExceeds := by simp [Gen.DosnodeFlow.jsonDepthExceeds]

/-- `dataFetch`: one GET, at most `maxDocumentSize+1` bytes read through `io.LimitReader`, a longer document is an error; the only package-level identifier it uses is that constant. -/
theorem c07_fetch_shape :
    Gen.DosnodeFlow.dataFetch = [
      "func dataFetch(url string) (body []byte, err error)",
      "  client := &http.Client{Timeout: 60 * time.Second}",
      "  r, err := client.Get(url)",
      "  if err != nil",
      "    return",
      "  body, err = ioutil.ReadAll(io.LimitReader(r.Body, maxDocumentSize+1))",
      "  if err == nil && len(body) > maxDocumentSize",
      "    err = errors.New(\"document larger than the 16 MiB a node reads\")",
      "  if err != nil",
      "    body = nil",
      "    r.Body.Close()",
      "    return",
      "  err = r.Body.Close()",
      "  return"]
    ∧ Gen.DosnodeFlow.dataFetchCalls = [
      "client.Get(url)",
      "ioutil.ReadAll(io.LimitReader(r.Body, maxDocumentSize+1))",
      "io.LimitReader(r.Body, maxDocumentSize+1)",
      "len(body)",
      "errors.New(\"document larger than the 16 MiB a node reads\")",
      "r.Body.Close()",
      "r.Body.Close()"]
    ∧ Gen.DosnodeFlow.dataFetchRefs = [
      "maxDocumentSize"] := by
  refine ⟨?_, ?_, ?_⟩ <;> rfl

/-- the document bound is 16 MiB and the reader is cut one byte above it (so that "larger" is detectable) -/
theorem c07_fetch_bound : Gen.DosnodeFlow.maxDocumentSize = 16 * 2 ^ 20 ∧ Gen.DosnodeFlow.fetchReadLimit = 16 * 2 ^ 20 + 1 := by
  decide

example : Gen.DosnodeFlow.fetchReadLimit - Gen.DosnodeFlow.maxDocumentSize = 1 := by decide

/-- the three content stages and `padOrTrim`, statement by statement: `genQueryResult` = `dataFetch(url)`, `dataParse(rawMsg, pathStr)`, `append(msgReturn, submitter...)`; `genSysRandom` = `append(padOrTrim(lastSysRand, randNumberSize), submitter...)`; `genUserRandom` = requestId ‖ lastSysRand ‖ userSeed ‖ submitter; and the package-level identifiers each refers to. -/
theorem c07_content_stage_shape :
    Gen.DosnodeFlow.genQueryResult = [
      "func genQueryResult(ctx context.Context, submitterc chan []byte, url string, pathStr string, logger log.Logger) (chan []byte, chan error)",
      "  out := make(chan []byte)",
      "  errc := make(chan error)",
      "  go func() ()",
      "    startTime := time.Now()",
      "    defer close(out)",
      "    defer close(errc)",
      "    rawMsg, err := dataFetch(url)",
      "    if err != nil",
      "      reportErr(ctx, errc, err)",
      "      return",
      "    msgReturn, err := dataParse(rawMsg, pathStr)",
      "    if err != nil",
      "      reportErr(ctx, errc, err)",
      "      return",
      "    select",
      "      case submitter, ok := <-submitterc",
      "        if !ok",
      "          return",
      "        msgReturn = append(msgReturn, submitter...)",
      "        select",
      "          case out <- msgReturn",
      "          case <-ctx.Done()",
      "        return",
      "      case <-ctx.Done()",
      "        return",
      "  return out, errc"]
    ∧ Gen.DosnodeFlow.genQueryResultRefs = [
      "ctxKey",
      "dataFetch",
      "dataParse",
      "reportErr"]
    ∧ Gen.DosnodeFlow.genSysRandom = [
      "func genSysRandom(ctx context.Context, submitterc chan []byte, lastSysRand []byte, logger log.Logger) chan []byte",
      "  out := make(chan []byte)",
      "  go func() ()",
      "    defer close(out)",
      "    select",
      "      case submitter, ok := <-submitterc",
      "        if !ok",
      "          return",
      "        paddedLastSysRand := padOrTrim(lastSysRand, randNumberSize)",
      "        random := append(paddedLastSysRand, submitter...)",
      "        select",
      "          case out <- random",
      "          case <-ctx.Done()",
      "        return",
      "      case <-ctx.Done()",
      "        return",
      "  return out"]
    ∧ Gen.DosnodeFlow.genSysRandomRefs = [
      "ctxKey",
      "padOrTrim",
      "randNumberSize"]
    ∧ Gen.DosnodeFlow.genUserRandom = [
      "func genUserRandom(ctx context.Context, submitterc chan []byte, requestId []byte, lastSysRand []byte, userSeed []byte, logger log.Logger) chan []byte",
      "  out := make(chan []byte)",
      "  go func() ()",
      "    defer close(out)",
      "    select",
      "      case submitter, ok := <-submitterc",
      "        if !ok",
      "          return",
      "        random := append(requestId, lastSysRand...)",
      "        random = append(random, userSeed...)",
      "        random = append(random, submitter...)",
      "        select",
      "          case out <- random",
      "          case <-ctx.Done()",
      "        return",
      "      case <-ctx.Done()",
      "        return",
      "  return out"]
    ∧ Gen.DosnodeFlow.genUserRandomRefs = [
      "ctxKey"]
    ∧ Gen.DosnodeFlow.padOrTrim = [
      "func padOrTrim(bb []byte, size int) []byte",
      "  l := len(bb)",
      "  if l == size",
      "    return bb",
      "  if l > size",
      "    return bb[l-size:]",
      "  tmp := make([]byte, size)",
      "  copy(tmp[size-l:], bb)",
      "  return tmp"]
    ∧ Gen.DosnodeFlow.padOrTrimRefs = [] := by
  refine ⟨?_, ?_, ?_, ?_, ?_, ?_, ?_, ?_⟩ <;> rfl

example : "        msgReturn = append(msgReturn, submitter...)" ∈ Gen.DosnodeFlow.genQueryResult := by simp [Gen.DosnodeFlow.genQueryResult]

/-- **the content functions read nothing but their arguments**: inside `dataParse`, `jsonDepthExceeds`, `xmlDepthExceeds`, `dataFetch`, `genQueryResult`, `genSysRandom`, `genUserRandom`, `choseSubmitter`, `padOrTrim` there is NO call into time / rand / os / runtime / syscall / sync / atomic / unsafe / reflect whose value could reach the result (`contentForbidden = []`): the only such reads are two `time.Now()` whose every later use is inside a logging statement, and every `range` runs over a slice declared in the pinned skeleton (`nodes []*ajson.Node`, the result of `xmlquery.Find`, `outs []chan []byte`) – no map iteration.  Together with `c07_no_package_state` (no package-level variable) and the `…Refs` lists (no helper with state) this is the code-side of "the content is a function of the request fields and the fetched document only". -/
theorem c07_content_reads_nothing_else :
    Gen.DosnodeFlow.contentForbidden = []
    ∧ Gen.DosnodeFlow.contentClockVars = [
      "genQueryResult: startTime := time.Now()",
      "choseSubmitter: start := time.Now()"]
    ∧ Gen.DosnodeFlow.contentRanges = [
      "dataParse: nodes",
      "dataParse: xmlNodes",
      "jsonDepthExceeds: b",
      "choseSubmitter: outs",
      "choseSubmitter: outs"] := by
  refine ⟨?_, ?_, ?_⟩ <;> rfl

example : Gen.DosnodeFlow.contentForbidden.length = 0 ∧ Gen.DosnodeFlow.contentClockVars.length = 2 := by decide

/-- `choseSubmitter`: `submitter := lastSysRand.Uint64() % uint64(len(ids))`, then `ids[submitter]` on every output channel – the list is indexed as it was handed in (no copy, sort or de-duplication). -/
theorem c07_submitter_shape :
    Gen.DosnodeFlow.choseSubmitter = [
      "func choseSubmitter(ctx context.Context, p p2p.P2PInterface, e onchain.ProxyAdapter, lastSysRand *big.Int, ids [][]byte, outCount int, logger log.Logger) ([]chan []byte, chan error)",
      "  errc := make(chan error)",
      "  var outs []chan []byte",
      "  for i := 0; i < outCount; i++",
      "    outs = append(outs, make(chan []byte, 1))",
      "  go func() ()",
      "    defer close(errc)",
      "    start := time.Now()",
      "    submitter := lastSysRand.Uint64() % uint64(len(ids))",
      "    for _, out := range outs",
      "      select",
      "        case out <- ids[submitter]",
      "        case <-ctx.Done()",
      "    for _, out := range outs",
      "      close(out)",
      "    return",
      "  return outs, errc"]
    ∧ Gen.DosnodeFlow.choseSubmitterRefs = [
      "ctxKey"] := by
  refine ⟨?_, ?_⟩ <;> rfl

example : "        case out <- ids[submitter]" ∈ Gen.DosnodeFlow.choseSubmitter := by simp [Gen.DosnodeFlow.choseSubmitter]

/-- the way of the signed content to the chain: `genSign` stores the content in `sign.Content` and signs exactly it; `dispatchSign` forwards the message unchanged – and, since /repo 7f58072, closes `out` and returns WITHOUT registering for the peers' shares when `genSign` delivered no share (`!ok || sign == nil`: the content stage of this node failed); `recoverSign` (since /repo 3a1c0bc it defers `drainSigns`, which only receives and drops) recovers and verifies over `sign.Content`, then reports `Content: queryResult` = the first `len(Content) - addrLen` bytes (`make` + `copy`); `reportQueryResult` hands that message to `UpdateRandomness` / `DataReturn` unchanged. -/
theorem c07_sign_report_shape :
    Gen.DosnodeFlow.genSign = [
      "func genSign(ctx context.Context, contentc chan []byte, sec *share.PriShare, suite suites.Suite, sign *vss.Signature, logger log.Logger) (chan *vss.Signature, chan error)",
      "  out := make(chan *vss.Signature)",
      "  errc := make(chan error)",
      "  go func() ()",
      "    defer close(out)",
      "    defer close(errc)",
      "    select",
      "      case content, ok := <-contentc",
      "        if !ok",
      "          return",
      "        sign.Content = content",
      "        sig, err := tbls.Sign(suite, sec, content)",
      "        if err != nil",
      "          select",
      "            case errc <- err",
      "            case <-ctx.Done()",
      "          return",
      "        sign.Signature = sig",
      "        select",
      "          case <-ctx.Done()",
      "          case out <- sign",
      "        return",
      "      case <-ctx.Done()",
      "        return",
      "  return out, errc"]
    ∧ Gen.DosnodeFlow.genSignRefs = [
      "ctxKey"]
    ∧ Gen.DosnodeFlow.dispatchSign = [
      "func dispatchSign(ctx context.Context, submitterc chan []byte, signc chan *vss.Signature, reqSignc chan request, p p2p.P2PInterface, requestID []byte, threshold int, logger log.Logger) chan *vss.Signature",
      "  out := make(chan *vss.Signature)",
      "  go func() ()",
      "    select",
      "      case submitter, ok := <-submitterc",
      "        if !ok",
      "          close(out)",
      "          return",
      "        if r := bytes.Compare(p.GetID(), submitter); r != 0",
      "          select",
      "            case <-ctx.Done()",
      "            case sign := <-signc",
      "              if _, err := p.Request(ctx, submitter, sign); err != nil",
      "          close(out)",
      "          return",
      "      case <-ctx.Done()",
      "        close(out)",
      "        return",
      "    select",
      "      case <-ctx.Done()",
      "        close(out)",
      "        return",
      "      case sign, ok := <-signc",
      "        if !ok || sign == nil",
      "          close(out)",
      "          return",
      "        select",
      "          case <-ctx.Done()",
      "            close(out)",
      "            return",
      "          case out <- sign",
      "    req := request{ctx: ctx, requestID: string(requestID), threshold: threshold, reply: out}",
      "    select",
      "      case <-ctx.Done()",
      "        close(out)",
      "      case reqSignc <- req",
      "  return out"]
    ∧ Gen.DosnodeFlow.dispatchSignRefs = [
      "ctxKey",
      "request"]
    ∧ Gen.DosnodeFlow.recoverSign = [
      "func recoverSign(ctx context.Context, signc chan *vss.Signature, suite suites.Suite, pubPoly *share.PubPoly, nbThreshold int, nbParticipants int, logger log.Logger) (chan *vss.Signature, chan error)",
      "  out := make(chan *vss.Signature)",
      "  errc := make(chan error)",
      "  go func() ()",
      "    var signShares [][]byte",
      "    var own *vss.Signature",
      "    defer drainSigns(ctx, signc)",
      "    defer close(out)",
      "    defer close(errc)",
      "    for",
      "      select",
      "        case sign, ok := <-signc",
      "          if !ok",
      "            return",
      "          if len(signShares) == 0",
      "          if sign == nil || sign.Signature == nil || sign.Content == nil",
      "            err := errors.New(\"Detected nil pointer and skipped\")",
      "            reportErr(ctx, errc, err)",
      "            continue",
      "          if own == nil",
      "            own = sign",
      "          else",
      "            if sign.Index != own.Index || !bytes.Equal(sign.Content, own.Content)",
      "              err := errors.New(\"share for another content or request type skipped\")",
      "              reportErr(ctx, errc, err)",
      "              continue",
      "          signShares = append(signShares, sign.Signature)",
      "          if len(signShares) >= nbThreshold",
      "            sig, err := tbls.Recover(suite, pubPoly, sign.Content, signShares, nbThreshold, nbParticipants)",
      "            if err != nil",
      "              reportErr(ctx, errc, err)",
      "              continue",
      "            if err = bls.Verify(suite, pubPoly.Commit(), sign.Content, sig); err != nil",
      "              reportErr(ctx, errc, err)",
      "              continue",
      "            x, y := sign.ToBigInt()",
      "            t := len(sign.Content) - addrLen",
      "            if t < 0",
      "              reportErr(ctx, errc, errors.New(\"length of content less than 0\"))",
      "              continue",
      "            queryResult := make([]byte, t)",
      "            copy(queryResult, sign.Content)",
      "            select",
      "              case out <- &vss.Signature{Index: sign.Index, RequestId: sign.RequestId, Content: queryResult, Signature: sig}",
      "              case <-ctx.Done()",
      "            return",
      "        case <-ctx.Done()",
      "          return",
      "  return out, errc"]
    ∧ Gen.DosnodeFlow.recoverSignRefs = [
      "addrLen",
      "ctxKey",
      "drainSigns",
      "reportErr"]
    ∧ Gen.DosnodeFlow.drainSigns = [
      "func drainSigns(ctx context.Context, signc chan *vss.Signature)",
      "  for",
      "    select",
      "      case _, ok := <-signc",
      "        if !ok",
      "          return",
      "      case <-ctx.Done()",
      "        return"]
    ∧ Gen.DosnodeFlow.drainSignsRefs = []
    ∧ Gen.DosnodeFlow.reportQueryResult = [
      "func reportQueryResult(ctx context.Context, chain onchain.ProxyAdapter, queryType uint32, signC chan *vss.Signature) (errc chan error)",
      "  errc = make(chan error)",
      "  go func() ()",
      "    defer close(errc)",
      "    var err error",
      "    select",
      "      case signature, ok := <-signC",
      "        if ok",
      "          if queryType == onchain.TrafficSystemRandom",
      "            err = chain.UpdateRandomness(signature)",
      "          else",
      "            err = chain.DataReturn(signature)",
      "        else",
      "          err = errors.New(\"no signature\")",
      "      case <-ctx.Done()",
      "        return",
      "    if err != nil",
      "      select",
      "        case errc <- err",
      "        case <-ctx.Done()",
      "  return"]
    ∧ Gen.DosnodeFlow.reportQueryResultRefs = [] := by
  refine ⟨?_, ?_, ?_, ?_, ?_, ?_, ?_, ?_, ?_, ?_⟩ <;> rfl

example : "            copy(queryResult, sign.Content)" ∈ Gen.DosnodeFlow.recoverSign := by simp [Gen.DosnodeFlow.recoverSign]

/-- **the whole body of `handleQuery`**: the context, the nonce (which does not enter the content), `sign` with `Index: pType, RequestId: requestID.Bytes()`, then `choseSubmitter(…, lastRand, ids, 2, …)`, the content stage of the kind on `submitterc[0]` with `lastRand.Bytes()` / `requestID.Bytes(), lastRand.Bytes(), useSeed.Bytes()` / `url, selector`, `genSign`, `dispatchSign(…, submitterc[1], signc, d.reqSignc, d.p, requestID.Bytes(), (len(ids)/2 + 1), …)`, `recoverSign(…, pubPoly, (len(ids)/2 + 1), len(ids), …)`, `reportQueryResult(…, pType, …)` – and NOTHING between them: `lastRand`, `requestID`, `useSeed`, `ids` are never assigned. -/
theorem c07_handle_query_shape :
    Gen.DosnodeFlow.handleQuery = [
      "func handleQuery(ids [][]byte, pubPoly *share.PubPoly, sec *share.PriShare, groupID string, requestID, lastRand, useSeed *big.Int, url, selector string, pType uint32)",
      "  queryCtx, cancel := context.WithTimeout(context.Background(), time.Duration(60*d.chain.GetBlockTime())*time.Second)",
      "  defer cancel()",
      "  queryCtxWithValue := context.WithValue(context.WithValue(queryCtx, ctxKey(\"RequestID\"), fmt.Sprintf(\"%x\", requestID)), ctxKey(\"GroupID\"), groupID)",
      "  defer cancel()",
      "  var nonce []byte",
      "  switch pType",
      "    case onchain.TrafficSystemRandom",
      "      var bytes []byte",
      "      bytes = append(bytes, []byte(groupID)...)",
      "      bytes = append(bytes, requestID.Bytes()...)",
      "      bytes = append(bytes, lastRand.Bytes()...)",
      "      nHash := sha256.Sum256(bytes)",
      "      nonce = nHash[:]",
      "    case onchain.TrafficUserRandom",
      "      var bytes []byte",
      "      bytes = append(bytes, []byte(groupID)...)",
      "      bytes = append(bytes, requestID.Bytes()...)",
      "      bytes = append(bytes, lastRand.Bytes()...)",
      "      bytes = append(bytes, useSeed.Bytes()...)",
      "      nHash := sha256.Sum256(bytes)",
      "      nonce = nHash[:]",
      "    case onchain.TrafficUserQuery",
      "      var bytes []byte",
      "      bytes = append(bytes, []byte(groupID)...)",
      "      bytes = append(bytes, requestID.Bytes()...)",
      "      bytes = append(bytes, lastRand.Bytes()...)",
      "      bytes = append(bytes, []byte(url)...)",
      "      bytes = append(bytes, []byte(selector)...)",
      "      nHash := sha256.Sum256(bytes)",
      "      nonce = nHash[:]",
      "  sign := &vss.Signature{ Index: pType, RequestId: requestID.Bytes(), Nonce: nonce, }",
      "  var errcList []chan error",
      "  submitterc, errc := choseSubmitter(queryCtxWithValue, d.p, d.chain, lastRand, ids, 2, d.logger)",
      "  errcList = append(errcList, errc)",
      "  var contentc chan []byte",
      "  switch pType",
      "    case onchain.TrafficSystemRandom",
      "      contentc = genSysRandom(queryCtxWithValue, submitterc[0], lastRand.Bytes(), d.logger)",
      "    case onchain.TrafficUserRandom",
      "      contentc = genUserRandom(queryCtxWithValue, submitterc[0], requestID.Bytes(), lastRand.Bytes(), useSeed.Bytes(), d.logger)",
      "    case onchain.TrafficUserQuery",
      "      contentc, errc = genQueryResult(queryCtxWithValue, submitterc[0], url, selector, d.logger)",
      "      errcList = append(errcList, errc)",
      "  signc, errc := genSign(queryCtxWithValue, contentc, sec, d.suite, sign, d.logger)",
      "  errcList = append(errcList, errc)",
      "  signAllc := dispatchSign(queryCtxWithValue, submitterc[1], signc, d.reqSignc, d.p, requestID.Bytes(), (len(ids)/2 + 1), d.logger)",
      "  errcList = append(errcList, errc)",
      "  recoveredSignc, errc := recoverSign(queryCtxWithValue, signAllc, d.suite, pubPoly, (len(ids)/2 + 1), len(ids), d.logger)",
      "  errcList = append(errcList, errc)",
      "  errcList = append(errcList, reportQueryResult(queryCtxWithValue, d.chain, pType, recoveredSignc))",
      "  allErrc := mergeErrors(queryCtxWithValue, errcList...)",
      "  for",
      "    select",
      "      case err, ok := <-allErrc",
      "        if !ok",
      "          return",
      "      case <-queryCtxWithValue.Done()",
      "        return"]
    ∧ Gen.DosnodeFlow.handleQueryRefs = [
      "choseSubmitter",
      "ctxKey",
      "dispatchSign",
      "genQueryResult",
      "genSign",
      "genSysRandom",
      "genUserRandom",
      "mergeErrors",
      "recoverSign",
      "reportQueryResult"] := by
  refine ⟨?_, ?_⟩ <;> rfl

example : "  submitterc, errc := choseSubmitter(queryCtxWithValue, d.p, d.chain, lastRand, ids, 2, d.logger)" ∈ Gen.DosnodeFlow.handleQuery := by simp [Gen.DosnodeFlow.handleQuery]

/-- **`handleCR`** is started by `onchainLoop` with `randSeed` = the `*big.Int` of the latest request event – the SAME object the concurrently started `handleQuery` reads as `lastRand` / `requestID`.  As pinned it only reads it (`Cmp`, bound of `rand.Int`) or rebinds the local name; an in-place operation on it (e.g. `randSeed.Add(randSeed, …)`) changes this text.  The `evs` cases of the correspondence run check the event objects after the handlers ran. -/
theorem c07_handle_cr_shape :
    Gen.DosnodeFlow.handleCR = [
      "func handleCR(cr *onchain.LogStartCommitReveal, randSeed *big.Int)",
      "  if randSeed.Cmp(big.NewInt(1)) == -1",
      "    randSeed, _ = new(big.Int).SetString(\"21888242871839275222246405745257275088548364400416034343698204186575808495617\", 10)",
      "  sec, err := rand.Int(rand.Reader, randSeed)",
      "  if err != nil",
      "    return",
      "  h := sha3.NewLegacyKeccak256()",
      "  h.Write(math.U256Bytes(sec))",
      "  b := h.Sum(nil)",
      "  hash := byte32(b)",
      "  currentBlockNumber, err := d.chain.CurrentBlock()",
      "  if err != nil",
      "    return",
      "  cid := cr.Cid",
      "  waitCommit := cr.StartBlock.Uint64() - currentBlockNumber + 1",
      "  waitReveal := cr.CommitDuration.Uint64() + 1",
      "  waitRandom := cr.RevealDuration.Uint64() + 1",
      "  if waitCommit < 0",
      "    waitReveal = waitReveal - waitCommit",
      "    waitRandom = waitRandom - waitCommit",
      "    waitCommit = 0",
      "  time.Sleep(time.Duration(waitCommit*d.chain.GetBlockTime()) * time.Second)",
      "  if err := d.chain.Commit(cid, *hash); err != nil",
      "  <-time.After(time.Duration(waitReveal*d.chain.GetBlockTime()) * time.Second)",
      "  if err := d.chain.Reveal(cid, sec); err != nil"] := by
  rfl

example : "  sec, err := rand.Int(rand.Reader, randSeed)" ∈ Gen.DosnodeFlow.handleCR := by simp [Gen.DosnodeFlow.handleCR]

/-- **every occurrence of the stored member list**: in pdkg.go, pdkg_pipes.go and the dosnode files the field `participants` occurs – in ANY position: left-hand side sub-expression, argument of copy / append / sort, range operand, read – only in the store (`participantsWrites`, the literal of `Grouping`) and in the read of `GetGroupIDs`; and `Grouping` hands its parameter `groupIds` (the stored slice IS that slice) to exactly these calls.  What those callees do with it is NOT pinned by text: the `grpk` cases run a COMPLETE key generation on three members and compare every member's list with the announcement afterwards. -/
theorem c07_member_list_uses :
    Gen.DosnodeFlow.participantsUses = [
      "pdkg.go: participants = g.(*group).participants"]
    ∧ Gen.DosnodeFlow.groupIdsUses = [
      "Grouping: group := &group{participants: groupIds}",
      "Grouping: selfPubc, secrc, errc := genPub(ctx, d.logger, d.suite, d.p.GetID(), groupIds, sessionID)",
      "Grouping: errcList = append(errcList, sendToMembers(ctx, d.logger, selfPubcs[0], d.p, groupIds, sessionID))",
      "Grouping: peerPubc := askMembers(ctx, d.logger, d.bufToNode, len(groupIds)-1, 0, sessionID)",
      "Grouping: partPubsc, errc := exchangePub(ctx, d.logger, selfPubcs[1], peerPubc, d.p, groupIds, sessionID)",
      "Grouping: dkgcStep1, errc := genDistKeyGenerator(ctx, d.logger, secrc, partPubsc, len(groupIds), d.suite, sessionID)",
      "Grouping: dkgcStep2, errc := genDealsAndSend(ctx, d.logger, dkgcStep1, d.p, groupIds, sessionID)",
      "Grouping: dkgcStep3, respsc, errc := getAndProcessDeals(ctx, d.logger, dkgcStep2, askMembers(ctx, d.logger, d.bufToNode, len(groupIds)-1, 1, sessionID), sessionID)",
      "Grouping: errcList = append(errcList, sendToMembers(ctx, d.logger, respsc, d.p, groupIds, sessionID))",
      "Grouping: cetifiedDkgc, errc := getAndProcessResponses(ctx, d.logger, dkgcStep3, askMembers(ctx, d.logger, d.bufToNode, (len(groupIds)-1)*(len(groupIds)-1), 2, sessionID), sessionID)"] := by
  refine ⟨?_, ?_⟩ <;> rfl

example : Gen.DosnodeFlow.participantsUses.length = 1 := by decide

/-- the member list from the chain event to `choseSubmitter`: `onchainLoop` starts `handleGrouping(content.NodeId, groupID)`; `handleGrouping` tests membership and calls `d.dkg.Grouping(ctx, groupID, participants)`; `pdkg.Grouping` stores `&group{participants: groupIds}` with `LoadOrStore` (first announcement wins); `GetGroupIDs` returns that field, `GroupDissolve` deletes the entry; `groupInfo` takes `GetGroupIDs(groupID)`; nothing else writes `participants` and package sort is not used anywhere on the way. -/
theorem c07_group_table_shape :
    Gen.DosnodeFlow.handleGrouping = [
      "isMember := false",
      "for _, id := range participants",
      "  if r := bytes.Compare(d.id, id); r == 0",
      "    isMember = true",
      "    break",
      "if !isMember",
      "  return",
      "ctx, cancel := context.WithTimeout(context.Background(), time.Duration(20*d.chain.GetBlockTime())*time.Second)",
      "defer cancel()",
      "var errcList []chan error",
      "outFromDkg, errc, err := d.dkg.Grouping(ctx, groupID, participants)"]
    ∧ Gen.DosnodeFlow.groupingStore = [
      "func Grouping(ctx context.Context, sessionID string, groupIds [][]byte) (chan [5]*big.Int, chan error, error)",
      "  group := &group{participants: groupIds}",
      "  var errcList []chan error",
      "  if _, loaded := d.groups.LoadOrStore(sessionID, group); loaded",
      "    return nil, nil, errors.New(\"dkg: duplicate share public key\")"]
    ∧ Gen.DosnodeFlow.pdkgGetGroupIDs = [
      "func GetGroupIDs(groupId string) (participants [][]byte)",
      "  if g, loaded := d.groups.Load(groupId); loaded",
      "    participants = g.(*group).participants",
      "  return"]
    ∧ Gen.DosnodeFlow.pdkgGroupDissolve = [
      "func GroupDissolve(groupId string)",
      "  d.groups.Delete(groupId)"]
    ∧ Gen.DosnodeFlow.participantsWrites = [
      "pdkg.go: participants: groupIds"]
    ∧ Gen.DosnodeFlow.sortUses = []
    ∧ Gen.ChainHandlerFacts.groupInfo = [
      "ids = d.dkg.GetGroupIDs(groupID)",
      "pubPoly = d.dkg.GetGroupPublicPoly(groupID)",
      "sec = d.dkg.GetShareSecurity(groupID)",
      "if len(ids) == 0 || pubPoly == nil || sec == nil",
      "  err = errors.New(\"No Group info\")",
      "return"]
    ∧ "    go d.handleGrouping(content.NodeId, groupID)" ∈ Gen.ChainHandlerFacts.dispatch := by
  refine ⟨rfl, rfl, rfl, rfl, rfl, rfl, rfl, by simp [Gen.ChainHandlerFacts.dispatch]⟩

example : Gen.DosnodeFlow.participantsWrites.length = 1 := by decide

end Dos.Props.C07
