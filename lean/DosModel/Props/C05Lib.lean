/-
C05 at LIBRARY level: the observation point the property names is
`Certified()/QUAL()/DistKeyShare()` of a `DistKeyGenerator`, not the pipeline of `pdkg_pipes.go`.

Without /repo fix 5814a9f the two last clauses of the property are FALSE here: a generator
that answered a bad deal with a complaint ends `Certified() = true`, `QUAL = [0 1 2]`, and
`DistKeyShare()` returns the rejected share (n = 3: dealer 2 seals f(1)+1 for member 0, everybody else
honest; `aggregator.DealCertified` counts the own complaint as a response, `VerifyDeal` keeps the
rejected deal).  Only `getAndProcessDeals`' early return keeps a node out of that state, and
`C05.finished_approved_all` rests on exactly that (`AllApproved` in `MemberInv`).  The model is the tree
WITH the fix (`Verifier.approved`, `Verifier.DealCertified`); the failing run is replayed from
corpus/C05/006-lib-finished-after-complaint.txt (a `libadv` line on real generators) on every run, and
`pre_fix_rule_certifies_a_complainer` below evaluates that tree's rule on the same run in the model.

All theorems: every field/module, every group, every reachable LIBRARY state – any sequence of
`ProcessDeal`, `ProcessResponse`, `ProcessJustification` calls with ANY arguments (`libRun`), after
`initDistKeyGenerator`.  No pipeline invariant, no hypothesis about the messages.
Helper lemmas: `Proofs/DkgLib.lean`.
-/
import DosModel.Proofs.DkgLib
import Mathlib.Algebra.Order.Field.Rat

set_option linter.unusedSectionVars false

namespace Dos.Props.C05Lib
open Dos Dos.Vss Dos.Dkg

variable {F G : Type} [Field F] [AddCommGroup G] [Module F G] [DecidableEq F] [DecidableEq G]

/-- **L0. the library invariant is reachable-closed**: it holds for the generator
`initDistKeyGenerator` returns and after every sequence of library calls with arbitrary arguments. -/
theorem lib_invariant_reachable (g : G) (long : F) (participants : List G) (f : List F) (d : Gen F G)
    (h : newGen g long participants f = .ok d) (ops : List (LibOp F G)) : LibInv g (libRun g d ops) :=
  libRun_inv g ops d (newGen_lib g long participants f d h)

/-- **L1. `finished_approved_all` at library level.**  In every reachable library state, if
`Certified()` holds then for EVERY dealer of the group the slot's verifier approved the deal it holds
(`approved`, written by the `ProcessEncryptedDeal` that answered it with an approval), that deal is
stored, is consistent with its own commitments (valid threshold, bound session id, share on the
committed polynomial) and its share is for this member's index. -/
theorem finished_approved_all_lib (g : G) (d : Gen F G) (hd : LibInv g d) (hc : certified d = true) :
    ∀ j, j < d.participants.length → ∃ v a dl val, getVerifier d j = some v ∧ v.approved = true ∧
      d.participants[j]? = some v.dealer ∧ v.agg = some a ∧ a.deal = some dl ∧
      Consistent g v.dealer d.participants dl ∧ dl.share = some ⟨(d.index : Int), some val⟩ := by
  intro j hj
  obtain ⟨v, hv, hcert⟩ := (qual_all d hd.len hc).2 j hj
  have hap := dealCertified_approved hcert
  have hs := hd.slot j v hv
  obtain ⟨a, dl, val, h1, h2, h3, h4⟩ := hs.happ hap
  exact ⟨v, a, dl, val, hv, hap, hs.hdealer, h1, h2, by rw [← hs.hvs]; exact h3, h4⟩

/-- **L2. "a recipient that did not approve a deal does not finish", library level.**  If `ProcessDeal`
answered a deal with a complaint, then after ANY further library calls – responses of everybody,
justifications (valid or not), further deals – `Certified()` is false and `DistKeyShare()` refuses. -/
theorem complaint_never_finishes_lib (g : G) (d : Gen F G) (hd : LibInv g d) (dd : DkgDeal F G)
    (resp : DkgResp F G) (r : Response F G) (hok : (processDeal g d dd).2 = .ok resp)
    (hr : resp.resp = some r) (hs : r.status = false) (ops : List (LibOp F G)) :
    certified (libRun g (processDeal g d dd).1 ops) = false ∧
    distKeyShare (libRun g (processDeal g d dd).1 ops) = .err .notCertified := by
  have hinv := libInv_move (processDeal_move g true d dd hd.idx) hd
  obtain ⟨_, r', w, hr', _, hw, hwa⟩ := processDeal_lib g d dd hd resp hok
  rw [hr] at hr'; injection hr' with hr'; subst hr'
  obtain ⟨v', hv', ha'⟩ := approved_stable g ops _ hinv dd.index w hw
  have hnc := not_certified_of_unapproved _ (libRun_inv g ops _ hinv).len dd.index v' hv' (by rw [ha', hwa, hs])
  exact ⟨hnc, by simp [distKeyShare, hnc]⟩

/-- **L3. each finished share lies on the returned public polynomial, library level**: whatever the
generator was sent, if `DistKeyShare()` returns a share then `share • g = Σ Cₖ (i+1)ᵏ` for the returned
commitments (no "all own responses are approvals" hypothesis, unlike `Dkg.Finished.share`). -/
theorem lib_share_on_poly (g : G) (d : Gen F G) (ks : KeyShare F G) (hd : LibInv g d)
    (h : distKeyShare d = .ok ks) :
    ks.shareV • g = pubEval (S := F) ks.commits (d.index : Int) := by
  have hc : certified d = true := by
    rcases hc : certified d with _ | _
    · simp [distKeyShare, hc] at h
    · rfl
  refine share_on_poly_of_consistent g d ks hd.len h fun j hj => ?_
  obtain ⟨v, a, dl, val, hv, _, _, hagg, hdeal, hcons, hsh⟩ := finished_approved_all_lib g d hd hc j hj
  exact ⟨v, a, dl, val, hv, hagg, hdeal, hcons, hsh⟩

/-! ### the run of the header in the model (ℚ, `g = 1`, keys 5, 7, 9; member 0's view) -/

section Examples
def exL : List ℚ := [5, 7, 9]
/-- member 0 (key 5, polynomial 4 + 2x) -/
def exGen : Option (Gen ℚ ℚ) := (newGen (1 : ℚ) 5 exL [4, 2]).toOption
/-- what member `k` (key `long`) deals to member 0 with polynomial `f`; `off` is added to the share -/
def exDeal (k : Nat) (long : ℚ) (f : List ℚ) (off : ℚ) : DkgDeal ℚ ℚ :=
  ⟨k, sealDeal (1 : ℚ) long exL 0 (11 + k) 0
    (.deal { (honestDeal (1 : ℚ) long exL f 0 : Deal ℚ ℚ) with share := some ⟨0, some (priEval f 0 + off)⟩ })⟩
def exSid (long : ℚ) (f : List ℚ) : Sid ℚ := .h long exL (commit (1 : ℚ) f) f.length
/-- an approval of `responder` (key `sk`) for the dealing (dealer key `long`, polynomial `f`) -/
def exResp (dealer responder : Nat) (sk long : ℚ) (f : List ℚ) : LibOp ℚ ℚ :=
  .resp ⟨dealer, some ⟨exSid long f, responder, true, .sign sk (exSid long f) responder true 0⟩⟩
/-- own deal, member 1's good deal, member 2's deal with f(1)+1, then every approval of the others -/
def exOps : List (LibOp ℚ ℚ) :=
  [.deal (exDeal 0 5 [4, 2] 0), .deal (exDeal 1 7 [6, 1] 0), .deal (exDeal 2 9 [3, 8] 1),
   exResp 0 1 7 5 [4, 2], exResp 0 2 9 5 [4, 2], exResp 1 2 9 7 [6, 1], exResp 2 1 7 9 [3, 8]]
def exEnd : Option (Gen ℚ ℚ) := exGen.map (fun d => libRun (1 : ℚ) d exOps)

/-- the rule of the tree without /repo 5814a9f (`aggregator.DealCertified` alone decides) -/
def oldCertified (d : Gen ℚ ℚ) : Bool :=
  (List.range d.verifiers.length).all (fun j =>
    match getVerifier d j with
    | some v => (match v.agg with | some a => a.certified | none => false)
    | none => false)

-- member 0 complained about dealer 2 …
example : exGen.map (fun d => ((processDeal (1 : ℚ) (libRun 1 d (exOps.take 2)) (exDeal 2 9 [3, 8] 1)).2.toOption.bind
    (·.resp)).map (·.status)) = some (some false) := by decide +kernel
-- … every aggregator is complete (the old rule certifies all three dealers) …
/-- negation witness for the tree without /repo 5814a9f: `oldCertified` certifies a member that complained -/
theorem pre_fix_rule_certifies_a_complainer : exEnd.map oldCertified = some true := by decide +kernel
-- … and with the fix the generator is not certified and hands out no share (L2 on this run)
example : exEnd.map certified = some false := by decide +kernel
example : exEnd.map (fun d => match distKeyShare d with | .err .notCertified => true | _ => false) = some true := by
  decide +kernel
-- L0/L1/L3 are not vacuous: the all-honest run of the same group is certified and its share is on the polynomial
def exOpsGood : List (LibOp ℚ ℚ) :=
  [.deal (exDeal 0 5 [4, 2] 0), .deal (exDeal 1 7 [6, 1] 0), .deal (exDeal 2 9 [3, 8] 0),
   exResp 0 1 7 5 [4, 2], exResp 0 2 9 5 [4, 2], exResp 1 2 9 7 [6, 1], exResp 2 1 7 9 [3, 8]]
example : (exGen.map (fun d => certified (libRun (1 : ℚ) d exOpsGood))) = some true := by decide +kernel
example : (exGen.map (fun d => match distKeyShare (libRun (1 : ℚ) d exOpsGood) with
    | .ok ks => decide (ks.shareV • (1 : ℚ) = pubEval (S := ℚ) ks.commits 0) | _ => false)) = some true := by
  decide +kernel
end Examples

end Dos.Props.C05Lib
