/-
C02 composed with Primes (and C09) — `recover_unique_driver_scalars` of `Props/C02.lean` takes
`[Fact q.Prime]`; here the scalar type is `Zq r` with `r = Share.bn256Order`, the bn256 group order
regenerated from /repo, which `Proofs/Primes.lean` proves prime.  So for the scalars the drivers run,
the C02 theorems hold with NO primality and NO `CharGt` hypothesis: every `n` a Go `int` can hold is
below `r`.  What remains (visible as instance arguments): `G` is a module over `Zq r` (for the real G1:
the curve group has exponent `r`; the group LAW itself is proved for the real curve in
`Props/C02ComposeG1.lean`), the codec, `deg f < t`.
-/
import DosModel.Props.C02
import DosModel.Props.C09
import DosModel.Proofs.ComposePrimes


namespace Dos.Props.C02Compose
open Dos Dos.Share Dos.Tbls Dos.Compose

variable {G : Type} [AddCommGroup G] [Module (Zq Share.bn256Order) G] [DecidableEq G]

/-- `c02_code_facts` pins `G1.r` to the alt_bn128 order; it is prime, and it is the modulus of the
scalar type used below -/
theorem scalar_modulus_prime : Nat.Prime G1.r ∧ G1.r = Share.bn256Order := ⟨bn256Order_prime, rfl⟩

/-- `1..n` invertible for every Go `int` -/
theorem charGt_go_int (n : Nat) (hn : n < 2 ^ 63) : CharGt (Zq Share.bn256Order) n :=
  Props.C09.zq_charGt Share.bn256Order n (Nat.lt_trans hn (by decide))

/-- **the unique group signature**, bn256 scalars, no primality assumption -/
theorem recover_unique_bn256 (cd : Codec G) (f : List (Zq Share.bn256Order)) (hm : G) (t n : Nat)
    (ht : 0 < t) (hf : f.length ≤ t) (hn : n < 2 ^ 63) (sigs : List Bytes)
    (hq : t ≤ (members cd f hm n sigs).card) :
    recover cd f hm sigs t n = .ok (blsSign cd (f.headD 0) hm) :=
  Props.C02.recover_unique_driver_scalars Share.bn256Order cd f hm t n ht hf
    (Nat.lt_trans hn (by decide)) sigs hq

/-- **subset / order independence**, bn256 scalars -/
theorem recover_subset_order_independent_bn256 (cd : Codec G) (f : List (Zq Share.bn256Order)) (hm : G)
    (t n : Nat) (ht : 0 < t) (hf : f.length ≤ t) (hn : n < 2 ^ 63) (s₁ s₂ : List Bytes)
    (h₁ : t ≤ (members cd f hm n s₁).card) (h₂ : t ≤ (members cd f hm n s₂).card) :
    recover cd f hm s₁ t n = recover cd f hm s₂ t n :=
  Props.C02.recover_subset_order_independent cd f hm t n ht hf (charGt_go_int n hn) s₁ s₂ h₁ h₂

/-- **never a panic**, bn256 scalars: any public polynomial, any entries, any `0 < t`, any Go `int` n -/
theorem recover_total_bn256 (cd : Codec G) (f : List (Zq Share.bn256Order)) (hm : G) (t n : Nat)
    (ht : 0 < t) (hn : n < 2 ^ 63) (sigs : List Bytes) :
    ∀ s, recover cd f hm sigs t n ≠ .panic s :=
  Props.C02.recover_total cd f hm t n ht (charGt_go_int n hn) sigs

/-- the complete case distinction, bn256 scalars, ANY public polynomial -/
theorem recover_characterised_bn256 (cd : Codec G) (f : List (Zq Share.bn256Order)) (hm : G)
    (t n : Nat) (ht : 0 < t) (hn : n < 2 ^ 63) (sigs : List Bytes) :
    recover cd f hm sigs t n
      = if t < f.length then .errThreshold
        else if t ≤ (members cd f hm n sigs).card then .ok (blsSign cd (f.headD 0) hm)
        else .errFew :=
  Props.C02.recover_characterised cd f hm t n ht (charGt_go_int n hn) sigs

/-- a qualifying list built from what `tbls.Sign` emits (C02 `signed_share_valid` + `recover_unique`,
any field / module): ANY `t` distinct members' shares (each index `< n ≤ 65536`), in any order with
anything else in between, recover the group signature -/
theorem recover_signed_shares {F : Type} [Field F] [DecidableEq F] {G : Type} [AddCommGroup G]
    [Module F G] [DecidableEq G] (cd : Codec G) (hcd : ∀ p, cd.decode (cd.encode p) = some p)
    (f : List F) (hm : G) (t n : Nat) (ht : 0 < t) (hf : f.length ≤ t) (hc : CharGt F n)
    (hn : n ≤ 65536) (signers : List Nat) (hnd : signers.Nodup) (hin : ∀ i ∈ signers, i < n)
    (hcount : t ≤ signers.length) (sigs : List Bytes)
    (hpresent : ∀ i ∈ signers, tblsSign cd f hm i ∈ sigs) :
    recover cd f hm sigs t n = .ok (blsSign cd (f.headD 0) hm) := by
  refine Props.C02.recover_unique cd f hm t n ht hf hc sigs
    (hcount.trans (le_card_members cd f hm n sigs signers hnd fun i hi => ?_))
  exact ⟨_, hpresent i hi,
    Props.C02.signed_share_valid cd hcd f hm n i (hin i hi) (by have := hin i hi; omega)⟩

/-- … on the bn256 scalars, no primality / `CharGt` hypothesis -/
theorem recover_signed_shares_bn256 (cd : Codec G) (hcd : ∀ p, cd.decode (cd.encode p) = some p)
    (f : List (Zq Share.bn256Order)) (hm : G) (t n : Nat) (ht : 0 < t) (hf : f.length ≤ t)
    (hn : n ≤ 65536) (signers : List Nat) (hnd : signers.Nodup) (hin : ∀ i ∈ signers, i < n)
    (hcount : t ≤ signers.length) (sigs : List Bytes)
    (hpresent : ∀ i ∈ signers, tblsSign cd f hm i ∈ sigs) :
    recover cd f hm sigs t n = .ok (blsSign cd (f.headD 0) hm) :=
  recover_signed_shares cd hcd f hm t n ht hf (charGt_go_int n (Nat.lt_of_le_of_lt hn (by decide))) hn
    signers hnd hin hcount sigs hpresent

/-! ### non-vacuity: the REAL scalar field, points as discrete logs (`G = Zq r`, a module over itself),
a codec writing the residue in 32 big-endian bytes is not needed — the one-byte toy codec of the
examples suffices to exercise the hypotheses: `f = 4 + 3x`, `H = 2`, members 0 and 2 -/

/-- a codec for discrete-log points modulo the bn256 order: one byte, values `< 256` -/
private def cdR : Codec (Zq Share.bn256Order) :=
  ⟨fun b => match b with
    | [x] => some ((x.toNat : Nat) : Zq Share.bn256Order)
    | _ => none,
   fun p => [UInt8.ofNat p.val]⟩

example : recover cdR [(4 : Zq Share.bn256Order), 3] 2 [[0, 0, 14], [9], [0, 2, 26], [0, 1, 21]] 2 3
    = .ok (blsSign cdR (4 : Zq Share.bn256Order) 2) :=
  recover_unique_bn256 cdR [(4 : Zq Share.bn256Order), 3] 2 2 3 (by decide) (by decide) (by decide) _
    (by decide +kernel)

example : ∀ s, recover cdR [(4 : Zq Share.bn256Order), 3, 9, 9] 2 [[0, 0, 14], [9], [0, 0, 15]] 1 3 ≠ .panic s :=
  recover_total_bn256 cdR _ 2 1 3 (by decide) (by decide) _

/-- four coefficients, `t = 1`: refused by the guard (the characterisation's first branch) -/
example : recover cdR [(4 : Zq Share.bn256Order), 3, 9, 9] 2 [[0, 0, 14], [9], [0, 0, 15]] 1 3
    = .errThreshold := by
  rw [recover_characterised_bn256 cdR _ 2 1 3 (by decide) (by decide)]; rfl

open C02 in
example : recover toyCodec [(4 : Zq 11), 3] 2
    [[7], tblsSign toyCodec [(4 : Zq 11), 3] 2 2, [0, 1, 1], tblsSign toyCodec [(4 : Zq 11), 3] 2 0] 2 3
    = .ok (blsSign toyCodec (4 : Zq 11) 2) :=
  recover_signed_shares toyCodec toyCodec_roundtrip [(4 : Zq 11), 3] 2 2 3 (by decide) (by decide)
    (C09.zq_charGt 11 3 (by decide)) (by decide) [2, 0] (by decide) (by decide) (by decide) _ (by decide)

end Dos.Props.C02Compose
