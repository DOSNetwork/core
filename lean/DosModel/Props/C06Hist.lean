/-
C06 — call HISTORIES: `bls.Verify` / `bls.Sign` / `tbls.Verify` are functions of the byte VALUES their
arguments hold at call time, and of nothing else.

Property theorems only (helpers: `Proofs/BlsHist.lean`; semantics: `Model/BlsHist.lean`).

The history semantics `runWith` runs a list of steps — the caller's mutations of shared memory (Go slice
semantics: refill in place, poke, append into spare capacity, re-slice; key / scalar objects set again)
interleaved with calls — against an ARBITRARY implementation with hidden state that is even handed the
caller's memory at every call.  The model of the code as it is (`runHist`) is the implementation without
hidden state.  What is proved, for all histories, all initial memories and every instance of the
group/pairing operations:
  * `hist_is_pointwise`: the outcome list equals, call by call, the one-shot function (`Bls.verify`,
    `Bls.sign`) applied to the values the arguments hold at call time;
  * `hidden_state_is_invisible`: any implementation, whatever state it keeps, whose calls return the one-shot
    outcome has exactly the model's histories — so a disagreement between the real code and `runHist` on
    one history (what the correspondence run looks for with its `hist` cases) is a call that did not return
    the one-shot outcome;
  * `hist_compositional`, `hist_call_erasure`: a call leaves the caller's memory alone; removing or
    inserting calls changes no other call's outcome;
  * `hist_refill_reads_back`: the memory model does what Go does on a refill;
  * on the instance the driver evaluates: `hist_verify_accepts_iff`, `hist_sign_emits_canonical`;
  * `memo_alias_is_not_pointwise`: the semantics is not blind — the implementation that remembers the
    caller's message SLICE with its hash point (a hash memo keyed by the slice header) has a history on which
    it differs.
-/
import DosModel.Proofs.BlsHist
import DosModel.Props.C06

namespace Dos.Props.C06Hist
open Dos Dos.Bn256 Dos.Codec Dos.Bls Dos.BlsHist

variable {P1 P2 PT : Type}

/-- **every outcome of every history is the one-shot function of the values at call time** -/
theorem hist_is_pointwise (o : BlsOps P1 P2 PT) (k : KeyOps P2) (st : Store P2) (steps : List (Step P2)) :
    runHist o k st steps = (argsAt o k st steps).map (outcomeOf o k) :=
  runHist_pointwise o k st steps

/-- the refill pattern: verify, overwrite the message buffer in place, verify the old signature, then the
new one — accept / reject / accept -/
example : runHist toyOps toyKeyOps {}
    [.upd (.alloc 0 4 [1]), .upd (.setKey 0 7), .upd (.alloc 1 1 [14]), .call (.verify 0 0 1) none,
     .upd (.write 0 [2]), .call (.verify 0 0 1) none, .upd (.write 1 [21]), .call (.verify 0 0 1) none]
    = [.verdict .accept, .verdict .rejectPairing, .verdict .accept] := by decide
example : argsAt toyOps toyKeyOps {}
    [.upd (.alloc 0 4 [1]), .upd (.setKey 0 7), .upd (.alloc 1 1 [14]), .call (.verify 0 0 1) none,
     .upd (.write 0 [2]), .call (.verify 0 0 1) none]
    = [some (.verify 7 [1] [14]), some (.verify 7 [2] [14])] := by decide

/-- **hidden state cannot show**: an implementation with any state `σ` (which it may update at every call
and which may refer to the caller's memory) whose calls return the one-shot outcome of the current values
produces exactly the model's outcome list on every history -/
theorem hidden_state_is_invisible {σ : Type} (o : BlsOps P1 P2 PT) (k : KeyOps P2) (I : Impl σ P2)
    (hI : ∀ s st c, (I.call s st c).1 = evalCall o k st c) (s : σ) (st : Store P2)
    (steps : List (Step P2)) : runWith I s st steps = runHist o k st steps := by
  rw [runHist_pointwise]; exact runWith_pointwise o k I hI steps s st

/-- a call counter is hidden state that does not show -/
example : runWith (σ := Nat) ⟨0, fun n st c => (evalCall toyOps toyKeyOps st c, n + 1)⟩ 0 {}
    [.upd (.alloc 0 4 [1]), .upd (.setKey 0 7), .upd (.alloc 1 1 [14]), .call (.verify 0 0 1) none]
    = runHist toyOps toyKeyOps {}
    [.upd (.alloc 0 4 [1]), .upd (.setKey 0 7), .upd (.alloc 1 1 [14]), .call (.verify 0 0 1) none] :=
  hidden_state_is_invisible toyOps toyKeyOps _ (fun _ _ _ => rfl) _ _ _

/-- histories compose: the outcomes of `pre ++ post` are those of `pre` followed by those of `post` run on
the memory `pre` leaves — and that memory is computed with the one-shot functions only -/
theorem hist_compositional (o : BlsOps P1 P2 PT) (k : KeyOps P2) (st : Store P2)
    (pre post : List (Step P2)) :
    runHist o k st (pre ++ post) = runHist o k st pre ++ runHist o k (storeAfter o k st pre) post ∧
    storeAfter o k st (pre ++ post) = storeAfter o k (storeAfter o k st pre) post :=
  ⟨runHist_append o k pre post st, storeAfter_append o k pre post st⟩

example : (storeAfter toyOps toyKeyOps ({} : Store Int)
    [.upd (.alloc 0 4 [1]), .upd (.write 0 [2, 3])]).read 0 = some [2, 3] := by decide

/-- **a call leaves no trace**: with the call inserted the other calls' outcomes are what they are without it
(the caller's memory after a call whose result is not stored is the memory before it) -/
theorem hist_call_erasure (o : BlsOps P1 P2 PT) (k : KeyOps P2) (st : Store P2)
    (pre post : List (Step P2)) (c : Call) :
    runHist o k st (pre ++ .call c none :: post) =
      runHist o k st pre ++ evalCall o k (storeAfter o k st pre) c :: runHist o k (storeAfter o k st pre) post ∧
    runHist o k st (pre ++ post) = runHist o k st pre ++ runHist o k (storeAfter o k st pre) post := by
  refine ⟨?_, runHist_append o k pre post st⟩
  rw [runHist_append, runHist_call_none]

example : runHist toyOps toyKeyOps {}
    ([.upd (.alloc 0 4 [1]), .upd (.setKey 0 7), .upd (.alloc 1 1 [14])] ++ .call (.verify 0 0 1) none ::
      [.upd (.write 0 [2]), .call (.verify 0 0 1) none])
    = [] ++ .verdict .accept :: [.verdict .rejectPairing] := by decide

/-- the memory model on a refill: whatever the buffer and its aliases were, after `b = b[:n]; copy(b, bytes)`
(or the fresh allocation when the capacity does not suffice) buffer `b` reads `bytes` -/
theorem hist_refill_reads_back (st : Store P2) (hwf : st.WF) (b : Nat) (bytes : Bytes) :
    (st.apply (.write b bytes)).read b = some bytes := read_write st hwf b bytes

example : (({} : Store Int).apply (.write 3 [1, 2])).read 3 = some [1, 2] :=
  hist_refill_reads_back _ Store.WF_empty 3 [1, 2]
/- an alias (sub-slice of the same backing array) sees the refill, a re-slice up to the capacity sees the
appended bytes -/
example : let st := (((({} : Store Int).apply (.alloc 0 8 [1, 2, 3])).apply (.slice 1 0 1 3)).apply
      (.write 0 [7, 8, 9])).apply (.append 0 [5])
    (st.read 1 = some [8, 9]) ∧ ((st.apply (.slice 2 1 0 3)).read 2 = some [8, 9, 5]) := by decide

/-! ### on the instance the correspondence driver evaluates -/

/-- **in every history, a `Verify` call accepts iff the signature bytes AT CALL TIME parse to x·(h·g₁)**,
h = keccak256(message bytes at call time) mod r, x the key's discrete log at call time -/
theorem hist_verify_accepts_iff (st : Store Nat) (steps : List (Step Nat)) (i x : Nat) (msg sig : Bytes)
    (h : (argsAt evalOps evalKeyOps st steps)[i]? = some (some (.verify x msg sig))) :
    (runHist evalOps evalKeyOps st steps)[i]? = some (.verdict .accept) ↔
      ∃ S, unmarshalG1 sig = .ok S ∧ S = G1.smul x (G1.smul (keccakScalar msg) g1gen) := by
  rw [hist_is_pointwise, List.getElem?_map, h]
  simp only [Option.map_some, outcomeOf, oneShot, Option.some.injEq, Outcome.verdict.injEq]
  exact C06.evalOps_verify_iff x msg sig

/-- in every history a `Sign` call emits the canonical 64-byte encoding of a valid curve point, determined by
the scalar and the message bytes at call time -/
theorem hist_sign_emits_canonical (st : Store Nat) (steps : List (Step Nat)) (i x : Nat) (msg : Bytes)
    (h : (argsAt evalOps evalKeyOps st steps)[i]? = some (some (.sign x msg))) :
    ∃ S : G1, G1.valid S = true ∧
      (runHist evalOps evalKeyOps st steps)[i]? = some (.signature (marshalG1 S)) ∧
      (marshalG1 S).length = 64 ∧ unmarshalG1 (marshalG1 S) = .ok S ∧
      S = G1.smul x (G1.smul (keccakScalar msg) g1gen) := by
  have hv := reachable_valid (sign_reachable x msg)
  refine ⟨_, hv, ?_, marshalG1_length _, by simpa using unmarshalG1_marshalG1 _ hv [], rfl⟩
  rw [hist_is_pointwise, List.getElem?_map, h]
  simp only [Option.map_some, outcomeOf, oneShot, sign_evalOps]

example : (argsAt evalOps evalKeyOps {}
    [.upd (.alloc 0 0 []), .upd (.setKey 0 0), .upd (.alloc 1 64 (List.replicate 64 0)),
     .call (.verify 0 0 1) none])[0]? = some (some (.verify 0 [] (List.replicate 64 0))) := by decide
example : (runHist evalOps evalKeyOps {}
    [.upd (.alloc 0 0 []), .upd (.setKey 0 0), .upd (.alloc 1 64 (List.replicate 64 0)),
     .call (.verify 0 0 1) none])[0]? = some (.verdict .accept) :=
  (hist_verify_accepts_iff {} _ 0 0 [] (List.replicate 64 0) (by decide)).mpr ⟨.inf, by decide, rfl⟩

/-! ### the semantics distinguishes an implementation that remembers the caller's slice -/

/-- **a hash memo keyed by the caller's slice is not pointwise**: an implementation that keeps the caller's message slice (not a
copy of its bytes) with the point it hashed to accepts the signature of the OLD content after the buffer was
refilled in place, and rejects the signature of the new content -/
theorem memo_alias_is_not_pointwise :
    ∃ steps : List (Step Int),
      runWith (memoImpl toyOps toyKeyOps) none {} steps ≠ runHist toyOps toyKeyOps {} steps ∧
      runWith (memoImpl toyOps toyKeyOps) none {} steps = [.verdict .accept, .verdict .accept, .verdict .rejectPairing] ∧
      runHist toyOps toyKeyOps {} steps = [.verdict .accept, .verdict .rejectPairing, .verdict .accept] :=
  ⟨[.upd (.alloc 0 4 [1]), .upd (.setKey 0 7), .upd (.alloc 1 1 [14]), .call (.verify 0 0 1) none,
     .upd (.write 0 [2]), .call (.verify 0 0 1) none, .upd (.write 1 [21]), .call (.verify 0 0 1) none],
    by decide, by decide, by decide⟩

/-- with fresh slices for every call the same implementation is indistinguishable from the model: the
history cases of the correspondence run are what exposes it -/
example : runWith (memoImpl toyOps toyKeyOps) none {}
    [.upd (.alloc 0 4 [1]), .upd (.setKey 0 7), .upd (.alloc 1 1 [14]), .call (.verify 0 0 1) none,
     .upd (.alloc 2 4 [2]), .call (.verify 0 2 1) none, .upd (.alloc 3 1 [21]), .call (.verify 0 2 3) none]
    = runHist toyOps toyKeyOps {}
    [.upd (.alloc 0 4 [1]), .upd (.setKey 0 7), .upd (.alloc 1 1 [14]), .call (.verify 0 0 1) none,
     .upd (.alloc 2 4 [2]), .call (.verify 0 2 1) none, .upd (.alloc 3 1 [21]), .call (.verify 0 2 3) none] := by
  decide

end Dos.Props.C06Hist
