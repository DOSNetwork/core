/-
C02 — threshold recovery returns the unique group signature for any qualifying set.

Theorems about `Model/Tbls.lean` (byte-level model of `tbls.Recover` as repaired in /repo by
4404707, 3dee076, f036cda, 3cdfff8 on top of `share.RecoverCommit` as repaired by 2d8b40a), for an
ARBITRARY field `F` of scalars, `F`-module `G` of signature points, codec, public polynomial `f`
(ANY number of coefficients: a threshold `t` below it is refused by the code itself), hashed
message point `hm = H(m)`, share count `n` with `1..n ≠ 0` in `F`, and ARBITRARY list of byte
strings `sigs`.

`members cd f hm n sigs` is the set of member numbers `i < n` for which SOME entry of the list
carries index `i` and verifies (`= f(i+1) • H(m)` after decoding – any encoding, any position,
any multiplicity).  Everything else in the list (short entries, undecodable points, wrong index,
other message, other polynomial, index ≥ n) is junk.
"1.", "2.", "3." in the docstrings are the three theorems DESIGN §6 C02 lists.
-/
import DosModel.Proofs.Tbls
import DosModel.Proofs.ShareZq
import DosModel.Proofs.CodecBytes
import DosModel.Model.TblsDrv
import DosModel.Props.C09

set_option linter.unusedSectionVars false

namespace Dos.Props.C02
open Dos Dos.Share Dos.Tbls

variable {F : Type} [Field F] [DecidableEq F]
variable {G : Type} [AddCommGroup G] [Module F G] [DecidableEq G]

/-- regenerated from /repo: the share index is a 2-byte big-endian prefix (`SigShare.Index`), the
curve constants are the alt_bn128 ones. -/
theorem c02_code_facts :
    Gen.tblsIndexBytes = 2 ∧ Gen.tblsIndexBigEndian = true
    ∧ G1.p = 21888242871839275222246405745257275088696311157297823662689037894645226208583
    ∧ G1.r = 21888242871839275222246405745257275088548364400416034343698204186575808495617 := by
  decide

/-- **the code the model transcribes, statement by statement** (regenerated from `sign/tbls/tbls.go`,
`sign/bls/bls.go`, `share/poly.go` on every run, go/printer text with nesting depth): the index prefix
(`binary.Read` of a `uint16`, big-endian; `Value` = `[2:]`), `Sign`, `Verify`, `sliceUniqMap`, the whole loop
of `Recover` (threshold guard of 3cdfff8, skip on index error, `dup || i >= n`, skip on failed verification,
`return nil, err` on the second decode, `seen[i]`, `len(pubShares) >= t` / `break`), `bls.Sign` / `bls.Verify`
/ `hashToPoint`, and what `Recover` calls in `share/poly.go`. ANY edit breaks this obligation. -/
theorem c02_code_shape :
    Gen.TblsShape.sigShareIndex = [
      "0| func (s SigShare) Index() (int, error)",
      "1| var index uint16",
      "1| buf := bytes.NewReader(s)",
      "1| err := binary.Read(buf, binary.BigEndian, &index)",
      "1| if err != nil",
      "2| return -1, err",
      "1| return int(index), nil"
    ] ∧
    Gen.TblsShape.sigShareValue = [
      "0| func (s *SigShare) Value() []byte",
      "1| return []byte(*s)[2:]"
    ] ∧
    Gen.TblsShape.tblsSign = [
      "0| func Sign(suite suites.Suite, private *share.PriShare, msg []byte) ([]byte, error)",
      "1| buf := new(bytes.Buffer)",
      "1| if err := binary.Write(buf, binary.BigEndian, uint16(private.I)); err != nil",
      "2| return nil, err",
      "1| s, err := bls.Sign(suite, private.V, msg)",
      "1| if err != nil",
      "2| return nil, err",
      "1| if err := binary.Write(buf, binary.BigEndian, s); err != nil",
      "2| return nil, err",
      "1| return buf.Bytes(), nil"
    ] ∧
    Gen.TblsShape.tblsVerify = [
      "0| func Verify(suite suites.Suite, public *share.PubPoly, msg, sig []byte) error",
      "1| s := SigShare(sig)",
      "1| i, err := s.Index()",
      "1| if err != nil",
      "2| return err",
      "1| return bls.Verify(suite, public.Eval(i).V, msg, s.Value())"
    ] ∧
    Gen.TblsShape.sliceUniqMap = [
      "0| func sliceUniqMap(s [][]byte) [][]byte",
      "1| seen := make(map[string]struct{}, len(s))",
      "1| j := 0",
      "1| for _, v := range s",
      "2| if _, ok := seen[string(v)]; ok",
      "3| continue",
      "2| seen[string(v)] = struct{}{}",
      "2| s[j] = v",
      "2| j++",
      "1| return s[:j]"
    ] ∧
    Gen.TblsShape.tblsRecover = [
      "0| func Recover(suite suites.Suite, public *share.PubPoly, msg []byte, sigs [][]byte, t, n int) ([]byte, error)",
      "1| if t < public.Threshold()",
      "2| return nil, errors.New(\"tbls: threshold smaller than the threshold of the public polynomial\")",
      "1| pubShares := make([]*share.PubShare, 0)",
      "1| sigs = sliceUniqMap(sigs)",
      "1| seen := make(map[int]struct{})",
      "1| for _, sig := range sigs",
      "2| s := SigShare(sig)",
      "2| i, err := s.Index()",
      "2| if err != nil",
      "3| continue",
      "2| if _, dup := seen[i]; dup || i >= n",
      "3| continue",
      "2| if err = bls.Verify(suite, public.Eval(i).V, msg, s.Value()); err != nil",
      "3| continue",
      "2| point := suite.G1().Point()",
      "2| if err := point.UnmarshalBinary(s.Value()); err != nil",
      "3| return nil, err",
      "2| seen[i] = struct{}{}",
      "2| pubShares = append(pubShares, &share.PubShare{I: i, V: point})",
      "2| if len(pubShares) >= t",
      "3| break",
      "1| commit, err := share.RecoverCommit(suite.G1(), pubShares, t, n)",
      "1| if err != nil",
      "2| return nil, err",
      "1| sig, err := commit.MarshalBinary()",
      "1| if err != nil",
      "2| return nil, err",
      "1| return sig, nil"
    ] ∧
    Gen.TblsShape.blsSign = [
      "0| func Sign(suite suites.Suite, x kyber.Scalar, msg []byte) ([]byte, error)",
      "1| HM := hashToPoint(suite, msg)",
      "1| xHM := HM.Mul(x, HM)",
      "1| s, err := xHM.MarshalBinary()",
      "1| if err != nil",
      "2| return nil, err",
      "1| return s, nil"
    ] ∧
    Gen.TblsShape.blsVerify = [
      "0| func Verify(suite suites.Suite, X kyber.Point, msg, sig []byte) error",
      "1| HM := hashToPoint(suite, msg)",
      "1| s := suite.G1().Point()",
      "1| if err := s.UnmarshalBinary(sig); err != nil",
      "2| return err",
      "1| s.Neg(s)",
      "1| if !suite.PairingCheck([]kyber.Point{s, HM}, []kyber.Point{suite.G2().Point().Base(), X})",
      "2| return errors.New(\"bls: invalid signature\")",
      "1| return nil"
    ] ∧
    Gen.TblsShape.hashToPoint = [
      "0| func hashToPoint(suite suites.Suite, msg []byte) kyber.Point",
      "1| hash := sha3.NewLegacyKeccak256()",
      "1| var buf []byte",
      "1| hash.Write(msg)",
      "1| buf = hash.Sum(buf)",
      "1| x := suite.G1().Scalar().SetBytes(buf)",
      "1| point := suite.G1().Point().Mul(x, nil)",
      "1| return point"
    ] ∧
    Gen.TblsShape.recoverCommit = [
      "0| func RecoverCommit(g kyber.Group, shares []*PubShare, t, n int) (kyber.Point, error)",
      "1| x := make(map[int]kyber.Scalar)",
      "1| seen := make(map[int]struct{})",
      "1| for i, s := range shares",
      "2| if s == nil || s.V == nil || s.I < 0 || n <= s.I",
      "3| continue",
      "2| if _, dup := seen[s.I]; dup",
      "3| continue",
      "2| seen[s.I] = struct{}{}",
      "2| x[i] = g.Scalar().SetInt64(1 + int64(s.I))",
      "1| if len(x) < t",
      "2| return nil, errors.New(\"share: not enough good public shares to reconstruct secret commitment\")",
      "1| num := g.Scalar()",
      "1| den := g.Scalar()",
      "1| tmp := g.Scalar()",
      "1| Acc := g.Point().Null()",
      "1| Tmp := g.Point()",
      "1| for i, xi := range x",
      "2| num.One()",
      "2| den.One()",
      "2| for j, xj := range x",
      "3| if i == j",
      "4| continue",
      "3| num.Mul(num, xj)",
      "3| den.Mul(den, tmp.Sub(xj, xi))",
      "2| Tmp.Mul(num.Div(num, den), shares[i].V)",
      "2| Acc.Add(Acc, Tmp)",
      "1| return Acc, nil"
    ] ∧
    Gen.TblsShape.pubEval = [
      "0| func (p *PubPoly) Eval(i int) *PubShare",
      "1| xi := p.g.Scalar().SetInt64(1 + int64(i))",
      "1| v := p.g.Point().Null()",
      "1| for j := p.Threshold() - 1; j >= 0; j--",
      "2| v.Mul(xi, v)",
      "2| v.Add(v, p.commits[j])",
      "1| return &PubShare{i, v}"
    ] ∧
    Gen.TblsShape.pubThreshold = [
      "0| func (p *PubPoly) Threshold() int",
      "1| return len(p.commits)"
    ] ∧
    Gen.TblsShape.pubCommit = [
      "0| func (p *PubPoly) Commit() kyber.Point",
      "1| return p.commits[0]"
    ] :=
  ⟨rfl, rfl, rfl, rfl, rfl, rfl, rfl, rfl, rfl, rfl, rfl, rfl, rfl⟩

/-- **no state is carried from one call to the next** (regenerated from /repo on every run by
`go/extract/pkgvars`: ALL package-level `var` declarations): `sign/tbls` and `sign/bls` have none, `share`
has the two error values only and nothing outside `init` writes them. A memo table / pool / cache added to
one of the three packages breaks this obligation; it is what justifies modelling a sequence of calls by the
models of the calls. -/
theorem c02_no_package_state :
    Gen.PkgVars.signTbls = [] ∧ Gen.PkgVars.signBls = []
    ∧ Gen.PkgVars.share.map (fun v => (v.file, v.name)) = [("poly.go", "errorGroups"), ("poly.go", "errorCoeffs")]
    ∧ Gen.PkgVars.share.all (fun v => !v.written) = true :=
  ⟨by decide, by decide, C09.c09_no_package_state⟩

/-- **in a call history (`hist` lines, what `drv_c02` executes) only an explicit buffer write changes the
state**: `Recover`, `Verify`, `Sign` steps leave it as it is, so what a later call answers is a function of
its own arguments (and of the bytes its message buffer holds then) – never of the member sequences, shares
or results of earlier recoveries. -/
theorem hist_only_writes_change_state (t n : Nat) (f : List Fr) (bufs : List (Nat × Fr))
    (toks : List String) (h : toks.head? ≠ some "w") : (histTok t n f bufs toks).1 = bufs := by
  unfold histTok
  split
  · simp at h   -- the `w` step is excluded by `h`
  -- `s`, `bs`, `v`, `bv`, `r`, `rr`: `bufs` is returned in both branches of the parse
  iterate 6 (simp only []; split <;> rfl)
  -- anything else is `bad-op`
  rfl

/-- **1. Lagrange at zero in the signature group** (the algebra behind recovery): for distinct
nodes `L` and a polynomial of degree `< |L|`,
`Σₐ ((Π_{b≠a} b) / Π_{b≠a} (b − a)) • (p(a) • H) = p(0) • H`. -/
theorem lagrange_zero (L : List F) (hL : L.Nodup) (p : Polynomial F) (hdeg : p.degree < L.length)
    (H : G) :
    (L.map fun a => ((1 * ((L.filter (· ≠ a)).map id).prod)
        * (((L.filter (· ≠ a)).map (fun b => b - a)).prod)⁻¹) • (p.eval a • H)).sum
      = p.eval 0 • H :=
  Lagrange.list_numden_smul_at_zero L hL p hdeg H

/-- **2. the unique group signature.** If the list contains valid shares of at least `t` distinct
members – in any order, with exact duplicates, alternative encodings, malformed, invalid,
re-indexed, foreign entries mixed in – `Recover` returns the encoding of `f(0) • H(m)`:
the ordinary BLS signature under the shared secret. -/
theorem recover_unique (cd : Codec G) (f : List F) (hm : G) (t n : Nat) (ht : 0 < t)
    (hf : f.length ≤ t) (hc : CharGt F n) (sigs : List Bytes)
    (hq : t ≤ (members cd f hm n sigs).card) :
    recover cd f hm sigs t n = .ok (blsSign cd (f.headD 0) hm) := by
  rw [recover_eq cd f hm t n ht hf hc sigs, if_pos hq]; rfl

/-- **subset / order independence**: any two qualifying lists give the same bytes. -/
theorem recover_subset_order_independent (cd : Codec G) (f : List F) (hm : G) (t n : Nat)
    (ht : 0 < t) (hf : f.length ≤ t) (hc : CharGt F n) (s₁ s₂ : List Bytes)
    (h₁ : t ≤ (members cd f hm n s₁).card) (h₂ : t ≤ (members cd f hm n s₂).card) :
    recover cd f hm s₁ t n = recover cd f hm s₂ t n := by
  rw [recover_unique cd f hm t n ht hf hc s₁ h₁, recover_unique cd f hm t n ht hf hc s₂ h₂]

/-- qualifying is about the SET of members with a valid entry: permuting the list, repeating
entries or inserting junk never changes it. -/
theorem members_perm_junk (cd : Codec G) (f : List F) (hm : G) (n : Nat) (s₁ s₂ : List Bytes)
    (h : ∀ e, validIdx cd f hm n e ≠ none → (e ∈ s₁ ↔ e ∈ s₂)) :
    members cd f hm n s₁ = members cd f hm n s₂ := by
  ext i
  simp only [members, List.mem_toFinset, List.mem_filterMap]
  constructor
  · rintro ⟨e, he, hv⟩; exact ⟨e, (h e (by simp [hv])).1 he, hv⟩
  · rintro ⟨e, he, hv⟩; exact ⟨e, (h e (by simp [hv])).2 he, hv⟩

/-- an alternative encoding of a valid share (anything that decodes to the same point under the
same index, e.g. trailing bytes) is again a valid share of the same member. -/
theorem reencoding_valid (cd : Codec G) (f : List F) (hm : G) (n : Nat) (e e' : Bytes) (i : Nat)
    (hv : validIdx cd f hm n e = some i) (hi : sigIndex e' = sigIndex e)
    (hd : cd.decode (sigValue e') = cd.decode (sigValue e)) :
    validIdx cd f hm n e' = some i := by
  rw [validIdx_eq_some_iff] at hv ⊢
  rwa [hi, hd]

/-- **3. it never panics**, for any public polynomial whatsoever and any entries. -/
theorem recover_total (cd : Codec G) (f : List F) (hm : G) (t n : Nat) (ht : 0 < t)
    (hc : CharGt F n) (sigs : List Bytes) :
    ∀ s, recover cd f hm sigs t n ≠ .panic s := by
  intro s
  rcases Tbls.recover_total cd f hm t n ht hc sigs with h | h | ⟨r, h⟩ <;> rw [h] <;> simp

/-- **the guard of /repo 3cdfff8**: a threshold smaller than the number of coefficients of the
public polynomial is refused, whatever the list holds (without the guard `t` shares of a polynomial
with more than `t` coefficients interpolate to bytes that are not the group signature). -/
theorem recover_threshold_guard (cd : Codec G) (f : List F) (hm : G) (t n : Nat) (sigs : List Bytes)
    (hlt : t < f.length) : recover cd f hm sigs t n = .errThreshold :=
  recover_guard cd f hm t n sigs hlt

/-- **the complete case distinction, NO hypothesis on the polynomial**: refused if `t` is below the
number of coefficients; otherwise the group signature if `≥ t` members qualify, else "not enough
shares". -/
theorem recover_characterised (cd : Codec G) (f : List F) (hm : G) (t n : Nat) (ht : 0 < t)
    (hc : CharGt F n) (sigs : List Bytes) :
    recover cd f hm sigs t n
      = if t < f.length then .errThreshold
        else if t ≤ (members cd f hm n sigs).card then .ok (blsSign cd (f.headD 0) hm)
        else .errFew :=
  recover_eq_full cd f hm t n ht hc sigs

/-- **whatever `Recover` returns is the group signature** – no hypothesis relating `t` to the
polynomial: the guard supplies `len f ≤ t`. -/
theorem recover_ok_is_group_signature (cd : Codec G) (f : List F) (hm : G) (t n : Nat) (ht : 0 < t)
    (hc : CharGt F n) (sigs : List Bytes) (s : Bytes) (h : recover cd f hm sigs t n = .ok s) :
    s = blsSign cd (f.headD 0) hm ∧ f.length ≤ t ∧ t ≤ (members cd f hm n sigs).card := by
  rw [recover_characterised cd f hm t n ht hc sigs] at h
  split_ifs at h with h1 h2
  · injection h with h
    exact ⟨h.symm, Nat.le_of_not_lt h1, h2⟩

/-- **`Recover` compacts the caller's slice in place** (`sliceUniqMap` writes `s[j] = v`); what is left in it
is the same SET of entries, so a second `Recover` on the same slice object answers what the first did. -/
theorem recover_after_in_place_compaction (cd : Codec G) (f : List F) (hm : G) (t n : Nat) (ht : 0 < t)
    (hc : CharGt F n) (sigs : List Bytes) :
    recover cd f hm (uniqInPlace sigs) t n = recover cd f hm sigs t n := by
  rw [recover_eq_full cd f hm t n ht hc, recover_eq_full cd f hm t n ht hc sigs, members_uniqInPlace]

/-- **the wire format of a share has a 2-byte index**: for ANY member number `i` (also `i ≥ 2^16`) what
`tbls.Sign` emits carries index `i mod 2^16` (`uint16(private.I)`) in front of `x_i • H(m)`. The format
therefore addresses members `0 … 65535` only – a declared limit of the format (the same in dedis/kyber),
not a defect of recovery: a share of member `i ≥ 2^16` is labelled with another member's number and is then
an "other index" share, which `Verify` / `Recover` never count (`C03.oversize_member_share_never_counts`). -/
theorem signed_share_index_truncated (cd : Codec G) (f : List F) (hm : G) (i : Nat) :
    sigIndex (tblsSign cd f hm i) = some (i % 65536)
    ∧ sigValue (tblsSign cd f hm i) = blsSign cd (priEval f (i : Int)) hm := by
  refine ⟨?_, rfl⟩
  -- the two index bytes are `natBE 2 i`, and `sigIndex` reads them back as `beNat` does
  have h := CodecBytes.beNat_natBE_mod 2 i
  simp only [natBE, beNat, List.foldl_cons, List.foldl_nil, Nat.zero_mul, Nat.zero_add] at h
  exact congrArg some h

/-- a share produced by `tbls.Sign` for member `i < n` is valid (given a codec that round-trips
and an index that fits the 2-byte prefix) -/
theorem signed_share_valid (cd : Codec G) (hcd : ∀ p, cd.decode (cd.encode p) = some p)
    (f : List F) (hm : G) (n i : Nat) (hi : i < n) (h16 : i < 65536) :
    validIdx cd f hm n (tblsSign cd f hm i) = some i := by
  obtain ⟨h1, h2⟩ := signed_share_index_truncated cd f hm i
  rw [validIdx_eq_some_iff, h1, h2, Nat.mod_eq_of_lt h16]
  exact ⟨rfl, hi, hcd _⟩

/-! ### the driver's instance: scalars `Zq r` (a field for prime `r`) -/

theorem zqCharGt (q : Nat) [Fact q.Prime] (n : Nat) (hn : n < q) : CharGt (Zq q) n :=
  C09.zq_charGt q n hn

theorem recover_unique_driver_scalars (q : Nat) [Fact q.Prime] {G : Type} [AddCommGroup G]
    [Module (Zq q) G] [DecidableEq G] (cd : Codec G) (f : List (Zq q)) (hm : G) (t n : Nat)
    (ht : 0 < t) (hf : f.length ≤ t) (hn : n < q) (sigs : List Bytes)
    (hq : t ≤ (members cd f hm n sigs).card) :
    recover cd f hm sigs t n = .ok (blsSign cd (f.headD 0) hm) :=
  recover_unique cd f hm t n ht hf (zqCharGt q n hn) sigs hq

/-! ### non-vacuity (dlog representation `G := Zq 11`, identity-like codec on one byte) -/

instance : Fact (Nat.Prime 11) := ⟨by decide⟩

/-- toy codec: a point of `Zq 11` is one byte; longer input is accepted (tail ignored) -/
def toyCodec : Codec (Zq 11) :=
  ⟨fun b => match b with
    | x :: _ => if h : x.toNat < 11 then some ⟨x.toNat, h⟩ else none
    | [] => none,
   fun p => [UInt8.ofNat p.val]⟩

/-- the toy signature list of the examples below (their statements spell it out). `f = 4 + 3x`, `H = 2`: shares of members
0,1,2 are `7•2=3, 10•2=9, 13•2=4 (mod 11)`.
The list: junk, member 2, member 2 re-encoded with a trailing byte, a too-short entry, member 0
with a wrong value, member 0 – two members qualify for `t = 2`. -/
abbrev toySigs : List Bytes := [[0, 9, 200], [0, 2, 4], [0, 2, 4, 77], [5], [0, 0, 8], [0, 0, 3]]

theorem toy_recover :
    recover toyCodec [(4 : Zq 11), 3] 2 toySigs 2 3 = .ok (blsSign toyCodec (4 : Zq 11) 2) := by
  decide

theorem toy_members_card : (members toyCodec [(4 : Zq 11), 3] 2 3 toySigs).card = 2 := by decide

example : recover toyCodec [(4 : Zq 11), 3] 2
    [[0, 9, 200], [0, 2, 4], [0, 2, 4, 77], [5], [0, 0, 8], [0, 0, 3]] 2 3
    = .ok (blsSign toyCodec (4 : Zq 11) 2) := toy_recover

example : (members toyCodec [(4 : Zq 11), 3] 2 3
    [[0, 9, 200], [0, 2, 4], [0, 2, 4, 77], [5], [0, 0, 8], [0, 0, 3]]).card = 2 := toy_members_card

example : recover toyCodec [(4 : Zq 11), 3] 2 [[0, 2, 4], [0, 2, 4, 77], [5], [0, 0, 8]] 2 3
    = .errFew := by decide

theorem toyCodec_roundtrip : ∀ p : Zq 11, toyCodec.decode (toyCodec.encode p) = some p := by
  rintro ⟨v, hv⟩
  have h : (UInt8.ofNat v).toNat = v := by
    simp only [UInt8.toNat_ofNat']; omega
  simp [toyCodec, h, hv]

/-- the hypotheses of `recover_unique` hold for that list (members 0 and 2 qualify) -/
example : recover toyCodec [(4 : Zq 11), 3] 2
    [[0, 9, 200], [0, 2, 4], [0, 2, 4, 77], [5], [0, 0, 8], [0, 0, 3]] 2 3
    = .ok (blsSign toyCodec (4 : Zq 11) 2) :=
  recover_unique_driver_scalars 11 toyCodec [(4 : Zq 11), 3] 2 2 3 (by decide) (by decide)
    (by decide) _ toy_members_card.ge

example : validIdx toyCodec [(4 : Zq 11), 3] 2 3 (tblsSign toyCodec [(4 : Zq 11), 3] 2 1) = some 1 :=
  signed_share_valid toyCodec toyCodec_roundtrip _ _ 3 1 (by decide) (by decide)

/-- `recover_subset_order_independent`: members {0,2} with junk and a re-encoding vs members {1,2}
in another order -/
example : recover toyCodec [(4 : Zq 11), 3] 2
    [[0, 9, 200], [0, 2, 4], [0, 2, 4, 77], [5], [0, 0, 8], [0, 0, 3]] 2 3
    = recover toyCodec [(4 : Zq 11), 3] 2 [[0, 2, 4, 1, 2, 3], [], [0, 1, 9], [0, 2, 4]] 2 3 :=
  recover_subset_order_independent toyCodec [(4 : Zq 11), 3] 2 2 3 (by decide) (by decide)
    (zqCharGt 11 3 (by decide)) _ _ toy_members_card.ge (by decide)

/-- `members_perm_junk`: reversed, one entry repeated, junk replaced by other junk -/
example : members toyCodec [(4 : Zq 11), 3] 2 3 [[0, 9, 200], [0, 2, 4], [5], [0, 0, 3]]
    = members toyCodec [(4 : Zq 11), 3] 2 3 [[0, 0, 3], [0, 0, 3], [7, 7], [0, 2, 4]] := by decide

/-- `reencoding_valid`: member 2's share with three trailing bytes -/
example : validIdx toyCodec [(4 : Zq 11), 3] 2 3 [0, 2, 4, 9, 9, 9] = some 2 :=
  reencoding_valid toyCodec [(4 : Zq 11), 3] 2 3 [0, 2, 4] [0, 2, 4, 9, 9, 9] 2 (by decide)
    (by decide) (by decide)

/-- `recover_total`: member 2 under two encodings, the input of the panic repaired by /repo 3dee076 -/
example : recover toyCodec [(4 : Zq 11), 3] 2 [[0, 2, 4], [0, 2, 4, 77], [0, 0, 3]] 2 3
    ≠ .panic .div0 :=
  recover_total toyCodec [(4 : Zq 11), 3] 2 2 3 (by decide) (zqCharGt 11 3 (by decide)) _ .div0

/-- `recover_threshold_guard`: coefficients 4,3,1, `t = 2`, shares of members 0 and 1 (the input of
the defect repaired by /repo 3cdfff8): refused -/
example : recover toyCodec [(4 : Zq 11), 3, 1] 2 [[0, 0, 5], [0, 1, 6]] 2 3 = .errThreshold :=
  recover_threshold_guard toyCodec [(4 : Zq 11), 3, 1] 2 2 3 _ (by decide)

example : recover toyCodec [(4 : Zq 11), 3, 1] 2 [[0, 0, 5], [0, 1, 6]] 2 3 = .errThreshold := by
  decide

/-- `recover_ok_is_group_signature` on the qualifying list -/
example : blsSign toyCodec (4 : Zq 11) 2 = blsSign toyCodec (([(4 : Zq 11), 3]).headD 0) 2
    ∧ ([(4 : Zq 11), 3]).length ≤ 2 ∧ 2 ≤ (members toyCodec [(4 : Zq 11), 3] 2 3
        [[0, 9, 200], [0, 2, 4], [0, 2, 4, 77], [5], [0, 0, 8], [0, 0, 3]]).card :=
  recover_ok_is_group_signature toyCodec [(4 : Zq 11), 3] 2 2 3 (by decide)
    (zqCharGt 11 3 (by decide)) _ _ toy_recover

/-- `hist_only_writes_change_state`: a `Recover` step over two entries leaves the buffer table alone -/
example : (histTok 2 3 [(4 : Fr), 3] [(0, 5)] ["r", "0", "0000aa;0001bb"]).1 = [(0, 5)] :=
  hist_only_writes_change_state 2 3 _ _ _ (by decide)

/-- `signed_share_index_truncated`: member 65538's share is labelled 2 -/
example : sigIndex (tblsSign toyCodec [(4 : Zq 11), 3] 2 65538) = some 2 :=
  (signed_share_index_truncated toyCodec [(4 : Zq 11), 3] 2 65538).1

/-- `recover_after_in_place_compaction`: `[a, a, b]` is `[a, b, b]` in the caller's slice afterwards -/
example : uniqInPlace [[0, 2, 4], [0, 2, 4], [0, 0, 3]] = [[0, 2, 4], [0, 0, 3], [0, 0, 3]] := by decide

example : recover toyCodec [(4 : Zq 11), 3] 2 (uniqInPlace [[0, 2, 4], [0, 2, 4], [0, 0, 3]]) 2 3
    = recover toyCodec [(4 : Zq 11), 3] 2 [[0, 2, 4], [0, 2, 4], [0, 0, 3]] 2 3 :=
  recover_after_in_place_compaction toyCodec _ 2 2 3 (by decide) (zqCharGt 11 3 (by decide)) _

end Dos.Props.C02
