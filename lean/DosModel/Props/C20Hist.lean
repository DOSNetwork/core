/-
C20 — call HISTORIES: `schnorr.Sign` / `schnorr.Verify` are functions of the VALUES their arguments hold at
call time, and of nothing else.

Property theorems only (helpers: Proofs/SchnorrHist.lean; semantics: Model/SchnorrHist.lean).

`runWith` runs a list of steps — the caller's in-place mutations of shared objects (one private `kyber.Scalar` object
that is added to / re-picked / set again, a public `kyber.Point` object recomputed in place, message and signature
buffers overwritten in place) interleaved with calls — against an ARBITRARY implementation with hidden state that is
even handed the caller's memory at every call.  The model of the code as it is (`runHist`) is the implementation
without hidden state.  Proved, for all histories, all initial memories, every group record and every hash:
  * `sign_is_pointwise`: the outcome list equals, call by call, the one-shot function (`Schnorr.sign`,
    `Schnorr.verify`) applied to the values the arguments hold at call time;
  * `no_hidden_state`: any implementation, whatever state it keeps, whose calls return the one-shot outcome has exactly
    the model's histories — so a disagreement between the real code and `runHist` on one history (what the
    correspondence run looks for with its `hist` cases) is a call that did not return the one-shot outcome;
  * `hist_compositional`, `hist_call_erasure`: a call leaves the caller's memory alone; inserting or removing calls
    changes no other call's outcome;
  * `hist_sign_verifies_code`, `hist_verify_sound_code`: in EVERY history over the translated point code, every
    signature `Sign` emits verifies (bundled and RFC 8032 verifier) under x•B for the value x the scalar object holds AT
    THAT CALL, and `Verify` accepts iff the values at call time satisfy the verification equation;
  * `stale_key_cache_is_not_pointwise`: the semantics is not blind — the implementation that remembers the caller's
    scalar OBJECT with its public point (the "last key" cache of /verif/seeded/C20e-sign-pubkey-cache-aliases-private-scalar)
    signs with a stale key after `x.Add(x, one)`;
  * tie `no_package_state`: sign/schnorr has NO package-level variable and group/edwards25519 has exactly the
    constants of const.go / elligator.go, each with an initialiser (regenerated on every run by go/extract/pkgvars
    through the SchnorrFacts extractor): a cache added to either package breaks this theorem.
-/
import DosModel.Proofs.SchnorrHist
import DosModel.Props.C20Lawful

namespace Dos.Props.C20Hist
open Dos Dos.Ed25519 Dos.Schnorr Dos.SchnorrHist Dos.Ge

variable {G : Type}

/-- **tie**: the complete lists of package-level `var`s, regenerated from the source on every run -/
theorem no_package_state :
    Gen.SchnorrFacts.schnorrPkgVars = []
    ∧ Gen.SchnorrFacts.edwardsPkgVars.map (fun v => (v.1, v.2.1)) =
        [("const.go", "prime"), ("const.go", "_"), ("const.go", "primeOrder"), ("const.go", "_"),
         ("const.go", "lMinus2"), ("const.go", "_"), ("const.go", "cofactor"), ("const.go", "fullOrder"),
         ("const.go", "primeOrderScalar"), ("const.go", "cofactorScalar"), ("const.go", "nullPoint"),
         ("const.go", "d"), ("const.go", "d2"), ("const.go", "sqrtM1"), ("const.go", "paramA"),
         ("const.go", "baseext"), ("const.go", "bi"), ("const.go", "base"),
         ("elligator.go", "sqrtMinusA"), ("elligator.go", "sqrtMinusHalf"), ("elligator.go", "halfQMinus1Bytes")]
    ∧ Gen.SchnorrFacts.edwardsPkgVars.all (fun v => v.2.2.2) = true := by
  refine ⟨by decide, by decide, by decide⟩

example : Gen.SchnorrFacts.edwardsPkgVars.length = 21 := by decide

/-- **every outcome of every history is the one-shot function of the values at call time** -/
theorem sign_is_pointwise (g : Grp G) (H : Bytes → Bytes) (st : Store G) (steps : List (Step G)) :
    runHist g H st steps = (argsAt g H st steps).map (outcomeOf g H) :=
  runHist_pointwise g H st steps

/-- the pattern that exposes such a cache: sign, `x.Add(x, one)` on the SAME object, sign again — the second call sees x + 1 -/
example : argsAt toyGrp toyH {}
    [.upd (.scSet 0 5), .upd (.bufWrite 1 [1, 2, 3]), .call (.sign 0 1 7) none,
     .upd (.scSet 9 1), .upd (.scAdd 0 0 9), .call (.sign 0 1 7) none]
    = [some (.sign 5 7 [1, 2, 3]), some (.sign 6 7 [1, 2, 3])] := by
  simp [argsAt, Store.apply, Store.resolve, Store.setScalar, Store.setBuf, capture, evalCall, outcomeOf, oneShot,
    List.lookup]
  decide

/-- **hidden state cannot show**: an implementation with any state `σ` (updated at every call, possibly referring to
the caller's memory) whose calls return the one-shot outcome of the current values produces exactly the model's
outcome list on every history -/
theorem no_hidden_state {σ : Type} (g : Grp G) (H : Bytes → Bytes) (I : Impl σ G)
    (hI : ∀ s st c, (I.call s st c).1 = evalCall g H st c) (s : σ) (st : Store G) (steps : List (Step G)) :
    runWith g I s st steps = runHist g H st steps := by
  rw [runHist_pointwise]; exact runWith_pointwise g H I hI steps s st

/-- a call counter is hidden state that does not show -/
example (steps : List (Step Nat)) :
    runWith (σ := Nat) toyGrp ⟨fun n st c => (evalCall toyGrp toyH st c, n + 1)⟩ 0 {} steps
      = runHist toyGrp toyH {} steps :=
  no_hidden_state toyGrp toyH _ (fun _ _ _ => rfl) _ _ _

/-- histories compose: the outcomes of `pre ++ post` are those of `pre` followed by those of `post` run on the memory
`pre` leaves — and that memory is computed with the one-shot functions only -/
theorem hist_compositional (g : Grp G) (H : Bytes → Bytes) (st : Store G) (pre post : List (Step G)) :
    runHist g H st (pre ++ post) = runHist g H st pre ++ runHist g H (storeAfter g H st pre) post
    ∧ storeAfter g H st (pre ++ post) = storeAfter g H (storeAfter g H st pre) post :=
  ⟨runHist_append g H pre post st, storeAfter_append g H pre post st⟩

example : (storeAfter toyGrp toyH ({} : Store Nat)
    [.upd (.bufWrite 0 [1, 2, 3, 4]), .upd (.bufPoke 0 2 [9, 9, 9])]).bufs.lookup 0 = some [1, 2, 9, 9] := by decide

/-- **a call leaves no trace**: with a call inserted (its result not stored) the other calls' outcomes are what they
are without it -/
theorem hist_call_erasure (g : Grp G) (H : Bytes → Bytes) (st : Store G) (pre post : List (Step G)) (c : Call) :
    runHist g H st (pre ++ .call c none :: post) =
      runHist g H st pre ++ evalCall g H (storeAfter g H st pre) c :: runHist g H (storeAfter g H st pre) post
    ∧ runHist g H st (pre ++ post) = runHist g H st pre ++ runHist g H (storeAfter g H st pre) post := by
  refine ⟨?_, runHist_append g H pre post st⟩
  rw [runHist_append, runHist_call_none]

example : (runHist toyGrp toyH {} ([.upd (.scSet 0 5), .upd (.bufWrite 1 [1])] ++ .call (.sign 0 1 7) none :: [])).length
    = 1 := by
  rw [(hist_call_erasure toyGrp toyH {} _ [] (.sign 0 1 7)).1]; rfl

/-! ### every signature of every history verifies for the key of the value AT CALL TIME -/

/-- for every lawful group record and every hash: if the `i`-th call of a history is `Sign` and the scalar object
holds `x` and the buffer holds `msg` at that moment, the emitted signature is accepted by `Verify` and by the RFC 8032
verifier for the key x•B and that message — whatever happened to the objects before and whatever happens after -/
theorem hist_sign_verifies [AddCommGroup G] {g : Grp G} (L : Lawful g) (H : Bytes → Bytes) (st : Store G)
    (steps : List (Step G)) (i x k : ℕ) (msg : Bytes)
    (h : (argsAt g H st steps)[i]? = some (some (.sign x k msg))) :
    ∃ sig, (runHist g H st steps)[i]? = some (.signature sig)
      ∧ verify g H (g.smul x g.base) msg sig = .ok ()
      ∧ verifyStd g H (g.enc (g.smul x g.base)) msg sig = true := by
  refine ⟨sign g H x k msg, ?_, Props.C20.sign_verifies L H x k msg⟩
  rw [sign_is_pointwise, List.getElem?_map, h]
  rfl

/-- the same on the translated point code, no hypothesis on the group -/
theorem hist_sign_verifies_code (H : Bytes → Bytes) (st : Store Pt) (steps : List (Step Pt)) (i x k : ℕ)
    (msg : Bytes) (h : (argsAt codeGrp H st steps)[i]? = some (some (.sign x k msg))) :
    ∃ sig, (runHist codeGrp H st steps)[i]? = some (.signature sig)
      ∧ verify codeGrp H (codeGrp.smul x codeGrp.base) msg sig = .ok ()
      ∧ verifyStd codeGrp H (codeGrp.enc (codeGrp.smul x codeGrp.base)) msg sig = true :=
  hist_sign_verifies Props.C20Lawful.code_point_layer_lawful H st steps i x k msg h

/-- in every history over the translated point code a `Verify` call accepts iff the VALUES at call time satisfy:
64 bytes, R decodes to a curve point, S canonical, S•B = R + h•A -/
theorem hist_verify_sound_code (H : Bytes → Bytes) (st : Store Pt) (steps : List (Step Pt)) (i : ℕ) (A : Pt)
    (msg sig : Bytes) (h : (argsAt codeGrp H st steps)[i]? = some (some (.verify A msg sig))) :
    (runHist codeGrp H st steps)[i]? = some (.verdict none) ↔
      sig.length = 64 ∧ ∃ R, codeGrp.dec (sig.take 32) = some R ∧ leNat (sig.drop 32) < ell ∧
        leNat (sig.drop 32) • codeGrp.base = R + challenge codeGrp H A R msg • A := by
  rw [sign_is_pointwise, List.getElem?_map, h, ← Props.C20Lawful.verify_sound_code]
  simp only [Option.map_some, outcomeOf, oneShot, Option.some.injEq, Outcome.verdict.injEq]
  cases verify codeGrp H A msg sig <;> simp [verdictOf]

example : (argsAt codeGrp (fun b => b) {} [.upd (.ptSet 0 0), .upd (.bufWrite 1 []), .upd (.bufWrite 2 []),
    .call (.verify 0 1 2) none])[0]? = some (some (.verify 0 [] [])) := rfl

/-! ### the semantics distinguishes an implementation that remembers the caller's scalar object -/

/-- **the "last key" cache is not pointwise**: it keeps the caller's scalar object with the public point of the
value it had; after `x.Add(x, one)` on that object the comparison `lastKey.private.Equal(private)` compares the object
with itself, and the second signature is made with the STALE public point: it differs from the model's, and the
model's verifier rejects it for the key (x+1)•B -/
theorem stale_key_cache_is_not_pointwise :
    ∃ steps : List (Step Nat),
      runWith toyGrp (cacheImpl toyGrp toyH) none {} steps ≠ runHist toyGrp toyH {} steps
      ∧ (runWith toyGrp (cacheImpl toyGrp toyH) none {} steps)[0]? = (runHist toyGrp toyH {} steps)[0]?
      ∧ ∃ sig, (runWith toyGrp (cacheImpl toyGrp toyH) none {} steps)[1]? = some (.signature sig)
          ∧ verify toyGrp toyH (toyGrp.smul 6 toyGrp.base) [1, 2, 3] sig = .error .invalid :=
  ⟨[.upd (.scSet 0 5), .upd (.bufWrite 1 [1, 2, 3]), .call (.sign 0 1 7) none,
     .upd (.scSet 9 1), .upd (.scAdd 0 0 9), .call (.sign 0 1 7) none],
    by decide +kernel, by decide +kernel,
    ⟨signWith toyGrp toyH (toyGrp.smul 5 toyGrp.base) 6 7 [1, 2, 3], by decide +kernel, by decide +kernel⟩⟩

/-- with a fresh object for the new value (`y := x.Clone(); y.Add(y, one)`) the same implementation is
indistinguishable from the model: the history cases with in-place changes are what exposes it -/
example : runWith toyGrp (cacheImpl toyGrp toyH) none {}
    [.upd (.scSet 0 5), .upd (.bufWrite 1 [1, 2, 3]), .call (.sign 0 1 7) none,
     .upd (.scSet 9 1), .upd (.scAdd 2 0 9), .call (.sign 2 1 7) none]
    = runHist toyGrp toyH {}
    [.upd (.scSet 0 5), .upd (.bufWrite 1 [1, 2, 3]), .call (.sign 0 1 7) none,
     .upd (.scSet 9 1), .upd (.scAdd 2 0 9), .call (.sign 2 1 7) none] := by decide +kernel

end Dos.Props.C20Hist
