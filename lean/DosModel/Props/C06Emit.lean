/-
C06 — "every signature and public key the library emits is a canonical EVM encoding", for ALL secret
scalars (0, 1, r−1, values ≥ r), and the source text the hand model transcribes.

Property theorems only (helpers: `Proofs/BlsKeys.lean`, `Proofs/BlsEval.lean`).
  * `sign_emits_canonical_words`: for every scalar x ∈ ℕ and every message, `Sign` emits exactly 64 bytes
    `be32 wx ‖ be32 wy` with wx, wy < p, (wx, wy) a point of y² = x³ + 3 or (0, 0) for the identity, which
    parses back; `sign_zero_key`: x ≡ 0 emits 64 zero bytes; `sign_scalar_mod_r`: the signature depends on x
    only through x mod r — the scalar object holds x mod r (`SetBytes` reduces), so nothing is lost;
  * `pubkey_emits_canonical_words`: for every x, the key x·g₂ is a valid G2 element (on the twist, in the
    order-r subgroup) and encodes as the single byte 0x00 (identity, x ≡ 0 mod r) or as 129 bytes
    0x01 ‖ x.im ‖ x.re ‖ y.im ‖ y.re, every word < p, IMAGINARY PART FIRST, and parses back;
    `pubkey_scalar_mod_r`;
  * `gen_bls_source_pinned`: the function bodies `Model/Bls.lean` / `Model/BlsHist.lean` transcribe
    (bls.Sign/Verify/hashToPoint, pointGT.PairingCheck, the Suite glue G1()/G2()/GT()/PairingCheck/NewSuite,
    the point wrappers Mul/Neg/Base, groupG*.Point, common.Scalar, tbls.Verify, SigShare.Index/Value,
    PubPoly.Eval) are, statement by statement, the text they were written from;
  * `gen_no_package_state`: sign/bls and sign/tbls declare no package-level variable, import nothing that
    could hold one (no sync, no bytes in bls), and consist of exactly the known functions — the static side
    of `C06Hist.hist_is_pointwise`.
-/
import DosModel.Proofs.BlsKeys
import DosModel.Gen.BlsFacts

namespace Dos.Props.C06Emit
open Dos Dos.Bn256 Dos.Codec Dos.CodecBytes Dos.Bls

/-- **every signature `Sign` emits, for every scalar and message, is two canonical 32-byte words of a curve
point** -/
theorem sign_emits_canonical_words (x : Nat) (msg : Bytes) :
    ∃ wx wy, wx < p ∧ wy < p ∧ sign evalOps x msg = be32 wx ++ be32 wy ∧
      (be32 wx).length = 32 ∧ (be32 wy).length = 32 ∧ beNat (be32 wx) = wx ∧ beNat (be32 wy) = wy ∧
      ((wx = 0 ∧ wy = 0) ∨ G1.onCurve (.aff wx wy) = true) ∧
      ∃ S, unmarshalG1 (sign evalOps x msg) = .ok S ∧ G1.valid S = true ∧
        S = G1.smul x (G1.smul (keccakScalar msg) g1gen) := by
  have hv := reachable_valid (sign_reachable x msg)
  rw [sign_evalOps]
  obtain ⟨wx, wy, hx, hy, hm, hs⟩ := marshalG1_words _ hv
  refine ⟨wx, wy, hx, hy, hm, be32_length _, be32_length _, beNat_be32 _ hx,
    beNat_be32 _ hy, ?_, _, ?_, hv, rfl⟩
  · rcases hs with ⟨_, h1, h2⟩ | ⟨_, h⟩
    · exact .inl ⟨h1, h2⟩
    · exact .inr h
  · simpa using unmarshalG1_marshalG1 _ hv []

example : ∃ wx wy, wx < p ∧ wy < p ∧ sign evalOps (2 ^ 300 + 7) [1, 2, 3] = be32 wx ++ be32 wy :=
  let ⟨wx, wy, h1, h2, h3, _⟩ := sign_emits_canonical_words (2 ^ 300 + 7) [1, 2, 3]
  ⟨wx, wy, h1, h2, h3⟩

/-- the secret 0 emits the identity: 64 zero bytes (every multiple of r too, by `sign_scalar_mod_r`: see the
example below it) -/
theorem sign_zero_key (msg : Bytes) : sign evalOps 0 msg = List.replicate 64 0 := rfl

/-- **values ≥ r**: the signature is a function of x mod r -/
theorem sign_scalar_mod_r (x : Nat) (msg : Bytes) :
    sign evalOps x msg = sign evalOps (x % r) msg := by
  rw [sign_evalOps, sign_evalOps, Compose.smul1_mod_r x (.smul _ .base)]

example (msg : Bytes) : sign evalOps r msg = List.replicate 64 0 := by
  rw [sign_scalar_mod_r, Nat.mod_self]; rfl
example (msg : Bytes) : sign evalOps (r + 1) msg = sign evalOps 1 msg := by
  rw [sign_scalar_mod_r]; rfl

/-- **every public key x·g₂, for every scalar**: a valid G2 element whose encoding is 0x00 (identity) or
0x01 followed by four canonical words, imaginary parts first; it parses back to the same element -/
theorem pubkey_emits_canonical_words (x : Nat) :
    G2.valid (G2.smul x g2gen) = true ∧
    ((G2.smul x g2gen = .inf ∧ marshalG2 (G2.smul x g2gen) = [0]) ∨
      ∃ a b c d, a < p ∧ b < p ∧ c < p ∧ d < p ∧ G2.smul x g2gen = .aff ⟨a, b⟩ ⟨c, d⟩ ∧
        marshalG2 (G2.smul x g2gen) = [1] ++ be32 a ++ be32 b ++ be32 c ++ be32 d ∧
        (marshalG2 (G2.smul x g2gen)).length = 129 ∧ G2.onCurve (G2.smul x g2gen) = true) ∧
    unmarshalG2 (marshalG2 (G2.smul x g2gen)) = .ok (G2.smul x g2gen) := by
  have hv := pubkey_valid x
  refine ⟨hv, marshalG2_words _ hv, ?_⟩
  have := unmarshalG2_marshalG2 _ hv []
  simpa using this

/-- the key is a function of x mod r; x ≡ 0 gives the identity key (the 1-byte encoding) -/
theorem pubkey_scalar_mod_r (x : Nat) :
    G2.smul x g2gen = G2.smul (x % r) g2gen ∧ G2.smul 0 g2gen = .inf ∧ marshalG2 (G2.smul 0 g2gen) = [0] :=
  ⟨Compose.smul2_mod_r x g2gen Compose.g2gen_valid, rfl, rfl⟩

example : G2.smul r g2gen = .inf := by rw [(pubkey_scalar_mod_r r).1, Nat.mod_self]; rfl
example : G2.valid (G2.smul (2 ^ 300 + 5) g2gen) = true := (pubkey_emits_canonical_words _).1
set_option maxRecDepth 100000 in
example : (marshalG2 (G2.smul 1 g2gen)).length = 129 := by decide +kernel

/-! ## regenerated source text -/

/-- the statements of `sign/bls/bls.go` and `pointGT.PairingCheck` that `Model/Bls.lean` transcribes -/
theorem gen_bls_source_pinned :
    Gen.Bls.bls_hashToPoint_src = ["func hashToPoint(suite suites.Suite, msg []byte) kyber.Point {",
      "hash := sha3.NewLegacyKeccak256()", "var buf []byte", "hash.Write(msg)", "buf = hash.Sum(buf)",
      "x := suite.G1().Scalar().SetBytes(buf)", "point := suite.G1().Point().Mul(x, nil)", "return point", "}"] ∧
    Gen.Bls.bls_Verify_src = ["func Verify(suite suites.Suite, X kyber.Point, msg, sig []byte) error {",
      "HM := hashToPoint(suite, msg)", "s := suite.G1().Point()",
      "if err := s.UnmarshalBinary(sig); err != nil {", "return err", "}", "s.Neg(s)",
      "if !suite.PairingCheck([]kyber.Point{s, HM}, []kyber.Point{suite.G2().Point().Base(), X}) {",
      "return errors.New(\"bls: invalid signature\")", "}", "return nil", "}"] ∧
    Gen.Bls.bls_Sign_src = ["func Sign(suite suites.Suite, x kyber.Scalar, msg []byte) ([]byte, error) {",
      "HM := hashToPoint(suite, msg)", "xHM := HM.Mul(x, HM)", "s, err := xHM.MarshalBinary()",
      "if err != nil {", "return nil, err", "}", "return s, nil", "}"] ∧
    Gen.Bls.pointGT_PairingCheck_src = ["func (p *pointGT) PairingCheck(a []kyber.Point, b []kyber.Point) bool {",
      "acc := new(gfP12)", "acc.SetOne()", "for i := 0; i < len(a); i++ {", "ap := a[i].(*pointG1).g",
      "bp := b[i].(*pointG2).g", "if ap.IsInfinity() || bp.IsInfinity() {", "continue", "}",
      "acc.Mul(acc, miller(bp, ap))", "}", "return finalExponentiation(acc).IsOne()", "}"] := by
  and_intros <;> rfl

/-- the bn256 suite glue and the point wrappers `bls.go` goes through: `suite.G1()/G2()/GT()` hand out the
group objects `NewSuite` made, their `Point()`/`Scalar()` make fresh values (scalars mod `Order`),
`Suite.PairingCheck` is `pointGT.PairingCheck`, `Mul(s, nil)` multiplies the generator (`curveGen`,
`twistGen`), `Neg` negates -/
theorem gen_suite_glue_pinned :
    Gen.Bls.Suite_G1_src = ["func (s *Suite) G1() kyber.Group {", "return s.g1", "}"] ∧
    Gen.Bls.Suite_G2_src = ["func (s *Suite) G2() kyber.Group {", "return s.g2", "}"] ∧
    Gen.Bls.Suite_GT_src = ["func (s *Suite) GT() kyber.Group {", "return s.gt", "}"] ∧
    Gen.Bls.Suite_PairingCheck_src = ["func (s *Suite) PairingCheck(a []kyber.Point, b []kyber.Point) bool {",
      "return s.GT().Point().(*pointGT).PairingCheck(a, b)", "}"] ∧
    Gen.Bls.NewSuite_src = ["func NewSuite() *Suite {", "s := &Suite{commonSuite: &commonSuite{}}",
      "s.g1 = &groupG1{commonSuite: s.commonSuite}", "s.g2 = &groupG2{commonSuite: s.commonSuite}",
      "s.gt = &groupGT{commonSuite: s.commonSuite}", "return s", "}"] ∧
    Gen.Bls.groupG1_Point_src = ["func (g *groupG1) Point() kyber.Point {", "return newPointG1()", "}"] ∧
    Gen.Bls.groupG2_Point_src = ["func (g *groupG2) Point() kyber.Point {", "return newPointG2()", "}"] ∧
    Gen.Bls.common_Scalar_src = ["func (c *common) Scalar() kyber.Scalar {", "return mod.NewInt64(0, Order)", "}"] ∧
    Gen.Bls.pointG1_Mul_src = ["func (p *pointG1) Mul(s kyber.Scalar, q kyber.Point) kyber.Point {",
      "if q == nil {", "q = newPointG1().Base()", "}", "t := s.(*mod.Int).V", "r := q.(*pointG1).g",
      "p.g.Mul(r, &t)", "return p", "}"] ∧
    Gen.Bls.pointG2_Mul_src = ["func (p *pointG2) Mul(s kyber.Scalar, q kyber.Point) kyber.Point {",
      "if q == nil {", "q = newPointG2().Base()", "}", "t := s.(*mod.Int).V", "r := q.(*pointG2).g",
      "p.g.Mul(r, &t)", "return p", "}"] ∧
    Gen.Bls.pointG1_Neg_src = ["func (p *pointG1) Neg(q kyber.Point) kyber.Point {", "x := q.(*pointG1).g",
      "p.g.Neg(x)", "return p", "}"] ∧
    Gen.Bls.pointG1_Base_src = ["func (p *pointG1) Base() kyber.Point {", "p.g.Set(curveGen)", "return p", "}"] ∧
    Gen.Bls.pointG2_Base_src = ["func (p *pointG2) Base() kyber.Point {", "p.g.Set(twistGen)", "return p", "}"] := by
  and_intros <;> rfl

/-- what `Model/BlsHist.lean` transcribes of the threshold layer: `tbls.Verify` = index (2 bytes big-endian),
`bls.Verify` with the key `PubPoly.Eval(i)` (Horner at i+1) on `sig[2:]` -/
theorem gen_tbls_source_pinned :
    Gen.Bls.tbls_Verify_src = ["func Verify(suite suites.Suite, public *share.PubPoly, msg, sig []byte) error {",
      "s := SigShare(sig)", "i, err := s.Index()", "if err != nil {", "return err", "}",
      "return bls.Verify(suite, public.Eval(i).V, msg, s.Value())", "}"] ∧
    Gen.Bls.SigShare_Index_src = ["func (s SigShare) Index() (int, error) {", "var index uint16",
      "buf := bytes.NewReader(s)", "err := binary.Read(buf, binary.BigEndian, &index)", "if err != nil {",
      "return -1, err", "}", "return int(index), nil", "}"] ∧
    Gen.Bls.SigShare_Value_src = ["func (s *SigShare) Value() []byte {", "return []byte(*s)[2:]", "}"] ∧
    Gen.Bls.PubPoly_Eval_src = ["func (p *PubPoly) Eval(i int) *PubShare {",
      "xi := p.g.Scalar().SetInt64(1 + int64(i))", "v := p.g.Point().Null()",
      "for j := p.Threshold() - 1; j >= 0; j-- {", "v.Mul(xi, v)", "v.Add(v, p.commits[j])", "}",
      "return &PubShare{i, v}", "}"] := by
  and_intros <;> rfl

/-- **no package-level state**: neither package declares a variable; `bls` imports no `sync`/`bytes`/…;
the packages consist of exactly these functions -/
theorem gen_no_package_state :
    Gen.Bls.bls_package_vars = [] ∧ Gen.Bls.tbls_package_vars = [] ∧
    Gen.Bls.bls_imports = ["crypto/cipher", "errors", "github.com/DOSNetwork/core/suites",
      "github.com/dedis/kyber", "golang.org/x/crypto/sha3"] ∧
    Gen.Bls.tbls_imports = ["bytes", "encoding/binary", "errors", "github.com/DOSNetwork/core/share",
      "github.com/DOSNetwork/core/sign/bls", "github.com/DOSNetwork/core/suites"] ∧
    Gen.Bls.bls_funcs = ["NewKeyPair", "Sign", "Verify", "hashToPoint"] ∧
    Gen.Bls.tbls_funcs = ["Recover", "SigShare.Index", "SigShare.Value", "Sign", "Verify", "sliceUniqMap"] := by
  and_intros <;> rfl

/-- the other emitter and the two coordinate splitters the contract calls go through, as `Model/Codec.lean`
(`decodePubKey`, `sigToBigInt`) and the `kp` cases transcribe them: `NewKeyPair` = (x, x·G2 base) with x picked
from the stream; `decodePubKey` answers with an ERROR below 129 bytes (the identity marshals to one byte) and
else reads the words at 1, 33, 65, 97; `ToBigInt` leaves (0, 0) below 32 bytes, else `[0:32]` and `[32:]` -/
theorem gen_splitters_pinned :
    Gen.Bls.bls_NewKeyPair_src = ["func NewKeyPair(suite suites.Suite, random cipher.Stream) (kyber.Scalar, kyber.Point) {",
      "x := suite.G2().Scalar().Pick(random)", "X := suite.G2().Point().Mul(x, nil)", "return x, X", "}"] ∧
    Gen.Bls.dkg_decodePubKey_src = ["func decodePubKey(pubKey kyber.Point) (pubKeyCoor [4]*big.Int, err error) {",
      "pubKeyMar, err := pubKey.MarshalBinary()", "if err != nil {", "return", "}",
      "if len(pubKeyMar) < 32*4+1 {", "err = errors.New(\"public key is the point at infinity\")", "return", "}",
      "for i := 0; i < 4; i++ {", "pubKeyCoor[i] = new(big.Int).SetBytes(pubKeyMar[32*i+1 : 32*i+33])", "}",
      "return", "}"] ∧
    Gen.Bls.Signature_ToBigInt_src = ["func (m *Signature) ToBigInt() (x, y *big.Int) {", "x = new(big.Int)",
      "y = new(big.Int)", "if len(m.Signature) < 32 {", "return", "}", "x.SetBytes(m.Signature[0:32])",
      "y.SetBytes(m.Signature[32:])", "return", "}"] := by
  and_intros <;> rfl

/-- **group/bn256 keeps no mutable package-level state**: the complete list of its package-level variables
(file, name, written outside `init` — assigned, `++`, address taken, a method called on it) is exactly the
constants, generators and reflect types below; only `hasBMI2` (CPU feature flag, set by the C10 hook) counts as
written.  A cache / pool / memo table / counter added to the package (`var g1EqualBuf = sync.Pool{…}`,
`var g2Checked = struct{…}`, `var millerCalls uint32`) changes this list -/
theorem gen_bn256_package_state :
    Gen.Bls.bn256_package_vars = [("constants.go", "u", false), ("constants.go", "Order", false),
      ("constants.go", "P", false), ("constants.go", "p2", false), ("constants.go", "np", false),
      ("constants.go", "rN1", false), ("constants.go", "r2", false), ("constants.go", "r3", false),
      ("constants.go", "xiToPMinus1Over6", false), ("constants.go", "xiToPMinus1Over3", false),
      ("constants.go", "xiToPMinus1Over2", false), ("constants.go", "xiToPSquaredMinus1Over3", false),
      ("constants.go", "xiTo2PSquaredMinus2Over3", false), ("constants.go", "xiToPSquaredMinus1Over6", false),
      ("constants.go", "xiTo2PMinus2Over3", false), ("curve.go", "curveB", false), ("curve.go", "curveGen", false),
      ("gfp.go", "hasBMI2", true), ("gfp12.go", "gfP12Gen", false), ("gfp12.go", "gfP12Inf", false),
      ("optate.go", "sixuPlus2NAF", false), ("suite.go", "aScalar", false), ("suite.go", "aPoint", false),
      ("suite.go", "aPointG1", false), ("suite.go", "aPointG2", false), ("suite.go", "aPointGT", false),
      ("suite.go", "tScalar", false), ("suite.go", "tPoint", false), ("suite.go", "tPointG1", false),
      ("suite.go", "tPointG2", false), ("suite.go", "tPointGT", false), ("twist.go", "twistB", false),
      ("twist.go", "twistGen", false)] := rfl

end Dos.Props.C06Emit
