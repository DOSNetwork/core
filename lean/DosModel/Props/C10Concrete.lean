/-
C10 — the group laws for the CONCRETE Montgomery models of G1 and G2: the functions `Jac.add`,
`Jac.double`, `Jac.curveMul`, `Jac.twistMul` over `GFp` / `Fp2 GFp` that the driver runs (and that are
compared with curve.go / twist.go limb for limb, receiver and aliasing included, on every check run),
on reduced inputs whose Montgomery decodings are valid points, keep everything reduced and compute the
operations of the elliptic-curve groups E(F_p) : y² = x³ + b and E'(F_p²) : y² = x³ + b' of Mathlib.
Only theorems; lemmas in Proofs/Bn256Natural.lean, Bn256Concrete.lean, Bn256Concrete2.lean, Bn256Residue.lean.
-/
import DosModel.Proofs.Bn256G2Torsion

namespace Dos.Props.C10Concrete
open Dos Dos.Bn256

/-- **G1**: Add, Double and Mul of curve.go in Montgomery form are +, doubling and k • in E(F_p) -/
theorem g1_group_law (bb : ZMod Bn256.p) (c a b : Jac GFp) (hc : Jac.Reduced c) (ha : Jac.Reduced a)
    (hb : Jac.Reduced b) (va : Valid bb (Jac.decJ a)) (vb : Valid bb (Jac.decJ b)) (k : Nat) :
    (Jac.Reduced (Jac.add c a b) ∧ Valid bb (Jac.decJ (Jac.add c a b)) ∧
      toPoint bb (Jac.decJ (Jac.add c a b)) = toPoint bb (Jac.decJ a) + toPoint bb (Jac.decJ b)) ∧
    (Jac.Reduced (Jac.double c a) ∧ Valid bb (Jac.decJ (Jac.double c a)) ∧
      toPoint bb (Jac.decJ (Jac.double c a)) = toPoint bb (Jac.decJ a) + toPoint bb (Jac.decJ a)) ∧
    (Jac.Reduced (Jac.curveMul a k) ∧ toPoint bb (Jac.decJ (Jac.curveMul a k)) = k • toPoint bb (Jac.decJ a)) :=
  have ra := ha.rep va
  ⟨(g1_law bb).add hc ra (hb.rep vb), (g1_law bb).double hc ra, ((g1_law bb).curveMul k ra).1,
    ((g1_law bb).curveMul k ra).2.2⟩

/-- **G2**: Add and Mul of twist.go over Montgomery gfP2 are + and k • in E'(F_p²) -/
theorem g2_group_law (bb : Fp2 (ZMod Bn256.p)) (c a b : Jac (Fp2 GFp)) (hc : Jac.Reduced2 c)
    (ha : Jac.Reduced2 a) (hb : Jac.Reduced2 b) (va : Valid bb (Jac.decJ2 a)) (vb : Valid bb (Jac.decJ2 b))
    (k : Nat) :
    (Jac.Reduced2 (Jac.add c a b) ∧ Valid bb (Jac.decJ2 (Jac.add c a b)) ∧
      toPoint bb (Jac.decJ2 (Jac.add c a b)) = toPoint bb (Jac.decJ2 a) + toPoint bb (Jac.decJ2 b)) ∧
    (Jac.Reduced2 (Jac.twistMul a k) ∧
      toPoint bb (Jac.decJ2 (Jac.twistMul a k)) = k • toPoint bb (Jac.decJ2 a)) :=
  have ra := ha.rep va
  ⟨(g2_law bb).add hc ra (hb.rep vb), ((g2_law bb).twistMul k ra).1, ((g2_law bb).twistMul k ra).2.2⟩

/-- the code's curve coefficient decodes to 3, and its G1 generator is a reduced triple decoding to the affine
point (1, 2) — a valid (nonsingular) point of y² = x³ + 3 over F_p: the hypotheses above are satisfiable -/
theorem g1_generator_valid :
    dec curveB = 3 ∧ Jac.Reduced curveGen ∧ Valid (3 : ZMod Bn256.p) (Jac.decJ curveGen) := by
  have d1 : dec (GFp.newGFp 1) = 1 := dec_one.2
  have d2 : dec (GFp.newGFp 2) = 2 := dec_eq_natCast _ 2 (by decide)
  have d3 : dec curveB = 3 := dec_eq_natCast _ 3 (by decide)
  refine ⟨d3, by unfold Jac.Reduced; decide, Or.inr ?_⟩
  have hx : Jac.ax (Jac.decJ curveGen) = 1 := by
    show dec (GFp.newGFp 1) / dec (GFp.newGFp 1) ^ 2 = 1
    rw [d1]; norm_num
  have hy : Jac.ay (Jac.decJ curveGen) = 2 := by
    show dec (GFp.newGFp 2) / dec (GFp.newGFp 1) ^ 3 = 2
    rw [d1, d2]; norm_num
  rw [hx, hy]
  exact shortW_nonsingular_of_y_ne_zero two_ne_zero_Fp 3 1 2 (by norm_num) two_ne_zero_Fp

/-- **r • G1 = O in E(F_p)**: the generator has order dividing the (prime) group order — curvePoint.Mul by
`Order` evaluated by the kernel on the residues of the regenerated constants (`curveGen_torsion`), read through
`g1_group_law` -/
theorem g1_generator_torsion :
    Gen.Bn256.Order • toPoint (3 : ZMod Bn256.p) (Jac.decJ curveGen) = 0 := by
  obtain ⟨_, hr, hv⟩ := g1_generator_valid
  rw [← ((g1_law 3).curveMul Gen.Bn256.Order (hr.rep hv)).2.2]
  refine toPoint_inf _ _ ((Jac.map_z dec _).trans ?_)
  rw [curveGen_torsion]; exact dec_zero

/-- hence for EVERY element of the subgroup generated by G1 (everything the library produces from Base() by
Add / Neg / Mul, by `g1_group_law`): r • P = O, and curvePoint.Mul agrees with the scalar reduced modulo the
group order — a non-trivial instance of the `n • P = 0` hypothesis of `mul_reduced_scalar` -/
theorem g1_subgroup_torsion (a : Jac GFp) (ha : Jac.Reduced a) (va : Valid (3 : ZMod Bn256.p) (Jac.decJ a))
    (hk : ∃ k : Nat, toPoint (3 : ZMod Bn256.p) (Jac.decJ a) = k • toPoint 3 (Jac.decJ curveGen)) (m : Nat) :
    Gen.Bn256.Order • toPoint (3 : ZMod Bn256.p) (Jac.decJ a) = 0 ∧
    toPoint (3 : ZMod Bn256.p) (Jac.decJ (Jac.curveMul a m)) =
      toPoint 3 (Jac.decJ (Jac.curveMul a (m % Gen.Bn256.Order))) := by
  obtain ⟨k, hk⟩ := hk
  have ht : Gen.Bn256.Order • toPoint (3 : ZMod Bn256.p) (Jac.decJ a) = 0 := by
    rw [hk, nsmul_left_comm, g1_generator_torsion, nsmul_zero]
  exact ⟨ht, ((g1_law 3).mul_mod (ha.rep va) ht m).1⟩

end Dos.Props.C10Concrete
