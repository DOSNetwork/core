/-
C09 — secret-sharing algebra: reconstruction, commitments and equality are exact.

Every theorem is about the functions of `Model/Share.lean` (the statement-by-statement model of
`share/poly.go`), instantiated at an ARBITRARY field `F` (scalars) and `F`-module `G` (points):
no bound on threshold, share count, polynomial, subset or order.  `CharGt F n` says that
`1, …, n` are non-zero in `F` (true for `ℤ/q` with `n < q`).  The section "the driver's own
instance" instantiates the theorems at `Zq q`, the very type the driver executes (a field for prime `q` by
`Proofs/ShareZq.lean`), so model-as-run and model-as-proved are the same functions.
Helper lemmas: `Proofs/Share.lean`, `Proofs/SharePoly.lean`, `Proofs/Lagrange.lean`.
-/
import DosModel.Proofs.Share
import DosModel.Proofs.SharePoly
import DosModel.Proofs.ShareZq
import DosModel.Gen.PkgVars

set_option linter.unusedSectionVars false

namespace Dos.Props.C09
open Dos Dos.Share

variable {F : Type} [Field F] [DecidableEq F]
variable {G : Type} [AddCommGroup G] [Module F G] [DecidableEq G]

/-- the evaluation point of share index `i` is `i + 1` at all four sites of `share/poly.go`
(`PriPoly.Eval`, `PubPoly.Eval`, `xScalar`, `RecoverCommit`), and the group orders the code
uses are the alt_bn128 and ed25519 ones the driver computes with. -/
theorem c09_code_facts :
    Gen.shareEvalOffsets = [1, 1, 1, 1]
    ∧ Share.bn256Order = 21888242871839275222246405745257275088548364400416034343698204186575808495617
    ∧ Share.ed25519Order = 2 ^ 252 + 27742317777372353535851937790883648493 := by decide

/-- **the code the model transcribes, statement by statement** (regenerated from `share/poly.go` on every
run by `go/extract/tblsfacts`, rendered with go/printer: `depth| statement`). Every function of the file
that `Model/Share.lean` mirrors is pinned completely – guards (`s == nil || s.V == nil || s.I < 0 || n <= s.I`,
the `seen` map of /repo 2d8b40a, `len(x) == t` / `break`, `len(x) < t`, `len(x) != t`), the evaluation point
`1 + int64(i)`, the Lagrange loops (`i == j` / `continue`, `num.Div(num, den)`, `den.Inv(den)`), the length
and group checks of `Add` / `Equal`, `Check`, `Commit`, `Mul`. ANY edit to one of them breaks this obligation
until the model has been compared with the new text. -/
theorem c09_code_shape :
    Gen.TblsShape.newPriPoly = [
      "0| func NewPriPoly(group kyber.Group, t int, s kyber.Scalar, rand cipher.Stream) *PriPoly",
      "1| coeffs := make([]kyber.Scalar, t)",
      "1| coeffs[0] = s",
      "1| if coeffs[0] == nil",
      "2| coeffs[0] = group.Scalar().Pick(rand)",
      "1| for i := 1; i < t; i++",
      "2| coeffs[i] = group.Scalar().Pick(rand)",
      "1| return &PriPoly{g: group, coeffs: coeffs}"
    ] ∧
    Gen.TblsShape.coefficientsToPriPoly = [
      "0| func CoefficientsToPriPoly(g kyber.Group, coeffs []kyber.Scalar) *PriPoly",
      "1| return &PriPoly{g: g, coeffs: coeffs}"
    ] ∧
    Gen.TblsShape.priThreshold = [
      "0| func (p *PriPoly) Threshold() int",
      "1| return len(p.coeffs)"
    ] ∧
    Gen.TblsShape.priSecret = [
      "0| func (p *PriPoly) Secret() kyber.Scalar",
      "1| return p.coeffs[0]"
    ] ∧
    Gen.TblsShape.priEval = [
      "0| func (p *PriPoly) Eval(i int) *PriShare",
      "1| xi := p.g.Scalar().SetInt64(1 + int64(i))",
      "1| v := p.g.Scalar().Zero()",
      "1| for j := p.Threshold() - 1; j >= 0; j--",
      "2| v.Mul(v, xi)",
      "2| v.Add(v, p.coeffs[j])",
      "1| return &PriShare{i, v}"
    ] ∧
    Gen.TblsShape.priShares = [
      "0| func (p *PriPoly) Shares(n int) []*PriShare",
      "1| shares := make([]*PriShare, n)",
      "1| for i := range shares",
      "2| shares[i] = p.Eval(i)",
      "1| return shares"
    ] ∧
    Gen.TblsShape.priAdd = [
      "0| func (p *PriPoly) Add(q *PriPoly) (*PriPoly, error)",
      "1| if p.g.String() != q.g.String()",
      "2| return nil, errorGroups",
      "1| if p.Threshold() != q.Threshold()",
      "2| return nil, errorCoeffs",
      "1| coeffs := make([]kyber.Scalar, p.Threshold())",
      "1| for i := range coeffs",
      "2| coeffs[i] = p.g.Scalar().Add(p.coeffs[i], q.coeffs[i])",
      "1| return &PriPoly{p.g, coeffs}, nil"
    ] ∧
    Gen.TblsShape.priEqual = [
      "0| func (p *PriPoly) Equal(q *PriPoly) bool",
      "1| if p.g.String() != q.g.String()",
      "2| return false",
      "1| if len(p.coeffs) != len(q.coeffs)",
      "2| return false",
      "1| b := 1",
      "1| for i := 0; i < p.Threshold(); i++",
      "2| pb, _ := p.coeffs[i].MarshalBinary()",
      "2| qb, _ := q.coeffs[i].MarshalBinary()",
      "2| b &= subtle.ConstantTimeCompare(pb, qb)",
      "1| return b == 1"
    ] ∧
    Gen.TblsShape.priCommit = [
      "0| func (p *PriPoly) Commit(b kyber.Point) *PubPoly",
      "1| commits := make([]kyber.Point, p.Threshold())",
      "1| for i := range commits",
      "2| commits[i] = p.g.Point().Mul(p.coeffs[i], b)",
      "1| return &PubPoly{p.g, b, commits}"
    ] ∧
    Gen.TblsShape.priMul = [
      "0| func (p *PriPoly) Mul(q *PriPoly) *PriPoly",
      "1| d1 := len(p.coeffs) - 1",
      "1| d2 := len(q.coeffs) - 1",
      "1| newDegree := d1 + d2",
      "1| coeffs := make([]kyber.Scalar, newDegree+1)",
      "1| for i := range coeffs",
      "2| coeffs[i] = p.g.Scalar().Zero()",
      "1| for i := range p.coeffs",
      "2| for j := range q.coeffs",
      "3| tmp := p.g.Scalar().Mul(p.coeffs[i], q.coeffs[j])",
      "3| coeffs[i+j] = tmp.Add(coeffs[i+j], tmp)",
      "1| return &PriPoly{p.g, coeffs}"
    ] ∧
    Gen.TblsShape.priCoefficients = [
      "0| func (p *PriPoly) Coefficients() []kyber.Scalar",
      "1| return p.coeffs"
    ] ∧
    Gen.TblsShape.recoverSecret = [
      "0| func RecoverSecret(g kyber.Group, shares []*PriShare, t, n int) (kyber.Scalar, error)",
      "1| x := xScalar(g, shares, t, n)",
      "1| if len(x) < t",
      "2| return nil, errors.New(\"share: not enough shares to recover secret\")",
      "1| acc := g.Scalar().Zero()",
      "1| num := g.Scalar()",
      "1| den := g.Scalar()",
      "1| tmp := g.Scalar()",
      "1| for i, xi := range x",
      "2| num.Set(shares[i].V)",
      "2| den.One()",
      "2| for j, xj := range x",
      "3| if i == j",
      "4| continue",
      "3| num.Mul(num, xj)",
      "3| den.Mul(den, tmp.Sub(xj, xi))",
      "2| acc.Add(acc, num.Div(num, den))",
      "1| return acc, nil"
    ] ∧
    Gen.TblsShape.xScalar = [
      "0| func xScalar(g kyber.Group, shares []*PriShare, t, n int) map[int]kyber.Scalar",
      "1| x := make(map[int]kyber.Scalar)",
      "1| seen := make(map[int]struct{})",
      "1| for i, s := range shares",
      "2| if s == nil || s.V == nil || s.I < 0 || n <= s.I",
      "3| continue",
      "2| if _, dup := seen[s.I]; dup",
      "3| continue",
      "2| seen[s.I] = struct{}{}",
      "2| x[i] = g.Scalar().SetInt64(1 + int64(s.I))",
      "2| if len(x) == t",
      "3| break",
      "1| return x"
    ] ∧
    Gen.TblsShape.xMinusConst = [
      "0| func xMinusConst(g kyber.Group, c kyber.Scalar) *PriPoly",
      "1| neg := g.Scalar().Neg(c)",
      "1| return &PriPoly{ g: g, coeffs: []kyber.Scalar{neg, g.Scalar().One()}, }"
    ] ∧
    Gen.TblsShape.recoverPriPoly = [
      "0| func RecoverPriPoly(g kyber.Group, shares []*PriShare, t, n int) (*PriPoly, error)",
      "1| x := xScalar(g, shares, t, n)",
      "1| if len(x) != t",
      "2| return nil, errors.New(\"share: not enough shares to recover private polynomial\")",
      "1| var accPoly *PriPoly",
      "1| var err error",
      "1| den := g.Scalar()",
      "1| for j, xj := range x",
      "2| var basis = &PriPoly{ g: g, coeffs: []kyber.Scalar{g.Scalar().One()}, }",
      "2| var acc = g.Scalar().Set(shares[j].V)",
      "2| for m, xm := range x",
      "3| if j == m",
      "4| continue",
      "3| basis = basis.Mul(xMinusConst(g, xm))",
      "3| den.Sub(xj, xm)",
      "3| den.Inv(den)",
      "3| acc.Mul(acc, den)",
      "2| for i := range basis.coeffs",
      "3| basis.coeffs[i] = basis.coeffs[i].Mul(basis.coeffs[i], acc)",
      "2| if accPoly == nil",
      "3| accPoly = basis",
      "3| continue",
      "2| accPoly, err = accPoly.Add(basis)",
      "2| if err != nil",
      "3| return nil, err",
      "1| return accPoly, nil"
    ] ∧
    Gen.TblsShape.newPubPoly = [
      "0| func NewPubPoly(g kyber.Group, b kyber.Point, commits []kyber.Point) *PubPoly",
      "1| return &PubPoly{g, b, commits}"
    ] ∧
    Gen.TblsShape.pubInfo = [
      "0| func (p *PubPoly) Info() (base kyber.Point, commits []kyber.Point)",
      "1| return p.b, p.commits"
    ] ∧
    Gen.TblsShape.pubThreshold = [
      "0| func (p *PubPoly) Threshold() int",
      "1| return len(p.commits)"
    ] ∧
    Gen.TblsShape.pubCommit = [
      "0| func (p *PubPoly) Commit() kyber.Point",
      "1| return p.commits[0]"
    ] ∧
    Gen.TblsShape.pubEval = [
      "0| func (p *PubPoly) Eval(i int) *PubShare",
      "1| xi := p.g.Scalar().SetInt64(1 + int64(i))",
      "1| v := p.g.Point().Null()",
      "1| for j := p.Threshold() - 1; j >= 0; j--",
      "2| v.Mul(xi, v)",
      "2| v.Add(v, p.commits[j])",
      "1| return &PubShare{i, v}"
    ] ∧
    Gen.TblsShape.pubShares = [
      "0| func (p *PubPoly) Shares(n int) []*PubShare",
      "1| shares := make([]*PubShare, n)",
      "1| for i := range shares",
      "2| shares[i] = p.Eval(i)",
      "1| return shares"
    ] ∧
    Gen.TblsShape.pubAdd = [
      "0| func (p *PubPoly) Add(q *PubPoly) (*PubPoly, error)",
      "1| if p.g.String() != q.g.String()",
      "2| return nil, errorGroups",
      "1| if p.Threshold() != q.Threshold()",
      "2| return nil, errorCoeffs",
      "1| commits := make([]kyber.Point, p.Threshold())",
      "1| for i := range commits",
      "2| commits[i] = p.g.Point().Add(p.commits[i], q.commits[i])",
      "1| return &PubPoly{p.g, p.b, commits}, nil"
    ] ∧
    Gen.TblsShape.pubEqual = [
      "0| func (p *PubPoly) Equal(q *PubPoly) bool",
      "1| if p.g.String() != q.g.String()",
      "2| return false",
      "1| if len(p.commits) != len(q.commits)",
      "2| return false",
      "1| b := 1",
      "1| for i := 0; i < p.Threshold(); i++",
      "2| pb, _ := p.commits[i].MarshalBinary()",
      "2| qb, _ := q.commits[i].MarshalBinary()",
      "2| b &= subtle.ConstantTimeCompare(pb, qb)",
      "1| return b == 1"
    ] ∧
    Gen.TblsShape.pubCheck = [
      "0| func (p *PubPoly) Check(s *PriShare) bool",
      "1| pv := p.Eval(s.I)",
      "1| ps := p.g.Point().Mul(s.V, p.b)",
      "1| return pv.V.Equal(ps)"
    ] ∧
    Gen.TblsShape.recoverCommit = [
      "0| func RecoverCommit(g kyber.Group, shares []*PubShare, t, n int) (kyber.Point, error)",
      "1| x := make(map[int]kyber.Scalar)",
      "1| seen := make(map[int]struct{})",
      "1| for i, s := range shares",
      "2| if s == nil || s.V == nil || s.I < 0 || n <= s.I",
      "3| continue",
      "2| if _, dup := seen[s.I]; dup",
      "3| continue",
      "2| seen[s.I] = struct{}{}",
      "2| x[i] = g.Scalar().SetInt64(1 + int64(s.I))",
      "1| if len(x) < t",
      "2| return nil, errors.New(\"share: not enough good public shares to reconstruct secret commitment\")",
      "1| num := g.Scalar()",
      "1| den := g.Scalar()",
      "1| tmp := g.Scalar()",
      "1| Acc := g.Point().Null()",
      "1| Tmp := g.Point()",
      "1| for i, xi := range x",
      "2| num.One()",
      "2| den.One()",
      "2| for j, xj := range x",
      "3| if i == j",
      "4| continue",
      "3| num.Mul(num, xj)",
      "3| den.Mul(den, tmp.Sub(xj, xi))",
      "2| Tmp.Mul(num.Div(num, den), shares[i].V)",
      "2| Acc.Add(Acc, Tmp)",
      "1| return Acc, nil"
    ] :=
  ⟨rfl, rfl, rfl, rfl, rfl, rfl, rfl, rfl, rfl, rfl, rfl, rfl, rfl, rfl, rfl, rfl, rfl, rfl, rfl, rfl, rfl, rfl, rfl, rfl, rfl⟩

/-- **package `share` carries no state from one call to the next** (regenerated from /repo on every run by
`go/extract/pkgvars`: ALL package-level `var` declarations of the directory): the only package-level
variables are the two error values, and nothing outside `init` writes them. A memo table, a pool, a cached
scalar added to the package breaks this obligation. It is what justifies modelling a sequence of calls as
the sequence of the models of the calls (`hist_is_pointwise`). -/
theorem c09_no_package_state :
    Gen.PkgVars.share.map (fun v => (v.file, v.name)) = [("poly.go", "errorGroups"), ("poly.go", "errorCoeffs")]
    ∧ Gen.PkgVars.share.all (fun v => !v.written) = true := by decide

/-- **a recovery is a function of its arguments only**: in the model of a call history (`hist` lines of
the correspondence run, `Share.histOut` – what `drv_c09` executes) the answer of call `k` is the answer of
that call alone, whatever was recovered before – other index sequences, other groups, other polynomials. -/
theorem hist_is_pointwise (calls : List String) (k : Nat) (hk : k < calls.length) :
    (Share.histOut calls)[k]? = some (Share.stepOne ("rt" :: (calls[k]).splitOn "~")) := by
  simp [Share.histOut, hk]

/-- … hence calls can be inserted before, removed from, or appended to a history without changing what the
other calls answer -/
theorem hist_call_erasure (pre post : List String) (c : String) :
    Share.histOut (pre ++ c :: post)
      = Share.histOut pre ++ Share.stepOne ("rt" :: c.splitOn "~") :: Share.histOut post := by
  simp [Share.histOut]

/-! ### reconstruction

`idxPri n shares` / `idxPub n shares` (`Proofs/Share.lean`) are the DISTINCT indices `i ∈ [0,n)`
for which the slice holds an entry with a value – wherever it stands, however often it repeats.
Since /repo 2d8b40a the code keeps one share per index, so the hypothesis is exactly the
property's "any `t` distinct shares": nothing is asked of the order, of repetitions or of the
unusable entries in between. -/

/-- **Any `t` distinct shares reconstruct the secret**, whatever else is in the slice: `shares`
is ANY list (any order, `nil` entries, entries with a nil value, indices outside `[0,n)`, the same
index any number of times, anywhere) in which every usable entry is a true share of `f` and at
least `t` distinct indices are usable.  Holds for both division behaviours (`dp`). -/
theorem recoverSecret_correct (dp : Bool) (f : List F) (t n : Nat) (ht : 0 < t) (hf : f.length ≤ t)
    (hc : CharGt F n) (shares : List (Option (PriShare F)))
    (hval : ∀ iv ∈ shares.filterMap (usablePri n), iv.2 = priEval f iv.1)
    (hcnt : t ≤ (idxPri n shares).card) :
    recoverSecret dp shares t n = .ok (f.headD 0) :=
  recoverSecret_ok dp f t n ht hf hc shares hval hcnt

/-- **order / subset independence**: two qualifying slices of the same sharing – different
subsets, different orders, different repetitions, different junk – give the same answer. -/
theorem recoverSecret_subset_order_independent (dp : Bool) (f : List F) (t n : Nat) (ht : 0 < t)
    (hf : f.length ≤ t) (hc : CharGt F n) (s₁ s₂ : List (Option (PriShare F)))
    (hv₁ : ∀ iv ∈ s₁.filterMap (usablePri n), iv.2 = priEval f iv.1)
    (hc₁ : t ≤ (idxPri n s₁).card)
    (hv₂ : ∀ iv ∈ s₂.filterMap (usablePri n), iv.2 = priEval f iv.1)
    (hc₂ : t ≤ (idxPri n s₂).card) :
    recoverSecret dp s₁ t n = recoverSecret dp s₂ t n := by
  rw [recoverSecret_correct dp f t n ht hf hc s₁ hv₁ hc₁,
    recoverSecret_correct dp f t n ht hf hc s₂ hv₂ hc₂]

/-- **… and the whole polynomial**: with the same hypotheses `RecoverPriPoly` returns exactly
the coefficients of `f` (a polynomial with `t` coefficients). -/
theorem recoverPriPoly_correct (g : Nat) (f : List F) (t n : Nat) (ht : 0 < t) (hf : f.length = t)
    (hc : CharGt F n) (shares : List (Option (PriShare F)))
    (hval : ∀ iv ∈ shares.filterMap (usablePri n), iv.2 = priEval f iv.1)
    (hcnt : t ≤ (idxPri n shares).card) :
    recoverPriPoly g shares t n = .ok ⟨g, f⟩ := by
  obtain ⟨hg, hlen⟩ := xScalar_spec f t n ht hc shares hval hcnt
  exact recoverPriPoly_of_good g f t ht hf _ hg hlen rfl

/-- **fewer than `t` distinct usable shares yield an error** (secret, polynomial), never a value –
however many copies of them the slice holds. -/
theorem recover_too_few (dp : Bool) (g t n : Nat) (shares : List (Option (PriShare F)))
    (hfew : (idxPri n shares).card < t) :
    recoverSecret dp shares t n = .err .few ∧ recoverPriPoly g shares t n = .err .few := by
  have ht : 0 < t := by omega
  have hlen := xScalar_length t n shares ht
  have hlt : (xScalar shares t n).length < t := by rw [hlen]; omega
  constructor
  · unfold recoverSecret; simp [hlt]
  · unfold recoverPriPoly; simp [Nat.ne_of_lt hlt]

/-- same for the commitment: fewer than `t` distinct usable public shares ⇒ error. -/
theorem recoverCommit_too_few (dp : Bool) (t n : Nat) (shares : List (Option (PubShare G)))
    (hfew : (idxPub n shares).card < t) :
    recoverCommit (S := F) dp shares t n = .err .few :=
  recoverCommit_few dp t n shares hfew

/-- **the secret commitment is reconstructed from public shares**: any slice whose usable entries
are public shares `f(i+1)•B` and among which `≥ t ≥ len f` distinct indices occur (in any order,
with any repetitions and junk) gives `f(0)•B`. -/
theorem recoverCommit_correct (dp : Bool) (f : List F) (B : G) (t n : Nat) (hf : f.length ≤ t)
    (hc : CharGt F n) (shares : List (Option (PubShare G)))
    (hval : ∀ iv ∈ shares.filterMap (usablePub n), iv.2 = priEval f iv.1 • B)
    (hcnt : t ≤ (idxPub n shares).card) :
    recoverCommit (S := F) dp shares t n = .ok (f.headD 0 • B) :=
  recoverCommit_ok dp f B t n hf hc shares hval hcnt

/-- **no recovery ever panics**: for EVERY slice (any values – true shares or not –, any
repetitions, `nil`s, any `t` and `n` with `1..n` non-zero) `RecoverSecret` and `RecoverCommit`
answer `ok` or "not enough shares" – the division by zero in `mod.Int.Div` (nil `ModInverse`
dereferenced on bn256, `dp = true`) is unreachable because the collected evaluation points are
pairwise distinct – and `RecoverPriPoly` has no panicking statement at all. -/
theorem recover_never_panics (dp : Bool) (g t n : Nat) (hc : CharGt F n)
    (shares : List (Option (PriShare F))) (pubs : List (Option (PubShare G))) (s : Site) :
    recoverSecret dp shares t n ≠ .panic s ∧ recoverPriPoly g shares t n ≠ .panic s
      ∧ recoverCommit (S := F) dp pubs t n ≠ .panic s := by
  refine ⟨?_, recoverPriPoly_no_panic g t n shares s, ?_⟩
  · rcases recoverSecret_no_panic dp t n hc shares with h | ⟨v, h⟩ <;> rw [h] <;> simp
  · rcases recoverCommit_no_panic (F := F) dp t n hc pubs with h | ⟨v, h⟩ <;> rw [h] <;> simp

/-- `[s, s']` with one index is the error the property asks for: one distinct index is fewer than two
(the input of the defect repaired by /repo 2d8b40a: zero denominator, a panic on bn256, `ok 0` on
ed25519). -/
theorem recoverSecret_duplicate_index (dp : Bool) (i : Int) (v w : F) (n : Nat) (h0 : 0 ≤ i)
    (hn : i < n) :
    recoverSecret dp [some ⟨i, some v⟩, some ⟨i, some w⟩] 2 n = .err .few := by
  simp [recoverSecret, xScalar, xScalarAux, usablePri, h0, hn]

/-- **the commitment polynomial evaluates to the commitment of the private share** -/
theorem pubEval_commit (p : PriPoly F) (b : G) (i : Int) :
    pubEval F (commit p b).commits i = priEval p.coeffs i • b :=
  pubEval_map_smul p.coeffs b i

/-- **share checking accepts exactly the true share value at its index** (`b` a point that no
non-zero scalar annihilates, e.g. a generator of a group of prime order) -/
theorem check_iff (p : PriPoly F) (b : G) (hb : ∀ c : F, c • b = 0 → c = 0) (i : Int) (v : F) :
    check F (commit p b) i v = true ↔ v = priEval p.coeffs i := by
  rw [check, decide_eq_true_iff, pubEval_commit]
  exact ⟨fun h => (smul_left_cancel_of hb h).symm, fun h => h ▸ rfl⟩

/-- **addition is homomorphic**, polynomials: defined exactly for equal group and length … -/
theorem priAdd_ok_iff (p q : PriPoly F) :
    (∃ r, priAdd p q = .ok r) ↔ p.g = q.g ∧ p.coeffs.length = q.coeffs.length :=
  ⟨fun ⟨r, h⟩ => ⟨((priAdd_eq_ok_iff p q r).1 h).1, ((priAdd_eq_ok_iff p q r).1 h).2.1⟩,
    fun h => ⟨_, (priAdd_eq_ok_iff p q _).2 ⟨h.1, h.2, rfl⟩⟩⟩

/-- … and then every share of the sum is the sum of the shares … -/
theorem priEval_add (p q r : PriPoly F) (h : priAdd p q = .ok r) (i : Int) :
    priEval r.coeffs i = priEval p.coeffs i + priEval q.coeffs i := by
  obtain ⟨-, hl, rfl⟩ := (priAdd_eq_ok_iff p q r).1 h
  exact priEval_zipWith_add _ _ hl i

/-- … and the commitment of the sum is the sum of the commitments. -/
theorem commit_add (p q r : PriPoly F) (h : priAdd p q = .ok r) (b : G) :
    pubAdd (commit p b) (commit q b) = .ok (commit r b) := by
  obtain ⟨hg, hl, rfl⟩ := (priAdd_eq_ok_iff p q r).1 h
  exact (pubAdd_eq_ok_iff _ _ _).2 ⟨hg, by simp only [commit, List.length_map, hl],
    by simp only [commit, zipWith_add_map_smul]⟩

/-- `PubPoly.Add` keeps the RECEIVER's base and group tag and adds commitment by commitment, also when the
argument was committed under another base (the sum is then not a commitment of `p + q` under any single
base: callers add polynomials committed under one base, as `commit_add` states) -/
theorem pubAdd_base (p q r : PubPoly G) (h : pubAdd p q = .ok r) :
    r.base = p.base ∧ r.g = p.g ∧ r.commits = List.zipWith (· + ·) p.commits q.commits := by
  obtain ⟨-, -, rfl⟩ := (pubAdd_eq_ok_iff p q r).1 h
  exact ⟨rfl, rfl, rfl⟩

/-- **no share index evaluates the polynomial at zero** (so no single share is `f(0)`), and
distinct indices are distinct points. -/
theorem x_ne_zero (n : Nat) (hc : CharGt F n) (i : Int) (h0 : 0 ≤ i) (hn : i < n) :
    (xOf i : F) ≠ 0 ∧ ∀ j : Int, 0 ≤ j → j < n → (xOf i : F) = xOf j → i = j :=
  ⟨xOf_ne_zero hc i h0 hn, fun j hj0 hjn h => xOf_injOn hc i j h0 hn hj0 hjn h⟩

/-- the index is NOT guarded by `Eval` itself: index `−1` is the point zero, `PriPoly.Eval(-1)` returns
the secret (and `PubPoly.Eval(-1)` its commitment). Every caller in the repository passes an index
`≥ 0` (`Shares`, the `I < 0` guard of `xScalar` / `RecoverCommit`, the unsigned 2-byte index of
`tbls`), which is the hypothesis `0 ≤ i` of `x_ne_zero`; the correspondence run does not judge
negative indices. -/
theorem eval_at_minus_one_is_secret (f : List F) :
    (xOf (-1) : F) = 0 ∧ priEval f (-1) = f.headD 0 := by
  have h0 : (xOf (-1) : F) = 0 := by simp [xOf]
  refine ⟨h0, ?_⟩
  cases f with
  | nil => rfl
  | cons c l => simp [priEval, h0]

/-- every share dealt by `Shares(n)` sits at index `k < n`, i.e. at the non-zero point `k+1` -/
theorem shares_points (f : List F) (n : Nat) (hc : CharGt F n) :
    ∀ s ∈ priShares f n, 0 ≤ s.I ∧ s.I < n ∧ (xOf s.I : F) ≠ 0 ∧ s.V = some (priEval f s.I) := by
  intro s hs
  obtain ⟨k, hk, rfl⟩ := List.mem_map.1 hs
  have hk' : k < n := List.mem_range.1 hk
  refine ⟨by simp, by simpa using hk', xOf_ne_zero hc _ (by simp) (by simpa using hk'), rfl⟩

/-- **two private polynomials compare equal exactly when they are the same** (group, length,
every coefficient) -/
theorem priEqual_iff (p q : PriPoly F) : priEqual p q = true ↔ p = q := by
  obtain ⟨pg, pc⟩ := p
  obtain ⟨qg, qc⟩ := q
  rw [PriPoly.mk.injEq, ← length_eq_and_allEq_iff]
  unfold priEqual
  split_ifs with hg hl <;> simp_all

/-- **two commitment polynomials compare equal exactly when they have the same group, length and
commitments** (the base point is not part of the comparison).  The length comparison is
/repo af0959e. -/
theorem pubEqual_iff (p q : PubPoly G) :
    pubEqual p q = true ↔ p.g = q.g ∧ p.commits = q.commits := by
  rw [← length_eq_and_allEq_iff]
  unfold pubEqual
  split_ifs with hg hl <;> simp_all

/-! ### the driver's own instance

`Zq q` (numbers modulo `q`, points as discrete logs) is a field and a module over itself for
prime `q`; `1..n` are non-zero when `n < q`.  So all of the above holds verbatim for the
functions `drv_c09` executes (`q` = the bn256 group order or the ed25519 order; their primality
is the standard fact listed under assumptions). -/

theorem zq_charGt (q : Nat) [Fact q.Prime] (n : Nat) (hn : n < q) : CharGt (Zq q) n :=
  fun k hk hkn => Zq.natCast_ne_zero k hk (by omega)

theorem recoverSecret_correct_driver (q : Nat) [Fact q.Prime] (dp : Bool) (f : List (Zq q))
    (t n : Nat) (ht : 0 < t) (hf : f.length ≤ t) (hn : n < q)
    (shares : List (Option (PriShare (Zq q))))
    (hval : ∀ iv ∈ shares.filterMap (usablePri n), iv.2 = priEval f iv.1)
    (hcnt : t ≤ (idxPri n shares).card) :
    recoverSecret dp shares t n = .ok (f.headD 0) :=
  recoverSecret_correct dp f t n ht hf (zq_charGt q n hn) shares hval hcnt

theorem recoverCommit_correct_driver (q : Nat) [Fact q.Prime] (dp : Bool) (f : List (Zq q))
    (B : Zq q) (t n : Nat) (hf : f.length ≤ t) (hn : n < q)
    (shares : List (Option (PubShare (Zq q))))
    (hval : ∀ iv ∈ shares.filterMap (usablePub n), iv.2 = priEval f iv.1 • B)
    (hcnt : t ≤ (idxPub n shares).card) :
    recoverCommit (S := Zq q) dp shares t n = .ok (f.headD 0 • B) :=
  recoverCommit_correct dp f B t n hf (zq_charGt q n hn) shares hval hcnt

/-- the driver never panics in a recovery (both division behaviours) -/
theorem recover_never_panics_driver (q : Nat) [Fact q.Prime] (dp : Bool) (g t n : Nat) (hn : n < q)
    (shares : List (Option (PriShare (Zq q)))) (pubs : List (Option (PubShare (Zq q)))) (s : Site) :
    recoverSecret dp shares t n ≠ .panic s ∧ recoverPriPoly g shares t n ≠ .panic s
      ∧ recoverCommit (S := Zq q) dp pubs t n ≠ .panic s :=
  recover_never_panics dp g t n (zq_charGt q n hn) shares pubs s

/-! ### non-vacuity: the hypotheses hold on concrete, non-trivial values (evaluated in `Zq 7`,
`f = 3 + 2x + 5x²`, shares of members 4, 0, 2 with member 4 REPEATED among the first three usable
entries – the input of the defect repaired by /repo 2d8b40a – and junk in between) -/

instance : Fact (Nat.Prime 7) := ⟨by decide⟩

example : recoverSecret true (S := Zq 7)
    [some ⟨4, some (priEval [3, 2, 5] 4)⟩, none, some ⟨4, some (priEval [3, 2, 5] 4)⟩,
     some ⟨0, some (priEval [3, 2, 5] 0)⟩, some ⟨9, some 1⟩, some ⟨1, none⟩,
     some ⟨0, some (priEval [3, 2, 5] 0)⟩, some ⟨2, some (priEval [3, 2, 5] 2)⟩] 3 5 = .ok 3 :=
  recoverSecret_correct_driver 7 true [3, 2, 5] 3 5 (by decide) (by decide) (by decide) _
    (by decide) (by decide)

example : recoverSecret true (S := Zq 7)
    [some ⟨4, some (priEval [3, 2, 5] 4)⟩, none, some ⟨4, some (priEval [3, 2, 5] 4)⟩,
     some ⟨0, some (priEval [3, 2, 5] 0)⟩, some ⟨9, some 1⟩, some ⟨1, none⟩,
     some ⟨0, some (priEval [3, 2, 5] 0)⟩, some ⟨2, some (priEval [3, 2, 5] 2)⟩] 3 5 = .ok 3 := by
  decide

/-- the two slices differ in subset, order, repetitions and junk -/
example : recoverSecret false (S := Zq 7)
    [some ⟨4, some (priEval [3, 2, 5] 4)⟩, some ⟨4, some (priEval [3, 2, 5] 4)⟩,
     some ⟨0, some (priEval [3, 2, 5] 0)⟩, some ⟨2, some (priEval [3, 2, 5] 2)⟩] 3 5
    = recoverSecret false (S := Zq 7)
    [none, some ⟨3, some (priEval [3, 2, 5] 3)⟩, some ⟨1, some (priEval [3, 2, 5] 1)⟩,
     some ⟨1, some (priEval [3, 2, 5] 1)⟩, some ⟨-1, some 6⟩, some ⟨2, some (priEval [3, 2, 5] 2)⟩,
     some ⟨0, some (priEval [3, 2, 5] 0)⟩] 3 5 :=
  recoverSecret_subset_order_independent false [3, 2, 5] 3 5 (by decide) (by decide)
    (zq_charGt 7 5 (by decide)) _ _ (by decide) (by decide) (by decide) (by decide)

example : recoverPriPoly 0 (S := Zq 7)
    [some ⟨4, some (priEval [3, 2, 5] 4)⟩, none, some ⟨4, some (priEval [3, 2, 5] 4)⟩,
     some ⟨0, some (priEval [3, 2, 5] 0)⟩, some ⟨2, some (priEval [3, 2, 5] 2)⟩] 3 5
      = .ok ⟨0, [3, 2, 5]⟩ := by decide

example : recoverPriPoly 0 (S := Zq 7)
    [some ⟨4, some (priEval [3, 2, 5] 4)⟩, none, some ⟨4, some (priEval [3, 2, 5] 4)⟩,
     some ⟨0, some (priEval [3, 2, 5] 0)⟩, some ⟨2, some (priEval [3, 2, 5] 2)⟩] 3 5
      = .ok ⟨0, [3, 2, 5]⟩ :=
  recoverPriPoly_correct 0 [3, 2, 5] 3 5 (by decide) (by decide) (zq_charGt 7 5 (by decide)) _
    (by decide) (by decide)

example : recoverCommit (S := Zq 7) (P := Zq 7) true
    [some ⟨4, some (priEval ([3, 2, 5] : List (Zq 7)) 4 • (4 : Zq 7))⟩, none, some ⟨7, some 1⟩,
     some ⟨4, some (priEval ([3, 2, 5] : List (Zq 7)) 4 • (4 : Zq 7))⟩,
     some ⟨0, some (priEval ([3, 2, 5] : List (Zq 7)) 0 • (4 : Zq 7))⟩,
     some ⟨2, some (priEval ([3, 2, 5] : List (Zq 7)) 2 • (4 : Zq 7))⟩,
     some ⟨0, some (priEval ([3, 2, 5] : List (Zq 7)) 0 • (4 : Zq 7))⟩,
     some ⟨1, some (priEval ([3, 2, 5] : List (Zq 7)) 1 • (4 : Zq 7))⟩] 3 5
      = .ok ((3 : Zq 7) • (4 : Zq 7)) :=
  recoverCommit_correct_driver 7 true [3, 2, 5] 4 3 5 (by decide) (by decide) _
    (by decide) (by decide)

example : priEqual (S := Zq 7) ⟨0, [3, 2]⟩ ⟨0, [3, 2, 0]⟩ = false ∧ priEqual (S := Zq 7) ⟨0, [3, 2]⟩ ⟨0, [3, 2]⟩ = true
    ∧ priEqual (S := Zq 7) ⟨0, [3, 2]⟩ ⟨1, [3, 2]⟩ = false := by decide

example : priAdd (S := Zq 7) ⟨0, [3, 2]⟩ ⟨0, [6, 6]⟩ = .ok ⟨0, [2, 1]⟩
    ∧ pubAdd (commit (P := Zq 7) ⟨0, [3, 2]⟩ 4) (commit (P := Zq 7) ⟨0, [6, 6]⟩ 4)
        = .ok (commit (P := Zq 7) ⟨0, [2, 1]⟩ 4) := by decide

/-- three usable entries but only ONE distinct index: an error for `t = 2` -/
example : recoverSecret true (S := Zq 7)
    [some ⟨4, some 1⟩, none, some ⟨4, some 1⟩, some ⟨1, none⟩, some ⟨4, some 3⟩] 2 5 = .err .few :=
  (recover_too_few true 0 2 5 _ (by decide)).1

example : recoverCommit (S := Zq 7) (P := Zq 7) true
    [some ⟨4, some 1⟩, none, some ⟨4, some 1⟩, some ⟨1, none⟩, some ⟨4, some 3⟩] 2 5 = .err .few :=
  recoverCommit_too_few true 2 5 _ (by decide)

/-- arbitrary values (no polynomial behind them), repeated indices: still no panic -/
example : recoverSecret true (S := Zq 7)
    [some ⟨1, some 6⟩, some ⟨1, some 2⟩, some ⟨3, some 0⟩, some ⟨1, some 5⟩] 2 5 ≠ .panic .div0 :=
  (recover_never_panics_driver 7 true 0 2 5 (by decide) _ ([] : List (Option (PubShare (Zq 7)))) .div0).1

example : recoverSecret true (S := Zq 7) [some ⟨2, some 6⟩, some ⟨2, some 1⟩] 2 5 = .err .few :=
  recoverSecret_duplicate_index true 2 6 1 5 (by decide) (by decide)

example : check (Zq 7) (commit (P := Zq 7) ⟨0, [3, 2, 5]⟩ 4) 2 (priEval [3, 2, 5] 2) = true
    ∧ check (Zq 7) (commit (P := Zq 7) ⟨0, [3, 2, 5]⟩ 4) 2 (priEval [3, 2, 5] 2 + 1) = false := by
  decide

example : pubEqual (P := Zq 7) ⟨0, 1, [3, 2]⟩ ⟨0, 1, [3, 2, 5]⟩ = false
    ∧ pubEqual (P := Zq 7) ⟨0, 1, [3, 2, 5]⟩ ⟨0, 1, [3, 2]⟩ = false
    ∧ pubEqual (P := Zq 7) ⟨0, 1, [3, 2, 5]⟩ ⟨0, 4, [3, 2, 5]⟩ = true := by decide

example : CharGt (Zq 7) 5 := zq_charGt 7 5 (by decide)

example : pubAdd (P := Zq 7) ⟨0, 4, [3, 2]⟩ ⟨0, 5, [6, 6]⟩ = .ok ⟨0, 4, [2, 1]⟩ := by decide
example : (⟨0, 4, [2, 1]⟩ : PubPoly (Zq 7)).base = (⟨0, 4, [3, 2]⟩ : PubPoly (Zq 7)).base :=
  (pubAdd_base (G := Zq 7) ⟨0, 4, [3, 2]⟩ ⟨0, 5, [6, 6]⟩ _ (by decide)).1

/-- a history whose two index sequences (1,12) and (11,2) concatenate to the same digits: the second call
answers what it answers alone (and so does the first, in either order of the calls) -/
example : (Share.histOut ["ed:3,2~1~13~1,12", "ed:3,2~1~13~11,2"])[1]?
    = some (Share.stepOne ("rt" :: ("ed:3,2~1~13~11,2").splitOn "~")) :=
  hist_is_pointwise _ 1 (by decide)

example : Share.histOut ([] ++ "ed:3,2~1~13~1,12" :: ["ed:3,2~1~13~11,2"])
    = Share.histOut [] ++ Share.stepOne ("rt" :: ("ed:3,2~1~13~1,12").splitOn "~")
        :: Share.histOut ["ed:3,2~1~13~11,2"] :=
  hist_call_erasure [] ["ed:3,2~1~13~11,2"] "ed:3,2~1~13~1,12"

end Dos.Props.C09
