/-
C10 — concrete, kernel-evaluated instances of the pairing claims that are NOT proved in general
(bilinearity / non-degeneracy of the implemented optimal-ate map are differential only, see
meta/C10.json "partial"): the transcribed Miller loop and final exponentiation are run by the Lean
kernel on the generators regenerated from /repo (on residues: `val12_eq_of_res`, Proofs/Bn256Residue.lean).
-/
import DosModel.Proofs.Bn256Residue
import DosModel.Proofs.Bn256MillerNatural

namespace Dos.Props.C10Pairing
open Dos Dos.Bn256

/-- concrete instances of bilinearity and of the check on the generators, evaluated in the kernel through
the transcribed pairing: e(G1, −G2)·e(G1,G2) = 1 and check([G1,−G1],[G2,G2]) -/
theorem pairing_instances :
    Fp12.mul (optimalAte (twistNeg twistGen) curveGen) gfP12Gen = Fp12.one ∧
    pairingCheck [(curveGen, twistGen), (curveNeg curveGen, twistGen)] = true := by
  have hi : curveGen.isInfinity = false ∧ (curveNeg curveGen).isInfinity = false ∧ twistGen.isInfinity = false := by
    decide
  simp only [pairingCheck, pairingCheckAbs, List.foldl_cons, List.foldl_nil, hi, Bool.or_false,
    Bool.false_eq_true, if_false, Fp12.isOne, decide_eq_true_eq]
  rw [← twistGenR_val, ← curveGenR_val, ← gfP12GenR_val, ← C10Code.gen_miller_eq_model]
  simp only [twistNeg_val, curveNeg_val, MillerNat.optimalAte_val, MillerNat.miller_val, one_val, mul_val, finalExp_val]
  refine ⟨val12_eq_of_res ?_, val12_eq_of_res ?_⟩ <;>
    simp only [MillerNat.map_optimalAte resHom, MillerNat.map_miller resHom, map_finalExponentiationG resHom,
      Jac.map_neg (Fp2.mapHom resHom), Jac.map_neg resHom, Fp12.map_mul' resHom, Fp12.map_one' resHom] <;>
    decide +kernel

/-- non-degeneracy on the generators: e(G1,G2) ≠ 1 -/
theorem pairing_generator_nontrivial : gfP12Gen ≠ Fp12.one := by decide

end Dos.Props.C10Pairing
