/-
C01 composed with C02 / C03 / C13 / Primes — the hypotheses `hC03`, `hrec`, `htot`, `hbytes` of
`Props/C01.lean` DISCHARGED.

`Props/C01.lean` is stated over an abstract `Crypto` record and takes the contracts of `tbls.Recover` /
`bls.Verify` as hypotheses.  Here `Crypto` is instantiated with the byte-level model `Model/Tbls.lean`
(`Compose.tblsCrypto cd f H t n`: `recover` = the model of `tbls.Recover`, `verify` = the model of
`bls.Verify(pubPoly.Commit(), ·, ·) == nil`) and the contracts are PROVED in `Proofs/ComposeTbls.lean` from the
property theorems C02 `recover_unique`, `signed_share_valid`, C03 `counts_iff` and the lemmas of `Proofs/Tbls.lean`
under them (`Tbls.recover_total`, and `Tbls.decode_eq_iff_verifyEq`, the byte-level form of C03 `verify_iff`).
What the composed statements still assume is visible in their signatures and is exactly:

* `pr : Pairing F G G2 GT` — the pairing is bilinear and non-degenerate at `g₂` (C10: differential only);
* `[Field F] [Module F G]` — the signature group is a module over the scalar field (for the concrete
  scalars `Zq r`, `r` the bn256 order, the field part is closed by `Proofs/Primes.lean`: the `_bn256`
  theorems; that G1 is a `Z/r`-module, i.e. #G1 = r, remains);
* `hcd` — the codec reads back what it writes (C11 `g1_roundtrip` for the real codec);
* `hf : f.length ≤ t` — the group polynomial has at most `t = n/2+1` coefficients (the DKG threshold);
* `CharGt F n` / `n < 65536` — the group is smaller than the field characteristic / the 2-byte index;
* the member's id has the length of an address and it computed its content (as in `Props/C01.lean`).

Unforgeability is not used.  `H : Bytes → G` (hash to G1) is an arbitrary function.
"3.", "4." in the docstrings are the numbers of the theorems of `Props/C01.lean` that are composed.
-/
import DosModel.Proofs.ComposeTbls
import DosModel.Proofs.ComposePrimes
import DosModel.Props.C01
import DosModel.Props.C09

set_option linter.unusedSectionVars false

namespace Dos.Props.C01Compose
open Dos Dos.Content Dos.Query Dos.Share Dos.Tbls Dos.Compose

variable {F : Type} [Field F] [DecidableEq F]
variable {G : Type} [AddCommGroup G] [Module F G] [DecidableEq G]
variable {G2 GT : Type} [AddCommGroup G2] [Module F G2] [CommGroup GT]

/-- **`hC03` discharged, as an equivalence**: the `verify` of the instance accepts exactly the byte
strings that parse to a point satisfying the contract's pairing equation under the group key. -/
theorem c01_verify_iff_contract (pr : Pairing F G G2 GT) (cd : Codec G) (f : List F) (H : Bytes → G)
    (t n : Nat) (c s : Bytes) :
    (tblsCrypto cd f H t n).verify c s = true ↔ ContractEq pr cd f H c s :=
  verify_iff_contract pr cd f H t n c s

/-- **3. every report is valid on chain — no contract hypothesis left.**  Whatever a member reports,
for EVERY sequence of peer messages, is `(result, sig)` with `result ‖ own id` = the content it
computed, `sig` parsing to a point `S` with `e(−S, g₂)·e(H(result ‖ msg.sender), f(0)•g₂) = 1`, and
the request's own type.  Any field / module / codec / polynomial / hash-to-point / thresholds. -/
theorem c01_report_valid_composed (pr : Pairing F G G2 GT) (cd : Codec G) (f : List F)
    (H : Bytes → G) (t n : Nat) (p a : Nat) (mb : Member) (r : Request) (fc : List (Option Msg))
    (c0 : Bytes) (hc0 : contentFor p r mb.me = some c0) (hlen : mb.me.length = a) :
    ∀ rep ∈ (handleQuery (tblsCrypto cd f H t n) p a mb r fc).reports,
      rep.result ++ mb.me = c0 ∧ ContractEq pr cd f H (rep.result ++ mb.me) rep.sig
        ∧ rep.index = r.kind.ptype :=
  Props.C01.report_valid_of_content (ContractEq pr cd f H) (tblsCrypto cd f H t n)
    (fun c s h => (verify_iff_contract pr cd f H t n c s).1 h) p a mb r fc c0 hc0 hlen

/-- the same without any pairing: the reported bytes decode to THE group signature `f(0) • H(c0)`
(so two honest submitters of the same request can only ever report encodings of the same point) -/
theorem c01_report_is_group_signature (cd : Codec G) (f : List F) (H : Bytes → G) (t n : Nat)
    (p a : Nat) (mb : Member) (r : Request) (fc : List (Option Msg)) (c0 : Bytes)
    (hc0 : contentFor p r mb.me = some c0) (hlen : mb.me.length = a) :
    ∀ rep ∈ (handleQuery (tblsCrypto cd f H t n) p a mb r fc).reports,
      cd.decode rep.sig = some (f.headD 0 • H c0) := by
  intro rep hrep
  have := Props.C01.report_valid_of_content (fun c s => cd.decode s = some (f.headD 0 • H c))
    (tblsCrypto cd f H t n) (fun c s h => (blsVerify_iff cd (H c) (f.headD 0) s).1 h)
    p a mb r fc c0 hc0 hlen rep hrep
  rw [← this.1]; exact this.2.1

/-- for system randomness: the contract equation holds for `32-byte lastRandomness ‖ msg.sender` -/
theorem c01_report_valid_sys_composed (pr : Pairing F G G2 GT) (cd : Codec G) (f : List F)
    (H : Bytes → G) (t n : Nat) (mb : Member) (r : Request) (fc : List (Option Msg))
    (hk : r.kind = .sys) (hlen : mb.me.length = 20) :
    ∀ rep ∈ (handleQuery (tblsCrypto cd f H t n) 32 20 mb r fc).reports,
      ContractEq pr cd f H (natBE 32 r.last ++ mb.me) rep.sig :=
  Props.C01.report_valid_sys (ContractEq pr cd f H) (tblsCrypto cd f H t n)
    (fun c s h => (verify_iff_contract pr cd f H t n c s).1 h) mb r fc hk hlen

/-- **4. liveness — `hrec`, `htot`, `hbytes` discharged.**  The member is the submitter and computed
`c0`; among the messages reaching its stage (its own first) are well-formed messages carrying entries
that `tbls.Recover` counts for at least `t = n/2+1` distinct members (`ValidShare`: index prefix
`i < n`, value decoding to `f(i+1)•H(c0)`).  Then, whatever else is in the sequence, exactly one report
is made and the node does not crash.  `tbls.Recover` runs with the code's arguments
`(threshold n, n)`, `n = len(ids)`. -/
theorem c01_enough_honest_reports_composed (cd : Codec G) (hcd : ∀ p, cd.decode (cd.encode p) = some p)
    (f : List F) (H : Bytes → G) (p a : Nat) (mb : Member) (r : Request) (fc : List (Option Msg))
    (c0 : Bytes) (hsub : submitter mb.ids r.last = some mb.me)
    (hc0 : contentFor p r mb.me = some c0) (hlen : mb.me.length = a)
    (hf : f.length ≤ threshold mb.ids.length) (hc : CharGt F mb.ids.length)
    (gs : List (Nat × Bytes)) (hidx : (gs.map (·.1)).Nodup) (ht : threshold mb.ids.length ≤ gs.length)
    (hgood : ∀ q ∈ gs, ValidShare cd f H mb.ids.length q.1 c0 q.2 ∧
      ∃ rid, some (⟨r.kind.ptype, rid, some c0, some q.2⟩ : Msg) ∈
        some ⟨r.kind.ptype, r.ridBytes, some c0, some (mb.signOwn c0)⟩ :: fc) :
    (handleQuery (tblsCrypto cd f H (threshold mb.ids.length) mb.ids.length) p a mb r fc).reports.length = 1
      ∧ (handleQuery (tblsCrypto cd f H (threshold mb.ids.length) mb.ids.length) p a mb r fc).stop = .none :=
  Props.C01.enough_honest_reports (ValidShare cd f H mb.ids.length) _ p a mb r fc c0 hsub hc0 hlen
    (tbls_hrec cd hcd f H _ _ (threshold_pos _) hf hc c0)
    (tbls_htot cd f H _ _ (threshold_pos _) hc c0)
    gs hidx (validShares_bytes_nodup gs hidx (fun q hq => (hgood q hq).1)) ht hgood

/-- **4″. liveness in terms of `tbls.Sign`**: `honest` is a list of distinct member numbers `< n`,
at least `t` of them; the submitter's own share and every honest member's share are what `tbls.Sign`
emits (`tblsSign`, C02 `signed_share_valid`) and each is carried by some well-formed message among the
stage's inputs.  Then exactly one report, no crash — whatever the other inputs are. -/
theorem c01_honest_signers_report (cd : Codec G) (hcd : ∀ p, cd.decode (cd.encode p) = some p)
    (f : List F) (H : Bytes → G) (p a : Nat) (mb : Member) (r : Request) (fc : List (Option Msg))
    (c0 : Bytes) (hsub : submitter mb.ids r.last = some mb.me)
    (hc0 : contentFor p r mb.me = some c0) (hlen : mb.me.length = a)
    (hf : f.length ≤ threshold mb.ids.length) (hc : CharGt F mb.ids.length)
    (h16 : mb.ids.length ≤ 65536)
    (honest : List Nat) (hnd : honest.Nodup) (hin : ∀ i ∈ honest, i < mb.ids.length)
    (ht : threshold mb.ids.length ≤ honest.length)
    (hmsg : ∀ i ∈ honest, ∃ rid, some (⟨r.kind.ptype, rid, some c0, some (tblsSign cd f (H c0) i)⟩ : Msg) ∈
        some ⟨r.kind.ptype, r.ridBytes, some c0, some (mb.signOwn c0)⟩ :: fc) :
    (handleQuery (tblsCrypto cd f H (threshold mb.ids.length) mb.ids.length) p a mb r fc).reports.length = 1
      ∧ (handleQuery (tblsCrypto cd f H (threshold mb.ids.length) mb.ids.length) p a mb r fc).stop = .none := by
  refine c01_enough_honest_reports_composed cd hcd f H p a mb r fc c0 hsub hc0 hlen hf hc
    (honest.map fun i => (i, tblsSign cd f (H c0) i)) ?_ ?_ ?_
  · have e : (honest.map fun i => (i, tblsSign cd f (H c0) i)).map (·.1) = honest := by
      simp [List.map_map, Function.comp_def]
    rw [e]; exact hnd
  · simpa using ht
  · intro q hq
    obtain ⟨i, hi, rfl⟩ := List.mem_map.1 hq
    exact ⟨signed_validShare cd hcd f H _ i (hin i hi) (by have := hin i hi; omega) c0, hmsg i hi⟩

/-- **4′. … whatever the arrival / registration order** (C13 `delivered_eq_arrivals` inside
`enough_honest_reports_any_order`), contracts discharged. -/
theorem c01_enough_honest_reports_any_order_composed (cd : Codec G)
    (hcd : ∀ p, cd.decode (cd.encode p) = some p) (f : List F) (H : Bytes → G) (p a : Nat)
    (mb : Member) (r : Request) (msgOf : Nat → Option Msg) (es₁ es₂ : List Collector.Ev) (h : Nat)
    (c0 : Bytes) (hsub : submitter mb.ids r.last = some mb.me)
    (hc0 : contentFor p r mb.me = some c0) (hlen : mb.me.length = a)
    (hf : f.length ≤ threshold mb.ids.length) (hc : CharGt F mb.ids.length)
    (hreg : ∀ h' r', Collector.Ev.register h' r' ∈ es₁ ++ es₂ → r' ≠ r.ridBytes ∧ h' ≠ h)
    (hcan : Collector.Ev.cancel h ∉ es₁ ++ es₂)
    (gs : List (Nat × Bytes)) (hidx : (gs.map (·.1)).Nodup) (ht : threshold mb.ids.length ≤ gs.length)
    (hgood : ∀ q ∈ gs, ValidShare cd f H mb.ids.length q.1 c0 q.2 ∧ (q.2 = mb.signOwn c0 ∨
      ∃ s, Collector.Ev.arrive s ∈ es₁ ++ Collector.Ev.register h r.ridBytes :: es₂ ∧ s.rid = r.ridBytes ∧
        msgOf s.tag = some ⟨r.kind.ptype, r.ridBytes, some c0, some q.2⟩)) :
    (nodeRun (tblsCrypto cd f H (threshold mb.ids.length) mb.ids.length) p a mb r msgOf
      (es₁ ++ Collector.Ev.register h r.ridBytes :: es₂) h).reports.length = 1 :=
  Props.C01.enough_honest_reports_any_order (ValidShare cd f H mb.ids.length) _ p a mb r msgOf es₁ es₂ h c0
    hsub hc0 hlen
    (tbls_hrec cd hcd f H _ _ (threshold_pos _) hf hc c0)
    (tbls_htot cd f H _ _ (threshold_pos _) hc c0)
    hreg hcan gs hidx (validShares_bytes_nodup gs hidx (fun q hq => (hgood q hq).1)) ht hgood

/-- **liveness + validity together**: under the hypotheses of the liveness theorem THE report exists
and satisfies the contract equation. -/
theorem c01_exactly_one_valid_report (pr : Pairing F G G2 GT) (cd : Codec G)
    (hcd : ∀ p, cd.decode (cd.encode p) = some p)
    (f : List F) (H : Bytes → G) (p a : Nat) (mb : Member) (r : Request) (fc : List (Option Msg))
    (c0 : Bytes) (hsub : submitter mb.ids r.last = some mb.me)
    (hc0 : contentFor p r mb.me = some c0) (hlen : mb.me.length = a)
    (hf : f.length ≤ threshold mb.ids.length) (hc : CharGt F mb.ids.length)
    (gs : List (Nat × Bytes)) (hidx : (gs.map (·.1)).Nodup) (ht : threshold mb.ids.length ≤ gs.length)
    (hgood : ∀ q ∈ gs, ValidShare cd f H mb.ids.length q.1 c0 q.2 ∧
      ∃ rid, some (⟨r.kind.ptype, rid, some c0, some q.2⟩ : Msg) ∈
        some ⟨r.kind.ptype, r.ridBytes, some c0, some (mb.signOwn c0)⟩ :: fc) :
    ∃ rep, (handleQuery (tblsCrypto cd f H (threshold mb.ids.length) mb.ids.length) p a mb r fc).reports = [rep]
      ∧ rep.result ++ mb.me = c0 ∧ ContractEq pr cd f H c0 rep.sig ∧ rep.index = r.kind.ptype := by
  have h1 := (c01_enough_honest_reports_composed cd hcd f H p a mb r fc c0 hsub hc0 hlen hf hc gs hidx ht hgood).1
  obtain ⟨rep, hrep⟩ := List.length_eq_one_iff.1 h1
  have hv := c01_report_valid_composed pr cd f H (threshold mb.ids.length) mb.ids.length p a mb r fc c0
    hc0 hlen rep (by rw [hrep]; simp)
  exact ⟨rep, hrep, hv.1, by rw [← hv.1]; exact hv.2.1, hv.2.2⟩

/-! ### the concrete scalars: `Zq r`, `r` the bn256 group order regenerated from /repo — a field by
`Proofs/Primes.lean` (no primality assumption), `1..n` non-zero by C09 `zq_charGt` -/

/-- liveness at the scalar type the drivers execute; remaining assumptions: G a `Zq r`-module,
codec round trip, `deg f < t`, `n ≤ 65536`. -/
theorem c01_honest_signers_report_bn256 {G : Type} [AddCommGroup G] [Module (Zq Share.bn256Order) G]
    [DecidableEq G] (cd : Codec G) (hcd : ∀ p, cd.decode (cd.encode p) = some p)
    (f : List (Zq Share.bn256Order)) (H : Bytes → G) (p a : Nat) (mb : Member) (r : Request)
    (fc : List (Option Msg)) (c0 : Bytes) (hsub : submitter mb.ids r.last = some mb.me)
    (hc0 : contentFor p r mb.me = some c0) (hlen : mb.me.length = a)
    (hf : f.length ≤ threshold mb.ids.length) (h16 : mb.ids.length ≤ 65536)
    (honest : List Nat) (hnd : honest.Nodup) (hin : ∀ i ∈ honest, i < mb.ids.length)
    (ht : threshold mb.ids.length ≤ honest.length)
    (hmsg : ∀ i ∈ honest, ∃ rid, some (⟨r.kind.ptype, rid, some c0, some (tblsSign cd f (H c0) i)⟩ : Msg) ∈
        some ⟨r.kind.ptype, r.ridBytes, some c0, some (mb.signOwn c0)⟩ :: fc) :
    (handleQuery (tblsCrypto cd f H (threshold mb.ids.length) mb.ids.length) p a mb r fc).reports.length = 1
      ∧ (handleQuery (tblsCrypto cd f H (threshold mb.ids.length) mb.ids.length) p a mb r fc).stop = .none :=
  c01_honest_signers_report cd hcd f H p a mb r fc c0 hsub hc0 hlen hf
    (Props.C09.zq_charGt Share.bn256Order mb.ids.length
      (Nat.lt_of_le_of_lt h16 (by decide))) h16 honest hnd hin ht hmsg

/-! ### non-vacuity: group of three, `F = G = Zq 11` (C02's toy codec), `f = 4 + 3x`, `H ≡ 2`:
shares `[0,0,3]`, `[0,1,9]`, `[0,2,4]`, group signature `[8]`; junk and a foreign share in between -/

private def ids3 : List Bytes := [List.replicate 20 0xA1, List.replicate 20 0xB2, List.replicate 20 0xC3]
private def req3 : Request := { kind := .sys, rid := 7, last := 7, seed := 0, parsed := none }
private def c3 : Bytes := sysContent 32 7 (List.replicate 20 0xB2)
private def mb1 : Member := { ids := ids3, me := List.replicate 20 0xB2, signOwn := fun _ => [0, 1, 9] }
private def fc3 : List (Option Msg) :=
  [some { index := 0, rid := [7], content := some c3, sig := some [1] },
   some { index := 0, rid := [7], content := some c3, sig := some [0, 2, 5] },
   some { index := 0, rid := [7], content := some [9, 9], sig := some [0, 0, 3] },
   none,
   some { index := 0, rid := [7], content := some c3, sig := some [0, 2, 4, 77] }]
private abbrev C3 : Crypto := tblsCrypto C02.toyCodec [(4 : Zq 11), 3] (fun _ => (2 : Zq 11)) (threshold 3) 3

/-- the model evaluated: one report carrying the group signature -/
example : ((handleQuery C3 32 20 mb1 req3 fc3).reports.map (·.sig)) = [[8]] := by decide

/-- the hypotheses of the composed liveness theorem are satisfiable (members 1 and 2 qualify) -/
example : (handleQuery C3 32 20 mb1 req3 fc3).reports.length = 1 ∧ (handleQuery C3 32 20 mb1 req3 fc3).stop = .none :=
  c01_enough_honest_reports_composed C02.toyCodec C02.toyCodec_roundtrip [(4 : Zq 11), 3] (fun _ => 2)
    32 20 mb1 req3 fc3 c3 (by decide) (by decide) (by decide) (by decide)
    (C09.zq_charGt 11 3 (by decide)) [(1, [0, 1, 9]), (2, [0, 2, 4, 77])] (by decide) (by decide)
    (by
      intro q hq
      simp only [List.mem_cons, List.not_mem_nil, or_false] at hq
      rcases hq with rfl | rfl
      · exact ⟨by unfold ValidShare; decide, ⟨natBytes 7, by decide⟩⟩
      · exact ⟨by unfold ValidShare; decide, ⟨[7], by decide⟩⟩)

/-- … and of the validity theorem, with a concrete pairing: the reported `[8]` satisfies the equation -/
example : ∀ rep ∈ (handleQuery C3 32 20 mb1 req3 fc3).reports,
    ContractEq (mulPairing (Zq 11)) C02.toyCodec [(4 : Zq 11), 3] (fun _ => 2) (natBE 32 7 ++ mb1.me) rep.sig :=
  c01_report_valid_sys_composed (mulPairing (Zq 11)) C02.toyCodec [(4 : Zq 11), 3] (fun _ => 2) _ _
    mb1 req3 fc3 rfl (by decide)

/-- `tbls.Sign` shares: members 1 (own) and 2 -/
example : (handleQuery C3 32 20 mb1 req3
    [some { index := 0, rid := [7], content := some c3, sig := some (tblsSign C02.toyCodec [(4 : Zq 11), 3] 2 2) }]).reports.length = 1 :=
  (c01_honest_signers_report C02.toyCodec C02.toyCodec_roundtrip [(4 : Zq 11), 3] (fun _ => 2)
    32 20 mb1 req3 _ c3 (by decide) (by decide) (by decide) (by decide)
    (C09.zq_charGt 11 3 (by decide)) (by decide) [1, 2] (by decide) (by decide) (by decide)
    (by
      intro i hi
      simp only [List.mem_cons, List.not_mem_nil, or_false] at hi
      rcases hi with rfl | rfl
      · exact ⟨natBytes 7, by decide⟩
      · exact ⟨[7], by decide⟩)).1

/-! ### the degenerate instance `f = []`

`hf : f.length ≤ t` admits the empty coefficient list, and `f.headD 0` is then `0`: the group whose shared
secret is 0 (public key = the identity of G2).  The theorems above are TRUE there and say what they say
everywhere – the report decodes to `f(0) • H(c) = 0` and satisfies the pairing equation under the key
`0 • g₂` – but under that key the equation holds for `S = 0` whatever the message is, so "valid on chain"
carries no information.  A key generation that ends with the zero polynomial is outside C01 (C04/C05:
the constant term is the sum of the dealers' secrets).  The instance below makes the degenerate reading
explicit; the non-degenerate instances are the examples above (`f = 4 + 3x`). -/

private abbrev C0 : Crypto := tblsCrypto C02.toyCodec ([] : List (Zq 11)) (fun _ => (2 : Zq 11)) (threshold 3) 3
private def mb1z : Member := { ids := ids3, me := List.replicate 20 0xB2, signOwn := fun _ => [0, 1, 0] }

/-- zero secret: every share is the encoding of 0, the report is the encoding of 0 -/
example : ((handleQuery C0 32 20 mb1z req3
    [some { index := 0, rid := [7], content := some c3, sig := some [0, 2, 0] }]).reports.map (·.sig)) = [[0]] := by decide

/-- for a polynomial that is not empty the key of the instance IS its constant term -/
theorem key_is_constant_term (f : List F) (hf : f ≠ []) : f.headD 0 = f.head hf := by
  cases f with
  | nil => exact absurd rfl hf
  | cons a l => rfl

end Dos.Props.C01Compose
