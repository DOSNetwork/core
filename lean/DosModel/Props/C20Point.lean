/-
C20 — group/edwards25519/point.go TRANSLATED (tie T), not only pinned as text.

`go/extract/ed25519ge` (ptprog.go) translates, on every run, the bodies of the `point` methods MarshalSize, MarshalBinary,
UnmarshalBinary, Equal, Set, Clone, Null, Base, Add, Sub, Neg, Mul and of `extendedGroupElement.Double` (ge.go) statement by
statement into method-call programs (`Gen/Ed25519Pt.lean`); `Model/PtProg.lean` interprets them: slots rebinding
(`E1 := P1.(*point)`, `a = &red`), fresh locals, calls of ge.go methods named by the static type of the receiver, the three
`if` forms of point.go and the byte-comparison loop of `Equal`.  The theorems below say that, FOR EVERY ALIASING PATTERN OF
THE FORMALS (the partitions of {receiver, parameters} — `P.Add(P, Q)`, `P.Add(Q, P)`, `P.Add(Q, Q)`, `P.Add(P, P)`, …), the
translated method computes exactly the hand model `ptAdd / ptSub / ptNeg / ptMul / ptMarshal / ptUnmarshal / ptEqual / ptNull /
ptBase / extDouble` of Model/Ed25519Ge.lean that the group theorems (Props/C20Group, C20Mult, C20Lawful) are about, leaves
the other objects alone, and returns what the Go method returns.  So for point.go the chain is: source —(go/ast, regenerated)→
program —(these theorems)→ hand model —(Props/C20Group, C20Mult)→ group law.  The callees' meaning (`PtProg.applyFn`: which model function
a ge.go method name denotes) is the remaining reading; the callees themselves are the translated straight-line methods,
except ToBytes / FromBytes (translated segments under a hand skeleton) and geScalarMult / geScalarMultBase (hand-modelled
loops, pinned as text in Props/C20Pins.lean).
-/
import DosModel.Proofs.PtProg

namespace Dos.Props.C20Point
open Dos Dos.Ed25519 Dos.Ge Dos.PtProg Dos.Gen.Ed25519Pt

/-- register `r` after a run (the return value is `St.res`) -/
abbrev out (st : St) (r : Nat) : Val := st.regs.getD r .unset

/-- the flag `varTime` is never written in the default build: points made by `new(point)` / `&point{ge: …}` have it false -/
theorem varTime_never_set : varTimeWrites = [] := rfl

example : varTimeWrites.length = 0 := rfl

/-- **point.Add** for the five aliasing patterns: receiver, P1, P2 distinct / receiver = P1 / receiver = P2 / P1 = P2 / all one
object.  The receiver ends as `ptAdd` of the values the arguments held at entry; an argument that is not the receiver is
unchanged; `varTime` is kept. -/
theorem point_Add_translated (p q r : Ext) (v0 v1 v2 : Bool) :
    (out (point_Add.run [0, 1, 2] [.ext r v0, .ext p v1, .ext q v2]) 0 = .ext (ptAdd p q) v0
      ∧ out (point_Add.run [0, 1, 2] [.ext r v0, .ext p v1, .ext q v2]) 1 = .ext p v1
      ∧ out (point_Add.run [0, 1, 2] [.ext r v0, .ext p v1, .ext q v2]) 2 = .ext q v2)
    ∧ (out (point_Add.run [0, 0, 1] [.ext p v0, .ext q v1]) 0 = .ext (ptAdd p q) v0
      ∧ out (point_Add.run [0, 0, 1] [.ext p v0, .ext q v1]) 1 = .ext q v1)
    ∧ (out (point_Add.run [0, 1, 0] [.ext q v0, .ext p v1]) 0 = .ext (ptAdd p q) v0
      ∧ out (point_Add.run [0, 1, 0] [.ext q v0, .ext p v1]) 1 = .ext p v1)
    ∧ out (point_Add.run [0, 1, 1] [.ext r v0, .ext p v1]) 0 = .ext (ptAdd p p) v0
    ∧ out (point_Add.run [0, 0, 0] [.ext p v0]) 0 = .ext (ptAdd p p) v0 := by
  refine ⟨⟨?_, ?_, ?_⟩, ⟨?_, ?_⟩, ⟨?_, ?_⟩, ?_, ?_⟩ <;> kernel_rfl

example : (point_Add.run [0, 0, 0] [.ext baseExt false]).res matches .recv := by decide

/-- **point.Sub**, the same five patterns -/
theorem point_Sub_translated (p q r : Ext) (v0 v1 v2 : Bool) :
    (out (point_Sub.run [0, 1, 2] [.ext r v0, .ext p v1, .ext q v2]) 0 = .ext (ptSub p q) v0
      ∧ out (point_Sub.run [0, 1, 2] [.ext r v0, .ext p v1, .ext q v2]) 1 = .ext p v1
      ∧ out (point_Sub.run [0, 1, 2] [.ext r v0, .ext p v1, .ext q v2]) 2 = .ext q v2)
    ∧ (out (point_Sub.run [0, 0, 1] [.ext p v0, .ext q v1]) 0 = .ext (ptSub p q) v0
      ∧ out (point_Sub.run [0, 0, 1] [.ext p v0, .ext q v1]) 1 = .ext q v1)
    ∧ (out (point_Sub.run [0, 1, 0] [.ext q v0, .ext p v1]) 0 = .ext (ptSub p q) v0
      ∧ out (point_Sub.run [0, 1, 0] [.ext q v0, .ext p v1]) 1 = .ext p v1)
    ∧ out (point_Sub.run [0, 1, 1] [.ext r v0, .ext p v1]) 0 = .ext (ptSub p p) v0
    ∧ out (point_Sub.run [0, 0, 0] [.ext p v0]) 0 = .ext (ptSub p p) v0 := by
  refine ⟨⟨?_, ?_, ?_⟩, ⟨?_, ?_⟩, ⟨?_, ?_⟩, ?_, ?_⟩ <;> kernel_rfl

example : out (point_Sub.run [0, 0, 0] [.ext baseExt true]) 0 = .ext (ptSub baseExt baseExt) true :=
  (point_Sub_translated baseExt baseExt baseExt true true true).2.2.2.2

/-- **point.Neg**: a fresh receiver gets `ptNeg`; `P.Neg(P)` runs `extended.Neg` on shared registers (`extNegInPlace`, proved
to represent the same point: C20Group.point_neg_aliased) -/
theorem point_Neg_translated (p r : Ext) (v0 v1 : Bool) :
    out (point_Neg.run [0, 1] [.ext r v0, .ext p v1]) 0 = .ext (ptNeg p) v0
    ∧ out (point_Neg.run [0, 1] [.ext r v0, .ext p v1]) 1 = .ext p v1
    ∧ out (point_Neg.run [0, 0] [.ext p v0]) 0 = .ext (extNegInPlace p) v0 := by
  refine ⟨?_, ?_, ?_⟩ <;> kernel_rfl

example : out (point_Neg.run [0, 0] [.ext baseExt false]) 0 = .ext (extNegInPlace baseExt) false :=
  (point_Neg_translated baseExt baseExt false false).2.2

/-- **Null, Base, Set, Clone, MarshalSize** -/
theorem point_plumbing_translated (p r : Ext) (v0 v1 : Bool) :
    out (point_Null.run [0] [.ext r v0]) 0 = .ext ptNull v0
    ∧ out (point_Base.run [0] [.ext r v0]) 0 = .ext ptBase v0
    ∧ out (point_Set.run [0, 1] [.ext r v0, .ext p v1]) 0 = .ext p v0
    ∧ out (point_Set.run [0, 1] [.ext r v0, .ext p v1]) 1 = .ext p v1
    ∧ out (point_Set.run [0, 0] [.ext p v0]) 0 = .ext p v0
    ∧ (point_Clone.run [0] [.ext p v0]).res = .point p
    ∧ out (point_Clone.run [0] [.ext p v0]) 0 = .ext p v0
    ∧ (point_MarshalSize.run [0] [.ext p v0]).res = .int 32 := by
  refine ⟨?_, ?_, ?_, ?_, ?_, ?_, ?_, ?_⟩ <;> kernel_rfl

example : (point_MarshalSize.run [0] [.ext baseExt false]).res = .int 32 :=
  (point_plumbing_translated baseExt baseExt false false).2.2.2.2.2.2.2

/-- **extended.Double** of ge.go (`var q projectiveGroupElement; p.ToProjective(&q); q.Double(r)`) is `extDouble` -/
theorem extended_Double_translated (p : Ext) (v0 : Bool) (c : Compl) :
    out (extended_Double.run [0, 1] [.ext p v0, .compl c]) 1 = .compl (extDouble p)
    ∧ out (extended_Double.run [0, 1] [.ext p v0, .compl c]) 0 = .ext p v0 := by
  refine ⟨?_, ?_⟩ <;> kernel_rfl

example : out (extended_Double.run [0, 1] [.ext baseExt false, .compl default]) 1 = .compl (extDouble baseExt) :=
  (extended_Double_translated baseExt false default).1

/-- **point.MarshalBinary** returns `ptMarshal` of the receiver and leaves it alone -/
theorem point_MarshalBinary_translated (p : Ext) (v0 : Bool) :
    (point_MarshalBinary.run [0] [.ext p v0]).res = .bytes (ptMarshal p)
    ∧ out (point_MarshalBinary.run [0] [.ext p v0]) 0 = .ext p v0 := by
  refine ⟨?_, ?_⟩ <;> kernel_rfl

example : (point_MarshalBinary.run [0] [.ext baseExt false]).res = .bytes (ptMarshal baseExt) :=
  (point_MarshalBinary_translated baseExt false).1

/-- **point.UnmarshalBinary**: `nil` and the decoded point when `ptUnmarshal` accepts, an error otherwise -/
theorem point_UnmarshalBinary_translated (b : Bytes) (r : Ext) (v0 : Bool) :
    (∀ e, ptUnmarshal b = some e →
      (point_UnmarshalBinary.run [0, 1] [.ext r v0, .bytes b]).res = .ok
      ∧ out (point_UnmarshalBinary.run [0, 1] [.ext r v0, .bytes b]) 0 = .ext e v0)
    ∧ (ptUnmarshal b = none → (point_UnmarshalBinary.run [0, 1] [.ext r v0, .bytes b]).res = .err) := by
  have e : point_UnmarshalBinary.run [0, 1] [.ext r v0, .bytes b] =
      runBlock (match extFromBytes b with
        | some e => { names := [0, 1], regs := [.ext e v0, .bytes b], flag := true }
        | none => { names := [0, 1], regs := [.unset, .bytes b], flag := false })
        [.ifNotFlag [.ret .err], .ret .ok] := by kernel_rfl
  rw [e]
  unfold ptUnmarshal
  cases extFromBytes b with
  | none => exact ⟨fun e h => (by cases h), fun _ => (by kernel_rfl)⟩
  | some e0 =>
    refine ⟨fun e h => ?_, fun h => (by cases h)⟩
    cases h
    exact ⟨(by kernel_rfl), (by kernel_rfl)⟩

example (r : Ext) : (point_UnmarshalBinary.run [0, 1] [.ext r false, .bytes []]).res = .err :=
  (point_UnmarshalBinary_translated [] r false).2 rfl

/-- **point.Equal**: the loop over the two 32-byte encodings answers `ptEqual` (all 32 bytes compared), also for
`P.Equal(P)`; both operands are unchanged -/
theorem point_Equal_translated (p q : Ext) (v0 v1 : Bool) :
    (point_Equal.run [0, 1] [.ext p v0, .ext q v1]).res = .bool (ptEqual p q)
    ∧ (point_Equal.run [0, 0] [.ext p v0]).res = .bool (ptEqual p p) := by
  constructor
  · rw [point_Equal.run_rangeNe [0, 1] [.ext p v0, .ext q v1] (point_Equal.body.take 4) _ _ 2 3 rfl
      (x := extToBytes p) (y := extToBytes q) (by kernel_rfl) (by kernel_rfl) (by kernel_rfl),
      firstNe_eq _ _ (by rw [extToBytes_len, extToBytes_len])]
    unfold ptEqual
    cases (extToBytes p == extToBytes q) <;> kernel_rfl
  · rw [point_Equal.run_rangeNe [0, 0] [.ext p v0] (point_Equal.body.take 4) _ _ 2 3 rfl
      (x := extToBytes p) (y := extToBytes p) (by kernel_rfl) (by kernel_rfl) (by kernel_rfl), firstNe_eq _ _ rfl]
    unfold ptEqual
    cases (extToBytes p == extToBytes p) <;> kernel_rfl

example : (point_Equal.run [0, 0] [.ext baseExt false]).res = .bool (ptEqual baseExt baseExt) :=
  (point_Equal_translated baseExt baseExt false false).2

/-- **point.Mul** (default build: `varTime` false) for every 32-byte scalar: the guard `a[31] > 127` with the translated
scReduce, then geScalarMultBase when `A == nil`, geScalarMult otherwise — also with the receiver as the point argument -/
theorem point_Mul_translated (a : Bytes) (hl : a.length = 32) (q r : Ext) (v1 : Bool) :
    out (point_Mul.run [0, 1, 2] [.ext r false, .bytes a, .nil]) 0 = .ext (ptMul a none) false
    ∧ out (point_Mul.run [0, 1, 2] [.ext r false, .bytes a, .ext q v1]) 0 = .ext (ptMul a (some q)) false
    ∧ out (point_Mul.run [0, 1, 0] [.ext q false, .bytes a]) 0 = .ext (ptMul a (some q)) false := by
  refine ⟨?_, ?_, ?_⟩
  · exact point_Mul.run_mulGuard _ _ [.bind 3 1] _ _ 3 rfl hl (by kernel_rfl) (by kernel_rfl) (out · 0)
      (fun b => .ext (geScalarMultBase b) false) (by kernel_rfl) (by kernel_rfl)
  · exact point_Mul.run_mulGuard _ _ [.bind 3 1] _ _ 3 rfl hl (by kernel_rfl) (by kernel_rfl) (out · 0)
      (fun b => .ext (geScalarMult b q) false) (by kernel_rfl) (by kernel_rfl)
  · exact point_Mul.run_mulGuard _ _ [.bind 3 1] _ _ 3 rfl hl (by kernel_rfl) (by kernel_rfl) (out · 0)
      (fun b => .ext (geScalarMult b q) false) (by kernel_rfl) (by kernel_rfl)

example : out (point_Mul.run [0, 1, 2] [.ext baseExt false, .bytes (natLE 32 (2 ^ 256 - 1)), .nil]) 0
    = .ext (ptMul (natLE 32 (2 ^ 256 - 1)) none) false :=
  (point_Mul_translated _ (by decide) baseExt baseExt false).1

end Dos.Props.C20Point
