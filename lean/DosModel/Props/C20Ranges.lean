/-
C20 — ranges, int64 overflow freedom and FULL REDUCTION of the ref10 scalar routines of
group/edwards25519/scalar.go; with them the clause `C20_scalar_full` stated in Props/C20Scalar.lean.

Method (design/C20Ranges.md): `go/extract/ed25519prog` emits each routine a second time, as DATA (a list of
statements `x := e`, Gen/Ed25519ScProg.lean, regenerated on every run).  A small interval abstract interpreter
(Model/IntervalProg.lean) is proved sound ONCE for all programs (`abs_interpreter_sound`); it is then evaluated by
the kernel on the emitted data (`decide +kernel`).  The data is tied to the functions the
other C20 theorems are about by `Eq.refl`, block by block (`data_is_the_translated_code`).  The interval result —
no intermediate value leaves the int64 range, and before the last two blocks the limbs are 21-bit digits with
s12 ∈ {-1, 0} — is combined with the exact value change of the last two blocks (−s12·ℓ) to show that the result is
in [0, ℓ) and its top limb in [0, 2^21].

Proved here, for ALL 32-byte (scReduce: 64-byte) inputs:
  * `scMulAdd_no_int64_overflow`, `sc_others_no_int64_overflow`: no int64 overflow in any (sub)expression of the
    loads, limb definitions, carry/fold blocks and byte packing; Go's wrapping int64 run equals the function of
    Gen/Ed25519Sc.lean (which computes in unbounded `Int`);
  * `scMulAdd_top_limb_range`: 0 ≤ s11 ≤ 2^21 (the hypothesis 0 ≤ s11 < 2^25 of `scMulAdd_bytes`) and
    0 ≤ value < ℓ;
  * `scMulAdd_bytes_full` = `C20_scalar_full`: leNat (scMulAdd a b c) = (a·b + c) mod ℓ, unconditionally; likewise
    `scMul_bytes_full`, `scAdd_bytes_full`, `scSub_bytes_full`, `scReduce_bytes_full` (64-byte load included);
  * `sc_results_canonical`: every result is the canonical 32-byte encoding (`scMarshal` leaves it unchanged).
-/
import DosModel.Props.C20Scalar
import DosModel.Proofs.Ed25519RangesReduce

set_option exponentiation.threshold 600

namespace Dos.Props.C20Ranges
open Dos Dos.Ed25519 Dos.IntervalProg Dos.IntervalProg.ScProg Dos.Gen.Ed25519Sc Dos.Gen.Ed25519ScProg

/-! ### 1. the abstract interpreter (all programs) -/

/-- **Soundness of the interval abstract interpreter.**  If every variable of `ρ` lies in its interval, the carry fact
of `σ` holds, and the interpreter answers `some σ'`, then (a) running `p` from `ρ` never leaves the int64 range in any
(sub)expression, (b) every variable of the final environment lies in its interval of `σ'` and the fact of `σ'` holds. -/
theorem abs_interpreter_sound (p : Prog) (ρ : Env) (σ σ' : AState) (h : Sound ρ σ) (hp : absProg σ p = some σ') :
    SafeProg ρ p ∧ Sound (evalProg ρ p) σ' :=
  absProg_sound p h hp

/-- **No overflow ⇒ the wrapping int64 semantics is the unbounded-`Int` semantics.** -/
theorem int64_semantics_coincide (p : Prog) (ρ : Env) (h : SafeProg ρ p) : evalProg64 ρ p = evalProg ρ p :=
  evalProg64_eq p ρ h

/-- the relational rule: after `c := (s + off) >> k`, the value `s - (c << k)` lies in [-off, 2^k - 1 - off] -/
theorem carry_rule (s off : Int) (k : Nat) :
    -off ≤ s - shl (shrI (s + off) k) k ∧ s - shl (shrI (s + off) k) k ≤ 2 ^ k - 1 - off :=
  sub_carry_bounds s off k

/-! ### 2. the emitted data is the translated code -/

/-- **Tie.**  Evaluating the emitted program data (unbounded `Int`) gives exactly the functions of
Gen/Ed25519Sc.lean, for all inputs (kernel `Eq.refl` per block; no block or constant is named in the proofs). -/
theorem data_is_the_translated_code :
    (∀ a b c : Bytes, runW id scMulAdd_prog [a, b, c] = scMulAdd shrI a b c)
    ∧ (∀ a c : Bytes, runW id scAdd_prog [a, c] = scAdd shrI a c)
    ∧ (∀ a c : Bytes, runW id scSub_prog [a, c] = scSub shrI a c)
    ∧ (∀ a b : Bytes, runW id scMul_prog [a, b] = scMul shrI a b)
    ∧ (∀ s : Bytes, runW id scReduce_prog [s] = scReduce shrI s) :=
  ⟨scMulAdd_tie, scAdd_tie, scSub_tie, scMul_tie, scReduce_tie⟩

/-- the kernel-evaluated analysis of the five routines (regenerated data) succeeds -/
theorem range_checks :
    rangeCheck scMulAdd_prog [32, 32, 32] = true ∧ rangeCheck scAdd_prog [32, 32] = true
    ∧ rangeCheck scSub_prog [32, 32] = true ∧ rangeCheck scMul_prog [32, 32] = true
    ∧ rangeCheck scReduce_prog [64] = true :=
  ⟨scMulAdd_rangeCheck, scAdd_rangeCheck, scSub_rangeCheck, scMul_rangeCheck, scReduce_rangeCheck⟩

/-! ### 3. no int64 overflow -/

/-- **scMulAdd never overflows int64**: for all 32-byte operands every (sub)expression of loads, limb definitions,
all 22 blocks and the byte packing stays in [-2^63, 2^63-1]; therefore the run with Go's wrapping int64 arithmetic
is the translated function (which computes in unbounded `Int`). -/
theorem scMulAdd_no_int64_overflow (a b c : Bytes) (ha : a.length = 32) (hb : b.length = 32) (hc : c.length = 32) :
    scMulAdd_prog.SafeFrom (scMulAdd_prog.rawVals [a, b, c])
    ∧ runW wrap scMulAdd_prog [a, b, c] = scMulAdd shrI a b c := by
  have h := (scMulAdd_ranges a b c ha hb hc).1
  exact ⟨h, by rw [runW_wrap_eq h, scMulAdd_tie]⟩

/-- the same for scAdd, scSub, scMul (32-byte operands) and scReduce (64-byte input) -/
theorem sc_others_no_int64_overflow :
    (∀ a c : Bytes, a.length = 32 → c.length = 32 →
      scAdd_prog.SafeFrom (scAdd_prog.rawVals [a, c]) ∧ runW wrap scAdd_prog [a, c] = scAdd shrI a c)
    ∧ (∀ a c : Bytes, a.length = 32 → c.length = 32 →
      scSub_prog.SafeFrom (scSub_prog.rawVals [a, c]) ∧ runW wrap scSub_prog [a, c] = scSub shrI a c)
    ∧ (∀ a b : Bytes, a.length = 32 → b.length = 32 →
      scMul_prog.SafeFrom (scMul_prog.rawVals [a, b]) ∧ runW wrap scMul_prog [a, b] = scMul shrI a b)
    ∧ (∀ s : Bytes, s.length = 64 →
      scReduce_prog.SafeFrom (scReduce_prog.rawVals [s]) ∧ runW wrap scReduce_prog [s] = scReduce shrI s) := by
  refine ⟨fun a c ha hc => ?_, fun a c ha hc => ?_, fun a b ha hb => ?_, fun s hs => ?_⟩
  · have h := (scAdd_ranges a c ha hc).1
    exact ⟨h, by rw [runW_wrap_eq h, scAdd_tie]⟩
  · have h := (scSub_ranges a c ha hc).1
    exact ⟨h, by rw [runW_wrap_eq h, scSub_tie]⟩
  · have h := (scMul_ranges a b ha hb).1
    exact ⟨h, by rw [runW_wrap_eq h, scMul_tie]⟩
  · have h := (scReduce_ranges s hs).1
    exact ⟨h, by rw [runW_wrap_eq h, scReduce_tie]⟩

/-! ### 4. range of the top limb, full reduction -/

/-- **Top limb.**  For all 32-byte operands the result limbs `r` of scMulAdd satisfy 0 ≤ r.s11 ≤ 2^21 (in particular
the hypothesis 0 ≤ s11 < 2^25 of `C20Scalar.scMulAdd_bytes`), and the represented value is fully reduced. -/
theorem scMulAdd_top_limb_range (a b c : Bytes) (ha : a.length = 32) (hb : b.length = 32) (hc : c.length = 32) :
    0 ≤ (app36 (scMulAdd_limbs shrI) (scMulAdd_load shrI a b c)).s11
    ∧ (app36 (scMulAdd_limbs shrI) (scMulAdd_load shrI a b c)).s11 ≤ 2097152
    ∧ 0 ≤ value (app36 (scMulAdd_limbs shrI) (scMulAdd_load shrI a b c))
    ∧ value (app36 (scMulAdd_limbs shrI) (scMulAdd_load shrI a b c)) < (ell : Int)
    ∧ scMulAdd shrI a b c = scMulAdd_store shrI (app36 (scMulAdd_limbs shrI) (scMulAdd_load shrI a b c)) :=
  let ⟨_, h0, h1, h2, h3⟩ := scMulAdd_ranges a b c ha hb hc
  ⟨h0, h1, h2, h3, scMulAdd_eq_app a b c⟩

/-- **scMulAdd on bytes, unconditional**: the 32 output bytes are the little-endian encoding of (a·b + c) mod ℓ. -/
theorem scMulAdd_bytes_full (a b c : Bytes) (ha : a.length = 32) (hb : b.length = 32) (hc : c.length = 32) :
    leNat (scMulAdd shrI a b c) = (leNat a * leNat b + leNat c) % ell := by
  have h := scMulAdd_full a b c ha hb hc
  exact_mod_cast h

/-- the clause `C20_scalar_full` stated in Props/C20Scalar.lean holds -/
theorem C20_scalar_full_holds : C20Scalar.C20_scalar_full :=
  fun a b c ha hb hc => scMulAdd_bytes_full a b c ha hb hc

/-- scMul on bytes: a·b mod ℓ -/
theorem scMul_bytes_full (a b : Bytes) (ha : a.length = 32) (hb : b.length = 32) :
    leNat (scMul shrI a b) = (leNat a * leNat b) % ell := by
  have h := scMul_full a b ha hb
  exact_mod_cast h

/-- scAdd on bytes: (a + c) mod ℓ -/
theorem scAdd_bytes_full (a c : Bytes) (ha : a.length = 32) (hc : c.length = 32) :
    leNat (scAdd shrI a c) = (leNat a + leNat c) % ell := by
  have h := scAdd_full a c ha hc
  exact_mod_cast h

/-- scSub on bytes: (a − c) mod ℓ, the non-negative representative -/
theorem scSub_bytes_full (a c : Bytes) (ha : a.length = 32) (hc : c.length = 32) :
    (leNat (scSub shrI a c) : Int) = ((leNat a : Int) - leNat c) % (ell : Int) :=
  scSub_full a c ha hc

/-- scReduce on bytes: a 64-byte little-endian value modulo ℓ -/
theorem scReduce_bytes_full (s : Bytes) (hs : s.length = 64) :
    leNat (scReduce shrI s) = leNat s % ell := by
  have h := scReduce_full s hs
  exact_mod_cast h

/-- **Results are canonical.**  Every scMulAdd result is a 32-byte string below ℓ, so a later
`MarshalBinary` (which reduces modulo ℓ) returns it unchanged. -/
theorem sc_results_canonical (a b c : Bytes) (ha : a.length = 32) (hb : b.length = 32) (hc : c.length = 32) :
    (scMulAdd shrI a b c).length = 32 ∧ leNat (scMulAdd shrI a b c) < ell
    ∧ scMarshal (scMulAdd shrI a b c) = scMulAdd shrI a b c := by
  have hl : (scMulAdd shrI a b c).length = 32 := by rw [scMulAdd_eq_app, scMulAdd_store_eq]; rfl
  have hlt : leNat (scMulAdd shrI a b c) < ell := by
    rw [scMulAdd_bytes_full a b c ha hb hc]; exact Nat.mod_lt _ (by decide)
  exact ⟨hl, hlt, (scMarshal_eq_self_iff _).mpr ⟨hl, hlt⟩⟩

/-! ### non-vacuity -/

/-- the interpreter accepts a small program and the soundness theorem applies to a concrete environment -/
example : SafeProg [3, 5] [⟨0, .add (.v 0) (.mul (.v 1) (.c 7))⟩]
    ∧ Sound (evalProg [3, 5] [⟨0, .add (.v 0) (.mul (.v 1) (.c 7))⟩]) ⟨[(0, 80), (0, 10)], none⟩ :=
  abs_interpreter_sound _ [3, 5] ⟨[(0, 10), (0, 10)], none⟩ _
    ⟨List.Forall₂.cons ⟨by decide, by decide⟩ (List.Forall₂.cons ⟨by decide, by decide⟩ List.Forall₂.nil),
      fun _ h => by cases h⟩ rfl
/-- … and it REJECTS a program that can overflow (2^62 · 4) -/
example : absProg ⟨[(0, 4611686018427387904)], none⟩ [⟨0, .mul (.v 0) (.c 4)⟩] = none := rfl
/-- the carry rule is what makes the analysis of the real code succeed: without the fact the same statement only gets
the plain interval -/
example : (absProg ⟨[(0, 4398046511104), (0, 0)], none⟩
      [⟨1, .shr (.add (.v 0) (.shl (.c 1) 20)) 21⟩, ⟨0, .sub (.v 0) (.shl (.v 1) 21)⟩]).map (fun σ => σ.itv.getD 0 (0, 0))
    = some (-1048576, 1048575) := by decide
example : leNat (scMulAdd shrI (natLE 32 (ell - 1)) (natLE 32 (ell - 1)) (natLE 32 7))
    = (leNat (natLE 32 (ell - 1)) * leNat (natLE 32 (ell - 1)) + leNat (natLE 32 7)) % ell :=
  scMulAdd_bytes_full _ _ _ (natLE_length _ _) (natLE_length _ _) (natLE_length _ _)
/-- the right-hand side on that input is the number 8 = (−1)·(−1) + 7 -/
example : (leNat (natLE 32 (ell - 1)) * leNat (natLE 32 (ell - 1)) + leNat (natLE 32 7)) % ell = 8 := by
  rw [leNat_natLE_of_lt 32 _ (by decide), leNat_natLE_of_lt 32 _ (by decide)]; decide
example : scMulAdd_prog.SafeFrom (scMulAdd_prog.rawVals [natLE 32 (2 ^ 256 - 1), natLE 32 (2 ^ 256 - 1), natLE 32 (2 ^ 256 - 1)]) :=
  (scMulAdd_no_int64_overflow _ _ _ (natLE_length _ _) (natLE_length _ _) (natLE_length _ _)).1
example : leNat (scReduce shrI (natLE 64 (2 ^ 512 - 1))) = leNat (natLE 64 (2 ^ 512 - 1)) % ell :=
  scReduce_bytes_full _ (natLE_length _ _)
example : (leNat (scSub shrI (natLE 32 0) (natLE 32 1)) : Int) = ((leNat (natLE 32 0) : Int) - leNat (natLE 32 1)) % (ell : Int) :=
  scSub_bytes_full _ _ (natLE_length _ _) (natLE_length _ _)

end Dos.Props.C20Ranges
