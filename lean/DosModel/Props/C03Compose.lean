/-
C03 composed — part A (the pairing equation, `verify_iff`) and part B (the byte-level model of
`tbls.Verify` / `tbls.Recover`, which decides verification by point equality) of `Props/C03.lean`
JOINED, and the primality hypothesis of the scalar field closed by `Proofs/Primes.lean`.

`Props/C03.lean` justifies modelling `bls.Verify` by `s = x • H(m)` through `verify_iff`, but no theorem
there states the byte-level verdicts in terms of the pairing equation itself.  These do, for EVERY
bilinear pairing non-degenerate at `g₂` (`pr : Pairing F G G2 GT` — the one assumption that remains,
C10 has differential evidence only), any field, module, codec, polynomial, entries:

* `blsVerify_iff_pairing`  — `bls.Verify(x•g₂, m, sig)` answers ok ⇔ `sig` parses to `S` with
  `e(−S, g₂)·e(H(m), x•g₂) = 1`;
* `tblsVerify_iff_pairing` — `tbls.Verify` answers ok ⇔ index `i` parses, the value parses to `S`, and the
  equation holds under the member key `public.Eval(i)` computed from the COMMITMENTS `fⱼ•g₂` (C09 `pubEval`);
* `counts_iff_pairing`, `recover_ok_pairing` — what `Recover` counts / returns, in pairing terms.
-/
import DosModel.Props.C03
import DosModel.Proofs.ComposePrimes
import DosModel.Proofs.ComposePairing

set_option linter.unusedSectionVars false

namespace Dos.Props.C03Compose
open Dos Dos.Share Dos.Tbls Dos.Compose

variable {F : Type} [Field F] [DecidableEq F]
variable {G : Type} [AddCommGroup G] [Module F G] [DecidableEq G]
variable {G2 GT : Type} [AddCommGroup G2] [Module F G2] [CommGroup GT]

/-- **`bls.Verify` at byte level = the pairing equation** -/
theorem blsVerify_iff_pairing (pr : Pairing F G G2 GT) (cd : Codec G) (x : F) (hm : G) (sig : Bytes) :
    blsVerifyR cd x hm sig = .ok
      ↔ ∃ S : G, cd.decode sig = some S ∧ pr.verifyEq (x • pr.g2) hm S :=
  (blsVerifyR_ok_iff cd hm x sig).trans (decode_eq_iff_verifyEq cd hm pr x sig)

/-- **`tbls.Verify` at byte level = the pairing equation under the member's public share key**, the key
being evaluated from the commitments of the public polynomial (`PubPoly.Eval`, C09) -/
theorem tblsVerify_iff_pairing [DecidableEq G2] (pr : Pairing F G G2 GT) (cd : Codec G) (f : List F)
    (hm : G) (sig : Bytes) :
    tblsVerifyR cd f hm sig = .ok
      ↔ ∃ (i : Nat) (S : G), sigIndex sig = some i ∧ cd.decode (sigValue sig) = some S
          ∧ pr.verifyEq (pubEval F (f.map (fun c => c • pr.g2)) (i : Int)) hm S := by
  simp only [tblsVerifyR_ok_iff, pubEval_map_smul, decode_eq_iff_verifyEq cd hm pr, exists_and_left]

/-- an entry counts toward the threshold iff its index is a member's and its value satisfies the
pairing equation under THAT member's key -/
theorem counts_iff_pairing [DecidableEq G2] (pr : Pairing F G G2 GT) (cd : Codec G) (f : List F)
    (hm : G) (n : Nat) (e : Bytes) (i : Nat) :
    validIdx cd f hm n e = some i
      ↔ sigIndex e = some i ∧ i < n ∧ ∃ S : G, cd.decode (sigValue e) = some S
          ∧ pr.verifyEq (pubEval F (f.map (fun c => c • pr.g2)) (i : Int)) hm S := by
  simp only [validIdx_eq_some_iff, pubEval_map_smul, decode_eq_iff_verifyEq cd hm pr]

/-- **whatever `Recover` returns satisfies the contract's equation under the group key**
`f(0)•g₂ = pubPoly.Commit()`, and at least `t` distinct members contributed -/
theorem recover_ok_pairing (pr : Pairing F G G2 GT) (cd : Codec G)
    (hcd : ∀ p, cd.decode (cd.encode p) = some p) (f : List F) (hm : G) (t n : Nat) (ht : 0 < t)
    (hc : CharGt F n) (sigs : List Bytes) (s : Bytes)
    (h : recover cd f hm sigs t n = .ok s) :
    t ≤ (members cd f hm n sigs).card
      ∧ ∃ S : G, cd.decode s = some S ∧ pr.verifyEq (f.headD 0 • pr.g2) hm S := by
  obtain ⟨h1, _, h3⟩ := Props.C03.recover_ok_verifies cd hcd f hm t n ht hc sigs s h
  exact ⟨h1, (blsVerify_iff_pairing pr cd (f.headD 0) hm s).1 h3⟩

/-- the group key the contract holds is the first commitment of the public polynomial -/
theorem group_key_is_first_commit (pr : Pairing F G G2 GT) (p : PriPoly F) :
    (commit p pr.g2).commits.headD 0 = p.coeffs.headD 0 • pr.g2 := by
  cases h : p.coeffs with
  | nil => simp [commit, h]
  | cons c cs => simp [commit, h]

/-! ### the bn256 scalars `Zq r` (a field by `Proofs/Primes.lean`): no primality / `CharGt` hypothesis -/

section bn256
variable {G : Type} [AddCommGroup G] [Module (Zq Share.bn256Order) G] [DecidableEq G]

theorem recover_ok_verifies_bn256 (cd : Codec G) (hcd : ∀ p, cd.decode (cd.encode p) = some p)
    (f : List (Zq Share.bn256Order)) (hm : G) (t n : Nat) (ht : 0 < t)
    (hn : n < 2 ^ 63) (sigs : List Bytes) (s : Bytes) (h : recover cd f hm sigs t n = .ok s) :
    t ≤ (members cd f hm n sigs).card ∧ s = cd.encode (f.headD 0 • hm)
      ∧ blsVerifyR cd (f.headD 0) hm s = .ok :=
  Props.C03.recover_ok_verifies cd hcd f hm t n ht
    (Props.C09.zq_charGt Share.bn256Order n (Nat.lt_trans hn (by decide))) sigs s h

theorem padding_irrelevant_bn256 (cd : Codec G) (f : List (Zq Share.bn256Order)) (hm : G)
    (t n : Nat) (ht : 0 < t) (hn : n < 2 ^ 63) (s₁ s₂ : List Bytes)
    (h : ∀ e, validIdx cd f hm n e ≠ none → (e ∈ s₁ ↔ e ∈ s₂)) :
    recover cd f hm s₁ t n = recover cd f hm s₂ t n :=
  Props.C03.padding_irrelevant cd f hm t n ht
    (Props.C09.zq_charGt Share.bn256Order n (Nat.lt_trans hn (by decide))) s₁ s₂ h

end bn256

/-! ### non-vacuity (`Zq 11`, C02's toy codec, `e(a,b) = a·b`) -/

open C02 in
example : ∃ S, toyCodec.decode [4, 77] = some S ∧
    (mulPairing (Zq 11)).verifyEq ((2 : Zq 11) • (mulPairing (Zq 11)).g2) 2 S :=
  (blsVerify_iff_pairing (mulPairing (Zq 11)) toyCodec 2 2 [4, 77]).1 (by decide)

open C02 in
example : ¬ ∃ (i : Nat) (S : Zq 11), sigIndex [0, 2, 5] = some i ∧ toyCodec.decode (sigValue [0, 2, 5]) = some S
    ∧ (mulPairing (Zq 11)).verifyEq
        (pubEval (Zq 11) (([4, 3] : List (Zq 11)).map (fun c => c • (mulPairing (Zq 11)).g2)) (i : Int)) 2 S :=
  fun h => by
    have := (tblsVerify_iff_pairing (mulPairing (Zq 11)) toyCodec [(4 : Zq 11), 3] 2 [0, 2, 5]).2 h
    revert this; decide

open C02 in
example : ∃ S, toyCodec.decode (blsSign toyCodec (4 : Zq 11) 2) = some S ∧
    (mulPairing (Zq 11)).verifyEq (([(4 : Zq 11), 3]).headD 0 • (mulPairing (Zq 11)).g2) 2 S :=
  (recover_ok_pairing (mulPairing (Zq 11)) toyCodec toyCodec_roundtrip [(4 : Zq 11), 3] 2 2 3 (by decide)
    (C09.zq_charGt 11 3 (by decide))
    _ _ toy_recover).2

end Dos.Props.C03Compose
