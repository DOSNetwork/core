/-
C02 / C03 composed with the elliptic-curve group law — the theorems of `Props/C02.lean`, `Props/C03.lean`
(stated for an abstract field and module) TRANSPORTED to the concrete instance the drivers `drv_c02` /
`drv_c03` execute and the correspondence run compares with the real `tbls.Recover`: scalars `Zq r`,
points `G1.Pt` (`Model/TblsG1.lean`), codec `g1Codec` (`Model/TblsDrv.lean`).

The chord/tangent formulas are a group only on the curve, so `G1.Pt` itself is no module. The bridge is
the refinement map `φ : G1.Pt → E(F_p)` into Mathlib's group of the curve `y² = x³ + 3`
(`Proofs/ComposeTblsG1.lean`: `add`, `neg` of the driver ARE the group operations on valid points, `p`
prime by `Proofs/Primes.lean`), and `Proofs/ComposeNatural.lean` (naturality of the `Recover` model).

`Proofs/ComposeTblsG1Mul.lean` proves that the driver's Jacobian double-and-add `G1.mul` (doubling
"dbl-2009-l", mixed addition, final inversion) computes `k • P` in that group.

The ONE hypothesis that remains, explicit in every statement that needs it:
* `hr : ∀ P : E, r • P = 0` — `#E(F_p) = r` (the curve group has exponent `r`); needed for `E(F_p)` to
  be a `Z/r`-module at all.  Not provable here (no point counting in Mathlib).
-/
import DosModel.Proofs.ComposeTblsG1Module

set_option linter.style.haveILetI false

namespace Dos.Props.C02ComposeG1
open Dos Dos.G1 Dos.Share Dos.Tbls Dos.Compose.TG1 Dos.Compose.Curve

/-- the driver's G1 addition and negation are the group operations of `E(F_p)` on valid points
(closure included), the map `φ` is injective there, and what the decoder accepts is valid -/
theorem g1_driver_group_law (P Q : Pt) (hP : Valid P) (hQ : Valid Q) :
    (Valid (G1.add P Q) ∧ φ (G1.add P Q) = φ P + φ Q) ∧ (Valid (G1.neg P) ∧ φ (G1.neg P) = -φ P)
    ∧ (φ P = φ Q → P = Q) ∧ (∀ b R, G1.decode b = some R → Valid R) :=
  ⟨valid_add P Q hP hQ, valid_neg P hP, φ_inj hP hQ, decode_valid⟩

/-- **the driver's scalar multiplication is `k •` of the group** (no hypothesis besides validity): the
Jacobian double-and-add of `Model/TblsG1.lean` stays on the curve and computes the `k`-fold sum -/
theorem g1_driver_mul_is_scalar_multiple (k : Nat) (P : Pt) (hP : Valid P) :
    Valid (G1.mul k P) ∧ φ (G1.mul k P) = k • φ P := mulBridge k P hP

/-- hence the driver's addition is commutative and associative on valid points -/
theorem g1_driver_add_laws (P Q R : Pt) (hP : Valid P) (hQ : Valid Q) (hR : Valid R) :
    G1.add P Q = G1.add Q P ∧ G1.add (G1.add P Q) R = G1.add P (G1.add Q R) :=
  have h := Compose.laws_of_embedding (V := Valid) (ι := φ) (zero := .inf) (add := G1.add)
    (neg := G1.neg) (smul := G1.mul) φ_inj ⟨trivial, rfl⟩ valid_add valid_neg mulBridge hP hQ hR 0 0
  ⟨h.1, h.2.1⟩

/-- **C02 `recover_unique` for the functions the driver runs.**  `hm` a valid point (the hashed
message), `signers` distinct member numbers `< n`, at least `t` of them, each with SOME entry in the list
carrying its index and decoding to its share `f(i+1) • H(m)` computed by the driver's own `G1.mul` — in
any order, with anything else in the list.  Then the driver's `recover` returns the encoding of
`f(0) • H(m)`. -/
theorem recover_unique_g1 (hr : ∀ P : E, G1.r • P = 0) (f : List (Zq G1.r))
    (hm : Pt) (hv : Valid hm) (t n : Nat) (ht : 0 < t) (hf : f.length ≤ t) (hn : n < 2 ^ 63)
    (sigs : List Bytes) (signers : List Nat) (hnd : signers.Nodup) (hcount : t ≤ signers.length)
    (hgood : ∀ i ∈ signers, i < n ∧ ∃ e ∈ sigs, sigIndex e = some i ∧
      G1.decode (sigValue e) = some (G1.mul (priEval f (i : Int)).val hm)) :
    recover g1Codec f hm sigs t n = .ok (G1.encode (G1.mul (f.headD 0).val hm)) := by
  letI := moduleE hr
  rw [← recover_eq_abstract hr f hm hv sigs t n]
  have hq : t ≤ (members codecE f (φ hm) n sigs).card :=
    hcount.trans (le_card_members codecE f (φ hm) n sigs signers hnd fun i hi => by
      obtain ⟨hin, e, he, hidx, hdec⟩ := hgood i hi
      exact ⟨e, he, (validIdx_codecE_iff hr f hm hv n e i).2 ⟨hidx, hin, hdec⟩⟩)
  rw [Props.C02.recover_unique codecE f (φ hm) t n ht hf
    (Props.C09.zq_charGt G1.r n (Nat.lt_trans hn (by decide))) sigs hq]
  exact congrArg (fun P => Res.ok (G1.encode P)) (ψ_smul_φ hr _ hm hv)

/-- **C02 `recover_total` for the driver**: never a panic, any polynomial, any entries -/
theorem recover_total_g1 (hr : ∀ P : E, G1.r • P = 0) (f : List (Zq G1.r))
    (hm : Pt) (hv : Valid hm) (t n : Nat) (ht : 0 < t) (hn : n < 2 ^ 63) (sigs : List Bytes) :
    ∀ s, recover g1Codec f hm sigs t n ≠ .panic s := by
  letI := moduleE hr
  rw [← recover_eq_abstract hr f hm hv sigs t n]
  exact Props.C02.recover_total codecE f (φ hm) t n ht
    (Props.C09.zq_charGt G1.r n (Nat.lt_trans hn (by decide))) sigs

/-- **C03 `recover_ok_verifies` for the driver**: whatever the driver's `recover` returns is the
encoding of `f(0) • H(m)` and passes the driver's `bls.Verify` under the group key – ANY public
polynomial (the guard of /repo 3cdfff8 refuses `t < len f`) -/
theorem recover_ok_verifies_g1 (hr : ∀ P : E, G1.r • P = 0) (f : List (Zq G1.r))
    (hm : Pt) (hv : Valid hm) (t n : Nat) (ht : 0 < t) (hn : n < 2 ^ 63)
    (sigs : List Bytes) (s : Bytes) (h : recover g1Codec f hm sigs t n = .ok s) :
    s = G1.encode (G1.mul (f.headD 0).val hm) ∧ blsVerifyR g1Codec (f.headD 0) hm s = .ok := by
  letI := moduleE hr
  rw [← recover_eq_abstract hr f hm hv sigs t n] at h
  obtain ⟨_, h2, h3⟩ := Props.C03.recover_ok_verifies codecE codecE_roundtrip f (φ hm) t n ht
    (Props.C09.zq_charGt G1.r n (Nat.lt_trans hn (by decide))) sigs s h
  exact ⟨h2.trans (congrArg G1.encode (ψ_smul_φ hr _ hm hv)),
    (blsVerifyR_eq_abstract hr (f.headD 0) hm hv s).symm.trans h3⟩

/-- **C03 `below_threshold_errors` for the driver**: fewer than `t` members with a countable entry ⇒
an error ("not enough shares", or the refusal of a threshold below the polynomial's), whatever else is
in the list (`hr` is needed although nothing is interpolated: the statement is transported through the
same module structure) -/
theorem below_threshold_errors_g1 (hr : ∀ P : E, G1.r • P = 0) (f : List (Zq G1.r))
    (hm : Pt) (hv : Valid hm) (t n : Nat) (ht : 0 < t) (sigs : List Bytes)
    (hfew : ∀ signers : List Nat, signers.Nodup →
      (∀ i ∈ signers, i < n ∧ ∃ e ∈ sigs, sigIndex e = some i ∧
        G1.decode (sigValue e) = some (G1.mul (priEval f (i : Int)).val hm)) → signers.length < t) :
    recover g1Codec f hm sigs t n = if t < f.length then .errThreshold else .errFew := by
  letI := moduleE hr
  rw [← recover_eq_abstract hr f hm hv sigs t n]
  apply Props.C03.below_threshold_errors codecE f (φ hm) t n ht sigs
  have := hfew (members codecE f (φ hm) n sigs).toList (Finset.nodup_toList _) (by
    intro i hi
    simp only [Finset.mem_toList, members, List.mem_toFinset, List.mem_filterMap] at hi
    obtain ⟨e, he, hval⟩ := hi
    obtain ⟨h1, h2, h3⟩ := (validIdx_codecE_iff hr f hm hv n e i).1 hval
    exact ⟨h2, e, he, h1, h3⟩)
  rwa [Finset.length_toList] at this

/-! non-vacuity: the base point and its multiples are valid, the driver's operations on them obey the
group laws (evaluated by the kernel), and a decoded share is valid -/

theorem base_valid : Valid G1.base := by
  show 1 < G1.p ∧ 2 < G1.p ∧ G1.onCurve 1 2 = true
  decide

example : G1.add (G1.add G1.base G1.base) (G1.neg G1.base) = G1.base := by decide +kernel
example : Valid (G1.mul 12345 G1.base) := (g1_driver_mul_is_scalar_multiple 12345 G1.base base_valid).1
example : G1.add G1.base (G1.mul 5 G1.base) = G1.add (G1.mul 5 G1.base) G1.base :=
  (g1_driver_add_laws _ _ G1.base base_valid (g1_driver_mul_is_scalar_multiple 5 _ base_valid).1 base_valid).1
example : φ (G1.mul 7 G1.base) = 7 • φ G1.base := (g1_driver_mul_is_scalar_multiple 7 G1.base base_valid).2

end Dos.Props.C02ComposeG1
