/-
C14 — EVERY FAIR RUN TERMINATES (AF), and the semantic content of W6 / of the collector
half of W7.

`Props/C14.lean` proves "can always terminate" (EF: a terminating schedule exists from every
reachable state after the cancellation).  This file proves termination of every run under an
explicit fairness hypothesis, `Fair` (`Model/PipeRun.lean`):

  weak    a goroutine that has an enabled step at every position from some position on moves;
  cancel  a goroutine that infinitely often leaves a `select` while its `<-ctx_k.Done()` alternative
          is enabled infinitely often leaves it through that alternative — what Go's uniformly
          random choice among the ready alternatives gives with probability 1;
  timer   the same for a timer / ticker alternative ("timers fire");
  data    a goroutine that infinitely often leaves an internal choice takes each successor
          infinitely often ("data loops and external calls terminate" — an assumption about the code).

Runs (`Run p`) are infinite sequences of states from the initial state in which every position is a
step of `Step` or a stutter; a finite maximal run is one that stutters for ever from some position
on.  `r.Terminates`: from some position on, for ever, no pipeline goroutine runs and every channel
that a pipeline goroutine closes on all its paths is closed.  No bound on anything.

Weak fairness alone does not suffice: `weak_fairness_is_not_enough` is the counter-run of
design/C14.md as a theorem.
-/
import DosModel.Props.C14
import DosModel.Proofs.PipeFairDemo

namespace Dos.Props.C14
open Dos Dos.Pipe Dos.Gen.Pipes

/-! ## 1. every fair run terminates -/

/-- **all_fair_runs_terminate** (AF).  For EVERY pipeline IR that passes W0, the close / wait-group
disciplines (SafeOk: W1, W5) and the liveness rules (LiveOk: W2–W4): every fair run in which the
pipeline context (context 0) is eventually done reaches, and never leaves again, a state in which
no pipeline goroutine runs and every channel with a pipeline closer is closed.  Any number of
goroutines, channels, buffer sizes, any cancellation instant, any interleaving before and after it. -/
theorem all_fair_runs_terminate (p : Pipeline) (h0 : W0 p = true) (hs : SafeOk p = true)
    (hl : LiveOk p = true) (r : Run p) (hf : Fair r) (hc : ∃ i, (r.st i).ctxDone 0 = true) :
    r.Terminates :=
  fair_run_terminates hl (safe_pipeline_never_crashes p h0 hs) hf hc

/-- non-vacuity: the demo fan-in (upstream stage → fan-in goroutine → caller, closer behind a wait
group) meets the hypotheses, and `Demo.fairRun` is a fair run of it in which a value travels through
the pipeline (position 2), the deadline fires (position 4) and the last goroutine returns at
position 15 with both channels closed -/
example : Demo.fairRun.Terminates ∧
    (Demo.fairRun.st 2).len 1 = 1 ∧ (Demo.fairRun.st 3).ctxDone 0 = false ∧
    (Demo.fairRun.st 14).gs[1]? = some (.at 1) ∧ (Demo.fairRun.st 15).gs = [.done, .done, .done, .done] :=
  ⟨all_fair_runs_terminate Demo.fanin Demo.fanin_wf.1 Demo.fanin_wf.2.1 Demo.fanin_wf.2.2 Demo.fairRun
      Demo.fairRun_fair ⟨4, Demo.fairRun_cancelled⟩,
   Demo.fairRun_nontrivial.1, Demo.fairRun_nontrivial.2.1, Demo.fairRun_nontrivial.2.2.1,
   Demo.fairRun_nontrivial.2.2.2.1⟩

/-- **weak_fairness_is_not_enough.**  There is a pipeline passing every rule and an infinite run of
it that is weakly fair (every goroutine that is enabled from some position on moves — here the
upstream stage, the fan-in goroutine and the caller each move infinitely often, the closer is
never enabled), satisfies the `timer` and `data` clauses of `Fair`, has its context done from
position 1 on — and in which no position is quiet: the upstream stage never returns.  The only
clause of `Fair` it violates is `cancel`: at every execution of a `select` with both the
communication and `<-ctx.Done()` ready it picks the communication.  Under Go's uniformly random
`select` this run (and every run like it) has probability 0. -/
theorem weak_fairness_is_not_enough :
    ∃ (p : Pipeline) (r : Run p), W0 p = true ∧ SafeOk p = true ∧ LiveOk p = true ∧
      WeakFair r ∧ (∀ g pc n, ChoiceFair r g pc .tick n) ∧ (∀ g pc n, ChoiceFair r g pc .tau n) ∧
      (r.st 1).ctxDone 0 = true ∧ ∀ i, ¬ Quiet p (r.st i) :=
  ⟨Demo.fanin, Demo.spin, Demo.fanin_wf.1, Demo.fanin_wf.2.1, Demo.fanin_wf.2.2, Demo.spin_weakFair,
   fun g pc n => Demo.spin_choice_vacuous g pc _ n (Or.inl rfl),
   fun g pc n => Demo.spin_choice_vacuous g pc _ n (Or.inr rfl),
   Demo.spin_cancelled, Demo.spin_never_quiet⟩

/-- the counter-run is a cycle of three steps: upstream → fan-in (rendezvous), fan-in → merged channel,
merged channel → caller; and it is not fair -/
example : Demo.spin.ev 1 = some (.sync 0 2 0) ∧ Demo.spin.ev 2 = some (.act 2 (.send 1)) ∧
    Demo.spin.ev 3 = some (.act 1 (.recvOk 1)) ∧ Demo.spin.st 4 = Demo.spin.st 1 ∧ ¬ Fair Demo.spin := by
  refine ⟨rfl, rfl, rfl, by decide +kernel, fun hf => ?_⟩
  have := all_fair_runs_terminate Demo.fanin Demo.fanin_wf.1 Demo.fanin_wf.2.1 Demo.fanin_wf.2.2 Demo.spin hf
    ⟨1, Demo.spin_cancelled⟩
  obtain ⟨T, hT⟩ := this
  exact Demo.spin_never_quiet T (hT T (Nat.le_refl _)).1

/-! ## 2. the regenerated pipelines: every fair run terminates -/

/-- for a pipeline whose violations are all recorded benign findings (on this tree: none at all) -/
theorem pipeline_every_fair_run_terminates (p : Pipeline)
    (h : subsetOf (violations p) Gen.PipeKnown.sites = true) (r : Run p) (hf : Fair r)
    (hc : ∃ i, (r.st i).ctxDone 0 = true) : r.Terminates := by
  obtain ⟨h0, hs, hl⟩ := wf_of_no_violation p (benign_of_subset h known_findings_are_benign)
  exact all_fair_runs_terminate p h0 hs hl r hf hc

example : subsetOf (violations helper_dosnode_mergeErrors) Gen.PipeKnown.sites = true := by decide +kernel

/-- the three query pipelines of `handleQuery` (system random, user random, URL query): every fair
run in which the deadline fires (or `cancel()` is called) ends with all pipeline goroutines returned
and every stage channel closed, for ever -/
theorem query_pipelines_every_fair_run_terminates :
    (∀ (r : Run query_sys), Fair r → (∃ i, (r.st i).ctxDone 0 = true) → r.Terminates) ∧
    (∀ (r : Run query_user), Fair r → (∃ i, (r.st i).ctxDone 0 = true) → r.Terminates) ∧
    (∀ (r : Run query_url), Fair r → (∃ i, (r.st i).ctxDone 0 = true) → r.Terminates) :=
  ⟨pipeline_every_fair_run_terminates _ query_sys_wf, pipeline_every_fair_run_terminates _ query_user_wf,
   pipeline_every_fair_run_terminates _ query_url_wf⟩

/-- non-vacuity on the regenerated IR: the stage channels of the system-random pipeline are among
the channels `Terminates` talks about (each has a static pipeline closer that closes on every path) -/
example : (query_sys.gs.filter (fun gr => gr.static && !gr.daemon &&
      (List.range query_sys.chans.length).any (fun c => gr.hasClose c && closesOnAllPaths gr c))).length ≥ 6 := by
  decide +kernel

/-- the p2p client pipes (`client.run`) -/
theorem p2p_client_every_fair_run_terminates (r : Run p2p_client) (hf : Fair r)
    (hc : ∃ i, (r.st i).ctxDone 0 = true) : r.Terminates :=
  pipeline_every_fair_run_terminates _ p2p_client_wf r hf hc

example : W0 p2p_client = true ∧ SafeOk p2p_client = true ∧ LiveOk p2p_client = true :=
  wf_of_no_violation _ (benign_of_subset p2p_client_wf known_findings_are_benign)

/-- every fan-in / subscribe helper with its generic upstream stages and caller loop -/
theorem helpers_every_fair_run_terminates :
    ∀ p ∈ [helper_dosnode_mergeErrors, helper_dosnode_fanIn, helper_utils_MergeErrors, helper_onchain_merge,
      helper_onchain_mergeError, helper_onchain_first, helper_onchain_firstEvent, helper_p2p_merge,
      helper_dkg_mergeErrors, helper_dkg_fanOut],
    ∀ (r : Run p), Fair r → (∃ i, (r.st i).ctxDone 0 = true) → r.Terminates := by
  intro p hp
  apply pipeline_every_fair_run_terminates
  have h := helpers_wf
  rw [List.all_eq_true] at h
  exact h p hp

/-- a fair run of the REGENERATED `helper.dosnode.mergeErrors` (`Demo.helperTrace`): an error travels
upstream → fan-in → merged channel → caller, the deadline fires, everybody leaves -/
example : ∃ (h : traceOk helper_dosnode_mergeErrors Demo.helperTrace = true),
    Fair (Run.ofTrace helper_dosnode_mergeErrors Demo.helperTrace h) ∧
    (Run.ofTrace helper_dosnode_mergeErrors Demo.helperTrace h).Terminates ∧
    ((Run.ofTrace helper_dosnode_mergeErrors Demo.helperTrace h).st 21).closed 2 = true := by
  have h : traceOk helper_dosnode_mergeErrors Demo.helperTrace = true := by decide +kernel
  have hf := ofTrace_fair helper_dosnode_mergeErrors Demo.helperTrace h (by decide +kernel)
  have h21 : (traceSt helper_dosnode_mergeErrors Demo.helperTrace 21).closed 2 = true := by decide +kernel
  have h4 : (traceSt helper_dosnode_mergeErrors Demo.helperTrace 4).ctxDone 0 = true := by decide +kernel
  have hall := helpers_every_fair_run_terminates helper_dosnode_mergeErrors (List.Mem.head _)
  refine ⟨h, hf, hall _ hf ⟨4, ?_⟩, ?_⟩
  · rw [ofTrace_st]; exact h4
  · rw [ofTrace_st]; exact h21

/-! ## 3. the collector half of W7, semantically -/

/-- **collector_eventually_closes.**  For every pipeline IR passing W0, SafeOk, LiveOk: a collector
goroutine `d` (typically a daemon: queryLoop, pdkg.Loop) that passes `CollectorOk` for channel `c`
handed off on `rr` — from every node at which it holds `c` an escape edge (request context 0, else
its own timer, …) leads towards `close c`; the labeling is closed forwards; its nodes pass W2/W3 —
and that holds `c` at some position of a fair run in which context 0 is eventually done, later closes
`c` (and `c` stays closed) or has itself returned (shutdown of the node). -/
theorem collector_eventually_closes (p : Pipeline) (h0 : W0 p = true) (hs : SafeOk p = true)
    (hl : LiveOk p = true) (r : Run p) (hf : Fair r) (hc : ∃ i, (r.st i).ctxDone 0 = true)
    (d : Gi) (gd : Goroutine) (c rr : Ch) (hg : p.gs[d]? = some gd) (hok : CollectorOk p d gd c rr = true)
    (i0 : Nat) (pc0 : Pc) (hat : (r.st i0).gs[d]? = some (.at pc0)) (hown : mark (ownD gd c rr) pc0 = true) :
    ∃ j, i0 ≤ j ∧ ((∀ j', j ≤ j' → (r.st j').closed c = true) ∨ (r.st j).gs[d]? = some .done) := by
  obtain ⟨j, hj, h⟩ := collector_closes hl (safe_pipeline_never_crashes p h0 hs) hf hc hg hok hat hown
  rcases h with h | h
  · exact ⟨j, hj, Or.inl (r.closed_stable h)⟩
  · exact ⟨j, hj, Or.inr h⟩

/-- non-vacuity: `Demo.handoff` (a creator registers its reply channel with a daemon collector);
in `Demo.handoffRun` the collector holds the channel at position 3, the context is done at 5, the
channel is closed at 7 -/
example : (∃ j, 3 ≤ j ∧ ((∀ j', j ≤ j' → (Demo.handoffRun.st j').closed 0 = true) ∨
      (Demo.handoffRun.st j).gs[1]? = some .done)) ∧
    (Demo.handoffRun.st 3).closed 0 = false ∧ (Demo.handoffRun.st 7).closed 0 = true :=
  ⟨collector_eventually_closes Demo.handoff Demo.handoff_wf.1 Demo.handoff_wf.2.1 Demo.handoff_wf.2.2.1
      Demo.handoffRun Demo.handoffRun_fair ⟨5, Demo.handoffRun_facts.2.2.2.1⟩ 1 _ 0 1 rfl (by decide +kernel)
      3 1 Demo.handoffRun_facts.1 Demo.handoffRun_facts.2.1,
   Demo.handoffRun_facts.2.2.1, Demo.handoffRun_facts.2.2.2.2⟩

/-- all hand-offs of a pipeline at once -/
theorem collectors_eventually_close (p : Pipeline) (h : subsetOf (violations p) Gen.PipeKnown.sites = true)
    (hco : CollectorsOk p = true) (r : Run p) (hf : Fair r) (hc : ∃ i, (r.st i).ctxDone 0 = true) :
    ∀ x ∈ handoffs p, ∀ gd, p.gs[x.1]? = some gd → ∀ i0 pc0, (r.st i0).gs[x.1]? = some (.at pc0) →
      mark (ownD gd x.2.1 x.2.2) pc0 = true →
      ∃ j, i0 ≤ j ∧ ((∀ j', j ≤ j' → (r.st j').closed x.2.1 = true) ∨ (r.st j).gs[x.1]? = some .done) := by
  obtain ⟨h0, hs, hl⟩ := wf_of_no_violation p (benign_of_subset h known_findings_are_benign)
  intro x hx gd hg i0 pc0 hat hown
  unfold CollectorsOk at hco
  rw [List.all_eq_true] at hco
  have hok := hco x hx
  rw [hg] at hok
  exact collector_eventually_closes p h0 hs hl r hf hc x.1 gd x.2.1 x.2.2 hg hok i0 pc0 hat hown

example : handoffs Demo.handoff = [(1, 0, 1)] ∧ CollectorsOk Demo.handoff = true :=
  ⟨Demo.handoff_wf.2.2.2.1, Demo.handoff_wf.2.2.2.2⟩

/-- the query pipelines: `dispatchSign` hands its reply channel to `queryLoop` (over `reqSignc`);
once `queryLoop` has taken the registration it closes the reply channel in every fair run in which
the request's context ends (its watchdog ticker brings it to the `<-ctx.Done()` check) — or the node
shuts down.  The hand-off exists in each of the three pipelines (first conjunct). -/
theorem query_collector_closes_reply_channel :
    ((handoffs query_sys).length = 1 ∧ (handoffs query_user).length = 1 ∧ (handoffs query_url).length = 1) ∧
    ∀ p ∈ [query_sys, query_user, query_url], ∀ (r : Run p), Fair r → (∃ i, (r.st i).ctxDone 0 = true) →
      ∀ x ∈ handoffs p, ∀ gd, p.gs[x.1]? = some gd → ∀ i0 pc0, (r.st i0).gs[x.1]? = some (.at pc0) →
        mark (ownD gd x.2.1 x.2.2) pc0 = true →
        ∃ j, i0 ≤ j ∧ ((∀ j', j ≤ j' → (r.st j').closed x.2.1 = true) ∨ (r.st j).gs[x.1]? = some .done) := by
  have hs := collectorsCheck_parts query_sys_rules.2
  have hu := collectorsCheck_parts query_user_rules.2
  have hl := collectorsCheck_parts query_url_rules.2
  refine ⟨⟨hs.1, hu.1, hl.1⟩, ?_⟩
  intro p hp r hf hc
  exact collectors_eventually_close _ (query_rules p hp).1 (collectorsCheck_parts (query_rules p hp).2).2 r hf hc

/-- the hand-off of the regenerated system-random pipeline is dispatchSign's reply channel, taken by
queryLoop from `reqSignc`; queryLoop holds it at six or more nodes -/
example : (handoffs query_sys).map (fun x => (query_sys.gname x.1, query_sys.cname x.2.1, query_sys.cname x.2.2)) =
      [("dosnode.queryLoop", "dosnode.dispatchSign.out", "dosnode.DosNode.reqSignc")] ∧
    (handoffs query_sys).all (fun x => match query_sys.gs[x.1]? with
      | some gd => decide (6 ≤ ((ownD gd x.2.1 x.2.2).filter id).length)
      | none => false) = true := by decide +kernel

/-! ## 4. W6, semantically -/

/-- **send_not_blocked_when_consumer_ready** (what weak fairness gives a send, before or after the
deadline).  No crash reachable; goroutine `g` is weakly fair and stands at position `T` at a `select`
with a send on `c`; as long as `g` has not moved a consumer of `c` is ready (room in the buffer, or,
unbuffered, another goroutine standing at a receive on `c`): then `g` moves — it is not blocked for
ever.  W6 is the static necessary condition for the hypothesis: see the next theorem. -/
theorem send_not_blocked_when_consumer_ready (p : Pipeline) (hsafe : NoCrash p) (r : Run p) (g : Gi)
    (hw : WeakFairG r g) (T : Nat) (pc n : Pc) (nd : Node) (c : Ch)
    (hat : (r.st T).gs[g]? = some (.at pc)) (hnd : p.node g pc = some nd) (hed : (Lab.send c, n) ∈ nd.edges)
    (hready : ∀ i, T ≤ i → (∀ j, T ≤ j → j < i → ¬ r.movesAt g j) → ConsumerReady p (r.st i) g c) :
    ∃ i, T ≤ i ∧ r.movesAt g i :=
  send_moves hsafe hw hat hnd hed hready

/-- non-vacuity: in the (unfair, but weakly fair) counter-run the upstream stage stands at its send at
position 1 with the fan-in goroutine waiting at its receive -/
example : ∃ i, 1 ≤ i ∧ Demo.spin.movesAt 0 i := by
  apply send_not_blocked_when_consumer_ready Demo.fanin
    (safe_pipeline_never_crashes _ Demo.fanin_wf.1 Demo.fanin_wf.2.1) Demo.spin 0 (Demo.spin_weakFair 0) 1 0 0
    (.sel [.send 0 0, .ctx 0 1]) 0 (by decide) rfl (by simp [Node.edges, Alt.edges])
  intro i hi hnm
  have : i = 1 := by
    apply Classical.byContradiction
    intro hne
    exact hnm 1 (Nat.le_refl _) (by omega) ⟨_, rfl, by decide⟩
  subst this
  exact Or.inr ⟨rfl, 2, 0, _, 1, by decide, by decide, rfl, by simp [Node.edges, Alt.edges]⟩

/-- **receiverless_send_blocks_forever** (why W6 is a rule).  If no goroutine of the pipeline has a
receive on `c`, a goroutine that stands at the bare send `c <- v` while the buffer of `c` is full
stays there and has no enabled step at any later position of ANY run — fair or not, cancelled or not. -/
theorem receiverless_send_blocks_forever (p : Pipeline) (c : Ch) (h : Receiverless p c) (r : Run p)
    (g : Gi) (T : Nat) (pc n : Pc) (hat : (r.st T).gs[g]? = some (.at pc))
    (hnd : p.node g pc = some (.sel [.send c n])) (hfull : p.cap c ≤ (r.st T).len c) :
    ∀ i, T ≤ i → (r.st i).gs[g]? = some (.at pc) ∧ ¬ Enabled p (r.st i) g :=
  receiverless_blocks h r hat hnd hfull

example : ∀ i, 0 ≤ i → (Demo.lostRun.st i).gs[0]? = some (.at 0) ∧ ¬ Enabled Demo.lost (Demo.lostRun.st i) 0 :=
  receiverless_send_blocks_forever Demo.lost 0 Demo.lost_receiverless Demo.lostRun 0 0 0 1 rfl rfl (by decide)

/-- in the regenerated pipelines no channel somebody sends on is without a receiver (rule W6), so the
permanent block of `receiverless_send_blocks_forever` cannot come from a missing receiver -/
theorem regenerated_pipelines_have_receivers :
    ∀ p ∈ [query_sys, query_user, query_url, p2p_client, helper_dosnode_mergeErrors, helper_dosnode_fanIn,
      helper_utils_MergeErrors, helper_onchain_merge, helper_onchain_mergeError, helper_onchain_first,
      helper_onchain_firstEvent, helper_p2p_merge, helper_dkg_mergeErrors, helper_dkg_fanOut],
    ∀ c, c < p.chans.length → ∀ gr ∈ p.gs, gr.hasSend c = true → ¬ Receiverless p c := by
  intro p hp c hc gr hgr hsend
  have h : [query_sys, query_user, query_url, p2p_client, helper_dosnode_mergeErrors, helper_dosnode_fanIn,
      helper_utils_MergeErrors, helper_onchain_merge, helper_onchain_mergeError, helper_onchain_first,
      helper_onchain_firstEvent, helper_p2p_merge, helper_dkg_mergeErrors, helper_dkg_fanOut].all W6 = true := by
    decide +kernel
  rw [List.all_eq_true] at h
  exact W6_not_receiverless (h p hp) hc hgr hsend

example : query_sys.gs.any (fun gr => gr.hasSend 4) = true := by decide +kernel

end Dos.Props.C14
