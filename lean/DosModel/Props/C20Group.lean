/-
C20 — THE GROUP LAYER: the ref10 group code group/edwards25519/ge.go and the constants of const.go,
translated statement by statement (go/extract/ed25519ge → Gen/Ed25519Ge.lean, regenerated on every run), compute
the group law of the twisted Edwards curve −x² + y² = 1 + d x² y² over F = ZMod (2^255 − 19).

`Ge.*` are the translated methods run on the executable limb operations (Go semantics); `GoodExt e P` etc. say
that a limb structure is within the occurring limb bounds and represents the curve point `P : Pt`.
Only theorems and non-vacuity examples live here; proofs: Proofs/EdwardsCurve, EdwardsAssoc, EdwardsFormulas (pure
mathematics), GeRefine, GeSpec, GeSpec2, GeBase, GeEnc.
-/
import DosModel.Proofs.GeEnc
import DosModel.Proofs.GeSpec2
import DosModel.Proofs.GeBase

set_option exponentiation.threshold 600

namespace Dos.Props.C20Group
open Dos Dos.Ed25519 Dos.FeProg Dos.FeOps Dos.GeProg Dos.Ge Dos.Ed25519Prime Dos.Edwards Dos.Gen.Ed25519Ge

/-- the limb constants d, d2, sqrtM1 of const.go (regenerated) satisfy their defining equations in F:
d·121666 = −121665, d2 = 2d, sqrtM1² = −1; d is not a square (Euler criterion, kernel-evaluated) -/
theorem curve_constants :
    val c_d * 121666 = -121665 ∧ val c_d2 = 2 * val c_d ∧ val c_sqrtM1 ^ 2 = -1 ∧ ¬ IsSquare (val c_d)
    ∧ Bounded 1 c_d ∧ Bounded 1 c_d2 ∧ Bounded 1 c_sqrtM1 := by
  refine ⟨?_, ?_, ?_, ?_, c_d_R.1, c_d2_R.1, c_sqrtM1_R.1⟩
  · rw [c_d_val]; exact d_mul
  · rw [c_d2_val, c_d_val]
  · rw [c_sqrtM1_val]; exact sqrtM1_sq
  · rw [c_d_val]; exact d_not_square

/-- **pure mathematics, proved**: for any field, d not a square and −1 a square, the addition law of the twisted
Edwards curve is complete (denominators never vanish) and ASSOCIATIVE; the points form a commutative group -/
theorem edwards_group_law {K : Type} [Field K] (E : Params K) :
    (∀ {x1 y1 x2 y2 : K}, OnCurve E.d x1 y1 → OnCurve E.d x2 y2 →
      1 + E.d * x1 * x2 * y1 * y2 ≠ 0 ∧ 1 - E.d * x1 * x2 * y1 * y2 ≠ 0)
    ∧ (∀ P Q R : Point E, P + Q + R = P + (Q + R)) ∧ (∀ P Q : Point E, P + Q = Q + P)
    ∧ (∀ P : Point E, 0 + P = P) ∧ (∀ P : Point E, -P + P = 0) :=
  ⟨fun h1 h2 => denom_ne_zero E h1 h2, Edwards.add_assoc', Edwards.add_comm', Edwards.zero_add', Edwards.neg_add_cancel'⟩

example : (basePt + basePt) + basePt = basePt + (basePt + basePt) := Edwards.add_assoc' _ _ _

/-- the base point constant `baseext` of const.go represents the point B = (x, 4/5) of RFC 8032, which is on the
curve and is not the identity -/
theorem base_point : GoodExt baseExt basePt ∧ basePt ≠ 0 ∧ basePt.y * 5 = 4 := by
  refine ⟨baseExt_good, basePt_ne_zero, ?_⟩
  show ((baseY : ℕ) : F) * 5 = 4
  have h : ((baseY * 5 : ℕ) : F) = ((4 : ℕ) : F) := natCast_eq_of_mod (by decide +kernel)
  push_cast at h
  exact h

/-- **generic refinement**: whatever translated method body passes the limb-bound analysis, running it on limbs with
Go's semantics and running it on field elements keep all registers related — for every binding of objects to
registers, aliased ones included -/
theorem ge_refinement {bases : List Nat} {b : Int} (hb : b = 0 ∨ b = 1) (body : List GStmt) {M M' : List Mult}
    {L : List L10} {X : List F} (h : RegRel M L X) (ha : absBody bases body M = some M') :
    RegRel M' (runBody limbAlg zero10 bases b body L) (runBody fieldAlg 0 bases b body X) :=
  body_refines hb body h ha

/-- **point.Add / Sub / Neg / Null** (point.go over ge.go) are the group operations on the represented points -/
theorem point_add_correct {p q : Ext} {P Q : Pt} (hp : GoodExt p P) (hq : GoodExt q Q) :
    GoodExt (ptAdd p q) (P + Q) ∧ GoodExt (ptSub p q) (P + -Q) ∧ GoodExt (ptNeg p) (-P) ∧ GoodExt ptNull (0 : Pt) :=
  ⟨ptAdd_spec hp hq, ptSub_spec hp hq, ptNeg_spec hp, ptNull_spec⟩

example : GoodExt (ptAdd baseExt baseExt) (basePt + basePt) := ptAdd_spec baseExt_good baseExt_good

/-- `p.Neg(p)` — receiver aliasing the argument — gives the same result -/
theorem point_neg_aliased {p : Ext} {P : Pt} (hp : GoodExt p P) : GoodExt (extNegInPlace p) (-P) :=
  extNegInPlace_spec hp

/-- the formulas: completed.Add/Sub (cached operand), MixedAdd/MixedSub (precomputed operand), projective and extended
Double, and the conversions between the coordinate systems -/
theorem ge_formulas_correct {p : Ext} {q : Cached} {t : Pre} {P Q T : Pt} (hp : GoodExt p P) (hq : GoodCached q Q)
    (ht : GoodPre t T) :
    GoodCompl (complAdd p q) (P + Q) ∧ GoodCompl (complSub p q) (P + -Q)
    ∧ GoodCompl (complMixedAdd p t) (P + T) ∧ GoodCompl (complMixedSub p t) (P + -T)
    ∧ GoodCompl (extDouble p) (P + P) ∧ GoodCached (extToCached p) P ∧ GoodProj (extToProj p) P :=
  ⟨complAdd_spec hp hq, complSub_spec hp hq, complMixedAdd_spec hp ht, complMixedSub_spec hp ht, extDouble_spec hp,
    extToCached_spec hp, extToProj_spec hp⟩

theorem ge_conversions_correct {c : Compl} {r : Proj} {P : Pt} (hc : GoodCompl c P) (hr : GoodProj r P) :
    GoodExt (complToExt c) P ∧ GoodProj (complToProj c) P ∧ GoodCompl (projDouble r) (P + P) :=
  ⟨complToExt_spec hc, complToProj_spec hc, projDouble_spec hr⟩

/-- **point.MarshalBinary** (extended.ToBytes; also projective.ToBytes): THE canonical encoding — y fully reduced,
little-endian, bit 255 = parity of the fully reduced x — whatever representation of the point is held; the
encoding determines the point -/
theorem point_encode_canonical {p : Ext} {r : Proj} {P Q : Pt} (hp : GoodExt p P) (hr : GoodProj r P) :
    extToBytes p = encPt P ∧ projToBytes r = encPt P ∧ (encPt P).length = 32 ∧ (encPt P = encPt Q → P = Q) :=
  ⟨extToBytes_spec hp, projToBytes_spec hr, encPt_length P, encPt_inj⟩

example : extToBytes baseExt = encPt basePt := extToBytes_spec baseExt_good

end Dos.Props.C20Group
