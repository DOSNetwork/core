/-
C06 — the hash: `Model/Keccak.lean` (written from the Keccak reference) is the sponge construction with the
LEGACY padding, its tables are those of golang.org/x/crypto/sha3 (the library `hashToPoint` calls), and it
takes the known values.

Property theorems only (helpers: `Proofs/Keccak.lean`, `Proofs/KeccakKat.lean`, `Proofs/KeccakKat2.lean`).
  * `keccak_is_sponge`: for every message, keccak256 msg = squeeze (fold absorbBlock over the 136-byte blocks
    of msg ‖ pad), the padded message is a whole number of blocks, pad = 0x01 0…0 0x80 (0x81 when one byte
    is missing) — `keccak_padding_is_legacy` ties the two pad bytes to the library's `dsbyte` and final bit;
  * `keccak_output_length`: 32 bytes, hence `hash_to_scalar`: the scalar is the big-endian value mod r, < r;
  * `gen_keccak_tables`: round constants = the library's table (generic Go AND amd64 assembly), ρ offsets per
    lane = the library's (round 1 of the unrolled code; the multiset of the assembly's ROLQ constants),
    rate 136, 32 output bytes, domain byte 0x01 (not SHA-3's 0x06), final bit 0x80 — facts regenerated from
    the module cache at every run;
  * `keccak_known_answers`: empty, "abc", 135 / 136 / 137 bytes (block boundary) by kernel evaluation.
NOT proved: that the permutation as written is Keccak-f[1600] of the specification (there is no Lean
specification to compare with); the tables + the known answers + the comparison with the library on every
message of every run are the evidence.
-/
import DosModel.Proofs.Keccak
import DosModel.Proofs.KeccakKat2
import DosModel.Model.Bls
import DosModel.Proofs.CodecBytes
import DosModel.Gen.KeccakFacts

namespace Dos.Props.C06Keccak
open Dos Dos.Keccak

/-- **keccak256 is the sponge over the padded message's 136-byte blocks** -/
theorem keccak_is_sponge (msg : Bytes) :
    keccak256 msg = squeeze ((paddedBlocks msg).foldl absorbBlock (Array.replicate 25 0)) ∧
    (∀ b ∈ paddedBlocks msg, b.length = rate) ∧
    (paddedBlocks msg).flatten = msg ++ padSuffix (rate - msg.length % rate) ∧
    (paddedBlocks msg).length = msg.length / rate + 1 ∧
    (msg ++ padSuffix (rate - msg.length % rate)).length = (msg.length / rate + 1) * rate :=
  ⟨keccak256_eq_sponge msg, paddedBlocks_spec msg⟩

set_option maxRecDepth 100000 in
example : paddedBlocks (katMsg 136) = [katMsg 136, 0x01 :: List.replicate 134 0 ++ [0x80]] := by
  decide +kernel
set_option maxRecDepth 100000 in
example : (paddedBlocks (katMsg 135)).flatten = katMsg 135 ++ [0x81] := by decide +kernel

/-- the digest has 32 bytes, whatever the message -/
theorem keccak_output_length (msg : Bytes) : (keccak256 msg).length = 32 := by
  rw [keccak256_eq_sponge]; exact squeeze_length _

example : (keccak256 (katMsg 1000)).length = 32 := keccak_output_length _

/-- **the padding is the legacy Keccak one**: `q` bytes (1 ≤ q ≤ 136 in `keccak_is_sponge`), the first is the
library's `dsbyte` for `NewLegacyKeccak256` (0x01: the pad bit alone, no SHA-3 domain bits), the last carries
the library's final bit 0x80, zeros in between; both in one byte when q = 1 -/
theorem keccak_padding_is_legacy (q : Nat) (hq : 1 ≤ q) :
    (padSuffix q).length = q ∧
    padSuffix 1 = [UInt8.ofNat (Gen.Keccak.legacyDsbyte ^^^ Gen.Keccak.padLastXor)] ∧
    padSuffix (q + 1) = [UInt8.ofNat Gen.Keccak.legacyDsbyte] ++ List.replicate (q - 1) 0
      ++ [UInt8.ofNat Gen.Keccak.padLastXor] ∧
    Gen.Keccak.padLastXorIndex = "d.rate-1" := by
  refine ⟨padSuffix_length q hq, by decide, ?_, by decide⟩
  have h1 : ¬ q + 1 = 1 := by omega
  have h2 : q + 1 - 2 = q - 1 := by omega
  simp only [padSuffix, h1, if_false, h2]
  rfl

example : padSuffix 3 = [0x01, 0x00, 0x80] := by decide

/-- **the tables are the library's** (regenerated from golang.org/x/crypto/sha3 in the module cache) -/
theorem gen_keccak_tables :
    roundConstants.toList.map UInt64.toNat = Gen.Keccak.rcGo ∧
    Gen.Keccak.rcAsm = Gen.Keccak.rcGo ∧
    -- ρ: in round 1 of the unrolled code lane i (= x + 5y) is rotated by the model's offset for lane i …
    ((Gen.Keccak.rhoLanes.take 24).zip (Gen.Keccak.rhoRots.take 24)).all
      (fun ln => rotc.getD ln.1 0 == ln.2) = true ∧
    -- … these are all lanes but lane 0, which is not rotated
    (List.range 25).all (fun i => i == 0 || (Gen.Keccak.rhoLanes.take 24).contains i) = true ∧
    rotc.getD 0 0 = 0 ∧ rotc.size = 25 ∧
    -- the four unrolled rounds use the same offsets in the same order
    Gen.Keccak.rhoRots = (List.replicate 4 (Gen.Keccak.rhoRots.take 24)).flatten ∧
    -- the assembly round rotates by the same multiset (plus θ's five rotations by 1)
    (List.range 65).all (fun n => Gen.Keccak.rolAsm.count n ==
      (rotc.toList.filter (· != 0)).count n + (if n == 1 then 5 else 0)) = true ∧
    rate = Gen.Keccak.legacyRate ∧ Gen.Keccak.legacyOutputLen = 32 ∧ Gen.Keccak.legacyDsbyte = 1 ∧
    Gen.Keccak.padLastXor = 0x80 := by decide +kernel

/-- **known answers**, evaluated by the kernel: the empty string, "abc", and messages of 135, 136 and 137
bytes 00 01 02 … (one byte short of the rate: single pad byte 0x81; exactly the rate: a block of padding;
one byte more) -/
theorem keccak_known_answers :
    toHex (keccak256 []) = "c5d2460186f7233c927e7db2dcc703c0e500b653ca82273b7bfad8045d85a470" ∧
    toHex (keccak256 [0x61, 0x62, 0x63]) = "4e03657aea45a94fc7d47ba826c8d667c0d1e6e33a64a036ec44f58fa12d6c45" ∧
    toHex (keccak256 (katMsg 135)) = "cbdfd9dee5faad3818d6b06f95a219fd290b0e1706f6a82e5a595b9ce9faca62" ∧
    toHex (keccak256 (katMsg 136)) = "7ce759f1ab7f9ce437719970c26b0a66ff11fe3e38e17df89cf5d29c7d7f807e" ∧
    toHex (keccak256 (katMsg 137)) = "ac73d4fae68b8453f764007c1a20ce95994187861f0c3227a3a8e99a73a3b1db" :=
  ⟨kat_empty, kat_abc, kat_135, kat_136, kat_137⟩

example : katMsg 3 = [0, 1, 2] := by decide

/-- **hash → scalar**: `Scalar().SetBytes(keccak256(msg))` is the 256-bit big-endian value reduced mod r:
below r for every message, and the reduction is a real one (the digest itself is < 2^256, and ≥ r for most
messages — e.g. the empty one) -/
theorem hash_to_scalar (msg : Bytes) :
    Bls.keccakScalar msg = beNat (keccak256 msg) % Bn256.r ∧ Bls.keccakScalar msg < Bn256.r ∧
    beNat (keccak256 msg) < 2 ^ 256 := by
  refine ⟨rfl, Nat.mod_lt _ (by decide), ?_⟩
  have h := Dos.CodecBytes.beNat_lt (keccak256 msg)
  rw [keccak_output_length] at h
  exact Nat.lt_of_lt_of_eq h (by decide)

example : Bls.keccakScalar [] =
    0xc5d2460186f7233c927e7db2dcc703c0e500b653ca82273b7bfad8045d85a470 % Bn256.r ∧
    Bn256.r ≤ 0xc5d2460186f7233c927e7db2dcc703c0e500b653ca82273b7bfad8045d85a470 := by
  refine ⟨?_, by decide⟩
  have h : beNat (keccak256 []) = 0xc5d2460186f7233c927e7db2dcc703c0e500b653ca82273b7bfad8045d85a470 := by
    rw [keccak256_eq_packed]
    decide +kernel
  rw [(hash_to_scalar []).1, h]

end Dos.Props.C06Keccak
