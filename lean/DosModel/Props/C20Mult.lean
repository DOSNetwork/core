/-
C20 — scalar multiplication, the base point and the precomputed table.

`geScalarMult` (signed 4-bit windows over a table 1A…8A, constant-time selection by `equal`/`negative`/`CMove`) and
`geScalarMultBase` (radix-16 digits against the table `base` of const.go) — hand-modelled over the TRANSLATED group
methods, compared limb for limb with the real code on every run — compute k•P in the curve group for every 32-byte
scalar with a[31] ≤ 127 (the precondition documented in ge.go).  ℓ•B = 0 and ALL 256 entries of `base`
(base[i][j] = (j+1)·256^i·B) are kernel-evaluated with a Nat-mod-p Edwards arithmetic that is itself verified against
the group law.  Proofs: Proofs/GeScalarMult*.lean, GeNat*.lean.
-/
import DosModel.Proofs.GeScalarMultBase
import DosModel.Proofs.GeNatTableFull
import DosModel.Proofs.GeNatOrder

set_option exponentiation.threshold 600

namespace Dos.Props.C20Mult
open Dos Dos.Ed25519 Dos.FeProg Dos.Ge Dos.Edwards

/-- the signed-nybble recoding: 64 digits in [−8, 8] with Σ eᵢ·16^i = the scalar (that no int8 intermediate of the Go code
wraps is `recStep_spec`, Proofs/GeScalarMultRecode.lean, step by step; it is not part of this statement) -/
theorem scalar_recoding_correct (a : Bytes) (hlen : a.length = 32) (h31 : (a.getD 31 0).toNat ≤ 127) :
    (recode (nybbles a)).length = 64
    ∧ (∀ i, i < 64 → -8 ≤ (recode (nybbles a)).getD i 0 ∧ (recode (nybbles a)).getD i 0 ≤ 8)
    ∧ ∑ i ∈ Finset.range 64, (recode (nybbles a)).getD i 0 * 16 ^ i = (leNat a : Int) :=
  ⟨(recode_spec a hlen h31).1, (recode_spec a hlen h31).2.1, recode_sum a hlen h31⟩

example : ((natLE 32 (2 ^ 255 - 1)).getD 31 0).toNat ≤ 127 := by decide

/-- constant-time selection: for a digit b ∈ [−8, 8], `selectCached` returns (a cached form of) b•A -/
theorem select_correct (ai : List Cached) (A : Pt) (hai : ai.length = 8)
    (h : ∀ i, i < 8 → GoodCached (ai.getD i default) ((i + 1) • A)) (b : Int) (hb : -8 ≤ b ∧ b ≤ 8) :
    GoodCached (selectCached ai b) (b • A) := selectCached_spec ai A hai h b hb

/-- a fact found on the way: Go's `equal(b, c)` ("returns 1 if b == c and 0 otherwise") returns 1 for operands of
different sign; it IS equality on non-negative operands, the only ones the code passes -/
theorem equal_is_equality_on_nonnegatives_only :
    equal (-1) 0 = 1
    ∧ ∀ b c : Int, 0 ≤ b ∧ b ≤ 2147483647 → 0 ≤ c ∧ c ≤ 2147483647 → equal b c = if b = c then 1 else 0 :=
  ⟨equal_mixed_sign, fun b c hb hc => equal_spec31 b c hb hc⟩

/-- **geScalarMult** computes (leNat a)•P on any good representation -/
theorem geScalarMult_correct (a : Bytes) (hlen : a.length = 32) (h31 : (a.getD 31 0).toNat ≤ 127) {A : Ext} {P : Pt}
    (hA : GoodExt A P) : GoodExt (geScalarMult a A) (leNat a • P) := geScalarMult_spec a hlen h31 hA

/-- **the table `base` of const.go**: every one of its 32 × 8 entries is (y+x, y−x, 2dxy) of (j+1)·256^i·B, within
the limb bounds (kernel evaluation of a verified checker) -/
theorem base_table_correct : ∀ i j, i < 32 → j < 8 →
    GoodPre (preOf ((Gen.Ed25519GeTable.c_base.getD i []).getD j [])) (((j + 1) * 256 ^ i) • basePt) :=
  baseTable_ok

/-- **geScalarMultBase** (`P.Mul(s, nil)`) computes (leNat a)•B -/
theorem geScalarMultBase_correct (a : Bytes) (hlen : a.length = 32) (h31 : (a.getD 31 0).toNat ≤ 127) :
    GoodExt (geScalarMultBase a) (leNat a • basePt) :=
  geScalarMultBase_spec baseTable_ok a hlen h31

/-- **the base point has order exactly ℓ** -/
theorem base_point_order : ell • basePt = 0 ∧ addOrderOf basePt = ell ∧ ∀ n : ℕ, n • basePt = 0 ↔ ell ∣ n :=
  ⟨ell_smul_base, base_order, smul_base_eq_zero_iff⟩

example : (3 * ell) • basePt = 0 := (smul_base_eq_zero_iff _).2 ⟨3, by ring⟩

end Dos.Props.C20Mult
