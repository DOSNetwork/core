/-
C16, "the key presented in the handshake" — what the handshake of p2p/client.go binds.

Property theorems only.  Model `Model/P2PHandshake.lean` (ideal Diffie–Hellman: a point is computable
exactly by the holders of one of its two secrets).  The property is stated relative to "the key
presented in the handshake", so an adversary ACTIVE during the handshake is outside it; these theorems
say precisely what that phrase buys and what it does not:

* the session key is shared with the holder of the PRESENTED key's secret and with nobody else;
* the announced id is bound to NOTHING (not to the key, not to the address): whoever has any key pair
  can announce any id but the receiver's own — also the id of another member, also the empty id;
* a man in the middle who substitutes the two public keys completes both handshakes, knows both
  session keys, and each end attributes the connection to the other's id.
-/
import DosModel.Proofs.P2PHandshake

namespace Dos.Props.C16Handshake
open Dos Dos.P2PHandshake

/-- **both ends derive the same point** (hence the same AES key and the same GCM nonce, in both
directions, for the whole connection) when each receives the other's honest ID frame -/
theorem handshake_agrees (idA idB : Bytes) (a b : Nat) (hne : idA ≠ idB) :
    ∃ p, receiveID idA a (sendID idB b) = .ok { remoteID := idB, remotePub := b, point := p } ∧
         receiveID idB b (sendID idA a) = .ok { remoteID := idA, remotePub := a, point := p } :=
  ⟨dh a b, by simp [receiveID, sendID, hne.symm], by simp [receiveID, sendID, hne, dh_comm b a]⟩

example : receiveID [0x41] 1 (sendID [0x42] 2) = .ok { remoteID := [0x42], remotePub := 2, point := ⟨1, 2⟩ } ∧
    receiveID [0x42] 2 (sendID [0x41] 1) = .ok { remoteID := [0x41], remotePub := 1, point := ⟨1, 2⟩ } := by decide

/-- **the session key is bound to the presented key**: whenever receiveID accepts, the point it cuts key
and nonce from is computable by exactly those who hold the receiver's own secret or the secret of the
key that was PRESENTED — and later packets are verified under that same presented key. -/
theorem session_key_shared_only_with_presenter (localID : Bytes) (localSec : Nat) (f : First) (s : Session)
    (h : receiveID localID localSec f = .ok s) (secrets : List Nat) :
    Knows secrets s.point ↔ (localSec ∈ secrets ∨ s.remotePub ∈ secrets) := by
  cases f with
  | malformed => simp [receiveID] at h
  | notID => simp [receiveID] at h
  | id pres rid =>
    unfold receiveID at h
    by_cases hd : rid = localID
    · simp [hd] at h
    · simp only [hd, if_false] at h
      cases pres with
      | garbage => simp at h
      | identity => simp at h
      | key sk =>
        cases h
        exact knows_dh secrets localSec sk

example : Knows [9] (dh 2 9) ∧ ¬ Knows [5, 6] (dh 2 9) := by decide

/-- a passive observer (holding neither secret) cannot compute it -/
theorem passive_observer_cannot_derive (a b : Nat) (secrets : List Nat) (ha : a ∉ secrets) (hb : b ∉ secrets) :
    ¬ Knows secrets (dh a b) :=
  fun h => ((knows_dh secrets a b).mp h).elim ha hb

/-- **the announced id is bound to nothing**: for ANY id other than the receiver's own — the id of another
member, an id nobody has, the empty id — and ANY key pair, the handshake is accepted and the connection is
attributed to that id (receiveHandler's table, P2PMessage.Sender, Reply routing all go by it). -/
theorem announced_id_is_unbound (localID rid : Bytes) (localSec sk : Nat) (hne : rid ≠ localID) :
    receiveID localID localSec (.id (.key sk) rid) =
      .ok { remoteID := rid, remotePub := sk, point := dh localSec sk } := by
  simp [receiveID, hne]

/-- Observation (the code as it is): an EMPTY / absent id is accepted too — `if c.remoteID == nil` assigns
an error that is neither reported nor returned (ErrNoRemoteID never leaves receiveID). -/
theorem empty_id_is_accepted (localID : Bytes) (localSec sk : Nat) (hne : localID ≠ []) :
    receiveID localID localSec (.id (.key sk) []) = .ok { remoteID := [], remotePub := sk, point := dh localSec sk } := by
  have : ([] : Bytes) ≠ localID := fun h => hne h.symm
  simp [receiveID, this]

example : receiveID [0x42] 2 (.id (.key 9) []) = .ok { remoteID := [], remotePub := 9, point := ⟨2, 9⟩ } := by decide

/-- what IS refused: the receiver's own id, an undecodable key, the point at infinity, anything that is
not an ID frame -/
theorem refused_handshakes (localID : Bytes) (localSec : Nat) (pres : Presented) (rid : Bytes) :
    receiveID localID localSec (.id pres localID) = .err .duplicateID ∧
    (rid ≠ localID → receiveID localID localSec (.id .garbage rid) = .err .badKey) ∧
    (rid ≠ localID → receiveID localID localSec (.id .identity rid) = .err .identityKey) ∧
    receiveID localID localSec .notID = .err .casting ∧ receiveID localID localSec .malformed = .err .read := by
  refine ⟨by simp [receiveID], ?_, ?_, rfl, rfl⟩ <;> intro h <;> simp [receiveID, h]

/-- **an adversary active during the handshake owns the connection** (outside C16 as stated: "the key
presented in the handshake" is then HIS): substituting his own key pairs `e` (towards A) and `e'`
(towards B) in the two plaintext ID frames, both ends accept, each attributes the connection to the
other's id, the two session points differ from the honest one, and he can compute both. -/
theorem active_mitm_owns_both_sessions (idA idB : Bytes) (a b e e' : Nat) (hne : idA ≠ idB)
    (ha : e ≠ b) (hb : e' ≠ a) (hab : a ≠ b) :
    ∃ sa sb, receiveID idA a (.id (.key e) idB) = .ok sa ∧ receiveID idB b (.id (.key e') idA) = .ok sb ∧
      sa.remoteID = idB ∧ sb.remoteID = idA ∧ Knows [e, e'] sa.point ∧ Knows [e, e'] sb.point ∧
      sa.point ≠ dh a b ∧ sb.point ≠ dh a b :=
  have _ := hab   -- not needed: the statement holds for a = b too
  ⟨_, _, announced_id_is_unbound idA idB a e hne.symm, announced_id_is_unbound idB idA b e' hne, rfl, rfl,
    (knows_dh _ a e).mpr (.inr (by simp)), (knows_dh _ b e').mpr (.inr (by simp)),
    fun h => ha (dh_left_inj h), fun h => hb (dh_left_inj (h.trans (dh_comm a b)))⟩

example : ∃ sa sb, receiveID [0x41] 1 (.id (.key 5) [0x42]) = .ok sa ∧ receiveID [0x42] 2 (.id (.key 6) [0x41]) = .ok sb ∧
    Knows [5, 6] sa.point ∧ Knows [5, 6] sb.point := ⟨_, _, rfl, rfl, by decide, by decide⟩

end Dos.Props.C16Handshake
