/-
C01 — a dispatched request is answered by exactly one on-chain-valid report.

Theorems about `Dos.Query` (`handleQuery` = C07 content functions + C13 collector
+ `recoverSign`), for every member list, request, event order at the collector and
every list of peer messages (Byzantine ones included), over ABSTRACT threshold BLS:

* `C.recover`, `C.verify` are parameters;
* hypotheses taken from the separately proved contracts
  - C03 `verify_iff`  (one direction):  `hC03 : C.verify c s = true → ContractEq c s`
    (`ContractEq` = the pairing equation the proxy contract evaluates under the group key);
  - C02 `recover_unique` + C03: `hrec`: a share list holding valid shares on `c` of ≥ t
    distinct members recovers a signature that verifies;
  - C02 `recover_total`: `htot`: `recover` does not panic
  (both hold for `tbls.Recover` since /repo 4404707, 3dee076, f036cda – C02's business);
* unforgeability is NOT needed for validity: since /repo cc9c5f7 the stage only
  uses the node's own content (finding F18: before, `report_valid` was false – a member that
  had been the submitter of another request could make an honest submitter report that
  request's content; replay corpus/C01/f18_foreign_content.txt).
-/
import DosModel.Proofs.Query
import DosModel.Props.C13
import DosModel.Gen.DosnodeConsts
import DosModel.Gen.DosnodeFlow
import DosModel.Gen.PkgVars
import DosModel.Gen.QueryLoopFacts
import DosModel.Gen.ChainHandlerFacts

namespace Dos.Props.C01
open Dos Dos.Content Dos.Query

/-- the sizes / thresholds the theorems are instantiated with are the code's (regenerated) -/
theorem c01_constants : Gen.padSize = 32 ∧ Gen.stripLen = 20 ∧
    (∀ n, Gen.thresholdRecover n = threshold n ∧ Gen.thresholdDispatch n = threshold n) := by
  refine ⟨by decide, by decide, fun n => ?_⟩
  simp [Gen.thresholdRecover, Gen.thresholdDispatch, threshold]

/-- regenerated shape of the code the model mirrors (call order only; the whole statement skeleton is
`c01_stage_skeleton` below): `recoverSign` recovers with the public polynomial on `sign.Content`,
verifies the result under the group key `pubPoly.Commit()` on the same content, sends ONCE on `out`
and returns; `reportQueryResult` calls `UpdateRandomness` for system randomness and `DataReturn`
otherwise. -/
theorem c01_stage_shape :
    Gen.recoverSignSteps = ["tbls.Recover(pubPoly,sign.Content)", "bls.Verify(pubPoly.Commit(),sign.Content)", "send:out", "return"]
    ∧ Gen.reportSteps = ["if:ok", "if:queryType==onchain.TrafficSystemRandom", "chain.UpdateRandomness", "chain.DataReturn", "if:err!=nil"] :=
  ⟨rfl, rfl⟩

/-- **every statement of the three stages the model transcribes** (regenerated by
go/extract/dosnodeflow with go/printer – nesting = indentation, logging left out), so that EVERY guard
is pinned, not only the call order:
* `recoverSign` (`Query.stageStep` / `accepts` / `verdict`): closed input ⇒ return; the nil guard
  (`sign == nil || sign.Signature == nil || sign.Content == nil` ⇒ `continue`); `own` = the first share
  through, and the F18 guard `sign.Index != own.Index || !bytes.Equal(sign.Content, own.Content)` ⇒
  `continue`; append; `len(signShares) >= nbThreshold`; `tbls.Recover(…, sign.Content, signShares,
  nbThreshold, nbParticipants)` error ⇒ `continue`; `bls.Verify(…, pubPoly.Commit(), sign.Content, sig)`
  error ⇒ `continue`; `t := len(sign.Content) - addrLen`, `t < 0` ⇒ `continue`; ONE send of
  `{Index: sign.Index, RequestId: sign.RequestId, Content: queryResult, Signature: sig}` in a select with
  `ctx.Done()`, and the statement FOLLOWING that select in its block is `return`; the deferred calls
  (`drainSigns(ctx, signc)` first, i.e. run last: finding F20, C13);
* `dispatchSign` (`Query.handleQuery`): not the submitter ⇒ one `p.Request(ctx, submitter, sign)` and
  `close(out)`; the submitter: `!ok || sign == nil` ⇒ `close(out); return` WITHOUT registering (finding
  F19, /repo 7f58072), else own share on `out` FIRST, then the registration
  `request{ctx, string(requestID), threshold, reply: out}` on `reqSignc`;
* `reportQueryResult` (`st.out.take 1`): ONE receive from the stage, `UpdateRandomness` for system
  randomness else `DataReturn`, no loop;
* `handleQuery`'s wiring: the SAME context `queryCtxWithValue` (deadline 60·blockTime s) goes to every
  stage, `dispatchSign`'s output `signAllc` is `recoverSign`'s input, thresholds `len(ids)/2 + 1`,
  participants `len(ids)`, `recoverSign`'s output is what `reportQueryResult` reads.
Turning the `return` after the send into `continue`, dropping a guard or a disjunct of it, `>` for `>=`,
registering before the own share: each breaks this obligation within seconds. -/
theorem c01_stage_skeleton :
    Gen.DosnodeFlow.recoverSign = [
      "func recoverSign(ctx context.Context, signc chan *vss.Signature, suite suites.Suite, pubPoly *share.PubPoly, nbThreshold int, nbParticipants int, logger log.Logger) (chan *vss.Signature, chan error)",
      "  out := make(chan *vss.Signature)",
      "  errc := make(chan error)",
      "  go func() ()",
      "    var signShares [][]byte",
      "    var own *vss.Signature",
      "    defer drainSigns(ctx, signc)",
      "    defer close(out)",
      "    defer close(errc)",
      "    for",
      "      select",
      "        case sign, ok := <-signc",
      "          if !ok",
      "            return",
      "          if len(signShares) == 0",
      "          if sign == nil || sign.Signature == nil || sign.Content == nil",
      "            err := errors.New(\"Detected nil pointer and skipped\")",
      "            reportErr(ctx, errc, err)",
      "            continue",
      "          if own == nil",
      "            own = sign",
      "          else",
      "            if sign.Index != own.Index || !bytes.Equal(sign.Content, own.Content)",
      "              err := errors.New(\"share for another content or request type skipped\")",
      "              reportErr(ctx, errc, err)",
      "              continue",
      "          signShares = append(signShares, sign.Signature)",
      "          if len(signShares) >= nbThreshold",
      "            sig, err := tbls.Recover(suite, pubPoly, sign.Content, signShares, nbThreshold, nbParticipants)",
      "            if err != nil",
      "              reportErr(ctx, errc, err)",
      "              continue",
      "            if err = bls.Verify(suite, pubPoly.Commit(), sign.Content, sig); err != nil",
      "              reportErr(ctx, errc, err)",
      "              continue",
      "            x, y := sign.ToBigInt()",
      "            t := len(sign.Content) - addrLen",
      "            if t < 0",
      "              reportErr(ctx, errc, errors.New(\"length of content less than 0\"))",
      "              continue",
      "            queryResult := make([]byte, t)",
      "            copy(queryResult, sign.Content)",
      "            select",
      "              case out <- &vss.Signature{Index: sign.Index, RequestId: sign.RequestId, Content: queryResult, Signature: sig}",
      "              case <-ctx.Done()",
      "            return",
      "        case <-ctx.Done()",
      "          return",
      "  return out, errc"]
    ∧ Gen.DosnodeFlow.dispatchSign = [
      "func dispatchSign(ctx context.Context, submitterc chan []byte, signc chan *vss.Signature, reqSignc chan request, p p2p.P2PInterface, requestID []byte, threshold int, logger log.Logger) chan *vss.Signature",
      "  out := make(chan *vss.Signature)",
      "  go func() ()",
      "    select",
      "      case submitter, ok := <-submitterc",
      "        if !ok",
      "          close(out)",
      "          return",
      "        if r := bytes.Compare(p.GetID(), submitter); r != 0",
      "          select",
      "            case <-ctx.Done()",
      "            case sign := <-signc",
      "              if _, err := p.Request(ctx, submitter, sign); err != nil",
      "          close(out)",
      "          return",
      "      case <-ctx.Done()",
      "        close(out)",
      "        return",
      "    select",
      "      case <-ctx.Done()",
      "        close(out)",
      "        return",
      "      case sign, ok := <-signc",
      "        if !ok || sign == nil",
      "          close(out)",
      "          return",
      "        select",
      "          case <-ctx.Done()",
      "            close(out)",
      "            return",
      "          case out <- sign",
      "    req := request{ctx: ctx, requestID: string(requestID), threshold: threshold, reply: out}",
      "    select",
      "      case <-ctx.Done()",
      "        close(out)",
      "      case reqSignc <- req",
      "  return out"]
    ∧ Gen.DosnodeFlow.reportQueryResult = [
      "func reportQueryResult(ctx context.Context, chain onchain.ProxyAdapter, queryType uint32, signC chan *vss.Signature) (errc chan error)",
      "  errc = make(chan error)",
      "  go func() ()",
      "    defer close(errc)",
      "    var err error",
      "    select",
      "      case signature, ok := <-signC",
      "        if ok",
      "          if queryType == onchain.TrafficSystemRandom",
      "            err = chain.UpdateRandomness(signature)",
      "          else",
      "            err = chain.DataReturn(signature)",
      "        else",
      "          err = errors.New(\"no signature\")",
      "      case <-ctx.Done()",
      "        return",
      "    if err != nil",
      "      select",
      "        case errc <- err",
      "        case <-ctx.Done()",
      "  return"]
    ∧ Gen.ChainHandlerFacts.handleQueryStages = [
      "queryCtx, cancel := context.WithTimeout(context.Background(), time.Duration(60*d.chain.GetBlockTime())*time.Second)",
      "submitterc, errc := choseSubmitter(queryCtxWithValue, d.p, d.chain, lastRand, ids, 2, d.logger)",
      "case onchain.TrafficSystemRandom: contentc = genSysRandom(queryCtxWithValue, submitterc[0], lastRand.Bytes(), d.logger)",
      "case onchain.TrafficUserRandom: contentc = genUserRandom(queryCtxWithValue, submitterc[0], requestID.Bytes(), lastRand.Bytes(), useSeed.Bytes(), d.logger)",
      "case onchain.TrafficUserQuery: contentc, errc = genQueryResult(queryCtxWithValue, submitterc[0], url, selector, d.logger)",
      "signc, errc := genSign(queryCtxWithValue, contentc, sec, d.suite, sign, d.logger)",
      "signAllc := dispatchSign(queryCtxWithValue, submitterc[1], signc, d.reqSignc, d.p, requestID.Bytes(), (len(ids)/2 + 1), d.logger)",
      "recoveredSignc, errc := recoverSign(queryCtxWithValue, signAllc, d.suite, pubPoly, (len(ids)/2 + 1), len(ids), d.logger)",
      "errcList = append(errcList, reportQueryResult(queryCtxWithValue, d.chain, pType, recoveredSignc))"] :=
  ⟨rfl, rfl, rfl, rfl⟩

/-- **the stage wiring DERIVED from the code** (regenerated as data by go/extract/queryloop:
`handleQueryWiring` = every stage call of `handleQuery` with its results and arguments).  Following which
call reads which call's result from `choseSubmitter`'s first output gives the pipeline the model
composes – content stage (one per traffic type, selected by `pType`) → `genSign` → `dispatchSign` (which
also reads `choseSubmitter`'s second output) → `recoverSign` → `reportQueryResult` – and nothing else
reads these channels (`pipelineFrom`'s fuel 8 is any bound above the five stages of the chain); every stage
call gets the SAME context; the thresholds / participants are
`len(ids)/2 + 1` / `len(ids)`; `reportQueryResult` gets `pType`.  `Query.handleQuery` is this chain:
`submitter` ↦ `contentFor` (by kind) ↦ own share (`signOwn`) ↦ forward / register ↦ `recoverStage` ↦
`take 1`.  Re-wiring a stage (another channel, another context, a stage skipped or doubled) breaks this. -/
theorem c01_wiring_derived :
    pipelineFrom Gen.QueryLoopFacts.handleQueryWiring 8 "submitterc[0]" =
      [["genSysRandom", "genUserRandom", "genQueryResult"], ["genSign"], ["dispatchSign"], ["recoverSign"], ["reportQueryResult"]]
    ∧ (consumers Gen.QueryLoopFacts.handleQueryWiring "submitterc[1]").map (·.2.1) = ["dispatchSign"]
    ∧ (Gen.QueryLoopFacts.handleQueryWiring.filter (fun w => w.2.2.1.contains "submitterc")).map (·.2.1) = ["choseSubmitter"]
    ∧ Gen.QueryLoopFacts.handleQueryWiring.all (fun w => w.2.2.2.head? == some "queryCtxWithValue") = true
    ∧ (Gen.QueryLoopFacts.handleQueryWiring.filter (fun w => w.1 != "")).map (fun w => (w.1, w.2.1)) =
        [("pType==onchain.TrafficSystemRandom", "genSysRandom"), ("pType==onchain.TrafficUserRandom", "genUserRandom"),
         ("pType==onchain.TrafficUserQuery", "genQueryResult")]
    ∧ (Gen.QueryLoopFacts.handleQueryWiring.filter (fun w => w.2.1 == "dispatchSign" || w.2.1 == "recoverSign" || w.2.1 == "reportQueryResult")).map
        (fun w => w.2.2.2.drop 1) =
        [["submitterc[1]", "signc", "d.reqSignc", "d.p", "requestID.Bytes()", "(len(ids)/2 + 1)", "d.logger"],
         ["signAllc", "d.suite", "pubPoly", "(len(ids)/2 + 1)", "len(ids)", "d.logger"],
         ["d.chain", "pType", "recoveredSignc"]]
    ∧ Gen.QueryLoopFacts.handleQueryWiring.map (·.2.1) =
        ["choseSubmitter", "genSysRandom", "genUserRandom", "genQueryResult", "genSign", "dispatchSign", "recoverSign",
         "reportQueryResult", "mergeErrors"] := by
  decide +kernel

/-- regenerated: **the deadline**.  `handleQuery` runs under
`context.WithTimeout(context.Background(), 60·GetBlockTime() s)`; the context every stage (and the
registration handed to `queryLoop`: `c01_request_id_shape` `registeredCtx`) gets is that context with two
values attached; `cancel()` is deferred.  When it fires every select of every stage has its `ctx.Done()`
arm (`c01_stage_skeleton`), `queryLoop` stops delivering to the instance (`Collector.step`, context done
⇒ dropped): the model of a deadline is a CUT of the stage's input – `deadline_mid_collection`. -/
theorem c01_deadline_shape :
    Gen.QueryLoopFacts.handleQueryCtx =
      "context.WithTimeout(context.Background(), time.Duration(60*d.chain.GetBlockTime())*time.Second)"
    ∧ Gen.QueryLoopFacts.handleQueryCtxWithValue =
      "context.WithValue(context.WithValue(queryCtx, ctxKey(\"RequestID\"), fmt.Sprintf(\"%x\", requestID)), ctxKey(\"GroupID\"), groupID)"
    ∧ Gen.QueryLoopFacts.handleQueryDefers = ["cancel()", "cancel()"] :=
  ⟨rfl, rfl, rfl⟩

/-- regenerated: the request id is the SAME expression on the wire and in the registration.
`handleQuery` puts `requestID.Bytes()` into every share message (`RequestId:`) with `Index: pType`,
hands `requestID.Bytes()` and `d.reqSignc` to `dispatchSign`, which registers
`string(requestID)` (its sixth parameter) with its own context and output channel; `queryLoop`
looks a share up under `string(content.RequestId)` (`Props.C13.c13_code_shape`).  This is what
`Request.ridBytes` stands for in `handleQuery` / `nodeRun` (own message, registration and the
honest peers' messages all carry it).  Padding or re-encoding one of them only breaks this. -/
theorem c01_request_id_shape :
    Gen.QueryLoopFacts.wireRequestId = "requestID.Bytes()" ∧ Gen.QueryLoopFacts.wireIndex = "pType"
    ∧ Gen.QueryLoopFacts.dispatchArg = "requestID.Bytes() via d.reqSignc"
    ∧ Gen.QueryLoopFacts.dispatchParams = ["ctx", "submitterc", "signc", "reqSignc", "p", "requestID", "threshold", "logger"]
    ∧ Gen.QueryLoopFacts.registeredRequestId = "string(requestID)"
    ∧ Gen.QueryLoopFacts.registeredReply = "out" ∧ Gen.QueryLoopFacts.registeredCtx = "ctx" :=
  ⟨rfl, rfl, rfl, rfl, rfl, rfl, rfl⟩

/-- **from the chain event to the pipeline** (regenerated from dosnode/dos_chain_handler.go,
go/extract/chainhandler) = what `Query.requestOf` / `Query.onEvent` transcribe:
* events reach `onchainLoop` from `d.chain.SubscribeEvent`;
* `LogUpdateRandom` ↦ `handleQuery(requestID := LastRandomness, lastRand := LastRandomness, useSeed := nil, TrafficSystemRandom)`,
  `LogRequestUserRandom` ↦ `(RequestId, LastSystemRandomness, UserSeed, TrafficUserRandom)`,
  `LogUrl` ↦ `(QueryId, Randomness, nil, DataSource, Selector, TrafficUserQuery)`;
* in all three the group id is `DispatchedGroupId` (hex text), the node acts only if
  `isMember(groupID)` = it holds a share for THAT group, and member list, public polynomial and own
  share are looked up under that same `groupID` (`groupInfo`; missing info ⇒ the event is skipped);
* nothing de-duplicates events here (a re-delivered event starts a second pipeline; the chain
  layer's `firstEvent`, C18, is what delivers each log once);
* the traffic types are 0, 1, 2 = `Kind.ptype`. -/
theorem c01_event_dispatch :
    Gen.ChainHandlerFacts.eventSource = [
      "d.onchainEvent, onchainEventErrc = d.chain.SubscribeEvent(subescriptions)",
      "case event, ok := <-d.onchainEvent"]
    ∧ Gen.ChainHandlerFacts.dispatch = [
      "switch content := event.(type)",
      "  case *onchain.LogGrouping",
      "    groupID := fmt.Sprintf(\"%x\", content.GroupId)",
      "    go d.handleGrouping(content.NodeId, groupID)",
      "  case *onchain.LogGroupDissolve",
      "    groupID := fmt.Sprintf(\"%x\", content.GroupId)",
      "    if d.isMember(groupID)",
      "      d.dkg.GroupDissolve(groupID)",
      "  case *onchain.LogPublicKeyAccepted",
      "    groupID := fmt.Sprintf(\"%x\", content.GroupId)",
      "    if d.isMember(groupID)",
      "  case *onchain.LogUpdateRandom",
      "    randSeed = content.LastRandomness",
      "    groupID := fmt.Sprintf(\"%x\", content.DispatchedGroupId)",
      "    if d.isMember(groupID)",
      "      groupID := fmt.Sprintf(\"%x\", content.DispatchedGroupId)",
      "      ids, pub, sec, err := d.groupInfo(groupID)",
      "      if err != nil",
      "        continue",
      "      go d.handleQuery(ids, pub, sec, groupID, content.LastRandomness, content.LastRandomness, nil, \"\", \"\", uint32(onchain.TrafficSystemRandom))",
      "  case *onchain.LogRequestUserRandom",
      "    randSeed = content.LastSystemRandomness",
      "    groupID := fmt.Sprintf(\"%x\", content.DispatchedGroupId)",
      "    if d.isMember(groupID)",
      "      groupID := fmt.Sprintf(\"%x\", content.DispatchedGroupId)",
      "      ids, pub, sec, err := d.groupInfo(groupID)",
      "      if err != nil",
      "        continue",
      "      go d.handleQuery(ids, pub, sec, groupID, content.RequestId, content.LastSystemRandomness, content.UserSeed, \"\", \"\", uint32(onchain.TrafficUserRandom))",
      "  case *onchain.LogUrl",
      "    randSeed = content.Randomness",
      "    groupID := fmt.Sprintf(\"%x\", content.DispatchedGroupId)",
      "    if d.isMember(groupID)",
      "      groupID := fmt.Sprintf(\"%x\", content.DispatchedGroupId)",
      "      ids, pub, sec, err := d.groupInfo(groupID)",
      "      if err != nil",
      "        continue",
      "      go d.handleQuery(ids, pub, sec, groupID, content.QueryId, content.Randomness, nil, content.DataSource, content.Selector, uint32(onchain.TrafficUserQuery))",
      "  case *onchain.LogStartCommitReveal",
      "    go d.handleCR(content, randSeed)"]
    ∧ Gen.ChainHandlerFacts.groupInfo = [
      "ids = d.dkg.GetGroupIDs(groupID)",
      "pubPoly = d.dkg.GetGroupPublicPoly(groupID)",
      "sec = d.dkg.GetShareSecurity(groupID)",
      "if len(ids) == 0 || pubPoly == nil || sec == nil",
      "  err = errors.New(\"No Group info\")",
      "return"]
    ∧ Gen.ChainHandlerFacts.isMember = [
      "return d.dkg.GetShareSecurity(groupID) != nil"]
    ∧ Gen.ChainHandlerFacts.handleQueryParams = [
      "ids",
      "pubPoly",
      "sec",
      "groupID",
      "requestID",
      "lastRand",
      "useSeed",
      "url",
      "selector",
      "pType"]
    ∧ Gen.ChainHandlerFacts.trafficSystemRandom = Kind.sys.ptype
    ∧ Gen.ChainHandlerFacts.trafficUserRandom = Kind.user.ptype
    ∧ Gen.ChainHandlerFacts.trafficUserQuery = Kind.url.ptype :=
  ⟨rfl, rfl, rfl, rfl, rfl, rfl, rfl, rfl⟩

/-- an event for a group the node holds no share of is ignored -/
theorem event_non_member_ignored (p a : Nat) (me : Bytes) (groups : Nat → Option GroupEntry) (ev : Event)
    (fc : List (Option Msg)) (h : groups ev.gid = none) : onEvent p a me groups ev fc = none := by
  simp [onEvent, h]

/-- … otherwise the node runs `handleQuery` on `requestOf` the event with THAT group's member list and keys -/
theorem event_member_runs (p a : Nat) (me : Bytes) (groups : Nat → Option GroupEntry) (ev : Event)
    (fc : List (Option Msg)) (g : GroupEntry) (h : groups ev.gid = some g) (hn : g.ids.length ≠ 0) :
    onEvent p a me groups ev fc =
      some (handleQuery g.C p a { ids := g.ids, me := me, signOwn := g.signOwn } (requestOf ev) fc) := by
  simp [onEvent, h, hn]

/-- what is signed for each event, as a function of the event's fields only: system randomness –
32-byte big-endian `LastRandomness` ‖ submitter, submitter chosen by `LastRandomness`; user
randomness – `RequestId ‖ LastSystemRandomness ‖ UserSeed` (each as `big.Int.Bytes()`) ‖ submitter,
chosen by `LastSystemRandomness`; URL – selected document ‖ submitter, chosen by `Randomness`. -/
theorem event_content (addr : Bytes) (last q seed rand g : Nat) (parsed : Bytes) :
    contentFor 32 (requestOf (.updateRandom last g)) addr = some (natBE 32 last ++ addr)
    ∧ (requestOf (.updateRandom last g)).last = last ∧ (requestOf (.updateRandom last g)).rid = last
    ∧ contentFor 32 (requestOf (.requestUserRandom q last seed g)) addr
        = some (natBytes q ++ natBytes last ++ natBytes seed ++ addr)
    ∧ (requestOf (.requestUserRandom q last seed g)).last = last ∧ (requestOf (.requestUserRandom q last seed g)).rid = q
    ∧ contentFor 32 (requestOf (.url q (some parsed) rand g)) addr = some (parsed ++ addr)
    ∧ (requestOf (.url q (some parsed) rand g)).last = rand ∧ (requestOf (.url q (some parsed) rand g)).rid = q := by
  refine ⟨?_, rfl, rfl, ?_, rfl, rfl, rfl, rfl, rfl⟩
  · simp only [contentFor, requestOf, sysContent_eq]
  · simp [contentFor, requestOf, userContent, userContentRaw]

/-- **1. only the derived submitter reports.**  Whatever reaches a member (any messages, any
number of valid shares), it reports only if its id is `ids[(lastRand mod 2^64) mod n]`. -/
theorem only_submitter_reports (C : Crypto) (p a : Nat) (mb : Member) (r : Request)
    (fc : List (Option Msg)) (h : (handleQuery C p a mb r fc).reports ≠ []) :
    submitter mb.ids r.last = some mb.me := by
  rcases handleQuery_cases C p a mb r with h0 | ⟨_, hs, _⟩
  · exact absurd (h0 fc).1 h
  · exact hs

/-- **the submitter index for ALL values**: `choseSubmitter` computes
`lastSysRand.Uint64() % uint64(len(ids))` (regenerated: `Gen.submitterExpr`).  For every `lastRand` of any
size and every group size `n ≠ 0` – a power of two or not – the model's index is that expression, it is
`< n`, and it depends on the LOW 64-BIT LIMB only: writing `lastRand = w0 + 2^64·hi` with `w0 < 2^64`
(`big.Int.Uint64()` returns the least significant word of the magnitude) the index is `w0 % n`, whatever
`hi` is.  It is NOT `lastRand % n` (example below: `2^64` in a group of three). -/
theorem submitter_all_values (last n : Nat) (hn : n ≠ 0) :
    submitterIdx last n = some (Gen.submitterExpr last n) ∧ Gen.submitterExpr last n < n
      ∧ ∀ k, submitterIdx (last + 2 ^ 64 * k) n = submitterIdx last n := by
  refine ⟨submitterIdx_eq hn last, Nat.mod_lt _ (Nat.pos_of_ne_zero hn), fun k => ?_⟩
  rw [submitterIdx_eq hn, submitterIdx_eq hn, Nat.add_mul_mod_self_left]

theorem submitter_low_limb (w0 hi n : Nat) (hw : w0 < 2 ^ 64) (hn : n ≠ 0) :
    submitterIdx (w0 + 2 ^ 64 * hi) n = some (w0 % n) := by
  rw [submitterIdx_eq hn, Nat.add_mul_mod_self_left, Nat.mod_eq_of_lt hw]

example : submitterIdx (2 ^ 64) 3 = some 0 ∧ 2 ^ 64 % 3 = 1 := by decide
example : submitterIdx (2 ^ 256 - 1) 7 = some ((2 ^ 64 - 1) % 7) :=
  (by decide : 2 ^ 256 - 1 = (2 ^ 64 - 1) + 2 ^ 64 * ((2 ^ 256 - 1) / 2 ^ 64)) ▸
    submitter_low_limb (2 ^ 64 - 1) _ 7 (by decide) (by decide)

/-- … a non-submitter sends exactly one message – its share on the content every member computes
(`contentFor`, a function of the request and the member list only) – to that same submitter,
never registers with the collector and never reports. -/
theorem non_submitter_forwards (C : Crypto) (p a : Nat) (mb : Member) (r : Request)
    (fc : List (Option Msg)) (sub : Bytes) (hs : submitter mb.ids r.last = some sub) (hme : mb.me ≠ sub) :
    (handleQuery C p a mb r fc).reports = [] ∧ (handleQuery C p a mb r fc).registered = false ∧
    (handleQuery C p a mb r fc).sent = [(sub, (contentFor p r sub).map (fun c =>
      { index := r.kind.ptype, rid := r.ridBytes, content := some c, sig := some (mb.signOwn c) }))] :=
  nonsubmitter_out C p a mb r fc sub hs hme

/-- **2. at most one report** – for every input sequence the stage emits at most once, and the
pipeline calls the chain adaptor at most once. -/
theorem stage_emits_at_most_once (C : Crypto) (t a : Nat) (ms : List (Option Msg)) :
    (recoverStage C t a ms).out.length ≤ 1 :=
  (safe_stage C t a ms).outLe

theorem at_most_one_report (C : Crypto) (p a : Nat) (mb : Member) (r : Request) (fc : List (Option Msg)) :
    (handleQuery C p a mb r fc).reports.length ≤ 1 := by
  rcases handleQuery_cases C p a mb r with h0 | ⟨_, hs, hc⟩
  · simp [(h0 fc).1]
  · rw [handleQuery_submitter hs hc, List.length_take]; exact Nat.min_le_left ..

/-- a member whose content stage gave nothing (URL request: its fetch or its selector evaluation
failed) neither registers with the collector nor reports – whatever the peers send
(`dispatchSign` since /repo 7f58072). -/
theorem no_content_no_report (C : Crypto) (p a : Nat) (mb : Member) (r : Request)
    (fc : List (Option Msg)) (hc0 : contentFor p r mb.me = none) :
    (handleQuery C p a mb r fc).reports = [] ∧ (handleQuery C p a mb r fc).registered = false :=
  silent_without_content C p a mb r fc (fun _ => hc0)

/-- **3. every report is valid on chain – NO hypothesis on the member's content stage** (true since
/repo 7f58072).  Whatever a member reports, for EVERY request, EVERY sequence of peer
messages and whether or not its own fetch succeeded: it did compute a content `c0`, the report is
`(result, sig)` with `result ++ own id = c0`, `sig` verified against exactly that string (hence, by
C03, the contract equation for `result ‖ msg.sender` under the group key), and it carries the
request's own type.  (`handleQueryOld`, the code before the repair, violates it: `old_report_invalid`.) -/
theorem report_valid (ContractEq : Bytes → Bytes → Prop) (C : Crypto)
    (hC03 : ∀ c s, C.verify c s = true → ContractEq c s)
    (p a : Nat) (mb : Member) (r : Request) (fc : List (Option Msg)) (hlen : mb.me.length = a) :
    ∀ rep ∈ (handleQuery C p a mb r fc).reports,
      ∃ c0, contentFor p r mb.me = some c0 ∧
        rep.result ++ mb.me = c0 ∧ ContractEq (rep.result ++ mb.me) rep.sig ∧ rep.index = r.kind.ptype := by
  intro rep hrep
  obtain ⟨_, hd, hver, hix⟩ := report_result hlen hrep
  exact ⟨_, by rw [contentFor_eq, hd]; rfl, rfl, hC03 _ _ hver, hix⟩

/-- **3 (given the content).**  If the member computed its content `c0` and its id has the length of an
address, then whatever it reports – for EVERY sequence of peer messages – is `(result, sig)` with
`result ++ own id = c0`, `sig` verified against exactly that string (hence, by C03, the contract
equation for `result ‖ msg.sender` under the group key), and the request's own type. -/
theorem report_valid_of_content (ContractEq : Bytes → Bytes → Prop) (C : Crypto)
    (hC03 : ∀ c s, C.verify c s = true → ContractEq c s)
    (p a : Nat) (mb : Member) (r : Request) (fc : List (Option Msg)) (c0 : Bytes)
    (hc0 : contentFor p r mb.me = some c0) (hlen : mb.me.length = a) :
    ∀ rep ∈ (handleQuery C p a mb r fc).reports,
      rep.result ++ mb.me = c0 ∧ ContractEq (rep.result ++ mb.me) rep.sig ∧ rep.index = r.kind.ptype := by
  intro rep hrep
  obtain ⟨c, hc, h⟩ := report_valid ContractEq C hC03 p a mb r fc hlen rep hrep
  rw [hc0] at hc; cases hc; exact h

/-- for system randomness the verified string is exactly the 32-byte big-endian last randomness
(what the contract holds) followed by `msg.sender` -/
theorem report_valid_sys (ContractEq : Bytes → Bytes → Prop) (C : Crypto)
    (hC03 : ∀ c s, C.verify c s = true → ContractEq c s)
    (mb : Member) (r : Request) (fc : List (Option Msg)) (hk : r.kind = .sys) (hlen : mb.me.length = 20) :
    ∀ rep ∈ (handleQuery C 32 20 mb r fc).reports, ContractEq (natBE 32 r.last ++ mb.me) rep.sig :=
  fun _ hrep => hC03 _ _ (report_sys hk hlen hrep)

/-- the report carries the request's own id: what reaches the stage through the collector was
registered for under that id (C13 `no_crossover`) -/
theorem report_rid (C : Crypto) (p a : Nat) (mb : Member) (r : Request) (msgOf : Nat → Option Msg)
    (es : List Collector.Ev) (h : Nat)
    (hcons : ∀ s, Collector.Ev.arrive s ∈ es → ∀ m, msgOf s.tag = some m → m.rid = s.rid)
    (honly : ∀ r', Collector.Ev.register h r' ∈ es → r' = r.ridBytes) :
    ∀ rep ∈ (nodeRun C p a mb r msgOf es h).reports, rep.rid = r.ridBytes := by
  intro rep hrep
  unfold nodeRun at hrep
  rcases handleQuery_cases C p a mb r with h0 | ⟨c, hs, hc⟩
  · rw [(h0 _).1] at hrep; cases hrep
  · rw [handleQuery_submitter hs hc] at hrep
    rcases rid_fold C _ a _ _ rep (List.mem_of_mem_take hrep) with h0 | ⟨msg, hm, hrid⟩
    · simp [StageSt.init] at h0
    · rw [hrid]
      simp only [List.mem_cons, List.mem_map] at hm
      rcases hm with hm | ⟨s, hs', hm⟩
      · simp only [Option.some.injEq] at hm; rw [hm]
      · obtain ⟨harr, hreg⟩ := delivered_origin es h s hs'
        rw [hcons s harr msg hm]
        exact honly _ hreg

/-- **4. liveness (model level): enough honest shares ⇒ exactly one report, whatever the
Byzantine messages are.**  The member is the submitter and computed `c0`; among the messages that
reach its stage (its own first) there are well-formed messages carrying valid shares on `c0` of at
least `t = n/2+1` distinct members (distinct byte strings).  Then – for every other content of
`fc`: junk, duplicates, re-encodings, other content, other type, nil – exactly one report is made.
Needs the C02/C03 contracts `hrec`, `htot` for `c0`. -/
theorem enough_honest_reports (Valid : Nat → Bytes → Bytes → Prop) (C : Crypto) (p a : Nat)
    (mb : Member) (r : Request) (fc : List (Option Msg)) (c0 : Bytes)
    (hsub : submitter mb.ids r.last = some mb.me)
    (hc0 : contentFor p r mb.me = some c0) (hlen : mb.me.length = a)
    (hrec : ∀ l, Enough Valid c0 (threshold mb.ids.length) l →
      ∃ sig, C.recover c0 l = .ok sig ∧ C.verify c0 sig = true)
    (htot : ∀ l, C.recover c0 l ≠ .panic)
    (gs : List (Nat × Bytes)) (hidx : (gs.map (·.1)).Nodup) (hbytes : (gs.map (·.2)).Nodup)
    (ht : threshold mb.ids.length ≤ gs.length)
    (hgood : ∀ q ∈ gs, Valid q.1 c0 q.2 ∧ ∃ rid, some (⟨r.kind.ptype, rid, some c0, some q.2⟩ : Msg) ∈
        some ⟨r.kind.ptype, r.ridBytes, some c0, some (mb.signOwn c0)⟩ :: fc) :
    (handleQuery C p a mb r fc).reports.length = 1 ∧ (handleQuery C p a mb r fc).stop = .none := by
  have ha : a ≤ c0.length := by
    obtain ⟨d, rfl⟩ := contentFor_shape hc0
    simp [hlen]
  obtain ⟨hfin, hone⟩ := stage_reports C (threshold mb.ids.length) a r.kind.ptype c0 r.ridBytes (mb.signOwn c0)
    ha hrec htot fc gs hidx hbytes ht hgood
  rw [handleQuery_submitter hsub hc0]
  exact ⟨by rw [List.length_take, hone]; rfl, by simp only [hfin]; rfl⟩

/-- **4'. … whatever the arrival / registration order** (composition with C13): the submitter's
instance `h` registers once for the request id, is not cancelled, and the good messages ARRIVE at
its collector at any time – before or after the registration, interleaved with anything else. -/
theorem enough_honest_reports_any_order (Valid : Nat → Bytes → Bytes → Prop) (C : Crypto) (p a : Nat)
    (mb : Member) (r : Request) (msgOf : Nat → Option Msg) (es₁ es₂ : List Collector.Ev) (h : Nat) (c0 : Bytes)
    (hsub : submitter mb.ids r.last = some mb.me)
    (hc0 : contentFor p r mb.me = some c0) (hlen : mb.me.length = a)
    (hrec : ∀ l, Enough Valid c0 (threshold mb.ids.length) l →
      ∃ sig, C.recover c0 l = .ok sig ∧ C.verify c0 sig = true)
    (htot : ∀ l, C.recover c0 l ≠ .panic)
    (hreg : ∀ h' r', Collector.Ev.register h' r' ∈ es₁ ++ es₂ → r' ≠ r.ridBytes ∧ h' ≠ h)
    (hcan : Collector.Ev.cancel h ∉ es₁ ++ es₂)
    (gs : List (Nat × Bytes)) (hidx : (gs.map (·.1)).Nodup) (hbytes : (gs.map (·.2)).Nodup)
    (ht : threshold mb.ids.length ≤ gs.length)
    (hgood : ∀ q ∈ gs, Valid q.1 c0 q.2 ∧ (q.2 = mb.signOwn c0 ∨
      ∃ s, Collector.Ev.arrive s ∈ es₁ ++ Collector.Ev.register h r.ridBytes :: es₂ ∧ s.rid = r.ridBytes ∧
        msgOf s.tag = some ⟨r.kind.ptype, r.ridBytes, some c0, some q.2⟩)) :
    (nodeRun C p a mb r msgOf (es₁ ++ Collector.Ev.register h r.ridBytes :: es₂) h).reports.length = 1 := by
  unfold nodeRun
  have hdel := Props.C13.delivered_eq_arrivals es₁ es₂ h r.ridBytes hreg hcan
  refine (enough_honest_reports Valid C p a mb r _ c0 hsub hc0 hlen hrec htot gs hidx hbytes ht ?_).1
  intro q hq
  obtain ⟨hv, hor⟩ := hgood q hq
  refine ⟨hv, ?_⟩
  rcases hor with hown | ⟨s, harr, hrid, hmsg⟩
  · exact ⟨r.ridBytes, by rw [hown]; simp⟩
  · refine ⟨r.ridBytes, List.mem_cons_of_mem _ ?_⟩
    rw [hdel]
    simp only [List.mem_map]
    exact ⟨s, arrivalsFor_of_mem _ harr hrid, hmsg⟩

/-! ### the deadline fires mid-collection -/

/-- **what is guaranteed when the query deadline (60·blockTime) fires mid-collection.**  `fc₁` = what reached
the stage before, `fc₂` = what would have reached it afterwards (any messages).  Then – for every member,
request and message sequence – the cut run reports AT MOST ONCE, every report it makes is valid on chain
(`report_valid` holds for `fc₁` like for any sequence), and the deadline can only SUPPRESS the report,
never change or duplicate it: either nothing is reported, or exactly the report of the uncut run.  (At the
deadline itself Go may pick either arm of `select { case out <- report: case <-ctx.Done(): }`, and
`queryLoop` either arm of its send: every such outcome is the run on SOME cut, so it is covered.) -/
theorem deadline_mid_collection (C : Crypto) (p a : Nat) (mb : Member) (r : Request)
    (fc₁ fc₂ : List (Option Msg)) :
    (handleQuery C p a mb r fc₁).reports.length ≤ 1 ∧
    ((handleQuery C p a mb r fc₁).reports = [] ∨
      (handleQuery C p a mb r fc₁).reports = (handleQuery C p a mb r (fc₁ ++ fc₂)).reports) := by
  refine ⟨at_most_one_report C p a mb r fc₁, ?_⟩
  rcases handleQuery_cases C p a mb r with h0 | ⟨c, hs, hc⟩
  · exact Or.inl (h0 fc₁).1
  · rw [handleQuery_submitter hs hc, handleQuery_submitter hs hc]
    by_cases ho : (recoverStage C (threshold mb.ids.length) a
        (some ⟨r.kind.ptype, r.ridBytes, some c, some (mb.signOwn c)⟩ :: fc₁)).out = []
    · left; simp [ho]
    · right; rw [← List.cons_append, stage_prefix C _ a _ fc₂ ho]

/-- … at the collector: the deadline is the cancellation of the instance's context; whatever arrives
afterwards does not reach the stage (C13 `cancel_stops`) -/
theorem deadline_at_collector (C : Crypto) (p a : Nat) (mb : Member) (r : Request) (msgOf : Nat → Option Msg)
    (es₁ es₂ : List Collector.Ev) (h : Nat) :
    nodeRun C p a mb r msgOf (es₁ ++ Collector.Ev.cancel h :: es₂) h = nodeRun C p a mb r msgOf es₁ h := by
  unfold nodeRun
  rw [Props.C13.cancel_stops]

/-! ### histories: nothing is carried from one request to the next -/

/-- **requests are independent.**  The model of one node serving a history of requests – each with its own
member record, request and the messages that reach its stage – is `handleQuery` on every request
separately: what the node does for a request does not depend on which requests the process served
before, after or in between (in particular not on the shares it verified for them).  True by
construction of the model; that the CODE has no channel from one request to the next is
`c01_no_state_between_requests` (regenerated) plus the `hist` cases on one set of real nodes. -/
theorem requests_independent (C : Crypto) (p a : Nat)
    (pre post : List (Member × Request × List (Option Msg))) (x : Member × Request × List (Option Msg)) :
    ((pre ++ x :: post).map (fun q => handleQuery C p a q.1 q.2.1 q.2.2))[pre.length]? =
      some (handleQuery C p a x.1 x.2.1 x.2.2) := by
  simp

/-- regenerated (go/extract/pkgvars): the packages the pipeline runs in – `dosnode`, `sign/tbls`,
`sign/bls` – declare NO package-level variable at all, and `share` only two error values that are never
written: no cache, memo or table can survive a request outside the `DosNode` value (whose only
per-request state, the maps of `queryLoop`, is keyed by request id: C13).  A verified-share cache in
`sign/tbls` (keyed without the message it makes the submitter accept a replayed share of an earlier request
unverified and never report) breaks this obligation and the `hist` cases. -/
theorem c01_no_state_between_requests :
    Gen.PkgVars.dosnode = [] ∧ Gen.PkgVars.signTbls = [] ∧ Gen.PkgVars.signBls = []
    ∧ Gen.PkgVars.share.all (fun v => !v.written) = true := by
  decide

/-! ### liveness at group level – what the property demands for EVERY selected submitter -/

/-- **the liveness clause at full strength**, as `properties.jsonl` states it: "at least a threshold of
members are honest and can reach the selected submitter ⇒ exactly one member submits exactly one
report", for every choice of the selected submitter and every behaviour of the other ≤ n−t members –
a SILENT selected submitter included.  (`LivePremise`: `Proofs/Query.lean`.) -/
def C01_liveness_full : Prop :=
  ∀ (Valid : Nat → Bytes → Bytes → Prop) (g : GroupRun), LivePremise Valid g →
    ∃ i ∈ g.honest, (g.out i).reports.length = 1

/-- **proved part**: the clause holds whenever the selected submitter is one of the honest members –
then that member reports exactly once (and nobody else does: `only_submitter_reports`). -/
theorem liveness_honest_submitter_partial (Valid : Nat → Bytes → Bytes → Prop) (g : GroupRun)
    (hp : LivePremise Valid g) (s : Nat) (hs : submitterIdx g.r.last g.ids.length = some s)
    (hsh : s ∈ g.honest) :
    (g.out s).reports.length = 1 ∧ (g.out s).stop = .none ∧
      ∀ i ∈ g.honest, i ≠ s → (g.out i).reports = [] := by
  have hslt := hp.inGroup s hsh
  have hgetD : ∀ i (h : i < g.ids.length), g.ids.getD i [] = g.ids[i] := fun i h => by
    simp [List.getD, List.getElem?_eq_getElem h]
  have hsub : submitter g.ids g.r.last = some (g.ids.getD s []) := by
    simp only [submitter, hs, hgetD s hslt, List.getElem?_eq_getElem hslt]
  obtain ⟨c0, hc0⟩ := Option.isSome_iff_exists.1 (hp.content (g.ids.getD s []))
  -- distinct members have distinct ids, so every other honest member is a non-submitter: it forwards its share to `s`
  have hne : ∀ j ∈ g.honest, j ≠ s → (g.member j).me ≠ g.ids.getD s [] := fun j hj hjs heq => by
    simp only [GroupRun.member, hgetD j (hp.inGroup j hj), hgetD s hslt] at heq
    exact hjs ((List.Nodup.getElem_inj_iff hp.idsNodup).1 heq)
  have hfw := fun j hj hjs =>
    non_submitter_forwards g.C g.p g.a (g.member j) g.r (g.fcOf j) _ hsub (hne j hj hjs)
  have key := enough_honest_reports Valid g.C g.p g.a (g.member s) g.r (g.fcOf s) c0 hsub hc0
    (hp.idsLen _ (show g.ids.getD s [] ∈ g.ids from hgetD s hslt ▸ List.getElem_mem hslt)) (hp.hrec c0) (hp.htot c0)
    (g.honest.map (fun j => (j, g.signOf j c0)))
    (by simpa [List.map_map, Function.comp_def] using hp.nodup)
    (by
      rw [List.map_map]
      exact List.Nodup.map_on (fun i hi j hj h => hp.distinct i hi j hj c0 h) hp.nodup)
    (by simpa [GroupRun.member] using hp.enough)
    (by
      intro q hq
      obtain ⟨j, hj, rfl⟩ := List.mem_map.1 hq
      refine ⟨hp.valid j hj c0, g.r.ridBytes, ?_⟩
      by_cases hjs : j = s
      · subst hjs; exact List.mem_cons_self
      · have hsent := (hfw j hj hjs).2.2
        rw [hc0] at hsent
        exact List.mem_cons_of_mem _ (hp.reach s hs hsh j hj hjs _ hsent))
  exact ⟨key.1, key.2, fun i hi his => (hfw i hi his).1⟩

/-- the premise of the liveness clause holds for `Query.silentSub` (the group of three with the selected
submitter, member 1, silent) -/
theorem silentSub_premise : LivePremise (fun _ _ _ => True) silentSub where
  nodup := by decide
  inGroup := by decide
  enough := by decide
  idsNodup := by decide
  idsLen := by decide
  hrec := fun _ _ _ => ⟨[1], rfl, rfl⟩
  htot := fun _ _ h => by cases h
  content := fun _ => rfl
  valid := fun _ _ _ => trivial
  distinct := by
    intro i hi j hj c h
    simp only [silentSub, List.mem_cons, List.not_mem_nil, or_false] at hi hj
    rcases hi with rfl | rfl <;> rcases hj with rfl | rfl
    · rfl
    · exact absurd h (by decide : ¬ ([UInt8.ofNat 0] : Bytes) = [UInt8.ofNat 2])
    · exact absurd h (by decide : ¬ ([UInt8.ofNat 2] : Bytes) = [UInt8.ofNat 0])
    · rfl
  reach := by
    intro s hs hsh
    have : s = 1 := by
      have : submitterIdx 7 3 = some s := hs
      simpa [submitterIdx] using this.symm
    subst this
    exact absurd hsh (by decide)

/-- **negation witness: the full clause is FALSE for the protocol as designed** – when the member the
randomness selects is silent (one of the ≤ n−t faulty ones) nobody reports, although a threshold of
honest members is there and every contract holds.  No small repair exists (the choice of the submitter
is a function of the on-chain randomness only; re-dispatch after a timeout is the contract's business):
recorded as `known: property=C01 sig=no-report-byzantine-submitter`, replayed on the real nodes by the
Byzantine-submitter cases of every run. -/
theorem liveness_full_fails : ¬ C01_liveness_full := by
  intro h
  obtain ⟨i, hi, hrep⟩ := h (fun _ _ _ => True) silentSub silentSub_premise
  simp only [silentSub, List.mem_cons, List.not_mem_nil, or_false] at hi
  rcases hi with rfl | rfl
  · exact absurd hrep (by decide)
  · exact absurd hrep (by decide)

/-- the partial theorem instantiated: the same group with all three members honest and the honest
members' shares delivered to member 1 -/
private def allHonest : GroupRun :=
  { silentSub with C := symCrypto [sysContent 32 7 (List.replicate 20 0xB2)] 2 3,
                   signOf := fun i _ => [1, UInt8.ofNat i, 0], honest := [0, 1, 2],
                   fcOf := fun i => if i = 1 then
                     [some { index := 0, rid := [7], content := some (sysContent 32 7 (List.replicate 20 0xB2)), sig := some [1, 0, 0] },
                      some { index := 0, rid := [7], content := some (sysContent 32 7 (List.replicate 20 0xB2)), sig := some [1, 2, 0] }]
                   else [] }
example : (allHonest.out 1).reports.length = 1 ∧ (allHonest.out 0).reports = [] ∧ (allHonest.out 2).reports = [] := by
  decide +kernel
example : (allHonest.out 0).sent = [(List.replicate 20 0xB2,
    some { index := 0, rid := [7], content := some (sysContent 32 7 (List.replicate 20 0xB2)), sig := some [1, 0, 0] })] := by
  decide +kernel

/-! ### non-vacuity: a concrete group of three (symbolic BLS), Byzantine junk included -/

private def ids3 : List Bytes := [List.replicate 20 0xA1, List.replicate 20 0xB2, List.replicate 20 0xC3]
private def req3 : Request := { kind := .sys, rid := 7, last := 7, seed := 0, parsed := none }
private def c3 : Bytes := sysContent 32 7 (List.replicate 20 0xB2)      -- submitter = ids3[7 % 3] = member 1
private def C3 : Crypto := symCrypto [c3] 2 3
private def mb1 : Member := { ids := ids3, me := List.replicate 20 0xB2, signOwn := fun _ => [1, 1, 0] }
private def mb0 : Member := { ids := ids3, me := List.replicate 20 0xA1, signOwn := fun _ => [1, 0, 0] }
/-- junk (1 byte), a share on another content, then member 2's valid share -/
private def fc3 : List (Option Msg) :=
  [some { index := 0, rid := [7], content := some c3, sig := some [1] },
   some { index := 0, rid := [7], content := some [9, 9], sig := some [1, 2, 0] },
   some { index := 0, rid := [7], content := some c3, sig := some [1, 2, 0] }]

example : submitter ids3 7 = some (List.replicate 20 0xB2) := by decide

/-! ### F19 (fixed, /repo 7f58072): the submitter's own content stage fails, a Byzantine member replays
t valid shares on ANOTHER request's content `cA` (it was that request's submitter) with Index 7 -/
private def reqU : Request := { kind := .url, rid := 5, last := 7, seed := 0, parsed := none }
private def cA : Bytes := [0x66, 0x6f, 0x6f] ++ List.replicate 20 0xC3
private def CA : Crypto := symCrypto [cA] 2 3
private def fcA : List (Option Msg) :=
  [some { index := 7, rid := [5], content := some cA, sig := some [1, 2, 0] },
   some { index := 7, rid := [5], content := some cA, sig := some [1, 0, 0] }]

/-- negation witness for the code BEFORE the repair (`handleQueryOld`): the honest submitter reports
`("foo", group signature on cA)` with traffic type 7 – the string the contract checks,
`result ‖ msg.sender`, does not verify.  Replayed on the real pre-fix nodes: corpus/C01/f19_own_nil.txt. -/
theorem old_report_invalid :
    (handleQueryOld CA 32 20 mb1 reqU fcA).reports.map
      (fun rep => (rep.index, rep.result, CA.verify (rep.result ++ mb1.me) rep.sig)) = [(7, [0x66, 0x6f, 0x6f], false)] := by
  decide +kernel

/-- the repaired code on the same input: nothing is collected, nothing is reported -/
example : (handleQuery CA 32 20 mb1 reqU fcA).reports = [] ∧ (handleQuery CA 32 20 mb1 reqU fcA).registered = false := by
  decide +kernel
/-- `report_valid` instantiated where the member computed no content (`contentFor = none`) and on a reporting run -/
example : ∀ rep ∈ (handleQuery CA 32 20 mb1 reqU fcA).reports, ∃ c0, contentFor 32 reqU mb1.me = some c0 ∧
    rep.result ++ mb1.me = c0 ∧ CA.verify (rep.result ++ mb1.me) rep.sig = true ∧ rep.index = reqU.kind.ptype :=
  report_valid (fun c s => CA.verify c s = true) CA (fun _ _ h => h) 32 20 mb1 reqU fcA (by decide)
example : ∀ rep ∈ (handleQuery C3 32 20 mb1 req3 fc3).reports, ∃ c0, contentFor 32 req3 mb1.me = some c0 ∧
    rep.result ++ mb1.me = c0 ∧ C3.verify (rep.result ++ mb1.me) rep.sig = true ∧ rep.index = req3.kind.ptype :=
  report_valid (fun c s => C3.verify c s = true) C3 (fun _ _ h => h) 32 20 mb1 req3 fc3 (by decide)
example : ((handleQuery C3 32 20 mb1 req3 fc3).reports.map (·.sig)) = [[9, 0]] := by decide +kernel
example : (handleQuery C3 32 20 mb0 req3 fc3).reports = [] := by decide +kernel
example : (handleQuery C3 32 20 mb1 req3 []).reports = [] := by decide +kernel

/-! ### instantiations of the remaining theorems -/

/-- `non_submitter_forwards` on member 0 of the group of three (the submitter is member 1) -/
example : (handleQuery C3 32 20 mb0 req3 fc3).reports = [] ∧ (handleQuery C3 32 20 mb0 req3 fc3).registered = false ∧
    (handleQuery C3 32 20 mb0 req3 fc3).sent = [(List.replicate 20 0xB2, (contentFor 32 req3 (List.replicate 20 0xB2)).map (fun c =>
      { index := req3.kind.ptype, rid := req3.ridBytes, content := some c, sig := some (mb0.signOwn c) }))] :=
  non_submitter_forwards C3 32 20 mb0 req3 fc3 (List.replicate 20 0xB2) (by decide) (by decide)

/-- the most permissive crypto (everything recovers and verifies): the contracts `hrec` / `htot` hold -/
private def Cperm : Crypto := { recover := fun _ _ => .ok [9, 0], verify := fun _ _ => true }
private def msgOf3 (tag : Nat) : Option Msg :=
  if tag = 0 then some { index := 0, rid := natBytes 7, content := some c3, sig := some [1, 2, 0] }
  else if tag = 2 then some { index := 0, rid := natBytes 7, content := some [9, 9], sig := some [1] }
  else none

/-- `enough_honest_reports_any_order` with every hypothesis discharged on a concrete schedule: member 2's
share ARRIVES (tag 0) before member 1 registers, junk arrives after; instance 4 is registered once for
the request id, instance 5 for another id, nobody is cancelled -/
example : (nodeRun Cperm 32 20 mb1 req3 msgOf3
    ([.arrive ⟨natBytes 7, 0⟩, .register 5 [1]] ++ Collector.Ev.register 4 req3.ridBytes :: [.arrive ⟨natBytes 7, 2⟩]) 4).reports.length = 1 :=
  enough_honest_reports_any_order (fun _ _ _ => True) Cperm 32 20 mb1 req3 msgOf3
    [.arrive ⟨natBytes 7, 0⟩, .register 5 [1]] [.arrive ⟨natBytes 7, 2⟩] 4 c3
    (by decide) (by decide) (by decide) (fun _ _ => ⟨[9, 0], rfl, rfl⟩) (fun _ h => by cases h)
    (by
      intro h' r' hm
      simp only [List.mem_append, List.mem_cons, List.not_mem_nil, or_false, reduceCtorEq, false_or,
        Collector.Ev.register.injEq] at hm
      obtain ⟨rfl, rfl⟩ := hm
      decide)
    (by decide)
    [(1, [1, 1, 0]), (2, [1, 2, 0])] (by decide) (by decide) (by decide)
    (by
      intro q hq
      simp only [List.mem_cons, List.not_mem_nil, or_false] at hq
      rcases hq with rfl | rfl
      · exact ⟨trivial, Or.inl rfl⟩
      · exact ⟨trivial, Or.inr ⟨⟨natBytes 7, 0⟩, by decide, by decide, by decide⟩⟩)

/-- `report_rid` on the same schedule: the messages are consistent with their arrival events, instance 4
registers only under the request's id -/
example : ∀ rep ∈ (nodeRun Cperm 32 20 mb1 req3 msgOf3
    [.arrive ⟨natBytes 7, 0⟩, .register 5 [1], .register 4 req3.ridBytes, .arrive ⟨natBytes 7, 2⟩] 4).reports,
    rep.rid = req3.ridBytes :=
  report_rid Cperm 32 20 mb1 req3 msgOf3 _ 4
    (by
      intro sh hs m hm
      simp only [List.mem_cons, List.not_mem_nil, or_false, reduceCtorEq, false_or, Collector.Ev.arrive.injEq] at hs
      rcases hs with rfl | rfl
      · simp only [msgOf3] at hm; simp at hm; rw [← hm]
      · simp only [msgOf3] at hm; simp at hm; rw [← hm])
    (by
      intro r' hr
      simp only [List.mem_cons, List.not_mem_nil, or_false, reduceCtorEq, false_or, Collector.Ev.register.injEq] at hr
      rcases hr with ⟨h1, _⟩ | ⟨_, rfl⟩
      · cases h1
      · rfl)
example : ((nodeRun Cperm 32 20 mb1 req3 msgOf3
    [.arrive ⟨natBytes 7, 0⟩, .register 5 [1], .register 4 req3.ridBytes, .arrive ⟨natBytes 7, 2⟩] 4).reports.map (·.rid))
    = [natBytes 7] := by decide +kernel

/-- `requests_independent` on a history of two requests of the group of three -/
example : ((([] : List (Member × Request × List (Option Msg))) ++ (mb1, req3, fc3) :: [(mb0, req3, [])]).map
    (fun q => handleQuery C3 32 20 q.1 q.2.1 q.2.2))[0]? = some (handleQuery C3 32 20 mb1 req3 fc3) :=
  requests_independent C3 32 20 [] [(mb0, req3, [])] (mb1, req3, fc3)

/-- `deadline_mid_collection` on the group of three: cut after the junk and the foreign-content share – nothing
is reported; cut after member 2's share (or not at all) – the one report of the uncut run -/
example : (handleQuery C3 32 20 mb1 req3 (fc3.take 2)).reports = []
    ∧ (handleQuery C3 32 20 mb1 req3 (fc3.take 3)).reports = (handleQuery C3 32 20 mb1 req3 (fc3.take 3 ++ fc3)).reports
    ∧ (handleQuery C3 32 20 mb1 req3 (fc3.take 3)).reports.length = 1 := by decide +kernel
example : (handleQuery C3 32 20 mb1 req3 (fc3.take 2)).reports = [] ∨
    (handleQuery C3 32 20 mb1 req3 (fc3.take 2)).reports = (handleQuery C3 32 20 mb1 req3 (fc3.take 2 ++ fc3.drop 2)).reports :=
  (deadline_mid_collection C3 32 20 mb1 req3 (fc3.take 2) (fc3.drop 2)).2

end Dos.Props.C01
