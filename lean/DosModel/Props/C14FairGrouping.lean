/-
C14, continued — the key-generation pipeline (`handleGrouping` + `pdkg.Grouping` +
`pdkg.Loop`, regenerated on every run): every fair run terminates; `pdkg.Loop` closes the reply
channels it was handed; no channel without a receiver.  (Separate file: its examples are kernel
evaluations on the whole IR; Lake checks it in parallel.)  Definitions and the general theorems: Props/C14Fair.lean.
-/
import DosModel.Props.C14Grouping
import DosModel.Props.C14Fair
import DosModel.Proofs.PipeFairGen

namespace Dos.Props.C14
open Dos Dos.Pipe Dos.Gen.Pipes

/-- the key-generation pipeline: in every fair run in which the session's deadline fires (or it is
cancelled), from some position on no goroutine of the session runs and every stage channel is
closed, for ever -/
theorem grouping_every_fair_run_terminates (r : Run grouping) (hf : Fair r)
    (hc : ∃ i, (r.st i).ctxDone 0 = true) : r.Terminates :=
  pipeline_every_fair_run_terminates _ grouping_wf r hf hc

/-- non-vacuity: the hypotheses hold of the regenerated IR, which has ten or more pipeline
goroutines with a channel they close on every path -/
example : (W0 grouping = true ∧ SafeOk grouping = true ∧ LiveOk grouping = true) ∧
    10 ≤ (grouping.gs.filter (fun gr => gr.static && !gr.daemon &&
      (List.range grouping.chans.length).any (fun c => gr.hasClose c && closesOnAllPaths gr c))).length :=
  ⟨wf_of_no_violation _ (benign_of_subset grouping_wf known_findings_are_benign), by decide +kernel⟩

/-- `askMembers` (three instances: deals, responses, justifications… of a session) hands its reply
channel to `pdkg.Loop`; once Loop has taken the registration it closes the reply channel in every
fair run in which the session's context ends (its expiry ticker brings it to the check) — or the
node shuts down -/
theorem grouping_collector_closes_reply_channels :
    (handoffs grouping).length = 3 ∧
    ∀ (r : Run grouping), Fair r → (∃ i, (r.st i).ctxDone 0 = true) →
      ∀ x ∈ handoffs grouping, ∀ gd, grouping.gs[x.1]? = some gd → ∀ i0 pc0,
        (r.st i0).gs[x.1]? = some (.at pc0) → mark (ownD gd x.2.1 x.2.2) pc0 = true →
        ∃ j, i0 ≤ j ∧ ((∀ j', j ≤ j' → (r.st j').closed x.2.1 = true) ∨ (r.st j).gs[x.1]? = some .done) :=
  ⟨(collectorsCheck_parts grouping_collectors_check).1,
   fun r hf hc => collectors_eventually_close _ grouping_wf (collectorsCheck_parts grouping_collectors_check).2 r hf hc⟩

/-- non-vacuity: three hand-offs, each passing `CollectorOk` (kernel evaluation in Proofs/PipeFairGen.lean) -/
example : (handoffs grouping).length = 3 ∧ CollectorsOk grouping = true :=
  collectorsCheck_parts grouping_collectors_check

/-- no channel of the key-generation pipeline that somebody sends on is without a receiver (W6) -/
theorem grouping_has_receivers :
    ∀ c, c < grouping.chans.length → ∀ gr ∈ grouping.gs, gr.hasSend c = true → ¬ Receiverless grouping c := by
  intro c hc gr hgr hsend
  exact W6_not_receiverless grouping_rules.2.2 hc hgr hsend

example : 10 ≤ ((List.range grouping.chans.length).filter (fun c => grouping.gs.any (fun gr => gr.hasSend c))).length := by
  decide +kernel

end Dos.Props.C14
