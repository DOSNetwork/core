/-
C20 — Ed25519 scalar arithmetic agrees with integer arithmetic modulo the group order, and the
scalar encodings round-trip.  Theorems about the code GENERATED from group/edwards25519/scalar.go
(`Dos.Gen.Ed25519Sc`, regenerated on every run; helper lemmas in Proofs/Ed25519Sc.lean) and about
the hand model of the scalar byte API (Model/Ed25519Scalar.lean, lemmas in Proofs/Ed25519Enc.lean).

For ALL limb values (any integers, not only 21-bit ones) and for EVERY function `shr` standing for
Go's `>>` — i.e. whatever each of the 69 (scMulAdd) carries is — the integer Σ sᵢ·2^(21 i)
represented by the 24 output limbs is congruent modulo ℓ to the specified function of the inputs.

With the real shift (`shrI`) the load side (`load_value`), the digit range after the last carry pass, the zero
high limbs and the byte packing (`store_value`) are proved and assembled in `scMulAdd_bytes` etc. under the single
hypothesis 0 ≤ s11 < 2^25 on the top result limb.

That hypothesis, the absence of int64 overflow in every (sub)expression and full reduction below ℓ are theorems
of Props/C20Ranges.lean (design/C20Ranges.md: verified interval abstract interpreter run by the kernel on the
regenerated program): `C20_scalar_full` below is proved there unconditionally (`C20_scalar_full_holds`),
likewise scMul / scAdd / scSub / scReduce (64-byte load included) and canonical results (`sc_results_canonical`).

The numbers 4 and 5 in the headings below are the items of DESIGN.md §6 C20 (items 1–3: Props/C20.lean).
-/
import DosModel.Proofs.Ed25519Bytes

set_option exponentiation.threshold 600

namespace Dos.Props.C20Scalar
open Dos Dos.Ed25519 Dos.Gen.Ed25519Sc

/-- regenerated constants of const.go: `primeOrder` is the ℓ of the property, `lMinus2 = ℓ − 2` -/
theorem order_constants : primeOrder = ell ∧ lMinus2 = ell - 2
    ∧ ell = 7237005577332262213973186563042994240857116359379907606001950938285454250989 := by
  decide

/-- why the reduction rounds work: the six ref10 constants are the radix-2^21 digits of 2^252 mod ℓ,
i.e. 666643 + 470296·2^21 + 654183·2^42 − 997805·2^63 + 136657·2^84 − 683901·2^105 = 2^252 − ℓ -/
theorem ref10_constants :
    (666643 + 470296 * 2 ^ 21 + 654183 * 2 ^ 42 - 997805 * 2 ^ 63 + 136657 * 2 ^ 84 - 683901 * 2 ^ 105 : Int)
      = 2 ^ 252 - (ell : Int) := by
  decide

/-- Go's `>>` on int64, the instance the driver executes, is floor division by 2^n -/
theorem shrI_is_floor_div (x : Int) (n : Nat) : shrI x n = x / 2 ^ n :=
  Int.shiftRight_eq_div_pow x n

/-- **4. sc_congruent: scMulAdd computes a·b + c modulo ℓ** on the translated code, every carry arbitrary. -/
theorem sc_congruent (shr : Shr) (a0 a1 a2 a3 a4 a5 a6 a7 a8 a9 a10 a11 b0 b1 b2 b3 b4 b5 b6 b7 b8 b9 b10 b11
    c0 c1 c2 c3 c4 c5 c6 c7 c8 c9 c10 c11 : Int) :
    value (scMulAdd_limbs shr a0 a1 a2 a3 a4 a5 a6 a7 a8 a9 a10 a11 b0 b1 b2 b3 b4 b5 b6 b7 b8 b9 b10 b11
        c0 c1 c2 c3 c4 c5 c6 c7 c8 c9 c10 c11) % (ell : Int)
    = (value12 a0 a1 a2 a3 a4 a5 a6 a7 a8 a9 a10 a11 * value12 b0 b1 b2 b3 b4 b5 b6 b7 b8 b9 b10 b11
        + value12 c0 c1 c2 c3 c4 c5 c6 c7 c8 c9 c10 c11) % (ell : Int) :=
  scMulAdd_limbs_value shr ..

/-- scMul computes a·b modulo ℓ -/
theorem scMul_congruent (shr : Shr) (a0 a1 a2 a3 a4 a5 a6 a7 a8 a9 a10 a11 b0 b1 b2 b3 b4 b5 b6 b7 b8 b9 b10 b11 : Int) :
    value (scMul_limbs shr a0 a1 a2 a3 a4 a5 a6 a7 a8 a9 a10 a11 b0 b1 b2 b3 b4 b5 b6 b7 b8 b9 b10 b11) % (ell : Int)
    = (value12 a0 a1 a2 a3 a4 a5 a6 a7 a8 a9 a10 a11 * value12 b0 b1 b2 b3 b4 b5 b6 b7 b8 b9 b10 b11) % (ell : Int) :=
  scMul_limbs_value shr ..

/-- scAdd computes a + c modulo ℓ -/
theorem scAdd_congruent (shr : Shr) (a0 a1 a2 a3 a4 a5 a6 a7 a8 a9 a10 a11 c0 c1 c2 c3 c4 c5 c6 c7 c8 c9 c10 c11 : Int) :
    value (scAdd_limbs shr a0 a1 a2 a3 a4 a5 a6 a7 a8 a9 a10 a11 c0 c1 c2 c3 c4 c5 c6 c7 c8 c9 c10 c11) % (ell : Int)
    = (value12 a0 a1 a2 a3 a4 a5 a6 a7 a8 a9 a10 a11 + value12 c0 c1 c2 c3 c4 c5 c6 c7 c8 c9 c10 c11) % (ell : Int) :=
  scAdd_limbs_value shr ..

/-- scSub computes a − c modulo ℓ (it starts from a − c + 16ℓ to stay non-negative) -/
theorem scSub_congruent (shr : Shr) (a0 a1 a2 a3 a4 a5 a6 a7 a8 a9 a10 a11 c0 c1 c2 c3 c4 c5 c6 c7 c8 c9 c10 c11 : Int) :
    value (scSub_limbs shr a0 a1 a2 a3 a4 a5 a6 a7 a8 a9 a10 a11 c0 c1 c2 c3 c4 c5 c6 c7 c8 c9 c10 c11) % (ell : Int)
    = (value12 a0 a1 a2 a3 a4 a5 a6 a7 a8 a9 a10 a11 - value12 c0 c1 c2 c3 c4 c5 c6 c7 c8 c9 c10 c11) % (ell : Int) :=
  scSub_limbs_value shr ..

/-- scReduce maps 24 limbs (a 64-byte value) to a value congruent modulo ℓ -/
theorem scReduce_congruent (shr : Shr) (s0 s1 s2 s3 s4 s5 s6 s7 s8 s9 s10 s11 s12 s13 s14 s15 s16 s17 s18 s19 s20 s21 s22 s23 : Int) :
    value (scReduce_limbs shr s0 s1 s2 s3 s4 s5 s6 s7 s8 s9 s10 s11 s12 s13 s14 s15 s16 s17 s18 s19 s20 s21 s22 s23) % (ell : Int)
    = value ⟨s0, s1, s2, s3, s4, s5, s6, s7, s8, s9, s10, s11, s12, s13, s14, s15, s16, s17, s18, s19, s20, s21, s22, s23⟩ % (ell : Int) :=
  scReduce_limbs_value shr ..


/-- **scMulAdd on bytes.**  For all 32-byte operands the result is the packing of a limb vector `r` whose limbs 0…10 are
21-bit digits, whose limbs 12…23 are zero and whose value is ≡ (leNat a : Int) * leNat b + leNat c (mod ℓ) — all proved.  IF the top limb
is in range (0 ≤ r.s11 < 2^25: a theorem of Props/C20Ranges.lean, not used here) the 32 result bytes spell that value. -/
theorem scMulAdd_bytes (a b c : Bytes) (ha : a.length = 32) (hb : b.length = 32) (hc : c.length = 32) :
    ∃ r : L24,
      scMulAdd shrI a b c = packLo shrI r.s0 r.s1 r.s2 r.s3 r.s4 r.s5 r.s6 r.s7 ++ packHi shrI r.s8 r.s9 r.s10 r.s11
      ∧ Digits11 r ∧ HiZero r
      ∧ value r % (ell : Int) = ((leNat a : Int) * leNat b + leNat c) % (ell : Int)
      ∧ (0 ≤ r.s11 ∧ r.s11 < 33554432 →
          (leNat (scMulAdd shrI a b c) : Int) = value r
          ∧ (leNat (scMulAdd shrI a b c) : Int) % (ell : Int) = ((leNat a : Int) * leNat b + leNat c) % (ell : Int)) := by
  have ea := unpack12_value a ha
  have eb := unpack12_value b hb
  have ec := unpack12_value c hc
  simp only [unpack12, value12L] at ea eb ec
  simp only [scMulAdd]
  exact ⟨_, packed_spec (scMulAdd_store_eq shrI _) (scMulAdd_final ..) (scMulAdd_hiZero shrI ..)
    (by rw [← ea, ← eb, ← ec]; exact sc_congruent shrI ..)⟩

/-- **scMul on bytes.**  For all 32-byte operands the result is the packing of a limb vector `r` whose limbs 0…10 are
21-bit digits, whose limbs 12…23 are zero and whose value is ≡ (leNat a : Int) * leNat b (mod ℓ) — all proved.  IF the top limb
is in range (0 ≤ r.s11 < 2^25: a theorem of Props/C20Ranges.lean, not used here) the 32 result bytes spell that value. -/
theorem scMul_bytes (a b : Bytes) (ha : a.length = 32) (hb : b.length = 32) :
    ∃ r : L24,
      scMul shrI a b = packLo shrI r.s0 r.s1 r.s2 r.s3 r.s4 r.s5 r.s6 r.s7 ++ packHi shrI r.s8 r.s9 r.s10 r.s11
      ∧ Digits11 r ∧ HiZero r
      ∧ value r % (ell : Int) = ((leNat a : Int) * leNat b) % (ell : Int)
      ∧ (0 ≤ r.s11 ∧ r.s11 < 33554432 →
          (leNat (scMul shrI a b) : Int) = value r
          ∧ (leNat (scMul shrI a b) : Int) % (ell : Int) = ((leNat a : Int) * leNat b) % (ell : Int)) := by
  have ea := unpack12_value a ha
  have eb := unpack12_value b hb
  simp only [unpack12, value12L] at ea eb
  simp only [scMul]
  exact ⟨_, packed_spec (scMul_store_eq shrI _) (scMul_final ..) (scMul_hiZero shrI ..)
    (by rw [← ea, ← eb]; exact scMul_congruent shrI ..)⟩

/-- **scAdd on bytes.**  For all 32-byte operands the result is the packing of a limb vector `r` whose limbs 0…10 are
21-bit digits, whose limbs 12…23 are zero and whose value is ≡ (leNat a : Int) + leNat c (mod ℓ) — all proved.  IF the top limb
is in range (0 ≤ r.s11 < 2^25: a theorem of Props/C20Ranges.lean, not used here) the 32 result bytes spell that value. -/
theorem scAdd_bytes (a c : Bytes) (ha : a.length = 32) (hc : c.length = 32) :
    ∃ r : L24,
      scAdd shrI a c = packLo shrI r.s0 r.s1 r.s2 r.s3 r.s4 r.s5 r.s6 r.s7 ++ packHi shrI r.s8 r.s9 r.s10 r.s11
      ∧ Digits11 r ∧ HiZero r
      ∧ value r % (ell : Int) = ((leNat a : Int) + leNat c) % (ell : Int)
      ∧ (0 ≤ r.s11 ∧ r.s11 < 33554432 →
          (leNat (scAdd shrI a c) : Int) = value r
          ∧ (leNat (scAdd shrI a c) : Int) % (ell : Int) = ((leNat a : Int) + leNat c) % (ell : Int)) := by
  have ea := unpack12_value a ha
  have ec := unpack12_value c hc
  simp only [unpack12, value12L] at ea ec
  simp only [scAdd]
  exact ⟨_, packed_spec (scAdd_store_eq shrI _) (scAdd_final ..) (scAdd_hiZero shrI ..)
    (by rw [← ea, ← ec]; exact scAdd_congruent shrI ..)⟩

/-- **scSub on bytes.**  For all 32-byte operands the result is the packing of a limb vector `r` whose limbs 0…10 are
21-bit digits, whose limbs 12…23 are zero and whose value is ≡ (leNat a : Int) - leNat c (mod ℓ) — all proved.  IF the top limb
is in range (0 ≤ r.s11 < 2^25: a theorem of Props/C20Ranges.lean, not used here) the 32 result bytes spell that value. -/
theorem scSub_bytes (a c : Bytes) (ha : a.length = 32) (hc : c.length = 32) :
    ∃ r : L24,
      scSub shrI a c = packLo shrI r.s0 r.s1 r.s2 r.s3 r.s4 r.s5 r.s6 r.s7 ++ packHi shrI r.s8 r.s9 r.s10 r.s11
      ∧ Digits11 r ∧ HiZero r
      ∧ value r % (ell : Int) = ((leNat a : Int) - leNat c) % (ell : Int)
      ∧ (0 ≤ r.s11 ∧ r.s11 < 33554432 →
          (leNat (scSub shrI a c) : Int) = value r
          ∧ (leNat (scSub shrI a c) : Int) % (ell : Int) = ((leNat a : Int) - leNat c) % (ell : Int)) := by
  have ea := unpack12_value a ha
  have ec := unpack12_value c hc
  simp only [unpack12, value12L] at ea ec
  simp only [scSub]
  exact ⟨_, packed_spec (scSub_store_eq shrI _) (scSub_final ..) (scSub_hiZero shrI ..)
    (by rw [← ea, ← ec]; exact scSub_congruent shrI ..)⟩

/-- scReduce: digits and zero high limbs of the result (its 64-byte load is not covered by `unpack12_value`) -/
theorem scReduce_digits (s0 s1 s2 s3 s4 s5 s6 s7 s8 s9 s10 s11 s12 s13 s14 s15 s16 s17 s18 s19 s20 s21 s22 s23 : Int) :
    Digits11 (scReduce_limbs shrI s0 s1 s2 s3 s4 s5 s6 s7 s8 s9 s10 s11 s12 s13 s14 s15 s16 s17 s18 s19 s20 s21 s22 s23)
    ∧ HiZero (scReduce_limbs shrI s0 s1 s2 s3 s4 s5 s6 s7 s8 s9 s10 s11 s12 s13 s14 s15 s16 s17 s18 s19 s20 s21 s22 s23) :=
  ⟨scReduce_final .., scReduce_hiZero shrI ..⟩

/-- **load**: the twelve load expressions cut a 32-byte string into limbs with the same little-endian value -/
theorem load_value (a : Bytes) (h : a.length = 32) : value12L (unpack12 shrI a) = (leNat a : Int) :=
  unpack12_value a h

/-- **store**: limbs 0…10 21-bit digits, 0 ≤ s11 < 2^25 ⇒ the packed bytes spell Σ sᵢ·2^(21 i) -/
theorem store_value (s : L24) (hd : Digits11 s) (h11 : 0 ≤ s.s11 ∧ s.s11 < 33554432) :
    (leNat (scMulAdd_store shrI s) : Int) = value12 s.s0 s.s1 s.s2 s.s3 s.s4 s.s5 s.s6 s.s7 s.s8 s.s9 s.s10 s.s11 := by
  rw [scMulAdd_store_eq]; exact pack_value s hd h11

/-- the full scalar clause: byte-level, unconditional. PROVED in Props/C20Ranges.lean (`C20_scalar_full_holds`);
in this file only the conditional form `scMulAdd_bytes` (hypothesis 0 ≤ s11 < 2^25) is available. -/
def C20_scalar_full : Prop :=
  ∀ a b c : Bytes, a.length = 32 → b.length = 32 → c.length = 32 →
    leNat (scMulAdd shrI a b c) = (leNat a * leNat b + leNat c) % ell

/-! ### 5. scalar encodings -/

/-- `UnmarshalBinary` accepts exactly 32 bytes and keeps them as they are -/
theorem scalar_unmarshal (b : Bytes) :
    (b.length = 32 → scUnmarshal b = .ok b) ∧ (b.length ≠ 32 → scUnmarshal b = .error .wrongSize) := by
  constructor <;> intro h <;> simp [scUnmarshal, h]

/-- **marshal ∘ unmarshal is the identity on canonical 32-byte values** (little-endian, < ℓ) … -/
theorem scalar_roundtrip (b : Bytes) (hl : b.length = 32) (hc : leNat b < ell) :
    (scUnmarshal b).map scMarshal = .ok b := by
  rw [(scalar_unmarshal b).1 hl]
  show Except.ok (scMarshal b) = Except.ok b
  rw [(scMarshal_eq_self_iff b).mpr ⟨hl, hc⟩]

/-- … and ONLY on those: an encoding ≥ ℓ is accepted by `UnmarshalBinary` and marshals to a different
string (the reduced value) — the scalar type itself has no canonical-form check. -/
theorem scalar_noncanonical_accepted (b : Bytes) (hl : b.length = 32) (hc : ell ≤ leNat b) :
    scUnmarshal b = .ok b ∧ scMarshal b ≠ b ∧ leNat (scMarshal b) = leNat b % ell := by
  refine ⟨(scalar_unmarshal b).1 hl, ?_, leNat_scMarshal b⟩
  intro h
  have := ((scMarshal_eq_self_iff b).mp h).2
  omega

/-- every value below ℓ has exactly one encoding that round-trips: its 32 little-endian bytes -/
theorem scalar_encoding_unique (n : Nat) (hn : n < ell) :
    scMarshal (natLE 32 n) = natLE 32 n ∧ leNat (natLE 32 n) = n
    ∧ ∀ b : Bytes, b.length = 32 → leNat b = n → b = natLE 32 n := by
  have h1 : leNat (natLE 32 n) = n := leNat_natLE_of_lt 32 n (Nat.lt_trans hn ell_lt)
  refine ⟨(scMarshal_eq_self_iff _).mpr ⟨natLE_length _ _, by rw [h1]; exact hn⟩, h1, ?_⟩
  intro b hl hb
  exact leNat_inj _ _ (by rw [hl, natLE_length]) (by rw [hb, h1])

/-- `SetBytes` (any length, e.g. a 64-byte digest) yields the canonical encoding of the value mod ℓ -/
theorem setBytes_canonical (b : Bytes) :
    (scSetBytes b).length = 32 ∧ leNat (scSetBytes b) = leNat b % ell ∧ scCanonical (scSetBytes b) = true := by
  have hlt : leNat b % ell < ell := Nat.mod_lt _ (by decide)
  refine ⟨natLE_length _ _, leNat_natLE_of_lt 32 _ (Nat.lt_trans hlt ell_lt), scCanonical_natLE _ hlt⟩

/-! non-vacuity -/
example : value (scMulAdd_limbs shrI 2097151 5 0 0 0 0 0 0 0 0 0 7 2097151 2097151 0 0 0 0 0 0 0 0 0 1
      1 2 3 4 5 6 7 8 9 10 11 12) % (ell : Int)
    = (value12 2097151 5 0 0 0 0 0 0 0 0 0 7 * value12 2097151 2097151 0 0 0 0 0 0 0 0 0 1
      + value12 1 2 3 4 5 6 7 8 9 10 11 12) % (ell : Int) :=
  sc_congruent shrI ..
example : (scUnmarshal (natLE 32 (ell - 1))).map scMarshal = .ok (natLE 32 (ell - 1)) :=
  scalar_roundtrip _ (natLE_length _ _) (by rw [leNat_natLE_of_lt 32 _ (by decide)]; decide)
example : scMarshal (natLE 32 (ell + 5)) ≠ natLE 32 (ell + 5) :=
  (scalar_noncanonical_accepted _ (natLE_length _ _) (by rw [leNat_natLE_of_lt 32 _ (by decide)]; decide)).2.1

example : ∃ r : L24, scMulAdd shrI (natLE 32 (ell - 1)) (natLE 32 (ell - 1)) (natLE 32 7)
      = packLo shrI r.s0 r.s1 r.s2 r.s3 r.s4 r.s5 r.s6 r.s7 ++ packHi shrI r.s8 r.s9 r.s10 r.s11 ∧ Digits11 r :=
  let ⟨r, h1, h2, _⟩ := scMulAdd_bytes _ _ _ (natLE_length _ _) (natLE_length _ _) (natLE_length _ _)
  ⟨r, h1, h2⟩
/-- the hypothesis of `scMulAdd_bytes` (top limb in range) holds on a concrete carry-heavy input -/
example : 0 ≤ (scMulAdd_limbs shrI 2097151 2097151 2097151 2097151 2097151 2097151 2097151 2097151 2097151 2097151 2097151 33554431
      2097151 2097151 2097151 2097151 2097151 2097151 2097151 2097151 2097151 2097151 2097151 33554431
      2097151 2097151 2097151 2097151 2097151 2097151 2097151 2097151 2097151 2097151 2097151 33554431).s11
    ∧ (scMulAdd_limbs shrI 2097151 2097151 2097151 2097151 2097151 2097151 2097151 2097151 2097151 2097151 2097151 33554431
      2097151 2097151 2097151 2097151 2097151 2097151 2097151 2097151 2097151 2097151 2097151 33554431
      2097151 2097151 2097151 2097151 2097151 2097151 2097151 2097151 2097151 2097151 2097151 33554431).s11 < 33554432 := by
  decide

end Dos.Props.C20Scalar
