/-
C10 — constants of the curve, the twist and the pairing (layer 1, second part): every statement
is evaluated by the Lean kernel on the literals regenerated from /repo (E1) through the
transcribed tower / curve / pairing functions — the long computations on the residues the Montgomery values
stand for (Proofs/Bn256Residue.lean) —, so a changed literal breaks it.
-/
import DosModel.Proofs.Bn256Residue
import DosModel.Proofs.Bn256MillerNatural
import DosModel.Proofs.Bn256G2Torsion
import DosModel.Proofs.Bn256FrobPowConcrete

namespace Dos.Props.C10Consts
open Dos Dos.Bn256

/-- the G1 generator (newGFp(1), newGFp(2), newGFp(1), newGFp(1)) is on y² = x³ + 3, curveB = newGFp(3),
and r·G1 = O -/
theorem consts_curve_generator :
    curveIsOnCurve curveGen = true ∧ curveB = GFp.newGFp 3 ∧
    (Jac.curveMul curveGen Gen.Bn256.Order).isInfinity = true := by
  refine ⟨by decide, by decide, ?_⟩
  simp only [Jac.isInfinity, curveGen_torsion, decide_true]

/-- twistB = 3/ξ (ξ·twistB = 3 in Montgomery gfP2); the G2 generator is on y² = x³ + twistB and has order
dividing r (twistPoint.IsOnCurve, which multiplies by Order) -/
theorem consts_twist_generator :
    Fp2.mul xiM twistB = Fp2.ofGFp (GFp.newGFp 3) ∧ twistIsOnCurve twistGen = true := by
  refine ⟨by decide, ?_⟩
  -- the generator is affine (z = 1) and finite, so IsOnCurve is the curve equation and r·G2 = O
  have ha : twistGen.makeAffine = twistGen := by decide
  have he : twistGen.isInfinity = false ∧
      (twistGen.y.square != ((twistGen.x.square).mul twistGen.x).add twistB) = false := by decide
  simp only [twistIsOnCurve, ha, he, Bool.false_eq_true, if_false, twistGen_torsion, decide_true]

/-- the Frobenius constants are the stated powers of ξ -/
theorem consts_frobenius :
    Fp2.powNat xiM ((Bn256.p - 1) / 6) = xiToPMinus1Over6 ∧
    Fp2.powNat xiM ((Bn256.p - 1) / 3) = xiToPMinus1Over3 ∧
    Fp2.powNat xiM ((Bn256.p - 1) / 2) = xiToPMinus1Over2 ∧
    Fp2.powNat xiM ((2 * Bn256.p - 2) / 3) = xiTo2PMinus2Over3 ∧
    Fp2.powNat xiM ((Bn256.p * Bn256.p - 1) / 3) = Fp2.ofGFp xiToPSquaredMinus1Over3 ∧
    Fp2.powNat xiM ((2 * Bn256.p * Bn256.p - 2) / 3) = Fp2.ofGFp xiTo2PSquaredMinus2Over3 ∧
    Fp2.powNat xiM ((Bn256.p * Bn256.p - 1) / 6) = Fp2.ofGFp xiToPSquaredMinus1Over6 := by
  obtain ⟨h6, h3, h23⟩ := frobConsts_powers_mont
  have r := frobConsts_reduced
  exact ⟨h6, h3, powNat_eq_of_res _ r.2.2.1 _ (by decide +kernel), h23,
    powNat_eq_of_res _ ⟨by decide, r.2.2.2.2.1⟩ _ (by decide +kernel),
    powNat_eq_of_res _ ⟨by decide, r.2.2.2.2.2.1⟩ _ (by decide +kernel),
    powNat_eq_of_res _ ⟨by decide, r.2.2.2.2.2.2⟩ _ (by decide +kernel)⟩

/-- the exponents above are exact divisions (p ≡ 1 mod 6) -/
theorem consts_p_mod_6 : Bn256.p % 6 = 1 := by decide

/-- the GT identity literal is one, and the GT generator literal is the pairing of the two generators
as the transcribed optimal-ate code computes it (a full Miller loop and final exponentiation in the kernel) -/
theorem consts_gt : gfP12Inf = Fp12.one ∧ optimalAte twistGen curveGen = gfP12Gen := by
  refine ⟨by decide, ?_⟩
  rw [← twistGenR_val, ← curveGenR_val, ← gfP12GenR_val, MillerNat.optimalAte_val]
  refine val12_eq_of_res ?_
  rw [MillerNat.map_optimalAte resHom]
  decide +kernel

end Dos.Props.C10Consts
