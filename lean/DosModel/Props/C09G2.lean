/-
C09 on the PRODUCTION point group: the theorems of `Props/C09.lean`, stated there for every
field `F` and every `F`-module `G`, instantiated at `F = Zq r` (the scalars the driver computes with, a
field because `r` is proved prime) and `G = G2v` = the valid values of the model's bn256 G2 with the
model's OWN `G2.add / G2.neg / G2.smul` (`Proofs/ShareG2.lean`: an `AddCommGroup` and a `Zq r`-module, no
hypothesis left – the torsion `r • P = O` is part of `G2.valid`, i.e. of what `UnmarshalBinary` accepts).
The `_val` forms spell the conclusions with the raw model operations of `twist.go`.

Ed25519: the kyber point type is NOT a module over `Zq ℓ` (cofactor 8); the abstract theorems apply to
the prime-order subgroup `⟨B⟩` only (every point the suite's `Point().Mul(s, nil)`, `Commit`, `Eval`,
`RecoverCommit` produce from points of `⟨B⟩` stays in it).  That restriction is an assumption of C09
(meta), the correspondence run offers commitments with a small-order component (`tors` lines) and demands
that `Check` accepts no share value against them.
-/
import DosModel.Props.C09
import DosModel.Props.C09Compose
import DosModel.Proofs.ShareG2


namespace Dos.Props.C09G2
open Dos Dos.Share Dos.Bn256 Dos.ShareG2 Dos.Props.C09Compose

/-- every share count a Go program can hold is below the order -/
theorem charGt_g2 (n : Nat) (hn : n < 2 ^ 63) : CharGt (Zq Share.bn256Order) n :=
  charGt_bn256 n (go_int_below_orders n hn).1

/-- **`RecoverCommit` on bn256 G2**: any slice whose usable entries are the public shares
`f(i+1) • B` (`B` any valid G2 point) and in which `≥ t ≥ len f` distinct indices occur gives `f(0) • B` -/
theorem recoverCommit_correct_g2 (dp : Bool) (f : List (Zq Share.bn256Order)) (B : G2v) (t n : Nat)
    (hf : f.length ≤ t) (hn : n < 2 ^ 63) (shares : List (Option (PubShare G2v)))
    (hval : ∀ iv ∈ shares.filterMap (usablePub n), iv.2 = priEval f iv.1 • B)
    (hcnt : t ≤ (idxPub n shares).card) :
    recoverCommit (S := Zq Share.bn256Order) dp shares t n = .ok (f.headD 0 • B) :=
  Props.C09.recoverCommit_correct dp f B t n hf (charGt_g2 n hn) shares hval hcnt

/-- … with the conclusion in the model's raw operations: the recovered value is
`G2.smul f(0) B` of `twist.go`'s arithmetic -/
theorem recoverCommit_correct_g2_val (dp : Bool) (f : List (Zq Share.bn256Order)) (B : G2v) (t n : Nat)
    (hf : f.length ≤ t) (hn : n < 2 ^ 63) (shares : List (Option (PubShare G2v)))
    (hval : ∀ iv ∈ shares.filterMap (usablePub n), iv.2 = priEval f iv.1 • B)
    (hcnt : t ≤ (idxPub n shares).card) :
    ∃ c : G2v, recoverCommit (S := Zq Share.bn256Order) dp shares t n = .ok c
      ∧ c.1 = G2.smul (f.headD 0).val B.1 :=
  ⟨_, recoverCommit_correct_g2 dp f B t n hf hn shares hval hcnt, rfl⟩

/-- **never a panic on bn256 G2**, any slice of valid points -/
theorem recoverCommit_never_panics_g2 (dp : Bool) (t n : Nat) (hn : n < 2 ^ 63)
    (shares : List (Option (PubShare G2v))) (s : Site) :
    recoverCommit (S := Zq Share.bn256Order) dp shares t n ≠ .panic s := by
  rcases recoverCommit_no_panic (F := Zq Share.bn256Order) dp t n (charGt_g2 n hn) shares with h | ⟨v, h⟩
    <;> rw [h] <;> simp

/-- **`PubPoly.Eval` of a commitment on G2** is the commitment of the private share -/
theorem pubEval_commit_g2 (p : PriPoly (Zq Share.bn256Order)) (B : G2v) (i : Int) :
    pubEval (Zq Share.bn256Order) (commit p B).commits i = priEval p.coeffs i • B :=
  Props.C09.pubEval_commit p B i

/-- **`Check` on G2 accepts exactly the true share value**, for every non-identity valid base (hypothesis
`hb` of `check_iff` discharged: the order is prime) -/
theorem check_iff_g2 (p : PriPoly (Zq Share.bn256Order)) (B : G2v) (hB : B ≠ 0) (i : Int)
    (v : Zq Share.bn256Order) :
    check (Zq Share.bn256Order) (commit p B) i v = true ↔ v = priEval p.coeffs i :=
  Props.C09.check_iff p B (smul_eq_zero_imp B hB) i v

/-- **`Add` is homomorphic on G2 commitments** -/
theorem commit_add_g2 (p q r : PriPoly (Zq Share.bn256Order)) (h : priAdd p q = .ok r) (B : G2v) :
    pubAdd (commit p B) (commit q B) = .ok (commit r B) :=
  Props.C09.commit_add p q r h B

/-! ### non-vacuity: `f = 5 + 7x` over the real scalar field, base = the generator of G2, public shares
of members 1, 1 (repeated) and 0 with junk: `t = 2` distinct indices -/

private def fr : List (Zq Share.bn256Order) := [5, 7]

private noncomputable def exShares : List (Option (PubShare G2v)) :=
  [some ⟨1, some (priEval fr 1 • ShareG2.gen)⟩, none, some ⟨1, some (priEval fr 1 • ShareG2.gen)⟩,
   some ⟨5, some ShareG2.gen⟩, some ⟨0, some (priEval fr 0 • ShareG2.gen)⟩]

example : recoverCommit (S := Zq Share.bn256Order) true exShares 2 3
      = .ok ((5 : Zq Share.bn256Order) • ShareG2.gen) :=
  recoverCommit_correct_g2 true fr ShareG2.gen 2 3 (by decide) (by norm_num) exShares
    (by
      intro iv hiv
      simp only [exShares, List.filterMap_cons, List.filterMap_nil, usablePub] at hiv
      simp at hiv
      rcases hiv with rfl | rfl | rfl <;> rfl)
    (by
      have : (exShares.filterMap (usablePub 3)).map (·.1) = [1, 1, 0] := rfl
      unfold idxPub; rw [this]; decide)

example : check (Zq Share.bn256Order) (commit ⟨0, fr⟩ ShareG2.gen) 1 v = true ↔ v = priEval fr 1 :=
  check_iff_g2 ⟨0, fr⟩ ShareG2.gen gen_ne_zero 1 v

example : ((5 : Zq Share.bn256Order) • ShareG2.gen).1 = G2.smul (5 : Zq Share.bn256Order).val g2gen :=
  smul_val _ _

end Dos.Props.C09G2
