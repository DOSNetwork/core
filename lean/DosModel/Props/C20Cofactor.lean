/-
C20 — the bundled `Verify` is the COFACTORLESS check S•B = R + h•A in the full curve group
(`C20Lawful.verify_sound_code`), as crypto/ed25519's is.  A verifier that multiplies both sides by the cofactor accepts
more: the key holder's signature with a torsion point T added to the commitment, R′ = k•B + T, h′ = H(R′‖A‖m),
S = k + h′·x, satisfies c•(S•B) = c•(R′ + h′•A) whenever c•T = 0, but NOT S•B = R′ + h′•A unless T = 0.  So for every lawful
group record with a non-trivial c-torsion element the model's `verify` rejects that signature while the cofactored equation
holds — the two verifiers would disagree exactly on the `vfy r<j>` cases of the correspondence run (go/props/c20/torsion.go).
-/
import Mathlib.Tactic.Abel
import DosModel.Props.C20
import DosModel.Model.SchnorrHist
import DosModel.Proofs.ComposePrimes

namespace Dos.Props.C20Cofactor
open Dos Dos.Ed25519 Dos.Schnorr Dos.SchnorrHist

variable {G : Type} [AddCommGroup G]

/-- **cofactorless rejects, cofactored would accept**: for T ≠ 0 with c•T = 0 the repaired `Verify` does not accept the
shifted signature, although the verification equation multiplied by c holds -/
theorem torsion_shift_separates_the_verifiers {g : Grp G} (L : Lawful g) (H : Bytes → Bytes) (x k c : ℕ) (T : G)
    (hT : T ≠ 0) (hc : c • T = 0) (msg : Bytes) :
    verify g H (g.smul x g.base) msg (shiftedSign g H x k T msg) ≠ .ok ()
    ∧ ∃ R, g.dec ((shiftedSign g H x k T msg).take 32) = some R
        ∧ c • (leNat ((shiftedSign g H x k T msg).drop 32) • g.base)
            = c • (R + challenge g H (g.smul x g.base) R msg • g.smul x g.base) := by
  have hadd : g.add (g.smul k g.base) T = g.smul k g.base + T := L.add_eq _ _
  have hs : shiftedSign g H x k T msg = g.enc (g.smul k g.base + T) ++
      natLE 32 ((k + x * challenge g H (g.smul x g.base) (g.smul k g.base + T) msg % ell) % ell) := by
    unfold shiftedSign; simp only [hadd]
  rw [hs]
  set R := g.smul k g.base + T with hR
  set h := challenge g H (g.smul x g.base) R msg with hh
  have hS : (k + x * h % ell) % ell < ell := Nat.mod_lt _ (by decide)
  obtain ⟨htake, -, hle⟩ := sig_halves L R hS
  have heq : ((k + x * h % ell) % ell) • g.base = g.smul k g.base + h • g.smul x g.base := by
    rw [L.smul_eq, L.smul_eq]
    exact response_eq g.base L.order k x _
  constructor
  · intro hv
    rw [Props.C20.verify_sound L] at hv
    obtain ⟨_, R', hdec, _, he⟩ := hv
    rw [htake, L.dec_enc] at hdec
    cases hdec
    rw [hle, heq, ← hh, hR] at he
    apply hT
    have e3 : (g.smul k g.base + h • g.smul x g.base) + T = (g.smul k g.base + h • g.smul x g.base) + 0 := by
      rw [add_zero]
      calc (g.smul k g.base + h • g.smul x g.base) + T = g.smul k g.base + T + h • g.smul x g.base := by abel
        _ = g.smul k g.base + h • g.smul x g.base := he.symm
    exact add_left_cancel e3
  · refine ⟨R, by rw [htake, L.dec_enc], ?_⟩
    rw [hle, heq, ← hh, hR, smul_add, smul_add, smul_add, hc]
    abel

/-- non-vacuity: Z/ℓ with B = 1, the shift T = 1 is killed by c = ℓ and is not zero -/
example (H : Bytes → Bytes) (msg : Bytes) :
    verify dlogGrp H (dlogGrp.smul 5 dlogGrp.base) msg (shiftedSign dlogGrp H 5 7 (1 : ZMod ell) msg) ≠ .ok () := by
  have := Dos.Compose.fact_ell
  exact (torsion_shift_separates_the_verifiers dlogGrp_lawful H 5 7 ell (1 : ZMod ell) one_ne_zero (by simp) msg).1

end Dos.Props.C20Cofactor
