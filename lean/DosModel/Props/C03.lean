/-
C03 — nothing below threshold or not signed by the group is ever accepted.

Part A: in EVERY non-degenerate bilinear pairing the equation `bls.Verify` checks is equivalent
to `s = x • H(m)`, and skipping identity pairs (as `PairingCheck` does) does not change the
product – this justifies modelling verification by point equality.
Part B: theorems about the byte-level model `Model/Tbls.lean` (any field, module, codec, public
polynomial, entries): a share verifies iff it decodes to exactly that member's `xᵢ • H(m)`;
below threshold `Recover` errors whatever padding is added; only valid shares of in-range
members count; whatever `Recover` returns is the group signature and verifies under the group key.
Unforgeability (nobody without `xᵢ` produces `xᵢ • H(m)`) is a cryptographic assumption.
-/
import DosModel.Proofs.Tbls
import DosModel.Proofs.TblsPairing
import DosModel.Proofs.ShareZq
import DosModel.Props.C02
import DosModel.Props.C09


namespace Dos.Props.C03
open Dos Dos.Share Dos.Tbls

/-- the statements C03 is about, regenerated from /repo on every run (see `C02.c02_code_shape`):
index prefix, `tbls.Verify`, `bls.Verify`, the counting loop of `tbls.Recover`, `PubPoly.Eval`. -/
theorem c03_code_shape :
    Gen.TblsShape.sigShareIndex = [
      "0| func (s SigShare) Index() (int, error)",
      "1| var index uint16",
      "1| buf := bytes.NewReader(s)",
      "1| err := binary.Read(buf, binary.BigEndian, &index)",
      "1| if err != nil",
      "2| return -1, err",
      "1| return int(index), nil"
    ] ∧
    Gen.TblsShape.sigShareValue = [
      "0| func (s *SigShare) Value() []byte",
      "1| return []byte(*s)[2:]"
    ] ∧
    Gen.TblsShape.tblsVerify = [
      "0| func Verify(suite suites.Suite, public *share.PubPoly, msg, sig []byte) error",
      "1| s := SigShare(sig)",
      "1| i, err := s.Index()",
      "1| if err != nil",
      "2| return err",
      "1| return bls.Verify(suite, public.Eval(i).V, msg, s.Value())"
    ] ∧
    Gen.TblsShape.blsVerify = [
      "0| func Verify(suite suites.Suite, X kyber.Point, msg, sig []byte) error",
      "1| HM := hashToPoint(suite, msg)",
      "1| s := suite.G1().Point()",
      "1| if err := s.UnmarshalBinary(sig); err != nil",
      "2| return err",
      "1| s.Neg(s)",
      "1| if !suite.PairingCheck([]kyber.Point{s, HM}, []kyber.Point{suite.G2().Point().Base(), X})",
      "2| return errors.New(\"bls: invalid signature\")",
      "1| return nil"
    ] ∧
    Gen.TblsShape.tblsRecover = [
      "0| func Recover(suite suites.Suite, public *share.PubPoly, msg []byte, sigs [][]byte, t, n int) ([]byte, error)",
      "1| if t < public.Threshold()",
      "2| return nil, errors.New(\"tbls: threshold smaller than the threshold of the public polynomial\")",
      "1| pubShares := make([]*share.PubShare, 0)",
      "1| sigs = sliceUniqMap(sigs)",
      "1| seen := make(map[int]struct{})",
      "1| for _, sig := range sigs",
      "2| s := SigShare(sig)",
      "2| i, err := s.Index()",
      "2| if err != nil",
      "3| continue",
      "2| if _, dup := seen[i]; dup || i >= n",
      "3| continue",
      "2| if err = bls.Verify(suite, public.Eval(i).V, msg, s.Value()); err != nil",
      "3| continue",
      "2| point := suite.G1().Point()",
      "2| if err := point.UnmarshalBinary(s.Value()); err != nil",
      "3| return nil, err",
      "2| seen[i] = struct{}{}",
      "2| pubShares = append(pubShares, &share.PubShare{I: i, V: point})",
      "2| if len(pubShares) >= t",
      "3| break",
      "1| commit, err := share.RecoverCommit(suite.G1(), pubShares, t, n)",
      "1| if err != nil",
      "2| return nil, err",
      "1| sig, err := commit.MarshalBinary()",
      "1| if err != nil",
      "2| return nil, err",
      "1| return sig, nil"
    ] ∧
    Gen.TblsShape.pubEval = [
      "0| func (p *PubPoly) Eval(i int) *PubShare",
      "1| xi := p.g.Scalar().SetInt64(1 + int64(i))",
      "1| v := p.g.Point().Null()",
      "1| for j := p.Threshold() - 1; j >= 0; j--",
      "2| v.Mul(xi, v)",
      "2| v.Add(v, p.commits[j])",
      "1| return &PubShare{i, v}"
    ] :=
  ⟨rfl, rfl, rfl, rfl, rfl, rfl⟩

section PairingPart
variable {F G1 G2 GT : Type} [Field F] [AddCommGroup G1] [Module F G1]
  [AddCommGroup G2] [Module F G2] [CommGroup GT]

/-- **`bls.Verify` accepts exactly `x • H(m)`** under the key `X = x • B₂`: the pairing equation
`e(-s, B₂) · e(H(m), x•B₂) = 1` holds iff `s = x • H(m)` (bilinearity + non-degeneracy). -/
theorem verify_iff (pr : Pairing F G1 G2 GT) (x : F) (hm s : G1) :
    pr.verifyEq (x • pr.g2) hm s ↔ s = x • hm :=
  pr.verifyEq_iff x hm s

/-- **skipping pairs with an identity component** (what `PairingCheck` does) leaves the product
of pairings unchanged. -/
theorem pairingCheck_skip_identity [DecidableEq G1] [DecidableEq G2] (pr : Pairing F G1 G2 GT)
    (ps : List (G1 × G2)) : pr.checkSkipping ps = pr.checkAll ps := by
  unfold Pairing.checkSkipping Pairing.checkAll
  induction ps with
  | nil => rfl
  | cons ab ps ih =>
    by_cases h : ab.1 = 0 ∨ ab.2 = 0
    · have h1 : pr.e ab.1 ab.2 = 1 := by
        rcases h with h | h <;> rw [h]
        · exact pr.zero_left _
        · exact pr.zero_right _
      rw [List.filter_cons_of_neg (by simp only [decide_not, Bool.not_eq_true', decide_eq_false_iff_not, not_not]; exact h),
        List.map_cons, List.prod_cons, h1, one_mul, ih]
    · rw [List.filter_cons_of_pos (by simp only [decide_eq_true_eq]; exact h),
        List.map_cons, List.prod_cons, List.map_cons, List.prod_cons, ih]

/-- the share key of member `i` is `f(i+1) • B₂` (`Share.pubEval_map_smul`, the fact behind C09
`pubEval_commit`), so a share verifies under `public.Eval(i)` iff it is `f(i+1) • H(m)`. -/
theorem share_verify_iff (pr : Pairing F G1 G2 GT) [DecidableEq F] [DecidableEq G2] (f : List F) (i : Int) (hm s : G1) :
    pr.verifyEq (pubEval F (f.map (fun c => c • pr.g2)) i) hm s ↔ s = priEval f i • hm := by
  rw [pubEval_map_smul]; exact verify_iff pr _ hm s

end PairingPart

variable {F : Type} [Field F] [DecidableEq F]
variable {G : Type} [AddCommGroup G] [Module F G] [DecidableEq G]

/-- **a signature share verifies only if it is the BLS signature of exactly that message under
exactly that member's share key**: `tbls.Verify` answers ok iff the entry has a 2-byte index `i`
and its value decodes to `f(i+1) • H(m)`. -/
theorem tblsVerify_iff (cd : Codec G) (f : List F) (hm : G) (sig : Bytes) :
    tblsVerifyR cd f hm sig = .ok
      ↔ ∃ i, sigIndex sig = some i ∧ cd.decode (sigValue sig) = some (priEval f (i : Int) • hm) :=
  tblsVerifyR_ok_iff cd f hm sig

/-- an entry counts for member `i` iff index `i < n` and it decodes to `f(i+1) • H(m)` -/
theorem counts_iff (cd : Codec G) (f : List F) (hm : G) (n : Nat) (e : Bytes) (i : Nat) :
    validIdx cd f hm n e = some i
      ↔ sigIndex e = some i ∧ i < n ∧ cd.decode (sigValue e) = some (priEval f (i : Int) • hm) :=
  validIdx_eq_some_iff cd f hm n e i

/-- **shares for another message never count**: member `i`'s share on `H' ≠ H(m)` is not a valid
entry (its share key being non-zero).  This and the three `…_never_counts` below are instances of
`Tbls.validIdx_eq_none_of_decode`. -/
theorem other_message_never_counts (cd : Codec G) (f : List F) (hm hm' : G) (n : Nat) (e : Bytes)
    (i : Nat) (hidx : sigIndex e = some i)
    (hdec : cd.decode (sigValue e) = some (priEval f (i : Int) • hm'))
    (hne : hm' ≠ hm) (hx : priEval f (i : Int) ≠ 0) :
    validIdx cd f hm n e = none :=
  validIdx_eq_none_of_decode cd f hm n e i _ hidx hdec fun h => hne (smul_right_injective G hx h)

/-- **shares under another index never count** unless the two share keys coincide (then it IS the
right share): member `i`'s point presented under index `j`. -/
theorem other_index_never_counts (cd : Codec G) (f : List F) (hm : G) (hH : ∀ c : F, c • hm = 0 → c = 0)
    (n : Nat) (e : Bytes) (i j : Nat) (hidx : sigIndex e = some j)
    (hdec : cd.decode (sigValue e) = some (priEval f (i : Int) • hm))
    (hne : priEval f (i : Int) ≠ priEval f (j : Int)) :
    validIdx cd f hm n e = none :=
  validIdx_eq_none_of_decode cd f hm n e j _ hidx hdec fun h => hne (smul_left_cancel_of hH h)

/-- **a share of a member number beyond the 2-byte index format never counts**: `tbls.Sign` for member
`i ≥ 2^16` labels `x_i • H(m)` with `i mod 2^16` (`C02.signed_share_index_truncated`); unless the two share
keys coincide that is another member's number on this member's point – not a valid entry for anybody. -/
theorem oversize_member_share_never_counts (cd : Codec G) (hcd : ∀ p, cd.decode (cd.encode p) = some p)
    (f : List F) (hm : G) (hH : ∀ c : F, c • hm = 0 → c = 0) (n i : Nat)
    (hne : priEval f (i : Int) ≠ priEval f ((i % 65536 : Nat) : Int)) :
    validIdx cd f hm n (tblsSign cd f hm i) = none := by
  obtain ⟨h1, h2⟩ := C02.signed_share_index_truncated cd f hm i
  exact other_index_never_counts cd f hm hH n _ i (i % 65536) h1 (by rw [h2]; exact hcd _) hne

/-- **shares under another group's polynomial never count** unless that polynomial has the same
value at the member's point. -/
theorem foreign_polynomial_never_counts (cd : Codec G) (f g : List F) (hm : G)
    (hH : ∀ c : F, c • hm = 0 → c = 0) (n : Nat) (e : Bytes) (i : Nat) (hidx : sigIndex e = some i)
    (hdec : cd.decode (sigValue e) = some (priEval g (i : Int) • hm))
    (hne : priEval g (i : Int) ≠ priEval f (i : Int)) :
    validIdx cd f hm n e = none :=
  validIdx_eq_none_of_decode cd f hm n e i _ hidx hdec fun h => hne (smul_left_cancel_of hH h)

/-- **below threshold ⇒ error**, for every padding: if fewer than `t` distinct members have a
valid share in the list – whatever else the list contains, in any number – `Recover` returns an
error ("not enough shares", or the refusal of a threshold below the polynomial's), never a
signature and never a panic. Any public polynomial. -/
theorem below_threshold_errors (cd : Codec G) (f : List F) (hm : G) (t n : Nat) (ht : 0 < t)
    (sigs : List Bytes) (hfew : (members cd f hm n sigs).card < t) :
    recover cd f hm sigs t n = if t < f.length then .errThreshold else .errFew :=
  recover_few cd f hm t n ht sigs hfew

/-- … in particular nothing is ever accepted below threshold -/
theorem below_threshold_never_ok (cd : Codec G) (f : List F) (hm : G) (t n : Nat) (ht : 0 < t)
    (sigs : List Bytes) (hfew : (members cd f hm n sigs).card < t) (s : Bytes) :
    recover cd f hm sigs t n ≠ .ok s := by
  rw [below_threshold_errors cd f hm t n ht sigs hfew]
  split_ifs <;> simp

/-- **padding never helps**: entries that are not valid shares of an in-range member can be
added to (or removed from) a list, anywhere, without changing the outcome. Any public polynomial. -/
theorem padding_irrelevant (cd : Codec G) (f : List F) (hm : G) (t n : Nat) (ht : 0 < t)
    (hc : CharGt F n) (s₁ s₂ : List Bytes)
    (h : ∀ e, validIdx cd f hm n e ≠ none → (e ∈ s₁ ↔ e ∈ s₂)) :
    recover cd f hm s₁ t n = recover cd f hm s₂ t n := by
  rw [recover_eq_full cd f hm t n ht hc s₁, recover_eq_full cd f hm t n ht hc s₂,
    C02.members_perm_junk cd f hm n s₁ s₂ h]

/-- **whatever recovery returns verifies under the group key** – for ANY public polynomial and
any threshold (the code refuses `t < len f` itself, /repo 3cdfff8, so no hypothesis relating
`t` to the polynomial is needed): a returned signature is the encoding of `f(0) • H(m)` – the
signature the group key `f(0) • B₂` accepts (by `verify_iff`) – and at least `t` distinct members
contributed a valid share. -/
theorem recover_ok_verifies (cd : Codec G) (hcd : ∀ p, cd.decode (cd.encode p) = some p)
    (f : List F) (hm : G) (t n : Nat) (ht : 0 < t) (hc : CharGt F n)
    (sigs : List Bytes) (s : Bytes) (h : recover cd f hm sigs t n = .ok s) :
    t ≤ (members cd f hm n sigs).card ∧ s = cd.encode (f.headD 0 • hm)
      ∧ blsVerifyR cd (f.headD 0) hm s = .ok := by
  obtain ⟨hs, _, hq⟩ := C02.recover_ok_is_group_signature cd f hm t n ht hc sigs s h
  refine ⟨hq, hs, ?_⟩
  rw [blsVerifyR_ok_iff, hs]; exact hcd _

/-- a concrete pairing: `G1 = G2 = F = ℚ` additively, `GT = Multiplicative ℚ`, `e(a,b) = a·b`. -/
def toyPairing : Pairing ℚ ℚ ℚ (Multiplicative ℚ) where
  e a b := Multiplicative.ofAdd (a * b)
  add_left a b q := by simp [add_mul]
  add_right a p q := by simp [mul_add]
  smul_swap c a q := by simp [mul_comm c a, mul_assoc]
  g2 := 1
  nondeg a h := by simpa using h

example : toyPairing.verifyEq ((3 : ℚ) • toyPairing.g2) 5 15 := (verify_iff toyPairing 3 5 15).2 (by norm_num)
example : ¬ toyPairing.verifyEq ((3 : ℚ) • toyPairing.g2) 5 16 :=
  fun h => by have := (verify_iff toyPairing 3 5 16).1 h; norm_num at this

open C02 in
example : tblsVerifyR toyCodec [(4 : Zq 11), 3] 2 [0, 2, 4, 77] = .ok
    ∧ tblsVerifyR toyCodec [(4 : Zq 11), 3] 2 [0, 2, 5] = .errInvalid
    ∧ tblsVerifyR toyCodec [(4 : Zq 11), 3] 2 [0, 1, 4] = .errInvalid
    ∧ tblsVerifyR toyCodec [(4 : Zq 11), 3] 2 [0] = .errIndex
    ∧ tblsVerifyR toyCodec [(4 : Zq 11), 3] 2 [0, 2, 99] = .errDecode := by decide

open C02 in
example : recover toyCodec [(4 : Zq 11), 3] 2
    [[0, 2, 4], [0, 2, 4, 77], [5], [0, 0, 8], [0, 7, 10], [0, 1, 4]] 2 3 = .errFew :=
  below_threshold_errors toyCodec _ 2 2 3 (by decide) _ (by decide)

open C02 in
example : recover toyCodec [(4 : Zq 11), 3] 2
    [[0, 2, 4], [0, 2, 4, 77], [5], [0, 0, 8], [0, 7, 10], [0, 1, 4]] 2 3 ≠ .ok [4] :=
  below_threshold_never_ok toyCodec _ 2 2 3 (by decide) _ (by decide) _

open C02 in
/-- the input of the defect repaired by /repo 3cdfff8 (three coefficients, `t = 2`, two true shares):
refused; interpolating the two shares gives `[4]`, which does not verify under the group key `4` -/
example : recover toyCodec [(4 : Zq 11), 3, 1] 2 [[0, 0, 5], [0, 1, 6]] 2 3 = .errThreshold
    ∧ blsVerifyR toyCodec (4 : Zq 11) 2 [4] = .errInvalid := by decide

open C02 in
/-- `padding_irrelevant`: junk added in front, in the middle and behind, one entry repeated -/
example : recover toyCodec [(4 : Zq 11), 3] 2 [[0, 2, 4], [0, 0, 3]] 2 3
    = recover toyCodec [(4 : Zq 11), 3] 2 [[9], [0, 2, 4], [0, 0, 8], [0, 0, 3], [0, 2, 4], [0, 7, 10]] 2 3 :=
  padding_irrelevant toyCodec [(4 : Zq 11), 3] 2 2 3 (by decide) (C09.zq_charGt 11 3 (by decide)) _ _
    (by
      intro e he
      simp only [List.mem_cons, List.not_mem_nil, or_false]
      constructor
      · rintro (rfl | rfl) <;> simp
      -- the entries of the padded list in turn: a valid share, or junk (`he` refuted by evaluation)
      · rintro (rfl | rfl | rfl | rfl | rfl | rfl)
        · exact absurd (by decide) he   -- `[9]`
        · exact Or.inl rfl
        · exact absurd (by decide) he   -- member 0 with a wrong value
        · exact Or.inr rfl
        · exact Or.inl rfl
        · exact absurd (by decide) he)  -- index 7 ≥ n

open C02 in
/-- `oversize_member_share_never_counts`: member 65538 (labelled 2; `f(65539) = 4 ≠ 2 = f(3)` mod 11) -/
example : validIdx toyCodec [(4 : Zq 11), 3] 2 3 (tblsSign toyCodec [(4 : Zq 11), 3] 2 65538) = none :=
  oversize_member_share_never_counts toyCodec toyCodec_roundtrip [(4 : Zq 11), 3] 2
    (Zq.smul_eq_zero_imp (by decide)) 3 65538 (by decide)

open C02 in
/-- `other_message_never_counts`: member 2's share on the message point 3 offered for message
point 2 -/
example : validIdx toyCodec [(4 : Zq 11), 3] 2 3 [0, 2, 6] = none :=
  other_message_never_counts toyCodec [(4 : Zq 11), 3] 2 3 3 [0, 2, 6] 2 (by decide) (by decide)
    (by decide) (by decide)

open C02 in
/-- `foreign_polynomial_never_counts`: member 1's share under `g = 5 + 3x` -/
example : validIdx toyCodec [(4 : Zq 11), 3] 2 3 [0, 1, 0] = none :=
  foreign_polynomial_never_counts toyCodec [(4 : Zq 11), 3] [(5 : Zq 11), 3] 2
    (Zq.smul_eq_zero_imp (by decide)) 3 [0, 1, 0] 1
    (by decide) (by decide) (by decide)

open C02 in
example : blsVerifyR toyCodec (4 : Zq 11) 2 (blsSign toyCodec (4 : Zq 11) 2) = .ok :=
  (recover_ok_verifies toyCodec toyCodec_roundtrip [(4 : Zq 11), 3] 2 2 3 (by decide)
    (C09.zq_charGt 11 3 (by decide))
    _ _ toy_recover).2.2

open C02 in
example : validIdx toyCodec [(4 : Zq 11), 3] 2 3 [0, 1, 4] = none :=
  other_index_never_counts toyCodec [(4 : Zq 11), 3] 2
    (Zq.smul_eq_zero_imp (by decide)) 3 [0, 1, 4] 2 1 (by decide)
    (by decide) (by decide)

end Dos.Props.C03
