/-
C08 — a dealt share can be opened only by its addressee and only unmodified; an opened deal
is approved only if its share is the committed polynomial at the recipient's own index.

Theorems about the executable model `Model/VssSym.lean` (symbolic cryptography: ideal
signatures, AEAD, KDF and hashes – DESIGN §4/§5; what is assumed is that the real Schnorr,
HKDF, AES-GCM, SHA-256 behave like these free constructors) for EVERY field `F`, `F`-module `G`
with base point `g ≠ 0`, every key, member list, index, threshold, polynomial and every
encrypted-deal term `e`.  Helper lemmas: `Proofs/VssSym.lean`.
The numbers in the docstrings are the two theorems DESIGN §6 C08 lists (1 `open_only_addressee`,
2 `approve_iff`); letters and primes mark the parts into which each is split here.
-/
import DosModel.Gen.VssFacts
import DosModel.Proofs.VssSym
import DosModel.Proofs.VssKnows
import DosModel.Proofs.VssAgg
import Mathlib.Algebra.Order.Field.Rat

namespace Dos.Props.C08
open Dos Dos.Vss

variable {F G : Type} [Field F] [AddCommGroup G] [Module F G] [DecidableEq F] [DecidableEq G]

/-- regenerated fact (`go/extract/vssfacts` → `Gen/VssFacts.lean`, on every check run): the ordered statement
skeletons – every check, what it returns, every call – of `Verifier.decryptDeal` (signature verified over the
RECEIVED bytes `e.DHKey` before they are unmarshalled; the context in the KDF and as associated data),
`Verifier.ProcessEncryptedDeal`, `aggregator.VerifyDeal` (`validT` against `a.verifiers`, session-id comparison,
index bound, share check), `validT` and `sessionID` are the ones `Model/VssSym.lean` (`decryptDeal`,
`processEncryptedDeal`, `verifyDeal`, `validT`, `Sid.h`) transcribes. A change to any of them must be re-modelled. -/
theorem c08_code_shape :
    Gen.VssFacts.decryptDeal = [
      "0| func decryptDeal(e *EncryptedDeal) (*Deal, error)",
      "1| if e == nil",
      "2| return nil, errors.New(\"vss: no encrypted deal\")",
      "1| if err := schnorr.Verify(v.suite, v.dealer, e.DHKey, e.Signature); err != nil",
      "2| return nil, err",
      "1| dhKey := v.suite.Point()",
      "1| if err := dhKey.UnmarshalBinary(e.DHKey); err != nil",
      "2| return nil, err",
      "1| pre := dhExchange(v.suite, v.longterm, dhKey)",
      "1| gcm, err := newAEAD(v.suite.Hash, pre, v.hkdfContext)",
      "1| if err != nil",
      "2| return nil, err",
      "1| if len(e.Nonce) != gcm.NonceSize()",
      "2| return nil, errors.New(\"vss: wrong nonce length in encrypted deal\")",
      "1| decrypted, err := gcm.Open(nil, e.Nonce, e.Cipher, v.hkdfContext)",
      "1| if err != nil",
      "2| return nil, err",
      "1| deal := &Deal{}",
      "1| err = deal.UnmarshalBinary(v.suite, decrypted)",
      "1| return deal, err"] ∧
    Gen.VssFacts.processEncryptedDeal = [
      "0| func ProcessEncryptedDeal(e *EncryptedDeal) (*Response, error)",
      "1| d, err := v.decryptDeal(e)",
      "1| if err != nil",
      "2| return nil, err",
      "1| if d.SecShare == nil || d.SecShare.V == nil",
      "2| return nil, errors.New(\"vss: deal without a share\")",
      "1| if d.SecShare.I != v.index",
      "2| return nil, errors.New(\"vss: verifier got wrong index from deal\")",
      "1| t := int(d.T)",
      "1| sid, err := sessionID(v.suite, v.dealer, v.verifiers, d.Commitments, t)",
      "1| if err != nil",
      "2| return nil, err",
      "1| if v.aggregator == nil",
      "2| v.aggregator = newAggregator(v.suite, v.dealer, v.verifiers, d.Commitments, t, d.SessionID)",
      "1| r := &Response{ SessionID: sid, Index: uint32(v.index), Status: StatusApproval, }",
      "1| if err = v.VerifyDeal(d, true); err != nil",
      "2| r.Status = StatusComplaint",
      "1| if err == errDealAlreadyProcessed",
      "2| return nil, err",
      "1| if r.Signature, err = schnorr.Sign(v.suite, v.longterm, r.Hash(v.suite)); err != nil",
      "2| return nil, err",
      "1| if err = v.aggregator.addResponse(r); err != nil",
      "2| return nil, err",
      "1| v.approved = r.Status == StatusApproval",
      "1| return r, nil"] ∧
    Gen.VssFacts.verifyDeal = [
      "0| func VerifyDeal(d *Deal, inclusion bool) error",
      "1| if d == nil || d.SecShare == nil || d.SecShare.V == nil",
      "2| return errors.New(\"vss: deal without a share value\")",
      "1| if a.deal != nil && inclusion",
      "2| return errDealAlreadyProcessed",
      "1| if a.deal == nil",
      "2| a.commits = d.Commitments",
      "2| a.sid = d.SessionID",
      "2| a.deal = d",
      "1| if !validT(int(d.T), a.verifiers)",
      "2| return errors.New(\"vss: invalid t received in Deal\")",
      "1| if !bytes.Equal(a.sid, d.SessionID)",
      "2| return errors.New(\"vss: find different sessionIDs from Deal\")",
      "1| sid, err := sessionID(a.suite, a.dealer, a.verifiers, d.Commitments, int(d.T))",
      "1| if err != nil",
      "2| return err",
      "1| if !bytes.Equal(sid, d.SessionID)",
      "2| return errors.New(\"vss: session id of the deal does not match its dealer, verifiers, commitments and threshold\")",
      "1| fi := d.SecShare",
      "1| if fi.I < 0 || fi.I >= len(a.verifiers)",
      "2| return errors.New(\"vss: index out of bounds in Deal\")",
      "1| fig := a.suite.Point().Base().Mul(fi.V, nil)",
      "1| commitPoly := share.NewPubPoly(a.suite, nil, d.Commitments)",
      "1| pubShare := commitPoly.Eval(fi.I)",
      "1| if !fig.Equal(pubShare.V)",
      "2| return errors.New(\"vss: share does not verify against commitments in Deal\")",
      "1| return nil"] ∧
    Gen.VssFacts.validT = [
      "0| func validT(t int, verifiers []kyber.Point) bool",
      "1| return t >= 2 && t <= len(verifiers) && int(uint32(t)) == t"] ∧
    Gen.VssFacts.sessionID = [
      "0| func sessionID(suite suites.Suite, dealer kyber.Point, verifiers, commitments []kyber.Point, t int) ([]byte, error)",
      "1| h := suite.Hash()",
      "1| _, _ = dealer.MarshalTo(h)",
      "1| for _, v := range verifiers",
      "2| _, _ = v.MarshalTo(h)",
      "1| for _, c := range commitments",
      "2| _, _ = c.MarshalTo(h)",
      "1| _ = binary.Write(h, binary.LittleEndian, uint32(t))",
      "1| return h.Sum(nil), nil"] ∧
    Gen.VssFacts.dhExchange = [
      "0| func dhExchange(suite suites.Suite, ownPrivate kyber.Scalar, remotePublic kyber.Point) kyber.Point",
      "1| sk := suite.Point()",
      "1| sk.Mul(ownPrivate, remotePublic)",
      "1| return sk"] ∧
    Gen.VssFacts.newAEAD = [
      "0| func newAEAD(fn func() hash.Hash, preSharedKey kyber.Point, context []byte) (cipher.AEAD, error)",
      "1| preBuff, _ := preSharedKey.MarshalBinary()",
      "1| reader := hkdf.New(fn, preBuff, nil, context)",
      "1| sharedKey := make([]byte, sharedKeyLength)",
      "1| if _, err := reader.Read(sharedKey); err != nil",
      "2| return nil, err",
      "1| block, err := aes.NewCipher(sharedKey)",
      "1| if err != nil",
      "2| return nil, err",
      "1| gcm, err := cipher.NewGCM(block)",
      "1| if err != nil",
      "2| return nil, err",
      "1| return gcm, nil"] ∧
    Gen.VssFacts.hkdfContext = [
      "0| func context(suite suites.Suite, dealer kyber.Point, verifiers []kyber.Point) []byte",
      "1| h := suite.Hash()",
      "1| _, _ = h.Write([]byte(\"vss-dealer\"))",
      "1| _, _ = dealer.MarshalTo(h)",
      "1| _, _ = h.Write([]byte(\"vss-verifiers\"))",
      "1| for _, v := range verifiers",
      "2| _, _ = v.MarshalTo(h)",
      "1| return h.Sum(nil)"] ∧
    Gen.VssFacts.encryptedDeal = [
      "0| func EncryptedDeal(i int) (*EncryptedDeal, error)",
      "1| vPub, ok := findPub(d.verifiers, uint32(i))",
      "1| if !ok",
      "2| return nil, errors.New(\"dealer: wrong index to generate encrypted deal\")",
      "1| dhSecret := d.suite.Scalar().Pick(d.suite.RandomStream())",
      "1| dhPublic := d.suite.Point().Mul(dhSecret, nil)",
      "1| dhPublicBuff, _ := dhPublic.MarshalBinary()",
      "1| signature, err := schnorr.Sign(d.suite, d.long, dhPublicBuff)",
      "1| if err != nil",
      "2| return nil, err",
      "1| pre := dhExchange(d.suite, dhSecret, vPub)",
      "1| gcm, err := newAEAD(d.suite.Hash, pre, d.hkdfContext)",
      "1| if err != nil",
      "2| return nil, err",
      "1| nonce := make([]byte, gcm.NonceSize())",
      "1| dealBuff, err := d.deals[i].MarshalBinary()",
      "1| if err != nil",
      "2| return nil, err",
      "1| encrypted := gcm.Seal(nil, nonce, dealBuff, d.hkdfContext)",
      "1| dhBytes, _ := dhPublic.MarshalBinary()",
      "1| return &EncryptedDeal{ DHKey: dhBytes, Signature: signature, Nonce: nonce, Cipher: encrypted, }, nil"] ∧
    Gen.VssFacts.newDealer = [
      "0| func NewDealer(suite suites.Suite, longterm, secret kyber.Scalar, verifiers []kyber.Point, t int) (*Dealer, error)",
      "1| d := &Dealer{ suite: suite, long: longterm, secret: secret, verifiers: verifiers, }",
      "1| if !validT(t, verifiers)",
      "2| return nil, fmt.Errorf(\"dealer: t %d invalid\", t)",
      "1| d.t = t",
      "1| f := share.NewPriPoly(d.suite, d.t, d.secret, suite.RandomStream())",
      "1| d.pub = d.suite.Point().Mul(d.long, nil)",
      "1| F := f.Commit(d.suite.Point().Base())",
      "1| _, d.secretCommits = F.Info()",
      "1| var err error",
      "1| d.sessionID, err = sessionID(d.suite, d.pub, d.verifiers, d.secretCommits, d.t)",
      "1| if err != nil",
      "2| return nil, err",
      "1| d.aggregator = newAggregator(d.suite, d.pub, d.verifiers, d.secretCommits, d.t, d.sessionID)",
      "1| d.deals = make([]*Deal, len(d.verifiers))",
      "1| for i := range d.verifiers",
      "2| fi := f.Eval(i)",
      "2| d.deals[i] = &Deal{ SessionID: d.sessionID, SecShare: fi, Commitments: d.secretCommits, T: uint32(d.t), }",
      "1| d.hkdfContext = context(suite, d.pub, verifiers)",
      "1| d.secretPoly = f",
      "1| return d, nil"] ∧
    Gen.VssFacts.newVerifier = [
      "0| func NewVerifier(suite suites.Suite, longterm kyber.Scalar, dealerKey kyber.Point, verifiers []kyber.Point) (*Verifier, error)",
      "1| pub := suite.Point().Mul(longterm, nil)",
      "1| var ok bool",
      "1| var index int",
      "1| for i, v := range verifiers",
      "2| if v.Equal(pub)",
      "3| ok = true",
      "3| index = i",
      "3| break",
      "1| if !ok",
      "2| return nil, errors.New(\"vss: public key not found in the list of verifiers\")",
      "1| v := &Verifier{ suite: suite, longterm: longterm, dealer: dealerKey, verifiers: verifiers, pub: pub, index: index, hkdfContext: context(suite, dealerKey, verifiers), }",
      "1| return v, nil"] ∧
    Gen.VssFacts.findPub = [
      "0| func findPub(verifiers []kyber.Point, idx uint32) (kyber.Point, bool)",
      "1| iidx := int(idx)",
      "1| if iidx >= len(verifiers)",
      "2| return nil, false",
      "1| return verifiers[iidx], true"] :=
  ⟨rfl, rfl, rfl, rfl, rfl, rfl, rfl, rfl, rfl, rfl, rfl, rfl⟩


/-- **1a. What opens.**  `decryptDeal` succeeds on `e` with deal `d` iff the DH bytes are signed
under the verifier's dealer key, decode to a point `X`, the nonce has the AEAD size and the
ciphertext is the sealing of `d` under `kdf(long • X, ctx(dealer, members))` with that context as
associated data.  Nothing else opens: any other term in any field is an error. -/
theorem open_sound (g : G) (v : Verifier F G) (e : EncDeal F G) (d : Deal F G) :
    decryptDeal g v e = .ok d ↔
      (∃ sk rnd, e.sig = .sign sk e.dh rnd ∧ sk • g = v.dealer) ∧
      ∃ X, e.dh.parse = some X ∧ e.nonce.length = nonceSize ∧
        e.cipher = .seal ⟨v.long • X, v.ctx⟩ e.nonce v.ctx (.deal d) :=
  decryptDeal_ok_iff g v e d

/-- **1b. Only the addressee, only unmodified.**  Let `e0` be what the dealer `dlong` produced for
member `i` of list `L` (ephemeral secret `eph ≠ 0`, any plaintext `pt0`).  Whatever else an
encrypted deal `e` contains, if it carries `e0`'s ciphertext and a verifier `v` opens it, then
`v` was constructed for this dealer and this member list, the plaintext and the nonce are the
dealer's, the signature is one of this dealer's key over the presented DH bytes, the derived
key equation holds, and – when the DH bytes are the dealer's too – `v`'s own key is `L[i]`. -/
theorem open_only_addressee (g : G) (hg : g ≠ 0) (dlong eph : F) (heph : eph ≠ 0) (L : List G) (i rnd : Nat)
    (pt0 : Plain F G) (e0 : EncDeal F G) (h0 : sealDeal g dlong L i eph rnd pt0 = some e0)
    (v : Verifier F G) (e : EncDeal F G) (d : Deal F G)
    (hc : e.cipher = e0.cipher) (hok : decryptDeal g v e = .ok d) :
    v.dealer = dlong • g ∧ v.vs = L ∧ pt0 = .deal d ∧ e.nonce = e0.nonce ∧
    (∃ rnd', e.sig = .sign dlong e.dh rnd') ∧
    (∃ X vpub, L[i]? = some vpub ∧ e.dh.parse = some X ∧ v.long • X = eph • vpub) ∧
    (e.dh = e0.dh → L[i]? = some (v.long • g)) := by
  obtain ⟨⟨sk, rnd', hsig, hsk⟩, X, hX, _, hcip⟩ := (decryptDeal_ok_iff g v e d).1 hok
  obtain ⟨vpub, hL, rfl⟩ := sealDeal_eq_some h0
  rw [hcip] at hc
  simp only [Cipher.seal.injEq, Key.mk.injEq, Verifier.ctx, Ctx.mk.injEq] at hc
  obtain ⟨⟨hkey, hd1, hv1⟩, hn, _, hpt⟩ := hc
  have hdl : sk = dlong := smul_base_inj hg (by rw [hsk, hd1])
  refine ⟨hd1, hv1, hpt.symm, hn, ⟨rnd', by rw [hsig, hdl]⟩, ⟨X, vpub, hL, hX, hkey⟩, ?_⟩
  intro hdh
  rw [hdh] at hX
  cases hX
  have h2 : eph • (v.long • g) = eph • vpub := by rw [smul_comm]; exact hkey
  have h3 : v.long • g = vpub := by
    have := congrArg (fun p => eph⁻¹ • p) h2
    simpa [smul_smul, ← mul_assoc, inv_mul_cancel₀ heph] using this
  rw [hL, h3]

/-- **1c. The addressee does open it** (so 1b is not vacuous): the verifier built for this dealer,
this list and holding the key `L[i]` recovers exactly the sealed deal. -/
theorem addressee_opens (g : G) (dlong eph : F) (L : List G) (i rnd : Nat) (d0 : Deal F G)
    (e0 : EncDeal F G) (h0 : sealDeal g dlong L i eph rnd (.deal d0) = some e0)
    (v : Verifier F G) (hdl : v.dealer = dlong • g) (hl : v.vs = L) (hk : L[i]? = some (v.long • g)) :
    decryptDeal g v e0 = .ok d0 :=
  decrypt_addressee g dlong eph L i rnd d0 e0 h0 v hdl hl hk

/-- **1d. Rejected before any share is accepted.**  Whenever decryption fails,
`ProcessEncryptedDeal` returns that error and leaves the verifier exactly as it was: no
aggregator, no stored deal, no response – `VerifyDeal` is never reached. -/
theorem rejected_before_verify (g : G) (v : Verifier F G) (e : EncDeal F G) (rnd : Nat)
    (h : ∀ d, decryptDeal g v e ≠ .ok d) :
    ∃ err, processEncryptedDeal g v e rnd = (v, .error err) := by
  rcases hd : decryptDeal g v e with err | d
  · exact ⟨err, process_decrypt_error g v e rnd err hd⟩
  · exact absurd hd (h d)

/-- **1e. Every cross-wiring and every single-field substitution is rejected.**  With `e0` the
dealer's deal for member `i` as in 1b, presenting it (or any `e` built from its DH bytes and
ciphertext) fails – before `VerifyDeal` – as soon as ONE of the following holds: the opener is
another member, believes in another dealer, has another member list, the nonce was changed, the
DH bytes were changed under the original signature, the signature is not one of the dealer's
key on these DH bytes, or the ciphertext is not a sealing at all.
Read exactly: "signature changed" means the `Signature` field is NOT a signature term of the dealer's key on the
presented DH bytes – another signature OF THE DEALER on the same bytes (other randomness) is not a modification
in this model and is accepted; that nobody else can produce one is the unforgeability assumption.  "Ciphertext
changed" here is `junk` only; every other term is `cipher_not_under_deal_key_rejected` (1e′), two mixed deals
`swapped_cipher_rejected_eph` (1f′). -/
theorem substitution_rejected (g : G) (hg : g ≠ 0) (dlong eph : F) (heph : eph ≠ 0) (L : List G) (i rnd : Nat)
    (pt0 : Plain F G) (e0 : EncDeal F G) (h0 : sealDeal g dlong L i eph rnd pt0 = some e0)
    (v : Verifier F G) (e : EncDeal F G) (rnd' : Nat)
    (hbad :
      (e.dh = e0.dh ∧ e.cipher = e0.cipher ∧ L[i]? ≠ some (v.long • g)) ∨      -- other recipient
      (e.cipher = e0.cipher ∧ v.dealer ≠ dlong • g) ∨                          -- other dealer
      (e.cipher = e0.cipher ∧ v.vs ≠ L) ∨                                      -- other member list
      (e.cipher = e0.cipher ∧ e.nonce ≠ e0.nonce) ∨                            -- nonce changed
      (e.sig = e0.sig ∧ e.dh ≠ e0.dh) ∨                                        -- DH key changed
      (v.dealer = dlong • g ∧ ∀ r, e.sig ≠ .sign dlong e.dh r) ∨               -- signature changed
      (∃ id, e.cipher = .junk id)) :                                            -- ciphertext changed
    ∃ err, processEncryptedDeal g v e rnd' = (v, .error err) := by
  apply rejected_before_verify
  intro d hok
  have hopen := fun hc => open_only_addressee g hg dlong eph heph L i rnd pt0 e0 h0 v e d hc hok
  rcases hbad with ⟨h1, h2, h3⟩ | ⟨h1, h2⟩ | ⟨h1, h2⟩ | ⟨h1, h2⟩ | ⟨h1, h2⟩ | ⟨h1, h2⟩ | ⟨id, h1⟩
  · exact h3 ((hopen h2).2.2.2.2.2.2 h1)
  · exact h2 (hopen h1).1
  · exact h2 (hopen h1).2.1
  · exact h2 (hopen h1).2.2.2.1
  · obtain ⟨⟨sk, r, hsig, _⟩, _⟩ := (decryptDeal_ok_iff g v e d).1 hok
    obtain ⟨vpub, _, rfl⟩ := sealDeal_eq_some h0
    rw [hsig] at h1
    simp only [DhSig.sign.injEq] at h1
    exact h2 h1.2.1
  · obtain ⟨⟨sk, r, hsig, hsk⟩, _⟩ := (decryptDeal_ok_iff g v e d).1 hok
    have : sk = dlong := smul_base_inj hg (by rw [hsk, h1])
    exact h2 r (by rw [hsig, this])
  · obtain ⟨_, X, _, _, hcip⟩ := (decryptDeal_ok_iff g v e d).1 hok
    rw [h1] at hcip; cases hcip

/-- **1f. Fields of two different deals do not combine.**  Ciphertext of a second deal `e1`
(dealer `dlong1`, list `L1`, member `i1`, ephemeral `eph1`) under the DH bytes of `e0`: rejected
unless the two Diffie–Hellman values collide (`long • (eph • g) = eph1 • L1[i1]`, which for
independently drawn ephemerals is the negligible event the DH assumption excludes). -/
theorem swapped_cipher_rejected (g : G) (hg : g ≠ 0) (dlong eph dlong1 eph1 : F) (heph1 : eph1 ≠ 0)
    (L L1 : List G) (i i1 rnd rnd1 : Nat) (pt0 pt1 : Plain F G) (e0 e1 : EncDeal F G)
    (h0 : sealDeal g dlong L i eph rnd pt0 = some e0) (h1 : sealDeal g dlong1 L1 i1 eph1 rnd1 pt1 = some e1)
    (v : Verifier F G) (e : EncDeal F G) (rnd' : Nat)
    (hdh : e.dh = e0.dh) (hc : e.cipher = e1.cipher)
    (hnocoll : ∀ vpub1, L1[i1]? = some vpub1 → v.long • (eph • g) ≠ eph1 • vpub1) :
    ∃ err, processEncryptedDeal g v e rnd' = (v, .error err) := by
  apply rejected_before_verify
  intro d hok
  obtain ⟨_, _, _, _, _, ⟨X, vpub1, hL1, hX, hkey⟩, _⟩ :=
    open_only_addressee g hg dlong1 eph1 heph1 L1 i1 rnd1 pt1 e1 h1 v e d hc hok
  obtain ⟨vpub, _, rfl⟩ := sealDeal_eq_some h0
  rw [hdh] at hX
  cases hX
  exact hnocoll vpub1 hL1 hkey

/-- **1e′. A changed ciphertext – ANY term, not only garbage.**  Under the dealer's DH bytes, whatever is
presented in the `Cipher` field is rejected before `VerifyDeal` unless it is a sealing under exactly the key
of this deal, `kdf(long • (eph • g), ctx(v))`, with the presented nonce and the context as associated data.
(`substitution_rejected` covers `junk` only; a sealing under another key, nonce or context is covered here.
That the key itself is out of an outsider's reach is `share_not_derivable`.)  Conversely every ciphertext a
verifier opens under these DH bytes is such a sealing of the deal it returns. -/
theorem cipher_not_under_deal_key_rejected (g : G) (dlong eph : F) (L : List G) (i rnd : Nat)
    (pt0 : Plain F G) (e0 : EncDeal F G) (h0 : sealDeal g dlong L i eph rnd pt0 = some e0)
    (v : Verifier F G) (e : EncDeal F G) (rnd' : Nat) (hdh : e.dh = e0.dh) :
    ((∀ d, e.cipher ≠ .seal ⟨v.long • (eph • g), v.ctx⟩ e.nonce v.ctx (.deal d)) →
      ∃ err, processEncryptedDeal g v e rnd' = (v, .error err)) ∧
    (∀ d, decryptDeal g v e = .ok d → e.cipher = .seal ⟨v.long • (eph • g), v.ctx⟩ e.nonce v.ctx (.deal d)) := by
  have key : ∀ d, decryptDeal g v e = .ok d →
      e.cipher = .seal ⟨v.long • (eph • g), v.ctx⟩ e.nonce v.ctx (.deal d) := by
    intro d hok
    obtain ⟨_, X, hX, _, hcip⟩ := (decryptDeal_ok_iff g v e d).1 hok
    obtain ⟨vpub, _, rfl⟩ := sealDeal_eq_some h0
    rw [hdh] at hX
    cases hX
    exact hcip
  refine ⟨fun hne => ?_, key⟩
  apply rejected_before_verify
  intro d hok
  exact hne d (key d hok)

/-- **1f′. `swapped_cipher_rejected` with the collision stated over the two EPHEMERALS**, as its docstring
says: `v` is the addressee of `e0` (`L[i] = long • g`); the ciphertext of the second deal under the DH bytes
of the first is rejected unless `eph • L[i] = eph1 • L1[i1]` – the two Diffie–Hellman values themselves
collide.  Nothing about the opener's key is assumed beyond its being the addressee. -/
theorem swapped_cipher_rejected_eph (g : G) (hg : g ≠ 0) (dlong eph dlong1 eph1 : F) (heph1 : eph1 ≠ 0)
    (L L1 : List G) (i i1 rnd rnd1 : Nat) (pt0 pt1 : Plain F G) (e0 e1 : EncDeal F G)
    (h0 : sealDeal g dlong L i eph rnd pt0 = some e0) (h1 : sealDeal g dlong1 L1 i1 eph1 rnd1 pt1 = some e1)
    (v : Verifier F G) (e : EncDeal F G) (rnd' : Nat)
    (hdh : e.dh = e0.dh) (hc : e.cipher = e1.cipher) (haddr : L[i]? = some (v.long • g))
    (hnocoll : ∀ vpub vpub1, L[i]? = some vpub → L1[i1]? = some vpub1 → eph • vpub ≠ eph1 • vpub1) :
    ∃ err, processEncryptedDeal g v e rnd' = (v, .error err) :=
  swapped_cipher_rejected g hg dlong eph dlong1 eph1 heph1 L L1 i i1 rnd rnd1 pt0 pt1 e0 e1 h0 h1 v e rnd' hdh hc
    (fun vpub1 hv1 => by
      have := hnocoll (v.long • g) vpub1 haddr hv1
      rwa [smul_comm] at this)

/-- **2a. `approve_iff`.**  A verifier that has not yet received a deal (no aggregator) and whose
index is inside its list answers an OPENED deal `d` with an approval iff the threshold is valid
(`2 ≤ T ≤ n`), the deal's session id is the identifier of (dealer, members, commitments, T), the
share index is the verifier's own and the share lies on the committed polynomial at that index. -/
theorem approve_iff (g : G) (v : Verifier F G) (e : EncDeal F G) (rnd : Nat) (d : Deal F G)
    (hv : v.agg = none) (hidx : v.index < v.vs.length) (hd : decryptDeal g v e = .ok d) :
    (∃ v' r, processEncryptedDeal g v e rnd = (v', .ok r) ∧ r.status = true) ↔
      (validT d.t v.vs.length = true ∧ d.sid = Sid.h v.dealer v.vs d.commits d.t ∧
        ∃ val : F, d.share = some ⟨(v.index : Int), some val⟩ ∧
          val • g = pubEval (S := F) d.commits (v.index : Int)) := by
  rw [← and_assoc, and_comm (a := _ ∧ _)]
  constructor
  · rintro ⟨v', r, hp, hst⟩
    obtain ⟨d', val, st, hd', hsh, hiff, _, rfl⟩ := processEncryptedDeal_ok hv hp
    cases hd.symm.trans hd'
    obtain ⟨hT, hsid, _, _, hchk⟩ := (consistent_iff_of_share hsh).1 (hiff.1 hst)
    exact ⟨⟨val, hsh, hchk⟩, hT, hsid.symm⟩
  · rintro ⟨⟨val, hsh, hchk⟩, hT, hsid⟩
    obtain ⟨st, hiff, hp⟩ := processEncryptedDeal_fresh g v e rnd d val hv hd hsh
    exact ⟨_, _, hp.trans (if_pos hidx), hiff.2 ((consistent_iff_of_share hsh).2 ⟨hT, hsid.symm, by omega, by omega, hchk⟩)⟩

/-- **2a′. The second deal.**  `approve_iff` speaks about a verifier without aggregator.  A verifier that
already holds a deal (its aggregator stores one – which is the case after every `ProcessEncryptedDeal` that
returned a response, `first_deal_is_stored`) answers NO further encrypted deal: whatever `e` is, the result
is an error (`already`, or the decryption / share / index error that comes first), never a response, and the
verifier – stored deal, responses, `approved` flag – is exactly what it was. -/
theorem second_deal_never_answered (g : G) (v : Verifier F G) (a : Agg F G) (e : EncDeal F G) (rnd : Nat)
    (hv : v.agg = some a) (hdeal : a.deal.isSome = true) :
    ∃ err, processEncryptedDeal g v e rnd = (v, .error err) := by
  rcases hd : decryptDeal g v e with err | d
  · exact ⟨err, process_decrypt_error g v e rnd err hd⟩
  · by_cases hsh : ∃ val, d.share = some ⟨(v.index : Int), some val⟩
    · obtain ⟨val, hsh⟩ := hsh
      have hvd : verifyDeal g a d true = (a, some .already) := by simp [verifyDeal, hsh, hdeal]
      have hsame : ({ v with agg := some a } : Verifier F G) = v := by rw [← hv]
      exact ⟨.already, by simpa [processEncryptedDeal, hd, hsh, hv, hvd] using hsame⟩
    · exact processEncryptedDeal_error g v e rnd d hd fun val h => hsh ⟨val, h⟩

/-- every `ProcessEncryptedDeal` of a fresh verifier that returns a response stores the deal it opened -/
theorem first_deal_is_stored (g : G) (v v' : Verifier F G) (e : EncDeal F G) (rnd : Nat) (r : Response F G)
    (hv : v.agg = none) (h : processEncryptedDeal g v e rnd = (v', .ok r)) :
    ∃ a d, v'.agg = some a ∧ decryptDeal g v e = .ok d ∧ a.deal = some d := by
  obtain ⟨d, _, _, hd, _, _, rfl, _⟩ := processEncryptedDeal_ok hv h
  exact ⟨_, d, rfl, hd, rfl⟩

/-- **2b. Otherwise a complaint or an error – never an approval.**  In every other case
`ProcessEncryptedDeal` returns an error, or a response whose status is "complaint". -/
theorem otherwise_complaint_or_error (g : G) (v : Verifier F G) (e : EncDeal F G) (rnd : Nat) (d : Deal F G)
    (hv : v.agg = none) (hidx : v.index < v.vs.length) (hd : decryptDeal g v e = .ok d)
    (hbad : ¬ (validT d.t v.vs.length = true ∧ d.sid = Sid.h v.dealer v.vs d.commits d.t ∧
        ∃ val : F, d.share = some ⟨(v.index : Int), some val⟩ ∧
          val • g = pubEval (S := F) d.commits (v.index : Int))) :
    ∀ v' r, processEncryptedDeal g v e rnd = (v', .ok r) → r.status = false := by
  intro v' r hp
  by_contra hst
  have : r.status = true := by simpa using hst
  exact hbad ((approve_iff g v e rnd d hv hidx hd).1 ⟨v', r, hp, this⟩)

/-- **2c. With commitments `f • g` the approved share is `f(I+1)`** (`• g` injective for `g ≠ 0`):
approval ⇔ valid `T` ∧ session id bound ∧ own index ∧ `V = f(I+1)`. -/
theorem approve_iff_polynomial (g : G) (hg : g ≠ 0) (v : Verifier F G) (e : EncDeal F G) (rnd : Nat)
    (d : Deal F G) (f : List F) (hf : d.commits = commit g f)
    (hv : v.agg = none) (hidx : v.index < v.vs.length) (hd : decryptDeal g v e = .ok d) :
    (∃ v' r, processEncryptedDeal g v e rnd = (v', .ok r) ∧ r.status = true) ↔
      (validT d.t v.vs.length = true ∧ d.sid = Sid.h v.dealer v.vs d.commits d.t ∧
        d.share = some ⟨(v.index : Int), some (priEval f (v.index : Int))⟩) := by
  rw [approve_iff g v e rnd d hv hidx hd, hf]
  constructor
  · rintro ⟨hT, hsid, val, hsh, hchk⟩
    rw [(check_commit_iff hg f _ val).1 hchk] at hsh
    exact ⟨hT, hsid, hsh⟩
  · rintro ⟨hT, hsid, hsh⟩
    exact ⟨hT, hsid, _, hsh, (check_commit_iff hg f _ _).2 rfl⟩

/-- **2d. The response is bound to what was seen**: it carries the verifier's own index and the
identifier of the commitments it checked, signed with the verifier's long-term key. -/
theorem response_binds (g : G) (v : Verifier F G) (e : EncDeal F G) (rnd : Nat) (v' : Verifier F G)
    (r : Response F G) (hv : v.agg = none) (hidx : v.index < v.vs.length)
    (hp : processEncryptedDeal g v e rnd = (v', .ok r)) :
    ∃ d, decryptDeal g v e = .ok d ∧ r.index = v.index ∧ r.sid = Sid.h v.dealer v.vs d.commits d.t ∧
      r.sig = .sign v.long r.sid v.index r.status rnd := by
  obtain ⟨d, _, _, hd, _, _, _, rfl⟩ := processEncryptedDeal_ok hv hp
  exact ⟨d, hd, rfl, rfl, rfl⟩

/-! ### confidentiality: attacker knowledge (`Model/VssKnows.lean`) -/

/-- **`share_not_derivable` – "can be read only by the member it is addressed to".**  For a deal of an
honest dealer to an honest recipient, the share value – and the AEAD key – is NOT derivable (Dolev–Yao
closure `Knows`: pairing/projection, exponentiation with known secrets, HKDF and hashing forward,
sealing, opening with a known key) from everything on the wire – all public keys, the DH key, the
ciphertext – together with EVERY OTHER secret in the system (`others`: the long-term keys of all other
members, any ephemerals of the attacker's own), provided the attacker holds neither the ephemeral secret
nor the recipient's long-term key, nor the share value itself.  Idealised cryptography: names are
unguessable, the discrete logarithm, HKDF and the AEAD cannot be inverted. -/
theorem share_not_derivable (s : Knows.Scene) (he : s.eph ∉ s.others) (hl : s.long ∉ s.others)
    (hv : s.v ∉ s.others) (hne : s.eph ≠ s.long) :
    ¬ Knows.Knows s.wire (.name s.v) ∧ ¬ Knows.Knows s.wire s.key :=
  ⟨fun h => hv (Knows.knows_good s he hl hne h), fun h => Knows.key_not_good s (Knows.knows_good s he hl hne h)⟩

/-- the closure is not empty-handed: the ADDRESSEE (the wire plus its own long-term key) derives the share … -/
theorem addressee_derives_share (s : Knows.Scene) :
    Knows.Knows (fun t => s.wire t ∨ t = .name s.long) (.name s.v) := by
  -- the long `Or` terms pick a component of `Scene.wire`: here the DH key, below the ciphertext
  have hdh : Knows.Knows (fun t => s.wire t ∨ t = .name s.long) (.pt [s.eph]) :=
    .init (Or.inl (Or.inr (Or.inr (Or.inr (Or.inr (Or.inl rfl))))))
  have hk : Knows.Knows (fun t => s.wire t ∨ t = .name s.long) s.key :=
    .kdf s.ctx (.perm (.exp (.init (Or.inr rfl)) hdh) (List.Perm.swap _ _ _))
  exact .open_ (.init (Or.inl (Or.inr (Or.inr (Or.inr (Or.inr (Or.inr rfl))))))) hk

/-- … and so does anybody once the ephemeral secret is on the wire (e.g. an `EncryptedDeal` that
appends the ephemeral secret to `DHKey`): the hypothesis `eph ∉ others` of `share_not_derivable` is what the
field-length and observer oracles of go/props/c08 watch on the real code. -/
theorem leaked_ephemeral_reveals_share (s : Knows.Scene) :
    Knows.Knows (fun t => s.wire t ∨ t = .name s.eph) (.name s.v) := by
  -- components of `Scene.wire`: the recipient's public key, then the ciphertext
  have hpk : Knows.Knows (fun t => s.wire t ∨ t = .name s.eph) (.pt [s.long]) :=
    .init (Or.inl (Or.inr (Or.inr (Or.inr (Or.inl rfl)))))
  have hk : Knows.Knows (fun t => s.wire t ∨ t = .name s.eph) s.key :=
    .kdf s.ctx (.exp (.init (Or.inr rfl)) hpk)
  exact .open_ (.init (Or.inl (Or.inr (Or.inr (Or.inr (Or.inr (Or.inr rfl))))))) hk

/-- the hypotheses of `share_not_derivable` hold on a concrete scene: members 1..3 (recipient 2), dealer 10,
ephemeral 20, share value 30; the attacker holds members 1 and 3 and an ephemeral 21 of its own -/
example : let s : Knows.Scene := ⟨10, 2, 20, 30, 0, [1, 3, 21], [1, 2, 3]⟩
    s.eph ∉ s.others ∧ s.long ∉ s.others ∧ s.v ∉ s.others ∧ s.eph ≠ s.long := by decide

/-! ### non-vacuity: a concrete dealer, list and verifier over ℚ (`g = 1`) -/

section Examples
/-- members' keys 5, 7, 9 (`g = 1`), dealer key 3, polynomial `4 + 2x`, deal for member 1 -/
def exL : List ℚ := [5, 7, 9]
def exDeal : Deal ℚ ℚ := honestDeal (1 : ℚ) 3 exL [4, 2] 1
def exE0 : Option (EncDeal ℚ ℚ) := sealDeal (1 : ℚ) 3 exL 1 11 0 (.deal exDeal)
def exV (long dealer : ℚ) (l : List ℚ) : Option (Verifier ℚ ℚ) := (newVerifier (1 : ℚ) long dealer l).toOption

-- the addressee opens and approves (hypotheses of 1b, 1c, 2a, 2c hold with `d = exDeal`)
example : (do let e ← exE0; let v ← exV 7 3 exL; pure (decryptDeal 1 v e)) = some (.ok exDeal) := by
  decide +kernel
example : (do let e ← exE0; let v ← exV 7 3 exL
              pure ((processEncryptedDeal 1 v e).2.toOption.map (·.status))) = some (some true) := by
  decide +kernel
example : exDeal.share = some ⟨1, some (priEval ([4, 2] : List ℚ) 1)⟩ ∧ validT exDeal.t 3 = true := by
  decide +kernel
-- another member, another dealer, another list, a changed nonce: all errors (hypotheses of 1e)
example : (do let e ← exE0; let v ← exV 5 3 exL; pure (decryptDeal 1 v e)) = some (.error .open_) := by
  decide +kernel
example : (do let e ← exE0; let v ← exV 7 4 exL; pure (decryptDeal 1 v e)) = some (.error .sig) := by
  decide +kernel
example : (do let e ← exE0; let v ← exV 7 3 [5, 7, 10]; pure (decryptDeal 1 v e)) = some (.error .open_) := by
  decide +kernel
example : (do let e ← exE0; let v ← exV 7 3 exL
              pure (decryptDeal 1 v { e with nonce := 1 :: e.nonce.drop 1 })) = some (.error .open_) := by
  decide +kernel
-- a bad share is answered with a complaint (hypothesis of 2b)
example : (do let e ← sealDeal (1 : ℚ) 3 exL 1 11 0 (.deal { exDeal with share := some ⟨1, some (9 : ℚ)⟩ })
              let v ← exV 7 3 exL
              pure ((processEncryptedDeal 1 v e).2.toOption.map (·.status))) = some (some false) := by
  decide +kernel
-- 2a′: the verifier that approved `exE0` answers neither the same deal nor a second deal of the dealer again
example : (do let e ← exE0; let v ← exV 7 3 exL
              let v1 := (processEncryptedDeal 1 v e).1
              let e2 ← sealDeal (1 : ℚ) 3 exL 1 12 0 (.deal exDeal)
              pure ((v1.agg.bind (·.deal)).isSome, (processEncryptedDeal 1 v1 e).2.toOption.isNone,
                    (processEncryptedDeal 1 v1 e2).2.toOption.isNone, (processEncryptedDeal 1 v1 e2).1 == v1)) =
    some (true, true, true, true) := by
  decide +kernel
-- 1e′: a sealing of ANOTHER plaintext under another key, with the right nonce and context, is rejected
example : (do let e ← exE0; let v ← exV 7 3 exL
              let e' : EncDeal ℚ ℚ := { e with cipher := .seal ⟨99, v.ctx⟩ e.nonce v.ctx (.deal exDeal) }
              pure (decryptDeal 1 v e')) = some (.error .open_) := by
  decide +kernel
end Examples

end Dos.Props.C08
