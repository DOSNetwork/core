/-
C10 — THOROUGH-ONLY kernel evaluations (meta "props_modules_thorough"): bilinearity of the implemented
pairing on the subgroups generated by the generators, for a few scalar pairs. These are TESTS — finitely many
instances evaluated by the Lean kernel through the transcribed Miller loop and final exponentiation on the
regenerated constants — NOT a proof of bilinearity (which stays in meta "partial"); they complement the
differential run (bn256/google, precompile 0x08) with instances whose evaluation is kernel-checked (on residues:
`val12_eq_of_res`, Proofs/Bn256Residue.lean).
-/
import DosModel.Proofs.Bn256Residue
import DosModel.Proofs.Bn256MillerNatural

namespace Dos.Props.C10PairingTests
open Dos Dos.Bn256

/-- TEST: e(2·G1, 3·G2) = e(G1,G2)⁶, e(5·G1, 7·G2) = e(G1,G2)³⁵, e((r−1)·G1, G2) = conj e(G1,G2) (the inverse),
e(G1, 2·G2) = e(2·G1, G2) -/
theorem pairing_bilinearity_tests :
    optimalAte (Jac.twistMul twistGen 3) (Jac.curveMul curveGen 2) = Fp12.exp gfP12Gen 6 ∧
    optimalAte (Jac.twistMul twistGen 7) (Jac.curveMul curveGen 5) = Fp12.exp gfP12Gen 35 ∧
    optimalAte twistGen (Jac.curveMul curveGen (Gen.Bn256.Order - 1)) = Fp12.conjugate gfP12Gen ∧
    optimalAte (Jac.twistMul twistGen 2) curveGen = optimalAte twistGen (Jac.curveMul curveGen 2) := by
  rw [← twistGenR_val, ← curveGenR_val, ← gfP12GenR_val]
  simp only [twistMul_val, curveMul_val, MillerNat.optimalAte_val, exp_val, conjugate_val]
  refine ⟨val12_eq_of_res ?_, val12_eq_of_res ?_, val12_eq_of_res ?_, val12_eq_of_res ?_⟩ <;>
    simp only [MillerNat.map_optimalAte resHom, Jac.map_twistMul (Fp2.mapHom resHom), Jac.map_curveMul resHom,
      Fp12.map_exp resHom, Fp12.map_conjugate resHom] <;>
    decide +kernel

end Dos.Props.C10PairingTests
