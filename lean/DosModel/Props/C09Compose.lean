/-
C09 composed with Primes — the `[Fact q.Prime]` hypothesis of the `*_driver` theorems of
`Props/C09.lean` CLOSED for the two group orders the code uses.

`Share.bn256Order` / `Share.ed25519Order` are the constants regenerated from /repo on every run
(`Gen/TblsFacts.lean`; `c09_code_facts` pins them to the alt_bn128 / ed25519 values) and the moduli the
driver `drv_c09` computes with.  `Proofs/Primes.lean` proves both prime (Pratt certificates, kernel
evaluated), so `Zq r`, `Zq ℓ` ARE fields and the theorems below have no primality assumption left.
Remaining hypotheses are the ones of the generic theorems: `n` below the order, the usable entries are
true shares, at least `t` of them, distinct indices.
Also closed: the hypothesis `hb` of `check_iff` ("no non-zero scalar annihilates the base") for the
driver's discrete-log points — it holds for every `b ≠ 0`.
-/
import DosModel.Props.C09
import DosModel.Proofs.ComposePrimes


namespace Dos.Props.C09Compose
open Dos Dos.Share Dos.Compose

/-- the two orders are prime — for the regenerated constants themselves -/
theorem orders_prime : Nat.Prime Share.bn256Order ∧ Nat.Prime Share.ed25519Order :=
  ⟨bn256Order_prime, ed25519Order_prime⟩

/-- `1 … n` are invertible modulo the bn256 order for every `n` below it (in particular every Go `int`
share count `< 2^63`) -/
theorem charGt_bn256 (n : Nat) (hn : n < Share.bn256Order) : CharGt (Zq Share.bn256Order) n :=
  Props.C09.zq_charGt Share.bn256Order n hn

theorem charGt_ed25519 (n : Nat) (hn : n < Share.ed25519Order) : CharGt (Zq Share.ed25519Order) n :=
  Props.C09.zq_charGt Share.ed25519Order n hn

/-- every slice length a Go program can build is below both orders -/
theorem go_int_below_orders (n : Nat) (hn : n < 2 ^ 63) :
    n < Share.bn256Order ∧ n < Share.ed25519Order :=
  ⟨Nat.lt_trans hn (by decide), Nat.lt_trans hn (by decide)⟩

/-- **RecoverSecret on the bn256 scalars**, no primality assumption -/
theorem recoverSecret_correct_bn256 (dp : Bool) (f : List (Zq Share.bn256Order)) (t n : Nat)
    (ht : 0 < t) (hf : f.length ≤ t) (hn : n < 2 ^ 63)
    (shares : List (Option (PriShare (Zq Share.bn256Order))))
    (hval : ∀ iv ∈ shares.filterMap (usablePri n), iv.2 = priEval f iv.1)
    (hcnt : t ≤ (idxPri n shares).card) :
    recoverSecret dp shares t n = .ok (f.headD 0) :=
  Props.C09.recoverSecret_correct_driver Share.bn256Order dp f t n ht hf (go_int_below_orders n hn).1
    shares hval hcnt

/-- **RecoverSecret on the ed25519 scalars** -/
theorem recoverSecret_correct_ed25519 (dp : Bool) (f : List (Zq Share.ed25519Order)) (t n : Nat)
    (ht : 0 < t) (hf : f.length ≤ t) (hn : n < 2 ^ 63)
    (shares : List (Option (PriShare (Zq Share.ed25519Order))))
    (hval : ∀ iv ∈ shares.filterMap (usablePri n), iv.2 = priEval f iv.1)
    (hcnt : t ≤ (idxPri n shares).card) :
    recoverSecret dp shares t n = .ok (f.headD 0) :=
  Props.C09.recoverSecret_correct_driver Share.ed25519Order dp f t n ht hf (go_int_below_orders n hn).2
    shares hval hcnt

/-- **RecoverPriPoly** on either scalar type -/
theorem recoverPriPoly_correct_bn256 (g : Nat) (f : List (Zq Share.bn256Order)) (t n : Nat)
    (ht : 0 < t) (hf : f.length = t) (hn : n < 2 ^ 63)
    (shares : List (Option (PriShare (Zq Share.bn256Order))))
    (hval : ∀ iv ∈ shares.filterMap (usablePri n), iv.2 = priEval f iv.1)
    (hcnt : t ≤ (idxPri n shares).card) :
    recoverPriPoly g shares t n = .ok ⟨g, f⟩ :=
  Props.C09.recoverPriPoly_correct g f t n ht hf (charGt_bn256 n (go_int_below_orders n hn).1)
    shares hval hcnt

theorem recoverPriPoly_correct_ed25519 (g : Nat) (f : List (Zq Share.ed25519Order)) (t n : Nat)
    (ht : 0 < t) (hf : f.length = t) (hn : n < 2 ^ 63)
    (shares : List (Option (PriShare (Zq Share.ed25519Order))))
    (hval : ∀ iv ∈ shares.filterMap (usablePri n), iv.2 = priEval f iv.1)
    (hcnt : t ≤ (idxPri n shares).card) :
    recoverPriPoly g shares t n = .ok ⟨g, f⟩ :=
  Props.C09.recoverPriPoly_correct g f t n ht hf (charGt_ed25519 n (go_int_below_orders n hn).2)
    shares hval hcnt

/-- **RecoverCommit** in the driver's discrete-log points, bn256 order -/
theorem recoverCommit_correct_bn256 (dp : Bool) (f : List (Zq Share.bn256Order))
    (B : Zq Share.bn256Order) (t n : Nat) (hf : f.length ≤ t) (hn : n < 2 ^ 63)
    (shares : List (Option (PubShare (Zq Share.bn256Order))))
    (hval : ∀ iv ∈ shares.filterMap (usablePub n), iv.2 = priEval f iv.1 • B)
    (hcnt : t ≤ (idxPub n shares).card) :
    recoverCommit (S := Zq Share.bn256Order) dp shares t n = .ok (f.headD 0 • B) :=
  Props.C09.recoverCommit_correct_driver Share.bn256Order dp f B t n hf (go_int_below_orders n hn).1
    shares hval hcnt

theorem recoverCommit_correct_ed25519 (dp : Bool) (f : List (Zq Share.ed25519Order))
    (B : Zq Share.ed25519Order) (t n : Nat) (hf : f.length ≤ t) (hn : n < 2 ^ 63)
    (shares : List (Option (PubShare (Zq Share.ed25519Order))))
    (hval : ∀ iv ∈ shares.filterMap (usablePub n), iv.2 = priEval f iv.1 • B)
    (hcnt : t ≤ (idxPub n shares).card) :
    recoverCommit (S := Zq Share.ed25519Order) dp shares t n = .ok (f.headD 0 • B) :=
  Props.C09.recoverCommit_correct_driver Share.ed25519Order dp f B t n hf (go_int_below_orders n hn).2
    shares hval hcnt

/-- the same for an ARBITRARY module over the bn256 scalars (e.g. the real G1 once it is known to be
one): only the field side is closed here -/
theorem recoverCommit_correct_bn256_module {G : Type} [AddCommGroup G] [Module (Zq Share.bn256Order) G]
    [DecidableEq G] (dp : Bool) (f : List (Zq Share.bn256Order)) (B : G) (t n : Nat)
    (hf : f.length ≤ t) (hn : n < 2 ^ 63) (shares : List (Option (PubShare G)))
    (hval : ∀ iv ∈ shares.filterMap (usablePub n), iv.2 = priEval f iv.1 • B)
    (hcnt : t ≤ (idxPub n shares).card) :
    recoverCommit (S := Zq Share.bn256Order) dp shares t n = .ok (f.headD 0 • B) :=
  Props.C09.recoverCommit_correct dp f B t n hf (charGt_bn256 n (go_int_below_orders n hn).1)
    shares hval hcnt

/-- **no recovery panics on the real bn256 scalars** (the scalar type whose `Div` dereferences a
nil `ModInverse`): every slice, every value, every `t`, every `n` a Go `int` can hold -/
theorem recover_never_panics_bn256 (dp : Bool) (g t n : Nat) (hn : n < 2 ^ 63)
    (shares : List (Option (PriShare (Zq Share.bn256Order))))
    (pubs : List (Option (PubShare (Zq Share.bn256Order)))) (s : Site) :
    recoverSecret dp shares t n ≠ .panic s ∧ recoverPriPoly g shares t n ≠ .panic s
      ∧ recoverCommit (S := Zq Share.bn256Order) dp pubs t n ≠ .panic s :=
  Props.C09.recover_never_panics_driver Share.bn256Order dp g t n (go_int_below_orders n hn).1
    shares pubs s

/-- fewer than `t` distinct usable indices ⇒ error, bn256 scalars -/
theorem recover_too_few_bn256 (dp : Bool) (g t n : Nat)
    (shares : List (Option (PriShare (Zq Share.bn256Order)))) (hfew : (idxPri n shares).card < t) :
    recoverSecret dp shares t n = .err .few ∧ recoverPriPoly g shares t n = .err .few :=
  Props.C09.recover_too_few dp g t n shares hfew

/-- no share index evaluates at zero and distinct indices are distinct points — bn256 scalars,
every index a Go `int` can hold -/
theorem x_ne_zero_bn256 (n : Nat) (hn : n < 2 ^ 63) (i : Int) (h0 : 0 ≤ i) (hi : i < n) :
    (xOf i : Zq Share.bn256Order) ≠ 0 ∧
      ∀ j : Int, 0 ≤ j → j < n → (xOf i : Zq Share.bn256Order) = xOf j → i = j :=
  Props.C09.x_ne_zero n (charGt_bn256 n (go_int_below_orders n hn).1) i h0 hi

/-- **`check_iff` with its hypothesis `hb` discharged** for the driver's points: in the discrete-log
representation every non-zero base is annihilated by no non-zero scalar (the order is prime), so share
checking accepts exactly the true share value. -/
theorem check_iff_dlog (q : Nat) [Fact q.Prime] (p : PriPoly (Zq q)) (b : Zq q) (hb : b ≠ 0) (i : Int)
    (v : Zq q) : check (Zq q) (commit p b) i v = true ↔ v = priEval p.coeffs i :=
  Props.C09.check_iff p b (Zq.smul_eq_zero_imp hb) i v

theorem check_iff_bn256 (p : PriPoly (Zq Share.bn256Order)) (b : Zq Share.bn256Order) (hb : b ≠ 0)
    (i : Int) (v : Zq Share.bn256Order) :
    check (Zq Share.bn256Order) (commit p b) i v = true ↔ v = priEval p.coeffs i :=
  check_iff_dlog Share.bn256Order p b hb i v

/-! ### non-vacuity: a 2-of-3 sharing of the secret `r − 1` over the REAL bn256 scalar field, evaluated
by the kernel; shares of members 2 (twice) and 0 with junk in between -/

private def fr : List (Zq Share.bn256Order) := [-1, 5]

example : recoverSecret true (S := Zq Share.bn256Order)
    [some ⟨2, some (priEval fr 2)⟩, none, some ⟨2, some (priEval fr 2)⟩, some ⟨7, some 1⟩,
     some ⟨0, some (priEval fr 0)⟩] 2 3 = .ok (-1) :=
  recoverSecret_correct_bn256 true fr 2 3 (by decide) (by decide) (by decide) _
    (by decide +kernel) (by decide +kernel)

/-- the input of the defect repaired by /repo 2d8b40a on the real scalar field: `[s₂, s₂]`, `t = 2` -/
example : recoverSecret true (S := Zq Share.bn256Order)
    [some ⟨2, some (priEval fr 2)⟩, some ⟨2, some (priEval fr 2)⟩] 2 3 = .err .few :=
  (recover_too_few_bn256 true 0 2 3 _ (by decide +kernel)).1

example : recoverSecret true (S := Zq Share.bn256Order)
    [some ⟨2, some 5⟩, some ⟨2, some 6⟩, some ⟨1, some 0⟩] 2 3 ≠ .panic .div0 :=
  (recover_never_panics_bn256 true 0 2 3 (by decide) _ [] .div0).1

example : CharGt (Zq Share.ed25519Order) 1000 := charGt_ed25519 1000 (by decide)

example : check (Zq Share.bn256Order) (commit ⟨0, fr⟩ (1 : Zq Share.bn256Order)) 2 (priEval fr 2) = true :=
  (check_iff_bn256 ⟨0, fr⟩ 1 (by decide) 2 _).2 rfl

end Dos.Props.C09Compose
